import LitexModel.Bridge.Ports
import LitexModel.Mem
/-
  Specification vocabulary of C09: per-port observers ("ghosts") for the protocol rules and for the flat byte memory
  a bus master must observe, and the memory-behaved partners of arbitrary latency the bridges are composed with.
  Runs under an environment assumption are `Machine.LegalFrom`/`AlwaysFrom` of `LitexModel/Machine.lean`.

  A ghost is updated from the port signals of each cycle only (never from a bridge's internal state), so
  `…Ghost.good` is the property as a bus analyser attached to the port would check it.
-/
namespace Litex
namespace Bridge

/-! ### AXI-Lite port observer -/

/-- Observer of one AXI-Lite port.
    `held*`: a valid that was presented and not taken in the previous cycle (it must be repeated unchanged);
    `pend*`: requests accepted and not yet answered; `ref`: the reference store the master is entitled to
    (`ρ` = `Mem` for byte memories, a register map for CSR banks). -/
structure AxlGhost (ρ : Type) where
  heldAW : Option Nat
  heldW  : Option (Nat × Nat)
  heldAR : Option Nat
  heldB  : Option Nat
  heldR  : Option (Nat × Nat)
  pendAW : Option Nat
  pendW  : Option (Nat × Nat)
  pendAR : Option Nat
  ref    : ρ

/-- Read / write functions of a reference store: `rd ref addr`, `wr ref addr strb data`. -/
abbrev RdFn (ρ : Type) := ρ → Nat → Nat
abbrev WrFn (ρ : Type) := ρ → Nat → Nat → Nat → ρ

/-- Flat byte memory of `nb`-byte words; `amap` maps an AXI-Lite address to the word index. -/
def byteRd (nb : Nat) (amap : Nat → Nat) : RdFn Mem := fun m a => m.readWord nb (amap a)
def byteWr (nb : Nat) (amap : Nat → Nat) : WrFn Mem := fun m a st d => m.writeWord nb (amap a) st d

namespace AxlGhost
variable {ρ : Type}

def init (m : ρ) : AxlGhost ρ :=
  { heldAW := none, heldW := none, heldAR := none, heldB := none, heldR := none,
    pendAW := none, pendW := none, pendAR := none, ref := m }

/-- The AXI-Lite master keeps a presented AW / W / AR unchanged until it is accepted (`b.ready`/`r.ready`
    are unconstrained, and so are the relative order of AW and W and new requests while others are pending). -/
def reqHeld (g : AxlGhost ρ) (m : AxlM) : Prop :=
  (∀ a, g.heldAW = some a → m.awvalid = true ∧ m.awaddr = a) ∧
  (∀ d, g.heldW = some d → m.wvalid = true ∧ (m.wdata, m.wstrb) = d) ∧
  (∀ a, g.heldAR = some a → m.arvalid = true ∧ m.araddr = a)

/-- The AXI-Lite slave keeps a presented B / R unchanged until it is taken. -/
def rspHeld (g : AxlGhost ρ) (s : AxlS) : Prop :=
  (∀ r, g.heldB = some r → s.bvalid = true ∧ s.bresp = r) ∧
  (∀ r, g.heldR = some r → s.rvalid = true ∧ (s.rresp, s.rdata) = r)

/-- One response per request, and the data of the reference store:
    a B is only presented for an accepted AW and W, an R only for an accepted AR, with the reference content
    of the addressed word if it is OKAY; no second AW / W / AR is accepted while one is pending. -/
def memOk (rd : RdFn ρ) (g : AxlGhost ρ) (m : AxlM) (s : AxlS) : Prop :=
  (s.bvalid = true → g.pendAW.isSome ∧ g.pendW.isSome) ∧
  (s.rvalid = true → ∃ a, g.pendAR = some a ∧ (s.rresp = respOkay → s.rdata = rd g.ref a)) ∧
  (m.awvalid = true → s.awready = true → g.pendAW = none) ∧
  (m.wvalid = true → s.wready = true → g.pendW = none) ∧
  (m.arvalid = true → s.arready = true → g.pendAR = none)

/-- Update from the signals of one cycle.  The reference store takes a write at its OKAY response handshake. -/
def next (wr : WrFn ρ) (g : AxlGhost ρ) (m : AxlM) (s : AxlS) : AxlGhost ρ :=
  let bhs := s.bvalid && m.bready
  let rhs := s.rvalid && m.rready
  { heldAW := if m.awvalid && !s.awready then some m.awaddr else none
    heldW  := if m.wvalid && !s.wready then some (m.wdata, m.wstrb) else none
    heldAR := if m.arvalid && !s.arready then some m.araddr else none
    heldB  := if s.bvalid && !m.bready then some s.bresp else none
    heldR  := if s.rvalid && !m.rready then some (s.rresp, s.rdata) else none
    pendAW := if m.awvalid && s.awready then some m.awaddr else if bhs then none else g.pendAW
    pendW  := if m.wvalid && s.wready then some (m.wdata, m.wstrb) else if bhs then none else g.pendW
    pendAR := if m.arvalid && s.arready then some m.araddr else if rhs then none else g.pendAR
    ref    := if bhs && s.bresp == respOkay then
                (match g.pendAW, g.pendW with
                 | some a, some (d, st) => wr g.ref a st d
                 | _, _ => g.ref)
              else g.ref }

end AxlGhost

/-! ### Wishbone port observer -/

structure WbGhost where
  held : Option WbM      -- cyc ∧ stb presented and not acknowledged in the previous cycle
  ref  : Mem

namespace WbGhost

def init (m : Mem) : WbGhost := { held := none, ref := m }

/-- Classic Wishbone master: a presented request stays unchanged until the cycle of its `ack`. -/
def reqHeld (g : WbGhost) (m : WbM) : Prop := ∀ r, g.held = some r → m = r

/-- An acknowledge answers a presented strobe; without `err` a read returns the reference content of the
    addressed word (all lanes, hence in particular the selected ones). -/
def memOk (nb : Nat) (amap : Nat → Nat) (g : WbGhost) (m : WbM) (s : WbS) : Prop :=
  (s.ack = true → m.active = true) ∧
  (s.ack = true → s.err = false → m.we = false → s.datr = g.ref.readWord nb (amap m.adr))

def next (nb : Nat) (amap : Nat → Nat) (g : WbGhost) (m : WbM) (s : WbS) : WbGhost :=
  { held := if m.active && !s.ack then some m else none
    ref  := if m.active && s.ack && !s.err && m.we then g.ref.writeWord nb (amap m.adr) m.sel m.datw else g.ref }

end WbGhost

/-! ### Memory-behaved partners of arbitrary latency -/

/-- Free choices of the Wishbone memory partner in one cycle. -/
structure WbOracle where
  ack  : Bool     -- acknowledge a presented strobe in this cycle
  junk : Nat      -- what it drives on `dat_r` when it does not
deriving DecidableEq, Repr

/-- Wishbone byte memory (`nb`-byte words, word addressed): a presented strobe is acknowledged in a cycle the
    environment chooses; the operation takes effect in that cycle. -/
def wbMemRsp (nb : Nat) (mem : Mem) (q : WbM) (o : WbOracle) : WbS :=
  { ack := q.active && o.ack, datr := if q.active && o.ack then mem.readWord nb q.adr else o.junk, err := false }

def wbMemNext (nb : Nat) (mem : Mem) (q : WbM) (o : WbOracle) : Mem :=
  if q.active && o.ack && q.we then mem.writeWord nb q.adr q.sel q.datw else mem

/-- Free choices of the AXI-Lite memory partner in one cycle. -/
structure AxlOracle where
  awready : Bool
  wready  : Bool
  arready : Bool
  wexec   : Bool    -- perform the oldest accepted write (needs its AW and W)
  rexec   : Bool    -- perform the oldest accepted read
  bgo     : Bool    -- start presenting the oldest write response
  rgo     : Bool    -- start presenting the oldest read response
deriving DecidableEq, Repr

/-- AXI-Lite byte memory that may accept any number of requests before answering (queues), performs them in
    order at moments the environment chooses, and presents each response from a moment the environment chooses
    until it is taken.  Its outputs depend on its state and choices only (no combinational path from its
    inputs).  Word index = byte address / nb. -/
structure AxlMemState where
  mem   : Mem
  awq   : List Nat
  wq    : List (Nat × Nat)
  bq    : List Nat
  arq   : List Nat
  rq    : List (Nat × Nat)
  bheld : Bool
  rheld : Bool

namespace AxlMem

def init (m : Mem) : AxlMemState :=
  { mem := m, awq := [], wq := [], bq := [], arq := [], rq := [], bheld := false, rheld := false }

def out (s : AxlMemState) (o : AxlOracle) : AxlS :=
  { awready := o.awready, wready := o.wready, arready := o.arready
    bvalid := !s.bq.isEmpty && (s.bheld || o.bgo), bresp := s.bq.headD 0
    rvalid := !s.rq.isEmpty && (s.rheld || o.rgo), rresp := (s.rq.headD (0, 0)).1, rdata := (s.rq.headD (0, 0)).2 }

def next (nb : Nat) (s : AxlMemState) (o : AxlOracle) (q : AxlM) : AxlMemState :=
  let r := out s o
  let bq1 := if r.bvalid && q.bready then s.bq.tail else s.bq
  let rq1 := if r.rvalid && q.rready then s.rq.tail else s.rq
  let doW := o.wexec && !s.awq.isEmpty && !s.wq.isEmpty
  let doR := o.rexec && !s.arq.isEmpty
  let a := s.awq.headD 0
  let w := s.wq.headD (0, 0)
  { mem := if doW then s.mem.writeWord nb (a / nb) w.2 w.1 else s.mem
    awq := (if doW then s.awq.tail else s.awq) ++ (if q.awvalid && o.awready then [q.awaddr] else [])
    wq  := (if doW then s.wq.tail else s.wq) ++ (if q.wvalid && o.wready then [(q.wdata, q.wstrb)] else [])
    bq  := bq1 ++ (if doW then [respOkay] else [])
    arq := (if doR then s.arq.tail else s.arq) ++ (if q.arvalid && o.arready then [q.araddr] else [])
    rq  := rq1 ++ (if doR then [(respOkay, s.mem.readWord nb (s.arq.headD 0 / nb))] else [])
    bheld := r.bvalid && !q.bready
    rheld := r.rvalid && !q.rready }

end AxlMem
end Bridge
end Litex
