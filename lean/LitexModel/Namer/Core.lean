import LitexModel.Namer.Ident
/-
  C02 — model of `litex/gen/fhdl/namer.py : SignalNamespace` (the final, per-base-name numbering stage).
  `Ns`/`getName` model the method as it was before the repair of the finding C02-suffix-collision (kept as the negative
  witness and for the conservativity of the repair); `NsF`/`getNameFixed` further down model the method in the tree.

  Python (before the repair):
      self.counts = {k: 1 for k in reserved_keywords};  self.sigs = {}
      def get_name(sig):
          sig_name = sig.name_override if sig.name_override is not None else self.name_dict[sig]
          n = self.sigs.get(sig)
          if n is None:
              n = self.counts.get(sig_name, 0); self.sigs[sig] = n; self.counts[sig_name] = n + 1
          if n > 0: sig_name += f"_{n}"
          return sig_name

  A signal (also a Memory / Instance, which reach `get_name` through their `name_override`) is a `SigId`;
  its *base name* (`name_override`, else the hierarchical name of `Tree.lean`) is fixed for the lifetime of
  the namespace and given by `base : SigId → String`.
-/
namespace Litex.Namer

abbrev SigId := Nat

/-- `SignalNamespace.counts` / `.sigs`. -/
structure Ns where
  counts : String → Nat
  sigs   : SigId → Option Nat

/-- `SignalNamespace.__init__`: every reserved keyword is pre-seeded with count 1. -/
def Ns.init (kw : List String) : Ns :=
  { counts := fun b => if b ∈ kw then 1 else 0, sigs := fun _ => none }

/-- `sig_name += f"_{n}"` when `n > 0`. -/
def suffixed (base : String) (n : Nat) : String :=
  if n > 0 then base ++ "_" ++ toString n else base

/-- `SignalNamespace.get_name` for a signal `s` whose base name is `b`. -/
def getName (ns : Ns) (b : String) (s : SigId) : Ns × String :=
  match ns.sigs s with
  | some n => (ns, suffixed b n)
  | none =>
    let n := ns.counts b
    ({ counts := fun b' => if b' = b then n + 1 else ns.counts b',
       sigs   := fun t => if t = s then some n else ns.sigs t }, suffixed b n)

/-- Namespace after serving the requests `reqs` (in this order) from `ns`. -/
def runFrom (base : SigId → String) (ns : Ns) : List SigId → Ns
  | [] => ns
  | s :: rest => runFrom base (getName ns (base s) s).1 rest

/-- The answers `(signal, issued identifier)` to the requests `reqs`, in request order. -/
def answersFrom (base : SigId → String) (ns : Ns) : List SigId → List (SigId × String)
  | [] => []
  | s :: rest => (s, (getName ns (base s) s).2) :: answersFrom base (getName ns (base s) s).1 rest

def run (kw : List String) (base : SigId → String) (reqs : List SigId) : Ns :=
  runFrom base (Ns.init kw) reqs

def answers (kw : List String) (base : SigId → String) (reqs : List SigId) : List (SigId × String) :=
  answersFrom base (Ns.init kw) reqs

/-- The identifier a signal carries in a namespace (`none` while it has never been requested). -/
def Ns.nameOf (ns : Ns) (base : SigId → String) (s : SigId) : Option String :=
  (ns.sigs s).map (suffixed (base s))

/-- Decidable side condition of `getName_injective_partial`: no requested base name equals another requested
    base name followed by `_k` for a suffix number `k` that the namespace can hand out
    (`1 ≤ k ≤ number of requests`).  (A reserved word counts as soon as some signal carries it as base.) -/
def noSuffixShapedBase (bases : List String) : Bool :=
  bases.all fun b => bases.all fun b' =>
    (List.range bases.length).all fun k => b != b' ++ "_" ++ toString (k + 1)

/-! ### `get_name` as it is in the tree (repair of C02-suffix-collision: skip numbered candidates that are already in
    use; the lines marked `+` are those the repair added)

      n = self.sigs.get(sig)
      if n is None:
          n = self.counts.get(sig_name, 0)
          while n > 0 and f"{sig_name}_{n}" in self.counts:      # + skip candidates already in use
              n += 1                                             # +
          self.sigs[sig] = n
          self.counts[sig_name] = n + 1
          if n > 0:                                              # + a numbered name is in use from now on
              self.counts[f"{sig_name}_{n}"] = 1                 # +

  The dictionaries are finite maps here (association lists, newest binding first) because the loop
  terminates only for that reason. -/

structure NsF where
  counts : List (String × Nat)
  sigs   : List (SigId × Nat)
  deriving Repr

/-- `self.counts.get(b, 0)` -/
def NsF.count (ns : NsF) (b : String) : Nat := (ns.counts.lookup b).getD 0
/-- `b in self.counts` -/
def NsF.used (ns : NsF) (b : String) : Bool := (ns.counts.lookup b).isSome

def NsF.init (kw : List String) : NsF := { counts := kw.map fun k => (k, 1), sigs := [] }

/-- The `while` loop, started at `n`; `fuel` bounds the number of iterations (one more than the number of
    dictionary keys always suffices, see `skipUsed_free`). -/
def skipUsed (ns : NsF) (b : String) : Nat → Nat → Nat
  | 0, n => n
  | fuel + 1, n => if n > 0 && ns.used (suffixed b n) then skipUsed ns b fuel (n + 1) else n

def getNameFixed (ns : NsF) (b : String) (s : SigId) : NsF × String :=
  match ns.sigs.lookup s with
  | some n => (ns, suffixed b n)
  | none =>
    let n := skipUsed ns b (ns.counts.length + 1) (ns.count b)
    let counts₁ := (b, n + 1) :: ns.counts
    let counts₂ := if n > 0 then (suffixed b n, 1) :: counts₁ else counts₁
    ({ counts := counts₂, sigs := (s, n) :: ns.sigs }, suffixed b n)

def runFromF (base : SigId → String) (ns : NsF) : List SigId → NsF
  | [] => ns
  | s :: rest => runFromF base (getNameFixed ns (base s) s).1 rest

def answersFromF (base : SigId → String) (ns : NsF) : List SigId → List (SigId × String)
  | [] => []
  | s :: rest => (s, (getNameFixed ns (base s) s).2) :: answersFromF base (getNameFixed ns (base s) s).1 rest

def runFixed (kw : List String) (base : SigId → String) (reqs : List SigId) : NsF :=
  runFromF base (NsF.init kw) reqs

def answersFixed (kw : List String) (base : SigId → String) (reqs : List SigId) : List (SigId × String) :=
  answersFromF base (NsF.init kw) reqs

end Litex.Namer
