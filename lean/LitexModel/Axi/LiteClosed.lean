import LitexModel.Axi.LiteInterconnectSpec
/-
  C08, closed system: LOCAL descriptions of a legal AXI master and a legal AXI slave.

  `EnvOK` (LiteInterconnectSpec.lean) states the environment assumptions against the GLOBAL routing scoreboard
  (`i ∈ g j`: "master i has an unanswered request at slave j") — something no single port can observe.  Here the same
  discipline is written the way a master or a slave can actually implement it, from the events at ITS OWN port only:

    master i   keeps `pend`  = its address handshakes minus its completed responses (what it sees on its own port) and
               `last`        = the address of its most recent address handshake;
               rule `masterSame`: while `pend > 0` it presents only addresses of the slave `last` belongs to
               ("waits for the last B/R before it switches slave").
    slave j    keeps `held`  = address handshakes minus completed responses at its own port;
               rule `slaveResp`: it raises a response only while `held > 0`                                  (AXI)
               rule `slaveCap` : it does not raise address-ready while it holds 255 requests (acceptance capability
                                 of the slave; the fabric's counters are 8 bits and do NOT guard themselves,
                                 see `axl_counter_saturates`, `axl_counter_bounded` in LitexProps/C08.lean).

  `LocalAll` is the run predicate (ghosts advanced by `mlNext`/`slNext` from port events alone); `Coupled` is the
  relation between the local ghosts and the global scoreboard that the closed-system proof maintains
  (`LitexProofs/Axi/LiteClosed.lean`); `Guar` / `GuarD` = the guarantee in EVERY cycle, no assumption left.
  `localOKb` is the executable form of `LocalOK` served by `drv_c08` (`open localmon …`): the harness feeds it the
  traffic of its AXI-legal environments and the witnesses of the open findings.
  Core Lean only (linked into `drv_c08`).
-/
namespace Litex.Axi.Lite
open Litex

/-- The response handshake at master `i` completes a request (AXI4 read: the beat carries `last`). -/
def mDone (gated : Bool) (x : DirIn) (o : DirOut) (i : Nat) : Bool := mRsp x o i && (!gated || (o.toM i).rLast)

/-- What master `i` knows from its own port. -/
structure MLocal where
  pend : Nat := 0          -- address handshakes minus completed responses
  last : Nat := 0          -- address of the most recent address handshake
deriving Repr, DecidableEq, Inhabited

def mlNext (gated : Bool) (l : MLocal) (x : DirIn) (o : DirOut) (i : Nat) : MLocal where
  pend := l.pend + (if mReq x o i then 1 else 0) - (if mDone gated x o i then 1 else 0)
  last := if mReq x o i then (x.ms i).aAddr else l.last

/-- What slave `j` knows from its own port: address handshakes minus completed responses. -/
def slNext (gated : Bool) (h : Nat) (x : DirIn) (o : DirOut) (j : Nat) : Nat :=
  h + (if sReq x o j then 1 else 0) - (if sDone gated x o j then 1 else 0)

/-- The local rules in one cycle. -/
structure LocalOK (c : Cfg) (ml : Nat → MLocal) (sl : Nat → Nat) (x : DirIn) : Prop where
  /-- a master with unanswered requests presents only addresses of the slave its last accepted address belongs to -/
  masterSame : ∀ i, i < c.n → (x.ms i).aValid = true → 0 < (ml i).pend →
                 ∀ j, j < c.m → routes c j (ml i).last = true → routes c j (x.ms i).aAddr = true
  /-- a slave raises a response only while it holds an unanswered request -/
  slaveResp  : ∀ j, j < c.m → (x.ss j).rValid = true → 0 < sl j
  /-- a slave holding 255 unanswered requests does not accept another one -/
  slaveCap   : ∀ j, j < c.m → (x.ss j).aReady = true → sl j < maxReq - 1

/-- The local rules hold in every cycle of the run of machine `M` from `s`. -/
def LocalAll {σ : Type} (M : Machine DirIn σ DirOut) (c : Cfg) (rd : Bool) :
    σ → (Nat → MLocal) → (Nat → Nat) → List DirIn → Prop
  | _, _, _, [] => True
  | s, ml, sl, x :: xs =>
    LocalOK c ml sl x ∧
    LocalAll M c rd (M.next s x) (fun i => mlNext (c.gated rd) (ml i) x (M.out s x) i)
      (fun j => slNext (c.gated rd) (sl j) x (M.out s x) j) xs

/-- Local ghosts vs the global scoreboard. -/
structure Coupled (c : Cfg) (g : Fifo) (ml : Nat → MLocal) (sl : Nat → Nat) : Prop where
  held : ∀ j, j < c.m → sl j = (g j).length
  pend : ∀ i, i < c.n → (ml i).pend = g.ofMaster c.m i
  last : ∀ i j, i < c.n → j < c.m → i ∈ g j → routes c j (ml i).last = true

/-- The routing guarantee holds in EVERY cycle of the run (no environment assumption left). -/
def Guar {σ : Type} (M : Machine DirIn σ DirOut) (c : Cfg) (rd shared : Bool) : σ → Fifo → List DirIn → Prop
  | _, _, [] => True
  | s, g, x :: xs =>
    RouteOK c shared g x (M.out s x) ∧ Guar M c rd shared (M.next s x) (fifoNext c rd g x (M.out s x)) xs

/-- The write-data rules (`DEnvOK`: each clause mentions one master's own waiting list / one slave's own burst count,
    i.e. they are local already) hold in every cycle of the run. -/
def DEnvAll {σ : Type} (M : Machine DirIn σ DirOut) (c : Cfg) (rd : Bool) : σ → DGhost → List DirIn → Prop
  | _, _, [] => True
  | s, dg, x :: xs => DEnvOK c dg x ∧ DEnvAll M c rd (M.next s x) (dgNext c rd dg x (M.out s x)) xs

/-- Address/response AND data guarantee in every cycle of the run. -/
def GuarD {σ : Type} (M : Machine DirIn σ DirOut) (c : Cfg) (rd shared : Bool) :
    σ → Fifo → DGhost → List DirIn → Prop
  | _, _, _, [] => True
  | s, g, dg, x :: xs =>
    RouteOK c shared g x (M.out s x) ∧ DataOK c dg x (M.out s x) ∧
    GuarD M c rd shared (M.next s x) (fifoNext c rd g x (M.out s x)) (dgNext c rd dg x (M.out s x)) xs

/-! ### Executable form of the local rules (served by `drv_c08`) -/

def allLt (n : Nat) (p : Nat → Bool) : Bool := (List.range n).all p

def localOKb (c : Cfg) (ml : Nat → MLocal) (sl : Nat → Nat) (x : DirIn) : Bool :=
  allLt c.n (fun i => !((x.ms i).aValid && decide (0 < (ml i).pend)) ||
    allLt c.m (fun j => !routes c j (ml i).last || routes c j (x.ms i).aAddr)) &&
  allLt c.m (fun j => !(x.ss j).rValid || decide (0 < sl j)) &&
  allLt c.m (fun j => !(x.ss j).aReady || decide (sl j < maxReq - 1))

end Litex.Axi.Lite
