import LitexModel.Wishbone.InterconnectSoc
import LitexModel.Axi.LiteInterconnectTimeout
/-
  `SoCBusHandler.do_finalize` (litex/soc/integration/soc.py) for `standard = "axi-lite"` / `"axi"`: which AXI fabric
  the SoC glue instantiates for the registered masters/slaves and with which parameters.

      if len(masters) and len(slaves):
          if len(masters) == 1 and len(slaves) == 1 and self.regions[<the slave>].origin == 0:
              AXI(Lite)InterconnectPointToPoint(master, slave)                 # wiring: no decoder, no timeout
          else:
              {"shared": AXI(Lite)InterconnectShared, "crossbar": AXI(Lite)Crossbar}[self.interconnect](
                  masters, [(self.regions[n].decoder(self), s) for n, s in self.slaves.items()],
                  register=self.interconnect_register, timeout_cycles=self.timeout)

  It is the same statement that serves Wishbone: the selection is b-c06's `Wishbone.busTopology` (imported read-only),
  the decoders are `SoCRegion.decoder` = `Wishbone.regionDec` on the word address `addr[log2(dw/8):]`.
  `register` is accepted and unused by the AXI classes; `timeout_cycles` builds `AXI(Lite)Timeout` in the shared
  interconnect (`SharedT`) and is accepted and IGNORED by the crossbar.
  Core Lean only (linked into `drv_c08`).
-/
namespace Litex.Axi.Lite
open Litex

structure SocAxi where
  n       : Nat                  -- number of masters
  regions : List (Nat × Nat)     -- (origin, size) of the slaves' regions, in `self.slaves` order
  kind    : Wishbone.BusKind     -- `self.interconnect`
  full    : Bool                 -- standard "axi" instead of "axi-lite"
  timeout : Option Nat           -- `self.timeout`
  dw      : Nat                  -- bus data width (bits)
  aw      : Nat                  -- bus address width (byte addresses)

/-- What `do_finalize` builds. -/
inductive Fabric where
  | none                         -- no master or no slave: nothing
  | p2p                          -- `InterconnectPointToPoint`
  | shared  (c : Cfg)            -- `InterconnectShared(timeout_cycles=None)`
  | sharedT (c : TCfg)           -- `InterconnectShared(timeout_cycles=t)`
  | xbar    (c : Cfg)            -- `Crossbar`

namespace SocAxi

def m (c : SocAxi) : Nat := c.regions.length

/-- Origin of the first (for the point-to-point test: the only) slave's region. -/
def origin0 (c : SocAxi) : Nat := (c.regions.head?.map (·.1)).getD 0

def topology (c : SocAxi) : Wishbone.Topology := Wishbone.busTopology c.n c.m c.origin0 c.kind

/-- Parameters handed to the interconnect class.  The decoders are applied to `addr[shift:]`, a signal of
    `aw - shift` bits: the predicate is only ever evaluated on word addresses below `2^(aw - shift)`, which the model
    states explicitly (it is what makes "accepted regions ⇒ disjoint decoders" a theorem, `axl_soc_accepted_disjoint_partial`). -/
def cfg (c : SocAxi) : Cfg :=
  { n := c.n, m := c.m,
    dec := fun j a => decide (a < 2 ^ (c.aw - Nat.log2 (c.dw / 8))) &&
             Wishbone.decOfSpecs c.dw c.aw (c.regions.map fun p => Wishbone.DecSpec.region p.1 p.2) j a,
    shift := Nat.log2 (c.dw / 8), full := c.full }

def fabric (c : SocAxi) : Fabric :=
  match c.topology with
  | .none => .none
  | .p2p => .p2p
  | .shared =>
    match c.timeout with
    | some t => .sharedT { toCfg := c.cfg, t := t, dw := c.dw }
    | none => .shared c.cfg
  | .crossbar => .xbar c.cfg

def fabricName (c : SocAxi) : String :=
  match c.fabric with
  | .none => "none" | .p2p => "p2p" | .shared _ => "shared" | .sharedT _ => "sharedt" | .xbar _ => "xbar"

end SocAxi

/-- `get_check_parameters(ports)`: the common data width of all master and slave ports (`assert` otherwise). -/
def checkParameters : List Nat → Option Nat
  | [] => none
  | w :: ws => if ws.all (· == w) then some w else none

end Litex.Axi.Lite
