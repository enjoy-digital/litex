import LitexModel.Fhdl.Print
/-
  C01 — static (input-independent) version of the side condition `Fits`: a value-range analysis of the printed
  Verilog text over unbounded integers (`bounds`), and `staticallyFits`, which demands that at every
  self-determined boundary the whole range is representable.  Soundness (`staticallyFits_Fits` in
  LitexProofs/Fhdl/StaticSound.lean, `staticallyFits_sound` in LitexProps/C01.lean): `staticallyFits e W → EnvOk ρ e → Fits ρ e W` for every `ρ`.
-/
namespace Litex.C01

/-- A number of bits `n` with `|x| < 2^n`. -/
def blen (x : Int) : Nat := x.natAbs.log2 + 1

/-- Signed power-of-two hull of four bounds. -/
def hullS (a b : Int × Int) : Int × Int :=
  let n := max (max (blen a.1) (blen a.2)) (max (blen b.1) (blen b.2))
  (-(p2 n), p2 n - 1)

def bndBin (o : VBin) (a b : Int × Int) : Int × Int :=
  match o with
  | .add => (a.1 + b.1, a.2 + b.2)
  | .sub => (a.1 - b.2, a.2 - b.1)
  | .mul =>
    if 0 ≤ a.1 ∧ 0 ≤ b.1 then (a.1 * b.1, a.2 * b.2)
    else
      let m : Int := ((max a.1.natAbs a.2.natAbs * max b.1.natAbs b.2.natAbs : Nat) : Int)
      (-m, m)
  | .shl =>
    let kl := b.1.toNat
    let kh := b.2.toNat
    (if a.1 < 0 then a.1 * p2 kh else a.1 * p2 kl, if a.2 < 0 then a.2 * p2 kl else a.2 * p2 kh)
  | .shr =>
    if b.1.toNat = b.2.toNat then (a.1 / p2 b.1.toNat, a.2 / p2 b.1.toNat) else (min a.1 0, max a.2 0)
  | .and =>
    if 0 ≤ a.1 then (0, p2 (blen a.2) - 1)
    else if 0 ≤ b.1 then (0, p2 (blen b.2) - 1)
    else hullS a b
  | .or | .xor =>
    if 0 ≤ a.1 ∧ 0 ≤ b.1 then (0, p2 (max (blen a.2) (blen b.2)) - 1) else hullS a b
  | _ => (0, 1)

def inRangeB (w : Nat) (s : Bool) (b : Int × Int) : Bool := inRange w s b.1 && inRange w s b.2

mutual
/-- Range of the unbounded value of a Verilog expression, over all signal valuations. -/
def bounds : VExpr → Int × Int
  | .lit w s v => (truncS w s v, truncS w s v)
  | .id _ w s => if s then (-(p2 (w - 1)), p2 (w - 1) - 1) else (0, p2 w - 1)
  | .un .neg a => (-(bounds a).2, -(bounds a).1)
  | .un .not a => (-(bounds a).2 - 1, -(bounds a).1 - 1)
  | .bin o a b => bndBin o (bounds a) (bounds b)
  | .cond _ a b => (min (bounds a).1 (bounds b).1, max (bounds a).2 (bounds b).2)
  | .psel _ hi lo => (0, p2 (hi - lo + 1) - 1)
  | .bsel _ _ => (0, 1)
  | .concat l => (0, concatHi l)
  | .repl n a => (0, p2 (n * selfWidth a) - 1)
  | .signed a =>
    if decide (0 < selfWidth a) && inRangeB (selfWidth a) true (bounds a) then bounds a
    else (-(p2 (selfWidth a - 1)), p2 (selfWidth a - 1) - 1)
/-- Upper bound of a concatenation: each element contributes its own upper bound when it is known to be a
    non-negative number of its width (so that `{1'd0, x}` is known to have a clear top bit), else all ones. -/
def concatHi : List VExpr → Int
  | [] => 0
  | e :: es =>
    (if 0 ≤ (bounds e).1 ∧ (bounds e).2 < p2 (selfWidth e) then (bounds e).2 else p2 (selfWidth e) - 1)
      * p2 (concatWidth es) + concatHi es
end

def sfitsAt (w W : Nat) (sg : Bool) (b : Int × Int) : Bool :=
  decide (0 < w) && (decide (W = w) || inRangeB w sg b)

mutual
/-- `fitsV` with every range test made on `bounds` instead of the value under one valuation. -/
def sfitsV : VExpr → Nat → Bool → Bool
  | .lit w s v, W, sg => sfitsAt w W sg (bounds (.lit w s v))
  | .id i w s, W, sg => sfitsAt w W sg (bounds (.id i w s))
  | .un _ a, W, sg => sfitsV a W sg
  | .bin o a b, W, sg =>
    if o.isCmp then
      let w' := max (selfWidth a) (selfWidth b)
      let sg' := selfSigned a && selfSigned b
      decide (0 < w') && sfitsV a w' sg' && sfitsV b w' sg' && inRangeB w' sg' (bounds a) && inRangeB w' sg' (bounds b)
        && sfitsAt 1 W sg (0, 1)
    else if o.isShift then
      sfitsV a W sg && sfitsV b (selfWidth b) (selfSigned b) && inRangeB (selfWidth b) false (bounds b)
        && (match o with | .shr => decide (0 < W) && inRangeB W sg (bounds a) | _ => true)
    else sfitsV a W sg && sfitsV b W sg
  | .cond c a b, W, sg =>
    sfitsV c (selfWidth c) (selfSigned c) && sfitsV a W sg && sfitsV b W sg
  | .psel a hi lo, W, sg =>
    sfitsV a (selfWidth a) (selfSigned a) && decide (hi < selfWidth a) && decide (lo ≤ hi)
      && sfitsAt (hi - lo + 1) W sg (0, p2 (hi - lo + 1) - 1)
  | .bsel a i, W, sg =>
    sfitsV a (selfWidth a) (selfSigned a) && decide (i < selfWidth a) && sfitsAt 1 W sg (0, 1)
  | .concat l, W, sg => sfitsConcat l && sfitsAt (concatWidth l) W sg (0, concatHi l)
  | .repl n a, W, sg =>
    sfitsV a (selfWidth a) (selfSigned a) && sfitsAt (n * selfWidth a) W sg (0, p2 (n * selfWidth a) - 1)
  | .signed a, W, sg =>
    sfitsV a (selfWidth a) (selfSigned a) && sfitsAt (selfWidth a) W sg (bounds (.signed a))
def sfitsConcat : List VExpr → Bool
  | [] => true
  | e :: es => sfitsV e (selfWidth e) (selfSigned e) && sfitsConcat es
end

/-- Static `promOk`. -/
def spromOk (promoted : Bool) (e : Expr) : Bool :=
  !promoted || inRangeB (selfWidth (printE e).1) false (bounds (printE e).1)

/-- Static `condOk`: same width on both sides, or the value is a non-negative number of the narrower width. -/
def scondOk (c : Expr) : Bool :=
  decide (selfWidth (printE c).1 = (bitsSign c).1) ||
    inRangeB (min (selfWidth (printE c).1) (bitsSign c).1) false (bounds (printE c).1)

mutual
def sfitsP : Expr → Bool
  | .const v w s => constOk v w s
  | .sig _ w _ => decide (0 < w)
  | .op1 .neg a => sfitsP a && spromOk (!(printE a).2) a
  | .op1 .not a => sfitsP a
  | .op2 o a b =>
    sfitsP a && sfitsP b &&
      (o.isShift || (spromOk ((printE b).2 && !(printE a).2) a && spromOk ((printE a).2 && !(printE b).2) b))
  | .mux c a b =>
    sfitsP c && sfitsP a && sfitsP b &&
      spromOk ((printE b).2 && !(printE a).2) a && spromOk ((printE a).2 && !(printE b).2) b && scondOk c
  | .slice a lo hi =>
    sfitsP a && isSig a && decide (lo < hi) && decide (hi ≤ (bitsSign a).1)
  | .cat l => sfitsPList l
  | .rep a n => sfitsP a && decide ((bitsSign a).1 = selfWidth (printE a).1) && decide (0 < n)
def sfitsPList : List Expr → Bool
  | [] => true
  | e :: es => sfitsP e && decide ((bitsSign e).1 = selfWidth (printE e).1) && sfitsPList es
end

mutual
/-- Every signal value read by `e` is representable in the signal's declared width/sign (what
    `Evaluator.assign` guarantees for every stored value). -/
def envOk (ρ : Env) : Expr → Bool
  | .const _ _ _ => true
  | .sig i w s => inRange w s (ρ i)
  | .op1 _ a => envOk ρ a
  | .op2 _ a b => envOk ρ a && envOk ρ b
  | .mux c a b => envOk ρ c && envOk ρ a && envOk ρ b
  | .slice a _ _ => envOk ρ a
  | .cat l => envOkList ρ l
  | .rep a _ => envOk ρ a
def envOkList (ρ : Env) : List Expr → Bool
  | [] => true
  | e :: es => envOk ρ e && envOkList ρ es
end

/-- `e` can be printed and evaluated in a `W`-bit context with no possibility of the two semantics parting,
    whatever the (declared-range) signal values. -/
def staticallyFits (e : Expr) (W : Nat) : Bool :=
  sfitsP e && sfitsV (printE e).1 W (selfSigned (printE e).1)

end Litex.C01
