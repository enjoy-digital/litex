import LitexModel.Codes.Code8b10b
import LitexModel.Generated.Netlist8b10b
/-
  The model side of the regenerated netlist truth tables (`Generated/Netlist8b10b.lean`): the packing of the
  model's answers in the layout of the tables, and the chain probe of the multi-word `Encoder`.  The tables are
  produced on every run by evaluating the REAL elaborated `SingleEncoder` / `Decoder` / `Encoder` netlists over
  their complete finite input spaces; `LitexProofs/Codes/Regen.lean` proves by kernel evaluation that the
  hand-written model equals them entry by entry.
-/
namespace Litex.Code8b10b

/-- Bit `j` of a table index. -/
def ibit (i j : Nat) : Bool := (i / 2 ^ j) % 2 == 1

/-- `encode1` in the layout of `Netlist.encMsb` / `Netlist.encLsb`: index `d + 256*k + 512*disp_in`,
    entry `output + 1024*disp_out` (output in the bit order of `lsb_first`). -/
def encEntry (lsb : Bool) (i : Nat) : Nat :=
  let r := encode1 (i % 256) (ibit i 8) (ibit i 9)
  fmt lsb r.1 + 1024 * b2n r.2

/-- `Decoder(lsb_first)` of the model in the layout of `Netlist.decMsb` / `Netlist.decLsb`. -/
def decEntry (lsb : Bool) (w : Nat) : Nat :=
  let r := decOut (decStep lsb w)
  r.1 + 256 * b2n r.2.1 + 512 * b2n r.2.2

/-- Stage 2 on the reset values of the stage-1 registers (`SingleEncoder` straight after reset). -/
def resetEntry (c : Bool) : Nat := (stage2 Stage1.reset c).1 + 1024 * b2n (stage2 Stage1.reset c).2

/-- `sum_i (output[i] + 1024*disparity[i]) * 2048^i`. -/
def packLanes : List Nat → List Bool → Nat
  | o :: os, b :: bs => o + 1024 * b2n b + 2048 * packLanes os bs
  | _, _ => 0

/-- The three enabled input groups of a chain probe: a prefix leaving the running disparity at `c` (D3.0 in lane 0
    flips RD− to RD+, D0.0 keeps it), the probed group (`(d, k)` in `lane`, D0.0 elsewhere), a flush group. -/
def probeGroups (n lane d : Nat) (k c : Bool) : List (Bool × List Sym) :=
  [(true, (List.range n).map fun i => if c && i == 0 then ⟨3, false⟩ else ⟨0, false⟩),
   (true, (List.range n).map fun i => if i == lane then ⟨d, k⟩ else ⟨0, false⟩),
   (true, List.replicate n ⟨0, false⟩)]

/-- The registered outputs of the model `Encoder(n, msb)` after a chain probe, packed as in `Netlist.chain*`. -/
def chainProbe (n lane d : Nat) (k c : Bool) : Nat :=
  let s := (encoder n false).run (probeGroups n lane d k c)
  packLanes s.outs s.disps

/-- Entry `1024*lane + d + 256*k + 512*c` of `Netlist.chain2`. -/
def chain2Entry (i : Nat) : Nat := chainProbe 2 (i / 1024) (i % 256) (ibit i 8) (ibit i 9)

/-- The table of `Encoder(n)` over the probe symbols: entry `(2*lane + c)*16 + j`. -/
def chainProbeTable (n : Nat) : List Nat :=
  (List.range n).flatMap fun lane => [false, true].flatMap fun c =>
    Netlist.probeSyms.map fun s => chainProbe n lane s.1 (s.2 == 1) c

/-! ### the set of code words (specification vocabulary, served by the driver) -/

/-- Bit `w` is set iff the 10-bit word `w` is the encoding of a data byte or defined control symbol under some
    running disparity (proof artefact; `fin_code_mask` computes it as the image of the valid symbols, `code_word_iff`). -/
def codeMask : Nat := 4352014392959495412947095964500238712258574323220877312933185503668046783355921383586562151813472576557158919812917880646885683414647289081631460845416052267589054483119010950670981733806348990549467022887224071787796812227748988145857234852964705882006497991705056037761245704617984

def isCodeWord (w : Nat) : Bool := codeMask.testBit w

/-- The regenerated tables by bit order. -/
def netEnc (lsb : Bool) : List Nat := if lsb then Netlist.encLsb else Netlist.encMsb
def netDec (lsb : Bool) : List Nat := if lsb then Netlist.decLsb else Netlist.decMsb

end Litex.Code8b10b
