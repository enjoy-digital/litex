import LitexModel.Machine
/-
  `litex.gen.genlib.misc.WaitTimer(t)`:

      count = Signal(bits_for(t), reset=t)
      comb += done.eq(count == 0)
      sync += If(wait, If(~done, count.eq(count - 1))).Else(count.eq(count.reset))

  One register (`count`), one input (`wait`), one output (`done`).  `count` never exceeds `t`, so the
  `bits_for(t)`-bit register never wraps and a `Nat` is an exact model.

  General model, imported by the bus timeouts (`Timeout/Wb.lean`, `Timeout/Axi.lean`: C11, and C08 through the latter) and by
  the peripherals (`Periph/Timers.lean`, `Bone.lean`, `Glue2.lean`: C19).  Core Lean only.
-/
namespace Litex.WaitTimer

/-- `done = (count == 0)`. -/
def done (count : Nat) : Bool := count == 0

/-- Register update at the clock edge. -/
def next (t : Nat) (count : Nat) (wait : Bool) : Nat :=
  if wait then (if done count then count else count - 1) else t

/-- The timer as a machine: input `wait`, output `done`. -/
def machine (t : Nat) : Machine Bool Nat Bool where
  init := t
  out c _ := done c
  next := next t

/-- `count` after a whole history of `wait` values (oldest first), starting from `c`. -/
def runFrom (t : Nat) (c : Nat) (ws : List Bool) : Nat := (machine t).runFrom c ws

/-- `count` after a history from reset. -/
def run (t : Nat) (ws : List Bool) : Nat := (machine t).run ws

/-- Specification counter: one step of "for how many consecutive cycles has `wait` been held". -/
def streakStep (k : Nat) (w : Bool) : Nat := if w then k + 1 else 0

/-- Number of consecutive waiting cycles at the end of a history (oldest first), continuing a streak of `k`. -/
def streakFrom (k : Nat) (ws : List Bool) : Nat := ws.foldl streakStep k

/-- Number of consecutive `true`s at the end of a history: for how many cycles `wait` has been held without
    interruption up to now. -/
def streak (ws : List Bool) : Nat := streakFrom 0 ws

end Litex.WaitTimer
