import LitexModel.Cdc.AsyncFifo
/-
  Multi-clock models of Migen's `PulseSynchronizer` and of `litex/gen/genlib/cdc.py:BusSynchronizer`
  (width ≥ 2: request/acknowledge hand-shake with retry time-out; width 1: a bare `MultiReg`).

  An instant has a rising edge of the input-domain clock (`ti`), of the output-domain clock (`tO`), or both.
  The first flop of every `MultiReg` whose source register changes in the same instant catches, bit by bit, the
  old or the new source value; the choice is an input (`mPing`, `mPong`: true = new; `mBuf`: bit mask).
-/
namespace Litex.Cdc

/-! ### BusSynchronizer, width ≥ 2 -/

structure BSState where
  -- input (i) domain
  starter : Bool     -- `starter`, reset 1
  pingT   : Bool     -- `_ping.toggle_i`
  pongR1  : Bool     -- MultiReg(`_pong.toggle_i` → i domain) first flop
  pongR2  : Bool     -- second flop = `_pong.toggle_o`
  pongOR  : Bool     -- `_pong.toggle_o_r`
  count   : Nat      -- `_timeout.count`, reset `t`
  ibuf    : Nat      -- `ibuffer`
  -- output (o) domain
  pingR1  : Bool     -- MultiReg(`_ping.toggle_i` → o domain) first flop
  pingR2  : Bool     -- second flop = `_ping.toggle_o`
  pingOR  : Bool     -- `_ping.toggle_o_r`
  pingO   : Bool     -- `ping_o` (the extra flop on the request path)
  pongT   : Bool     -- `_pong.toggle_i`
  ob1     : Nat      -- MultiReg(`ibuffer` → o domain) first flop
  ob2     : Nat      -- second flop = `obuffer`
  o       : Nat      -- `o`
deriving DecidableEq, Repr

structure BSIn where
  ti    : Bool
  tO    : Bool
  mPing : Bool       -- `pingR1` catches the new `pingT` when it toggles in the same instant
  mPong : Bool       -- `pongR1` catches the new `pongT` when it toggles in the same instant
  mBuf  : Nat        -- per-bit: `ob1` catches the new `ibuf` bit when `ibuf` is loaded in the same instant
  i     : Nat        -- the input bus `i`

def bsInit (t : Nat) : BSState :=
  { starter := true, pingT := false, pongR1 := false, pongR2 := false, pongOR := false, count := t, ibuf := 0,
    pingR1 := false, pingR2 := false, pingOR := false, pingO := false, pongT := false, ob1 := 0, ob2 := 0, o := 0 }

/-- `_ping.o` (o domain). -/
def pingOut (s : BSState) : Bool := s.pingR2 != s.pingOR
/-- `_pong.o` (i domain). -/
def pongOut (s : BSState) : Bool := s.pongR2 != s.pongOR
/-- `_timeout.done`. -/
def tmoDone (s : BSState) : Bool := s.count == 0
/-- `_ping.i = starter | _pong.o | _timeout.done`. -/
def pingIn (s : BSState) : Bool := s.starter || pongOut s || tmoDone s

/-- Next value of `_ping.toggle_i` at an i-edge. -/
def pingTN (s : BSState) : Bool := if pingIn s then !s.pingT else s.pingT
/-- Next value of `_pong.toggle_i` at an o-edge (`_pong.i = ping_o`). -/
def pongTN (s : BSState) : Bool := if s.pingO then !s.pongT else s.pongT
/-- Next value of `ibuffer` at an i-edge. -/
def ibufN (w : Nat) (s : BSState) (i : Nat) : Nat := if pongOut s then i % 2 ^ w else s.ibuf
/-- Next value of the `WaitTimer` count at an i-edge (`wait = ~_ping.i`). -/
def countN (t : Nat) (s : BSState) : Nat :=
  if !pingIn s then (if !tmoDone s then s.count - 1 else s.count) else t

def bsStep (w t : Nat) (s : BSState) (x : BSIn) : BSState :=
  { starter := if x.ti then false else s.starter
    pingT   := if x.ti then pingTN s else s.pingT
    pongR1  := if x.ti then (if x.tO && x.mPong then pongTN s else s.pongT) else s.pongR1
    pongR2  := if x.ti then s.pongR1 else s.pongR2
    pongOR  := if x.ti then s.pongR2 else s.pongOR
    count   := if x.ti then countN t s else s.count
    ibuf    := if x.ti then ibufN w s x.i else s.ibuf
    pingR1  := if x.tO then (if x.ti && x.mPing then pingTN s else s.pingT) else s.pingR1
    pingR2  := if x.tO then s.pingR1 else s.pingR2
    pingOR  := if x.tO then s.pingR2 else s.pingOR
    pingO   := if x.tO then pingOut s else s.pingO
    pongT   := if x.tO then pongTN s else s.pongT
    ob1     := if x.tO then (if x.ti then mix x.mBuf s.ibuf (ibufN w s x.i) else s.ibuf) else s.ob1
    ob2     := if x.tO then s.ob1 else s.ob2
    o       := if x.tO then (if s.pingO then s.ob2 else s.o) else s.o }

def bsRun (w t : Nat) (s : BSState) : List BSIn → BSState
  | [] => s
  | x :: xs => bsRun w t (bsStep w t s x) xs

/-- Every word the input-side register `ibuffer` has held so far (reset value first): each was present on `i`
    at one instant (or is the reset value 0). -/
def bsLoaded (w t : Nat) (s : BSState) : List BSIn → List Nat
  | [] => [s.ibuf]
  | x :: xs => s.ibuf :: bsLoaded w t (bsStep w t s x) xs

/-- Every value the input bus has shown at an i-clock edge so far. -/
def bsInputs : List BSIn → List Nat
  | [] => []
  | x :: xs => (if x.ti then [x.i] else []) ++ bsInputs xs

/-! Schedule predicates used as hypotheses of the BusSynchronizer theorems -/

/-- The retry timer never expires along the schedule (`_timeout.done` is low before every instant). -/
def NoTimeout (w t : Nat) (s : BSState) : List BSIn → Prop
  | [] => True
  | x :: xs => tmoDone s = false ∧ NoTimeout w t (bsStep w t s x) xs

/-- Drift bound: never more than `R` consecutive instants that have an i-clock edge but no o-clock edge
    (`q` = length of the current run of such instants).  Periodic clocks of any phase satisfy it when the i clock is
    at most `R` times faster than the o clock (`Cdc.iburst_of_periodic`: `po ≤ R * pi`); nothing is assumed in the other
    direction. -/
def IBurst (R : Nat) : Nat → List BSIn → Prop
  | _, [] => True
  | q, x :: xs =>
    if x.tO then IBurst R 0 xs
    else if x.ti then q < R ∧ IBurst R (q + 1) xs
    else IBurst R q xs

/-- Number of i-clock edges / o-clock edges in a schedule. -/
def bsITicks : List BSIn → Nat
  | [] => 0
  | x :: xs => (if x.ti then 1 else 0) + bsITicks xs

def bsOTicks : List BSIn → Nat
  | [] => 0
  | x :: xs => (if x.tO then 1 else 0) + bsOTicks xs

/-- Two free-running clocks on an integer time axis: i-clock edges every `pi` time units, o-clock edges every
    `po`; `ni`/`no` = time of the next i/o edge.  An instant is every time point with at least one edge
    (coincident edges when `ni = no`).  `n` instants are produced.  (The harness's `PeriodicClocks`.) -/
def perClocks (pi po : Nat) : Nat → Nat → Nat → List (Bool × Bool)
  | 0, _, _ => []
  | n + 1, ni, no =>
    let ti := decide (ni ≤ no)
    let tO := decide (no ≤ ni)
    (ti, tO) :: perClocks pi po n (if ti then ni + pi else ni) (if tO then no + po else no)

/-- The clock part of a bus-synchroniser schedule. -/
def bsClocks (ins : List BSIn) : List (Bool × Bool) := ins.map fun x => (x.ti, x.tO)

/-! ### BusSynchronizer, width 1: `MultiReg(i, o, odomain)` only -/

structure BS1State where
  r1 : Bool
  r2 : Bool
deriving DecidableEq, Repr

/-- `i` is an input (it may change at any time); the first flop samples it at an o-edge. -/
def bs1Step (s : BS1State) (tO : Bool) (i : Bool) : BS1State :=
  if tO then { r1 := i, r2 := s.r1 } else s

/-! ### PulseSynchronizer -/

structure PSState where
  tog : Bool     -- toggle_i   (i domain)
  r1  : Bool     -- MultiReg first flop (o domain)
  r2  : Bool     -- toggle_o
  tor : Bool     -- toggle_o_r
deriving DecidableEq, Repr

structure PSIn where
  ti : Bool
  tO : Bool
  m  : Bool      -- `r1` catches the new `tog` when it toggles in the same instant
  i  : Bool      -- pulse input

def psInit : PSState := { tog := false, r1 := false, r2 := false, tor := false }

def psOut (s : PSState) : Bool := s.r2 != s.tor

def psStep (s : PSState) (x : PSIn) : PSState :=
  let togN := if x.i then !s.tog else s.tog
  { tog := if x.ti then togN else s.tog
    r1  := if x.tO then (if x.ti && x.m then togN else s.tog) else s.r1
    r2  := if x.tO then s.r1 else s.r2
    tor := if x.tO then s.r2 else s.tor }

def psRun (s : PSState) : List PSIn → PSState
  | [] => s
  | x :: xs => psRun (psStep s x) xs

/-- Input pulses: instants with an i-clock edge while `i` is high. -/
def psSent : List PSIn → Nat
  | [] => 0
  | x :: xs => (if x.ti && x.i then 1 else 0) + psSent xs

/-- Output pulses: o-clock edges at which `o` is high. -/
def psSeen (s : PSState) : List PSIn → Nat
  | [] => 0
  | x :: xs => (if x.tO && psOut s then 1 else 0) + psSeen (psStep s x) xs

/-- Toggles travelling through the synchroniser chain. -/
def psFlight (s : PSState) : Nat :=
  (if s.tog != s.r1 then 1 else 0) + (if s.r1 != s.r2 then 1 else 0) + (if s.r2 != s.tor then 1 else 0)

/-- Pending flag of a schedule: the last input pulse has not yet been followed by an o-clock edge that
    caught it. -/
def pendNext (pend : Bool) (x : PSIn) : Bool :=
  if x.ti && x.i then !(x.tO && x.m) else (if x.tO then false else pend)

/-- Input pulses are spaced: a new pulse comes only after the previous one has been caught by the first
    synchroniser flop (at least one o-clock edge strictly after it, or a coincident edge that resolved to the new
    value).  Pulses separated by three or more o-clock edges satisfy this. -/
def PSpaced : Bool → List PSIn → Prop
  | _, [] => True
  | pend, x :: xs => ((x.ti && x.i) = true → pend = false) ∧ PSpaced (pendNext pend x) xs

/-- Drift bound on a pulse-synchroniser schedule (the `IBurst` of the bus synchroniser): never more than `R`
    consecutive instants with an i-clock edge but no o-clock edge (`q` = length of the current run). -/
def PBurst (R : Nat) : Nat → List PSIn → Prop
  | _, [] => True
  | q, x :: xs =>
    if x.tO then PBurst R 0 xs
    else if x.ti then q < R ∧ PBurst R (q + 1) xs
    else PBurst R q xs

/-- Pulse spacing in i-clock cycles: any two input pulses are separated by at least `n` pulse-free i-clock
    edges, i.e. the pulse period is at least `n + 1` i-cycles (`c` = pulse-free i-edges since the last pulse). -/
def PGap (n : Nat) : Nat → List PSIn → Prop
  | _, [] => True
  | c, x :: xs =>
    if x.ti && x.i then n ≤ c ∧ PGap n 0 xs
    else PGap n (if x.ti then c + 1 else c) xs

/-- The tight schedule for drift bound `R`: a pulse on a coincident edge (first flop keeps the old value), `R`
    pulse-free i-only edges, a second pulse on a coincident edge (first flop catches the new value = the original
    level), then o-clock edges only. -/
def psTight (R : Nat) : List PSIn :=
  [⟨true, true, false, true⟩] ++ List.replicate R ⟨true, false, false, false⟩ ++
    [⟨true, true, true, true⟩, ⟨false, true, false, false⟩, ⟨false, true, false, false⟩, ⟨false, true, false, false⟩]

end Litex.Cdc
