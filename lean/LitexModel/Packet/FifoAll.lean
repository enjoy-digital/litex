import LitexModel.Packet.Fifo
/-
  `packet.PacketFIFO(layout, payload_depth, param_depth, buffered)` for EVERY depth and both `buffered` values.

  `stream.SyncFIFO(layout, depth, buffered)` builds one of four different circuits:

      depth = 0            plain `sink.connect(source)`                                   (kind `never`, see below)
      depth = 1            `Buffer(layout)` = `PipeValid`; `buffered` is ignored          (kind `pipe`)
                             If(~source.valid | source.ready: source.valid <= sink.valid, payload <= sink payload)
                             sink.ready = ~source.valid | source.ready
      depth ≥ 2, not buffered   Migen `SyncFIFO(fwft=True)`                               (kind `fifo`)
      depth ≥ 2, buffered       Migen `SyncFIFOBuffered` (non-fwft FIFO + output register) (kind `bfifo`)

  PacketFIFO builds the payload queue with `payload_depth` (`pd`) and the param queue with `param_depth + 1`
  (`qd`, so `qd ≥ 1` for every legal constructor call) and wires them (the same equations for all kinds):

      param.sink.valid   = sink.valid & sink.last & payload.sink.ready
      payload.sink.valid = sink.valid & param.sink.ready
      sink.ready         = param.sink.ready & payload.sink.ready
      source.valid       = param.source.valid & payload.source.valid     (fix of C16-packetfifo-buffered-param-depth0;
                                                                          before: param.source.valid only)
      source.{data,last} = payload.source.{data,last}          source.first = 0 (never written)
      source.param       = param.source.param
      param.source.ready   = source.valid & source.last & source.ready
      payload.source.ready = source.valid & source.ready

  A queue is seen through four functions: `readable` (source.valid), `dout`, `writable` (sink.ready, which for
  `PipeValid` depends on the `re` of the same cycle) and the register update `next we din re`.

  Depth 0 (kind `never`): with a wire as payload queue, `payload.sink.ready = source.valid & source.ready` and
  `source.valid` needs the param queue readable, while a param push needs `payload.sink.ready`: from reset nothing is ever
  accepted or delivered (`sink.ready = 0`, `source.valid = 0` for ever; the data lines are don't-care while
  `source.valid = 0`).  The wire is therefore modelled as a queue that is never writable and never readable,
  which is port-equivalent from reset.  (`qd = 0` cannot be built by the constructor; it is given the same
  meaning so that the machine is total.)
-/
namespace Litex.Packet
open Litex.Stream

inductive QKind where
  | never | pipe | fifo | bfifo
deriving DecidableEq, Repr

/-- Which circuit `stream.SyncFIFO(layout, depth, buffered)` builds. -/
def qkind (depth : Nat) (buffered : Bool) : QKind :=
  if depth = 0 then .never else if depth = 1 then .pipe else if buffered then .bfifo else .fifo

/-- State of one queue (all kinds): `q` the (inner) FIFO content, oldest first; `v`/`d` the output register
    (`pipe`: source.valid/payload of `PipeValid`; `bfifo`: `readable`/`dout` of `SyncFIFOBuffered`).
    Kind `fifo` uses only `q`, kind `pipe` only `v`/`d`, kind `never` nothing. -/
structure QSt (α : Type) where
  q : List α
  v : Bool
  d : α
deriving DecidableEq, Repr

namespace QSt
variable {α : Type}

/-- `source.valid` of the queue. -/
def readable (k : QKind) (s : QSt α) : Bool :=
  match k with
  | .never => false
  | .pipe  => s.v
  | .fifo  => !s.q.isEmpty
  | .bfifo => s.v

/-- The data output of the queue (meaningful while `readable`). -/
def dout (k : QKind) (s : QSt α) : α :=
  match k with
  | .fifo => s.q.headD s.d
  | _     => s.d

/-- `sink.ready` of the queue; `re` is the queue's `source.ready` in the same cycle. -/
def writable (k : QKind) (depth : Nat) (s : QSt α) (re : Bool) : Bool :=
  match k with
  | .never => false
  | .pipe  => !s.v || re
  | .fifo  => s.q.length != depth
  | .bfifo => s.q.length != depth

/-- One clock edge: `we` = sink.valid, `din` = sink payload, `re` = source.ready. -/
def next (k : QKind) (depth : Nat) (s : QSt α) (we : Bool) (din : α) (re : Bool) : QSt α :=
  match k with
  | .never => s
  | .pipe  => if !s.v || re then { s with v := we, d := din } else s     -- latches the lines also when we = 0
  | .fifo  =>
    let q1 := if re && !s.q.isEmpty then s.q.tail else s.q
    { s with q := if we && s.q.length != depth then q1 ++ [din] else q1 }
  | .bfifo =>
    let fre := !s.q.isEmpty && (!s.v || re)                              -- fifo.re: refill the output register
    let q1 := if fre then s.q.tail else s.q
    { q := if we && s.q.length != depth then q1 ++ [din] else q1
      v := if fre then true else if re then false else s.v
      d := if fre then s.q.headD s.d else s.d }

end QSt

structure PFAState where
  pay : QSt (Nat × Bool)      -- payload queue: (data, last)
  par : QSt Nat               -- param queue
deriving DecidableEq, Repr

/-- PacketFIFO over two queues of given kinds and depths (the code that exists: `source.valid` needs both
    queues readable). -/
def packetFifoK (kp kq : QKind) (pd qd : Nat) : Elem PBeat PBeat PFAState where
  init := { pay := { q := [], v := false, d := (0, false) }, par := { q := [], v := false, d := 0 } }
  fwd s _ _ :=
    (s.par.readable kq && s.pay.readable kp,
     { data := { data := (s.pay.dout kp).1, param := s.par.dout kq }, first := false, last := (s.pay.dout kp).2 })
  bwd s _ _ r :=
    let svalid := s.par.readable kq && s.pay.readable kp
    let slast  := (s.pay.dout kp).2
    s.pay.writable kp pd (svalid && r) && s.par.writable kq qd (svalid && slast && r)
  next s v t r :=
    let svalid := s.par.readable kq && s.pay.readable kp
    let slast  := (s.pay.dout kp).2
    let rePay  := svalid && r                       -- payload.source.ready
    let rePar  := svalid && slast && r              -- param.source.ready
    let pready := s.pay.writable kp pd rePay
    let qready := s.par.writable kq qd rePar
    { pay := s.pay.next kp pd (v && qready) (t.data.data, t.last) rePay
      par := s.par.next kq qd (v && t.last && pready) t.data.param rePar }

/-- **The method before the fix** of finding C16-packetfifo-buffered-param-depth0 (kept only for the negative witness
    in `LitexProps/C16.lean`, an `example` on `packetFifoAllPre`): `source.valid = param.source.valid` alone.  With a `SyncFIFOBuffered` payload queue
    (readable two edges after the write) next to a `PipeValid` param queue (readable one edge after the write)
    the source was valid on the stale payload output register. -/
def packetFifoKPre (kp kq : QKind) (pd qd : Nat) : Elem PBeat PBeat PFAState where
  init := { pay := { q := [], v := false, d := (0, false) }, par := { q := [], v := false, d := 0 } }
  fwd s _ _ :=
    (s.par.readable kq,
     { data := { data := (s.pay.dout kp).1, param := s.par.dout kq }, first := false, last := (s.pay.dout kp).2 })
  bwd s _ _ r :=
    let svalid := s.par.readable kq
    let slast  := (s.pay.dout kp).2
    s.pay.writable kp pd (svalid && r) && s.par.writable kq qd (svalid && slast && r)
  next s v t r :=
    let svalid := s.par.readable kq
    let slast  := (s.pay.dout kp).2
    let rePay  := svalid && r
    let rePar  := svalid && slast && r
    let pready := s.pay.writable kp pd rePay
    let qready := s.par.writable kq qd rePar
    { pay := s.pay.next kp pd (v && qready) (t.data.data, t.last) rePay
      par := s.par.next kq qd (v && t.last && pready) t.data.param rePar }

/-- `PacketFIFO(layout, payload_depth = pd, param_depth = qd - 1, buffered)`. -/
def packetFifoAll (pd qd : Nat) (buffered : Bool) : Elem PBeat PBeat PFAState :=
  packetFifoK (qkind pd buffered) (qkind qd buffered) pd qd

/-- The same instance with the method before the fix. -/
def packetFifoAllPre (pd qd : Nat) (buffered : Bool) : Elem PBeat PBeat PFAState :=
  packetFifoKPre (qkind pd buffered) (qkind qd buffered) pd qd

end Litex.Packet
