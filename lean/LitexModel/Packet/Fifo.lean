import LitexModel.Stream.Core
/-
  `packet.PacketFIFO(layout, payload_depth, param_depth, buffered=False)` for `payload_depth ≥ 2`:
  two Migen `SyncFIFO(fwft=True)` queues behind `_FIFOWrapper`, one for (payload, last), one for the params.

      param_fifo.sink.valid   = sink.valid & sink.last & payload_fifo.sink.ready      (gated since the fix of C16-packetfifo-param-dup)
      payload_fifo.sink.valid = sink.valid & param_fifo.sink.ready
      sink.ready              = param_fifo.sink.ready & payload_fifo.sink.ready
      source.valid            = param_fifo.source.valid & payload_fifo.source.valid
                                (`packetFifo` below takes `param_fifo.source.valid` alone: with two fwft queues a stored param
                                 has its beats stored, `packetFifoAll_eq_plain_out` in LitexProofs/Packet/FifoAll.lean)
      source.{data,last,first}= payload_fifo.source.{data,last,first}     (first is never written: 0)
      source.params           = param_fifo.source.params
      param_fifo.source.ready   = source.valid & source.last & source.ready
      payload_fifo.source.ready = source.valid & source.ready

  `pd` is `payload_depth`, `qd` the depth the param FIFO is built with (`param_depth + 1`).
  A Migen FIFO writes iff `we & writable` and reads iff `re & readable`.
-/
namespace Litex.Packet
open Litex.Stream

/-- A beat with its parameters. -/
structure PBeat where
  data  : Nat
  param : Nat
deriving DecidableEq, Repr

structure PFState where
  pay : List (Nat × Bool)     -- payload FIFO content, oldest first: (data, last)
  par : List Nat              -- param FIFO content, oldest first
deriving DecidableEq, Repr

def zPBeat : Tok PBeat := { data := { data := 0, param := 0 }, first := false, last := false }

def packetFifo (pd qd : Nat) : Elem PBeat PBeat PFState where
  init := { pay := [], par := [] }
  fwd s _ _ :=
    (!s.par.isEmpty,
     { data := { data := (s.pay.headD (0, false)).1, param := s.par.headD 0 }, first := false,
       last := (s.pay.headD (0, false)).2 })
  bwd s _ _ _ := s.pay.length != pd && s.par.length != qd
  next s v t r :=
    let pready := s.pay.length != pd
    let qready := s.par.length != qd
    let svalid := !s.par.isEmpty
    let slast  := (s.pay.headD (0, false)).2
    let popPay := svalid && r && !s.pay.isEmpty
    let popPar := svalid && slast && r
    let pay1 := if popPay then s.pay.tail else s.pay
    let par1 := if popPar then s.par.tail else s.par
    { pay := if v && qready && pready then pay1 ++ [(t.data.data, t.last)] else pay1
      par := if v && t.last && pready && qready then par1 ++ [t.data.param] else par1 }

/-! ### `buffered=True`: both queues are Migen `SyncFIFOBuffered` (a non-fwft FIFO followed by an output register)

      fifo.re   = fifo.readable & (~readable | re)        -- refill the output register
      readable <= 1 if fifo.re else (0 if re else readable);   dout <= fifo head if fifo.re
      writable  = inner FIFO not full                      -- capacity depth + 1
-/

structure PFBState where
  payQ : List (Nat × Bool)    -- inner payload FIFO
  payV : Bool                 -- payload output register valid (`readable`)
  payD : Nat × Bool           -- payload output register (`dout`)
  parQ : List Nat
  parV : Bool
  parD : Nat
deriving DecidableEq, Repr

def packetFifoBuffered (pd qd : Nat) : Elem PBeat PBeat PFBState where
  init := { payQ := [], payV := false, payD := (0, false), parQ := [], parV := false, parD := 0 }
  fwd s _ _ :=
    (s.parV, { data := { data := s.payD.1, param := s.parD }, first := false, last := s.payD.2 })
  bwd s _ _ _ := s.payQ.length != pd && s.parQ.length != qd
  next s v t r :=
    let pready := s.payQ.length != pd
    let qready := s.parQ.length != qd
    let rePay := s.parV && r                      -- payload_fifo.source.ready
    let rePar := s.parV && s.payD.2 && r          -- param_fifo.source.ready
    let frePay := !s.payQ.isEmpty && (!s.payV || rePay)
    let frePar := !s.parQ.isEmpty && (!s.parV || rePar)
    let payQ1 := if frePay then s.payQ.tail else s.payQ
    let parQ1 := if frePar then s.parQ.tail else s.parQ
    { payQ := if v && qready && pready then payQ1 ++ [(t.data.data, t.last)] else payQ1
      payV := if frePay then true else if rePay then false else s.payV
      payD := if frePay then s.payQ.headD (0, false) else s.payD
      parQ := if v && t.last && pready && qready then parQ1 ++ [t.data.param] else parQ1
      parV := if frePar then true else if rePar then false else s.parV
      parD := if frePar then s.parQ.headD 0 else s.parD }

end Litex.Packet
