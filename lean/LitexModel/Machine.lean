/-
  Synchronous Mealy machines: the common shape of most hardware models in this project (the two-clock models of
  `LitexModel/Cdc` step on schedules of clock edges and have their own run functions).
  `out` is the combinational output in the current cycle (may depend on the current inputs),
  `next` is the register update at the clock edge.
-/
namespace Litex

structure Machine (ι σ ο : Type) where
  init : σ
  out  : σ → ι → ο
  next : σ → ι → σ

namespace Machine
variable {ι σ ο : Type}

/-- State after consuming `ins` from `s`. -/
def runFrom (m : Machine ι σ ο) (s : σ) : List ι → σ
  | [] => s
  | i :: is => runFrom m (m.next s i) is

/-- Outputs cycle by cycle from `s`. -/
def traceFrom (m : Machine ι σ ο) (s : σ) : List ι → List ο
  | [] => []
  | i :: is => m.out s i :: traceFrom m (m.next s i) is

def run (m : Machine ι σ ο) (ins : List ι) : σ := m.runFrom m.init ins
def trace (m : Machine ι σ ο) (ins : List ι) : List ο := m.traceFrom m.init ins

/-- States reachable from reset by some input sequence. -/
def Reachable (m : Machine ι σ ο) (s : σ) : Prop := ∃ ins, m.run ins = s

theorem runFrom_append (m : Machine ι σ ο) (s : σ) (a b : List ι) :
    m.runFrom s (a ++ b) = m.runFrom (m.runFrom s a) b := by
  induction a generalizing s with
  | nil => rfl
  | cons i is ih => simp [runFrom, ih]

theorem traceFrom_length (m : Machine ι σ ο) (s : σ) (ins : List ι) :
    (m.traceFrom s ins).length = ins.length := by
  induction ins generalizing s with
  | nil => rfl
  | cons i is ih => simp [traceFrom, ih]

/-- Induction principle: an invariant that holds initially and is preserved by every step holds in every
    state reached by any input sequence. -/
theorem invariant_runFrom (m : Machine ι σ ο) (Inv : σ → Prop)
    (hstep : ∀ s i, Inv s → Inv (m.next s i)) :
    ∀ (ins : List ι) (s : σ), Inv s → Inv (m.runFrom s ins) := by
  intro ins
  induction ins with
  | nil => intro s h; exact h
  | cons i is ih => intro s h; exact ih _ (hstep s i h)

theorem invariant_reachable (m : Machine ι σ ο) (Inv : σ → Prop)
    (h0 : Inv m.init) (hstep : ∀ s i, Inv s → Inv (m.next s i)) :
    ∀ s, m.Reachable s → Inv s := by
  intro s ⟨ins, h⟩
  rw [← h]
  exact invariant_runFrom m Inv hstep ins m.init h0

/-- Every input of the run from `s` satisfies the (state dependent) environment assumption `ok`. -/
def LegalFrom (m : Machine ι σ ο) (ok : σ → ι → Prop) : σ → List ι → Prop
  | _, [] => True
  | s, i :: is => ok s i ∧ LegalFrom m ok (m.next s i) is

/-- Every cycle of the run from `s` satisfies `good`. -/
def AlwaysFrom (m : Machine ι σ ο) (good : σ → ι → Prop) : σ → List ι → Prop
  | _, [] => True
  | s, i :: is => good s i ∧ AlwaysFrom m good (m.next s i) is

/-- Assume/guarantee induction: an invariant that holds initially, is preserved by every step whose input is
    legal, and implies `good` for every legal input, gives `good` in every cycle of every legal run. -/
theorem always_of_invariant (m : Machine ι σ ο) (ok good : σ → ι → Prop) (Inv : σ → Prop)
    (hstep : ∀ s i, Inv s → ok s i → good s i ∧ Inv (m.next s i)) :
    ∀ (ins : List ι) (s : σ), Inv s → m.LegalFrom ok s ins → m.AlwaysFrom good s ins := by
  intro ins
  induction ins with
  | nil => intro s _ _; trivial
  | cons i is ih =>
    intro s hinv hl
    have h := hstep s i hinv hl.1
    exact ⟨h.1, ih _ h.2 hl.2⟩

/-- The state reached satisfies the invariant as well. -/
theorem invariant_of_legal (m : Machine ι σ ο) (ok : σ → ι → Prop) (Inv : σ → Prop)
    (hstep : ∀ s i, Inv s → ok s i → Inv (m.next s i)) :
    ∀ (ins : List ι) (s : σ), Inv s → m.LegalFrom ok s ins → Inv (m.runFrom s ins) := by
  intro ins
  induction ins with
  | nil => intro s h _; exact h
  | cons i is ih => intro s hinv hl; exact ih _ (hstep s i hinv hl.1) hl.2

end Machine
end Litex
