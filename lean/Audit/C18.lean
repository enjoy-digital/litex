import LitexProps.C18
-- generated by harness/runner.py from the theorem list of LitexProps/C18.lean
#print axioms Litex.C18.m_minimal
#print axioms Litex.C18.position_fits_syndrome
#print axioms Litex.C18.check_positions
#print axioms Litex.C18.cover_eq_filter
#print axioms Litex.C18.data_positions
#print axioms Litex.C18.data_positions_count
#print axioms Litex.C18.m_unique
#print axioms Litex.C18.code_length
#print axioms Litex.C18.syndrome_zero
#print axioms Litex.C18.syndrome_single
#print axioms Litex.C18.no_error_clean
#print axioms Litex.C18.sec_correct
#print axioms Litex.C18.at_most_one_error
#print axioms Litex.C18.ded_detect
#print axioms Litex.C18.disabled_passthrough
#print axioms Litex.C18.disabled_roundtrip
#print axioms Litex.C18.parity_bit_error
#print axioms Litex.C18.syndrome_check_bit
#print axioms Litex.C18.flags_any_errors
#print axioms Litex.C18.triple_error
#print axioms Litex.C18.flip_is_xor_one_shl
#print axioms Litex.C18.sec_correct_value
#print axioms Litex.C18.roundtrip_value
#print axioms Litex.C18.sec_correct_driver
#print axioms Litex.C18.ded_detect_driver
#print axioms Litex.C18.disabled_passthrough_value
#print axioms Litex.C18.loopback_clean
#print axioms Litex.C18.loopback_single
#print axioms Litex.C18.loopback_double
#print axioms Litex.C18.generated_tables_match
#print axioms Litex.C18.generated_tables_property
