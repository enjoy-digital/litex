import LitexProps.C07
-- generated by harness/runner.py from the theorem list of LitexProps/C07.lean
#print axioms Litex.C07.mem_last_enabled_write_wins
#print axioms Litex.C07.sram_refines_mem
#print axioms Litex.C07.sram_ro_ignores_writes
#print axioms Litex.C07.sram_one_ack_per_request
#print axioms Litex.C07.sram_burst_refines_mem_partial
#print axioms Litex.C07.sram_burst_waits_refines_mem_partial
#print axioms Litex.C07.burstMaster_is_burstMasterW
#print axioms Litex.C07.down_refines
#print axioms Litex.C07.up_refines
#print axioms Litex.C07.down_ack_iff
#print axioms Litex.C07.remap_refines
#print axioms Litex.C07.remap_origin_mask
#print axioms Litex.C07.remap_region
#print axioms Litex.C07.remap_region_test_exact
#print axioms Litex.C07.wb2csr_refines_partial
#print axioms Litex.C07.cache_refines_mem_partial
#print axioms Litex.C07.cache_fmap_id
#print axioms Litex.C07.cache_refines_after_warmup
#print axioms Litex.C07.down_ack_within
#print axioms Litex.C07.up_ack_same_cycle
#print axioms Litex.C07.remap_ack_same_cycle
#print axioms Litex.C07.wb2csr_on_ack_latency
#print axioms Litex.C07.wb2csr_ack_latency
#print axioms Litex.C07.cache_hit_ack
#print axioms Litex.C07.cache_ack_within
#print axioms Litex.C07.down_over_sram_refines
#print axioms Litex.C07.down_burst_over_sram_refines
#print axioms Litex.C07.down_burst_waits_over_sram_refines
#print axioms Litex.C07.up_over_sram_refines
#print axioms Litex.C07.remap_over_sram_refines
#print axioms Litex.C07.cache_over_sram_refines_partial
#print axioms Litex.C07.cache_over_down_refines_partial
#print axioms Litex.C07.wb2csr_over_csrbank_refines_partial
#print axioms Litex.C07.wb2csr_over_side_refines_partial
#print axioms Litex.C07.down_over_addressing_refines
#print axioms Litex.C07.up_over_addressing_refines
#print axioms Litex.C07.glue_byte_address
