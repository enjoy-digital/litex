import LitexProps.C19
-- generated by harness/runner.py from the theorem list of LitexProps/C19.lean
#print axioms Litex.C19.timer_oneshot
#print axioms Litex.C19.timer_counts
#print axioms Litex.C19.timer_periodic
#print axioms Litex.C19.timer_latch
#print axioms Litex.C19.timer_full_waveform
#print axioms Litex.C19.timer_disabled_holds_load
#print axioms Litex.C19.timer_update_latch_any
#print axioms Litex.C19.timer_uptime
#print axioms Litex.C19.watchdog_counts
#print axioms Litex.C19.watchdog_feed
#print axioms Litex.C19.watchdog_feed_clears
#print axioms Litex.C19.watchdog_paused
#print axioms Litex.C19.watchdog_reset_delay
#print axioms Litex.C19.watchdog_no_spurious_reset
#print axioms Litex.C19.watchdog_timeout_exact
#print axioms Litex.C19.waittimer_done_iff
#print axioms Litex.C19.timeline_sequence
#print axioms Litex.C19.pwm_wave
#print axioms Litex.C19.pwm_duty
#print axioms Litex.C19.pwm_period_zero_one
#print axioms Litex.C19.pwm_width_corners
#print axioms Litex.C19.pwm_disable_reset
#print axioms Litex.C19.pwm_exact_waveform
#print axioms Litex.C19.pwm_out_of_range
#print axioms Litex.C19.multichannel_pwm
#print axioms Litex.C19.phase_accum
#print axioms Litex.C19.uart_tx_frame
#print axioms Litex.C19.uart_tx_finishes
#print axioms Litex.C19.uart_tx_idle_high
#print axioms Litex.C19.uart_rx_sample_points
#print axioms Litex.C19.uart_rx_frame
#print axioms Litex.C19.uart_rx_recovers_partial
#print axioms Litex.C19.uart_rx_pad_recovers_partial
#print axioms Litex.C19.uart_rx_tolerates_general
#print axioms Litex.C19.uart_rx_tolerates_general_idle
#print axioms Litex.C19.uart_rx_tolerates_2pct_10
#print axioms Litex.C19.uart_rx_tolerates_2pct
#print axioms Litex.C19.uart_rx_end_to_end
#print axioms Litex.C19.uart_rx_end_to_end_any
#print axioms Litex.C19.uart_loopback_partial
#print axioms Litex.C19.uart_loopback_aligned_partial
#print axioms Litex.C19.uart_top_no_loss_in_order
#print axioms Litex.C19.uart_sys_tx_once
#print axioms Litex.C19.phy_mux_routes
#print axioms Litex.C19.uart_mux_routes
#print axioms Litex.C19.phy_model_wires
#print axioms Litex.C19.uart_auto_flush_transparent
#print axioms Litex.C19.uart_auto_flush_drop_rate
#print axioms Litex.C19.uart_auto_flush_drains
#print axioms Litex.C19.uart_auto_flush_unblocks
#print axioms Litex.C19.uart_auto_flush_exactly_once
#print axioms Litex.C19.uart_auto_flush_exactly_once_reset
#print axioms Litex.C19.uart_crossover_no_loss
#print axioms Litex.C19.bitslip_shift
#print axioms Litex.C19.displacer_places
#print axioms Litex.C19.chooser_displacer
#print axioms Litex.C19.split_concat
#print axioms Litex.C19.bone_write_burst
#print axioms Litex.C19.bone_write_access
#print axioms Litex.C19.bone_read_burst
#print axioms Litex.C19.bone_read_access
#print axioms Litex.C19.bone_read_bytes
#print axioms Litex.C19.bone_bad_cmd
#print axioms Litex.C19.bone_no_timeout
#print axioms Litex.C19.bone_never_stuck
#print axioms Litex.C19.spi_master_start
#print axioms Litex.C19.spi_master_xfer
#print axioms Litex.C19.i2c_legal
#print axioms Litex.C19.i2c_command_ticks
#print axioms Litex.C19.i2c_returns_idle
#print axioms Litex.C19.spi_master_pulse_count
#print axioms Litex.C19.spi_slave_xfer
#print axioms Litex.C19.i2c_write_sequence
#print axioms Litex.C19.i2c_pad_legal
#print axioms Litex.C19.spi_master_idle_inv
#print axioms Litex.C19.spi_master_cs_lines
#print axioms Litex.C19.spi_slave_pads
#print axioms Litex.C19.spi_master_any_options
#print axioms Litex.C19.spi_master_terminates_exactly
#print axioms Litex.C19.spi_master_loopback
#print axioms Litex.C19.bitbang_i2c_wiring
#print axioms Litex.C19.bitbang_i2c_sim_wiring
#print axioms Litex.C19.bitbang_spi_wiring
#print axioms Litex.C19.shiftIn_word
#print axioms Litex.C19.spi_slave_capture
#print axioms Litex.C19.spi_slave_miso_sequence
#print axioms Litex.C19.i2c_read_sequence
#print axioms Litex.C19.i2c_start_stop_sequences
#print axioms Litex.C19.i2c_step_timing
#print axioms Litex.C19.i2c_command_exact_cycles
#print axioms Litex.C19.i2c_master_registers
#print axioms Litex.C19.spi_master_bad_length_stuck
#print axioms Litex.C19.i2c_pad_follows_machine
#print axioms Litex.C19.spi_link_mosi
#print axioms Litex.C19.spi_link_slave_idle
#print axioms Litex.C19.spi_link_miso_partial
#print axioms Litex.C19.spi_link_served
#print axioms Litex.C19.spi_slave_word_stable_while_deselected
