import LitexProps.C12
-- generated by harness/runner.py from the theorem list of LitexProps/C12.lean
#print axioms Litex.C12.addresses_injective
#print axioms Litex.C12.addresses_injective_banks
#print axioms Litex.C12.decode_exact
#print axioms Litex.C12.bank_write_exact
#print axioms Litex.C12.bank_access_elsewhere_no_effect
#print axioms Litex.C12.bank_read_side_effect_free
#print axioms Litex.C12.bank_atomic_stage
#print axioms Litex.C12.bank_atomic_commit
#print axioms Litex.C12.bank_atomic_all_at_once_partial
#print axioms Litex.C12.bank_read_next_cycle
#print axioms Litex.C12.bank_read_storage
#print axioms Litex.C12.bank_unselected_zero
#print axioms Litex.C12.strobe_single_cycle
#print axioms Litex.C12.out_reg
#print axioms Litex.C12.read_strobe_exact
#print axioms Litex.C12.raw_strobes_exact
#print axioms Litex.C12.status_write_exact
#print axioms Litex.C12.strobe_history
#print axioms Litex.C12.strobe_reset
#print axioms Litex.C12.read_history
#print axioms Litex.C12.write_then_read
#print axioms Litex.C12.storage_in_range
#print axioms Litex.C12.storage_reset
#print axioms Litex.C12.bus_write_overrides_device_write
#print axioms Litex.C12.device_write_alone
#print axioms Litex.C12.field_offsets
#print axioms Litex.C12.field_overlap_rejected
#print axioms Litex.C12.field_values
#print axioms Litex.C12.field_plain_value
#print axioms Litex.C12.pulse_field_one_cycle
#print axioms Litex.C12.field_access_status
#print axioms Litex.C12.field_access_storage
#print axioms Litex.C12.field_access_pulse_partial
#print axioms Litex.C12.field_names_unique
#print axioms Litex.C12.status_fields_bits
#print axioms Litex.C12.fields_reset_bits
#print axioms Litex.C12.unselected_slaves_drive_zero
#print axioms Litex.C12.shared_or_bus
#print axioms Litex.C12.bank_select_exclusive
#print axioms Litex.C12.shared_or_bus_idle
#print axioms Litex.C12.shared_idle_masters_transparent
#print axioms Litex.C12.sram_unselected
#print axioms Litex.C12.sram_write_exact
#print axioms Litex.C12.sram_read_side_effect_free
#print axioms Litex.C12.sram_write_read
#print axioms Litex.C12.sram_paged_address
#print axioms Litex.C12.sram_staging_order_any_ratio
#print axioms Litex.C12.sram_init
#print axioms Litex.C12.sram_read_only_history
#print axioms Litex.C12.sram_word_stable
#print axioms Litex.C12.sram_write_quiet_read
#print axioms Litex.C12.sorted_items
#print axioms Litex.C12.sorted_items_partial
#print axioms Litex.C12.sorted_items_rejects_n_eq_len
#print axioms Litex.C12.gather_creation_order
#print axioms Litex.C12.gather_names_injective
#print axioms Litex.C12.gather_sorted_fixed
#print axioms Litex.C12.interface_like_carries_widths
#print axioms Litex.C12.glue_transparent
#print axioms Litex.C12.glue_transparent_direct
#print axioms Litex.C12.bank_unselected_no_effect
#print axioms Litex.C12.glue_access_reaches_exactly_addressed_bank
#print axioms Litex.C12.glue_no_alias
#print axioms Litex.C12.soc_locations
#print axioms Litex.C12.scan_banks
#print axioms Litex.C12.scan_keeps_registers
#print axioms Litex.C12.scan_page_link
#print axioms Litex.C12.scan_constants_complete
