import LitexProps.C17
-- generated by harness/runner.py from the theorem list of LitexProps/C17.lean
#print axioms Litex.C17.roundtrip
#print axioms Litex.C17.roundtrip_seq
#print axioms Litex.C17.disparity_step
#print axioms Litex.C17.running_disparity_bound
#print axioms Litex.C17.word_disparity_alternates
#print axioms Litex.C17.run_length_5
#print axioms Litex.C17.no_false_comma
#print axioms Litex.C17.comma_aligned_partial
#print axioms Litex.C17.comma_across_exact
#print axioms Litex.C17.comma_at_comma_symbols
#print axioms Litex.C17.invalid_ones
#print axioms Litex.C17.code_words
#print axioms Litex.C17.invalid_sound
#print axioms Litex.C17.invalid_complete_partial
#print axioms Litex.C17.encoderN_chain
#print axioms Litex.C17.decoder_ce_roundtrip
#print axioms Litex.C17.lsb_first_order
#print axioms Litex.C17.encoderN_iterated
#print axioms Litex.C17.streamDecoder_token_rel
#print axioms Litex.C17.streamEncoder_decodable
#print axioms Litex.C17.stream_roundtrip
#print axioms Litex.C17.stream_disparity_partial
#print axioms Litex.C17.stream_comma_aligned_partial
#print axioms Litex.C17.netlist_single_encoder
#print axioms Litex.C17.netlist_decoder
#print axioms Litex.C17.netlist_encoder_chain
#print axioms Litex.C17.tables_construction
