import LitexProofs.Bridge.Axl2Wb
import LitexProofs.Bridge.Wb2Axl
import LitexProofs.Bridge.Simple
import LitexProofs.Bridge.Down
import LitexProofs.Bridge.DownOpen
import LitexProofs.Bridge.DownBytes
import LitexProofs.Bridge.Up
import LitexProofs.Bridge.Ahb2Wb
import LitexProofs.Bridge.Axi2Axl
import LitexProofs.Bridge.Adapter
import LitexProofs.Bridge.Legal
import LitexModel.Bridge.NumChain
/-
  C09 — Bus bridges and AXI-Lite converters preserve memory semantics and protocol rules.

  Models (`LitexModel/Bridge/*`): one Mealy machine per bridge with BOTH sides open (inputs = what the bus master
  drives and what the slave-side partner drives, per cycle).  Specification (`LitexModel/Bridge/Spec.lean`):
    * `AxlGhost` / `WbGhost` — observers fed with the port signals of each cycle only: which valids must be
      repeated (`reqHeld`, `rspHeld`), which requests are pending, and the reference byte memory `ref` the master
      is entitled to (`memOk`: one response per request, read data = reference content, a write reaches the
      reference at its OKAY response);
    * `wbMemRsp/wbMemNext`, `AxlMem` — memory-behaved partners whose latency (and, for AXI-Lite, acceptance order,
      internal execution time, response time, queue depth) is chosen by an oracle input every cycle.
  Quantifiers: the theorems about runs (`…_refines_mem`, `…_stable…`, `…_fair`, `…_partial`, the chain) are for ALL
  input sequences `ins` (induction over the run), i.e. all transaction histories, all master timings allowed by the
  environment assumption named in the statement — `reqHeld` (a presented request is repeated until accepted) for the
  AXI-Lite and Wishbone masters, and where the code needs more, `Up.serial`, `Axi2Axl.singleOutstanding` / `wellBehaved`,
  `Ahb2Wb.masterOk` —, all partner latencies/timings, and all configurations (address width, lane count, address
  shift, base address are variables).  The others speak of every state and every input of one cycle (`wb2axl_err`,
  `…_as_built`, `…_passthrough`, `…_wiring`) or of the adapter selection.
-/
/-
  INVENTORY of the anchored code.  "tie": A = exhaustive product co-exploration of model and netlist with
  both sides open, B = seeded lock-step co-simulation with protocol environments, D = differential over an enumerated
  grid of constructor arguments, M = model-independent monitors only (flat memory / stability / errors / bursts /
  progress).

  file / class or function                     | Lean model                           | theorems                                   | tie
  ---------------------------------------------+--------------------------------------+--------------------------------------------+------
  axi_lite_to_wishbone.py
    AXILite2Wishbone                           | Bridge/Axl2Wb (+ Closed: sys/osys/   | axl2wb_refines_mem, _valid_stable, _fair,  | A B M
                                               |  fsys)                               |  _err_partial (+ negative witness)         |
    Wishbone2AXILite                           | Bridge/Wb2Axl                        | wb2axl_refines_mem, _valid_stable, _err,   | A B M
                                               |                                      |  _base_address                             |
  axi_full_to_axi_lite.py
    AXI2AXILite                                | Bridge/Axi2Axl (AXIBurst2Beat: C10's | axi2axl_read_burst_partial, _bursts_partial| A B M
                                               |  Litex.Axi.b2b*)                     |  (3 negative witnesses), _as_built         |
    AXILite2AXI (write_id/read_id/prot/burst)  | Bridge/Axi2Axl: Axl2Axi (stateless)  | axl2axi_wiring (every input, all params)   | B M
  axi_full_to_wishbone.py
    AXI2Wishbone                               | composition numAxi2Wb (Num.lean)     | per-element theorems; byte map             | A B M
    Wishbone2AXI                               | composition numWb2Axi                |  adapter_elem_preserves_byte               | A B M
  axi_lite_to_csr.py
    AXILite2CSR (register=False/True unused)   | Bridge/Simple: Axl2Csr               | axl2csr_refines_regs                       | A B M
  axi_lite.py
    ax/w/b/r_lite_description, AXILiteInterface| port records Ports.lean (widths =    | -                                          | field widths checked (c09lib.field_widths)
                                               |  harness parameters)                 |                                            |
    AXILiteInterface.write/read (sim helpers)  | not modelled (test-bench generators) | -                                          | -
    AXILiteRemapper                            | not modelled (C13/C14: address maps) | -                                          | -
    axi_lite_to_simple                         | Bridge/Simple                        | axlsram_refines_mem, axl2csr_refines_regs  | A B M
    AXILiteSRAM (size / Memory / default bus,  | Bridge/Simple: AxlSram, Closed:      | axlsram_refines_mem                        | A B M
      read_only)                               |  AxlSramM                            |                                            |
    _AXILiteDownConverterWrite                 | Bridge/Down: DownW                   | axldown_write_refines_mem,                 | A B M
                                               |                                      |  _write_stable_sticky, _reference_is_byte_ |
                                               |                                      |  memory, axldown_rw_* (reads + writes      |
                                               |                                      |  interleaved)                              |
    _AXILiteDownConverterRead                  | Bridge/Down: DownR                   | axldown_read_refines_mem,                  | A B M
                                               |                                      |  _read_stable_sticky, axldown_rw_*         |
    AXILiteDownConverter                       | Down.machine (product)               | axldown_rw_* over ONE shared memory        | A B M
    AXILiteUpConverter                         | Bridge/Up                            | axlup_lane_partial (+ negative witness),   | A B M
                                               |                                      |  axlup_passthrough                         |
    AXILiteConverter (down / up / direct)      | Adapter.converterChoice              | converter_choice_total                     | D B M
    AXILiteClockDomainCrossing                 | not here (C05: CDC)                  | -                                          | -
    AXILiteTimeout, _AXILiteRequestCounter,    | not here (C08 interconnect, C11      | -                                          | -
      AXILiteArbiter, AXILiteDecoder,          |  timeouts)                           |                                            |
      AXILiteInterconnect*, AXILiteCrossbar    |                                      |                                            |
  ahb.py
    AHBTransferType, ahb_description,          | constants / port record in           | -                                          | A B
      AHBInterface                             |  Bridge/Ahb2Wb                       |                                            |
    AHB2Wishbone                               | Bridge/Ahb2Wb                        | ahb2wb_sel_table, _refines_mem, _resp      | A B M
  soc.py
    SoCBusHandler.add_adapter                  | Bridge/Adapter: adapterChain         | adapter_result_is_bus,                     | D (all combinations) + B M
      bus_data_width_convert                   |   widthStep                          |  adapter_chain_linked,                     |  on 20 built chains
      bus_addressing_convert                   |   addrStep (+ elemByte wbAddressing) |  adapter_elem_preserves_byte,              | D + netlist wiring
      bus_standard_convert                     |   stdStep, bridgeOf                  |  adapter_chain_preserves_bytes             | D
    (wishbone.Converter, AXIConverter: C07/C10;| elemByte: their byte maps only       |  (same theorems)                           | D (wishbone.Converter byte map)
      selected here)                           |                                      |                                            |
    chain AXILiteDownConverter ; AXILite2Wishbone | Chain.machine / Chain.sys (ClosedChain,  | chain_down_axl2wb_protocol (any Wishbone   | B (real add_adapter chain
      (built by add_adapter, axi-lite/wide ->  |  NumChain)                           |  partner, all ports), chain_sys_is_tied_   |  vs composite) M
      wishbone/narrow)                         |                                      |  machine                                   |
  Cycle-level composition is proved for ONE chain shape (down-converter ; AXILite2Wishbone: protocol legality on every
  port for any Wishbone partner).  For the other chains the chain theorem is at the transaction level (which byte of
  the flat memory a byte lane of a master transfer is carried to) and the protocol interplay of the composed elements
  is tied by monitors on the built chains.  Not done: AXILite2CSR over the C12 bank model (the bank truncates and
  splits registers into words; it does not refine the simple register file of axl2csr_refines_regs without a new
  abstraction); memory refinement (data) of a composed chain at cycle level.
-/
namespace Litex.C09
open Litex Litex.Bridge

section Axl2WbThms
variable (c : A2WCfg)

/-- AXILite2Wishbone in front of a Wishbone byte memory of arbitrary latency: for every
    behaviour of a protocol-following AXI-Lite master and every latency choice of the memory, in every cycle
    (1) presented B / R responses are repeated unchanged until taken,
    (2) a response is only presented for an accepted request, a second request is never accepted while one is
        pending, and read data is the reference content of word `(addr - base)[shift:]` (`AxlGhost.memOk`),
    (3) the memory behind the bridge equals the master's reference memory except while the response of a
        performed write is still pending. -/
theorem axl2wb_refines_mem (mem0 : Mem) (ins : List (AxlM × WbOracle)) :
    let S := Axl2Wb.sys c mem0
    S.LegalFrom (fun s i => s.g.reqHeld i.1) S.init ins →
    S.AlwaysFrom (fun s i =>
        s.g.rspHeld (S.out s i).1 ∧ s.g.memOk (byteRd c.nb (Axl2Wb.wbAdr c)) i.1 (S.out s i).1 ∧
        (s.br.st ≠ .sendB → s.mem = s.g.ref)) S.init ins := by
  intro S
  refine Machine.always_of_invariant S _ _ (Axl2Wb.Inv c) (fun s i hinv hok => ?_) ins S.init ?_
  · exact Axl2Wb.step c s i hinv hok
  · simp [S, Axl2Wb.sys, Axl2Wb.Inv, Axl2Wb.init, AxlGhost.init]

/-- Whatever the Wishbone partner answers (arbitrary `ack`/`dat_r`/`err`
    every cycle), with a protocol-following AXI-Lite master: a presented Wishbone request (`cyc ∧ stb`, `we`,
    `adr`, `sel`, `dat_w`) is repeated unchanged until the cycle of its `ack`, and presented B / R responses are
    repeated unchanged until taken. -/
theorem axl2wb_valid_stable (ins : List (AxlM × WbS)) :
    let S := Axl2Wb.osys c
    S.LegalFrom (fun s i => s.g.reqHeld i.1) S.init ins →
    S.AlwaysFrom (fun s i => s.h.reqHeld (S.out s i).2 ∧ s.g.rspHeld (S.out s i).1) S.init ins := by
  intro S
  refine Machine.always_of_invariant S _ _ (fun s => Axl2Wb.OInv c s.br s.g s.h)
    (fun s i hinv hok => Axl2Wb.ostep c s.br s.g s.h i.1 i.2 hinv hok) ins S.init ?_
  exact Axl2Wb.oinv_init c _

/-- For any partner and any protocol-following master: while a read address is
    waiting, at most one write transaction is started before it (`wOver ≤ 1`), and symmetrically. -/
theorem axl2wb_fair (ins : List (AxlM × WbS)) :
    let S := Axl2Wb.fsys c
    S.LegalFrom (fun s i => s.g.reqHeld i.1) S.init ins →
    (S.runFrom S.init ins).wOver ≤ 1 ∧ (S.runFrom S.init ins).rOver ≤ 1 := by
  intro S hl
  have h := Machine.invariant_of_legal S _ Axl2Wb.FInv (fun s i hinv hok => Axl2Wb.fstep c s i hinv hok) ins S.init
    (by simp [S, Axl2Wb.fsys, Axl2Wb.FInv, Axl2Wb.init, AxlGhost.init]) hl
  exact ⟨h.1, h.2.1⟩

/-- Non-vacuity: a write of 0xAB to address 5 (base 4, byte-wide bus) by a master that holds its requests, memory
    acknowledging at once: the run is legal, ends idle, and the memory behind the bridge holds the byte. -/
example :
    let c : A2WCfg := { aw := 4, nb := 1, shift := 0, base := 4 }
    let S := Axl2Wb.sys c (fun _ => 0)
    let w : AxlM := { AxlM.idle with awvalid := true, awaddr := 5, wvalid := true, wdata := 0xAB, wstrb := 1, bready := true }
    let ins : List (AxlM × WbOracle) := [(w, ⟨true, 0⟩), (w, ⟨true, 0⟩), ({ AxlM.idle with bready := true }, ⟨false, 0⟩)]
    S.LegalFrom (fun s i => s.g.reqHeld i.1) S.init ins ∧ (S.runFrom S.init ins).br.st = .idle ∧
      (S.runFrom S.init ins).mem 1 = 0xAB := by
  exact ⟨Machine.legal_of_legalB _ _ (fun s i => Down.reqHeldB s.g i.1) (fun s i h => Down.reqHeld_of_B s.g i.1 h) _ _
    (by decide), by decide, by decide⟩

/-- FULL STATEMENT (false on the code, finding C09-axil2wb-err-ignored):
      a Wishbone cycle terminated with `ack ∧ err` is answered on AXI-Lite with a response ≠ OKAY.
    The code never reads `wishbone.err`.  What holds: every response the bridge gives is OKAY, which is the right
    answer exactly when the partner never raises `err` — the hypothesis of `axl2wb_refines_mem` (`wbMemRsp` has
    `err = false`). -/
theorem axl2wb_err_partial (s : A2WState) (m : AxlM) (r : WbS) :
    (Axl2Wb.toMaster s m r).bresp = respOkay ∧ (Axl2Wb.toMaster s m r).rresp = respOkay := by
  cases h : s.st <;> simp [Axl2Wb.toMaster, h, AxlS.idle, respOkay]

/-- Negative witness: a read acknowledged with `err` is answered `r.valid ∧ r.resp = OKAY`. -/
example :
    let c : A2WCfg := { aw := 32, nb := 4, shift := 2, base := 0 }
    let S := Axl2Wb.machine c
    let rd : AxlM := { AxlM.idle with arvalid := true, araddr := 0x10, rready := true }
    let s := S.runFrom S.init [(rd, WbS.idle), (rd, { ack := true, datr := 0xDEAD, err := true })]
    (S.out s (AxlM.idle, WbS.idle)).1.rvalid = true ∧ (S.out s (AxlM.idle, WbS.idle)).1.rresp = respOkay := by
  decide

/-- Why `reqHeld` (a presented W is held until taken — AXI A3.2.1) is an assumption of every theorem about
    `AXILite2Wishbone`, not a finding: a master that WITHDRAWS `w.valid` in the cycle a registered-ack Wishbone slave
    (`wishbone.SRAM`) acknowledges sees `aw.ready ∧ w.ready` with `w.valid = 0` — the address is consumed without its
    data (behind `AXI2AXILite` the W beats then pair with the wrong AW beats and the last one is never accepted).
    The run violates `reqHeld` in its third cycle. -/
example :
    let c : A2WCfg := { aw := 32, nb := 4, shift := 2, base := 0 }
    let S := Axl2Wb.osys c
    let aww : AxlM := { AxlM.idle with awvalid := true, awaddr := 0x10, wvalid := true, wdata := 7, wstrb := 15 }
    let awo : AxlM := { aww with wvalid := false }
    let s := S.runFrom S.init [(aww, WbS.idle), (aww, WbS.idle)]
    let o := S.out s (awo, { ack := true, datr := 0, err := false })
    (S.out s (aww, WbS.idle)).2.stb = true ∧ o.1.awready = true ∧ o.1.wready = true ∧
    (S.next s (awo, { ack := true, datr := 0, err := false })).br.st = .sendB ∧ ¬ s.g.reqHeld awo := by
  refine ⟨by decide, by decide, by decide, by decide, ?_⟩
  intro h
  have := (h.2.1 (7, 15) (by decide)).1
  exact absurd this (by decide)

end Axl2WbThms

section Wb2AxlThms
variable (c : W2ACfg) (nb : Nat)

/-- Wishbone2AXILite in front of an AXI-Lite byte memory that may accept requests early
    or late, execute them after any delay and present responses after any further delay (all chosen by the
    oracle input, cycle by cycle): for every classic Wishbone master, every `ack` answers a presented strobe,
    a read `ack` carries the reference content of the addressed word, a write reaches the reference memory at
    its `ack`, and between bus cycles the memory behind the bridge equals the reference memory.
    The addressed word is `axAddr c adr / nb`, the byte address minus the base (`wb2axl_base_address`). -/
theorem wb2axl_refines_mem (mem0 : Mem) (ins : List (WbM × AxlOracle)) :
    let S := Wb2Axl.sys c nb mem0
    S.LegalFrom (fun s i => s.g.reqHeld i.1) S.init ins →
    S.AlwaysFrom (fun s i =>
        s.g.memOk nb (Wb2Axl.amap c nb) i.1 (S.out s i).1 ∧ (s.br.st = .idle → s.p.mem = s.g.ref)) S.init ins := by
  intro S
  refine Machine.always_of_invariant S _ _ (Wb2Axl.Inv c nb) (fun s i hinv hok => ?_) ins S.init ?_
  · exact Wb2Axl.step c nb s i hinv hok
  · simp [S, Wb2Axl.sys, Wb2Axl.Inv, Wb2Axl.init, AxlMem.init, WbGhost.init]

/-- Whatever the AXI-Lite partner does (arbitrary readies, valids, responses
    every cycle — legal or not), with a classic Wishbone master: AW, W and AR, once presented, are repeated with
    unchanged address / data / strobe until the cycle of their ready. -/
theorem wb2axl_valid_stable (ins : List (WbM × AxlS)) :
    let S := Wb2Axl.osys c
    S.LegalFrom (fun s i => s.g.reqHeld i.1) S.init ins →
    S.AlwaysFrom (fun s i => s.h.reqHeld (S.out s i).2) S.init ins := by
  intro S
  refine Machine.always_of_invariant S _ _ (Wb2Axl.OInv c) (fun s i hinv hok => ?_) ins S.init ?_
  · exact Wb2Axl.ostep c s i hinv hok
  · simp [S, Wb2Axl.osys, Wb2Axl.OInv, Wb2Axl.init, AxlGhost.init]

/-- **Error propagation** (every state, every input).  `err` is raised exactly in the ERROR state and always with
    `ack`; a non-OKAY B or R taken by the bridge leads to ERROR without acknowledging, an OKAY one acknowledges
    without `err` in the same cycle (a read with the partner's data). -/
theorem wb2axl_err (s : W2AState) (m : WbM) (r : AxlS) :
    (((Wb2Axl.toMaster s m r).err = true ↔ s.st = .error) ∧ (s.st = .error → (Wb2Axl.toMaster s m r).ack = true)) ∧
    (s.st = .write → r.bvalid = true → (Wb2Axl.toSlave c s m).bready = true →
      (r.bresp ≠ respOkay → (Wb2Axl.next s m r).st = .error ∧ (Wb2Axl.toMaster s m r).ack = false) ∧
      (r.bresp = respOkay → (Wb2Axl.toMaster s m r).ack = true ∧ (Wb2Axl.toMaster s m r).err = false)) ∧
    (s.st = .read → r.rvalid = true → (Wb2Axl.toSlave c s m).rready = true →
      (r.rresp ≠ respOkay → (Wb2Axl.next s m r).st = .error ∧ (Wb2Axl.toMaster s m r).ack = false) ∧
      (r.rresp = respOkay → (Wb2Axl.toMaster s m r).ack = true ∧ (Wb2Axl.toMaster s m r).err = false ∧
        (Wb2Axl.toMaster s m r).datr = r.rdata)) := by
  refine ⟨?_, fun hs hv hr => ?_, fun hs hv hr => ?_⟩
  · cases h : s.st <;> simp [Wb2Axl.toMaster, h, WbS.idle]
  -- `b.ready` / `r.ready` of the bridge mean that the request has been handed over (`cmdDone`, `dataDone`)
  · simp [Wb2Axl.toSlave, hs] at hr
    constructor <;> intro hb <;> simp [Wb2Axl.next, Wb2Axl.toMaster, hs, hv, hr, hb]
  · simp [Wb2Axl.toSlave, hs] at hr
    constructor <;> intro hb <;> simp [Wb2Axl.next, Wb2Axl.toMaster, hs, hv, hr, hb]

/-- **Base address** (all word sizes, both addressings; the code at 8039af6).  For a base address aligned to the
    bus word, the AXI-Lite address is the Wishbone byte address minus `base_address`, modulo the address width.
    (What this excludes is finding C09-wb2axil-base-address-dw64: `base_address // 4` subtracted from the word address
    whatever the word size — 64-bit bus, base 0x1000, byte address 0x1018 went out as 0xfffff018.) -/
theorem wb2axl_base_address (hb : c.base % 2 ^ c.shift = 0) (adr : Nat) :
    Wb2Axl.axAddr c adr = subTrunc (c.adrBits + c.shift) (adr * 2 ^ c.shift) c.base := by
  unfold Wb2Axl.axAddr
  rw [Wb2Axl.subTrunc_scale, Nat.div_mul_cancel (Nat.dvd_of_mod_eq_zero hb)]

/-- The witness of the fixed finding gives the right address: 64-bit bus (`shift = 3`, 29 word-address
    bits), base 0x1000, byte address 0x1018 (word 0x203) goes out as 0x18. -/
example :
    let c : W2ACfg := { adrBits := 29, shift := 3, base := 0x1000 }
    Wb2Axl.axAddr c 0x203 = 0x18 ∧ c.base % 2 ^ c.shift = 0 := by decide

/-- Non-vacuity of `wb2axl_refines_mem`: a held write of 0x5A to word 3, partner accepting and executing at once;
    the run is legal, the bus cycle completes and the partner memory holds the byte. -/
example :
    let c : W2ACfg := { adrBits := 4, shift := 0, base := 0 }
    let S := Wb2Axl.sys c 1 (fun _ => 0)
    let w : WbM := { cyc := true, stb := true, we := true, adr := 3, sel := 1, datw := 0x5A }
    let o : AxlOracle := ⟨true, true, true, true, true, true, true⟩
    let ins : List (WbM × AxlOracle) := [(w, o), (w, o), (w, o), (w, o)]
    S.LegalFrom (fun s i => s.g.reqHeld i.1) S.init ins ∧ (S.runFrom S.init ins).br.st = .idle ∧
      (S.runFrom S.init ins).p.mem 3 = 0x5A ∧ (S.runFrom S.init ins).g.ref 3 = 0x5A := by
  refine ⟨?_, by decide, by decide, by decide⟩
  simp [Machine.LegalFrom, Wb2Axl.sys, Wb2Axl.sysOut, Wb2Axl.init, Wb2Axl.next, Wb2Axl.toSlave, Wb2Axl.toMaster,
    WbGhost.reqHeld, WbGhost.next, WbGhost.init, WbS.idle, AxlMem.init, AxlMem.out, WbM.active, respOkay]

end Wb2AxlThms

section SimpleThms
variable (c : SimpleCfg)

/-- **AXILiteSRAM is a flat byte memory.**  For every behaviour of a protocol-following AXI-Lite master
    (AW before/after/with W, reads and writes presented concurrently, responses taken late): responses are
    repeated until taken, one response per request, read data is the reference content of word
    `addr[shift:] mod 2^adrBits`, a write reaches the reference at its response, and the storage equals the
    reference memory except while the response of a performed write is pending. -/
theorem axlsram_refines_mem (mem0 : Mem) (ins : List AxlM) :
    let S := AxlSramM.sys c mem0
    S.LegalFrom (fun s m => s.g.reqHeld m) S.init ins →
    S.AlwaysFrom (fun s m =>
        s.g.rspHeld (S.out s m) ∧ s.g.memOk (byteRd c.nb (Simple.portAdrOf c)) m (S.out s m) ∧
        (s.fe.st ≠ .sendB → s.mem = s.g.ref)) S.init ins := by
  intro S
  refine Machine.always_of_invariant S _ _ (AxlSramM.Inv c) (fun s i hinv hok => ?_) ins S.init ?_
  · exact AxlSramM.step c s i hinv
  · exact Simple.feInv_init c _ _ mem0 _

/-- **AXILite2CSR gives register semantics.**  In front of a register file that answers like a CSR bank (read
    data one cycle after the address): one response per request, read data is the reference value of register
    `addr[shift:]`, a write with any strobe bit replaces the whole register (an all-zero strobe writes nothing)
    and reaches the reference at its response. -/
theorem axl2csr_refines_regs (regs0 : Axl2Csr.Regs) (ins : List AxlM) :
    let S := Axl2Csr.sys c regs0
    S.LegalFrom (fun s m => s.g.reqHeld m) S.init ins →
    S.AlwaysFrom (fun s m =>
        s.g.rspHeld (S.out s m).1 ∧ s.g.memOk (Axl2Csr.regRd c) m (S.out s m).1 ∧
        (s.fe.st ≠ .sendB → s.regs = s.g.ref)) S.init ins := by
  intro S
  refine Machine.always_of_invariant S _ _ (Axl2Csr.Inv c) (fun s i hinv hok => ?_) ins S.init ?_
  · exact Axl2Csr.step c s i hinv
  · exact Simple.feInv_init c _ _ regs0 _

end SimpleThms

section ConvThms

/-- **Down-converter, write path (any ratio ≥ 1).**  In front of a narrow AXI-Lite byte memory that accepts AW and
    W in any order and at any time, executes and answers after any delay: for every protocol-following master,
    one B per accepted AW+W and never a second acceptance while one is pending, the B is OKAY and repeated until
    taken, and when it is taken the memory behind the converter has received exactly the sub-word writes of the
    wide write, in ascending order, all-zero-strobe sub-words skipped (`DownW.wideWr`: sub-word `k` goes to
    narrow word `(addr aligned to the wide word + k·nbTo) / nbTo` with strobe/data bits `k` of the wide ones);
    between writes the memory equals the reference memory. -/
theorem axldown_write_refines_mem (c : DownCfg) (hr : 0 < c.ratio) (mem0 : Mem) (ins : List (AxlM × AxlOracle)) :
    let S := DownW.sys c mem0
    S.LegalFrom (fun s i => s.g.reqHeld i.1) S.init ins →
    S.AlwaysFrom (fun s i =>
        s.g.rspHeld (S.out s i).1 ∧
        ((S.out s i).1.bvalid = true → s.g.pendAW.isSome ∧ s.g.pendW.isSome ∧ (S.out s i).1.bresp = respOkay) ∧
        (i.1.awvalid = true → (S.out s i).1.awready = true → s.g.pendAW = none) ∧
        (i.1.wvalid = true → (S.out s i).1.wready = true → s.g.pendW = none) ∧
        (s.br.st = .idle → s.p.mem = s.g.ref)) S.init ins := by
  intro S
  refine Machine.always_of_invariant S _ _ (DownW.Alone c) (fun s i hinv hok => ?_) ins S.init (DownW.alone_init c mem0)
  obtain ⟨⟨wb, wg⟩, wI⟩ := DownW.alone_step c hr s i hinv hok
  exact ⟨⟨⟨wb, fun r h => (by rw [hinv.2] at h; cases h)⟩, wg⟩, wI⟩

/-- **Down-converter, read path (any ratio ≥ 1).**  In front of a narrow AXI-Lite byte memory of arbitrary timing:
    one R per accepted AR, never a second acceptance while one is pending, the R is OKAY, repeated unchanged until
    taken, and its data is the wide word assembled from the `ratio` narrow words at
    `addr aligned to the wide word + k·nbTo`, `k = 0 … ratio-1`, lowest address in the least significant lanes
    (`DownR.wideRd`) — whatever `r_data` held before (the shift register is fully flushed). -/
theorem axldown_read_refines_mem (c : DownCfg) (hr : 0 < c.ratio) (mem0 : Mem) (ins : List (AxlM × AxlOracle)) :
    let S := DownR.sys c mem0
    S.LegalFrom (fun s i => s.g.reqHeld i.1) S.init ins →
    S.AlwaysFrom (fun s i =>
        s.g.rspHeld (S.out s i).1 ∧
        ((S.out s i).1.rvalid = true →
           ∃ a, s.g.pendAR = some a ∧ (S.out s i).1.rresp = respOkay ∧ (S.out s i).1.rdata = DownR.wideRd c s.g.ref a) ∧
        (i.1.arvalid = true → (S.out s i).1.arready = true → s.g.pendAR = none)) S.init ins := by
  intro S
  refine Machine.always_of_invariant S _ _ (DownR.Alone c) (fun s i hinv hok => ?_) ins S.init ?_
  · obtain ⟨⟨rh, rg⟩, rI⟩ := DownR.alone_step c hr s i hinv hok
    exact ⟨⟨⟨fun r h => (by rw [hinv.2.1] at h; cases h), rh⟩, rg⟩, rI⟩
  · exact DownR.alone_init c mem0

/-- `wideRd` on a concrete memory: 32→8 (ratio 4), bytes 0x11 0x22 0x33 0x44 at addresses 4…7 read as 0x44332211
    from any address inside that word. -/
example :
    let c : DownCfg := { ratio := 4, nbTo := 1, abits := 8 }
    DownR.wideRd c (Mem.ofList [0, 0, 0, 0, 0x11, 0x22, 0x33, 0x44]) 6 = 0x44332211 := by
  simp [DownR.wideRd, DownR.pack, DownR.subWord, DownCfg.subAddr, DownCfg.nbFrom, Mem.readWord, Mem.readBytes,
    Mem.ofList, bytesWord, List.range, List.range.loop]

/-- **Down-converter, reads and writes interleaved** (any ratio ≥ 1).  `AXILiteDownConverter` as a whole — both FSMs
    running concurrently — in front of ONE narrow AXI-Lite byte memory that accepts, executes and answers narrow reads
    and narrow writes in any order and at any time, for every protocol-following wide master that issues reads and
    writes in any interleaving (AR while a write is in flight, AW/W while a read is being assembled, …):
    * write side, whatever the read traffic: everything `axldown_write_refines_mem` states (one OKAY B per accepted
      AW+W, repeated until taken; the reference memory takes the wide write at its B; memory = reference between
      writes);
    * memory window, in EVERY cycle: the partner memory is the reference memory with the first `j ≤ ratio` sub-word
      writes of the write in flight applied (`Down.Window`; `j = 0`: equal to the reference);
    * read side, whatever the write traffic: one OKAY R per accepted AR, repeated unchanged until taken, never a
      second acceptance while one is pending, and its data is assembled (lowest address in the least significant
      lanes) from narrow word `k` of the addressed wide word AS IT WAS IN THE PARTNER MEMORY IN THE CYCLE NARROW READ
      `k` WAS EXECUTED (`snap k`, `k = 0 … ratio-1`) — by the window statement each of these is the reference content
      with a prefix of the concurrent write applied: a read overlapping a write sees, per narrow word, the old or the
      new value, never anything else; a read that overlaps no write sees the reference memory
      (`axldown_read_refines_mem`). -/
theorem axldown_rw_refines_mem (c : DownCfg) (hr : 0 < c.ratio) (mem0 : Mem) (ins : List (AxlM × AxlOracle)) :
    let S := Down.sys c mem0
    S.LegalFrom (fun s i => s.g.reqHeld i.1) S.init ins →
    S.AlwaysFrom (fun s i =>
        s.g.rspHeld (S.out s i).1 ∧
        ((S.out s i).1.bvalid = true → s.g.pendAW.isSome ∧ s.g.pendW.isSome ∧ (S.out s i).1.bresp = respOkay) ∧
        (i.1.awvalid = true → (S.out s i).1.awready = true → s.g.pendAW = none) ∧
        (i.1.wvalid = true → (S.out s i).1.wready = true → s.g.pendW = none) ∧
        (s.w.st = .idle → s.p.mem = s.g.ref) ∧
        Down.Window c s.p.mem s.g ∧
        ((S.out s i).1.rvalid = true →
           ∃ a, s.g.pendAR = some a ∧ (S.out s i).1.rresp = respOkay ∧
             (S.out s i).1.rdata = DownR.pack c (Down.snapWord c s.snap a) c.ratio) ∧
        (i.1.arvalid = true → (S.out s i).1.arready = true → s.g.pendAR = none)) S.init ins := by
  intro S
  -- each path keeps its own invariant whatever the other drives on the shared ports
  refine Machine.always_of_invariant S _ _
    (fun s => DownW.WInv c s.w s.p s.g ∧ DownR.RInv c s.r s.p s.g s.old s.snap) (fun s i hinv hok => ?_) ins S.init ?_
  · obtain ⟨⟨wb, wv, wa, ww, wm⟩, wI⟩ := DownW.wstep c hr s.w s.p s.g i.1 i.2
      (DownR.toMaster c s.r i.1 (AxlMem.out s.p i.2)) (DownR.toSlave c s.r i.1 (AxlMem.out s.p i.2)) hinv.1 hok.1 hok.2.1
    obtain ⟨⟨rh, rv, ra⟩, rI⟩ := DownR.rstep c hr s.r s.p s.g s.old s.snap (DownW.wideWr c) i.1 i.2
      (DownW.toMaster c s.w i.1 (AxlMem.out s.p i.2)) (DownW.toSlave c s.w i.1 (AxlMem.out s.p i.2)) hinv.2 hok.2.2
    rw [← Down.toMaster_eq_merge, ← Down.toSlave_eq_merge] at wI rI
    exact ⟨⟨⟨wb, rh⟩, wv, wa, ww, wm, Down.window_of_inv c s.w s.p s.g hinv.1, rv, ra⟩, wI, rI⟩
  · exact ⟨DownW.winv_init c mem0, DownR.rinv_init c mem0 _ _⟩

/-- Non-vacuity, and what overlap means (16→8, memory initially `mem a = a`): the master presents a write of 0xBEEF
    and a read of the same wide word (address 4) together; the partner executes narrow read 0 before narrow write 0,
    then withholds narrow read 1 until the write has completed.  The run is legal; the read returns 0xBE04 — low byte
    old (4), high byte new (0xBE) — exactly `pack` of the two snapshots, and both lie in the window of their cycle. -/
example :
    let c : DownCfg := { ratio := 2, nbTo := 1, abits := 8 }
    let S := Down.sys c (fun a => a)
    let rw : AxlM := { AxlM.idle with awvalid := true, awaddr := 4, wvalid := true, wdata := 0xBEEF, wstrb := 3,
                                      arvalid := true, araddr := 4, rready := true, bready := true }
    let o : AxlOracle := ⟨true, true, true, true, true, true, true⟩
    let o' : AxlOracle := ⟨true, true, true, true, false, true, true⟩
    let ins := List.replicate 4 (rw, o) ++ List.replicate 4 (rw, o') ++ List.replicate 2 (rw, o)
    let s := S.runFrom S.init ins
    S.LegalFrom (fun s i => s.g.reqHeld i.1) S.init ins ∧
    (S.out s (rw, o)).1.rvalid = true ∧ (S.out s (rw, o)).1.rdata = 0xBE04 ∧ s.p.mem 4 = 0xEF ∧ s.p.mem 5 = 0xBE ∧
    s.snap 0 4 = 4 ∧ s.snap 1 5 = 0xBE := by
  refine ⟨?_, ?_, ?_, ?_, ?_, ?_, ?_⟩
  · exact Machine.legal_of_legalB _ _ (fun s i => Down.reqHeldB s.g i.1) (fun s i h => Down.reqHeld_of_B s.g i.1 h) _ _
      (by decide)
  all_goals decide

/-- The window at byte level: with `j = ratio` the window memory is the reference memory after ONE masked write of
    the wide word (`axldown_reference_is_byte_memory`), with `j = 0` the reference memory itself. -/
theorem axldown_window_ends (c : DownCfg) (m : Mem) (a d st : Nat) :
    DownW.subWrites c a d st 0 m = m ∧ DownW.subWrites c a d st c.ratio m = DownW.wideWr c m a st d :=
  ⟨rfl, rfl⟩

/-- **Down-converter writes: valid stability towards ANY narrow partner, sticky first error.**  Whatever the
    narrow slave does (arbitrary readies, valids and responses every cycle), with a protocol-following wide master:
    a narrow AW / W, once raised, is repeated with unchanged address / data / strobe until the cycle of its ready;
    the wide B is repeated until taken and its `resp` is the FIRST non-OKAY narrow B response taken for this write
    (`firstErr log`), OKAY if there was none. -/
theorem axldown_write_stable_sticky (c : DownCfg) (ins : List (AxlM × AxlS)) :
    let S := DownW.osys c
    S.LegalFrom (fun s i => s.g.reqHeld i.1) S.init ins →
    S.AlwaysFrom (fun s i =>
      s.h.reqHeld (S.out s i).2 ∧
      (∀ r, s.g.heldB = some r → (S.out s i).1.bvalid = true ∧ (S.out s i).1.bresp = r) ∧
      ((S.out s i).1.bvalid = true → (S.out s i).1.bresp = firstErr s.log)) S.init ins := by
  intro S
  refine Machine.always_of_invariant S _ _ (DownW.OAlone c) (fun s i hinv hok => ?_) ins S.init (DownW.oalone_init c)
  obtain ⟨⟨w1, w2, w3, w4⟩, wI⟩ := DownW.oalone_step c s i hinv hok
  exact ⟨⟨⟨w1, w2, fun a ha => (by rw [hinv.2] at ha; cases ha)⟩, w3, w4⟩, wI⟩

/-- **Down-converter reads: AR stability towards ANY narrow partner, sticky first error.**  Whatever the narrow slave
    does, with a protocol-following wide master: a narrow AR, once raised, is repeated with unchanged address until the
    cycle of its ready; the wide R carries the FIRST non-OKAY narrow R response seen for this read (`firstErr log`), OKAY
    if there was none. -/
theorem axldown_read_stable_sticky (c : DownCfg) (ins : List (AxlM × AxlS)) :
    let S := DownR.osys c
    S.LegalFrom (fun s i => s.g.reqHeld i.1) S.init ins →
    S.AlwaysFrom (fun s i =>
      s.h.reqHeld (S.out s i).2 ∧
      ((S.out s i).1.rvalid = true → (S.out s i).1.rresp = firstErr s.log)) S.init ins := by
  intro S
  refine Machine.always_of_invariant S _ _ (DownR.OAlone c) (fun s i hinv hok => ?_) ins S.init (DownR.oalone_init c)
  obtain ⟨⟨r1, r2⟩, rI⟩ := DownR.oalone_step c s i hinv hok
  exact ⟨⟨⟨fun a ha => (by rw [hinv.2.1] at ha; cases ha), fun a ha => (by rw [hinv.2.2] at ha; cases ha), r1⟩, r2⟩, rI⟩

/-- Sticky error on a concrete run (16→8, both sub-words written): narrow responses SLVERR (2) then DECERR (3) —
    the wide B carries 2. -/
example :
    let c : DownCfg := { ratio := 2, nbTo := 1, abits := 8 }
    let S := DownW.osys c
    let w : AxlM := { AxlM.idle with awvalid := true, awaddr := 4, wvalid := true, wdata := 0xBEEF, wstrb := 3 }
    let acc : AxlS := { AxlS.idle with awready := true, wready := true }
    let s := S.runFrom S.init [(w, AxlS.idle), (w, acc), (w, { AxlS.idle with bvalid := true, bresp := 2 }),
                               (w, acc), (w, { AxlS.idle with bvalid := true, bresp := 3 })]
    s.log = [2, 3] ∧ (S.out s (AxlM.idle, AxlS.idle)).1.bvalid = true ∧ (S.out s (AxlM.idle, AxlS.idle)).1.bresp = 2 := by
  decide

/-- **Byte-level meaning of the sub-word reference semantics** (`Bytes.NoWrap`: the wide word containing `a` does
    not wrap around the address space; `axldown_nowrap`: true whenever the wide word size divides `2^abits`
    and `a < 2^abits`).  The `ratio` sub-word writes of `axldown_write_refines_mem` are exactly ONE masked write of
    the wide word on the flat byte memory, and the word assembled in `axldown_read_refines_mem` is exactly the
    wide word of the flat byte memory — so both theorems speak about `Mem.writeWord` / `Mem.readWord` at the wide
    width. -/
theorem axldown_reference_is_byte_memory (c : DownCfg) (hn : 0 < c.nbTo) (m : Mem) (a : Nat) (hw : Bytes.NoWrap c a) :
    (∀ st d, DownW.wideWr c m a st d = m.writeWord c.nbFrom (a / c.nbFrom) st d) ∧
    DownR.wideRd c m a = m.readWord c.nbFrom (a / c.nbFrom) :=
  ⟨fun st d => Bytes.wideWr_eq_writeWord c m a st d hn hw, Bytes.wideRd_eq_readWord c m a hn hw⟩

/-- `NoWrap` holds for every in-range address of the usual configurations (word size a divisor of `2^abits`). -/
theorem axldown_nowrap (c : DownCfg) (a : Nat) (hd : c.nbFrom ∣ 2 ^ c.abits) (hN : 0 < c.nbFrom) (ha : a < 2 ^ c.abits) :
    Bytes.NoWrap c a := by
  have := Adapter.down_in_space c.nbFrom c.abits a (c.nbFrom - 1) 1 hN (Nat.mod_eq_zero_of_dvd hd) ha (by omega)
  unfold Bytes.NoWrap
  omega

/-- Non-vacuity / the fixed finding C09-axil-downconv-write-hang in the model: 64→32 (ratio 2, 4-byte narrow
    words), wide write with strobe 0xF0 to a partner that is ready all the time: the write completes (B presented
    after 6 cycles) and only the upper narrow word is written. -/
example :
    let c : DownCfg := { ratio := 2, nbTo := 4, abits := 32 }
    let S := DownW.sys c (fun _ => 0)
    let w : AxlM := { AxlM.idle with awvalid := true, awaddr := 0, wvalid := true, wdata := 0x1122334455667788, wstrb := 0xF0 }
    let o : AxlOracle := ⟨true, true, true, true, true, true, true⟩
    let s := S.runFrom S.init [(w, o), (w, o), (w, o), (w, o), (w, o), (w, o)]
    s.br.st = .respMaster ∧ s.p.mem 4 = 0x44 ∧ s.p.mem 0 = 0 := by
  decide

/-- FULL STATEMENT (false on the code, finding C09-axil-upconv-lane-follows-address-lines):
      write data travels in, and read data is taken from, the byte-lane group of the address of the transaction
      it belongs to — for every protocol-following master.
    The converter selects the lane group from the address lines while `aw.valid` / `ar.valid` and from a latch
    otherwise.  Proved for masters that issue one transaction per direction at a time and present W with or after
    its AW (`Up.serial`), for ANY partner behaviour and any ratio: -/
theorem axlup_lane_partial (c : UpCfg) (ins : List (AxlM × AxlS)) :
    let S := Up.osys c
    S.LegalFrom (fun s i => Up.serial s.g i.1) S.init ins →
    S.AlwaysFrom (fun s i =>
      (i.1.wvalid = true → ∀ a, Up.curWrite s.g i.1 = some a →
         (S.out s i).2.wstrb = i.1.wstrb * 2 ^ (c.laneOf a * c.nbFrom) ∧
         (S.out s i).2.wdata = i.1.wdata * 256 ^ (c.laneOf a * c.nbFrom)) ∧
      (∀ a, s.g.pendAR = some a →
         (S.out s i).1.rdata = i.2.rdata / 256 ^ (c.laneOf a * c.nbFrom) % 256 ^ c.nbFrom)) S.init ins := by
  intro S
  refine Machine.always_of_invariant S _ _ (Up.OInv c) (fun s i hinv hok => ?_) ins S.init ?_
  · exact Up.ostep c s i hinv hok
  · simp [S, Up.osys, Up.OInv, Up.init, AxlGhost.init]

/-- Everything else of the up-converter is wiring, for every input: handshakes and responses pass through
    unchanged and the addresses are the master's, aligned to the wide word. -/
theorem axlup_passthrough (c : UpCfg) (s : UpState) (m : AxlM) (r : AxlS) :
    let q := Up.toSlave c s m
    let o := Up.toMaster c s m r
    q.awvalid = m.awvalid ∧ q.wvalid = m.wvalid ∧ q.arvalid = m.arvalid ∧ q.bready = m.bready ∧ q.rready = m.rready ∧
    q.awaddr = m.awaddr / c.nbTo * c.nbTo % 2 ^ c.abits ∧ q.araddr = m.araddr / c.nbTo * c.nbTo % 2 ^ c.abits ∧
    o.awready = r.awready ∧ o.wready = r.wready ∧ o.arready = r.arready ∧ o.bvalid = r.bvalid ∧ o.bresp = r.bresp ∧
    o.rvalid = r.rvalid ∧ o.rresp = r.rresp := by
  simp [Up.toSlave, Up.toMaster]

/-- Negative witness (32→64): AR 0x0 is accepted, then the master presents AR 0x4 while the R of the first read
    is outstanding; the wide word 0x11111111_00000000 comes back and the master is handed lane 1. -/
example :
    let c : UpCfg := { ratio := 2, nbFrom := 4, abits := 32 }
    let S := Up.machine c
    let s := S.runFrom S.init [({ AxlM.idle with arvalid := true, araddr := 0 }, { AxlS.idle with arready := true })]
    (S.out s ({ AxlM.idle with arvalid := true, araddr := 4, rready := true },
              { AxlS.idle with rvalid := true, rdata := 0x1111111100000000 })).1.rdata = 0x11111111 := by
  decide

end ConvThms

section Axi2AxlThms

/-- FULL STATEMENT (false on the code, findings C09-axi2axil-rlast-pipelined-slave, -resp-swallowed,
    -w-accepted-before-aw): every burst is fully answered, `last` on the final beat only, error responses
    propagated, B after the AXI-Lite write responses — for every legal AXI-Lite partner.
    Proved part (read bursts): for an AXI master that issues no writes and an AXI-Lite partner that answers reads
    one at a time (`Axi2Axl.singleOutstanding`: R only for an accepted AR, next AR accepted only after the previous
    R was delivered), for every burst type/length/size, every master and partner timing: each R beat handed to the
    AXI master carries the burst's id and is marked `last` exactly if it is beat number `len + 1`. -/
theorem axi2axl_read_burst_partial (aw : Nat) (ins : List (AxiM × AxlS)) :
    let S := Axi2Axl.rsys aw
    S.LegalFrom (fun s i => Axi2Axl.singleOutstanding s i ∧ i.1.awvalid = false) S.init ins →
    S.AlwaysFrom (fun s i =>
      s.br.st = .read → (S.out s i).1.rvalid = true →
        ((S.out s i).1.rlast = true ↔ s.rCnt = s.br.bufReq.len) ∧ s.rCnt ≤ s.br.bufReq.len ∧
        (S.out s i).1.rid = s.br.bufReq.id) S.init ins := by
  intro S
  refine Machine.always_of_invariant S _ _ Axi2Axl.RInv (fun s i hinv hok => ?_) ins S.init ?_
  · exact Axi2Axl.rstep aw s i hinv hok.1 hok.2
  · simp [S, Axi2Axl.rsys, Axi2Axl.RInv, Axi2Axl.IdleInv, Axi2Axl.init, Litex.Axi.b2bInit]

/-- **Read and write bursts together** (mixed traffic, every burst type / length / size, every timing) for the
    environment `Axi2Axl.wellBehaved` — the AXI-Lite partner answers reads one at a time and takes a W beat only
    after the AW it belongs to, the AXI master puts `w.last` on beat `len + 1` — i.e. outside the open findings
    rlast-pipelined-slave and w-accepted-before-aw:
    read beats are marked `last` exactly on beat `len + 1` with the burst's id; during WRITE never more W beats
    than AWs have been handed over and never more than `len + 1` AWs, and no B is shown; B (as coded: right after
    the last W beat) is presented only when exactly `len + 1` AWs — at the `AXIBurst2Beat` addresses, see
    `axi2axl_as_built` — and exactly `len + 1` W beats have been taken by the partner, with the burst's id; the
    bridge returns to IDLE with an empty request buffer.  (The B still does not wait for the AXI-Lite B responses
    and error responses are not propagated: finding resp-swallowed.) -/
theorem axi2axl_bursts_partial (aw : Nat) (ins : List (AxiM × AxlS)) :
    let S := Axi2Axl.bsys aw
    S.LegalFrom (fun s i => Axi2Axl.wellBehaved s i) S.init ins →
    S.AlwaysFrom (fun s i =>
      (s.br.st = .read → (S.out s i).1.rvalid = true →
        ((S.out s i).1.rlast = true ↔ s.rCnt = s.br.bufReq.len) ∧ s.rCnt ≤ s.br.bufReq.len ∧
        (S.out s i).1.rid = s.br.bufReq.id) ∧
      (s.br.st = .write → s.wCnt ≤ s.awCnt ∧ s.awCnt ≤ s.br.bufReq.len + 1 ∧ (S.out s i).1.bvalid = false) ∧
      ((S.out s i).1.bvalid = true →
        s.awCnt = s.br.bufReq.len + 1 ∧ s.wCnt = s.br.bufReq.len + 1 ∧ (S.out s i).1.bid = s.br.bufReq.id)) S.init ins := by
  intro S
  refine Machine.always_of_invariant S _ _ Axi2Axl.BInv (fun s i hinv hok => ?_) ins S.init ?_
  · exact Axi2Axl.bstep aw s i hinv hok
  · simp [S, Axi2Axl.bsys, Axi2Axl.BInv, Axi2Axl.IdleInv, Axi2Axl.init, Litex.Axi.b2bInit]

/-- Non-vacuity: INCR write burst of 2 beats, partner taking AW then W each time; after 6 cycles B is presented
    with both counters at 2.  Negative witness (finding w-accepted-before-aw): the same burst with a partner that
    takes both W beats while refusing AW reaches WRITE-RESP with NO AW issued. -/
example :
    let S := Axi2Axl.bsys 32
    let rq : Litex.Axi.Req := { addr := 0x100, len := 1, size := 2, burst := 1, id := 2 }
    let mi : AxiM := { awvalid := false, aw := zeroReq, wvalid := false, wdata := 0, wstrb := 0, wlast := false,
                       bready := false, arvalid := false, ar := zeroReq, rready := false }
    let awm : AxiM := { mi with awvalid := true, aw := rq }
    let w0 : AxiM := { mi with wvalid := true, wdata := 7, wstrb := 15 }
    let w1 : AxiM := { mi with wvalid := true, wdata := 9, wstrb := 15, wlast := true }
    let ta : AxlS := { AxlS.idle with awready := true }
    let tw : AxlS := { AxlS.idle with wready := true }
    let good := S.runFrom S.init [(awm, AxlS.idle), (w0, ta), (w0, tw), (w1, ta), (w1, tw)]
    let bad := S.runFrom S.init [(awm, AxlS.idle), (w0, tw), (w1, tw)]
    (good.br.st = .writeResp ∧ good.awCnt = 2 ∧ good.wCnt = 2 ∧ (S.out good (mi, AxlS.idle)).1.bvalid = true) ∧
    (bad.br.st = .writeResp ∧ bad.awCnt = 0 ∧ bad.wCnt = 2) := by
  decide

/-- Negative witness (finding C09-axi2axil-rlast-pipelined-slave): INCR burst of 4 beats; the AXI-Lite partner
    accepts the four ARs before answering; the first R beat (`rCnt = 0`, `len = 3`) is handed over with `last`. -/
example :
    let S := Axi2Axl.rsys 32
    let rq : Litex.Axi.Req := { addr := 0x100, len := 3, size := 2, burst := 1, id := 1 }
    let mi : AxiM := { awvalid := false, aw := zeroReq, wvalid := false, wdata := 0, wstrb := 0, wlast := false,
                       bready := false, arvalid := false, ar := zeroReq, rready := true }
    let ar : AxiM := { mi with arvalid := true, ar := rq }
    let acc : AxlS := { AxlS.idle with arready := true }
    let s := S.runFrom S.init [(ar, AxlS.idle), (mi, acc), (mi, acc), (mi, acc), (mi, acc)]
    let o := S.out s (mi, { AxlS.idle with rvalid := true, rdata := 7 })
    s.br.st = .read ∧ s.arCnt = 4 ∧ s.rCnt = 0 ∧ o.1.rvalid = true ∧ o.1.rlast = true := by
  decide

/-- Non-vacuity of `axi2axl_read_burst_partial`: the same burst with a partner that answers each AR before taking
    the next is legal for 9 cycles and ends with the fourth beat marked `last`. -/
example :
    let S := Axi2Axl.rsys 32
    let rq : Litex.Axi.Req := { addr := 0x100, len := 3, size := 2, burst := 1, id := 1 }
    let mi : AxiM := { awvalid := false, aw := zeroReq, wvalid := false, wdata := 0, wstrb := 0, wlast := false,
                       bready := false, arvalid := false, ar := zeroReq, rready := true }
    let ar : AxiM := { mi with arvalid := true, ar := rq }
    let acc : AxlS := { AxlS.idle with arready := true }
    let ans : AxlS := { AxlS.idle with rvalid := true, rdata := 7 }
    let ins := [(ar, AxlS.idle), (mi, acc), (mi, ans), (mi, acc), (mi, ans), (mi, acc), (mi, ans), (mi, acc)]
    let s := S.runFrom S.init ins
    let o := S.out s (mi, ans)
    (∀ k, k < 8 → Axi2Axl.singleOutstanding (S.runFrom S.init (ins.take k)) (ins.getD k (mi, ans))) ∧
    s.rCnt = 3 ∧ o.1.rvalid = true ∧ o.1.rlast = true := by
  decide

/-- The beat addresses the bridge issues are those of `AXIBurst2Beat` (whose address theorems are C10's), the
    responses are constants and the AXI-Lite B channel is always ready — every state, every input. -/
theorem axi2axl_as_built (aw : Nat) (s : X2LState) (m : AxiM) (r : AxlS) :
    let q := Axi2Axl.toSlave aw s m
    let o := Axi2Axl.toMaster aw s m r
    q.bready = true ∧ o.rresp = respOkay ∧ o.bresp = respOkay ∧
    (s.st = .read → q.araddr = Litex.Axi.beatAddr aw s.bufReq s.b2b ∧ o.rdata = r.rdata ∧ o.rlast = s.cmdDone) ∧
    (s.st = .write → q.awaddr = Litex.Axi.beatAddr aw s.bufReq s.b2b ∧ q.wdata = m.wdata ∧ q.wstrb = m.wstrb) := by
  cases h : s.st <;> simp [Axi2Axl.toSlave, Axi2Axl.toMaster, Axi2Axl.beat, Litex.Axi.b2bOut, h, AxlM.idle, AxiS.idle,
    respOkay]

end Axi2AxlThms

section AhbThms
variable (c : AhbCfg)

/-- **Byte-lane decoding.**  The `Case` tables of `wishbone_sel_decoder` select exactly the `2^size` lanes starting
    at the address offset rounded down to the transfer size, for every size the bridge accepts and every address
    offset, on the 64-bit and on the 32-bit bus. -/
theorem ahb2wb_sel_table :
    (∀ size, size < 4 → ∀ a, a < 8 → ahbSel64 size a = Ahb2Wb.laneMask 3 size a) ∧
    (∀ size, size < 3 → ∀ a, a < 4 → ahbSel32 size a = Ahb2Wb.laneMask 2 size a) :=
  ⟨Ahb2Wb.sel64_table, Ahb2Wb.sel32_table⟩

/-- AHB2Wishbone in front of a Wishbone byte memory of arbitrary latency, AHB master keeping
    `hwdata` stable during the (extended) data phase: a completing read (`hreadyout` after its data phase)
    returns the reference content of word `haddr >> shift`; a completed write has stored `hwdata` on the lanes
    `ahbSel size haddr` of that word; outside transfers the memory equals the reference memory. -/
theorem ahb2wb_refines_mem (mem0 : Mem) (ins : List (AhbM × WbOracle)) :
    let S := Ahb2Wb.sys c mem0
    S.LegalFrom (fun s i => Ahb2Wb.masterOk s.g i.1) S.init ins →
    S.AlwaysFrom (fun s i => Ahb2Wb.memOk c s.g (S.out s i).1 ∧ (s.g.cur = none → s.mem = s.g.ref)) S.init ins := by
  intro S
  refine Machine.always_of_invariant S _ _ (Ahb2Wb.Inv c) (fun s i hinv hok => ?_) ins S.init ?_
  · exact Ahb2Wb.step c s i hinv hok
  · simp [S, Ahb2Wb.sys, Ahb2Wb.Inv, Ahb2Wb.init]

/-- `hresp` mirrors `wishbone.err` during the data phase only (every state, every input); the cycle that completes
    the transfer (`hreadyout = 1`) always shows OKAY — see the probe C09-ahb2wb-error-response-malformed. -/
theorem ahb2wb_resp (s : AhbState) (m : AhbM) (r : WbS) :
    (Ahb2Wb.toMaster s m r).resp = (decide (s.st = .data) && r.err) ∧
    ((Ahb2Wb.toMaster s m r).readyout = true → (Ahb2Wb.toMaster s m r).resp = false) := by
  cases h : s.st <;> simp [Ahb2Wb.toMaster, h]

end AhbThms
section AdapterThms
open Litex.Bridge.Adapter

/-- Whenever `add_adapter` succeeds — any interface standard / width /
    addressing, any bus, both directions — the interface it hands back has the bus's standard and data width. -/
theorem adapter_result_is_bus (b : BusDesc) (m2s : Bool) (i : IfDesc) (l : List Elem) (o : IfDesc)
    (h : adapterChain b m2s i = .ok (l, o)) : o.std = b.std ∧ o.dw = b.dw := by
  obtain ⟨l1, i1, l2, i2, l3, h1, h2, h3, _⟩ := adapterChain_steps b m2s i l o h
  have d1 := (widthStep_shape b m2s i l1 i1 h1).2
  have d2 : i2.dw = b.dw := by rcases (addrStep_shape b m2s i1 l2 i2 h2).2 with e | e <;> simp [e, d1]
  obtain ⟨-, hs, e⟩ := stdStep_shape b m2s i2 l3 o h3
  exact ⟨hs, by rcases e with e | e <;> simp [e, d2]⟩

/-- Read from the master end, consecutive elements share an interface, the first
    element's master side is the master end (m2s: the interface handed in; s2m: the bus side) and the last element's
    slave side is the slave end. -/
theorem adapter_chain_linked (b : BusDesc) (m2s : Bool) (i : IfDesc) (l : List Elem) (o : IfDesc)
    (h : adapterChain b m2s i = .ok (l, o)) :
    Linked (masterToSlave m2s l) (if m2s then i else o) (if m2s then o else i) :=
  adapterChain_linked b m2s i l o h

/-- **Every element preserves the flat byte address** (any well-formed element, any transfer its master port can
    express): byte lane `lane` of a master-side transfer at address `x` is carried on the slave-side (address, lane)
    that names the same byte of the flat memory — with the address functions of the cycle-level models
    (`Axl2Wb.wbAdr`, `Wb2Axl.axAddr`, `DownCfg.subAddr`, `UpCfg.laneOf`, `haddr >> shift`) — and stays within the
    slave port's range. -/
theorem adapter_elem_preserves_byte (e : Elem) (hwf : e.WF) (p : Nat × Nat) (hr : InRange e.master p) :
    flat e.slave (elemByte e p) = flat e.master p ∧ InRange e.slave (elemByte e p) :=
  elem_spec e hwf p hr

/-- **Composition: the chain `add_adapter` builds preserves memory semantics at the byte level.**  For every
    interface (standard, width `8·2^k`, addressing), every bus (standard, width `8·2^k`) of the same address width,
    both directions, whenever `add_adapter` succeeds: every byte lane of every transfer the master end can express is
    carried, through all inserted elements (width converter, addressing glue, bridge, in the order the code inserts
    them), to the (address, lane) of the slave end that names the SAME byte of the flat memory, and stays in range.
    Together with the per-element refinement theorems (each element in front of a flat byte memory behaves as a flat
    byte memory with exactly these address functions) this is the transaction-level composition lemma; the
    cycle-level interplay of the composed elements is checked by monitors on the built chains. -/
theorem adapter_chain_preserves_bytes (b : BusDesc) (m2s : Bool) (i : IfDesc) (l : List Elem) (o : IfDesc)
    (h : adapterChain b m2s i = .ok (l, o)) (hi : PowOk i.dw) (hb : PowOk b.dw) (haw : i.aw = b.aw)
    (hli : lg i.dw ≤ b.aw) (hlb : lg b.dw ≤ b.aw) (p : Nat × Nat) (hr : InRange (if m2s then i else o) p) :
    flat (if m2s then o else i) (chainByte (masterToSlave m2s l) p) = flat (if m2s then i else o) p ∧
    InRange (if m2s then o else i) (chainByte (masterToSlave m2s l) p) := by
  have hl := adapterChain_linked b m2s i l o h
  have hw := adapterChain_wf b m2s i l o h hi hb haw hli hlb
  refine chain_preserves_byte_wf _ _ _ p hl ?_ hr
  intro e he
  apply hw
  cases m2s <;> simpa [masterToSlave] using he

/-- **The byte maps are the cycle-level models' address functions** (every state, every input): the Wishbone address
    `AXILite2Wishbone` drives for a read, the AXI-Lite address `Wishbone2AXILite` drives, the narrow AW address of
    the down-converter's sub-word `counter` and the wide address of the up-converter are the addresses `elemByte`
    assigns to the corresponding element (so the transaction-level chain theorem and the cycle-level refinement
    theorems speak about the same addresses). -/
theorem adapter_elem_uses_bridge_addresses (m s : IfDesc) (x lane : Nat) :
    (∀ (st : A2WState) (q : AxlM), st.st = .doRead → q.araddr = x →
      (Axl2Wb.toSlave { aw := m.aw, nb := m.nb, shift := if s.byteAddr then 0 else lg s.dw, base := 0 } st q).adr =
        (elemByte { kind := .axl2wb, master := m, slave := s } (x, lane)).1) ∧
    (∀ (st : W2AState) (q : WbM), st.st = .read → q.adr = x →
      (Wb2Axl.toSlave { adrBits := m.aw - (if m.byteAddr then 0 else lg m.dw),
                        shift := if m.byteAddr then 0 else lg m.dw, base := 0 } st q).araddr =
        (elemByte { kind := .wb2axl, master := m, slave := s } (x, lane)).1) ∧
    (∀ (st : DownWState) (q : AxlM) (r : AxlS), m.nb > s.nb → q.awaddr = x → st.counter = lane / s.nb →
      (DownW.toSlave { ratio := m.nb / s.nb, nbTo := s.nb, abits := m.aw } st q r).awaddr =
        (elemByte { kind := .axlConverter, master := m, slave := s } (x, lane)).1) ∧
    (∀ (st : UpState) (q : AxlM), m.nb < s.nb → q.awaddr = x →
      (Up.toSlave { ratio := s.nb / m.nb, nbFrom := m.nb, abits := s.aw } st q).awaddr =
        (elemByte { kind := .axlConverter, master := m, slave := s } (x, lane)).1) := by
  refine ⟨fun st q h1 h2 => ?_, fun st q h1 h2 => ?_, fun st q r h1 h2 h3 => ?_, fun st q h1 h2 => ?_⟩
  · simp [Axl2Wb.toSlave, h1, h2, elemByte]
  · simp [Wb2Axl.toSlave, h1, h2, elemByte]
  · cases h : st.st <;> simp [DownW.toSlave, h, h1, h2, h3, elemByte, AxlM.idle]
  · have h3 : ¬ m.nb > s.nb := by omega
    simp [Up.toSlave, h1, h2, h3, elemByte]

/-- Non-vacuity: a 64-bit AXI-Lite master on a 32-bit Wishbone bus gets `AXILiteConverter(64→32)` followed by
    `AXILite2Wishbone`; byte lane 5 of the transfer at 0x1008 (flat byte 0x100D) arrives on lane 1 of Wishbone word
    0x403; the hypotheses of the composition theorem hold. -/
example :
    let b : BusDesc := { std := .wishbone, dw := 32, aw := 32 }
    let i : IfDesc := { std := .axiLite, dw := 64, aw := 32, byteAddr := true }
    let w : IfDesc := { std := .wishbone, dw := 32, aw := 32, byteAddr := false }
    let n : IfDesc := { std := .axiLite, dw := 32, aw := 32, byteAddr := true }
    adapterChain b true i = .ok ([{ kind := .axlConverter, master := i, slave := n },
                                  { kind := .axl2wb, master := n, slave := w }], w) ∧
    chainByte [{ kind := .axlConverter, master := i, slave := n }, { kind := .axl2wb, master := n, slave := w }]
      (0x1008, 5) = (0x403, 1) ∧ flat i (0x1008, 5) = 0x100D ∧ flat w (0x403, 1) = 0x100D ∧
    PowOk i.dw ∧ PowOk b.dw ∧ lg i.dw ≤ b.aw ∧ InRange i (0x1008, 5) := by
  refine ⟨rfl, rfl, rfl, rfl, ?_, ?_, ?_, ?_⟩ <;> simp only [PowOk, InRange] <;> decide

/-- What the code rejects: a byte-addressed Wishbone interface of another width (`wishbone.Converter` asserts word
    addressing), an AHB master on a bus that is not Wishbone (no bridge in the table), an AHB interface of another
    width (no converter class). -/
example :
    adapterChain { std := .axiLite, dw := 64, aw := 32 } false { std := .wishbone, dw := 32, aw := 32, byteAddr := true }
      = .error .assertionError ∧
    adapterChain { std := .axi, dw := 32, aw := 32 } true { std := .ahb, dw := 32, aw := 32, byteAddr := true }
      = .error .keyError ∧
    adapterChain { std := .wishbone, dw := 64, aw := 32 } true { std := .ahb, dw := 32, aw := 32, byteAddr := true }
      = .error .keyError :=
  ⟨rfl, rfl, rfl⟩

/-- The converter wrappers (`AXILiteConverter`, `wishbone.Converter`, `AXIConverter`) choose exactly one of
    down-converter / up-converter / direct connection, by comparing the two data widths. -/
theorem converter_choice_total (f t : Nat) :
    (converterChoice f t = 1 ↔ t < f) ∧ (converterChoice f t = 2 ↔ f < t) ∧ (converterChoice f t = 0 ↔ f = t) := by
  unfold converterChoice
  refine ⟨?_, ?_, ?_⟩ <;> split <;> (try split) <;> omega

/-- `AXILite2AXI` is wiring for every input and every parameter choice: valids, readies, addresses, data, strobes
    pass through, each AXI-Lite access becomes a single-beat burst (`len = 0`, `w.last = 1`) of the configured
    size / burst type / ids. -/
theorem axl2axi_wiring (c : L2XCfg) (m : AxlM) (r : AxiS) :
    let q := Axl2Axi.toSlave c m
    let o := Axl2Axi.toMaster r
    q.awvalid = m.awvalid ∧ q.aw.addr = m.awaddr ∧ q.aw.len = 0 ∧ q.aw.size = c.size ∧ q.aw.burst = c.burst ∧
    q.aw.id = c.wid ∧ q.wvalid = m.wvalid ∧ q.wdata = m.wdata ∧ q.wstrb = m.wstrb ∧ q.wlast = true ∧
    q.bready = m.bready ∧ q.arvalid = m.arvalid ∧ q.ar.addr = m.araddr ∧ q.ar.len = 0 ∧ q.ar.size = c.size ∧
    q.ar.burst = c.burst ∧ q.ar.id = c.rid ∧ q.rready = m.rready ∧
    o.awready = r.awready ∧ o.wready = r.wready ∧ o.bvalid = r.bvalid ∧ o.bresp = r.bresp ∧ o.arready = r.arready ∧
    o.rvalid = r.rvalid ∧ o.rresp = r.rresp ∧ o.rdata = r.rdata := by
  simp [Axl2Axi.toSlave, Axl2Axi.toMaster]

/-- **The announced AxSIZE is the bus width, for ALL widths.**  `AXILite2AXI` (and `Wishbone2AXI`, which contains it)
    on a `dw`-bit bus announce `size = log2(dw / 8)` on AW and AR (`Axl2Axi.cfgOf`, the configuration the driver
    serves and the harness compares for 32 … 1024 bits): for every width `8·2^k` this is exactly `k` (full-width
    beats), and for every `dw ≥ 8` the announced beat never exceeds the data bus: `2^size · 8 ≤ dw`.
    (`axi_common.AXSIZE`, a table nobody uses, lists 0b110 / 0b111 for 32 / 64 bytes — a bridge built on it would
    break this theorem's tie at 256 and 512 bits.) -/
theorem axl2axi_size_fits_bus (dw burst prot wid rid : Nat) (m : AxlM) :
    let q := Axl2Axi.toSlave (Axl2Axi.cfgOf dw burst prot wid rid) m
    q.aw.size = Nat.log2 (dw / 8) ∧ q.ar.size = Nat.log2 (dw / 8) ∧ q.aw.len = 0 ∧ q.ar.len = 0 ∧
    (8 ≤ dw → 2 ^ q.aw.size * 8 ≤ dw ∧ 2 ^ q.ar.size * 8 ≤ dw) ∧
    (∀ k, dw = 8 * 2 ^ k → q.aw.size = k ∧ q.ar.size = k) := by
  refine ⟨rfl, rfl, rfl, rfl, fun h => ?_, fun k hk => ?_⟩
  · have hne : dw / 8 ≠ 0 := by omega
    have h1 : 2 ^ Nat.log2 (dw / 8) ≤ dw / 8 := Nat.log2_self_le hne
    have h2 : dw / 8 * 8 ≤ dw := Nat.div_mul_le_self dw 8
    have h3 : 2 ^ Nat.log2 (dw / 8) * 8 ≤ dw / 8 * 8 := Nat.mul_le_mul_right 8 h1
    simp only [Axl2Axi.toSlave, Axl2Axi.cfgOf, Axl2Axi.sizeOf]
    omega
  · have : dw / 8 = 2 ^ k := by rw [hk, Nat.mul_div_cancel_left _ (by decide : 0 < 8)]
    simp [Axl2Axi.toSlave, Axl2Axi.cfgOf, Axl2Axi.sizeOf, this, Nat.log2_two_pow]

example : Axl2Axi.sizeOf 256 = 5 ∧ Axl2Axi.sizeOf 512 = 6 ∧ Axl2Axi.sizeOf 1024 = 7 ∧ Axl2Axi.sizeOf 32 = 2 := by decide

end AdapterThms

section ChainThms

/-- **Protocol legality of a composed chain, any Wishbone partner.**  The chain `add_adapter` builds for a wide
    AXI-Lite master on a narrower Wishbone bus (`AXILiteDownConverter` then `AXILite2Wishbone`, sharing the narrow
    AXI-Lite interface), with a protocol-following wide master and a Wishbone partner that answers ANYTHING
    (arbitrary `ack` / `dat_r` / `err` every cycle), for every ratio, width, base address:
    on the internal narrow port every AW / W / AR the converter raises is repeated unchanged until accepted and every
    B / R the bridge raises is repeated unchanged until taken; the Wishbone request is repeated unchanged until its
    `ack`; the wide B is repeated until taken and carries the first non-OKAY narrow response of this write, the wide
    R the first non-OKAY narrow response of this read.
    (Assume / guarantee composition: the converter's "any partner" guarantee on the narrow port is exactly what the
    bridge assumes of its master; each constituent's invariant is reused as it stands, its step lemma being stated over
    the constituent's own state and observers with the neighbours' signals as variables.) -/
theorem chain_down_axl2wb_protocol (c : DownCfg) (d : A2WCfg) (ins : List (AxlM × WbS)) :
    let S := Chain.sys c d
    S.LegalFrom (fun s i => s.g.reqHeld i.1) S.init ins →
    S.AlwaysFrom (fun s i =>
      let o := S.out s i
      s.h.reqHeld o.2.1 ∧ s.k.reqHeld o.2.2.2 ∧ s.h.rspHeld o.2.2.1 ∧
      (∀ r, s.g.heldB = some r → o.1.bvalid = true ∧ o.1.bresp = r) ∧
      (o.1.bvalid = true → o.1.bresp = firstErr s.wlog) ∧
      (o.1.rvalid = true → o.1.rresp = firstErr s.rlog)) S.init ins := by
  intro S
  refine Machine.always_of_invariant S _ _
    (fun s => DownW.OInv c s.w s.g s.h s.wlog ∧ DownR.OInv c s.r s.g s.h s.rlog ∧ Axl2Wb.OInv d s.b s.h s.k)
    (fun s i hinv hok => ?_) ins S.init ?_
  · obtain ⟨iW, iR, iB⟩ := hinv
    obtain ⟨⟨w1, w2, w3, w4⟩, wI⟩ := DownW.ostep c s.w s.g s.h s.wlog i.1 (Chain.narrowRsp s i.2)
      (DownR.toMaster c s.r i.1 (Chain.narrowRsp s i.2)) (DownR.toSlave c s.r i.1 (Chain.narrowRsp s i.2)) iW hok.1 hok.2.1
    obtain ⟨⟨r1, r2⟩, rI⟩ := DownR.ostep c s.r s.g s.h s.rlog i.1 (Chain.narrowRsp s i.2)
      (DownW.toMaster c s.w i.1 (Chain.narrowRsp s i.2)) (DownW.toSlave c s.w i.1 (Chain.narrowRsp s i.2)) iR hok.2.2
    rw [← Down.toMaster_eq_merge, ← Down.toSlave_eq_merge] at wI rI
    -- what the two paths guarantee on the narrow port is what the bridge assumes of its master
    have hq : s.h.reqHeld (Chain.narrowReq c s i) := ⟨w1, w2, r1⟩
    obtain ⟨⟨b1, b2⟩, bI⟩ := Axl2Wb.ostep d s.b s.h s.k (Chain.narrowReq c s i) i.2 iB hq
    rw [Axl2Wb.toMaster_indep s.b _ AxlM.idle] at b2 bI
    exact ⟨⟨hq, b1, b2, w3, w4, r2⟩, wI, rI, bI⟩
  · exact ⟨DownW.oinv_init c, DownR.oinv_init c, Axl2Wb.oinv_init d _⟩

/-- The observed composite is the machine the driver serves and the harness co-simulates against the chain the real
    `add_adapter` builds (`chaindw …`): same outputs, same state evolution. -/
theorem chain_sys_is_tied_machine (c : DownCfg) (d : A2WCfg) (s : Chain.Sys) (i : AxlM × WbS) :
    let M := Chain.machine c d
    let S := Chain.sys c d
    ((S.out s i).1, (S.out s i).2.2.2) = M.out (s.w, s.r, s.b) i ∧
    ((S.next s i).w, (S.next s i).r, (S.next s i).b) = M.next (s.w, s.r, s.b) i :=
  ⟨rfl, rfl⟩

/-- Non-vacuity: 64→32 chain, a held write of 0x1122334455667788 to 0x1008 against a Wishbone partner that
    acknowledges every other cycle: legal for 12 cycles, and the two Wishbone writes (words 0x402, 0x403) were issued. -/
example :
    let c : DownCfg := { ratio := 2, nbTo := 4, abits := 32 }
    let d : A2WCfg := { aw := 32, nb := 4, shift := 2, base := 0 }
    let S := Chain.sys c d
    let w : AxlM := { AxlM.idle with awvalid := true, awaddr := 0x1008, wvalid := true, wdata := 0x1122334455667788,
                                     wstrb := 0xFF, bready := true }
    let a0 : WbS := { ack := false, datr := 0, err := false }
    let a1 : WbS := { ack := true, datr := 0, err := false }
    let ins := [(w, a0), (w, a1), (w, a0), (w, a1), (w, a0), (w, a1), (w, a0), (w, a1), (w, a0), (w, a1), (w, a0), (w, a1)]
    S.LegalFrom (fun s i => s.g.reqHeld i.1) S.init ins ∧
    (S.out (S.runFrom S.init (ins.take 3)) (w, a1)).2.2.2.adr = 0x402 ∧
    (S.out (S.runFrom S.init (ins.take 3)) (w, a1)).2.2.2.datw = 0x55667788 := by
  refine ⟨?_, ?_, ?_⟩
  · exact Machine.legal_of_legalB _ _ (fun s i => Down.reqHeldB s.g i.1) (fun s i h => Down.reqHeld_of_B s.g i.1 h) _ _
      (by decide)
  all_goals decide

end ChainThms
end Litex.C09
