import LitexProofs.Periph.Tolerance
import LitexProofs.Periph.I2cPad
import LitexProofs.Periph.UartSys
import LitexProofs.Periph.SpiSeq
import LitexModel.Periph.Bitbang
import LitexProofs.Periph.Loopback
import LitexProofs.Periph.Exact
import LitexProofs.Periph.I2cSeq
import LitexProofs.Periph.Glue2
import LitexProofs.Periph.Misc
import LitexProofs.Periph.SpiLink
import LitexModel.Periph.Link
import LitexProofs.Periph.Bone
/-
  C19 — Serial peripherals and timers produce exact waveforms and always finish.

  Models: `LitexModel/Periph/*`, compared with the real cores on every run (`harness/props/c19.py`, instances and
  pin-level monitors in `harness/c19lib.py`).  Every theorem quantifies over all input histories (`List` of per-cycle
  inputs, or a function `Nat → input` for the cycles of a frame), all data values and all parameters (tuning word,
  divider, load values, widths) subject to the stated side conditions.

  INVENTORY of the anchor files (class/function — Lean model — theorems here).  How each model is tied to the real core
  (exhaustive co-exploration of implementation × model, seeded lock-step co-simulation, independent pin-level monitors,
  and the instances run) is recorded in `harness/props/c19.py`.

  litex/soc/cores/uart.py
    UARTPads, UARTInterface, RS232PHYInterface   declarations only (records / endpoints), nothing to model
    RS232ClkPhaseAccum      accum/accNext        phase_accum
    RS232PHYTX              uartTx/txNext        uart_tx_frame, uart_tx_finishes, uart_tx_idle_high
    RS232PHYRX              uartRx/rxNext        uart_rx_sample_points, uart_rx_frame, uart_rx_recovers_partial,
                                                 uart_rx_tolerates_2pct / _2pct_10 / _general / _general_idle,
                                                 uart_loopback_partial, uart_loopback_aligned_partial,
                                                 uart_rx_pad_recovers_partial, uart_rx_end_to_end, uart_rx_end_to_end_any
    RS232PHY                (tuning word = int(baud/clk·2^32) is the models' parameter `tw`; dynamic baud = CSR storage)
                                                 all `tw`-general theorems
    RS232PHYMultiplexer     phyMux               phy_mux_routes
    UARTMultiplexer         uartMux              uart_mux_routes
    RS232PHYModel           phyModel             phy_model_wires
    UARTCrossover           crossover machine (two uartTop cross-wired; xover TX "FIFO" of depth 1 is a PipeValid buffer)
                                                 uart_crossover_no_loss (both directions)
    UART.add_auto_tx_flush  uartFlush            uart_auto_flush_transparent, uart_auto_flush_drop_rate, uart_auto_flush_drains,
                                                 uart_auto_flush_unblocks
                                                 uart_auto_flush_exactly_once(_reset) (the model follows the code after fix
                                                 C19-uart-autoflush-duplicate; the old pop strobe `flushPopOld` is kept for the
                                                 kernel-checked negative witnesses)
    _get_uart_fifo, UARTPHY constructor helpers  (sync case = C03's buffered FIFO model; async case is C05's)
    UART                    uartTopM, uartSysM   uart_top_no_loss_in_order, uart_sys_tx_once
    Stream2Wishbone, UARTBone, UARTWishboneBridge
                            bone (FSM + WaitTimer)   bone_write_burst, bone_write_access, bone_read_burst, bone_read_access,
                                                 bone_read_bytes, bone_bad_cmd, bone_no_timeout, bone_never_stuck
                                                 (UARTBone / UARTWishboneBridge only add the PHY and, for cd ≠ sys, C05's CDC;
                                                 widths 8 cannot be elaborated: Signal(int(log2(1))))
  litex/soc/cores/spi/spi_master.py
    SPIMaster               spiMaster/spiNext, spiNNext (cs vector)
                                                 spi_master_start, spi_master_xfer, spi_master_pulse_count, spi_master_idle_inv,
                                                 spi_master_cs_lines, spi_master_any_options, spi_master_terminates_exactly,
                                                 spi_master_loopback, spi_master_bad_length_stuck
    SPIMaster.add_csr / add_clk_divider          CSR fields wired 1:1 to the control signals (same model)
  litex/soc/cores/spi/spi_slave.py
    SPISlave                spiSlave/slvNext     spi_slave_xfer, spi_slave_pads, shiftIn_word, spi_slave_capture,
                                                 spi_slave_miso_sequence, spi_slave_word_stable_while_deselected
    SPIMaster ↔ SPISlave    spiLink = linkStep (the two cores pad to pad)
                                                 spi_link_mosi, spi_link_slave_idle, spi_link_miso_partial (div ≥ 8; witness at 7),
                                                 spi_link_served
  litex/soc/cores/i2c.py
    I2CClockGen             `cnt` part of i2cNext                i2c_step_timing, i2c_command_exact_cycles
    I2CMasterMachine        i2cMachine/i2cNext/i2cFsmStep        i2c_legal, i2c_command_ticks, i2c_returns_idle, i2c_write_sequence,
                                                 i2c_read_sequence, i2c_start_stop_sequences, i2c_step_timing,
                                                 i2c_command_exact_cycles
    I2CMaster               i2cMaster/i2cmNext   i2c_pad_legal, i2c_master_registers, i2c_pad_follows_machine
  litex/soc/cores/timer.py
    Timer                   timer/timerNext      timer_oneshot, timer_counts, timer_periodic, timer_latch, timer_full_waveform,
                                                 timer_disabled_holds_load, timer_update_latch_any
    Timer.add_uptime        uptimeM              timer_uptime
  litex/soc/cores/watchdog.py
    Watchdog                watchdog/wdNext      watchdog_counts, watchdog_feed, watchdog_feed_clears, watchdog_paused,
                                                 watchdog_reset_delay, watchdog_no_spurious_reset, watchdog_timeout_exact
  litex/gen/genlib/misc.py
    WaitTimer               WaitTimer (shared)   waittimer_done_iff
    timeline                timelineM            timeline_sequence
    displacer, chooser      displacer, chooser   displacer_places, chooser_displacer
    split                   split                split_concat
    BitSlip                 bitSlip              bitslip_shift
  litex/soc/cores/pwm.py
    PWM                     pwm/pwmNext          pwm_wave, pwm_duty, pwm_period_zero_one, pwm_width_corners, pwm_disable_reset,
                                                 pwm_exact_waveform, pwm_out_of_range
    PWM.add_*csr            CSR storages wired 1:1 (same model)
    MultiChannelPWM         mcPwmNext            multichannel_pwm
  litex/soc/cores/bitbang.py
    I2CMaster, I2CMasterSim, SPIMaster   bbI2c, bbI2cSim, bbSpi  bitbang_i2c_wiring, bitbang_i2c_sim_wiring, bitbang_spi_wiring
    add_init, collect_i2c_info           Python-level bookkeeping for the exporter (C14's area), not modelled
-/
namespace Litex.C19
open Litex Litex.Periph

/-! ## Timer, `Timer.add_uptime` (`timer.py`) -/

/-- **One-shot.**  After any history, a disabled cycle loads `load = L`; from the next cycle on (the first in which
    the enable is visible), with `reload = 0`, the zero event is raised exactly `L` cycles later — not earlier —
    and stays (the counter stops at 0). -/
theorem timer_oneshot (pre : List TimerIn) (d : TimerIn) (run : List TimerIn) (i : TimerIn)
    (hd : d.en = false) (hrun : ∀ j ∈ run, j.en = true ∧ j.reload = 0) :
    (timer.out (timer.run (pre ++ d :: run)) i).zero = decide (d.load ≤ run.length) := by
  simp only [Machine.run, Machine.runFrom_append, timer_runFrom_cons]
  show ((timer.runFrom _ run).value == 0) = _
  rw [Bool.beq_eq_decide_eq, decide_eq_decide, timer_zero_closed 0 run hrun, timer_disabled_loads _ d hd]
  exact ⟨fun h => h.1, fun h => ⟨h, Nat.one_dvd _⟩⟩

example : (timer.trace [⟨3, 0, false, false⟩, ⟨9, 0, true, false⟩, ⟨9, 0, true, false⟩, ⟨9, 0, true, false⟩,
    ⟨9, 0, true, false⟩, ⟨9, 0, true, false⟩]).map (·.zero) = [true, false, false, false, true, true] := by decide

/-- **One step per enabled cycle**, whatever `reload` says, until 0 is reached. -/
theorem timer_counts (s : TimerSt) (ins : List TimerIn) (h : ∀ i ∈ ins, i.en = true) (hlen : ins.length ≤ s.value) :
    (timer.runFrom s ins).value = s.value - ins.length :=
  timer.runFrom_countup_zero (Inv := fun k t => k ≤ s.value → t.value = s.value - k) (A := fun i => i.en = true)
    (fun k t i ht hi hk => by
      have hv : (t.value == 0) = false := by rw [ht (by omega)]; exact beq_eq_false_iff_ne.mpr (by omega)
      show (if i.en then (if t.value == 0 then i.reload else t.value - 1) else i.load) = _
      rw [hi, if_pos rfl, hv, ht (by omega)]
      exact (Nat.sub_add_eq _ _ _).symm) ins s (fun _ => rfl) h hlen

/-- **Periodic.**  From a zero event, with `reload = R` and the timer enabled, the next zero events come exactly
    every `R + 1` cycles: zero is raised `k` cycles later iff `R + 1` divides `k`. -/
theorem timer_periodic (R : Nat) (s : TimerSt) (hs : s.value = 0) (ins : List TimerIn)
    (h : ∀ i ∈ ins, i.en = true ∧ i.reload = R) (i : TimerIn) :
    (timer.out (timer.runFrom s ins) i).zero = true ↔ (R + 1) ∣ ins.length := by
  show ((timer.runFrom s ins).value == 0) = true ↔ _
  rw [beq_iff_eq, timer_zero_closed R ins h s, hs]
  exact ⟨fun h => h.2, fun h => ⟨Nat.zero_le _, h⟩⟩

example : (timer.traceFrom ⟨0, 0⟩ (List.replicate 7 ⟨0, 2, true, false⟩)).map (·.zero) =
    [true, false, false, true, false, false, true] := by decide

/-- **Value latch.**  `value` holds the count of the last cycle in which `update_value` was written. -/
theorem timer_latch (pre : List TimerIn) (u : TimerIn) (post : List TimerIn)
    (hu : u.upd = true) (hpost : ∀ j ∈ post, j.upd = false) :
    (timer.run (pre ++ u :: post)).status = (timer.run pre).value := by
  simp only [Machine.run, Machine.runFrom_append, timer_runFrom_cons]
  rw [timer_status_hold post hpost]
  simp [timerNext, hu]

example : (timer.run [⟨5, 0, false, false⟩, ⟨0, 0, true, false⟩, ⟨0, 0, true, true⟩, ⟨0, 0, true, false⟩]).status = 4 := by
  decide

/-- After any history, a disabled cycle loads `load = L`; `k` enabled cycles with constant
    `reload = R` later (any `k`) the counter is `L − k` while `k ≤ L`, then `R − ((k − L − 1) mod (R + 1))`: it counts
    `L, …, 1, 0, R, R−1, …, 0, R, …` (stays 0 for `R = 0`).  The zero event is raised exactly in the cycles with
    `k ≥ L` and `R + 1` dividing `k − L`: first after `L` cycles, then every `R + 1` cycles. -/
theorem timer_full_waveform (pre : List TimerIn) (d : TimerIn) (run : List TimerIn) (i : TimerIn) (R : Nat)
    (hd : d.en = false) (hrun : ∀ j ∈ run, j.en = true ∧ j.reload = R) :
    (timer.run (pre ++ d :: run)).value =
      (if run.length ≤ d.load then d.load - run.length else R - (run.length - d.load - 1) % (R + 1)) ∧
    ((timer.out (timer.run (pre ++ d :: run)) i).zero = true ↔
      d.load ≤ run.length ∧ (R + 1) ∣ (run.length - d.load)) := by
  simp only [Machine.run, Machine.runFrom_append, timer_runFrom_cons]
  have hl := timer_disabled_loads (timer.runFrom timer.init pre) d hd
  refine ⟨?_, ?_⟩
  · rw [timer_value_closed R run hrun, hl]
  · show ((timer.runFrom _ run).value == 0) = true ↔ _
    rw [beq_iff_eq, timer_zero_closed R run hrun, hl]

example : (timer.trace (⟨2, 3, false, false⟩ :: List.replicate 9 ⟨7, 3, true, false⟩)).map (·.zero) =
    [true, false, false, true, false, false, false, true, false, false] := by decide

/-- While `en = 0` the counter is the `load` value of the previous cycle, so the zero
    event shows `load == 0` (a disabled timer with `load = 0` raises zero at once). -/
theorem timer_disabled_holds_load (pre : List TimerIn) (d i : TimerIn) (hd : d.en = false) :
    (timer.run (pre ++ [d])).value = d.load ∧ (timer.out (timer.run (pre ++ [d])) i).zero = (d.load == 0) := by
  have h : (timer.runFrom timer.init (pre ++ [d])).value = d.load := by
    rw [Machine.runFrom_append]; exact timer_disabled_loads _ d hd
  exact ⟨h, by show ((timer.runFrom timer.init (pre ++ [d])).value == 0) = _; rw [h]⟩

example : (timer.trace [⟨5, 0, false, false⟩, ⟨0, 0, false, false⟩, ⟨3, 0, false, false⟩, ⟨3, 0, false, false⟩]).map
    (·.zero) = [true, false, true, false] := by decide

/-- The status register changes only in cycles with `update_value` written, and then to
    the counter value of that cycle. -/
theorem timer_update_latch_any (pre : List TimerIn) (u : TimerIn) :
    (timer.run (pre ++ [u])).status = if u.upd then (timer.run pre).value else (timer.run pre).status := by
  simp only [Machine.run, Machine.runFrom_append, timer_runFrom_cons, timer_runFrom_nil]
  rfl

example : (timer.traceFrom ⟨0, 9⟩ [⟨5, 0, false, false⟩, ⟨5, 0, true, true⟩, ⟨5, 0, true, false⟩, ⟨5, 0, true, true⟩,
    ⟨5, 0, true, false⟩]).map (·.status) = [9, 9, 5, 5, 3] := by decide

/-- The free-running counter shows the number of cycles since reset (mod 2^64), and `uptime_cycles` holds
    its value of the last cycle in which `uptime_latch` was written. -/
theorem timer_uptime (pre post : List Bool) (hpost : ∀ l ∈ post, l = false) :
    (uptimeM.run pre).cycles = pre.length % 2 ^ 64 ∧
    (uptimeM.run (pre ++ true :: post)).latched = pre.length % 2 ^ 64 := by
  have hc : (uptimeM.run pre).cycles = pre.length % 2 ^ 64 :=
    (uptime_cycles pre uptimeM.init (Nat.two_pow_pos 64)).trans (by rw [show uptimeM.init.cycles = 0 from rfl, Nat.zero_add])
  refine ⟨hc, ?_⟩
  simp only [Machine.run, Machine.runFrom_append]
  show (uptimeM.runFrom (uptimeNext (uptimeM.runFrom uptimeM.init pre) true) post).latched = _
  rw [uptime_hold post hpost]
  simp only [uptimeNext, if_true]
  exact hc

/-! ## Watchdog (`watchdog.py`) -/

/-- **Counting and saturation.**  Enabled and not fed, `remaining` goes down one step per cycle and saturates at 0;
    `execute` is raised the cycle after an enabled cycle that saw `remaining == 0`, i.e. after `remaining + 1`
    enabled cycles, and not earlier. -/
theorem watchdog_counts (d : Nat) (s : WdSt) (ins : List WdIn) (h : ∀ i ∈ ins, i.enable = true ∧ i.feed = false) :
    ((watchdog d).runFrom s ins).remaining = s.remaining - ins.length ∧
    (ins ≠ [] → ((watchdog d).runFrom s ins).execute = decide (s.remaining < ins.length)) := by
  have := (watchdog d).runFrom_countup_zero
    (Inv := fun k t => t.remaining = s.remaining - k ∧ (k ≠ 0 → t.execute = decide (s.remaining < k)))
    (fun k t i ht hi => by
      obtain ⟨hr, he⟩ := wdNext_enabled d t i hi.1 hi.2
      refine ⟨hr.trans (by rw [ht.1]; omega), fun _ => he.trans ?_⟩
      rw [ht.1, Bool.beq_eq_decide_eq, decide_eq_decide]; omega) ins s ⟨rfl, fun h => absurd rfl h⟩ h
  exact ⟨this.1, fun hne => this.2 (mt List.length_eq_zero_iff.mp hne)⟩

/-- **Feed** reloads `remaining` with `cycles` (also while disabled or halted). -/
theorem watchdog_feed (d : Nat) (s : WdSt) (i : WdIn) (h : i.feed = true) :
    (wdNext d s i).remaining = i.cycles ∧ (wdNext d s i).execute = s.execute := by
  simp [wdNext, h]

/-- After a feed with `cycles ≠ 0` the next enabled cycle withdraws the timeout. -/
theorem watchdog_feed_clears (d : Nat) (s : WdSt) (i j : WdIn) (h : i.feed = true) (hc : i.cycles ≠ 0)
    (hj : j.enable = true) (hjf : j.feed = false) : (wdNext d (wdNext d s i) j).execute = false := by
  simp [wdNext, h, hj, hjf, hc]

/-- **Pause.**  Disabled, or halted with `pause_halted`, and not fed: nothing moves. -/
theorem watchdog_paused (d : Nat) (s : WdSt) (ins : List WdIn) (h : ∀ i ∈ ins, i.enable = false ∧ i.feed = false) :
    ((watchdog d).runFrom s ins).remaining = s.remaining ∧ ((watchdog d).runFrom s ins).execute = s.execute :=
  Machine.invariant_of_legal (watchdog d) (fun _ i => i.enable = false ∧ i.feed = false)
    (fun t => t.remaining = s.remaining ∧ t.execute = s.execute)
    (fun t i ht hi => by simpa [watchdog, wdNext, hi.1, hi.2] using ht) ins s ⟨rfl, rfl⟩
    (Machine.LegalFrom.of_forall _ h s)

/-- **Reset delay.**  After every history from reset the reset output is high iff the timeout condition
    (`enable ∧ execute ∧ reset mode`) holds now and has held for the `reset_delay` cycles before. -/
theorem watchdog_reset_delay (d : Nat) (ins : List WdIn) (i : WdIn) :
    ((watchdog d).out ((watchdog d).run ins) i).crgRst =
      (wdWait ((watchdog d).run ins) i && decide (d ≤ WaitTimer.streak (wdWaits d (watchdog d).init ins))) := by
  have h := wd_rcount d ins (watchdog d).init 0 rfl
  show (wdWait _ i && WaitTimer.done ((watchdog d).runFrom (watchdog d).init ins).rcount) = _
  rw [h, WaitTimer.done_sub]
  rfl

/-- **No reset without a timeout**, for every `reset_delay` (also 0, the constructor default): the reset output is
    high only in a cycle in which the watchdog is enabled, has timed out and is in reset mode. -/
theorem watchdog_no_spurious_reset (d : Nat) (ins : List WdIn) (i : WdIn)
    (h : ((watchdog d).out ((watchdog d).run ins) i).crgRst = true) :
    i.enable = true ∧ ((watchdog d).run ins).execute = true ∧ i.resetF = true := by
  rw [watchdog_reset_delay] at h
  simp only [wdWait, Bool.and_eq_true] at h
  exact ⟨h.1.1.1, h.1.1.2, h.1.2⟩

/-- `reset_delay = 0`: quiet in the reset state, reset in the very cycle of a timeout in reset mode. -/
example : ((watchdog 0).out (watchdog 0).init ⟨false, false, false, false, false, 0⟩).crgRst = false ∧
    (((watchdog 0).trace (List.replicate 3 ⟨false, true, true, false, false, 0⟩)).map (·.crgRst)) =
      [false, true, true] := by decide

example : (((watchdog 2).trace (List.replicate 6 ⟨false, true, true, false, false, 0⟩)).map (·.crgRst)) =
    [false, false, false, true, true, true] := by decide

/-- For every `reset_delay = d`, every state without a pending timeout and every feed
    value `C`: after the feed, `n` enabled, unfed cycles in reset mode later (any `n`)
      * `remaining = C − n` (saturating at 0),
      * the timeout event `ev.wdt.trigger` is high iff `n ≥ C + 1` — exactly `C + 1` enabled cycles after the feed, not
        earlier —,
      * the reset output is high iff `n ≥ C + 1 + d`: exactly `reset_delay` cycles after the timeout, and it stays. -/
theorem watchdog_timeout_exact (d : Nat) (s : WdSt) (fd : WdIn) (hfd : fd.feed = true) (he : s.execute = false)
    (ins : List WdIn) (h : ∀ i ∈ ins, i.enable = true ∧ i.feed = false ∧ i.resetF = true)
    (i : WdIn) (hie : i.enable = true) (hir : i.resetF = true) :
    let st := (watchdog d).runFrom (wdNext d s fd) ins
    st.remaining = fd.cycles - ins.length ∧
    ((watchdog d).out st i).trigger = decide (fd.cycles + 1 ≤ ins.length) ∧
    ((watchdog d).out st i).crgRst = decide (fd.cycles + 1 + d ≤ ins.length) := by
  intro st
  have hinv := wd_after_feed_run d fd.cycles ins h 0 _ (wd_feed_entry d s fd hfd he)
  rw [Nat.zero_add] at hinv
  obtain ⟨h1, h2, h3⟩ := hinv
  refine ⟨h1, ?_, ?_⟩
  · show (i.enable && st.execute) = _
    rw [hie, show st.execute = _ from h2]
    exact decide_eq_decide.mpr (by omega)
  · show (wdWait st i && WaitTimer.done st.rcount) = _
    rw [wdWait, hie, hir, show st.execute = _ from h2, show st.rcount = _ from h3, WaitTimer.done_sub,
      Bool.true_and, Bool.and_true, ← Bool.decide_and]
    exact decide_eq_decide.mpr (by omega)

/-- Non-vacuity: `reset_delay = 2`, feed 3: the event in cycle 4 after the feed, the reset in cycle 6. -/
example :
    let run : WdIn := ⟨false, true, true, false, false, 0⟩
    ((watchdog 2).trace (⟨true, true, true, false, false, 3⟩ :: List.replicate 8 run)).map (fun o => (o.trigger, o.crgRst)) =
    [(false, false), (false, false), (false, false), (false, false), (false, false), (true, false), (true, false),
     (true, true), (true, true)] := by decide

/-! ## `WaitTimer`, `timeline` (`misc.py`) -/

/-- `done` exactly when `wait` has been held for the last `t` cycles or more — for every history. -/
theorem waittimer_done_iff (t : Nat) (ws : List Bool) :
    WaitTimer.done (WaitTimer.run t ws) = decide (t ≤ WaitTimer.streak ws) :=
  WaitTimer.done_run t ws

example : WaitTimer.done (WaitTimer.run 3 [true, true, false, true, true, true]) = true ∧
          WaitTimer.done (WaitTimer.run 3 [true, true, true, false, true, true]) = false := by decide

/-- `last ≥ 1` is the largest event time.  From the idle counter a trigger starts the sequence; `k`
    cycles after the trigger cycle (`1 ≤ k ≤ last`) the counter shows `k` — so the event with time `e` fires exactly
    `e` cycles after the trigger, whatever the trigger input does meanwhile — and one cycle after `last` the counter is
    idle again (also when `last + 1` is a power of two and the counter simply overflows). -/
theorem timeline_sequence (last : Nat) (hl : 1 ≤ last) (ts : List Bool) (hlen : ts.length < last) (t : Bool) :
    (timelineM last).runFrom 0 (true :: ts) = 1 + ts.length ∧
    timelineFires (1 + ts.length) ((timelineM last).runFrom 0 (true :: ts)) t = true ∧
    (ts.length + 1 = last → (timelineM last).runFrom 0 (true :: ts ++ [t]) = 0) ∧
    (timelineM last).runFrom 0 [false] = 0 := by
  have h1 : (timelineM last).runFrom 0 (true :: ts) = 1 + ts.length := by
    show (timelineM last).runFrom (timelineNext last 0 true) ts = _
    rw [timeline_next_idle last true hl]
    exact timeline_counts last hl ts 1 (by omega) (by omega)
  refine ⟨h1, ?_, ?_, ?_⟩
  · rw [h1]
    have : ¬ (1 + ts.length = 0) := by omega
    simp [timelineFires]
  · intro he
    have : (timelineM last).runFrom 0 (true :: ts ++ [t]) =
        timelineNext last ((timelineM last).runFrom 0 (true :: ts)) t := by
      rw [show true :: ts ++ [t] = (true :: ts) ++ [t] from rfl, Machine.runFrom_append]; rfl
    rw [this, h1, timeline_next_running last _ t hl (by omega) (by omega)]
    have : 1 + ts.length = last := by omega
    simp [this]
  · show timelineNext last 0 false = 0
    rw [timeline_next_idle last false hl]; rfl

example : ((List.range 9).map fun k => (timelineM 5).runFrom 0 ((true :: List.replicate 8 true).take k)) =
    [0, 1, 2, 3, 4, 5, 0, 1, 2] := by decide

/-! ## PWM, MultiChannelPWM (`pwm.py`) -/

/-- **Waveform.**  Enabled, not reset, constant `period = P ≥ 1`: the counter is a mod-`P` counter, and the output
    one cycle later is high iff the counter is below `width`. -/
theorem pwm_wave (P : Nat) (s : PwmSt) (hs : s.counter < P) (ins : List PwmIn)
    (h : ∀ i ∈ ins, i.enable = true ∧ i.reset = false ∧ i.period = P) (i : PwmIn) (hi : i.enable = true) :
    (pwm.runFrom s ins).counter = (s.counter + ins.length) % P ∧
    (pwmNext (pwm.runFrom s ins) i).pwm = decide ((s.counter + ins.length) % P < i.width) := by
  have hc := pwm_counter P ins h s hs
  exact ⟨hc, by simp [pwmNext, hi, hc]⟩

/-- **Duty.**  Over one period (`P` cycles from counter 0, constant `width = W`) the output register is loaded with
    1 in exactly `min W P` cycles: high for `width` of every `period` cycles (always high if `width ≥ period`). -/
theorem pwm_duty (P W : Nat) (s : PwmSt) (hs : s.counter = 0) (ins : List PwmIn) (hlen : ins.length = P)
    (h : ∀ i ∈ ins, i.enable = true ∧ i.reset = false ∧ i.period = P ∧ i.width = W) :
    pwmHighs s ins = min W P := by
  rw [pwm_highs_partial P W ins h s hs (by omega), hlen]

example : (pwm.trace (List.replicate 9 ⟨true, false, 1, 4⟩)) =
    [false, true, false, false, false, true, false, false, false] := by decide

/-- `period` = 0 or 1: the counter stays 0 for ever (from any counter value it is 0 after one
    cycle), and every enabled cycle loads the output register with `width ≥ 1`: constant high unless `width = 0`. -/
theorem pwm_period_zero_one (s : PwmSt) (hs : s.counter = 0) (ins : List PwmIn) (h : ∀ i ∈ ins, i.period ≤ 1)
    (i : PwmIn) (hi : i.enable = true) :
    (pwm.runFrom s ins).counter = 0 ∧ (pwmNext (pwm.runFrom s ins) i).pwm = decide (0 < i.width) ∧
    (∀ s' : PwmSt, i.period ≤ 1 → (pwmNext s' i).counter = 0) := by
  have hc := pwm_deg_period_counter ins h s hs
  exact ⟨hc, by simp [pwmNext, hi, hc], fun s' hp => pwm_wrap_step s' i (by omega)⟩

example : (pwm.trace (List.replicate 4 ⟨true, false, 1, 0⟩)) = [false, true, true, true] ∧
    (pwm.trace (List.replicate 4 ⟨true, false, 0, 1⟩)) = [false, false, false, false] := by decide

/-- `width = 0`: the output register is loaded with 0 in every cycle — any period, enable,
    reset and state.  `width ≥ period ≥ 1` (up to the all-ones value), counter in range: it is loaded with 1 in every
    enabled cycle — constant high, no glitch at the wrap. -/
theorem pwm_width_corners :
    (∀ (s : PwmSt) (i : PwmIn), i.width = 0 → (pwmNext s i).pwm = false) ∧
    (∀ (s : PwmSt) (ins : List PwmIn), (∀ i ∈ ins, i.width = 0) → pwmHighs s ins = 0) ∧
    (∀ (P : Nat) (s : PwmSt) (ins : List PwmIn), s.counter < P →
      (∀ i ∈ ins, i.enable = true ∧ i.reset = false ∧ i.period = P ∧ P ≤ i.width) →
      pwmHighs s ins = ins.length ∧
      ∀ i : PwmIn, i.enable = true → P ≤ i.width → (pwmNext (pwm.runFrom s ins) i).pwm = true) := by
  refine ⟨pwm_zero_width_step, fun s ins h => pwm_zero_width_highs ins h s, fun P s ins hs h => ?_⟩
  refine ⟨pwm_full_width_highs P ins h s hs, fun i hi hw => ?_⟩
  have hc := pwm_counter P ins (fun x hx => ⟨(h x hx).1, (h x hx).2.1, (h x hx).2.2.1⟩) s hs
  have hlt : (pwm.runFrom s ins).counter < P := by rw [hc]; exact Nat.mod_lt _ (by omega)
  have : (pwm.runFrom s ins).counter < i.width := by omega
  simp [pwmNext, hi, this]

example : (pwm.trace (List.replicate 6 ⟨true, false, 0, 3⟩)) = List.replicate 6 false ∧
    (pwm.trace (List.replicate 6 ⟨true, false, 255, 3⟩)) = false :: List.replicate 5 true := by decide

/-- `enable = 0` clears counter and output register whatever `reset`, `width`, `period` are.
    `reset = 1` while enabled clears the counter, but the output register still follows the old counter
    (`pwm.eq(enable & (counter < width))` is outside the reset guard).  After either, the phase restarts: `k` enabled
    cycles later the counter is `k mod period` and the output follows it. -/
theorem pwm_disable_reset (s : PwmSt) (i : PwmIn) :
    (i.enable = false → pwmNext s i = ⟨0, false⟩) ∧
    (i.enable = true → i.reset = true → pwmNext s i = ⟨0, decide (s.counter < i.width)⟩) ∧
    ((i.enable = false ∨ i.reset = true) → ∀ (P : Nat) (ins : List PwmIn) (j : PwmIn), 1 ≤ P →
      (∀ x ∈ ins, x.enable = true ∧ x.reset = false ∧ x.period = P) → j.enable = true →
      (pwm.runFrom (pwmNext s i) ins).counter = ins.length % P ∧
      (pwmNext (pwm.runFrom (pwmNext s i) ins) j).pwm = decide (ins.length % P < j.width)) := by
  refine ⟨pwm_off_step s i, pwm_reset_step s i, fun hoff P ins j hP h hj => ?_⟩
  have h0 : (pwmNext s i).counter = 0 := by
    rcases hoff with he | hr
    · simp [pwmNext, he]
    · simp [pwmNext, hr]
  have := pwm_wave P (pwmNext s i) (by omega) ins h j hj
  rwa [h0, Nat.zero_add] at this

example : (pwm.trace [⟨true, false, 2, 4⟩, ⟨true, false, 2, 4⟩, ⟨true, false, 2, 4⟩, ⟨true, true, 2, 4⟩,
    ⟨true, false, 2, 4⟩, ⟨true, false, 2, 4⟩, ⟨true, false, 2, 4⟩, ⟨false, false, 2, 4⟩, ⟨true, false, 2, 4⟩]) =
    [false, true, true, false, false, true, true, false, false] := by decide

/-- From counter 0, after any number `k` of enabled cycles with constant `period = P ≥ 1` and
    `width = W`: the counter is `k mod P`, the output one cycle later is high iff `k mod P < W`, and the number of
    high cycles so far is `(k / P)·min(W, P) + min(W, k mod P)` — `n·min(W, P)` over `n` whole periods. -/
theorem pwm_exact_waveform (P W : Nat) (hP : 1 ≤ P) (s : PwmSt) (hs : s.counter = 0) (ins : List PwmIn)
    (h : ∀ i ∈ ins, i.enable = true ∧ i.reset = false ∧ i.period = P ∧ i.width = W)
    (i : PwmIn) (hi : i.enable = true) (hw : i.width = W) :
    (pwm.runFrom s ins).counter = ins.length % P ∧
    (pwmNext (pwm.runFrom s ins) i).pwm = decide (ins.length % P < W) ∧
    pwmHighs s ins = (ins.length / P) * min W P + min W (ins.length % P) ∧
    (∀ n, ins.length = n * P → pwmHighs s ins = n * min W P) := by
  have hc := PwmConst.counter h s (by omega)
  rw [hs, Nat.zero_add] at hc
  exact ⟨hc, by simp [pwmNext, hi, hc, hw], pwm_highs_any P W hP ins h s hs,
    fun n hn => pwm_highs_periods P W hP n ins h s hs hn⟩

example : pwmHighs ⟨0, false⟩ (List.replicate 11 ⟨true, false, 3, 4⟩) = 2 * 3 + 3 ∧
    pwmHighs ⟨0, false⟩ (List.replicate 12 ⟨true, false, 3, 4⟩) = 3 * 3 := by decide

/-- A counter at or above `period − 1` (the period was lowered at run time) returns to 0 in the
    next cycle; after any single cycle with `period = P ≥ 1` the counter is below `P`, from whatever value, so the
    mod-`P` waveform is re-established one cycle after a change of `period`. -/
theorem pwm_out_of_range (s : PwmSt) (i : PwmIn) :
    (i.period ≤ s.counter + 1 → (pwmNext s i).counter = 0) ∧
    (1 ≤ i.period → (pwmNext s i).counter < i.period) ∧
    (1 ≤ i.period → ∀ (ins : List PwmIn) (j : PwmIn),
      (∀ x ∈ ins, x.enable = true ∧ x.reset = false ∧ x.period = i.period) → j.enable = true →
      (pwm.runFrom (pwmNext s i) ins).counter = ((pwmNext s i).counter + ins.length) % i.period ∧
      (pwmNext (pwm.runFrom (pwmNext s i) ins) j).pwm =
        decide (((pwmNext s i).counter + ins.length) % i.period < j.width)) := by
  have hr : 1 ≤ i.period → (pwmNext s i).counter < i.period := fun hP => by
    rcases pwm_counter_in_range s i with h0 | h1
    · omega
    · exact h1
  exact ⟨pwm_wrap_step s i, hr, fun hP ins j h hj => pwm_wave i.period (pwmNext s i) (hr hP) ins h j hj⟩

example : (pwmNext ⟨7, true⟩ ⟨true, false, 2, 3⟩).counter = 0 := by decide

/-- The shared counter is the counter of a single `PWM` driven with channel 0's enable and period
    (so `pwm_wave` / `pwm_duty` describe it), and every channel's output register is loaded with
    `enable_k ∧ counter < width_k`. -/
theorem multichannel_pwm (s : McPwmSt) (period : Nat) (chans : List (Bool × Nat)) (k : Nat) (hk : k < chans.length) :
    (mcPwmNext s period chans).counter =
      (pwmNext { counter := s.counter, pwm := false }
        { enable := (chans.headD (false, 0)).1, reset := false, width := 0, period := period }).counter ∧
    (mcPwmNext s period chans).pwm[k]? = some (chans[k].1 && decide (s.counter < chans[k].2)) :=
  ⟨by simp [mcPwmNext, pwmNext], by simp [mcPwmNext, hk]⟩

/-! ## UART: phase accumulator and transmitter -/

/-- `j` enabled cycles after a disabled one: `phase = ((j+1)·tw) mod 2^32` and the number of
    ticks produced is `⌊(j+1)·tw / 2^32⌋` (tx mode); rx mode starts from `2^31`.  `tick` is one bit, so there is
    at most one tick per cycle, and for `tw < 2^32` no carry is lost. -/
theorem phase_accum (tw : Nat) (rx : Bool) (htw : tw < M32) (a : Acc) (j : Nat) :
    let a0 := accNext tw rx a false
    (accRun tw rx a0 j).phase = (accLoad tw rx + j * tw) % M32 ∧
    accTicks tw rx a0 j = (accLoad tw rx + j * tw) / M32 := by
  intro a0
  have hl : accLoad tw rx < M32 := by
    unfold accLoad; split
    · unfold HALF32 M32; omega
    · exact htw
  have h := acc_enabled tw rx htw j a0 (accLoad tw rx) (by simp [a0, accNext, Acc.ofNat])
  rwa [Nat.div_eq_of_lt hl, Nat.add_zero] at h

example : accTicks 0x55555555 false (accNext 0x55555555 false ⟨0, false⟩ false) 9 = 3 := by decide

/-- For every byte `d`, every tuning word `0 < tw < 2^32`, every idle state and every input on the
    sink during the frame: `r` cycles after the byte was accepted (while `r·tw < 10·2^32`) the transmitter is in RUN
    and the pad carries bit `⌊r·tw / 2^32⌋` of the frame `start(0), d0 … d7, stop(1)` — bit `b` occupies exactly the
    cycles between tick `b` and tick `b+1`, so every bit lasts `⌊2^32/tw⌋` or `⌈2^32/tw⌉` cycles and the error never
    accumulates to a full cycle; `sink.ready` is high exactly in the last cycle of the stop bit; the next state is
    IDLE with the line high. -/
theorem uart_tx_frame (tw : Nat) (htw : tw < M32) (s : TxSt) (hs : s.run = false) (i0 : TxIn) (hv : i0.valid = true)
    (hd : i0.data < 256) (f : Nat → TxIn) (r : Nat) (hr : r * tw < 10 * M32) :
    let st := runFn (uartTx tw) (txNext tw s i0) f r
    st.run = true ∧ ((uartTx tw).out st (f r)).tx = frameBit i0.data (r * tw / M32) ∧
    (((uartTx tw).out st (f r)).ready = decide (10 * M32 ≤ (r + 1) * tw)) ∧
    (10 * M32 ≤ (r + 1) * tw → ((uartTx tw).next st (f r)).run = false ∧ ((uartTx tw).next st (f r)).tx = true) := by
  intro st
  have hst : st = txRunSt tw i0.data r := by
    simp only [st]; rw [tx_accept tw htw s i0 hs hv hd]; exact tx_run tw i0.data htw f r hr
  rw [hst]
  exact ⟨rfl, txHwBit_eq_frameBit _ _ hd, txReady_run tw _ r htw hr, tx_last tw i0.data r htw hd (f r) hr⟩

/-- **The frame always ends** (for `tw ≥ 1`), after exactly `⌈10·2^32 / tw⌉` cycles. -/
theorem uart_tx_finishes (tw : Nat) (h0 : 0 < tw) (htw : tw < M32) (s : TxSt) (hs : s.run = false) (i0 : TxIn)
    (hv : i0.valid = true) (hd : i0.data < 256) (f : Nat → TxIn) :
    let r := (10 * M32 - 1) / tw
    ((uartTx tw).out (runFn (uartTx tw) (txNext tw s i0) f r) (f r)).ready = true ∧
    (runFn (uartTx tw) (txNext tw s i0) f (r + 1)).run = false := by
  intro r
  have hdm := Nat.div_add_mod (10 * M32 - 1) tw
  have hml := Nat.mod_lt (10 * M32 - 1) h0
  have hc : r * tw = tw * ((10 * M32 - 1) / tw) := Nat.mul_comm _ _
  have e1 : (r + 1) * tw = r * tw + tw := Nat.succ_mul r tw
  have hM : 0 < M32 := by unfold M32; omega
  have h1 : r * tw < 10 * M32 := by omega
  have h2 : 10 * M32 ≤ (r + 1) * tw := by omega
  have h := uart_tx_frame tw htw s hs i0 hv hd f r h1
  simp only at h
  refine ⟨by rw [h.2.2.1]; simp [h2], ?_⟩
  exact (h.2.2.2 h2).1

example : (10 * M32 - 1) / 0x55555555 + 1 = 31 := by decide

/-- In every reachable state of the transmitter: IDLE ⇒ the line is high (the line is low only inside a frame; between
    back-to-back bytes there is the full stop bit plus at least one idle cycle, by `uart_tx_frame`). -/
theorem uart_tx_idle_high (tw : Nat) (ins : List TxIn) (h : ((uartTx tw).run ins).run = false) :
    ((uartTx tw).out ((uartTx tw).run ins) ⟨false, 0⟩).tx = true :=
  (Machine.invariant_runFrom (uartTx tw) TxInv (fun s i h => tx_inv_step tw s i h) ins _
    ⟨fun _ => rfl, fun h => Bool.noConfusion h⟩).idle h

/-! ## UART receiver: sample points, the received byte, reception from the pad -/

/-- `ln k` is the synchronised line in RUN cycle `k` (RUN cycle 0 is the cycle after the
    start edge `rx = 0 ∧ rx_d = 1` was seen; the pad is two synchroniser registers earlier).  For every line, every
    `tw < 2^32` and every cycle `r` up to the end of the frame: a tick in cycle `r` takes sample number `count + 1` and
    `r` is that sample's nominal cycle `⌈(n − ½)·2^32/tw⌉`; the shift register holds the samples taken so far; the frame
    completes exactly when `2^31 + r·tw ≥ 10·2^32`. -/
theorem uart_rx_sample_points (tw : Nat) (htw : tw < M32) (ln : Nat → Bool) (s0 : RxSt) (hrun : s0.run = true)
    (hc : s0.count = 0) (hacc : s0.acc = ⟨HALF32, false⟩) (hrx : s0.rx = ln 0) (hr0 : s0.r0 = ln 1)
    (r : Nat) (hr : HALF32 + r * tw < 10 * M32 + tw) :
    let st := runFn (uartRx tw) s0 (fun k => ln (k + 2)) r
    st.run = true ∧ st.rx = ln r ∧
    (st.acc.tick = true → r = rxSampleCycle tw (st.count + 1)) ∧
    st.data = rxData ln tw s0.data st.count ∧
    (rxDone st = true ↔ 10 * M32 ≤ HALF32 + r * tw) := by
  intro st
  have hinv : RxInv tw ln s0.data r st := rx_run tw htw ln s0.data s0 (rx_inv_entry tw ln s0 hrun hc hacc hrx hr0) r hr
  exact ⟨hinv.run, hinv.rx, rx_tick_cycle tw ln s0.data r st hinv, hinv.data, rx_done_iff tw ln s0.data r st hinv⟩

/-- **The received byte.**  The frame ends in the cycle of the tenth sample, `R = ⌈9.5·2^32/tw⌉` (it always ends for
    `tw ≥ 1`); there `source.valid` is the line value (the stop-bit check), bit `k` of `source.data` is the line at
    sample `k + 2` (LSB first), no byte was produced earlier, and the receiver returns to IDLE. -/
theorem uart_rx_frame (tw : Nat) (h0 : 0 < tw) (htw : tw < M32) (ln : Nat → Bool) (s0 : RxSt) (hrun : s0.run = true)
    (hc : s0.count = 0) (hacc : s0.acc = ⟨HALF32, false⟩) (hrx : s0.rx = ln 0) (hr0 : s0.r0 = ln 1)
    (hdat : s0.data < 256) :
    let R := rxSampleCycle tw 10
    let st := runFn (uartRx tw) s0 (fun k => ln (k + 2)) R
    ((uartRx tw).out st (ln (R + 2))).valid = ln R ∧
    (∀ k, k < 8 → ((uartRx tw).out st (ln (R + 2))).data.testBit k = ln (rxSampleCycle tw (k + 2))) ∧
    ((uartRx tw).out st (ln (R + 2))).data < 256 ∧
    ((uartRx tw).next st (ln (R + 2))).run = false ∧
    (∀ r, r < R → ((uartRx tw).out (runFn (uartRx tw) s0 (fun k => ln (k + 2)) r) (ln (r + 2))).valid = false) := by
  intro R st
  have h := rx_frame tw h0 htw ln _ s0 (rx_inv_entry tw ln s0 hrun hc hacc hrx hr0) (ln (R + 2))
  simp only at h
  obtain ⟨hd, hrx', hdata, hnext, hbefore⟩ := h
  refine ⟨?_, fun k hk => ?_, ?_, hnext, fun r hr => ?_⟩
  · show (rxDone st && st.rx) = ln R
    rw [hd, hrx']; rfl
  · show st.data.testBit k = _
    rw [hdata, rxData_testBit ln tw s0.data hdat 9 k hk (by omega)]
    congr 2; omega
  · show st.data < 256
    rw [hdata]; exact rxData_lt ln tw s0.data hdat _
  · show (rxDone _ && _) = false
    rw [hbefore r hr]; rfl

/-- Hypothesis: the synchronised line carries bit `b` of the frame of byte `d` at
    sample point `b + 1`, for `b = 0 … 9` (what "line constant around each sample point" gives).  Then the byte is
    produced, with the right value.  (Without the hypothesis the statement is false — any other line, see below.) -/
theorem uart_rx_recovers_partial (tw : Nat) (h0 : 0 < tw) (htw : tw < M32) (ln : Nat → Bool) (s0 : RxSt)
    (hrun : s0.run = true) (hc : s0.count = 0) (hacc : s0.acc = ⟨HALF32, false⟩) (hrx : s0.rx = ln 0)
    (hr0 : s0.r0 = ln 1) (hdat : s0.data < 256) (d : Nat) (hd : d < 256)
    (hline : ∀ b, b ≤ 9 → ln (rxSampleCycle tw (b + 1)) = frameBit d b) :
    let R := rxSampleCycle tw 10
    let o := (uartRx tw).out (runFn (uartRx tw) s0 (fun k => ln (k + 2)) R) (ln (R + 2))
    o.valid = true ∧ o.data = d := by
  intro R o
  have h := rx_frame tw h0 htw ln _ s0 (rx_inv_entry tw ln s0 hrun hc hacc hrx hr0) (ln (R + 2))
  simp only at h
  obtain ⟨hdone, hrxR, hdata, _, _⟩ := h
  refine ⟨?_, ?_⟩
  · show (rxDone _ && _) = true
    rw [hdone, hrxR]; exact hline 9 (by omega)
  · show (runFn (uartRx tw) s0 _ R).data = d
    rw [hdata]; exact rxData_frame ln tw s0.data d hdat hd hline

/-- Negative witness for the unconditioned statement: a line stuck low after the start edge yields no byte
    (`tw = 2^30`, four cycles per bit; the stop-bit check fails at the tenth sample). -/
example :
    let s0 : RxSt := ⟨false, false, false, true, 0, 0, ⟨HALF32, false⟩⟩
    ((uartRx (2 ^ 30)).out (runFn (uartRx (2 ^ 30)) s0 (fun _ => false) (rxSampleCycle (2 ^ 30) 10)) false).valid = false := by
  decide

/-- Non-vacuity: the line of byte 0xA5 at four cycles per bit, seen one cycle late, is received as 0xA5. -/
example :
    let ln : Nat → Bool := fun k => frameBit 0xA5 ((k + 1) / 4)
    let s0 : RxSt := ⟨ln 1, ln 0, true, true, 0, 0, ⟨HALF32, false⟩⟩
    (uartRx (2 ^ 30)).out (runFn (uartRx (2 ^ 30)) s0 (fun k => ln (k + 2)) (rxSampleCycle (2 ^ 30) 10)) true
      = ⟨true, 0xA5⟩ := by
  decide

/-- From the pad, including start-edge detection.  The receiver is idle and has
    seen the line high; the pad is high before cycle `t0` and low in `t0` (the first low sample of the start bit; any
    `t0 ≥ 0`).  The receiver is in RUN from cycle `t0 + 3` on (two synchroniser registers and the edge detector) and
    sample point `n` reads the pad of cycle `t0 + 1 + ⌈(n − ½)·2^32/tw⌉`.  Hypothesis: at these ten pad cycles the pad
    carries frame bit `b = n − 1` of byte `d`.  Then the receiver's `source.valid` is high in cycle
    `t0 + 3 + ⌈9.5·2^32/tw⌉` with `source.data = d`, it is low in every earlier cycle from cycle 0 on, and the receiver
    is back in IDLE in the next cycle. -/
theorem uart_rx_pad_recovers_partial (tw : Nat) (h0 : 0 < tw) (htw : tw < M32) (sR : RxSt) (hRrun : sR.run = false)
    (hr0 : sR.r0 = true) (hrx : sR.rx = true) (hrxd : sR.rxD = true) (hdat : sR.data < 256)
    (pad : Nat → Bool) (t0 : Nat) (hhigh : ∀ t, t < t0 → pad t = true) (hlow : pad t0 = false)
    (d : Nat) (hd : d < 256)
    (hline : ∀ b, b ≤ 9 → pad (t0 + 1 + rxSampleCycle tw (b + 1)) = frameBit d b) :
    let o := fun t => (uartRx tw).out (runFn (uartRx tw) sR pad t) (pad t)
    let R := t0 + 3 + rxSampleCycle tw 10
    (o R).valid = true ∧ (o R).data = d ∧ (∀ t, t < R → (o t).valid = false) ∧
    (runFn (uartRx tw) sR pad (R + 1)).run = false :=
  rx_pad_recovers tw h0 htw sR hRrun hr0 hrx hrxd hdat pad t0 hhigh hlow d hd hline

/-! ## UART receiver: rate tolerance, end to end with an ideal transmitter -/

/-- Rate tolerance with the mismatch as a parameter (the ±2 % statements below are its case `m = 20`): a transmitter
    with bit period `P/Q` cycles within ±`m` per mille of the receiver's `2^32/tw`
    (`(1000 − m)·2^32·Q ≤ 1000·P·tw ≤ (1000 + m)·2^32·Q`, written without subtraction), any sub-cycle phase `ε/Q`.
    Stated tolerance bound: `6000·tw + 20·m·2^32 ≤ 1000·2^32`, i.e. with `R = 2^32/tw` cycles per bit
    `3 + 10·(m/1000)·R ≤ R/2` — three cycles (registered line, ceiling of the sample cycle, phase) plus the mismatch
    accumulated over ten bit periods fit into half a bit period.  `m = 0`: `R ≥ 6`; `m = 20`: `R ≥ 10`; `m = 40`:
    `R ≥ 30`; `m ≥ 50`: no `tw`.  Under this bound every one of the ten sample points lies inside its own bit
    (`rx_tolerance_arith_general`), so the byte is recovered whatever follows the stop bit. -/
theorem uart_rx_tolerates_general (tw P Q ε m : Nat) (h0 : 0 < tw)
    (hbound : 6000 * tw + 20 * m * M32 ≤ 1000 * M32) (hε : ε < Q)
    (hlo : 1000 * (M32 * Q) ≤ 1000 * (P * tw) + m * (M32 * Q))
    (hhi : 1000 * (P * tw) ≤ 1000 * (M32 * Q) + m * (M32 * Q))
    (d : Nat) (hd : d < 256) (ln : Nat → Bool) (hln : ∀ k, ln k = frameBit d (((k + 1) * Q + ε) / P))
    (s0 : RxSt) (hrun : s0.run = true) (hc : s0.count = 0) (hacc : s0.acc = ⟨HALF32, false⟩) (hrx : s0.rx = ln 0)
    (hr0 : s0.r0 = ln 1) (hdat : s0.data < 256) :
    let R := rxSampleCycle tw 10
    let o := (uartRx tw).out (runFn (uartRx tw) s0 (fun k => ln (k + 2)) R) (ln (R + 2))
    o.valid = true ∧ o.data = d := by
  have htw : tw < M32 := by unfold M32 at *; omega
  apply uart_rx_recovers_partial tw h0 htw ln s0 hrun hc hacc hrx hr0 hdat d hd
  intro b hb
  have h := rx_tolerance_arith_general tw P Q ε b m h0 hbound hε hlo hhi hb
  rw [hln, Nat.div_eq_of_lt_le h.1 h.2]

/-- The line of the statement is high after the stop bit, so sample point 10
    only has to be past the start of the stop bit and the mismatch accumulates over nine bit periods only:
    `6000·tw + 18·m·2^32 ≤ 1000·2^32`  (`3 + 9·(m/1000)·R ≤ R/2`; `m = 20`: `R ≥ 9.375`; `m = 50`: `R ≥ 60`;
    `m ≥ 56`: no `tw`).  Same conclusion. -/
theorem uart_rx_tolerates_general_idle (tw P Q ε m : Nat) (h0 : 0 < tw)
    (hbound : 6000 * tw + 18 * m * M32 ≤ 1000 * M32) (hε : ε < Q)
    (hlo : 1000 * (M32 * Q) ≤ 1000 * (P * tw) + m * (M32 * Q))
    (hhi : 1000 * (P * tw) ≤ 1000 * (M32 * Q) + m * (M32 * Q))
    (d : Nat) (hd : d < 256) (ln : Nat → Bool) (hln : ∀ k, ln k = frameBit d (((k + 1) * Q + ε) / P))
    (s0 : RxSt) (hrun : s0.run = true) (hc : s0.count = 0) (hacc : s0.acc = ⟨HALF32, false⟩) (hrx : s0.rx = ln 0)
    (hr0 : s0.r0 = ln 1) (hdat : s0.data < 256) :
    let R := rxSampleCycle tw 10
    let o := (uartRx tw).out (runFn (uartRx tw) s0 (fun k => ln (k + 2)) R) (ln (R + 2))
    o.valid = true ∧ o.data = d := by
  have htw : tw < M32 := by unfold M32 at *; omega
  apply uart_rx_recovers_partial tw h0 htw ln s0 hrun hc hacc hrx hr0 hdat d hd
  intro b hb
  rw [hln]
  exact rx_line_bit_idle tw P Q ε b m d h0 hbound hε hlo hhi hb

/-- ±2 % (`m = 20`) needs at least ten cycles per bit. -/
theorem uart_rx_tolerates_2pct_10 (tw P Q ε : Nat) (h0 : 0 < tw) (h10 : 10 * tw ≤ M32) (hε : ε < Q)
    (hlo : 98 * M32 * Q ≤ 100 * (P * tw)) (hhi : 100 * (P * tw) ≤ 102 * M32 * Q)
    (d : Nat) (hd : d < 256) (ln : Nat → Bool) (hln : ∀ k, ln k = frameBit d (((k + 1) * Q + ε) / P))
    (s0 : RxSt) (hrun : s0.run = true) (hc : s0.count = 0) (hacc : s0.acc = ⟨HALF32, false⟩) (hrx : s0.rx = ln 0)
    (hr0 : s0.r0 = ln 1) (hdat : s0.data < 256) :
    let R := rxSampleCycle tw 10
    let o := (uartRx tw).out (runFn (uartRx tw) s0 (fun k => ln (k + 2)) R) (ln (R + 2))
    o.valid = true ∧ o.data = d := by
  -- ±2 % is the mismatch `m = 20` per mille
  rw [Nat.mul_assoc] at hlo hhi
  exact uart_rx_tolerates_general tw P Q ε 20 h0 (by omega) hε (by omega) (by omega) d hd ln hln s0 hrun hc hacc hrx hr0 hdat

/-- A transmitter with bit period `P/Q` clock cycles within ±2 % of the receiver's `2^32/tw`
    (`98·2^32·Q ≤ 100·P·tw ≤ 102·2^32·Q`), any sub-cycle phase `ε/Q` of its start edge relative to the receiver's
    clock, at least 16 cycles per bit: the synchronised line in RUN cycle `k` is bit `⌊((k+1)·Q + ε)/P⌋` of the frame,
    and every byte is recovered. -/
theorem uart_rx_tolerates_2pct (tw P Q ε : Nat) (h0 : 0 < tw) (h16 : 16 * tw ≤ M32) (hε : ε < Q)
    (hlo : 98 * M32 * Q ≤ 100 * (P * tw)) (hhi : 100 * (P * tw) ≤ 102 * M32 * Q)
    (d : Nat) (hd : d < 256) (ln : Nat → Bool) (hln : ∀ k, ln k = frameBit d (((k + 1) * Q + ε) / P))
    (s0 : RxSt) (hrun : s0.run = true) (hc : s0.count = 0) (hacc : s0.acc = ⟨HALF32, false⟩) (hrx : s0.rx = ln 0)
    (hr0 : s0.r0 = ln 1) (hdat : s0.data < 256) :
    let R := rxSampleCycle tw 10
    let o := (uartRx tw).out (runFn (uartRx tw) s0 (fun k => ln (k + 2)) R) (ln (R + 2))
    o.valid = true ∧ o.data = d :=
  uart_rx_tolerates_2pct_10 tw P Q ε h0 (by omega) hε hlo hhi d hd ln hln s0 hrun hc hacc hrx hr0 hdat

/-- Non-vacuity of `uart_rx_tolerates_2pct_10` below sixteen cycles per bit: `tw = 2^32/10` rounded down (ten cycles
    per bit), transmitter 2 % slow (`P/Q = 10.2` cycles), latest phase `ε = Q − 1`: the hypotheses hold, `16·tw ≤ 2^32`
    does not, and byte 0xA5 is received. -/
example :
    let tw := 429496729
    let ln : Nat → Bool := fun k => frameBit 0xA5 (((k + 1) * 10 + 9) / 102)
    let s0 : RxSt := ⟨ln 1, ln 0, true, true, 0, 0, ⟨HALF32, false⟩⟩
    (10 * tw ≤ M32 ∧ ¬ 16 * tw ≤ M32 ∧ 98 * M32 * 10 ≤ 100 * (102 * tw) ∧ 100 * (102 * tw) ≤ 102 * M32 * 10) ∧
    (uartRx tw).out (runFn (uartRx tw) s0 (fun k => ln (k + 2)) (rxSampleCycle tw 10)) (ln (rxSampleCycle tw 10 + 2))
      = ⟨true, 0xA5⟩ := by decide +kernel

/-- Negative witness: the cycles-per-bit bound is needed.  Four cycles per bit (`tw = 2^30`), transmitter exactly 2 %
    fast (`P/Q = 98/25 = 3.92` cycles), phase `ε = 24`: inside ±2 %, but byte 0x55 is received as 0xAA (every data
    sample lands in the following bit). -/
example :
    let tw := 2 ^ 30
    let ln : Nat → Bool := fun k => frameBit 0x55 (((k + 1) * 25 + 24) / 98)
    let s0 : RxSt := ⟨ln 1, ln 0, true, true, 0, 0, ⟨HALF32, false⟩⟩
    (98 * M32 * 25 ≤ 100 * (98 * tw) ∧ 100 * (98 * tw) ≤ 102 * M32 * 25) ∧
    (uartRx tw).out (runFn (uartRx tw) s0 (fun k => ln (k + 2)) (rxSampleCycle tw 10)) (ln (rxSampleCycle tw 10 + 2))
      = ⟨true, 0xAA⟩ := by decide +kernel

/-- Negative witness close to the bound of `uart_rx_tolerates_general_idle`: `tw = 474000000` (9.06 cycles per bit,
    `9·tw ≤ 2^32`, the bound asks for 9.375), transmitter exactly 2 % fast (`P/Q = 49·2^32/(50·tw)`), latest phase
    `ε = Q − 1`: sample point 9 already sees the stop bit, byte 0x55 is received as 0xD5. -/
example :
    let tw := 474000000
    let P := 49 * M32
    let Q := 50 * tw
    let ln : Nat → Bool := fun k => frameBit 0x55 (((k + 1) * Q + (Q - 1)) / P)
    let s0 : RxSt := ⟨ln 1, ln 0, true, true, 0, 0, ⟨HALF32, false⟩⟩
    (9 * tw ≤ M32 ∧ 98 * M32 * Q ≤ 100 * (P * tw) ∧ 100 * (P * tw) ≤ 102 * M32 * Q) ∧
    (uartRx tw).out (runFn (uartRx tw) s0 (fun k => ln (k + 2)) (rxSampleCycle tw 10)) (ln (rxSampleCycle tw 10 + 2))
      = ⟨true, 0xD5⟩ := by decide +kernel

/-- An ideal transmitter with bit period `P/Q` clock cycles within ±`m` per mille of the
    receiver's `2^32/tw` (`(1000 − m)·2^32·Q ≤ 1000·P·tw ≤ (1000 + m)·2^32·Q`, written without subtraction), whose start
    edge falls at an arbitrary time: the pad is high before cycle `t0`, and from `t0` on pad cycle `t0 + j` shows frame
    bit `⌊(j·Q + φ)/P⌋` of byte `d`, with `φ/Q < 1` the part of a cycle by which the edge precedes the sampling instant
    of cycle `t0` (start bit, eight data bits LSB first, stop bit, then the line stays high).  Bound:
    `6000·tw + 18·m·2^32 ≤ 1000·2^32`, i.e. `3 + 9·(m/1000)·R ≤ R/2` with `R = 2^32/tw` cycles per bit (`m = 20`:
    `R ≥ 9.375`).  The receiver was idle with the line seen high.  Then `source.valid` is high in cycle
    `t0 + 3 + ⌈9.5·2^32/tw⌉` with `source.data = d`, low in every earlier cycle from cycle 0 on, and the receiver is back
    in IDLE in the next cycle. -/
theorem uart_rx_end_to_end (tw P Q φ m : Nat) (h0 : 0 < tw)
    (hbound : 6000 * tw + 18 * m * M32 ≤ 1000 * M32) (hφ : φ < Q)
    (hlo : 1000 * (M32 * Q) ≤ 1000 * (P * tw) + m * (M32 * Q))
    (hhi : 1000 * (P * tw) ≤ 1000 * (M32 * Q) + m * (M32 * Q))
    (sR : RxSt) (hRrun : sR.run = false) (hr0 : sR.r0 = true) (hrx : sR.rx = true) (hrxd : sR.rxD = true)
    (hdat : sR.data < 256) (d : Nat) (hd : d < 256) (pad : Nat → Bool) (t0 : Nat)
    (hhigh : ∀ t, t < t0 → pad t = true) (hpad : ∀ j, pad (t0 + j) = frameBit d ((j * Q + φ) / P)) :
    let o := fun t => (uartRx tw).out (runFn (uartRx tw) sR pad t) (pad t)
    let R := t0 + 3 + rxSampleCycle tw 10
    (o R).valid = true ∧ (o R).data = d ∧ (∀ t, t < R → (o t).valid = false) ∧
    (runFn (uartRx tw) sR pad (R + 1)).run = false := by
  have htw : tw < M32 := by unfold M32 at *; omega
  have hφP : φ < P := phase_lt_period tw P Q φ m h0 hbound hφ hlo hhi
  have hlow : pad t0 = false := by
    have := hpad 0
    rw [Nat.add_zero, Nat.zero_mul, Nat.zero_add, Nat.div_eq_of_lt hφP] at this
    exact this
  apply uart_rx_pad_recovers_partial tw h0 htw sR hRrun hr0 hrx hrxd hdat pad t0 hhigh hlow d hd
  intro b hb
  rw [Nat.add_assoc, hpad, Nat.add_comm 1]
  exact rx_line_bit_idle tw P Q φ b m d h0 hbound hφ hlo hhi hb

/-- The same with anything on the line after the stop bit (for instance the start bit of
    the next frame): the pad is only specified while `j·Q + φ < 10·P`.  All ten sample points then have to lie inside
    their own bit, the mismatch accumulates over ten bit periods: `6000·tw + 20·m·2^32 ≤ 1000·2^32`
    (`3 + 10·(m/1000)·R ≤ R/2`; `m = 20`: `R ≥ 10`). -/
theorem uart_rx_end_to_end_any (tw P Q φ m : Nat) (h0 : 0 < tw)
    (hbound : 6000 * tw + 20 * m * M32 ≤ 1000 * M32) (hφ : φ < Q)
    (hlo : 1000 * (M32 * Q) ≤ 1000 * (P * tw) + m * (M32 * Q))
    (hhi : 1000 * (P * tw) ≤ 1000 * (M32 * Q) + m * (M32 * Q))
    (sR : RxSt) (hRrun : sR.run = false) (hr0 : sR.r0 = true) (hrx : sR.rx = true) (hrxd : sR.rxD = true)
    (hdat : sR.data < 256) (d : Nat) (hd : d < 256) (pad : Nat → Bool) (t0 : Nat)
    (hhigh : ∀ t, t < t0 → pad t = true)
    (hpad : ∀ j, j * Q + φ < 10 * P → pad (t0 + j) = frameBit d ((j * Q + φ) / P)) :
    let o := fun t => (uartRx tw).out (runFn (uartRx tw) sR pad t) (pad t)
    let R := t0 + 3 + rxSampleCycle tw 10
    (o R).valid = true ∧ (o R).data = d ∧ (∀ t, t < R → (o t).valid = false) ∧
    (runFn (uartRx tw) sR pad (R + 1)).run = false := by
  have htw : tw < M32 := by unfold M32 at *; omega
  have hφP : φ < P := phase_lt_period tw P Q φ m h0
    (Nat.le_trans (Nat.add_le_add_left (Nat.mul_le_mul_right M32 (Nat.mul_le_mul_right m (by decide))) _) hbound) hφ hlo hhi
  have hlow : pad t0 = false := by
    have := hpad 0 (by omega)
    rw [Nat.add_zero, Nat.zero_mul, Nat.zero_add, Nat.div_eq_of_lt hφP] at this
    exact this
  apply uart_rx_pad_recovers_partial tw h0 htw sR hRrun hr0 hrx hrxd hdat pad t0 hhigh hlow d hd
  intro b hb
  have h := rx_tolerance_arith_general tw P Q φ b m h0 hbound hφ hlo hhi hb
  have h10 : (b + 1) * P ≤ 10 * P := Nat.mul_le_mul_right P (by omega)
  rw [Nat.add_assoc, Nat.add_comm 1, hpad _ (by omega)]
  congr 1
  exact Nat.div_eq_of_lt_le h.1 h.2

/-- Non-vacuity of `uart_rx_end_to_end`: `tw = ⌊2^32/10⌋` (ten cycles per bit), transmitter 2 % slow
    (`P/Q = 102/10` cycles), start edge at `t0 = 5` with phase `φ = 3`, byte 0xA5: the hypotheses hold and the byte
    appears in cycle `5 + 3 + 96 = 104`, with nothing before. -/
example :
    let tw := 429496729
    let pad : Nat → Bool := fun t => if t < 5 then true else frameBit 0xA5 (((t - 5) * 10 + 3) / 102)
    let sR : RxSt := ⟨true, true, true, false, 0, 0, ⟨0, false⟩⟩
    let o := fun t => (uartRx tw).out (runFn (uartRx tw) sR pad t) (pad t)
    (6000 * tw + 18 * 20 * M32 ≤ 1000 * M32 ∧ 1000 * (M32 * 10) ≤ 1000 * (102 * tw) + 20 * (M32 * 10) ∧
      1000 * (102 * tw) ≤ 1000 * (M32 * 10) + 20 * (M32 * 10)) ∧
    5 + 3 + rxSampleCycle tw 10 = 104 ∧ o 104 = ⟨true, 0xA5⟩ ∧
    (List.range 104).all (fun t => !(o t).valid) = true := by decide +kernel

/-- Negative witness just outside the bound: `tw = 474000000` (9.06 cycles per bit, `9·tw ≤ 2^32`; the bound asks for
    9.375), transmitter exactly 2 % fast (`P/Q = 49·2^32/(50·tw)`), start edge at `t0 = 5` with the latest phase
    `φ = Q − 1`: sample point 9 already sees the stop bit and byte 0x55 arrives as 0xD5. -/
example :
    let tw := 474000000
    let P := 49 * M32
    let Q := 50 * tw
    let pad : Nat → Bool := fun t => if t < 5 then true else frameBit 0x55 (((t - 5) * Q + (Q - 1)) / P)
    let sR : RxSt := ⟨true, true, true, false, 0, 0, ⟨0, false⟩⟩
    let R := 5 + 3 + rxSampleCycle tw 10
    (9 * tw ≤ M32 ∧ ¬ 6000 * tw + 18 * 20 * M32 ≤ 1000 * M32 ∧
      1000 * (M32 * Q) ≤ 1000 * (P * tw) + 20 * (M32 * Q) ∧ 1000 * (P * tw) ≤ 1000 * (M32 * Q) + 20 * (M32 * Q)) ∧
    (uartRx tw).out (runFn (uartRx tw) sR pad R) (pad R) = ⟨true, 0xD5⟩ := by decide +kernel

/-! ## UART loopback (TX pad wired to RX pad) -/

/-- TX pad wired to RX pad, same clock, equal tuning words, at least four cycles per
    bit (`4·tw ≤ 2^32`).  The transmitter accepts byte `d` in cycle 0 (any later sink inputs, also a back-to-back next
    byte); the receiver was idle with the line high.  Then the receiver produces exactly one byte, `d`, in cycle
    `4 + ⌈9.5·2^32/tw⌉`, and nothing before.
    Full statement (any `tw`) is false: at two cycles per bit the sample points land in the neighbouring bit, see
    the witness below. -/
theorem uart_loopback_partial (tw : Nat) (h0 : 0 < tw) (h4 : 4 * tw ≤ M32) (sT : TxSt) (hTrun : sT.run = false)
    (hTtx : sT.tx = true) (f : Nat → TxIn) (hv : (f 0).valid = true) (hd : (f 0).data < 256)
    (sR : RxSt) (hRrun : sR.run = false) (hr0 : sR.r0 = true) (hrx : sR.rx = true) (hrxd : sR.rxD = true)
    (hdat : sR.data < 256) :
    let pad := txPad tw sT f
    let o := fun t => (uartRx tw).out (runFn (uartRx tw) sR pad t) (pad t)
    let R := 4 + rxSampleCycle tw 10
    (o R).valid = true ∧ (o R).data = (f 0).data ∧ ∀ t, t < R → (o t).valid = false :=
  loopback_recovers tw (loopbackAligned_of_four tw h0 h4) sT hTrun hTtx f hv hd sR hRrun hr0 hrx hrxd hdat

/-- Negative witness outside the hypothesis: two cycles per bit (`tw = 2^31`), byte 0x55 — the receiver's byte differs. -/
example :
    let sT : TxSt := ⟨false, 0, 0, true, ⟨0, false⟩⟩
    let sR : RxSt := ⟨true, true, true, false, 0, 0, ⟨0, false⟩⟩
    let f : Nat → TxIn := fun t => ⟨t == 0, 0x55⟩
    let pad := txPad (2 ^ 31) sT f
    let R := 4 + rxSampleCycle (2 ^ 31) 10
    (uartRx (2 ^ 31)).out (runFn (uartRx (2 ^ 31)) sR pad R) (pad R) ≠ ⟨true, 0x55⟩ := by decide +kernel

/-- Non-vacuity: four cycles per bit, byte 0xA5 loops back. -/
example :
    let sT : TxSt := ⟨false, 0, 0, true, ⟨0, false⟩⟩
    let sR : RxSt := ⟨true, true, true, false, 0, 0, ⟨0, false⟩⟩
    let f : Nat → TxIn := fun t => ⟨t == 0, 0xA5⟩
    let pad := txPad (2 ^ 30) sT f
    let R := 4 + rxSampleCycle (2 ^ 30) 10
    (uartRx (2 ^ 30)).out (runFn (uartRx (2 ^ 30)) sR pad R) (pad R) = ⟨true, 0xA5⟩ := by decide +kernel

/-- `uart_loopback_partial` under the exact alignment condition instead of
    `4·tw ≤ 2^32`: `loopbackAligned tw` says that one cycle after each of the ten sample points `b + 1` the
    transmitter's phase accumulator has wrapped exactly `b` times, `⌊(⌈(b+½)·2^32/tw⌉ + 1)·tw / 2^32⌋ = b`
    (decidable; it implies `0 < tw` and `2·tw < 2^32`, and it follows from `0 < tw`, `4·tw ≤ 2^32`:
    `loopbackAligned_of_four`).  Then the receiver produces exactly one byte, `d`, in cycle `4 + ⌈9.5·2^32/tw⌉`, and
    nothing before. -/
theorem uart_loopback_aligned_partial (tw : Nat) (hal : loopbackAligned tw = true) (sT : TxSt)
    (hTrun : sT.run = false) (hTtx : sT.tx = true) (f : Nat → TxIn) (hv : (f 0).valid = true)
    (hd : (f 0).data < 256) (sR : RxSt) (hRrun : sR.run = false) (hr0 : sR.r0 = true) (hrx : sR.rx = true)
    (hrxd : sR.rxD = true) (hdat : sR.data < 256) :
    let pad := txPad tw sT f
    let o := fun t => (uartRx tw).out (runFn (uartRx tw) sR pad t) (pad t)
    let R := 4 + rxSampleCycle tw 10
    (o R).valid = true ∧ (o R).data = (f 0).data ∧ ∀ t, t < R → (o t).valid = false :=
  loopback_recovers tw hal sT hTrun hTtx f hv hd sR hRrun hr0 hrx hrxd hdat

/-- `uart_loopback_partial` is the special case `4·tw ≤ 2^32`. -/
example (tw : Nat) (h0 : 0 < tw) (h4 : 4 * tw ≤ M32) : loopbackAligned tw = true :=
  loopbackAligned_of_four tw h0 h4

/-- A whole window of tuning words beyond `uart_loopback_partial`: between 3 and 3 + 1/19 cycles per bit
    (`19·2^32 ≤ 58·tw`, `3·tw < 2^32`; about 1407 … 1431 million) the loopback is aligned. -/
example (tw : Nat) (h3 : 3 * tw < M32) (h58 : 19 * M32 ≤ 58 * tw) : loopbackAligned tw = true :=
  loopbackAligned_of_three tw h3 h58

/-- Non-vacuity beyond `uart_loopback_partial`: three cycles per bit (`tw = 0x55555555`, `3·tw = 2^32 − 1`) is aligned
    although `4·tw > 2^32`, and byte 0xA5 loops back. -/
example :
    let tw := 0x55555555
    let sT : TxSt := ⟨false, 0, 0, true, ⟨0, false⟩⟩
    let sR : RxSt := ⟨true, true, true, false, 0, 0, ⟨0, false⟩⟩
    let f : Nat → TxIn := fun t => ⟨t == 0, 0xA5⟩
    let pad := txPad tw sT f
    let R := 4 + rxSampleCycle tw 10
    (loopbackAligned tw = true ∧ ¬ 4 * tw ≤ M32) ∧
    (uartRx tw).out (runFn (uartRx tw) sR pad R) (pad R) = ⟨true, 0xA5⟩ := by decide +kernel

/-- Negative witness outside the alignment hypothesis: one more (`tw = 0x55555556`, `3·tw = 2^32 + 2`) is not
    aligned — every sample point sees the following bit — and byte 0xA5 comes back as 0xD2. -/
example :
    let tw := 0x55555556
    let sT : TxSt := ⟨false, 0, 0, true, ⟨0, false⟩⟩
    let sR : RxSt := ⟨true, true, true, false, 0, 0, ⟨0, false⟩⟩
    let f : Nat → TxIn := fun t => ⟨t == 0, 0xA5⟩
    let pad := txPad tw sT f
    let R := 4 + rxSampleCycle tw 10
    loopbackAligned tw = false ∧
    (uartRx tw).out (runFn (uartRx tw) sR pad R) (pad R) = ⟨true, 0xD2⟩ := by decide +kernel

/-! ## UART top level (CSR side, FIFOs, PHY), multiplexers, PHY model -/

/-- `UART(tx_fifo_depth = dtx, rx_fifo_depth = drx, rx_fifo_rx_we)`, every history of
    software accesses and PHY handshakes from reset:
      * the bytes written to `rxtx` while `txfull = 0` = the bytes handed to the PHY ++ what waits in the TX FIFO (output
        register, then queue): nothing lost, duplicated or reordered, at most `dtx + 1` waiting;
      * the bytes accepted from the PHY (`rxfull = 0`) = the bytes software took from `rxtx` ++ what waits in the RX FIFO;
      * `txfull/txempty/rxfull/rxempty`, the two event triggers, `source.valid`, `sink.ready`, `rxtx.w` and `source.data`
        are the stated functions of the FIFO levels and output registers. -/
theorem uart_top_no_loss_in_order (dtx drx : Nat) (rxWe : Bool) (ins : List UartTopIn) (i : UartTopIn) :
    let m := uartTopM dtx drx rxWe
    let s := m.run ins
    utWritten dtx drx rxWe m.init ins = utSent dtx drx rxWe m.init ins ++ (fbInflight s.tx).map (·.data) ∧
    s.tx.q.length ≤ dtx ∧
    utReceived dtx drx rxWe m.init ins = utRead dtx drx rxWe m.init ins ++ (fbInflight s.rx).map (·.data) ∧
    s.rx.q.length ≤ drx ∧
    (let o := m.out s i
     o.txfull = (s.tx.q.length == dtx) ∧ o.txempty = !s.tx.readable ∧ o.rxfull = (s.rx.q.length == drx) ∧
     o.rxempty = !s.rx.readable ∧ o.trigTx = !o.txfull ∧ o.trigRx = !o.rxempty ∧ o.sinkRdy = !o.rxfull ∧
     o.srcV = !o.txempty ∧ o.srcD = s.tx.dout.data ∧ o.w = s.rx.dout.data) := by
  intro m s
  obtain ⟨t1, t2⟩ := m.balance_run (fun s => dataOf (fbInflight s.tx)) (fun s => s.tx.q.length ≤ dtx) _ _
    (utWritten dtx drx rxWe) (utSent dtx drx rxWe) (fun _ => rfl) (fun _ _ _ => rfl) (fun _ => rfl) (fun _ _ _ => rfl)
    (fun s i h => top_tx_step dtx drx s i i.re i.r i.srcRdy h) ins m.init (Nat.zero_le _)
  obtain ⟨r1, r2⟩ := m.balance_run (fun s => dataOf (fbInflight s.rx)) (fun s => s.rx.q.length ≤ drx) _ _
    (utReceived dtx drx rxWe) (utRead dtx drx rxWe) (fun _ => rfl) (fun _ _ _ => rfl) (fun _ => rfl) (fun _ _ _ => rfl)
    (fun s i h => top_rx_step dtx drx s i i.sinkV i.sinkD (i.clearRx || (rxWe && i.we)) h) ins m.init (Nat.zero_le _)
  exact ⟨t1, t2, r1, r2, uartTop_flags dtx drx s i⟩

example :
    let m := uartTopM 2 2 false
    let w : Nat → UartTopIn := fun d => ⟨true, d, false, false, false, 0, false⟩
    let ins := [w 0x41, w 0x42, w 0x43, w 0x44, ⟨false, 0, false, false, false, 0, true⟩]
    utWritten 2 2 false m.init ins = [0x41, 0x42, 0x43] ∧ utSent 2 2 false m.init ins = [0x41] := by decide

/-- **The byte on the wire is the byte popped, once.**  In `UART(RS232PHY)`: a byte `d` in the TX FIFO's output
    register while the transmitter idles — `1 + r` cycles later (`r·tw < 10·2^32`, any software and pad activity) the
    pad carries bit `⌊r·tw/2^32⌋` of the frame of `d`, the FIFO still offers the same byte, and the FIFO's pop strobe
    (`sink.ready` of the transmitter) is high exactly in the last cycle of the stop bit: together with
    `uart_top_no_loss_in_order` every written byte is framed exactly once, in order. -/
theorem uart_sys_tx_once (tw dtx drx : Nat) (rxWe : Bool) (htw : tw < M32) (s : UartSysSt) (f : Nat → UartSysIn)
    (hidle : s.txp.run = false) (hv : s.top.tx.readable = true) (hd : s.top.tx.dout.data < 256) (r : Nat)
    (hr : r * tw < 10 * M32) :
    let st := runFn (uartSysM tw dtx drx rxWe) s f (1 + r)
    (uartSysM tw dtx drx rxWe).out st (f (1 + r)) = frameBit s.top.tx.dout.data (r * tw / M32) ∧
    st.top.tx.readable = true ∧ st.top.tx.dout = s.top.tx.dout ∧
    (uartSysTopIn tw st (f (1 + r))).srcRdy = decide (10 * M32 ≤ (r + 1) * tw) := by
  intro st
  obtain ⟨h1, h2, h3⟩ := uartSys_tx_frame tw dtx drx rxWe htw s f hidle hv hd r hr
  refine ⟨?_, h2, h3, ?_⟩
  · show st.txp.tx = _
    rw [h1]; exact txHwBit_eq_frameBit _ _ hd
  · rw [uartSys_pop, h1]; exact txReady_run tw _ r htw hr

/-- `RS232PHYMultiplexer` over `n` virtual PHYs: the selected one is connected to the real PHY in
    both directions; every other one sees `sink.ready = 1` (never stalled) and `source.valid = 0`; for `sel ≥ n`
    (possible when `n` is not a power of two — the `Case` has no default) nothing is connected: the real PHY sees
    `sink.valid = 0` and `source.ready = 0`. -/
theorem phy_mux_routes (i : PhyMuxIn) :
    (∀ c, i.chans[i.sel]? = some c →
      (phyMux i).srcRdy = c.srcRdy ∧ (phyMux i).sinkV = c.sinkV ∧ (phyMux i).sinkD = c.sinkD % 256 ∧
      (phyMux i).chans[i.sel]? = some ⟨i.srcV, i.srcD % 256, i.sinkRdy⟩) ∧
    (∀ n, n < i.chans.length → n ≠ i.sel → (phyMux i).chans[n]? = some ⟨false, 0, true⟩) ∧
    (i.chans.length ≤ i.sel → (phyMux i).srcRdy = false ∧ (phyMux i).sinkV = false ∧
      ∀ c ∈ (phyMux i).chans, c = ⟨false, 0, true⟩) := by
  refine ⟨fun c hc => ?_, fun n hn hne => ?_, fun hge => ?_⟩
  · have hlt : i.sel < i.chans.length := by
      rcases Nat.lt_or_ge i.sel i.chans.length with h | h
      · exact h
      · rw [List.getElem?_eq_none h] at hc; cases hc
    have hget : i.chans[i.sel] = c := by rw [List.getElem?_eq_getElem hlt] at hc; exact Option.some.inj hc
    simp [phyMux, hlt, hget]
  · simp [phyMux, hn, hne, phyChanIdle]
  · have hnone : i.chans[i.sel]? = none := List.getElem?_eq_none hge
    refine ⟨by simp [phyMux, hnone], by simp [phyMux, hnone], ?_⟩
    intro c hc
    simp only [phyMux, List.mem_map, List.mem_range] at hc
    obtain ⟨n, hn, rfl⟩ := hc
    have : n ≠ i.sel := by omega
    simp [this, phyChanIdle]

/-- `UARTMultiplexer`: `uart.tx` is the selected UART's `tx`, only the selected UART's `rx`
    follows `uart.rx` (the others read 0); for `sel ≥ n` nothing is connected (`uart.tx = 0`: a break on the line). -/
theorem uart_mux_routes (sel : Nat) (rx : Bool) (txs : List Bool) :
    (uartMux sel rx txs).1 = txs.getD sel false ∧
    (∀ n, n < txs.length → (uartMux sel rx txs).2[n]? = some (n == sel && rx)) ∧
    (txs.length ≤ sel → (uartMux sel rx txs).1 = false ∧ ∀ b ∈ (uartMux sel rx txs).2, b = false) := by
  refine ⟨rfl, fun n hn => by simp [uartMux, hn], fun hge => ⟨by simp [uartMux, List.getD, List.getElem?_eq_none hge], ?_⟩⟩
  intro b hb
  simp only [uartMux, List.mem_map, List.mem_range] at hb
  obtain ⟨n, hn, rfl⟩ := hb
  have : n ≠ sel := by omega
  simp [this]

/-- `RS232PHYModel`: the stream pair and the pads are wired straight through, both ways. -/
theorem phy_model_wires (i : PhyModelIn) :
    phyModel i = ⟨i.sinkV, i.sinkD % 256, i.padSrcRdy, i.padSinkV, i.padSinkD % 256, i.srcRdy⟩ := rfl

example : (phyMux ⟨1, true, 0x5a, true, [⟨true, 1, false⟩, ⟨true, 2, true⟩, ⟨false, 3, true⟩]⟩) =
      ⟨true, true, 2, [⟨false, 0, true⟩, ⟨true, 0x5a, true⟩, ⟨false, 0, true⟩]⟩ ∧
    (phyMux ⟨3, true, 0x5a, true, [⟨true, 1, true⟩, ⟨true, 2, true⟩, ⟨true, 3, true⟩]⟩).sinkV = false ∧
    uartMux 1 true [false, true, false] = (true, [false, true, false]) ∧
    uartMux 3 true [true, true, true] = (false, [false, false, false]) := by decide

/-! ## `UART.add_auto_tx_flush` -/

/-- `UART.add_auto_tx_flush`: as long as `source.ready` comes often enough — before
    every cycle the number of consecutive cycles without `source.ready` is below the timeout `T`
    (`rdyWithin T 0 ins`) — the flush logic is invisible: same FIFO states and same port values as the plain `UART`,
    for every software / PHY history; in particular `uart_top_no_loss_in_order` applies (no character dropped). -/
theorem uart_auto_flush_transparent (dtx drx : Nat) (rxWe : Bool) (T k : Nat) (ins : List UartTopIn)
    (h : rdyWithin T 0 ins = true) :
    ((uartFlush dtx drx rxWe T k).run ins).top = (uartTopM dtx drx rxWe).run ins ∧
    (uartFlush dtx drx rxWe T k).trace ins = (uartTopM dtx drx rxWe).trace ins :=
  flush_transparent_from dtx drx rxWe T k ins _ 0 rfl h

example :
    let w : Nat → Bool → UartTopIn := fun d r => ⟨true, d, false, false, false, 0, r⟩
    let ins := [w 0x41 false, w 0x42 false, w 0x43 true, w 0x44 false, w 0x45 false, w 0x46 true]
    rdyWithin 3 0 ins = true ∧ fbInflight ((uartFlush 4 4 false 3 1).run ins).top.tx = [tokN 0x43, tokN 0x44, tokN 0x45, tokN 0x46] := by
  decide

/-- In flush mode (`timer.done`, i.e. `cnt = 0`), while `source.ready` stays low and
    software does not write (`Quiet`), with the FIFO settled: after `n·2^k` cycles (`k` = width of `flush_count`, any
    phase of the counter) exactly the `n` oldest waiting characters are gone — one per `2^k` cycles, the rest in order —
    and the timer is still expired. -/
theorem uart_auto_flush_drop_rate (dtx drx : Nat) (rxWe : Bool) (T k n : Nat) (s : UartFlushSt) (ins : List UartTopIn)
    (hq : ∀ i ∈ ins, Quiet i) (hc : s.cnt = 0) (hf : s.fc < 2 ^ k) (hs : FbSettled s.top.tx) (hn : ins.length = n * 2 ^ k) :
    let s' := (uartFlush dtx drx rxWe T k).runFrom s ins
    fbInflight s'.top.tx = (fbInflight s.top.tx).drop n ∧ s'.cnt = 0 ∧ FbSettled s'.top.tx := by
  obtain ⟨h1, h2, h3⟩ := flush_quiet_run dtx drx rxWe T k ins s s.fc hq hc hs (Nat.mod_eq_of_lt hf)
  rw [hn, below_mul, Nat.min_eq_left (show 1 ≤ 2 ^ k from Nat.two_pow_pos k), Nat.mul_one] at h3
  exact ⟨h3, h1, h2⟩

/-- A dead PHY never blocks software for ever: from any state (timer at most its reload
    value `T`, at most `dtx` queued characters), after `T + 1 + (dtx+1)·2^k` or more cycles without `source.ready` and
    without new writes the TX FIFO is empty — `txfull = 0`, `txempty = 1` — and the timer is expired. -/
theorem uart_auto_flush_drains (dtx drx : Nat) (rxWe : Bool) (T k : Nat) (hd : 0 < dtx) (s : UartFlushSt)
    (ins : List UartTopIn) (i : UartTopIn) (hq : ∀ i ∈ ins, Quiet i) (hc : s.cnt ≤ T) (hl : s.top.tx.q.length ≤ dtx)
    (hlen : T + 1 + (dtx + 1) * 2 ^ k ≤ ins.length) :
    let s' := (uartFlush dtx drx rxWe T k).runFrom s ins
    fbInflight s'.top.tx = [] ∧ s'.cnt = 0 ∧
    ((uartFlush dtx drx rxWe T k).out s' i).txfull = false ∧ ((uartFlush dtx drx rxWe T k).out s' i).txempty = true := by
  intro s'
  obtain ⟨hnil, h3⟩ : fbInflight s'.top.tx = [] ∧ s'.cnt = 0 := flush_drains dtx drx rxWe T k s ins hq hc hl hlen
  clear_value s'
  obtain ⟨h1, h2⟩ := fbInflight_nil _ hnil
  have hf := uartTop_flags dtx drx s'.top i
  refine ⟨hnil, h3, ?_, ?_⟩
  · show (uartTopOut dtx drx s'.top i).txfull = false
    rw [hf.1, h1]; simp; omega
  · show (uartTopOut dtx drx s'.top i).txempty = true
    rw [hf.2.1, h2]; rfl

/-- Non-vacuity: three characters written, PHY dead; timeout 3, `flush_count` 1 bit: all three are gone after
    `3 + 1 + 3·2` quiet cycles (here already after 6, the timer ran during the writes), not yet after 5.  And the recovery cycle: when the PHY becomes ready in a cycle with `timer.done` and
    `flush_count ≠ 0` it takes the character and the FIFO pops — the next character is offered in the next cycle.
    Negative witness for the code before fix `C19-uart-autoflush-duplicate` (`flush_ep.ready.eq(flush_count == 0)`
    overrode `source.ready`; `uartFlushNextOld`): the FIFO did not pop and the same character was offered, and taken,
    again. -/
example :
    let m := uartFlush 2 2 false 3 1
    let w : Nat → UartTopIn := fun d => ⟨true, d, false, false, false, 0, false⟩
    let q : UartTopIn := ⟨false, 0, false, false, false, 0, false⟩
    let r : UartTopIn := ⟨false, 0, false, false, false, 0, true⟩
    let s := m.run [w 0x41, w 0x42, w 0x43]
    fbInflight s.top.tx = [tokN 0x41, tokN 0x42, tokN 0x43] ∧
    fbInflight (m.runFrom s (List.replicate 10 q)).top.tx = [] ∧
    fbInflight (m.runFrom s (List.replicate 5 q)).top.tx ≠ [] ∧
    (let s4 := m.run [w 0x41, w 0x42, q]
     ((m.out s4 r).srcV, (m.out s4 r).srcD, (m.out (m.next s4 r) r).srcV, (m.out (m.next s4 r) r).srcD) =
       (true, 0x41, true, 0x42) ∧
     ((m.out (uartFlushNextOld 2 2 false 3 1 s4 r) r).srcV, (m.out (uartFlushNextOld 2 2 false 3 1 s4 r) r).srcD) =
       (true, 0x41)) := by decide

/-- PHY dead (`source.ready` low in every cycle), software doing anything it likes
    (writing whenever it sees `txfull = 0`, or blindly): once the timeout has elapsed (`n ≥` the timer's count, at most
    `T` from any reachable state) every window of `2^k + 1` consecutive cycles contains one with `txfull = 0` — `txfull`
    is never high for more than `2^k` consecutive cycles, a polling writer is never blocked for ever. -/
theorem uart_auto_flush_unblocks (dtx drx : Nat) (rxWe : Bool) (T k : Nat) (hd : 0 < dtx) (s : UartFlushSt)
    (f : Nat → UartTopIn) (hf : ∀ t, (f t).srcRdy = false) (hfc : s.fc < 2 ^ k) (n : Nat) (hn : s.cnt ≤ n) :
    ∃ j, j ≤ 2 ^ k ∧
      ((uartFlush dtx drx rxWe T k).out (runFn (uartFlush dtx drx rxWe T k) s f (n + j)) (f (n + j))).txfull = false := by
  -- the next cycle with `flush_count = 0`; the timer has expired by cycle `n`
  obtain ⟨j0, hj0, hz⟩ := exists_add_mod_eq_zero (2 ^ k) (s.fc + n) (Nat.two_pow_pos k)
  obtain ⟨c1, f1⟩ := flush_dead_run dtx drx rxWe T k s f hf hfc (n + j0)
  rcases flush_pop_not_full dtx drx rxWe T k hd _ (f (n + j0)) (f (n + j0 + 1)) (by rw [c1]; omega)
    (by rw [f1, ← Nat.add_assoc]; exact hz) with h | h
  · exact ⟨j0, Nat.le_of_lt hj0, h⟩
  · exact ⟨j0 + 1, hj0, h⟩

/-- Non-vacuity (timeout 3, `flush_count` 2 bits, depth 2, software writing in every cycle): `txfull` is high in cycles
    3–4, 6–8, 10–12 and low in cycles 5 and 9 — runs of at most `2^k - 1 = 3` here, never more than `2^k`. -/
example :
    let m := uartFlush 2 2 false 3 2
    let f : Nat → UartTopIn := fun t => ⟨true, 0x41 + t, false, false, false, 0, false⟩
    (List.range 14).map (fun t => (m.out (runFn m m.init f t) (f t)).txfull) =
      [false, false, false, true, true, false, true, true, true, false, true, true, true, false] := by decide

/-- `UART.add_auto_tx_flush` with the pop strobe
    `timer.done ? (source.ready | flush_count == 0) : source.ready`, from any state with at most `dtx` queued characters
    (in particular from reset) and for EVERY input history — all schedules of `source.ready`, any software writes:
      1. the characters accepted from `rxtx` (`re ∧ ¬txfull`) = the pop log of the TX FIFO ++ what still waits in it
         (`s` not at reset: preceded by what waited before): nothing lost, duplicated or reordered;
      2. the characters handed to the PHY (`source.valid ∧ source.ready`) are exactly the pops with `source.ready`, the
         flushed characters exactly the pops without: every character is delivered once or flushed, never both, never
         twice;
      3. per cycle: a PHY handshake always pops (the fact that fails for the old strobe, see below), and a pop without
         `source.ready` happens only with the timer expired (`cnt = 0`: no `source.ready` for the last `T` cycles or
         more, `WaitTimer`) and `flush_count = 0`. -/
theorem uart_auto_flush_exactly_once (dtx drx : Nat) (rxWe : Bool) (T k : Nat) (s : UartFlushSt) (ins : List UartTopIn)
    (h : s.top.tx.q.length ≤ dtx) :
    let s' := (uartFlush dtx drx rxWe T k).runFrom s ins
    let pops := flPops dtx drx rxWe T k s ins
    dataOf (fbInflight s.top.tx) ++ flWritten dtx drx rxWe T k s ins = pops.map (·.1) ++ dataOf (fbInflight s'.top.tx) ∧
    s'.top.tx.q.length ≤ dtx ∧
    flPhy dtx drx rxWe T k s ins = (pops.filter (·.2)).map (·.1) ∧
    flFlushed dtx drx rxWe T k s ins = (pops.filter (!·.2)).map (·.1) ∧
    (∀ st : UartFlushSt, flushPop st true = true) ∧
    (∀ st : UartFlushSt, flushPop st false = true → st.cnt = 0 ∧ st.fc = 0) := by
  intro s' pops
  obtain ⟨h1, h2⟩ := flush_pops_run dtx drx rxWe T k ins s h
  obtain ⟨h3, h4⟩ := flush_pops_split dtx drx rxWe T k ins s
  exact ⟨h1, h2, h3, h4, flushPop_of_ready, flushPop_flush⟩

/-- The case of `uart_auto_flush_exactly_once` that software sees: from reset nothing waits beforehand. -/
theorem uart_auto_flush_exactly_once_reset (dtx drx : Nat) (rxWe : Bool) (T k : Nat) (ins : List UartTopIn) :
    let m := uartFlush dtx drx rxWe T k
    flWritten dtx drx rxWe T k m.init ins =
      (flPops dtx drx rxWe T k m.init ins).map (·.1) ++ dataOf (fbInflight (m.run ins).top.tx) := by
  intro m
  have h := (flush_pops_run dtx drx rxWe T k ins m.init (Nat.zero_le _)).1
  have e0 : dataOf (fbInflight m.init.top.tx) = [] := rfl
  rw [e0, List.nil_append] at h
  exact h

/-- Non-vacuity (timeout 3, `flush_count` 2 bits): three writes, the PHY silent for five cycles — 0x41 is flushed in cycle
    4 (`flush_count = 0`) — then the PHY recovers in cycle 5 with the timer expired and `flush_count = 1`: 0x42 and 0x43
    are each handed over once.  With the strobe before the fix (`flushPopOld`) that very state breaks fact 3: the PHY
    takes 0x42 (`source.valid ∧ source.ready`) but the FIFO does not pop and still offers 0x42 in the next cycle. -/
example :
    let m := uartFlush 2 2 false 3 2
    let w : Nat → UartTopIn := fun d => ⟨true, d, false, false, false, 0, false⟩
    let q : UartTopIn := ⟨false, 0, false, false, false, 0, false⟩
    let r : UartTopIn := ⟨false, 0, false, false, false, 0, true⟩
    let ins := [w 0x41, w 0x42, w 0x43, q, q, r, r, q, r]
    flWritten 2 2 false 3 2 m.init ins = [0x41, 0x42, 0x43] ∧
    flPops 2 2 false 3 2 m.init ins = [(0x41, false), (0x42, true), (0x43, true)] ∧
    flPhy 2 2 false 3 2 m.init ins = [0x42, 0x43] ∧ flFlushed 2 2 false 3 2 m.init ins = [0x41] ∧
    (let s5 := m.run (ins.take 5)
     (s5.cnt, s5.fc, (m.out s5 r).srcV, (m.out s5 r).srcD) = (0, 1, true, 0x42) ∧
     flushPop s5 true = true ∧ (uartFlushNext 2 2 false 3 2 s5 r).top.tx.dout.data = 0x43 ∧
     flushPopOld s5 true = false ∧ (uartFlushNextOld 2 2 false 3 2 s5 r).top.tx.dout.data = 0x42 ∧
     (uartFlushNextOld 2 2 false 3 2 s5 r).top.tx.readable = true) := by decide +kernel

/-- Negative witness for the old strobe: `source.valid ∧ source.ready` does not imply a pop. -/
example : ¬ ∀ st : UartFlushSt, flushPopOld st true = true :=
  fun h => absurd (h ⟨⟨⟨[], true, tokN 0x42⟩, ⟨[], false, zTokN⟩⟩, 0, 1⟩) (by decide)

/-! ## `UARTCrossover` -/

/-- `UARTCrossover` (main `UART(dtx, drx, rx_fifo_rx_we)`, `xover = UART(1, 16, True)`,
    cross-connected), every history of software accesses on both CSR sides from reset:
      * main → xover: the characters written to the main `rxtx` while its `txfull = 0` = the characters taken from the
        xover `rxtx` ++ what waits in the xover RX FIFO ++ what waits in the main TX FIFO — in order, nothing lost or
        duplicated, at most `16 + 1 + dtx + 1` in flight;
      * xover → main: the characters written to the xover `rxtx` while its `txfull = 0` = the characters taken from the
        main `rxtx` ++ what waits in the main RX FIFO ++ the xover TX register (`SyncFIFO(depth=1)` = `PipeValid`). -/
theorem uart_crossover_no_loss (dtx drx : Nat) (rxWe : Bool) (ins : List (CsrIn × CsrIn)) :
    let m := uartCrossover dtx drx rxWe
    let s := m.run ins
    xoWritten dtx drx rxWe m.init ins =
      xoRead dtx drx rxWe m.init ins ++ dataOf (fbInflight s.xrx) ++ dataOf (fbInflight s.main.tx) ∧
    s.main.tx.q.length ≤ dtx ∧ s.xrx.q.length ≤ 16 ∧
    xoWrittenX dtx drx rxWe m.init ins =
      xoReadM dtx drx rxWe m.init ins ++ dataOf (fbInflight s.main.rx) ++ dataOf (pvInflight s.xtx) ∧
    s.main.rx.q.length ≤ drx := by
  intro m s
  have h1 := xover_run dtx drx rxWe ins m.init (Nat.zero_le _) (Nat.zero_le _)
  have h2 := xover_run_back dtx drx rxWe ins m.init (Nat.zero_le _) (show 0 < 256 by decide)
  refine ⟨?_, h1.2.1, h1.2.2, ?_, h2.2.1⟩
  · have := h1.1
    have e0 : dataOf (fbInflight m.init.xrx) ++ dataOf (fbInflight m.init.main.tx) = [] := rfl
    rw [e0, List.nil_append] at this
    exact this
  · have := h2.1
    have e0 : dataOf (fbInflight m.init.main.rx) ++ dataOf (pvInflight m.init.xtx) = [] := rfl
    rw [e0, List.nil_append] at this
    exact this

example :
    let m := uartCrossover 2 2 false
    let wr : Nat → Nat → CsrIn × CsrIn := fun a b => (⟨true, a, false, false⟩, ⟨true, b, false, false⟩)
    let rd : CsrIn × CsrIn := (⟨false, 0, false, true⟩, ⟨false, 0, true, false⟩)
    let idle : CsrIn × CsrIn := (⟨false, 0, false, false⟩, ⟨false, 0, false, false⟩)
    let ins := [wr 0x41 0x61, wr 0x42 0x62, wr 0x43 0x63, idle, idle, idle, rd, idle, rd]
    xoWritten 2 2 false m.init ins = [0x41, 0x42, 0x43] ∧ xoRead 2 2 false m.init ins = [0x41, 0x42] ∧
    (xoWrittenX 2 2 false m.init ins, xoReadM 2 2 false m.init ins) = ([0x61, 0x62, 0x63], [0x61, 0x62]) := by decide

/-! ## `misc.py`: `BitSlip`, `displacer`, `chooser`, `split` -/

/-- `BitSlip(dw)`, every history: after two words `a`, `b` and a cycle with `value = v < dw`, the
    output register holds bits `[v, v+dw)` of the window `b:a` — `(a >> v) | (b << (dw - v))` truncated to `dw` bits:
    the input bit stream delayed and shifted by `v` bits.  For `value ≥ dw` (reachable when `dw` is not a power of two:
    the `Case` has no default) the output register holds. -/
theorem bitslip_shift (dw : Nat) (pre : List (Nat × Nat)) (a b : Nat × Nat) (i v : Nat) :
    ((bitSlip dw).run (pre ++ [a, b] ++ [(i, v)])).o =
      if v < dw then (trunc dw a.1 / 2 ^ v + trunc dw b.1 * 2 ^ (dw - v)) % 2 ^ dw
      else ((bitSlip dw).run (pre ++ [a, b])).o := by
  have hr := bitSlip_r_two dw pre a b
  unfold Machine.run at *
  rw [Machine.runFrom_append]
  generalize (bitSlip dw).runFrom (bitSlip dw).init (pre ++ [a, b]) = s2 at *
  show (if v < dw then slice v dw s2.r else s2.o) = _
  by_cases hv : v < dw
  · rw [if_pos hv, if_pos hv, hr, slice_two_words dw v _ _ (Nat.le_of_lt hv)]
  · rw [if_neg hv, if_neg hv]

example : ((bitSlip 4).run [(0b1010, 0), (0b0110, 0), (0, 1)]).o = 0b0101 ∧
    ((bitSlip 3).run [(0b101, 0), (0b011, 0), (0, 2)]).o = 0b111 ∧
    ((bitSlip 3).run [(0b101, 0), (0b011, 0), (0, 2), (0, 3)]).o = 0b111 := by decide

/-- `displacer` puts `signal` (w bits) into field `shift` (`n-1-shift` when
    reversed) of the output, all other fields 0 — nothing at all for `shift ≥ n` — truncated to the output width; and
    `chooser` with the same parameters on an `n·w`-bit word reads that field back. -/
theorem displacer_places (w n : Nat) (rev : Bool) (wo signal shift : Nat) :
    displacer w n rev wo signal shift =
      if shift < n then trunc wo (trunc w signal * 2 ^ (w * (if rev then n - 1 - shift else shift))) else 0 :=
  displacer_closed w n rev wo signal shift

theorem chooser_displacer (w n : Nat) (rev : Bool) (signal shift : Nat) (hs : shift < n) :
    chooser (n * w) w n rev (displacer w n rev (n * w) signal shift) shift = trunc w signal := by
  rw [displacer_closed, if_pos hs]
  unfold chooser
  simp only [hs, if_true, trunc_trunc]
  have hp : (if rev then n - 1 - shift else shift) < n := by cases rev <;> simp <;> omega
  generalize (if rev = true then n - 1 - shift else shift) = p at hp
  have hlt : trunc w signal * 2 ^ (w * p) < 2 ^ (n * w) := by
    have h1 : trunc w signal < 2 ^ w := trunc_lt w signal
    have h2 : 2 ^ w * 2 ^ (w * p) ≤ 2 ^ (n * w) := by
      rw [← Nat.pow_add]
      apply Nat.pow_le_pow_right (by omega)
      rw [Nat.mul_comm n w, show w + w * p = w * (p + 1) by rw [Nat.mul_succ, Nat.add_comm]]
      exact Nat.mul_le_mul_left _ hp
    exact Nat.lt_of_lt_of_le (Nat.mul_lt_mul_of_pos_right h1 (Nat.two_pow_pos _)) h2
  rw [trunc_of_lt hlt]
  unfold slice
  rw [Nat.mul_comm p w, Nat.mul_div_cancel _ (Nat.two_pow_pos _)]
  exact trunc_trunc w signal

example : displacer 4 3 true 12 0xA 0 = 0xA00 ∧ chooser 12 4 3 true 0xA00 0 = 0xA ∧ displacer 4 3 false 12 0xA 3 = 0 ∧
    chooser 12 4 3 false 0xCBA 3 = 0xC ∧ split 7 0b1011101 [2, 0, 3, 1] = [1, 0, 7, 0] := by decide

/-- `split(v, *counts)` on a `w`-bit `v` with `sum(counts) ≤ w` (the real function just slices
    consecutive ranges; bits above the sum are left over): the parts, part `j` placed at bit offset `sum(counts[:j])`
    (`cat` of (count, part) pairs), give back `v mod 2^sum(counts)` — all of `v` when the counts add up to `w`; there is
    one part per count, part `j < 2^counts[j]`, and a zero count gives 0 (`None` in the real code). -/
theorem split_concat (w v : Nat) (counts : List Nat) (hv : v < 2 ^ w) (hs : counts.sum ≤ w) :
    cat (counts.zip (split w v counts)) = v % 2 ^ counts.sum ∧
    (counts.sum = w → cat (counts.zip (split w v counts)) = v) ∧
    (split w v counts).length = counts.length ∧
    (∀ (j p c : Nat), (split w v counts)[j]? = some p → counts[j]? = some c → p < 2 ^ c ∧ (c = 0 → p = 0)) := by
  have h := splitFrom_cat w (trunc w v) 0 counts (by omega)
  rw [trunc_of_lt hv] at h
  have e : cat (counts.zip (split w v counts)) = v % 2 ^ counts.sum := by
    unfold split; rw [trunc_of_lt hv, h]; simp [slice]
  refine ⟨e, fun hw => by rw [e, hw, Nat.mod_eq_of_lt hv], splitFrom_length _ _ _ _, fun j p c hp hc => ?_⟩
  have hlt := splitFrom_part_lt w (trunc w v) 0 counts j p c hp hc
  exact ⟨hlt, fun h0 => by subst h0; omega⟩

example : split 7 0b1011101 [2, 0, 3, 1] = [1, 0, 7, 0] ∧
    cat ([2, 0, 3, 1].zip (split 7 0b1011101 [2, 0, 3, 1])) = 0b011101 ∧
    cat ([2, 0, 3, 2].zip (split 7 0b1011101 [2, 0, 3, 2])) = 0b1011101 := by decide

/-! ## `Stream2Wishbone` (UARTBone / UARTWishboneBridge command FSM)

  Model `LitexModel/Periph/Bone.lean`; `c.nB = data_width/8 = 2^c.dbW`, `c.nA = address_width/8 = 2^c.abW`,
  `c.aw = 8*c.nA`, `c.adrW = c.aw - c.dbW` (lines of `wishbone.adr`), `c.t` the WaitTimer count.  The statements hold
  for every `c` (all counter widths), in particular for the constructible data_width ∈ {16,32},
  address_width ∈ {16,32,64} (`boneCfgOf`).  Schedules: a `Seg` is a wait (`pre`: the awaited signal is low, all
  other inputs arbitrary) followed by the cycle `fire` in which it is high; `headCycles gc gl gas rest` = command
  byte, length byte, address bytes, each with its own gap.  `boneObs c s ins` = (registers after `ins`, completed
  wishbone accesses in order, (byte, last) pairs handed to the source in order), without FSM reset;
  `bone_no_timeout` transfers this to the machine with the timer for `ins.length ≤ timer` (after the command byte
  the timer holds `t`: the *whole rest of the command*, waits included, must fit into `t` cycles — the timer is not
  an inter-byte timeout). -/

/-- Write burst (cmd 1 = incrementing, 3 = fixed address), any gaps between the host's bytes, any ack delays:
    from RECEIVE-CMD, after the command byte, a length `L` in 1..255, `address_width/8` address bytes (MSB first)
    and `L` words each sent as `data_width/8` bytes (MSB first) followed by its bus cycle, the bridge has made
    exactly the accesses `wrLog` (see `bone_write_access`: `L` writes, word `j` at `(base + j·incr) mod 2^aw`,
    `dat_w` = the big-endian word, all byte lanes), has sent nothing to the source, and is back in RECEIVE-CMD. -/
theorem bone_write_burst (c : BoneCfg) (s : BoneCore) (hs : s.fsm = .recvCmd) (gc gl : Seg) (gas : List Seg)
    (ws : List WrWord) (hc : gc.waits (·.sinkValid)) (hcmd : gc.fire.sinkData = 1 ∨ gc.fire.sinkData = 3)
    (hl : gl.waits (·.sinkValid)) (hL1 : ws ≠ []) (hL : ws.length = gl.fire.sinkData) (hL2 : gl.fire.sinkData ≤ 255)
    (ha : SinkSegs gas) (hal : gas.length = c.nA) (hok : ∀ w ∈ ws, w.ok c) :
    ∃ f, boneObs c s (headCycles gc gl gas (wrCycles ws))
           = (f, wrLog c (gc.fire.sinkData == 1) (beVal (bytesOf gas)) (ws.map (bytesOf ·.bytes)), []) ∧
         f.fsm = .recvCmd ∧ (boneCoreOut c f).sinkReady = true := by
  rw [head_phase c s hs gc gl gas _ hc hl ha hal]
  have hne : ws.isEmpty = false := by cases ws with | nil => exact absurd rfl hL1 | cons _ _ => rfl
  rcases hcmd with h | h <;> simp only [afterAddr, h] <;>
    exact (write_words c ws _ (by rw [hne]; rfl) rfl (by simp [hL]) (by simpa using hL2) hok).imp
      fun f hf => ⟨hf.1, hf.2, (out_recvCmd c f hf.2).1⟩

/-- The accesses of a write burst: as many as words, access `j` is a write of the big-endian value of the bytes
    of word `j` at `(base + j·incr) mod 2^address_width` (shown on the `adrW` address lines), all lanes selected. -/
theorem bone_write_access (c : BoneCfg) (incr : Bool) (words : List (List Nat)) (base : Nat) :
    (wrLog c incr (base % 2 ^ c.aw) words).length = words.length ∧
    ∀ j (h : j < words.length), (wrLog c incr (base % 2 ^ c.aw) words)[j]? =
      some { we := true, adr := ((base + j * b2n incr) % 2 ^ c.aw) % 2 ^ c.adrW, datW := beVal words[j],
             sel := 2 ^ c.nB - 1 } :=
  ⟨wrLog_length c incr words _, fun j h => wrLog_get c incr words base j h⟩

/-- Read burst (cmd 2 = incrementing, 4 = fixed), any gaps, ack delays and source stalls: exactly `L` read
    accesses `rdLog` (see `bone_read_access`); after each the word read goes out on the source, most significant
    byte first, `last` exactly on the final byte of the final word (`rdSrc`, `bone_read_bytes`); then RECEIVE-CMD. -/
theorem bone_read_burst (c : BoneCfg) (s : BoneCore) (hs : s.fsm = .recvCmd) (gc gl : Seg) (gas : List Seg)
    (ws : List RdWord) (hc : gc.waits (·.sinkValid)) (hcmd : gc.fire.sinkData = 2 ∨ gc.fire.sinkData = 4)
    (hl : gl.waits (·.sinkValid)) (hL1 : ws ≠ []) (hL : ws.length = gl.fire.sinkData) (hL2 : gl.fire.sinkData ≤ 255)
    (ha : SinkSegs gas) (hal : gas.length = c.nA) (hok : ∀ w ∈ ws, w.ok c) :
    ∃ f, boneObs c s (headCycles gc gl gas (rdCycles ws))
           = (f, rdLog c (gc.fire.sinkData == 2) (beVal (bytesOf gas)) ws.length,
                 rdSrc c.nB (ws.map (·.bus.fire.datR))) ∧
         f.fsm = .recvCmd ∧ (boneCoreOut c f).sinkReady = true := by
  rw [head_phase c s hs gc gl gas _ hc hl ha hal]
  have hne : ws.isEmpty = false := by cases ws with | nil => exact absurd rfl hL1 | cons _ _ => rfl
  rcases hcmd with h | h <;> simp only [afterAddr, h] <;>
    exact (read_words c ws _ (by rw [hne]; rfl) rfl (by simp [hL]) (by simpa using hL2) hok).imp
      fun f hf => ⟨hf.1, hf.2, (out_recvCmd c f hf.2).1⟩

theorem bone_read_access (c : BoneCfg) (incr : Bool) (L base : Nat) :
    (rdLog c incr (base % 2 ^ c.aw) L).length = L ∧
    ∀ j, j < L → (rdLog c incr (base % 2 ^ c.aw) L)[j]? =
      some { we := false, adr := ((base + j * b2n incr) % 2 ^ c.aw) % 2 ^ c.adrW, datW := 0, sel := 2 ^ c.nB - 1 } :=
  ⟨rdLog_length c incr L _, fun j h => rdLog_get c incr L base j h⟩

/-- The bytes of one word on the source: byte `k` is bits `8(nB-1-k) …` of the word (MSB first); `last` only on
    byte `nB-1` of the final word. -/
theorem bone_read_bytes (nB d : Nat) (ds : List Nat) :
    rdSrc nB (d :: ds) = ((List.range nB).map fun k =>
      ((d / 256 ^ (nB - 1 - k)) % 256, (k == nB - 1) && ds.isEmpty)) ++ rdSrc nB ds := by
  simp [rdSrc, sendBytes_eq]

/-- Any other command byte: after the address bytes the bridge is back in RECEIVE-CMD and has touched neither
    the bus nor the source. -/
theorem bone_bad_cmd (c : BoneCfg) (s : BoneCore) (hs : s.fsm = .recvCmd) (gc gl : Seg) (gas : List Seg)
    (hc : gc.waits (·.sinkValid))
    (hcmd : gc.fire.sinkData ≠ 1 ∧ gc.fire.sinkData ≠ 2 ∧ gc.fire.sinkData ≠ 3 ∧ gc.fire.sinkData ≠ 4)
    (hl : gl.waits (·.sinkValid)) (ha : SinkSegs gas) (hal : gas.length = c.nA) :
    ∃ f, boneObs c s (headCycles gc gl gas []) = (f, [], []) ∧ f.fsm = .recvCmd := by
  rw [head_phase c s hs gc gl gas _ hc hl ha hal]
  obtain ⟨h1, h2, h3, h4⟩ := hcmd
  simp [afterAddr, h1, h2, h3, h4]

/-- No timeout: for every input sequence no longer than the current timer count the machine with the timer
    behaves as the FSM without reset (outputs are functions of the registers).  In RECEIVE-CMD the timer is
    reloaded with `t`, and it never exceeds `t`. -/
theorem bone_no_timeout (c : BoneCfg) (ins : List BoneIn) (s : BoneSt) (h : ins.length ≤ s.timer)
    (ht : s.timer ≤ c.t) : ((bone c).runFrom s ins).core = boneCoreRun c s.core ins := by
  induction ins generalizing s with
  | nil => rfl
  | cons i is ih =>
    have hpos : is.length + 1 ≤ s.timer := h
    have hb := bone_timer_bounds c.t s.timer (s.core.fsm != .recvCmd) ht
    -- the timer has not expired, so the FSM is not reset in this cycle
    have hdone : WaitTimer.done s.timer = false := by rw [WaitTimer.done_eq]; exact decide_eq_false (by omega)
    have hnext : (bone c).next s i
        = ⟨boneCoreStep c s.core i, WaitTimer.next c.t s.timer (s.core.fsm != .recvCmd)⟩ := by
      show (⟨boneCoreNext c s.core i (WaitTimer.done s.timer), _⟩ : BoneSt) = _
      rw [hdone]; rfl
    show ((bone c).runFrom ((bone c).next s i) is).core = boneCoreRun c (boneCoreStep c s.core i) is
    rw [hnext, ih _ (Nat.le_trans (Nat.le_sub_one_of_lt hpos) hb.1) hb.2]

/-- Never stuck: from ANY state (any registers, any timer count `n`) and under ANY inputs the FSM is in
    RECEIVE-CMD at least once within `n + 1` cycles; in RECEIVE-CMD the timer is reloaded with `t`, and `n ≤ t` is
    preserved by every step — so a machine started from reset is never outside RECEIVE-CMD for more than `t + 1`
    consecutive cycles. -/
theorem bone_never_stuck (c : BoneCfg) (s : BoneSt) (ins : List BoneIn) (hlen : s.timer + 1 ≤ ins.length) :
    (∃ k, k ≤ s.timer + 1 ∧ ((bone c).runFrom s (ins.take k)).core.fsm = .recvCmd) ∧
    (∀ i, s.core.fsm = .recvCmd → (boneNext c s i).timer = c.t) ∧
    (∀ i, s.timer ≤ c.t → (boneNext c s i).timer ≤ c.t) :=
  ⟨bone_reaches_cmd c s.timer s ins rfl hlen, fun i h => bone_timer_reload c s i h, fun i h => bone_timer_le c s i h⟩

section BoneExamples
/-- data_width = 16, address_width = 16, t = 12. -/
private def boneExCfg : BoneCfg := { dbW := 1, abW := 1, t := 12 }
private def boneExB (b : Nat) : BoneIn := { sinkValid := true, sinkData := b, sourceReady := false, ack := false, datR := 0 }
private def boneExIdle : BoneIn := { sinkValid := false, sinkData := 0, sourceReady := false, ack := false, datR := 0 }
private def boneExAck (d : Nat) : BoneIn := { sinkValid := false, sinkData := 0, sourceReady := false, ack := true, datR := d }
private def boneExRdy : BoneIn := { sinkValid := false, sinkData := 0, sourceReady := true, ack := false, datR := 0 }

/-- Non-vacuity (write): cmd 1, length 2, address 0xFFFF (wraps), words 0x1234 and 0xABCD, with a gap and an
    ack delay: two writes at 0x7FFF (15 address lines) and 0x0000. -/
example : boneObs boneExCfg boneCoreInit
    [boneExB 1, boneExIdle, boneExB 2, boneExB 0xFF, boneExB 0xFF, boneExB 0x12, boneExIdle, boneExB 0x34, boneExIdle, boneExAck 0, boneExB 0xAB, boneExB 0xCD, boneExAck 0]
    = ({ boneCoreInit with cmd := 1, incr := true, length := 2, address := 1, data := 0xABCD, wc := 2 },
       [{ we := true, adr := 0x7FFF, datW := 0x1234, sel := 3 }, { we := true, adr := 0, datW := 0xABCD, sel := 3 }],
       []) := by decide

/-- Non-vacuity (read, fixed address): cmd 4, length 2, address 0x0102: two reads at 0x0102, the words go out MSB
    first, `last` on the fourth byte only. -/
example : (boneObs boneExCfg boneCoreInit
    [boneExB 4, boneExB 2, boneExB 1, boneExB 2, boneExAck 0xBEEF, boneExRdy, boneExIdle, boneExRdy, boneExIdle, boneExAck 0x1234, boneExRdy, boneExRdy]).2
    = ([{ we := false, adr := 0x0102, datW := 0, sel := 3 }, { we := false, adr := 0x0102, datW := 0, sel := 3 }],
       [(0xBE, false), (0xEF, false), (0x12, false), (0x34, true)]) := by decide

/-- Non-vacuity (bad command 7): back in RECEIVE-CMD after the address, nothing on the bus. -/
example : boneObs boneExCfg boneCoreInit [boneExB 7, boneExB 1, boneExB 0, boneExB 0]
    = ({ boneCoreInit with cmd := 7, length := 1 }, [], []) := by decide

/-- Negative fact (simulator semantics of `words_count == length - 1`): with `length = 0` a write burst does not
    end after any word — here after the first word the FSM asks for more data (RECEIVE-DATA) instead of returning
    to RECEIVE-CMD, and the complete machine only returns to RECEIVE-CMD by the timeout, 13 = t + 1 cycles after the
    command byte, whatever the host does (here: it keeps feeding words). -/
example : (boneCoreRun boneExCfg boneCoreInit [boneExB 1, boneExB 0, boneExB 0, boneExB 0, boneExB 5, boneExB 6, boneExAck 0]).fsm = .recvData := by
  decide

private def boneExLen0 : List BoneIn :=
  [boneExB 1, boneExB 0, boneExB 0, boneExB 0, boneExB 5, boneExB 6, boneExAck 0, boneExB 5, boneExB 6, boneExAck 0, boneExB 5, boneExB 6, boneExAck 0, boneExB 5]

example : (List.range 13).all (fun k => ((bone boneExCfg).runFrom (boneInit boneExCfg) (boneExLen0.take (k + 1))).core.fsm != .recvCmd)
    = true ∧ ((bone boneExCfg).runFrom (boneInit boneExCfg) boneExLen0).core.fsm = .recvCmd := by decide

/-- The byte offered in the cycle after the timeout is accepted (`sink.ready = 1`) but does not start a command:
    `done` is still asserted in that cycle. -/
example : let s := (bone boneExCfg).runFrom (boneInit boneExCfg) boneExLen0
    (boneCoreOut boneExCfg s.core).sinkReady = true ∧ s.timer = 0 ∧ (boneNext boneExCfg s (boneExB 1)).core.fsm = .recvCmd := by
  decide

/-- The same happens after a command that completes normally in exactly `t` cycles after its command byte (here a
    one-word write whose ack arrives in cycle 12 = t): the write is done, the FSM is in RECEIVE-CMD, but the timer has
    reached 0 in the same cycle, so the first byte of an immediately following command is accepted and lost. -/
example : let s := (bone boneExCfg).runFrom (boneInit boneExCfg)
                     ([boneExB 1, boneExB 1, boneExB 0, boneExB 0, boneExB 5, boneExB 6] ++ List.replicate 6 boneExIdle ++ [boneExAck 0])
    s.core.fsm = .recvCmd ∧ s.core.wc = 1 ∧ s.timer = 0 ∧ (boneCoreOut boneExCfg s.core).sinkReady = true ∧
    (boneNext boneExCfg s (boneExB 2)).core.fsm = .recvCmd ∧ (boneNext boneExCfg s (boneExB 2)).core.cmd = 2 := by
  decide

/-- Non-vacuity of `bone_no_timeout` / `bone_never_stuck`: an abandoned command (the host stops after the length
    byte) is left after exactly t + 1 = 13 cycles. -/
example : ((bone boneExCfg).runFrom (boneInit boneExCfg) ([boneExB 1, boneExB 2] ++ List.replicate 11 boneExIdle)).core.fsm = .recvAddr ∧
    ((bone boneExCfg).runFrom (boneInit boneExCfg) ([boneExB 1, boneExB 2] ++ List.replicate 12 boneExIdle)).core.fsm = .recvCmd := by
  decide
end BoneExamples

/-! ## SPI master

  Parameters: `c.dw` = data_width, `c.aligned` = mode, `div` = clk_divider (constant, `2 ≤ div < 2^16`), `L` = length
  with `1 ≤ L ≤ data_width`, `w` = the word in `mosi` when `start` was given.  During the transfer `start`, `mosi` and
  `pads.miso` are arbitrary in every cycle (`SpiHold` fixes only divider, length, `cs = 1`, `cs_mode = 0`, no loopback):
  overlapping start pulses and later writes to `mosi` are covered.  `length = 0` or a length above the range of the bit
  counter (`2^bits_for(data_width−1)`) never leaves RUN (`spi_master_bad_length_stuck`; a length above `data_width` but
  inside that range still terminates) and `div < 2` never leaves START/STOP — outside the property's quantifier. -/

/-- **Start, for every divider phase.**  From IDLE (divider counter anywhere inside its period), the cycle with
    `start = 1` drops `done` and latches the word; the master then waits `n + 1 = div − cnt` START cycles — clock low,
    chip select released — for the divider's next fall strobe and enters RUN in the state `RunInv … 0 0`: chip select
    asserted, bit counter 0, first MOSI bit on the pad. -/
theorem spi_master_start (c : SpiCfg) (div L : Nat) (hdiv : 2 ≤ div) (hd16 : div < 65536) (hL : 1 ≤ L) (hLw : L ≤ c.dw)
    (smp : Nat → Bool) (s : SpiSt) (hs : IdleOk div s) (x0 : SpiIn) (hx0 : SpiHold div L x0) (hst : x0.start = true)
    (n : Nat) (ins : List SpiIn) (hlen : ins.length = n + 1) (hins : ∀ x ∈ ins, SpiHold div L x)
    (hn : (spiNext c s x0).cnt + n + 1 = div) :
    ((spiMaster c).out s x0).done = false ∧
    (∀ o ∈ (spiMaster c).traceFrom (spiNext c s x0) ins, o.clk = false ∧ o.csN = true ∧ o.done = false ∧ o.irq = false) ∧
    RunInv c div L x0.mosi ((spiMaster c).runFrom (spiNext c s x0) ins).misoData smp 0 0
      ((spiMaster c).runFrom (spiNext c s x0) ins) := by
  have ha := spi_accept hdiv hd16 hL hLw hx0 hst hs
  exact ⟨ha.1, spi_start_wait smp hdiv hd16 hLw hlen hins ha.2.2.2 hn⟩

/-- From the first RUN cycle (time 0), for every pulse `i < L` and position `k < div`:
    in cycle `i·div + k` the clock pad is high iff `k ≥ div/2` (so exactly `L` pulses, period `div`, high for
    `div − div/2` cycles), chip select is asserted, MOSI carries bit `data_width−1−i` (raw) / `L−1−i` (aligned) of the
    word, `done = 0`, `irq = 0`.  Then `div/2` STOP cycles with the clock low and chip select still asserted, `irq`
    exactly in the last of them.  Then IDLE: `done` returns, and bit `k < L` of the received word is `pads.miso`
    sampled in the cycle of the rise strobe of pulse `L−1−k` (MSB first). -/
theorem spi_master_xfer (c : SpiCfg) (div L w m0 : Nat) (hdiv : 2 ≤ div) (hd16 : div < 65536) (hL : 1 ≤ L)
    (hLw : L ≤ c.dw) (f : Nat → SpiIn) (hf : ∀ t, SpiHold div L (f t)) (s0 : SpiSt)
    (h0 : RunInv c div L w m0 (spiSmp f div) 0 0 s0) :
    let st := fun t => runFn (spiMaster c) s0 f t
    let o := fun t => (spiMaster c).out (st t) (f t)
    (∀ i, i < L → ∀ k, k < div →
        (o (i * div + k)).clk = decide (div / 2 ≤ k) ∧ (o (i * div + k)).csN = false ∧
        (o (i * div + k)).mosi = w.testBit ((if c.aligned then L - 1 else c.dw - 1) - i) ∧
        (o (i * div + k)).done = false ∧ (o (i * div + k)).irq = false) ∧
    (∀ k, k < div / 2 →
        (o (L * div + k)).clk = false ∧ (o (L * div + k)).csN = false ∧ (o (L * div + k)).done = false ∧
        (o (L * div + k)).irq = decide (k + 1 = div / 2)) ∧
    ((o (L * div + div / 2)).done = !(f (L * div + div / 2)).start ∧ (o (L * div + div / 2)).clk = false ∧
     (o (L * div + div / 2)).irq = false ∧
     ∀ k, k < L → (o (L * div + div / 2)).miso.testBit k = (f ((L - 1 - k) * div + (div / 2 - 1))).miso) := by
  intro st o
  have hstop := spi_stop hdiv hd16 hL hLw hf h0
  exact ⟨fun i hi k hk => (spi_run hdiv hd16 hLw hf h0 i hi k hk).out _,
    fun k hk => (hstop.1 k hk).out (hf (L * div + k)).div, hstop.2.1.out hLw _⟩

/-- Non-vacuity and a complete concrete waveform: data_width 4, raw, divider 3, 2 bits of the word 0b1001 — two
    clock pulses inside chip select, MOSI = bits 3, 2, irq in the cycle before `done` returns. -/
example :
    let x : SpiIn := ⟨false, 2, 0b1001, true, false, false, 3, true⟩
    ((spiMaster ⟨4, false⟩).trace ({ x with start := true } :: List.replicate 11 x)).map
      (fun o => (o.clk, o.csN, o.mosi, o.done, o.irq)) =
    [(false, false, false, false, false), (false, true, false, false, false), (false, true, false, false, false),
     (false, false, true, false, false), (true, false, true, false, false), (true, false, true, false, false),
     (false, false, false, false, false), (true, false, false, false, false), (true, false, false, false, false),
     (false, false, false, false, true), (false, false, false, true, false), (false, true, false, true, false)] := by
  decide

/-! ## I2C master machine -/

/-- For every command/SDA/poke history from reset and every next input, the transition of the bus
    lines is legal: SDA changes while SCL stays high only as START (falling, in START0) or STOP (rising, in STOP2);
    SCL and SDA change in the same edge only when SCL falls (never when it rises) — `I2CMaster`'s pad stage holds
    SDA for one cycle after an SCL change, so on the pads SDA then moves while SCL is low.
    The stronger "at most one of SCL/SDA changes per transition" is false for the machine, see the witness. -/
theorem i2c_legal (cw : Nat) (ins : List I2cIn) (i : I2cIn) :
    I2cLegal ((i2cMachine cw).run ins) ((i2cMachine cw).next ((i2cMachine cw).run ins) i) :=
  (i2c_next_legal cw _ i (Machine.invariant_runFrom (i2cMachine cw) I2cInv (fun s i h => (i2c_next_legal cw s i h).1)
    ins (i2cMachine cw).init ⟨nofun, nofun, (by decide : 0 < 16)⟩)).2

/-- Negative witness for "at most one line changes": WRITE0 lowers SCL and puts the next data bit on SDA in the
    same edge. -/
example :
    let s : I2cSt := ⟨.write0, true, false, 0x80, false, 8, 0⟩
    let s' := i2cNext 2 s ⟨false, false, false, false, true, 1, false, 0, false⟩
    s.scl ≠ s'.scl ∧ s.sda ≠ s'.sda := by decide

/-- **Commands always finish (ticks).**  Outside IDLE every enabled FSM step (a clk2x tick; command strobes
    advance the FSM only from IDLE, fix 86eb66e) lowers the rank by exactly one and rank 0 is IDLE; the rank after a
    command accepted in IDLE is
    write 19, read 18, start 1 (SCL high) / restart 3 (SCL low), stop 3 — the number of ticks until IDLE. -/
theorem i2c_command_ticks (s : I2cSt) (i : I2cIn) (hb : s.bits < 16) :
    (s.fsm ≠ .idle → i2cRank (i2cFsmStep s i) + 1 = i2cRank s) ∧ (i2cRank s = 0 ↔ s.fsm = .idle) ∧ i2cRank s ≤ 34 ∧
    (s.fsm = .idle → i.start = false → i.write = true → i2cRank (i2cFsmStep s i) = 19) ∧
    (s.fsm = .idle → i.start = false → i.write = false → i.read = true → i2cRank (i2cFsmStep s i) = 18) ∧
    (s.fsm = .idle → i.start = true → i2cRank (i2cFsmStep s i) = if s.scl then 1 else 3) ∧
    (s.fsm = .idle → i.start = false → i.write = false → i.read = false → i.stop = true → s.scl = false →
       i2cRank (i2cFsmStep s i) = 3) := by
  refine ⟨fun hn => i2c_rank_step s i hb hn, i2c_rank_zero_iff s, i2c_rank_le s hb, ?_, ?_, ?_, ?_⟩
  · intro h1 h2 h3
    simp only [i2cFsmStep, i2cRank, h1, h2, h3, Bool.false_and, Bool.false_eq_true, if_false, if_true]
  · intro h1 h2 h3 h4
    simp only [i2cFsmStep, i2cRank, h1, h2, h3, h4, Bool.false_and, Bool.false_eq_true, if_false, if_true]
  · intro h1 h2
    cases hs : s.scl <;>
      simp only [i2cFsmStep, i2cRank, h1, h2, hs, Bool.and_self, Bool.and_false, Bool.false_eq_true, if_false, if_true]
  · intro h1 h2 h3 h4 h5 h6
    simp only [i2cFsmStep, i2cRank, h1, h2, h3, h4, h5, h6, Bool.not_false, Bool.and_self, Bool.false_eq_true,
      if_false, if_true]

/-- **Commands always finish (cycles).**  With a constant clock-divider load `l`, from any state reachable with that
    load (`cnt ≤ l`), whatever inputs follow — further command strobes, bus writes to data/ack, any SDA — the machine is
    back in IDLE within `rank·(l+1) ≤ 34·(l+1)` cycles: no command sequence leaves it stuck. -/
theorem i2c_returns_idle (cw l : Nat) (s : I2cSt) (f : Nat → I2cIn) (hf : ∀ t, (f t).load = l) (hb : s.bits < 16)
    (hc : s.cnt ≤ l) :
    ∃ k, k ≤ i2cRank s * (l + 1) ∧ k ≤ 34 * (l + 1) ∧ (runFn (i2cMachine cw) s f k).fsm = .idle := by
  have h34 : i2cRank s * (l + 1) ≤ 34 * (l + 1) := Nat.mul_le_mul_right _ (i2c_rank_le s hb)
  by_cases hn : s.fsm = .idle
  · exact ⟨0, Nat.zero_le _, Nat.zero_le _, hn⟩
  · -- the exact busy time `cnt + (rank - 1)·(l + 1) + 1` is at most `rank·(l + 1)` because `cnt ≤ l`
    obtain ⟨r, hr⟩ := Nat.exists_eq_succ_of_ne_zero fun h => hn ((i2c_rank_zero_iff s).mp h)
    have hk : s.cnt + (i2cRank s - 1) * (l + 1) + 1 ≤ i2cRank s * (l + 1) := by
      rw [hr, Nat.succ_sub_one, Nat.succ_mul]; omega
    exact ⟨_, hk, Nat.le_trans hk h34, (i2c_busy_exact_any cw l f hf s hb hn _ rfl).2.1⟩

/-- Non-vacuity: a write command issued in IDLE (SCL low, load 1) needs the full 19 ticks. -/
example :
    let idle : I2cIn := ⟨false, false, false, false, true, 1, false, 0, false⟩
    let s0 : I2cSt := ⟨.idle, false, true, 0xA5, false, 0, 1⟩
    let s1 := i2cNext 2 s0 { idle with write := true }
    i2cRank s1 = 19 ∧ (runFn (i2cMachine 2) s1 (fun _ => idle) 36).fsm ≠ .idle ∧
    (runFn (i2cMachine 2) s1 (fun _ => idle) 37).fsm = .idle := by decide +kernel

/-! ## SPI: pulse count, slave -/

/-- **Exactly `length` clock pulses.**  Counting rising edges of the clock pad from the first RUN cycle to the return
    to IDLE gives exactly `L`. -/
theorem spi_master_pulse_count (c : SpiCfg) (div L w m0 : Nat) (hdiv : 2 ≤ div) (hd16 : div < 65536) (hL : 1 ≤ L)
    (hLw : L ≤ c.dw) (f : Nat → SpiIn) (hf : ∀ t, SpiHold div L (f t)) (s0 : SpiSt)
    (h0 : RunInv c div L w m0 (spiSmp f div) 0 0 s0) :
    countEdges (fun t => ((spiMaster c).out (runFn (spiMaster c) s0 f t) (f t)).clk) (L * div + div / 2) = L := by
  obtain ⟨hrun, hstop, _, hdone, _⟩ := spi_master_xfer c div L w m0 hdiv hd16 hL hLw f hf s0 h0
  refine pulse_count _ div (div / 2) L (half_pos hdiv) (half_lt hdiv) (fun i hi k hk => (hrun i hi k hk).1)
    (fun k hk => ?_)
  rcases Nat.lt_or_eq_of_le hk with hlt | rfl
  · exact (hstop k hlt).1
  · exact hdone

/-- While the synchronised chip select is asserted: `length` counts the synchronised rising clock
    edges (mod 256), the receive register holds the synchronised MOSI values of those edges shifted in MSB first, the
    transmit register has moved one position per falling edge; `start` is shown when the frame begins (length
    cleared, word to send loaded) and `irq` when chip select is released. -/
theorem spi_slave_xfer (dw : Nat) (s : SlvSt) (i0 : SlvIn) (hx : s.xfer = false) (hc : s.s1 = true)
    (ins : List SlvIn) (hcs : slvCsHeld dw (slvNext dw s i0) ins) :
    let s1 := slvNext dw s i0
    let e := (spiSlave dw).runFrom s1 ins
    ((spiSlave dw).out s i0).start = true ∧
    e.length = (slvSamples dw s1 ins).length % 256 ∧
    e.rx = shiftIn dw s1.rx (slvSamples dw s1 ins) ∧
    e.misoData % 2 ^ dw = (i0.tx * 2 ^ slvFalls dw s1 ins) % 2 ^ dw ∧
    (e.s1 = false → ∀ j, ((spiSlave dw).out e j).irq = true ∧ (slvNext dw e j).xfer = false) := by
  intro s1 e
  obtain ⟨hst, _, hx1, hl1, hm1, _⟩ := slv_frame_start dw s i0 hx hc
  have h := slv_frame_run dw ins s1 (r0 := s1.rx) (l0 := 0) (tx := i0.tx) (bs := []) (f := 0)
    ⟨hx1, rfl, hl1, by rw [hm1, Nat.pow_zero, Nat.mul_one]⟩ hcs
  rw [List.nil_append, Nat.zero_add] at h
  exact ⟨hst, h.len.trans (by rw [Nat.zero_add]), h.rx, h.tx,
    fun he j => ⟨(slv_frame_end dw e j h.xfer he).1, (slv_frame_end dw e j h.xfer he).2.1⟩⟩

/-! ## I2C: the write command bit by bit -/

/-- **Write.**  From WRITE0 with 8 bits to go (the state right after a write command), counting enabled FSM steps:
    for `j < 8`, step `2j+1` has SCL low and SDA = bit `7 − j` of the byte (MSB first), step `2j+2` has SCL high with
    SDA unchanged; step 17 releases SDA (SCL low), step 18 raises SCL for the acknowledge, step 19 lowers it, stores
    `ack = ¬sda_i` and is back in IDLE. -/
theorem i2c_write_sequence (s : I2cSt) (f : Nat → I2cIn) (hf : s.fsm = .write0) (hb : s.bits = 8) (hd : s.data < 256) :
    (∀ j, j < 8 →
      (i2cSteps s f (2 * j + 1)).scl = false ∧ (i2cSteps s f (2 * j + 1)).sda = s.data.testBit (7 - j) ∧
      (i2cSteps s f (2 * j + 2)).scl = true ∧ (i2cSteps s f (2 * j + 2)).sda = s.data.testBit (7 - j)) ∧
    (i2cSteps s f 17).scl = false ∧ (i2cSteps s f 17).sda = true ∧
    (i2cSteps s f 18).scl = true ∧ (i2cSteps s f 18).sda = true ∧
    (i2cSteps s f 19).scl = false ∧ (i2cSteps s f 19).ack = !(f 18).sdaI ∧ (i2cSteps s f 19).fsm = .idle := by
  refine ⟨fun j hj => ?_, ?_⟩
  · obtain ⟨h1, h2, h3⟩ := i2c_write_even s f hf hb j (Nat.le_of_lt hj)
    have hj7 : j ≤ 7 := Nat.le_of_lt_succ hj
    have hbit := h3 (7 - j) (Nat.le_of_eq (Nat.sub_add_cancel hj7))
    rw [Nat.sub_add_cancel hj7] at hbit
    obtain ⟨e1, e2⟩ := i2c_write_pair _ (f (2 * j)) (f (2 * j + 1)) h1 (h2 ▸ Nat.sub_ne_zero_of_lt hj)
    rw [i2cSteps_succ s f (2 * j + 1), i2cSteps_succ s f (2 * j), e2, e1]
    exact ⟨rfl, hbit, rfl, hbit⟩
  · obtain ⟨h1, h2, _⟩ := i2c_write_even s f hf hb 8 (Nat.le_refl 8)
    rw [i2cSteps_succ s f 18, i2cSteps_succ s f 17, i2cSteps_succ s f 16]
    generalize i2cSteps s f (2 * 8) = t at h1 h2
    simp only [i2cFsmStep, h1, h2, beq_self_eq_true, if_true, and_self]

/-! ## I2CMaster: legality at the pads -/

/-- `I2CMaster` = Wishbone registers + bit machine + the stage that lets SDA follow `sda_o` only
    when the SCL seen in the previous cycle equals `scl_o`.  Start: any state in which the machine is still as after
    reset (idle, both lines released) and the divider has been programmed with a value ≥ 1; then **every** sequence of
    bus cycles (commands while busy, back-to-back and compound commands, data and divider writes — the divider never
    written with 0) and **every** behaviour of the rest of the bus (`ext_scl`: clock stretching, `ext_sda`).
    Whenever the SDA driver changes between two consecutive cycles, either
      * the SCL line is low in both cycles (a data change), or
      * the SCL line was high, the master keeps SCL released, the driver now shows `sda_o`, and `sda_o` was last
        assigned by START0 or STOP2 (ghost bit of `i2cmAug`): a START or STOP condition, possibly deferred by clock
        stretching — and by `i2c_legal` the machine assigns `sda_o` under released SCL only there.
    This rests on command strobes acting only in IDLE (fix 86eb66e): otherwise a command written while busy puts a
    spurious STOP inside a byte, which the probe `C19-i2c-busy-command-glitch` replays.  Divider 0 (the reset value) is outside the range: SCL then toggles every cycle and
    the stage never lets SDA follow (example below). -/
theorem i2c_pad_legal (s0 : I2cmSt) (hf : s0.m.fsm = .idle) (hscl : s0.m.scl = true) (hb : s0.m.bits < 16)
    (hl : 1 ≤ s0.load) (ins : List I2cmIn) (hins : ∀ j ∈ ins, LoadOk j) (i : I2cmIn) (hi : LoadOk i) :
    let sg := i2cmAug.runFrom (s0, true) ins
    let s := sg.1
    let s' := i2cmNext s i
    s = i2cMaster.runFrom s0 ins ∧
    (s.sdaOe ≠ s'.sdaOe →
      (s.padScl i = false ∧ ∀ j, s'.padScl j = false) ∨
      (s.padScl i = true ∧ s'.m.scl = true ∧ s'.sdaOe = !s'.m.sda ∧ sdaKind s.m s.stepped sg.2 = true)) := by
  intro sg s s'
  have h0 : PadInv s0 true :=
    ⟨⟨fun h => I2cFsm.noConfusion (hf.symm.trans h), fun h => I2cFsm.noConfusion (hf.symm.trans h), hb⟩,
      fun _ _ => rfl, fun h => Bool.noConfusion (hscl.symm.trans h), hl⟩
  have hinv := pad_inv_run ins hins (s0, true) h0
  have hstep := (pad_step sg.1 sg.2 i hinv hi).2
  refine ⟨i2cmAug_fst ins (s0, true), fun hch => ?_⟩
  rcases hstep.sda hch with ⟨h1, h2⟩ | ⟨_, h2, h3, h4, h5⟩
  · left
    refine ⟨h1, fun j => ?_⟩
    show (if (!s'.m.scl) then false else j.extScl) = false
    rw [show s'.m.scl = false from h2]; rfl
  · right; exact ⟨h3, h2, h4, h5⟩

/-- Non-vacuity (divider 1: START, then WRITE 0x55 — in cycle 18 the driver has released SDA for the first 1-bit while
    SCL is low) and the divider-0 remark (the driver stays low during the whole byte: 0x55 goes out as 0x00). -/
example :
    let idl : I2cmIn := ⟨false, false, false, false, 0, true, true⟩
    let wrx : Nat → I2cmIn := fun d => ⟨true, true, true, false, d, true, true⟩
    let ins := [wrx 2048] ++ List.replicate 9 idl ++ [wrx (1024 + 0x55)] ++ List.replicate 40 idl
    let st := fun (l k : Nat) => i2cMaster.runFrom { i2cMaster.init with load := l } (ins.take k)
    ((st 1 17).sdaOe = true ∧ (st 1 18).sdaOe = false ∧ (st 1 17).m.scl = false ∧ (st 1 18).m.scl = false) ∧
    (List.range 29).all (fun k => (st 0 (k + 3)).sdaOe) = true := by decide +kernel

/-! ## SPI master: sequences of transfers, chip-select vector, manual CS mode -/

/-- When `done` returns after a transfer the state is clean (`IdleOk`: IDLE, clock low,
    divider inside its period) and stays so through any number of cycles without `start` (`done = 1`, clock low, no
    irq).  `IdleOk` is exactly the hypothesis of `spi_master_start`, which is stated for an arbitrary length: transfers
    of different lengths (and words, and start times) can follow each other, each with the waveform of
    `spi_master_xfer`. -/
theorem spi_master_idle_inv (c : SpiCfg) (div L w m0 : Nat) (hdiv : 2 ≤ div) (hd16 : div < 65536) (hL : 1 ≤ L)
    (hLw : L ≤ c.dw) (f : Nat → SpiIn) (hf : ∀ t, SpiHold div L (f t)) (s0 : SpiSt)
    (h0 : RunInv c div L w m0 (spiSmp f div) 0 0 s0)
    (idle : List SpiIn) (hidle : ∀ x ∈ idle, x.div = div ∧ x.start = false) :
    let sd := runFn (spiMaster c) s0 f (L * div + div / 2)
    IdleOk div sd ∧ IdleOk div ((spiMaster c).runFrom sd idle) ∧
    ∀ o ∈ (spiMaster c).traceFrom sd idle, o.done = true ∧ o.clk = false ∧ o.irq = false := by
  intro sd
  obtain ⟨_, hdone, hcnt⟩ := spi_stop hdiv hd16 hL hLw hf h0
  have hok : IdleOk div sd := ⟨hdone.fsm, by show (runFn (spiMaster c) s0 f _).cnt < div; rw [hcnt]; omega, hdone.clk⟩
  exact ⟨hok, spi_idle_run c hdiv hd16 hidle hok⟩

/-- **Chip-select vector and manual mode** (`len(pads.cs_n) = ncs`).  For every state, input and line `j < ncs`: after
    the clock edge line `j` is low iff chip `j` is selected in `cs` and (a transfer is in progress or `cs_mode = 1`);
    so in manual mode the lines are the registered complement of `cs`, in automatic mode all lines are high outside
    transfers; the control machine is the single-CS model (it never looks at `cs`) and line 0 is that model's `cs_n`, so
    `spi_master_start / xfer / pulse_count / idle_inv` hold unchanged with several chip selects. -/
theorem spi_master_cs_lines (c : SpiCfg) (ncs : Nat) (hn : 1 ≤ ncs) (s : SpiNSt) (i : SpiIn) (cs j : Nat) (hj : j < ncs) :
    (spiNNext c ncs s i cs).csN.testBit j = !(cs.testBit j && (spiXfer s.core i || i.csMode)) ∧
    (spiNNext c ncs s i cs).core = spiNext c s.core { i with cs := cs.testBit 0 } ∧
    (spiNNext c ncs s i cs).csN.testBit 0 = (spiNNext c ncs s i cs).core.csN :=
  ⟨csnOf_line ncs cs j _ hj, rfl, csnOf_line ncs cs 0 _ hn⟩

example : csnOf 4 0b0110 true = 0b1001 ∧ csnOf 4 0b0110 false = 0b1111 := by decide

/-! ## SPI slave in pad terms -/

/-- The signals `spi_slave_xfer` speaks about are the pads two cycles earlier (`cs` inverted), and
    the edges it counts are pad edges between the third- and second-last cycle; and MISO is MSB first: after `f < dw`
    falling edges inside a frame the pad shows bit `dw − 1 − f` of the word to send (`spi_slave_xfer` gives the
    hypothesis `misoData ≡ tx·2^f`). -/
theorem spi_slave_pads (dw : Nat) (s : SlvSt) (z a b : SlvIn) (tx f : Nat) (hf : f < dw) :
    let e := slvNext dw (slvNext dw (slvNext dw s z) a) b
    (e.c1 = a.clk ∧ e.s1 = !a.csN ∧ e.m1 = a.mosi ∧ e.rise = (a.clk && !z.clk) ∧ e.fall = (!a.clk && z.clk)) ∧
    (∀ st : SlvSt, ∀ j : SlvIn, j.loopback = false → st.misoData % 2 ^ dw = (tx * 2 ^ f) % 2 ^ dw →
       ((spiSlave dw).out st j).miso = tx.testBit (dw - 1 - f)) := by
  intro e
  obtain ⟨h1, h2, h3, _⟩ := slv_sync dw s z a b
  refine ⟨⟨h1, h2, h3, slv_edges dw s z a b⟩, fun st j hl hm => ?_⟩
  show (if j.loopback then st.m1 else st.misoData.testBit (dw - 1)) = _
  rw [hl]
  exact slv_miso_bit dw tx f st.misoData hf hm

/-! ## SPI master: every `cs`, `cs_mode`, `loopback` input, exact termination, loopback word -/

/-- The complete transfer for every data width, length `1 ≤ L ≤ data_width`, divider
    `2 ≤ div < 2^16`, divider phase, mode, and **every** per-cycle value of `start`, `mosi`, `cs`, `cs_mode`, `loopback`,
    `pads.miso` (only the divider and the length are held).  Cycle 0 is the IDLE cycle with `start = 1`;
    `T = 1 + (div − cnt₁)` is the first RUN cycle, `E = T + L·div + div/2` the cycle in which `done` returns:
      * before `T`: clock low, `done = 0`, no irq;  RUN pulse `i`, position `k`: clock high iff `k ≥ div/2`, MOSI = bit
        `data_width−1−i` / `L−1−i` of the word latched in cycle 0 (later writes to `mosi` do not matter), `done = 0`;
      * `div/2` STOP cycles, irq in the last one; in `E`: `done`, and bit `k < L` of `miso` is what was sampled at the
        rise strobe of pulse `L−1−k`: `pads.miso`, or the MOSI pad if `loopback` is set in that cycle;
      * the chip-select register follows `cs`/`cs_mode` of the previous cycle: outside the transfer
        `cs_n = ¬(cs ∧ cs_mode)` (manual mode), from the last START cycle to the last STOP cycle `cs_n = ¬cs`. -/
theorem spi_master_any_options (c : SpiCfg) (div L : Nat) (hdiv : 2 ≤ div) (hd16 : div < 65536) (hL : 1 ≤ L)
    (hLw : L ≤ c.dw) (g : Nat → SpiIn) (hg : ∀ t, (g t).div = div ∧ (g t).length = L) (s : SpiSt) (hs : IdleOk div s)
    (hst : (g 0).start = true) :
    let st := fun t => runFn (spiMaster c) s g t
    let o := fun t => (spiMaster c).out (st t) (g t)
    let T := 1 + (div - (st 1).cnt)
    let E := T + (L * div + div / 2)
    (st 1).cnt = (s.cnt + 1) % div ∧
    (∀ t, t < T → (o t).clk = false ∧ (o t).done = false ∧ (o t).irq = false) ∧
    (∀ i, i < L → ∀ k, k < div →
        (o (T + (i * div + k))).clk = decide (div / 2 ≤ k) ∧
        (o (T + (i * div + k))).mosi = (g 0).mosi.testBit ((if c.aligned then L - 1 else c.dw - 1) - i) ∧
        (o (T + (i * div + k))).done = false ∧ (o (T + (i * div + k))).irq = false) ∧
    (∀ k, k < div / 2 →
        (o (T + (L * div + k))).clk = false ∧ (o (T + (L * div + k))).done = false ∧
        (o (T + (L * div + k))).irq = decide (k + 1 = div / 2)) ∧
    ((o E).done = !(g E).start ∧ (o E).clk = false ∧ (o E).irq = false ∧
      ∀ k, k < L → (o E).miso.testBit k =
        spiSampled (st (T + ((L - 1 - k) * div + (div / 2 - 1)))) (g (T + ((L - 1 - k) * div + (div / 2 - 1))))) ∧
    (∀ t, t + 1 < T → (o (t + 1)).csN = !((g t).cs && (g t).csMode)) ∧
    (∀ t, T ≤ t + 1 → t < E → (o (t + 1)).csN = !(g t).cs) ∧
    (o (E + 1)).csN = !((g E).cs && (g E).csMode) := by
  intro st o T E
  have hc : (st 1).cnt = (s.cnt + 1) % div := spiNext_cnt_mod c hdiv hd16 (hg 0).1 hs.cnt
  -- the phases of the normalised run carry over to the real one, which differs only in the chip-select register
  have hg' : ∀ t, SpiHold div L (spiNormRun c s g t) := fun t => ⟨(hg t).1, (hg t).2, rfl, rfl, rfl⟩
  obtain ⟨n, hT, hS, hR, hP, hD⟩ := spi_phases hdiv hd16 hL hLw hg' hs hst
  have hT : T = n + 2 := (congrArg (fun x => 1 + (div - x)) hc).trans hT
  have hE : E = n + 2 + (L * div + div / 2) := congrArg (· + (L * div + div / 2)) hT
  refine ⟨hc, ?_⟩
  rw [hE, hT]
  have hout := spiOut_norm c s g
  have hcs := spi_csN_norm c s g
  refine ⟨fun t htT => ?_, fun i hi k hk => ?_, fun k hk => ?_, ?_, fun t ht => ?_, fun t h1 h2 => ?_, ?_⟩
  · obtain ⟨_, e1, _, e3, e4, _⟩ := hout t
    match t, htT with
    | 0, _ => exact ⟨(hs.out c (g 0)).2.1, (hs.out c (g 0)).1.trans (by rw [hst]; rfl), (hs.out c (g 0)).2.2⟩
    | j + 1, hj =>
      obtain ⟨o1, _, o3, o4⟩ := (hS j (Nat.le_of_lt_succ (Nat.lt_of_succ_lt_succ hj))).out (spiNormRun c s g (j + 1))
      exact ⟨e1.trans o1, e3.trans o3, e4.trans o4⟩
  · obtain ⟨_, e1, e2, e3, e4, _⟩ := hout (n + 2 + (i * div + k))
    obtain ⟨o1, _, o2, o3, o4⟩ := (hR i hi k hk).out (spiNormRun c s g (n + 2 + (i * div + k)))
    exact ⟨e1.trans o1, e2.trans o2, e3.trans o3, e4.trans o4⟩
  · obtain ⟨_, e1, _, e3, e4, _⟩ := hout (n + 2 + (L * div + k))
    obtain ⟨o1, _, o3, o4⟩ := (hP k hk).out (hg' (n + 2 + (L * div + k))).div
    exact ⟨e1.trans o1, e3.trans o3, e4.trans o4⟩
  · obtain ⟨_, e1, _, e3, e4, e5⟩ := hout (n + 2 + (L * div + div / 2))
    obtain ⟨o1, o2, o3, o4⟩ := hD.out hLw (spiNormRun c s g (n + 2 + (L * div + div / 2)))
    exact ⟨e3.trans o1, e1.trans o2, e4.trans o3, fun k hk => by rw [e5, o4 k hk]; rfl⟩
  · exact (hcs t true (hS t (Nat.le_of_lt_succ (Nat.lt_of_succ_lt_succ ht))).csN).trans rfl
  · obtain ⟨r, hr⟩ := Nat.exists_eq_add_of_le h1
    refine (hcs t false (hr ▸ spi_phases_csN hdiv hR hP hD r
      (Nat.le_of_add_le_add_left (Nat.le_trans (Nat.le_of_eq hr.symm) h2)))).trans ?_
    rw [Bool.not_false, Bool.true_or, Bool.and_true]
  · show (spiNext c _ _).csN = _
    rw [spiNext_csN, (hout _).1, spiXfer, hD.fsm]; rfl

/-- `done` is low from the start cycle on and returns exactly in cycle
    `E = 1 + (div − (cnt+1) mod div) + L·div + div/2` (`cnt` = divider counter in the start cycle), not earlier — for
    every length, divider, divider phase, mode and input. -/
theorem spi_master_terminates_exactly (c : SpiCfg) (div L : Nat) (hdiv : 2 ≤ div) (hd16 : div < 65536) (hL : 1 ≤ L)
    (hLw : L ≤ c.dw) (g : Nat → SpiIn) (hg : ∀ t, (g t).div = div ∧ (g t).length = L) (s : SpiSt) (hs : IdleOk div s)
    (hst : (g 0).start = true) :
    let o := fun t => (spiMaster c).out (runFn (spiMaster c) s g t) (g t)
    let E := 1 + (div - (s.cnt + 1) % div) + (L * div + div / 2)
    (∀ t, t < E → (o t).done = false) ∧ (o E).done = !(g E).start := by
  intro o E
  obtain ⟨hc, h1, h2, h3, h4, _⟩ := spi_master_any_options c div L hdiv hd16 hL hLw g hg s hs hst
  rw [hc] at h1 h2 h3 h4
  refine ⟨fun t ht => ?_, h4.1⟩
  rcases Nat.lt_or_ge t (1 + (div - (s.cnt + 1) % div)) with htT | htT
  · exact (h1 t htT).2.1
  · obtain ⟨r, rfl⟩ := Nat.exists_eq_add_of_le htT
    have hr := Nat.lt_of_add_lt_add_left ht
    rcases spi_window div L r hdiv (Nat.le_of_lt hr) with ⟨i, k, hi, hk, rfl⟩ | ⟨k, hk, rfl⟩ | rfl
    · exact (h2 i hi k hk).2.2.1
    · exact (h3 k hk).2.1
    · exact absurd hr (Nat.lt_irrefl _)

/-- With `loopback = 1` the word read back is the bits sent: bit `k < L` of `miso` is bit `k`
    of the word (aligned) / bit `data_width − L + k` (raw). -/
theorem spi_master_loopback (c : SpiCfg) (div L : Nat) (hdiv : 2 ≤ div) (hd16 : div < 65536) (hL : 1 ≤ L)
    (hLw : L ≤ c.dw) (g : Nat → SpiIn) (hg : ∀ t, (g t).div = div ∧ (g t).length = L) (s : SpiSt) (hs : IdleOk div s)
    (hst : (g 0).start = true) (hlb : ∀ t, (g t).loopback = true) :
    let o := fun t => (spiMaster c).out (runFn (spiMaster c) s g t) (g t)
    let E := 1 + (div - (s.cnt + 1) % div) + (L * div + div / 2)
    ∀ k, k < L → (o E).miso.testBit k = (g 0).mosi.testBit (if c.aligned then k else c.dw - L + k) := by
  intro o E k hk
  obtain ⟨hc, _, h2, _, h4, _⟩ := spi_master_any_options c div L hdiv hd16 hL hLw g hg s hs hst
  rw [hc] at h2 h4
  have hi : L - 1 - k < L := Nat.lt_of_le_of_lt (Nat.sub_le _ k) (Nat.sub_lt hL Nat.one_pos)
  -- the sample of pulse `L − 1 − k` is the MOSI pad of that pulse
  rw [h4.2.2.2 k hk, spiSampled, hlb, if_pos rfl]
  rw [show (runFn (spiMaster c) s g (1 + (div - (s.cnt + 1) % div) + ((L - 1 - k) * div + (div / 2 - 1)))).mosi = _ from
    (h2 (L - 1 - k) hi (div / 2 - 1) (Nat.lt_of_le_of_lt (Nat.sub_le _ _) (half_lt hdiv))).2.1]
  congr 1
  split
  · exact Nat.sub_sub_self (Nat.le_sub_one_of_lt hk)
  · exact msb_index hk hLw

/-- Non-vacuity (reset state, data_width 4 aligned, divider 3, 3 bits of 0b0101, loopback, chip select off):
    `E = 1 + 2 + 10 = 13`, `done` returns exactly there with `miso = 0b101`, and `cs_n` stays high throughout. -/
example :
    let g : Nat → SpiIn := fun t => ⟨t == 0, 3, 0b0101, false, false, true, 3, false⟩
    let st := fun t => runFn (spiMaster ⟨4, true⟩) (spiMaster ⟨4, true⟩).init g t
    ((List.range 13).all fun t => !((spiMaster ⟨4, true⟩).out (st t) (g t)).done) = true ∧
    ((spiMaster ⟨4, true⟩).out (st 13) (g 13)).done = true ∧ ((spiMaster ⟨4, true⟩).out (st 13) (g 13)).miso = 0b101 ∧
    ((List.range 14).all fun t => (st (t + 1)).csN) = true := by decide

/-! ## bitbang.py: software-driven I2C and SPI masters (pad wiring) -/

/-- Open drain: each line is the AND of what the core and the rest of the bus do; the core
    pulls SCL low exactly when `w.scl = 0` and SDA low exactly when `w.oe ∧ ¬w.sda` — it never drives a line high — and
    `r.sda` reads the SDA line.  So with the bus otherwise released the pads show exactly the bits software writes, in
    the same cycle.  (`w.oe` does not gate SCL, unlike what the field description says: `w.scl = 0` pulls SCL low also
    with `w.oe = 0`.) -/
theorem bitbang_i2c_wiring (i : BbI2cIn) :
    (bbI2c i).padScl = (i.scl && i.extScl) ∧ (bbI2c i).padSda = ((!i.oe || i.sda) && i.extSda) ∧
    (bbI2c i).rSda = (bbI2c i).padSda ∧
    (i.extScl = false → (bbI2c i).padScl = false) ∧ (i.extSda = false → (bbI2c i).padSda = false) := by
  have h1 : (bbI2c i).padScl = (i.scl && i.extScl) := by
    show (if !i.scl then false else i.extScl) = _
    cases i.scl <;> rfl
  have h2 : (bbI2c i).padSda = ((!i.oe || i.sda) && i.extSda) := by
    show (if i.oe && !i.sda then false else i.extSda) = _
    cases i.oe <;> cases i.sda <;> rfl
  exact ⟨h1, h2, rfl, fun h => by rw [h1, h, Bool.and_false], fun h => by rw [h2, h, Bool.and_false]⟩

example : bbI2c ⟨false, false, true, true, true⟩ = ⟨false, true, true⟩ ∧
          bbI2c ⟨true, true, false, true, true⟩ = ⟨true, false, false⟩ := by decide

/-- `I2CMasterSim`: SCL is the register bit; with `oe` SDA-out and the read-back are the register bit, without it
    SDA-out idles high and the read-back is the input pad. -/
theorem bitbang_i2c_sim_wiring (scl oe sda sdaIn : Bool) :
    (bbI2cSim scl oe sda sdaIn).padScl = scl ∧
    (bbI2cSim scl oe sda sdaIn).sdaOut = (!oe || sda) ∧
    (bbI2cSim scl oe sda sdaIn).rSda = ((oe && sda) || (!oe && sdaIn)) := by
  refine ⟨rfl, ?_, ?_⟩
  · show (if oe then sda else true) = _
    cases oe <;> rfl
  · show (if oe then sda else sdaIn) = _
    cases oe <;> cases sda <;> rfl

/-- `pads.clk = w.clk`; chip-select line `j < len(pads.cs_n) ≤ 4` is the complement of
    `w.cs[j]`; the MOSI pad carries `w.mosi` when `w.oe` is set and is left to the line otherwise (3-wire), `r.mosi`
    reads the pad back and `r.miso` reads `pads.miso`. -/
theorem bitbang_spi_wiring (ncs : Nat) (hn : ncs ≤ 4) (i : BbSpiIn) (j : Nat) (hj : j < ncs) :
    (bbSpi ncs i).clk = i.clk ∧ (bbSpi ncs i).csN.testBit j = !i.cs.testBit j ∧
    (bbSpi ncs i).mosi = (if i.oe then i.mosi else i.extMosi) ∧ (bbSpi ncs i).rMosi = (bbSpi ncs i).mosi ∧
    (bbSpi ncs i).rMiso = i.miso := by
  refine ⟨rfl, ?_, rfl, rfl, rfl⟩
  show (csnOf ncs (i.cs % 16) true).testBit j = _
  rw [csnOf_line ncs (i.cs % 16) j true hj]
  have : (i.cs % 2 ^ 4).testBit j = i.cs.testBit j := by
    rw [Nat.testBit_mod_two_pow]; simp; omega
  simp [show (16 : Nat) = 2 ^ 4 from rfl, this]

example : (bbSpi 3 ⟨true, true, false, 0b0101, false, true⟩) = ⟨true, 0b010, false, true, false⟩ := by decide

/-! ## SPI slave: exact capture, MISO bit by bit -/

/-- The receive register (`Cat(mosi, self.mosi[:-1])` at every rising edge) for every width
    `dw ≥ 1` and every word `w < 2^dw`: the `dw` bits of `w` shifted in MSB first give exactly `w`, whatever the
    register held before (nothing of an earlier frame survives a full word).  After only `n ≤ dw` of those bits, bit
    `k < n` of the register is bit `dw − n + k` of `w` (the low `n` bits are the top `n` bits of `w`).  For any list
    of samples at all, bit `k` (below the width) is the sample taken `k` edges before the last. -/
theorem shiftIn_word (dw w r : Nat) (hdw : 1 ≤ dw) (hw : w < 2 ^ dw) :
    shiftIn dw r ((List.range dw).map (fun j => w.testBit (dw - 1 - j))) = w ∧
    (∀ n, n ≤ dw → ∀ k, k < n →
      (shiftIn dw r ((List.range n).map (fun j => w.testBit (dw - 1 - j)))).testBit k = w.testBit (dw - n + k)) ∧
    (∀ (bs : List Bool) (k : Nat), k < dw → k < bs.length →
      (shiftIn dw r bs).testBit k = bs.getD (bs.length - 1 - k) false) := by
  refine ⟨shiftIn_msb_word dw w r hdw hw, fun n hn k hk => shiftIn_msb_bits dw w r n k hn hk, fun bs k hk hl => ?_⟩
  rw [shiftIn_testBit dw bs r k hk, if_pos hl]

example : shiftIn 8 0xFF ((List.range 8).map (fun j => (0xA5).testBit (8 - 1 - j))) = 0xA5 ∧
    shiftIn 8 0xFF [true, false, true] = 0xFD := by decide +kernel

/-- A chip-select frame in which the synchronised MOSI values at the `n ≤ dw` rising edges
    are the first `n` bits of `w < 2^dw`, MSB first: the reported `length` is the number of clock pulses `n`
    (mod 256), bit `k < n` of the received word is bit `dw − n + k` of `w` (as a number: the low `n` bits of `rx` are
    `w` without its `dw − n` low bits), and after all `dw` pulses `rx = w` exactly, independent of what the register
    held before the frame. -/
theorem spi_slave_capture (dw : Nat) (hdw : 1 ≤ dw) (s : SlvSt) (i0 : SlvIn) (hx : s.xfer = false) (hc : s.s1 = true)
    (ins : List SlvIn) (hcs : slvCsHeld dw (slvNext dw s i0) ins) (w : Nat) (hw : w < 2 ^ dw) (n : Nat) (hn : n ≤ dw)
    (hs : slvSamples dw (slvNext dw s i0) ins = (List.range n).map (fun j => w.testBit (dw - 1 - j))) :
    ((spiSlave dw).runFrom (slvNext dw s i0) ins).length = n % 256 ∧
    (∀ k, k < n → ((spiSlave dw).runFrom (slvNext dw s i0) ins).rx.testBit k = w.testBit (dw - n + k)) ∧
    ((spiSlave dw).runFrom (slvNext dw s i0) ins).rx % 2 ^ n = (w / 2 ^ (dw - n)) % 2 ^ n ∧
    (n = dw → ((spiSlave dw).runFrom (slvNext dw s i0) ins).rx = w) := by
  obtain ⟨_, hlen, hrx, _, _⟩ := spi_slave_xfer dw s i0 hx hc ins hcs
  rw [hs] at hlen hrx
  refine ⟨by rw [hlen, List.length_map, List.length_range], fun k hk => ?_, ?_, fun hnd => ?_⟩
  · rw [hrx]; exact shiftIn_msb_bits dw w _ n k hn hk
  · rw [hrx]; exact shiftIn_msb_prefix dw w _ n hn
  · rw [hrx, hnd]; exact shiftIn_msb_word dw w _ hdw hw

example :
    let s : SlvSt := ⟨false, false, true, true, false, false, false, false, 0, 0, 0xF⟩
    let i0 : SlvIn := ⟨false, false, false, 0b0110, false⟩
    let frame : List SlvIn := ([true, false, true, false].flatMap fun b =>
      [⟨false, false, b, 0, false⟩, ⟨false, false, b, 0, false⟩, ⟨true, false, b, 0, false⟩, ⟨true, false, b, 0, false⟩])
      ++ List.replicate 3 i0
    slvCsHeld 4 (slvNext 4 s i0) frame ∧
    slvSamples 4 (slvNext 4 s i0) frame = (List.range 4).map (fun j => (0b1010).testBit (4 - 1 - j)) ∧
    ((spiSlave 4).runFrom (slvNext 4 s i0) frame).rx = 0b1010 ∧
    ((spiSlave 4).runFrom (slvNext 4 s i0) frame).length = 4 := by decide +kernel

/-- MISO is MSB first over the whole frame: after every prefix of the frame's cycles
    containing `f < dw` synchronised falling edges, the pad (loopback off) shows bit `dw − 1 − f` of the word `tx`
    that was loaded when the frame started — bit `dw − 1` before the first falling edge, one position lower after
    each. -/
theorem spi_slave_miso_sequence (dw : Nat) (s : SlvSt) (i0 : SlvIn) (hx : s.xfer = false) (hc : s.s1 = true)
    (ins : List SlvIn) (hcs : slvCsHeld dw (slvNext dw s i0) ins) (n : Nat) (j : SlvIn) (hj : j.loopback = false)
    (hf : slvFalls dw (slvNext dw s i0) (ins.take n) < dw) :
    ((spiSlave dw).out ((spiSlave dw).runFrom (slvNext dw s i0) (ins.take n)) j).miso =
      i0.tx.testBit (dw - 1 - slvFalls dw (slvNext dw s i0) (ins.take n)) := by
  obtain ⟨_, _, _, htx, _⟩ := spi_slave_xfer dw s i0 hx hc (ins.take n) (slvCsHeld_take dw ins _ n hcs)
  exact (spi_slave_pads dw s i0 i0 i0 i0.tx _ hf).2 _ j hj htx

example :
    let s : SlvSt := ⟨false, false, true, true, false, false, false, false, 0, 0, 0xF⟩
    let i0 : SlvIn := ⟨false, false, false, 0b0110, false⟩
    let frame : List SlvIn := ([true, false, true, false].flatMap fun b =>
      [⟨false, false, b, 0, false⟩, ⟨false, false, b, 0, false⟩, ⟨true, false, b, 0, false⟩, ⟨true, false, b, 0, false⟩])
      ++ List.replicate 3 i0
    slvCsHeld 4 (slvNext 4 s i0) frame ∧
    (List.range 20).map (fun n => (slvFalls 4 (slvNext 4 s i0) (frame.take n),
      ((spiSlave 4).out ((spiSlave 4).runFrom (slvNext 4 s i0) (frame.take n)) i0).miso)) =
      List.replicate 7 (0, false) ++ List.replicate 4 (1, true) ++ List.replicate 4 (2, true) ++
      List.replicate 4 (3, false) ++ [(4, false)] := by decide +kernel

/-! ## I2C: read, START/STOP, and exact cycle timing for every divider -/

/-- From READ0 with `bits = 7` (the state right after a read command is accepted in IDLE),
    counting enabled FSM steps, for every previous register contents and every `sda_i` history: for `j < 8`, step
    `2j+1` raises SCL and step `2j+2` lowers it and samples `sda_i` (the input `f (2j+1)` of that step); SDA is not
    touched during the data bits (steps 1…15).  After step 16 the data register is exactly the eight samples MSB
    first (`i2cRxByte f`, bit `7 − j` = sample `j`, nothing of the old contents survives), SCL is low and SDA carries
    the master acknowledge `¬ack`; step 17 raises SCL, step 18 lowers it, releases SDA and is back in IDLE with the
    byte still in the register and `ack` unchanged: 18 steps in all. -/
theorem i2c_read_sequence (s : I2cSt) (f : Nat → I2cIn) (hf : s.fsm = .read0) (hb : s.bits = 7) :
    (∀ j, j < 8 →
      (i2cSteps s f (2 * j + 1)).scl = true ∧ (i2cSteps s f (2 * j + 1)).sda = s.sda ∧
      (i2cSteps s f (2 * j + 2)).scl = false ∧ (j < 7 → (i2cSteps s f (2 * j + 2)).sda = s.sda) ∧
      (i2cSteps s f (2 * j + 2)).data.testBit 0 = (f (2 * j + 1)).sdaI ∧
      (i2cSteps s f 16).data.testBit (7 - j) = (f (2 * j + 1)).sdaI) ∧
    (i2cSteps s f 16).data = i2cRxByte f ∧ i2cRxByte f < 256 ∧
    (i2cSteps s f 16).fsm = .writeack0 ∧ (i2cSteps s f 16).scl = false ∧ (i2cSteps s f 16).sda = !s.ack ∧
    (i2cSteps s f 17).fsm = .writeack1 ∧ (i2cSteps s f 17).scl = true ∧ (i2cSteps s f 17).sda = !s.ack ∧
    (i2cSteps s f 18).fsm = .idle ∧ (i2cSteps s f 18).scl = false ∧ (i2cSteps s f 18).sda = true ∧
    (i2cSteps s f 18).data = i2cRxByte f ∧ (i2cSteps s f 18).ack = s.ack := by
  -- the data register after step 16, bit by bit and as a number
  obtain ⟨h1, h2, h3, h4, _, _⟩ := i2c_read_odd s f hf hb 7 (Nat.le_refl 7)
  have hd : (i2cSteps s f 16).data = setBit0 (i2cRdData s.data f 7) (f 15).sdaI := by
    rw [i2cSteps_succ s f 15, (i2c_read1_step _ _ h1).2.1, h3]
  have hbits : ∀ j, j < 8 → (i2cSteps s f 16).data.testBit (7 - j) = (f (2 * j + 1)).sdaI := fun j hj => by
    rw [hd]; exact i2cRdData_testBit s.data f 7 (Nat.le_refl 7) j (Nat.le_of_lt_succ hj)
  have hlt : (i2cSteps s f 16).data < 256 := by
    rw [hd]; exact setBit0_lt _ _ (shl1Keep0_lt _ : i2cRdData s.data f (6 + 1) < 256)
  have hbyte : (i2cSteps s f 16).data = i2cRxByte f := by
    have ht := i2c_byte_bits _ hlt
    rwa [hbits 0 (by decide), hbits 1 (by decide), hbits 2 (by decide), hbits 3 (by decide), hbits 4 (by decide),
      hbits 5 (by decide), hbits 6 (by decide), hbits 7 (by decide)] at ht
  refine ⟨fun j hj => ?_, hbyte, hbyte ▸ hlt, ?_⟩
  · obtain ⟨g1, g2, _, _, g5, g6⟩ := i2c_read_odd s f hf hb j (Nat.le_of_lt_succ hj)
    obtain ⟨e1, e2, _, e4⟩ := i2c_read1_step _ (f (2 * j + 1)) g1
    rw [i2cSteps_succ s f (2 * j + 1)]
    exact ⟨g5, g6, e1, fun h7 => (e4 (g2 ▸ Nat.sub_ne_zero_of_lt h7)).trans g6,
      by rw [e2]; exact setBit0_testBit_zero _ _, hbits j hj⟩
  · rw [← hbyte, i2cSteps_succ s f 17, i2cSteps_succ s f 16, i2cSteps_succ s f 15]
    generalize i2cSteps s f (2 * 7 + 1) = t at h1 h2 h4
    simp only [i2cFsmStep, h1, h2, h4, beq_self_eq_true, if_true, and_self]

/-- Non-vacuity: reading 0xA5 (old register contents 0xFF, `ack = 1`): the byte, the ACK level on SDA at step 16,
    and SCL over the 18 steps. -/
example :
    let f : Nat → I2cIn := fun k => ⟨false, false, false, false, Nat.testBit 0xA5 (7 - k / 2), 0, false, 0, false⟩
    let s : I2cSt := ⟨.read0, false, true, 0xFF, true, 7, 0⟩
    i2cRxByte f = 0xA5 ∧ (i2cSteps s f 18).data = 0xA5 ∧ (i2cSteps s f 18).fsm = .idle ∧
    (i2cSteps s f 15).sda = true ∧ (i2cSteps s f 16).sda = false ∧ (i2cSteps s f 17).fsm ≠ .idle ∧
    (List.range 19).map (fun k => (i2cSteps s f k).scl) =
      [false, true, false, true, false, true, false, true, false, true, false, true, false, true, false, true, false,
       true, false] := by decide +kernel

/-- Counting enabled FSM steps from IDLE (step 1 is the acceptance of the strobe):
    * START (start strobe, SCL released; other strobes irrelevant): START0, then SDA falls with SCL high — 2 steps;
    * repeated START (start strobe, SCL low): RESTART0 releases SDA, RESTART1 releases SCL, START0 pulls SDA low —
      4 steps, SCL is low whenever SDA rises;
    * STOP (only the stop strobe, SCL low): STOP0 pulls SDA low, STOP1 releases SCL, STOP2 releases SDA — 4 steps;
    * a lone stop strobe with SCL released is ignored ("stop is only valid after an ACK"): the FSM step changes
      nothing, and in the full cycle only the divider counter ticks once (`run` enables the clock generator).
    Data and ack registers are never touched. -/
theorem i2c_start_stop_sequences (cw : Nat) (s : I2cSt) (f : Nat → I2cIn) (hf : s.fsm = .idle) :
    ((f 0).start = true → s.scl = true →
      (i2cSteps s f 1).fsm = .start0 ∧ (i2cSteps s f 1).scl = true ∧ (i2cSteps s f 1).sda = s.sda ∧
      (i2cSteps s f 2).fsm = .idle ∧ (i2cSteps s f 2).scl = true ∧ (i2cSteps s f 2).sda = false ∧
      (i2cSteps s f 2).data = s.data ∧ (i2cSteps s f 2).ack = s.ack) ∧
    ((f 0).start = true → s.scl = false →
      (i2cSteps s f 1).fsm = .restart0 ∧ (i2cSteps s f 1).scl = false ∧ (i2cSteps s f 1).sda = s.sda ∧
      (i2cSteps s f 2).fsm = .restart1 ∧ (i2cSteps s f 2).scl = false ∧ (i2cSteps s f 2).sda = true ∧
      (i2cSteps s f 3).fsm = .start0 ∧ (i2cSteps s f 3).scl = true ∧ (i2cSteps s f 3).sda = true ∧
      (i2cSteps s f 4).fsm = .idle ∧ (i2cSteps s f 4).scl = true ∧ (i2cSteps s f 4).sda = false ∧
      (i2cSteps s f 4).data = s.data ∧ (i2cSteps s f 4).ack = s.ack) ∧
    ((f 0).stop = true → (f 0).start = false → (f 0).write = false → (f 0).read = false → s.scl = false →
      (i2cSteps s f 1).fsm = .stop0 ∧ (i2cSteps s f 1).scl = false ∧ (i2cSteps s f 1).sda = s.sda ∧
      (i2cSteps s f 2).fsm = .stop1 ∧ (i2cSteps s f 2).scl = false ∧ (i2cSteps s f 2).sda = false ∧
      (i2cSteps s f 3).fsm = .stop2 ∧ (i2cSteps s f 3).scl = true ∧ (i2cSteps s f 3).sda = false ∧
      (i2cSteps s f 4).fsm = .idle ∧ (i2cSteps s f 4).scl = true ∧ (i2cSteps s f 4).sda = true ∧
      (i2cSteps s f 4).data = s.data ∧ (i2cSteps s f 4).ack = s.ack) ∧
    ((f 0).stop = true → (f 0).start = false → (f 0).write = false → (f 0).read = false → s.scl = true →
      i2cFsmStep s (f 0) = s ∧
      i2cNext cw s (f 0) = (i2cPoked s (f 0)).setCnt (if s.cnt = 0 then (f 0).load else s.cnt - 1)) :=
  ⟨fun h1 h2 => by simp only [i2cSteps, i2cFsmStep, hf, h1, h2, Bool.and_self, if_true, and_self],
   fun h1 h2 => by
    simp only [i2cSteps, i2cFsmStep, hf, h1, h2, Bool.and_false, Bool.false_eq_true, if_false, if_true, and_self],
   fun h1 h2 h3 h4 h5 => by
    simp only [i2cSteps, i2cFsmStep, hf, h1, h2, h3, h4, h5, Bool.not_false, Bool.and_self, Bool.false_eq_true,
      if_false, if_true, and_self],
   fun h1 h2 h3 h4 h5 => ⟨i2c_stop_ignored s (f 0) hf h5 h2 h3 h4,
     i2c_next_stop_ignored cw s (f 0) hf h5 (by simp [I2cIn.run, h1]) h2 h3 h4⟩⟩

/-- Non-vacuity: the (SCL, SDA) pairs of START, repeated START and STOP, and an ignored stop strobe. -/
example :
    let no : I2cIn := ⟨false, false, false, false, true, 2, false, 0, false⟩
    let st : Nat → I2cIn := fun k => if k = 0 then { no with start := true } else no
    let sp : Nat → I2cIn := fun k => if k = 0 then { no with stop := true } else no
    let hi : I2cSt := ⟨.idle, true, true, 0x5A, false, 0, 2⟩
    let lo : I2cSt := ⟨.idle, false, false, 0x5A, false, 0, 2⟩
    (List.range 3).map (fun k => ((i2cSteps hi st k).scl, (i2cSteps hi st k).sda)) =
      [(true, true), (true, true), (true, false)] ∧
    (List.range 5).map (fun k => ((i2cSteps lo st k).scl, (i2cSteps lo st k).sda)) =
      [(false, false), (false, false), (false, true), (true, true), (true, false)] ∧
    (List.range 5).map (fun k => ((i2cSteps lo sp k).scl, (i2cSteps lo sp k).sda)) =
      [(false, false), (false, false), (false, false), (true, false), (true, true)] ∧
    i2cNext 2 hi (sp 0) = { hi with cnt := 1 } := by decide +kernel

/-- Timing of the FSM steps for every clock divider.  From any busy state `s` (`fsm ≠ IDLE`)
    with divider counter `c = s.cnt`, with a constant `load = l`, no bus write to the transfer register, and
    arbitrary command strobes and `sda_i`: let `R = i2cRank s` be the number of FSM steps back to IDLE and
    `g j = f (c + j·(l+1))`.  Then
    * for `t ≤ c` cycles nothing but the counter has moved (`cnt = c − t`);
    * FSM step `k < R` happens exactly in cycle `c + k·(l+1)` with the inputs of that cycle: after `c + k·(l+1) + 1`
      cycles the registers (fsm, SCL, SDA, data, ack, bits) are those after `k + 1` FSM steps (`i2cSteps`, see
      `i2c_write_sequence` / `i2c_read_sequence` / `i2c_start_stop_sequences`) and `cnt = l`; during the following
      `d ≤ l` cycles, as long as that was not the last step, only the counter moves (`cnt = l − d`).
    So every SCL/SDA edge of a command sits at cycle `c + k·(l+1)` for its step number `k`, consecutive steps are
    exactly `l + 1` cycles apart, and strobes arriving while busy change nothing. -/
theorem i2c_step_timing (cw l : Nat) (f : Nat → I2cIn) (hl : ∀ t, (f t).load = l) (hp : ∀ t, (f t).poke = false)
    (s : I2cSt) (hb : s.bits < 16) (hn : s.fsm ≠ .idle) :
    let g := i2cTickIn f s.cnt l
    (∀ j, g j = f (s.cnt + j * (l + 1))) ∧
    (∀ t, t ≤ s.cnt → runFn (i2cMachine cw) s f t = s.setCnt (s.cnt - t)) ∧
    (∀ k d, k < i2cRank s → d ≤ l → (k + 1 < i2cRank s ∨ d = 0) →
      runFn (i2cMachine cw) s f (s.cnt + k * (l + 1) + 1 + d) = (i2cSteps s g (k + 1)).setCnt (l - d)) ∧
    (∀ k, k < i2cRank s → (i2cSteps s g k).fsm ≠ .idle) ∧ (i2cSteps s g (i2cRank s)).fsm = .idle := by
  intro g
  have hbusy := i2c_steps_busy s g hb
  refine ⟨fun _ => rfl, i2c_run_wait cw f hp s hn, ?_, hbusy, i2c_steps_idle s g hb⟩
  intro k d hk hd hor
  rcases hor with h | rfl
  · exact i2c_run_between cw l f hl hp s k (fun j hj => hbusy j (Nat.lt_of_le_of_lt hj h)) d hd
  · exact i2c_run_steps cw l f hl hp s k (fun j hj => hbusy j (Nat.lt_of_le_of_lt hj hk))

/-- Non-vacuity: write of 0x80 accepted with `load = 3`, `cnt = 2` after acceptance: SCL falls in cycle 2 (first
    WRITE0 step, visible after 3 cycles), rises in cycle 6, falls in cycle 10, … — one step every 4 cycles. -/
example :
    let no : I2cIn := ⟨true, true, true, true, true, 3, false, 0, false⟩   -- strobe noise while busy
    let s : I2cSt := ⟨.write0, true, false, 0x80, false, 8, 2⟩
    (List.range 16).map (fun t => ((runFn (i2cMachine 2) s (fun _ => no) t).scl,
                                   (runFn (i2cMachine 2) s (fun _ => no) t).sda)) =
      [(true, false), (true, false), (true, false), (false, true), (false, true), (false, true), (false, true),
       (true, true), (true, true), (true, true), (true, true), (false, false), (false, false), (false, false),
       (false, false), (true, false)] := by decide +kernel

/-- Exact duration of every command, for every divider.  A command strobe arrives in
    IDLE in cycle 0; `load = l` is constant; everything else is arbitrary in every cycle: further strobes, `sda_i`,
    and bus writes to the data/ack register (they change the bits, never the timing).  In the acceptance cycle
    exactly one FSM step happens (even if `cnt = 0` in that cycle) and the counter becomes `c' = (cnt = 0 ? l :
    cnt − 1)` (in IDLE without a strobe it is frozen).  With `R` remaining FSM steps the machine is outside IDLE
    after `t` cycles for every `1 ≤ t ≤ B` and in IDLE, with `cnt = l`, after `B + 1` cycles, where
    `B = c' + 1 + (R − 1)·(l + 1)`:
      START (SCL high) `R = 1`, `B = c' + 1`;  repeated START (SCL low) `R = 3`, `B = c' + 1 + 2(l+1)`;
      write `R = 19`, `B = c' + 1 + 18(l+1)`;  read `R = 18`, `B = c' + 1 + 17(l+1)`;
      STOP (SCL low) `R = 3`, `B = c' + 1 + 2(l+1)`;  a lone stop with SCL high is ignored (still IDLE after the
      acceptance cycle, only the counter has ticked). -/
theorem i2c_command_exact_cycles (cw l : Nat) (f : Nat → I2cIn) (hl : ∀ t, (f t).load = l)
    (s0 : I2cSt) (hf : s0.fsm = .idle) (hb : s0.bits < 16) (hr : (f 0).run = true) :
    let c' := if s0.cnt = 0 then l else s0.cnt - 1
    let Busy : Nat → Prop := fun B =>
      (∀ t, 1 ≤ t → t ≤ B → (runFn (i2cMachine cw) s0 f t).fsm ≠ .idle) ∧
      (runFn (i2cMachine cw) s0 f (B + 1)).fsm = .idle ∧ (runFn (i2cMachine cw) s0 f (B + 1)).cnt = l
    runFn (i2cMachine cw) s0 f 1 = (i2cFsmStep (i2cPoked s0 (f 0)) (f 0)).setCnt c' ∧
    ((f 0).start = true → s0.scl = true → Busy (c' + 1)) ∧
    ((f 0).start = true → s0.scl = false → Busy (c' + 1 + 2 * (l + 1))) ∧
    ((f 0).start = false → (f 0).write = true → Busy (c' + 1 + 18 * (l + 1))) ∧
    ((f 0).start = false → (f 0).write = false → (f 0).read = true → Busy (c' + 1 + 17 * (l + 1))) ∧
    ((f 0).start = false → (f 0).write = false → (f 0).read = false → s0.scl = false →
      Busy (c' + 1 + 2 * (l + 1))) ∧
    ((f 0).start = false → (f 0).write = false → (f 0).read = false → s0.scl = true →
      runFn (i2cMachine cw) s0 f 1 = (i2cPoked s0 (f 0)).setCnt c') := by
  intro c' Busy
  have hacc : i2cNext cw s0 (f 0) = (i2cFsmStep (i2cPoked s0 (f 0)) (f 0)).setCnt c' := by
    rw [i2c_next_accept cw s0 (f 0) hf hr, hl 0]
  -- the number of FSM steps is read off the accepting step (a bus write changes neither `fsm` nor SCL)
  have hpf : (i2cPoked s0 (f 0)).fsm = .idle := by rw [i2cPoked_fsm, hf]
  obtain ⟨_, _, _, r19, r18, r13, r3'⟩ := i2c_command_ticks (i2cPoked s0 (f 0)) (f 0) (by rw [i2cPoked_bits]; exact hb)
  rw [i2cPoked_scl] at r13 r3'
  have hB := fun R (hR : i2cRank (i2cFsmStep (i2cPoked s0 (f 0)) (f 0)) = R + 1) =>
    i2c_accept_busy_any cw l f hl s0 hf hb hr R (by rw [hacc]; exact hR) _ rfl
  refine ⟨hacc, ?_, ?_, ?_, ?_, ?_, ?_⟩
  · intro a b; have := hB 0 (by rw [r13 hpf a, b]; rfl); rwa [Nat.zero_mul, Nat.add_zero] at this
  · intro a b; exact hB 2 (by rw [r13 hpf a, b]; rfl)
  · intro a b; exact hB 18 (r19 hpf a b)
  · intro a b c; exact hB 17 (r18 hpf a b c)
  · intro a b c d
    exact hB 2 (r3' hpf a b c (by simpa only [I2cIn.run, a, b, c, Bool.false_or, Bool.or_false] using hr) d)
  · intro a b c d
    show i2cNext cw s0 (f 0) = _
    rw [i2c_next_stop_ignored cw s0 (f 0) hf d hr a b c, hl 0]

/-- Non-vacuity: reading 0xA5 with `load = 2`, counter at 2 in IDLE (as left by a previous command): `c' = 1`,
    busy for exactly `1 + 1 + 17·3 = 53` cycles after the acceptance cycle, the byte is in the register when IDLE is
    reached after 54 cycles; the slave drives each bit for 6 cycles, the samples are taken in cycles 5, 11, …, 47.
    Same for a write with `load = 1`, `cnt = 0` in the acceptance cycle and bus writes to the data register in
    cycles 0 and 7: `c' = 1`, `B = 1 + 1 + 18·2 = 38`. -/
example :
    let f : Nat → I2cIn := fun t =>
      ⟨false, false, false, t == 0, Nat.testBit 0xA5 (7 - (t - 5) / 6), 2, false, 0, false⟩
    let s0 : I2cSt := ⟨.idle, false, true, 0xFF, false, 0, 2⟩
    let w : Nat → I2cIn := fun t => ⟨false, false, t == 0, false, true, 1, t == 0 || t == 7, 0xC3, false⟩
    let z0 : I2cSt := ⟨.idle, false, true, 0, false, 0, 0⟩
    (runFn (i2cMachine 2) s0 f 1).cnt = 1 ∧ i2cRank (runFn (i2cMachine 2) s0 f 1) = 18 ∧
    (runFn (i2cMachine 2) s0 f 53).fsm ≠ .idle ∧ (runFn (i2cMachine 2) s0 f 54).fsm = .idle ∧
    (runFn (i2cMachine 2) s0 f 54).data = 0xA5 ∧ (runFn (i2cMachine 2) s0 f 54).cnt = 2 ∧
    (runFn (i2cMachine 2) z0 w 1).cnt = 1 ∧ (runFn (i2cMachine 2) z0 w 1).fsm = .write0 ∧
    (runFn (i2cMachine 2) z0 w 38).fsm ≠ .idle ∧ (runFn (i2cMachine 2) z0 w 39).fsm = .idle := by decide +kernel

/-! ## I2CMaster: register interface (sequencer side) -/

/-- The register interface of `I2CMaster` (the sequencer side): a bus cycle is accepted when
    `cyc ∧ stb` and the core did not acknowledge in the previous cycle; it is acknowledged in the next cycle.  A write
    to address 1 loads the 20-bit divider; a write to address 0 sets the command strobes from `dat_w[9..12]`
    (read, write, start, stop) — they are the inputs of the bit machine in the next cycle, together with the divider —
    and since the acknowledging cycle cannot accept another access, every strobe is a one-cycle pulse.  With
    `i2c_command_exact_cycles` (the machine accepts a strobe in IDLE and is busy for exactly
    `c' + 1 + (R−1)·(load+1)` cycles) and `i2c_step_timing` this gives the exact SCL/SDA times of every command
    written by software. -/
theorem i2c_master_registers (s : I2cmSt) (i : I2cmIn) :
    let acc := i.cyc && i.stb && !s.busAck
    let wrX := acc && i.we && !i.adr0
    let s' := i2cmNext s i
    s'.busAck = acc ∧
    s'.rd = (wrX && i.datW.testBit 9) ∧ s'.wr = (wrX && i.datW.testBit 10) ∧
    s'.st = (wrX && i.datW.testBit 11) ∧ s'.sp = (wrX && i.datW.testBit 12) ∧
    s'.load = (if acc && i.we && i.adr0 then i.datW % 2 ^ 20 else s.load) ∧
    (∀ j, (s'.machIn j).start = s'.st ∧ (s'.machIn j).stop = s'.sp ∧ (s'.machIn j).write = s'.wr ∧
          (s'.machIn j).read = s'.rd ∧ (s'.machIn j).load = s'.load ∧ (s'.machIn j).poke = false) ∧
    (s'.busAck = true → ∀ j, (i2cmNext s' j).rd = false ∧ (i2cmNext s' j).wr = false ∧ (i2cmNext s' j).st = false ∧
          (i2cmNext s' j).sp = false ∧ (i2cmNext s' j).busAck = false) := by
  intro acc wrX s'
  refine ⟨rfl, rfl, rfl, rfl, rfl, rfl, fun j => ⟨rfl, rfl, rfl, rfl, rfl, rfl⟩, fun h j => ?_⟩
  -- the acknowledging cycle accepts nothing
  simp only [i2cmNext, h, Bool.not_true, Bool.and_false, Bool.false_and, and_self]

/-- Non-vacuity: software writes START (bit 11) while the core idles: one strobe cycle, then none. -/
example :
    let w : I2cmIn := ⟨true, true, true, false, 2048, true, true⟩
    let s1 := i2cmNext i2cMaster.init w
    let s2 := i2cmNext s1 w
    (s1.st, s1.busAck, s2.st, s2.busAck) = (true, true, false, false) := by decide

/-! ## SPI master: lengths outside `1 … data_width` (outside the property's quantifier) -/

/-- Why the length range is a hypothesis: with `length = 0`, or a length above the
    range of the bit counter (`2^bits_for(data_width−1)`), the comparison `count == length − 1` never holds and the
    master never leaves RUN — whatever the divider and the other inputs do, `done` never returns. -/
theorem spi_master_bad_length_stuck (c : SpiCfg) (L : Nat) (hL : L = 0 ∨ c.cmod < L) (f : Nat → SpiIn)
    (hf : ∀ t, (f t).length = L) (s : SpiSt) (hs : s.fsm = .run) (hc : s.count < c.cmod) (n : Nat) :
    (runFn (spiMaster c) s f n).fsm = .run ∧ (runFn (spiMaster c) s f n).count < c.cmod ∧
    ((spiMaster c).out (runFn (spiMaster c) s f n) (f n)).done = false := by
  -- RUN with the bit counter in range is an invariant: `count + 1 = length` never holds
  have h := runFn_inv_all (spiMaster c) f (Inv := fun _ s' => s'.fsm = .run ∧ s'.count < c.cmod) ⟨hs, hc⟩
    (fun t s' ⟨h1, h2⟩ => by
      have hne : (s'.count + 1 == (f t).length) = false := by
        rw [hf t]
        rcases hL with h | h
        · subst h; simp
        · have : s'.count + 1 ≠ L := by omega
          simp [this]
      refine ⟨by show (spiNext c _ _).fsm = _; rw [spiNext_fsm, h1, hne, Bool.and_false]; rfl, ?_⟩
      show (spiNext c _ _).count < _
      rw [spiNext_count, h1]
      show (if _ then _ else _) < _
      split
      · exact Nat.mod_lt _ (Nat.two_pow_pos _)
      · exact h2) n
  exact ⟨h.1, h.2, (spiOut_of_fsm c _ h.1).1⟩
/-- The hypothesis is reachable: a transfer started with `length = 0` is in RUN (bit counter 0) after the START wait. -/
example :
    let x : SpiIn := ⟨false, 0, 0b1001, true, false, false, 3, true⟩
    let s := (spiMaster ⟨4, false⟩).runFrom (spiMaster ⟨4, false⟩).init ({ x with start := true } :: List.replicate 3 x)
    s.fsm = .run ∧ s.count = 0 := by decide

/-! ## I2CMaster: the pads follow the bit machine -/

/-- One cycle of the pad stage, for every state and bus activity.  The SCL pad is the
    machine's `scl_o` wired-AND with the rest of the bus.  If nobody stretches the clock in this cycle
    (`ext_scl = 1`), the registered copy `scl_i_n` is the machine's `scl_o` of this cycle, so in the next cycle the SDA
    driver shows `¬sda_o` unless `scl_o` has just changed, in which case it keeps its value for that one cycle:
    the pad waveform is the machine's waveform (`i2c_step_timing`, `i2c_write_sequence`, `i2c_read_sequence`,
    `i2c_start_stop_sequences`) with every SDA change that coincides with an SCL edge postponed by one cycle. -/
theorem i2c_pad_follows_machine (s : I2cmSt) (i : I2cmIn) :
    let s' := i2cmNext s i
    s.padScl i = (s.m.scl && i.extScl) ∧ s.padSda i = (!s.sdaOe && i.extSda) ∧
    s'.sdaOeN = s.sdaOe ∧
    (i.extScl = true →
      s'.sclIn = s.m.scl ∧ s'.sdaOe = (if s.m.scl == s'.m.scl then !s'.m.sda else s.sdaOe)) := by
  intro s'
  have hscl : s.padScl i = (s.m.scl && i.extScl) := by
    rw [I2cmSt.padScl, I2cmSt.sclOe]; cases s.m.scl <;> rfl
  refine ⟨hscl, ?_, rfl, fun he => ?_⟩
  · rw [I2cmSt.padSda]; cases s.sdaOe <;> rfl
  · have h1 : s'.sclIn = s.m.scl := by
      show s.padScl i = _
      rw [hscl, he, Bool.and_true]
    refine ⟨h1, ?_⟩
    show (if s'.sclIn == s'.m.scl then !s'.m.sda else s'.sdaOeN) = _
    rw [h1]
    rfl

/-- Non-vacuity: START at divider 1 — the machine lowers SDA (START0) and the driver follows in the same edge because
    SCL did not move. -/
example :
    let idl : I2cmIn := ⟨false, false, false, false, 0, true, true⟩
    let st := fun k => i2cMaster.runFrom { i2cMaster.init with load := 1 }
      ((⟨true, true, true, false, 2048, true, true⟩ :: List.replicate 6 idl).take k)
    (List.range 6).map (fun k => ((st k).m.scl, (st k).m.sda, (st k).sdaOe)) =
    [(true, true, false), (true, true, false), (true, true, false), (true, true, false), (true, false, true),
     (true, false, true)] := by decide

/-! ## SPI master wired to SPI slave (pad to pad, one clock) -/

/-- `spiLink c dw`: the slave's `clk / cs_n / mosi` inputs are the master's pad registers of the
    same cycle, the master's `pads.miso` is the slave's MISO pad of the same cycle (`link_wiring`).  Master in IDLE
    with `cs_n` high and `start = 1` in cycle 0 (divider `2 ≤ div < 2^16` at any phase `cnt`, length
    `1 ≤ L ≤ data_width`, `cs = 1`, automatic CS mode, no loopback), slave in IDLE with its chip-select synchroniser
    empty (`xfer = s0 = s1 = 0`; its clock/MOSI synchronisers, `length` and `rx` arbitrary).  With
    `T = 1 + (div − (cnt+1) mod div)` the master's first RUN cycle and `E = T + L·div + div/2` its `done` cycle:
    up to cycle `E + 3` the slave raises `start` exactly in cycle `T + 2` and `irq` exactly in cycle `E + 3` (one
    frame), and in that `irq` cycle `length = L` and the low `L` bits of the received word are the `L` bits the
    master sent, MSB first — for EVERY divider `≥ 2` (clock and MOSI pass through equal synchronisers; chip select
    is asserted `div/2 ≥ 1` cycles before the first rising edge, which is exactly enough for the slave's FSM). -/
theorem spi_link_mosi (c : SpiCfg) (dw div L : Nat) (hdiv : 2 ≤ div) (hd16 : div < 65536) (hL : 1 ≤ L)
    (hLw : L ≤ c.dw) (x : Nat → LinkIn) (hx : ∀ t, SpiHold div L (x t).m) (st : LinkSt) (hs : IdleOk div st.m)
    (hcs0 : st.m.csN = true) (hst : (x 0).m.start = true)
    (hsx : st.s.xfer = false) (hs0 : st.s.s0 = false) (hs1 : st.s.s1 = false) :
    let T := 1 + (div - (st.m.cnt + 1) % div)
    let E := T + (L * div + div / 2)
    let o := fun t => ((spiLink c dw).out (runFn (spiLink c dw) st x t) (x t)).2
    (∀ t, t ≤ E + 3 → (o t).start = decide (t = T + 2) ∧ (o t).irq = decide (t = E + 3)) ∧
    (o (E + 3)).length = L % 256 ∧
    (∀ k, k < L → k < dw → (o (E + 3)).rx.testBit k = (x 0).m.mosi.testBit (spiSel0 c L - (L - 1 - k))) := by
  intro T E o
  obtain ⟨hT, hw, _⟩ := link_master c dw div L hdiv hd16 hL hLw x hx st hs hst
  -- the slave's outputs along the link are those of its own run on the pad history `linkH`
  have ho : ∀ t, o t = (spiSlave dw).out (runFn (spiSlave dw) st.s (linkH c dw st x) t) (linkH c dw st x t) :=
    fun t => congrArg (fun s => (spiSlave dw).out s (linkH c dw st x t)) (link_proj c dw st x t).2
  have hfr := (slv_frame_inv dw div (div / 2) L T _ (linkH c dw st x) st.s (half_pos hdiv) (half_lt hdiv) hT hw).2
    (div / 2) (Nat.le_refl _)
  refine ⟨fun t ht => ?_, ?_, fun k hk hkd => ?_⟩
  · rw [ho]
    exact slv_one_frame dw div (div / 2) L T _ (linkH c dw st x) st.s (Nat.lt_trans Nat.zero_lt_one hT) hw hcs0 hsx hs0
      hs1 t ht
  · rw [ho]; exact hfr.len.trans (by rw [List.length_map, List.length_range, Nat.zero_add])
  · rw [ho]
    show (runFn (spiSlave dw) st.s (linkH c dw st x) (E + 3)).rx.testBit k = _
    rw [hfr.rx]
    exact shiftIn_range_testBit dw _ L k _ hk hkd

/-- The slave state `spi_link_mosi` starts from is reached three cycles after the master's `cs_n` pad went high. -/
theorem spi_link_slave_idle (c : SpiCfg) (dw : Nat) (st : LinkSt) (x : Nat → LinkIn) (t : Nat)
    (h0 : (runFn (spiLink c dw) st x t).m.csN = true) (h1 : (runFn (spiLink c dw) st x (t + 1)).m.csN = true)
    (h2 : (runFn (spiLink c dw) st x (t + 2)).m.csN = true) :
    (runFn (spiLink c dw) st x (t + 3)).s.xfer = false ∧ (runFn (spiLink c dw) st x (t + 3)).s.s1 = false ∧
    (runFn (spiLink c dw) st x (t + 3)).s.s0 = false := by
  -- `xfer`, `s1`, `s0` in cycle `t + 3` are `¬cs_n` of the pad cycles `t`, `t + 1`, `t + 2`
  rw [(link_proj c dw st x (t + 3)).2]
  exact ⟨congrArg (!·) h0, congrArg (!·) h1, congrArg (!·) h2⟩

/-- Non-vacuity: dw 4, L = 3, raw mode, word 0b1011 (top bits 101), slave `rx` 0xF and `length` 77 before, dividers 2, 3, 4
    and two divider phases: the slave's (irq, length, rx) in cycle E + 3. -/
example : ((List.range 3).map fun d =>
    let div := d + 2
    let x : Nat → LinkIn := fun t => ⟨⟨t == 0, 3, 0b1011, true, false, false, div, false⟩, 0b0110⟩
    let st : LinkSt := ⟨⟨d, false, .idle, 0, true, 0, 0, false, 0, 0⟩,
                        ⟨true, true, false, false, true, true, false, false, 77, 3, 0xF⟩⟩
    let E := 1 + (div - (d + 1) % div) + (3 * div + div / 2)
    let o := ((spiLink ⟨4, false⟩ 4).out (runFn (spiLink ⟨4, false⟩ 4) st x (E + 3)) (x (E + 3))).2
    (o.irq, o.length, o.rx)) = [(true, 3, 0b1101), (true, 3, 0b1101), (true, 3, 0b1101)] := by decide +kernel

/-- The other direction needs a slow enough clock: the slave moves MISO three cycles
    after the master's falling edge (two synchroniser registers and the edge detector), the master samples
    `div/2 − 1` cycles after it.  For every divider `8 ≤ div < 2^16` (and `L ≤` the slave's width) the word the
    master has latched when `done` returns (cycle `E`) is, bit for bit, the top `L` bits of the word the slave read
    from its `tx` input in its `start` cycle `T + 2`.  (`_partial`: dividers 2 … 7 fail, see the witness below.) -/
theorem spi_link_miso_partial (c : SpiCfg) (dw div L : Nat) (hdiv : 8 ≤ div) (hd16 : div < 65536) (hL : 1 ≤ L)
    (hLw : L ≤ c.dw) (hLd : L ≤ dw) (x : Nat → LinkIn) (hx : ∀ t, SpiHold div L (x t).m) (st : LinkSt)
    (hs : IdleOk div st.m) (hcs0 : st.m.csN = true) (hst : (x 0).m.start = true) :
    let T := 1 + (div - (st.m.cnt + 1) % div)
    let E := T + (L * div + div / 2)
    ∀ k, k < L →
      ((spiLink c dw).out (runFn (spiLink c dw) st x E) (x E)).1.miso.testBit k = (x (T + 2)).tx.testBit (dw - L + k) := by
  intro T E k hk
  have hdiv2 : 2 ≤ div := Nat.le_trans (by decide) hdiv
  have hi : L - 1 - k < L := Nat.lt_of_le_of_lt (Nat.sub_le _ k) (Nat.sub_lt hL Nat.one_pos)
  obtain ⟨hT, hw, hmiso⟩ := link_master c dw div L hdiv2 hd16 hL hLw x hx st hs hst
  -- the sample of pulse `L - 1 - k` is taken at position `div/2 - 1 = n + 3` of its period
  obtain ⟨n, hn⟩ : ∃ n, div / 2 = n + 4 :=
    Nat.exists_eq_add_of_le' ((Nat.le_div_iff_mul_le Nat.zero_lt_two).2 (show 4 * 2 ≤ div from hdiv))
  have htx := ((slv_frame_inv dw div (div / 2) L T _ (linkH c dw st x) st.s (half_pos hdiv2) (half_lt hdiv2) hT
    hw).1 (L - 1 - k) hi n (Nat.lt_of_le_of_lt (Nat.le_add_right n 4) (hn ▸ half_lt hdiv2))).tx
  refine (hmiso k hk).trans ?_
  rw [(link_proj c dw st x _).2, hn]
  refine (slv_miso_bit dw _ (L - 1 - k) _ (Nat.lt_of_lt_of_le hi hLd) htx).trans ?_
  show (x (T + 2)).tx.testBit _ = _
  rw [msb_index hk hLd]

/-- dw 4, L = 3, slave word 0b1100 (top bits 110): divider 8 delivers 0b110.  Negative witness: divider 7 (same start
    state) delivers 0b011 — the first sample still sees the slave's old transmit register, the others are one bit late. -/
example : ((List.range 2).map fun d =>
    let div := 8 - d
    let x : Nat → LinkIn := fun t => ⟨⟨t == 0, 3, 0b1011, true, false, false, div, false⟩, 0b1100⟩
    let st : LinkSt := ⟨⟨0, false, .idle, 0, true, 0, 0, false, 0, 0⟩,
                        ⟨true, true, false, false, true, true, false, false, 77, 3, 0xF⟩⟩
    let E := 1 + (div - 1 % div) + (3 * div + div / 2)
    ((spiLink ⟨4, false⟩ 4).out (runFn (spiLink ⟨4, false⟩ 4) st x E) (x E)).1.miso) = [0b110, 0b011] := by decide +kernel

/-- Why `spi_link_mosi` asks for `cs_n = 1` in the start state: the `pads.cs_n` register of `SPIMaster` resets to 0, so
    right after reset chip select is asserted for one cycle although the master is idle (`done = 1`, no clock pulse);
    a LiteX `SPISlave` on the other side answers with `start` in cycle 2 and `irq` in cycle 3 for a frame of length 0. -/
example :
    let x : LinkIn := ⟨⟨false, 8, 0, true, false, false, 4, false⟩, 0⟩
    let tr := (spiLink ⟨8, false⟩ 8).trace (List.replicate 5 x)
    tr.map (fun o => (o.1.csN, o.1.done, o.2.start, o.2.irq, o.2.length)) =
      [(false, true, false, false, 0), (true, true, false, false, 0), (true, true, true, false, 0),
       (true, true, false, true, 0), (true, true, false, false, 0)] := by decide

/-- The composition the link theorems speak about (`spiLink`) is, step for step and output for
    output, the function the driver serves as `spilink` (`linkStep`), which the harness compares with the two real cores
    wired pad to pad. -/
theorem spi_link_served (c : SpiCfg) (dw : Nat) (st : LinkSt) (x : LinkIn) :
    (spiLink c dw).next st x = ⟨(linkStep c dw st.m st.s x.m x.tx).1.1, (linkStep c dw st.m st.s x.m x.tx).1.2⟩ ∧
    (spiLink c dw).out st x = (linkStep c dw st.m st.s x.m x.tx).2 := ⟨rfl, rfl⟩

/-! ## SPI slave: the received word is untouched while the slave is deselected -/

/-- Shared bus: once chip select has been seen released through the
    synchroniser (`s0 = s1 = 0`, i.e. `cs_n` high on the pads for the last two cycles — `spi_slave_pads`), **any** activity
    on `pads.clk` / `pads.mosi` (traffic to another slave), any `loopback` and any word-to-send, for as long as `cs_n` stays
    high: the received word `self.mosi` keeps its value, the slave stays deselected, and once the FSM is back in IDLE
    (`xfer = 0`, from the second cycle on in any case) `length` keeps its value too: what software reads after `irq` is
    the word of *that* transfer until the next one starts.  (`spi_slave_xfer` / `spi_slave_capture` quantify over the
    cycles in which chip select is asserted; this theorem covers all the others.) -/
theorem spi_slave_word_stable_while_deselected (dw : Nat) (s : SlvSt) (hs0 : s.s0 = false) (hs1 : s.s1 = false)
    (ins : List SlvIn) (h : ∀ i ∈ ins, i.csN = true) :
    let e := (spiSlave dw).runFrom s ins
    e.rx = s.rx ∧ e.s0 = false ∧ e.s1 = false ∧ (s.xfer = false → e.length = s.length ∧ e.xfer = false) ∧
    (ins ≠ [] → e.xfer = false) ∧
    (∀ j, ((spiSlave dw).out e j).rx = s.rx ∧ ((spiSlave dw).out e j).start = false) := by
  induction ins generalizing s with
  | nil =>
    refine ⟨rfl, hs0, hs1, fun hx => ⟨rfl, hx⟩, fun hne => absurd rfl hne, fun j => ⟨rfl, ?_⟩⟩
    show (!s.xfer && s.s1) = false
    rw [hs1]; exact Bool.and_false _
  | cons i is ih =>
    obtain ⟨nrx, nx, nl⟩ := slv_next_idle dw s i hs1
    have n0 : (slvNext dw s i).s0 = false := by
      show (!i.csN) = false
      rw [h i (List.mem_cons_self ..)]; rfl
    -- `(slvNext dw s i).s1` is `s.s0`
    obtain ⟨a, b, c, d, _, f⟩ := ih (slvNext dw s i) n0 hs0 (fun j hj => h j (List.mem_cons_of_mem _ hj))
    exact ⟨a.trans nrx, b, c, fun hx => ⟨(d nx).1.trans (nl hx), (d nx).2⟩, fun _ => (d nx).2,
      fun j => ⟨(f j).1.trans nrx, (f j).2⟩⟩

/-- Non-vacuity: a received word 0b101 survives eight cycles of foreign clock/MOSI activity with `cs_n` high. -/
example :
    let s : SlvSt := ⟨false, false, false, false, false, false, false, false, 3, 0, 0b101⟩
    let foreign : List SlvIn := (List.range 8).map fun k => ⟨k % 2 == 1, true, k % 3 == 0, 7, false⟩
    ((spiSlave 3).runFrom s foreign).rx = 0b101 ∧ ((spiSlave 3).runFrom s foreign).length = 3 := by decide +kernel

end Litex.C19
