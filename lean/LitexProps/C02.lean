import LitexProofs.Namer.GetName
import LitexProofs.Namer.KeywordFacts
import LitexProofs.Namer.Fixed
import LitexProofs.Namer.Conservative
import LitexProofs.Namer.Tree
import LitexProofs.Namer.Perm
import LitexProofs.Namer.Emit
/-
  What the theorems below stand for in /repo, and how each model function is tied to the real code
  (M = modelled, theorem here, compared with the real code on every run; V = only validated by a monitor or the
  fresh-interpreter emission corpus; - = not applicable).

  | anchor (code that exists)                                              | model (LitexModel/Namer)          | theorems here                                   | tie (driver call / monitor)          |
  |------------------------------------------------------------------------|-----------------------------------|-------------------------------------------------|--------------------------------------|
  | namer.SignalNamespace.__init__/get_name: counts, sigs, `_n`, keyword seed | Core: Ns/getName, NsF/getNameFixed | getName_*, getNameFixed_*, name_not_reserved*   | M  getnames[_fixed], namespace[_fixed] |
  | get_name: ClockSignal/ResetSignal -> domain.clk/.rst, raises            | Emit: resolve, answersCd          | answersCd_resolved, answersCd_alias_iff, resolve_clk/rst | M  nscd (dict-typed clock_domains)  |
  |   ... on the namespace `convert()` returns (`_ClockDomainList` has no .get) | -                              | -                                               | note (outside the property statement) |
  | namer._HierarchyNode/_build_hierarchy_tree/_determine_name_usage/_set_number_usage/_build_signal_name_dict_from_tree/DUID ranks | Tree: req/useName/elems/groupName | buildDict_perm/_nonempty/_legal | M  dict |
  | namer._build_signal_groups/_build_hierarchical_name (related chains)     | Tree: depthOf/groupOf/hierName    | buildDict_legal, dictList_eq_buildDict          | M  dict                              |
  | namer.build_signal_namespace                                            | Tree: namespaceAnswers[Fixed]     | namespace_*                                     | M  namespace, convert() end to end   |
  | verilog._ieee_1800_2017_verilog_reserved_keywords                       | Generated/Keywords (regen)        | keywords_wellformed, keywords_cover_1364        | M  regen, iskw, kwcount              |
  | verilog.convert: IO naming step (`sorted(ios, key=duid)`, back-trace name) | Emit: ioOverride/ioStep         | ioStep_idem/_perm/_getElem/_legal, ioOverride_spec | M  iostep (+ monitor io_override)  |
  | verilog.convert: `ios=set()` default / platform IO merge                | -                                 | -                                               | V  repeated conversion               |
  | verilog._generate_attribute (`sorted(attr, key=…)`, attr_translate)     | Emit: emitAttrs                   | emitAttrs_perm_partial/_strings (+ neg. witness) | M  emitattrs (11 real tables) + corpus |
  | verilog._generate_module: ports `sorted(ios, key=get_name)`             | Emit: declOrder                   | declOrder_perm_partial, declOrder_namespace_perm | M  declorder                        |
  | verilog._generate_signals: `sorted(sigs - ios, key=get_name)`           | Emit: declOrder                   | same                                            | M  declorder                         |
  | verilog._generate_combinatorial_logic_synth: default-assignment lines `sorted(g[0], key=get_name)` | Emit: declOrder | defaultLines_perm, declOrder_perm_partial | M  declorder (every multi-target always block of every convert() run) + DUID-offset corpus |
  | verilog._generate_combinatorial_logic_sim: dict of targets filled in set order of list_targets (DUID-hash order) | - | - | V  corpus across hash seeds; DUID-offset dependent on the unchanged tree: candidate C02-tie-order (b) |
  | verilog._generate_synchronous_logic: `sorted(f.sync.items())`           | Emit: declOrder (domain names)    | same                                            | V  emission corpus (3 clock domains) |
  | verilog._generate_specials: `sorted(specials, key=duid)`                | Emit: duidOrder                   | duidOrder_perm_partial                          | M  duidorder                         |
  | first-request order of get_name = iteration order of the Signal sets `ios` / `sigs - ios` (DUID-hash order) | explicit input `reqs` | (witness: suffixes swap) | candidate C02-tie-order (a): DUID-offset corpus, tie designs classified |
  | memory.py: helper registers `<mem>_adr<n>` / `<mem>_dat<n>` via get_name | Emit: memHelpers, Obj.adr/.dat   | class_injective/_legal/_not_reserved, adrBase_inj, datBase_inj, adrBase_ne_datBase | M  helpers, classanswers |
  | memory.py: data file `<top>_<mem>.init`                                 | -                                 | -                                               | V  monitor data_file_failures        |
  | instance.py: instance identifier                                        | Emit: Obj.inst                    | class_*                                         | M  classanswers                      |
  | instance.py: `.PORT` / `.PARAM` names (the foreign module's name space; order = Instance.items, sorted by Migen) | - | -                                   | V  emission corpus                   |
  | Migen ClockDomain: `<cd>_clk` / `<cd>_rst` name_overrides                | Emit: cdClkBase/cdRstBase, Obj.cdClk/.cdRst | class_*                              | M  cdbase, classanswers              |
  | hierarchy.py: `[CELL]` lines `sorted(specials, key=duid)` | Emit: duidOrder | duidOrder_perm_partial | M  duidorder (hierarchy_tie) + probe + corpus |
  | expression.py                                                           | no set/dict iteration; the printer is C01's model | -                               | -                                    |
-/
/-
  C02 — Verilog identifiers are unique, legal and reproducible.

  `answersFixed kw base reqs` (`answers kw base reqs`) is the list of `(signal, identifier)` pairs returned by
  `SignalNamespace.get_name` as it is in the tree (as it was before the repair of C02-suffix-collision) for the
  request sequence `reqs` (any order, any repetitions) on a namespace seeded with the keyword set `kw`, where `base s` is the signal's base name (`name_override`, else its hierarchical dictionary name;
  memories and instances take part through their `name_override`).  All theorems quantify over every base-name
  assignment and every request sequence.
-/
namespace Litex.C02
open Litex.Namer

/-- Every entry of the regenerated keyword table is a non-empty identifier without blanks, and none ends in
    `_<digits>` (so no generated suffixed name can be a keyword).  Re-checked by the kernel over the whole
    regenerated table (`decide +kernel` in LitexProofs/Namer/KeywordFacts.lean). -/
theorem keywords_wellformed : kwWellformed keywords = true := keywords_wellformed_table

/-- The regenerated table contains the whole IEEE 1364-2005 keyword list (`Namer.ieee1364_2005`, a fixed list
    written from the standard). -/
theorem keywords_cover_1364 : ∀ k ∈ ieee1364_2005, k ∈ keywords := keywords_cover_1364_table

/-- Once named, a signal keeps its identifier: request `s` after any history `pre`, serve any further
    requests `post`, request `s` again — the answer is the same. -/
theorem getName_stable (kw : List String) (base : SigId → String) (pre post : List SigId) (s : SigId) :
    (getName (runFrom base (getName (run kw base pre) (base s) s).1 post) (base s) s).2 =
      (getName (run kw base pre) (base s) s).2 :=
  Ns.policy.stable base _ post s

/-- Over a whole request sequence: all answers given for one signal are the same identifier. -/
theorem answers_functional (kw : List String) (base : SigId → String) (reqs : List SigId)
    (s : SigId) (a b : String) (ha : (s, a) ∈ answers kw base reqs) (hb : (s, b) ∈ answers kw base reqs) :
    a = b :=
  Ns.policy.functional base ha hb

/-! ## Uniqueness

  Unconditional uniqueness — one identifier in `answers kw base reqs` belongs to one signal — is FALSE for the
  method before the repair (`getName_collision`).  It holds for the repaired `get_name`, the one in the tree
  (`getNameFixed_injective` below) and, for the earlier method, under the decidable hypothesis that no requested base
  name looks like another requested base name plus a generated suffix. -/

/-- Two different signals never receive the same identifier, provided no requested base name equals another
    requested base name followed by `_k` (`1 ≤ k ≤ number of requests`). -/
theorem getName_injective_partial (kw : List String) (base : SigId → String) (reqs : List SigId)
    (hshape : noSuffixShapedBase (reqs.map base) = true)
    (s t : SigId) (a : String) (hs : (s, a) ∈ answers kw base reqs) (ht : (t, a) ∈ answers kw base reqs) :
    s = t := by
  obtain ⟨-, n, hn, rfl⟩ := Ns.policy.answers_spec base reqs _ s a hs
  obtain ⟨-, m, hm, heq⟩ := Ns.policy.answers_spec base reqs _ t _ ht
  have inv : Inv kw base reqs (run kw base reqs) := Inv.run reqs
  by_cases hne : s = t
  · exact hne
  exfalso
  have hsb : base s ∈ reqs.map base := List.mem_map_of_mem (inv.named s n hn)
  have htb : base t ∈ reqs.map base := List.mem_map_of_mem (inv.named t m hm)
  have hlen : (reqs.map base).length = reqs.length := List.length_map _
  rcases collision_shape inv hn hm hne heq with ⟨_, hpos, hb⟩ | ⟨_, hpos, hb⟩
  · exact noSuffixShapedBase_spec hshape hsb htb hpos (hlen ▸ inv.num_le hm) hb
  · exact noSuffixShapedBase_spec hshape htb hsb hpos (hlen ▸ inv.num_le hn) hb

/-- The exact shape of every collision of the method before the repair: two different signals share an identifier iff one
    of them carries number 0 and its base name is the other one's base name plus the other one's suffix. -/
theorem getName_collision_iff (kw : List String) (base : SigId → String) (reqs : List SigId)
    (s t : SigId) (n m : Nat) (hne : s ≠ t)
    (hs : (run kw base reqs).sigs s = some n) (ht : (run kw base reqs).sigs t = some m) :
    suffixed (base s) n = suffixed (base t) m ↔
      (n = 0 ∧ 0 < m ∧ base s = base t ++ "_" ++ toString m) ∨
      (m = 0 ∧ 0 < n ∧ base t = base s ++ "_" ++ toString n) := by
  constructor
  · exact collision_shape (Inv.run reqs) hs ht hne
  · rintro (⟨rfl, hm, hb⟩ | ⟨rfl, hn, hb⟩)
    · rw [suffixed_zero, suffixed_pos _ hm, hb]
    · rw [suffixed_zero, suffixed_pos _ hn, hb]

/-- Negative witness (the defect C02-suffix-collision): bases `x, x, x_1` requested in this order receive
    `x, x_1, x_1` — signals 1 and 2 share an identifier. -/
example : answers ["if", "wire"] (fun s => if s = 2 then "x_1" else "x") [0, 1, 2] =
    [(0, "x"), (1, "x_1"), (2, "x_1")] := by decide +kernel

/-- … hence the full injectivity statement is refutable for the method before the repair. -/
theorem getName_collision :
    ¬ ∀ (kw : List String) (base : SigId → String) (reqs : List SigId) (s t : SigId) (a : String),
        (s, a) ∈ answers kw base reqs → (t, a) ∈ answers kw base reqs → s = t := by
  intro h
  have := h [] (fun s => if s = 2 then "x_1" else "x") [0, 1, 2] 1 2 "x_1" (by decide) (by decide)
  exact absurd this (by decide)

/-- The same through a reserved word: `if` is renamed `if_1`, which a signal called `if_1` also keeps. -/
example : answers ["if", "wire"] (fun s => if s = 0 then "if" else "if_1") [0, 1] =
    [(0, "if_1"), (1, "if_1")] := by decide +kernel

/-- Non-vacuity of `getName_injective_partial`: a request sequence with repeated names, a reserved word and a
    repeated request satisfies the hypothesis, and suffixes are really handed out. -/
example :
    let base : SigId → String := fun s => if s = 3 then "wire" else if s = 4 then "y" else "x"
    noSuffixShapedBase ([2, 0, 3, 1, 0, 4].map base) = true ∧
    answers ["if", "wire"] base [2, 0, 3, 1, 0, 4] =
      [(2, "x"), (0, "x_1"), (3, "wire_1"), (1, "x_2"), (0, "x_1"), (4, "y")] := by decide +kernel

/-- No issued identifier is a reserved word of the table the namespace was seeded with, provided the table is
    well formed (no entry ends in `_<digits>`). -/
theorem name_not_reserved (kw : List String) (hw : kwWellformed kw = true) (base : SigId → String)
    (reqs : List SigId) (s : SigId) (a : String) (h : (s, a) ∈ answers kw base reqs) : a ∉ kw := by
  obtain ⟨-, n, hn, rfl⟩ := Ns.policy.answers_spec base reqs _ s a h
  have inv : Inv kw base reqs (run kw base reqs) := Inv.run reqs
  intro hk
  by_cases hpos : 0 < n
  · exact suffixed_not_mem_kw hw (base s) hpos hk
  · have : n = 0 := by omega
    subst this
    rw [suffixed_zero] at hk
    have := inv.kw_pos s 0 hn hk
    omega

/-- With the regenerated LiteX table: no issued identifier is an IEEE 1364-2005 keyword. -/
theorem name_not_reserved_1364 (base : SigId → String) (reqs : List SigId) (s : SigId) (a : String)
    (h : (s, a) ∈ answers keywords base reqs) : a ∉ ieee1364_2005 :=
  fun hk => name_not_reserved keywords keywords_wellformed base reqs s a h (keywords_cover_1364 a hk)

/-- Non-vacuity: reserved words are requested and renamed (`repeat`, `union`, `uwire` are in the regenerated
    table; the table must not carry them with leading blanks). -/
example : "repeat" ∈ keywords ∧ "union" ∈ keywords ∧ "uwire" ∈ keywords ∧
    answers ["repeat", "uwire"] (fun s => if s = 0 then "repeat" else "uwire") [0, 1] =
      [(0, "repeat_1"), (1, "uwire_1")] := by decide +kernel

/-- If every requested base name matches `[A-Za-z_][A-Za-z0-9_]*`, so does every issued identifier. -/
theorem name_legal (kw : List String) (base : SigId → String) (reqs : List SigId)
    (hb : ∀ s ∈ reqs, isIdent (base s) = true)
    (s : SigId) (a : String) (h : (s, a) ∈ answers kw base reqs) : isIdent a = true :=
  Ns.policy.legal base hb h

/-! ## The repaired `get_name` (`getNameFixed`: skip numbered candidates already in use and record a numbered name as
    used).  This is the method in the tree (repair of C02-suffix-collision), and the model the harness compares the
    real `get_name` with.
    For it the full statements hold, without any hypothesis on the base names or the keyword table.
    All later sections (`answersCd`, `declOrder_namespace_perm`, `defaultLines_perm`, `classAnswers`) are about this
    method: their model definitions are built on `answersFixed`. -/

/-- Full uniqueness: two different signals never receive the same identifier. -/
theorem getNameFixed_injective (kw : List String) (base : SigId → String) (reqs : List SigId)
    (s t : SigId) (a : String) (hs : (s, a) ∈ answersFixed kw base reqs) (ht : (t, a) ∈ answersFixed kw base reqs) :
    s = t := by
  obtain ⟨-, n, hn, rfl⟩ := NsF.policy.answers_spec base reqs _ s a hs
  obtain ⟨-, m, hm, heq⟩ := NsF.policy.answers_spec base reqs _ t _ ht
  exact (InvF.run reqs).distinct s t n m hn hm heq

theorem getNameFixed_stable (kw : List String) (base : SigId → String) (pre post : List SigId) (s : SigId) :
    (getNameFixed (runFromF base (getNameFixed (runFixed kw base pre) (base s) s).1 post) (base s) s).2 =
      (getNameFixed (runFixed kw base pre) (base s) s).2 :=
  NsF.policy.stable base _ post s

/-- No issued identifier is in the keyword set the namespace was seeded with — for every keyword set. -/
theorem getNameFixed_not_reserved (kw : List String) (base : SigId → String) (reqs : List SigId)
    (s : SigId) (a : String) (h : (s, a) ∈ answersFixed kw base reqs) : a ∉ kw := by
  obtain ⟨-, n, hn, rfl⟩ := NsF.policy.answers_spec base reqs _ s a h
  exact (InvF.run reqs).not_kw s n hn

theorem getNameFixed_legal (kw : List String) (base : SigId → String) (reqs : List SigId)
    (hb : ∀ s ∈ reqs, isIdent (base s) = true)
    (s : SigId) (a : String) (h : (s, a) ∈ answersFixed kw base reqs) : isIdent a = true :=
  NsF.policy.legal base hb h

/-- The repair is conservative: outside the defect region (no requested base name is another requested base name
    plus `_k`; keyword table well formed) the repaired method answers exactly like the one before it, so no
    design free of suffix-shaped names changed its netlist. -/
theorem getNameFixed_conservative (kw : List String) (hw : kwWellformed kw = true) (base : SigId → String)
    (reqs : List SigId) (hshape : noSuffixShapedBase (reqs.map base) = true) :
    answersFixed kw base reqs = answers kw base reqs :=
  answers_eq_of_sim hw hshape reqs [] _ _ (by simp) Sim.init

/-- Non-vacuity: the collision witnesses under the repaired method: `x, x, x_1` → `x, x_1, x_1_1`, and in the
    other request order `x_1, x, x` → `x_1, x, x_2`; `if, if_1` → `if_1, if_1_1`. -/
example : answersFixed ["if", "wire"] (fun s => if s = 2 then "x_1" else "x") [0, 1, 2] =
    [(0, "x"), (1, "x_1"), (2, "x_1_1")] := by decide +kernel
example : answersFixed ["if", "wire"] (fun s => if s = 2 then "x_1" else "x") [2, 0, 1] =
    [(2, "x_1"), (0, "x"), (1, "x_2")] := by decide +kernel
example : answersFixed ["if", "wire"] (fun s => if s = 0 then "if" else "if_1") [0, 1] =
    [(0, "if_1"), (1, "if_1_1")] := by decide +kernel

/-! ## The hierarchical dictionary (`_build_signal_name_dict`) and the whole `build_signal_namespace`

  `groupName g s` is the name `_build_signal_name_dict_for_group` gives signal `s` inside its `related`-group
  `g` (hierarchy tree, `use_name` by conflicts, `use_number` second pass, DUID ranks); `buildDict sigs i` the
  final dictionary entry (`related` ancestors prefixed); `namespaceAnswers kw sigs extra reqs` the answers of
  `get_name` on the namespace built from `sigs` (memories/instances as `extra` override-only objects). -/

/-- Python iterates *sets* of signals while building a group dictionary (`groupName`, the per-group stage below
    `buildDict`); the result does not depend on the iteration order: any permutation of the group gives every
    signal the same group name. -/
theorem buildDict_perm (g₁ g₂ : List GSig) (h : g₁.Perm g₂) (s : GSig) : groupName g₁ s = groupName g₂ s := by
  simp only [groupName, pass2Name_perm h s, disambiguate_perm (named_perm h)]

/-- The tree node a signal ends in always has `use_name` set (it has a signal of its own), so the element
    list (`elems`) joined into the signal's group name is never empty. -/
theorem buildDict_nonempty (g : List GSig) (s : GSig) (hs : s ∈ g) (hne : s.bt ≠ []) :
    let ps := g.map fun t => keyedPath (tagged g) t.bt
    elems (fuelOf ps) ps (keyedPath (tagged g) s.bt) ≠ [] :=
  elems_ne_nil _ _ _ (keyedPath_ne_nil _ _ hne) (List.mem_map.mpr ⟨s, hs, rfl⟩)

/-- Legality of dictionary names: if every back-trace is non-empty with legal step names, every dictionary
    entry (joined with `_`, numbered, DUID-ranked, prefixed by `related` ancestors) is a legal identifier. -/
theorem buildDict_legal (sigs : List Sig) (h : LegalSigs sigs) (i : Nat) (hi : i < sigs.length) :
    isIdent (buildDict sigs i) = true := buildDict_isIdent h hi

/-- What the driver executes (and the correspondence compares with the real code) is the per-signal
    definition the theorems speak about. -/
theorem dictList_eq_buildDict (sigs : List Sig) (i : Nat) (hi : i < sigs.length) :
    (dictList sigs)[i]? = some (buildDict sigs i) := dictList_getElem? sigs i hi

theorem groupNames_eq_groupName (g : List GSig) : groupNames g = g.map (groupName g) := groupNames_eq g

/-- End to end, uniqueness: on the namespace built from any signal set, two different objects never receive
    the same identifier, provided no requested base name is another requested base name plus `_k`. -/
theorem namespace_injective_partial (kw : List String) (sigs : List Sig) (extra : List String)
    (reqs : List Nat)
    (hshape : noSuffixShapedBase (reqs.map fun i => (baseList sigs ++ extra)[i]?.getD "") = true)
    (s t : SigId) (a : String)
    (hs : (s, a) ∈ namespaceAnswers kw sigs extra reqs) (ht : (t, a) ∈ namespaceAnswers kw sigs extra reqs) :
    s = t :=
  getName_injective_partial kw _ reqs hshape s t a hs ht

/-- End to end, reserved words: no identifier issued by a namespace seeded with the regenerated LiteX table
    is an IEEE 1364-2005 keyword — whatever the back-traces and overrides are. -/
theorem namespace_not_reserved (sigs : List Sig) (extra : List String) (reqs : List Nat)
    (s : SigId) (a : String) (h : (s, a) ∈ namespaceAnswers keywords sigs extra reqs) : a ∉ ieee1364_2005 :=
  name_not_reserved_1364 _ reqs s a h

/-- End to end, legality: legal step names and legal overrides give legal identifiers. -/
theorem namespace_legal (kw : List String) (sigs : List Sig) (extra : List String) (reqs : List Nat)
    (hsigs : LegalSigs sigs) (hextra : ∀ e ∈ extra, isIdent e = true)
    (hreqs : ∀ i ∈ reqs, i < sigs.length + extra.length)
    (s : SigId) (a : String) (h : (s, a) ∈ namespaceAnswers kw sigs extra reqs) : isIdent a = true := by
  exact name_legal kw _ reqs (fun i hi => bases_getD_legal hsigs hextra (hreqs i hi)) s a h

/-- Non-vacuity of the dictionary theorems: two sub-modules `m` (numbers 0 and 1) with signals `x`, `w` / `x`,
    a signal with a `related` parent, and an override named like a keyword — the hierarchy (`use_name`),
    number (`use_number`) and `related` paths are all taken, a memory named like a dictionary entry is
    renamed, and the group dictionary is the same for another listing order. -/
example :
    let sigs : List Sig := [
      ⟨0, [("top", 0), ("m", 0), ("x", 0)], none, none⟩,
      ⟨1, [("top", 0), ("m", 1), ("x", 1)], none, none⟩,
      ⟨2, [("top", 0), ("m", 0), ("w", 0)], none, none⟩,
      ⟨3, [("top", 0), ("y", 0)], some 0, none⟩,
      ⟨4, [("top", 0), ("z", 0)], none, some "if"⟩]
    let g : List GSig := [⟨0, [("m", 0), ("x", 0)]⟩, ⟨1, [("m", 1), ("x", 1)]⟩, ⟨2, [("m", 0), ("w", 0)]⟩]
    dictList sigs = ["m0_x", "m1_x", "m0_w", "m0_x_y", "z"] ∧
    (namespaceAnswers ["if"] sigs ["m0_x"] [4, 0, 5, 3]).map (·.2) = ["if_1", "m0_x", "m0_x_1", "m0_x_y"] ∧
    g.map (groupName g) = ["m0_x", "m1_x", "m0_w"] ∧
    g.map (groupName g.reverse) = ["m0_x", "m1_x", "m0_w"] := by
  decide +kernel

/-! ## Ordered emission (`sorted(..., key=…)` over Python sets/dicts), modelled in `LitexModel/Namer/Emit.lean`

  The generator iterates sets (attributes, IOs, signals, specials) and dicts (`f.sync`) for emission only through
  `sorted`.  `sortedBy` is that call (stable, like Python's); the harness hands the model the collection in its
  real iteration order and compares the emitted text / order exactly. -/

/-- Generic: a stable sort by a key whose order is total gives the same list for every listing order of the
    collection, provided the key identifies the element among the listed ones. -/
theorem sortedEmission_perm {α κ : Type} {leK : κ → κ → Bool} {key : α → κ}
    (trans : ∀ a b c, leK a b = true → leK b c = true → leK a c = true)
    (total : ∀ a b, leK a b = true ∨ leK b a = true)
    (antisymm : ∀ a b, leK a b = true → leK b a = true → a = b)
    {l₁ l₂ : List α} (h : l₁.Perm l₂) (hinj : ∀ a ∈ l₁, ∀ b ∈ l₁, key a = key b → a = b) :
    sortedBy leK key l₁ = sortedBy leK key l₂ := sortedBy_perm trans total antisymm h hinj

/-- The sorted list is a permutation of the collection: nothing is dropped or repeated by the ordering step. -/
theorem sortedEmission_complete {α κ : Type} (leK : κ → κ → Bool) (key : α → κ) (l : List α) :
    (sortedBy leK key l).Perm l := sortedBy_perm_list leK key l

/-  Without the hypothesis on tuple names `emitAttrs tr l₁ = emitAttrs tr l₂` is FALSE for permutations (witness
    below): a tuple attribute with an EMPTY name has the sort key `("", v)` of the string attribute `v`; Python's sort is
    stable, so the two keep their set-iteration order. -/

/-- **Attributes**: the `(* … *)` prefix `_generate_attribute` emits is the same for every iteration order of
    the attribute set, for every `attr_translate` table, provided every tuple attribute carries a non-empty
    name. -/
theorem emitAttrs_perm_partial (tr : AttrTable) {l₁ l₂ : List Attr} (h : l₁.Perm l₂)
    (hwf : ∀ a ∈ l₁, a.named = true) : emitAttrs tr l₁ = emitAttrs tr l₂ := by
  have : sortedBy keyLe Attr.key l₁ = sortedBy keyLe Attr.key l₂ :=
    sortedBy_perm keyLe_trans keyLe_total keyLe_antisymm h
      (fun a ha b hb hk => Attr.key_inj (hwf a ha) (hwf b hb) hk)
  unfold emitAttrs attrItems
  rw [this]

/-- Sets of string attributes (what LiteX's own cores attach: `keep`, `async_reg`, `mr_ff`, …): no hypothesis. -/
theorem emitAttrs_perm_strings (tr : AttrTable) {s₁ s₂ : List String} (h : s₁.Perm s₂) :
    emitAttrs tr (s₁.map Attr.name) = emitAttrs tr (s₂.map Attr.name) :=
  emitAttrs_perm_partial tr (h.map _) (by intro a ha; obtain ⟨s, _, rfl⟩ := List.mem_map.mp ha; rfl)

/-- Negative witness for the full statement: `{"k", ("", "k")}` is emitted in set-iteration order. -/
example : emitAttrs [("k", some ("k", .str "true"))] [.name "k", .pair "" (.str "k")] ≠
    emitAttrs [("k", some ("k", .str "true"))] [.pair "" (.str "k"), .name "k"] := by decide +kernel

/-- Non-vacuity: four attributes of a clock-domain-crossing register under the Vivado table, listed in two
    orders — strings first (by source name, not by translated name), then tuples, dropped entries skipped. -/
example :
    let tr : AttrTable := [("keep", some ("dont_touch", .str "true")), ("async_reg", some ("async_reg", .str "true")),
      ("mr_ff", some ("mr_ff", .str "true")), ("no_shreg_extract", none)]
    emitAttrs tr [.name "mr_ff", .pair "loc" (.str "X0"), .name "keep", .name "no_shreg_extract", .name "async_reg",
        .pair "iob" (.int 1)] =
      "(* async_reg = \"true\", dont_touch = \"true\", mr_ff = \"true\", iob = 1, loc = \"X0\" *)\n" ∧
    emitAttrs tr [.pair "iob" (.int 1), .name "async_reg", .name "no_shreg_extract", .name "keep",
        .pair "loc" (.str "X0"), .name "mr_ff"] =
      "(* async_reg = \"true\", dont_touch = \"true\", mr_ff = \"true\", iob = 1, loc = \"X0\" *)\n" ∧
    emitAttrs [] [.name "keep"] = "" := by decide +kernel

/-  `declOrder l₁ = declOrder l₂` for permutations is FALSE when two listed objects carry one identifier (witness
    below); `getNameFixed_injective` excludes that. -/

/-- **Ports / signal declarations / comb reset lines / sync blocks** (`sorted(objs, key=get_name)`,
    `sorted(f.sync.items())`): the emission order does not depend on the iteration order of the set, provided
    different listed objects carry different identifiers. -/
theorem declOrder_perm_partial {l₁ l₂ : List (Nat × String)} (h : l₁.Perm l₂)
    (hinj : ∀ a ∈ l₁, ∀ b ∈ l₁, a.2 = b.2 → a = b) : declOrder l₁ = declOrder l₂ := by
  simp only [declOrder, sortedBy_perm strLe_trans strLe_total strLe_antisymm h hinj]

example : declOrder [(0, "x"), (1, "x")] ≠ declOrder [(1, "x"), (0, "x")] := by decide +kernel
example : declOrder [(0, "sys_clk"), (1, "a"), (2, "b_1"), (3, "b")] = [1, 3, 2, 0] ∧
    declOrder [(3, "b"), (2, "b_1"), (0, "sys_clk"), (1, "a")] = [1, 3, 2, 0] := by decide +kernel

/-- … and the hypothesis is what uniqueness delivers: for the identifiers any reachable namespace state has
    issued (any base names, any request history), the declaration order of a set of named objects is the same
    for every iteration order — no hypothesis on the names left. -/
theorem declOrder_namespace_perm (kw : List String) (base : SigId → String) (reqs : List SigId)
    {objs₁ objs₂ : List SigId} (h : objs₁.Perm objs₂) (hreq : ∀ s ∈ objs₁, s ∈ reqs) :
    let nm := fun s => (((runFixed kw base reqs).sigs.lookup s).map (suffixed (base s))).getD ""
    declOrder (objs₁.map fun s => (s, nm s)) = declOrder (objs₂.map fun s => (s, nm s)) := by
  intro nm
  have inv : InvF kw base (runFixed kw base reqs) := InvF.run reqs
  have named : ∀ s ∈ reqs, ∃ n, (runFixed kw base reqs).sigs.lookup s = some n :=
    fun s hs => runFromF_named reqs hs
  refine declOrder_perm_partial (h.map _) ?_
  intro a ha b hb hab
  obtain ⟨s, hs, rfl⟩ := List.mem_map.mp ha
  obtain ⟨t, ht, rfl⟩ := List.mem_map.mp hb
  obtain ⟨n, hn⟩ := named s (hreq s hs)
  obtain ⟨m, hm⟩ := named t (hreq t ht)
  simp only [nm, hn, hm, Option.map_some, Option.getD_some] at hab
  have := inv.distinct s t n m hn hm hab
  subst this
  rfl


/-- **Default-assignment lines** of a multi-target `always @(*)` block (`for t in sorted(g[0], key=get_name)` in
    `_generate_combinatorial_logic_synth`): for every namespace history and every iteration order of the target set
    `g[0]` (a set of DUID-hashed Signals, so its order moves with the absolute DUIDs) the lines come out in one
    order. -/
theorem defaultLines_perm (kw : List String) (base : SigId → String) (reqs : List SigId)
    {targets₁ targets₂ : List SigId} (h : targets₁.Perm targets₂) (hreq : ∀ s ∈ targets₁, s ∈ reqs) :
    let nm := fun s => (((runFixed kw base reqs).sigs.lookup s).map (suffixed (base s))).getD ""
    declOrder (targets₁.map fun s => (s, nm s)) = declOrder (targets₂.map fun s => (s, nm s)) :=
  declOrder_namespace_perm kw base reqs h hreq

/-- **Specials** (`sorted(specials, key=duid)`, also the visiting order of the IO naming step): independent of
    the iteration order of the set; DUIDs identify the objects. -/
theorem duidOrder_perm_partial {l₁ l₂ : List (Nat × Nat)} (h : l₁.Perm l₂)
    (hinj : ∀ a ∈ l₁, ∀ b ∈ l₁, a.2 = b.2 → a = b) : duidOrder l₁ = duidOrder l₂ := by
  simp only [duidOrder, sortedBy_perm natLe_trans natLe_total natLe_antisymm h hinj]

example : duidOrder [(0, 12), (1, 3), (2, 7)] = [1, 2, 0] ∧ duidOrder [(2, 7), (0, 12), (1, 3)] = [1, 2, 0] := by decide +kernel

/-- Emission is idempotent: a collection that is already in emission order is left alone. -/
theorem sortedEmission_idem {α κ : Type} {leK : κ → κ → Bool} {key : α → κ}
    (trans : ∀ a b c, leK a b = true → leK b c = true → leK a c = true)
    (total : ∀ a b, leK a b = true ∨ leK b a = true) (l : List α) :
    sortedBy leK key (sortedBy leK key l) = sortedBy leK key l :=
  isort_of_pairwise _ (sortedBy_pairwise trans total l)

/-! ## ClockSignal / ResetSignal resolution in `get_name` -/

/-- A `ClockSignal(cd)` / `ResetSignal(cd)` request is answered exactly like a request for the domain's own
    clock / reset signal: the request sequence may be replaced by the resolved one. -/
theorem answersCd_resolved (kw : List String) (base : SigId → String) (cds : List Cd) (reqs : List Req)
    (ids : List Nat) (h : resolveAll cds reqs = some ids) :
    answersCd kw base cds reqs = some (answersFixed kw base ids) := by
  simp [answersCd, h]

/-- What the resolution returns is the clock (reset) signal of a domain of that name. -/
theorem resolve_clk (cds : List Cd) (c : String) (i : Nat) (h : resolve cds (.clk c) = some i) :
    ∃ d ∈ cds, d.name = c ∧ d.clk = i := resolve_clk_sound h
theorem resolve_rst (cds : List Cd) (c : String) (i : Nat) (h : resolve cds (.rst c) = some i) :
    ∃ d ∈ cds, d.name = c ∧ d.rst = some i := resolve_rst_sound h

/-- Aliases never split and never merge: in one request sequence mixing plain signals, ClockSignals and
    ResetSignals, requests that resolve to the same signal receive one identifier, and requests that resolve to
    different signals receive different identifiers. -/
theorem answersCd_alias_iff (kw : List String) (base : SigId → String) (cds : List Cd) (reqs : List Req)
    (ans : List (SigId × String)) (h : answersCd kw base cds reqs = some ans)
    (s t : SigId) (a b : String) (hs : (s, a) ∈ ans) (ht : (t, b) ∈ ans) : a = b ↔ s = t := by
  simp only [answersCd, Option.map_eq_some_iff] at h
  obtain ⟨ids, -, rfl⟩ := h
  constructor
  · rintro rfl; exact getNameFixed_injective kw base ids s t a hs ht
  · rintro rfl; exact answersFromF_functional _ ids s a b hs ht

/-- Non-vacuity: `ClockSignal("sys")` and `sys_clk` itself give one name, a user signal that is also called
    `sys_clk` gets another one; a reset-less domain's ResetSignal raises. -/
example :
    let base : SigId → String := fun s => if s = 0 then "sys_clk" else if s = 1 then "sys_rst" else "sys_clk"
    answersCd ["if"] base [⟨"sys", 0, some 1⟩, ⟨"por", 3, none⟩] [.clk "sys", .obj 2, .obj 0, .rst "sys", .clk "por"] =
      some [(0, "sys_clk"), (2, "sys_clk_1"), (0, "sys_clk"), (1, "sys_rst"), (3, "sys_clk_2")] ∧
    answersCd ["if"] base [⟨"sys", 0, some 1⟩, ⟨"por", 3, none⟩] [.rst "por"] = none ∧
    answersCd ["if"] base [⟨"sys", 0, some 1⟩] [.clk "nodomain"] = none := by decide +kernel

/-! ## The IO naming step of `convert()` -/

/-- Converting twice names the IOs once: the step is idempotent. -/
theorem ioStep_idem (ios : List Nat) (sigs : List Sig) : ioStep ios (ioStep ios sigs) = ioStep ios sigs := by
  apply List.ext_getElem
  · simp [ioStep]
  · intro i h1 h2
    simp only [ioStep, List.getElem_map, List.getElem_zipIdx] at *
    split <;> simp_all [ioOverride_idem]

/-- The step does not depend on the order in which the IO set is visited. -/
theorem ioStep_perm {ios₁ ios₂ : List Nat} (h : ios₁.Perm ios₂) (sigs : List Sig) :
    ioStep ios₁ sigs = ioStep ios₂ sigs := by
  simp only [ioStep, h.mem_iff]

/-- An IO without `name_override` is named after the last step of its back-trace (when that name is
    non-empty); an override set by the user is kept; other signals are not touched. -/
theorem ioStep_getElem (ios : List Nat) (sigs : List Sig) (i : Nat) (hi : i < sigs.length) :
    (ioStep ios sigs)[i]? = some (if i ∈ ios then ioOverride sigs[i] else sigs[i]) := by
  simp [ioStep, hi]

theorem ioOverride_spec (s : Sig) :
    (ioOverride s).override =
      match s.override with
      | some o => some o
      | none => match s.bt.getLast? with
        | some (n, _) => if n = "" then none else some n
        | none => none := ioOverride_override s

/-- Legal back-traces and overrides stay legal through the step, so the legality theorems apply to the IOs'
    new base names. -/
theorem ioStep_legal (ios : List Nat) (sigs : List Sig) (h : LegalSigs sigs) : LegalSigs (ioStep ios sigs) := by
  intro s hs
  simp only [ioStep, List.mem_map] at hs
  obtain ⟨⟨s0, i⟩, hm, rfl⟩ := hs
  have hm0 : s0 ∈ sigs := by
    have := List.mem_zipIdx hm
    simp only [Nat.zero_add] at this
    exact this.2.2 ▸ List.getElem_mem _
  by_cases hi : i ∈ ios
  · simp only [hi, if_true]; exact ioOverride_legal (h s0 hm0)
  · simp only [hi, if_false]; exact h s0 hm0

example : (ioStep [0, 2] [⟨5, [("top", 0), ("led", 1)], none, none⟩, ⟨6, [("top", 0), ("x", 0)], none, none⟩,
      ⟨7, [("top", 0), ("y", 0)], none, some "pad"⟩]).map (·.override) = [some "led", none, some "pad"] := by decide +kernel

/-! ## Every identifier class of the emitted text (signals, memories, instances, the helper registers
    `<mem>_adr<n>` / `<mem>_dat<n>` of `memory.py`, clock-domain signals `<cd>_clk` / `<cd>_rst`)

  All classes are named by ONE namespace, so the uniqueness / reserved-word / legality theorems hold across
  the classes; `Obj.base` is the base name of each class (tied to the real `convert()` by `classanswers`). -/

/-- No two different objects of any classes share an identifier — e.g. a user signal called `mem_adr0` and the
    address register of memory `mem`, or a signal `sys_clk_1` and the second clock named `sys_clk`. -/
theorem class_injective (kw : List String) (objs : List Obj) (reqs : List Nat) (s t : SigId) (a : String)
    (hs : (s, a) ∈ classAnswers kw objs reqs) (ht : (t, a) ∈ classAnswers kw objs reqs) : s = t :=
  getNameFixed_injective kw _ reqs s t a hs ht

theorem class_not_reserved (objs : List Obj) (reqs : List Nat) (s : SigId) (a : String)
    (h : (s, a) ∈ classAnswers keywords objs reqs) : a ∉ ieee1364_2005 :=
  fun hk => getNameFixed_not_reserved keywords _ reqs s a h (keywords_cover_1364 a hk)

/-- Legality of every class: when the user-chosen parts (signal names, memory / instance names, clock-domain
    names) are legal identifiers, so are all emitted identifiers, including the generated helper and clock names
    and their `_n` suffixes. -/
theorem class_legal (kw : List String) (objs : List Obj) (reqs : List Nat)
    (hobjs : ∀ o ∈ objs, o.legal = true) (hreqs : ∀ i ∈ reqs, i < objs.length)
    (s : SigId) (a : String) (h : (s, a) ∈ classAnswers kw objs reqs) : isIdent a = true := by
  refine getNameFixed_legal kw _ reqs ?_ s a h
  intro (i : Nat) hi
  have hlt := hreqs i hi
  have : objs[i]? = some objs[i] := by simp [hlt]
  simp only [this, Option.map_some, Option.getD_some]
  exact Obj.base_legal (hobjs _ (List.getElem_mem hlt))

/-- The helper registers of one memory have pairwise different base names (so without a user clash they carry
    exactly `<mem>_adr<n>` / `<mem>_dat<n>`). -/
theorem adrBase_inj (m : String) (n n' : Nat) (h : adrBase m n = adrBase m n') : n = n' :=
  append_toString_inj h

theorem datBase_inj (m : String) (n n' : Nat) (h : datBase m n = datBase m n') : n = n' :=
  append_toString_inj h

theorem adrBase_ne_datBase (m : String) (n n' : Nat) : adrBase m n ≠ datBase m n' := by
  intro h
  have := congrArg String.toList h
  simp only [adrBase, datBase, String.toList_append, List.append_assoc, List.append_cancel_left_eq] at this
  have h2 := congrArg (fun l => l[1]?) this
  simp at h2

/-- Non-vacuity: memory `mem` with a write-first port next to user signals called
    `mem_adr0` and `mem` — the helper register and the memory get fresh identifiers; clock-domain signals of a
    domain called like a keyword are renamed. -/
example :
    memHelpers "mem_1" [.writeFirst, .async, .dataReg] = ["mem_1_adr0", "mem_1_dat2"] ∧
    (classAnswers ["if", "wire"] [.sig "mem_adr0", .sig "mem", .mem "mem", .adr "mem" 0, .cdClk "sys", .cdRst "sys",
        .sig "sys_clk", .inst "if"] [0, 1, 2, 3, 4, 5, 6, 7, 3]).map (·.2) =
      ["mem_adr0", "mem", "mem_1", "mem_adr0_1", "sys_clk", "sys_rst", "sys_clk_1", "if_1", "mem_adr0_1"] := by
  decide +kernel


/-! ## What the first-request order does (NOT order-independent; same design in the same context = same DUIDs = same order)

  The identifiers themselves depend on the order of the FIRST requests, which in `convert()` is the iteration
  order of the sets `ios` / `sigs - ios` inside `sorted(…, key=get_name)` (Signals hash by DUID, so that order is
  a function of the absolute DUID values): objects with equal base names swap their `_n` suffixes. -/
example : answersFixed [] (fun _ => "x") [0, 1] = [(0, "x"), (1, "x_1")] ∧
    answersFixed [] (fun _ => "x") [1, 0] = [(1, "x"), (0, "x_1")] := by decide +kernel

/-  Not proved here: pairwise different non-reserved base names are issued verbatim whatever the request order
    (`base s ∉ kw` and `base` injective on `reqs` give `a = base s` for every `(s, a) ∈ answersFixed kw base reqs`). -/

end Litex.C02
