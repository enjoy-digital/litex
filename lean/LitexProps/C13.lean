import LitexProofs.Soc.Finalize
import LitexProofs.Soc.LocInv
import LitexProofs.Soc.CmInv
import LitexProofs.Soc.CsrBanks
import LitexProofs.Soc.CmConstraints
import LitexProofs.Soc.BusRaw
import LitexProofs.Soc.AcceptedDisjoint  -- nothing of it is used here: the C13 entry of MANIFEST.json names that file for its theorems
/-
  C13 — SoC resource allocation never hands out overlapping or out-of-range resources.

  The invariant theorems quantify over an arbitrary call history `ops` (a list of requests) on a freshly created
  handler, with arbitrary parameters (address/data width, number of locations, IO table).  `run` skips rejected
  requests (the real code raises `SoCError`/`ConstraintError` and the build stops), so "a history of successful
  requests" is the special case in which nothing is skipped.  The theorems about a single call or check
  (`alloc_sound`, `alloc_in_io_partial`, `alloc_terminates`, `add_master_grants_fresh_name`,
  `finalize_rejects_unaligned`, the decoder theorems, `cm_request_grants_available`, `cm_lookup_only_matched`) hold in
  an arbitrary state `s`, reachable or not.  Names `ν` are arbitrary.
-/
namespace Litex.C13
open Litex.Soc
variable {ν : Type} [DecidableEq ν]

/-- After any call history on a bus handler: region names are unique across `regions ∪ io_regions`, any two
    distinct non-linker regions have disjoint decoded (power-of-two) windows, likewise any two IO regions,
    slave names are unique and every slave has a region. -/
theorem regions_disjoint_inv [AutoNames ν] (aw dw : Nat) (ops : List (BusOp ν)) :
    let s := ({ aw := aw, dw := dw } : BusH ν).run ops
    (s.regions.map (·.1) ++ s.ioRegions.map (·.1)).Nodup ∧
    (∀ n0 r0 n1 r1, (n0, r0) ∈ s.regions → (n1, r1) ∈ s.regions → n0 ≠ n1 →
        r0.linker = false → r1.linker = false → WinDisjoint r0 r1) ∧
    (∀ n0 r0 n1 r1, (n0, r0) ∈ s.ioRegions → (n1, r1) ∈ s.ioRegions → n0 ≠ n1 →
        r0.linker = false → r1.linker = false → WinDisjoint r0 r1) ∧
    s.slaves.Nodup ∧ (∀ n ∈ s.slaves, n ∈ s.regions.map (·.1)) := by
  intro s
  have hi : BusH.Inv s := BusH.run_inv ops (BusH.inv_init aw dw)
  exact ⟨hi.names_nodup, fun _ _ _ _ => BusH.regions_winDisjoint hi,
    fun _ r0 _ r1 h0 h1 hne l0 l1 => (winDisjoint_iff r0 r1 l0 l1).1 (overlapPair_of_mem_ne hi.ios_ok h0 h1 hne),
    hi.slaves_nodup, hi.slaves_have⟩


/-- Non-vacuity: a history with accepted fixed, allocated and IO regions and three rejected requests (duplicate
    name, overlap on the power-of-two window `[0x2000, 0x4000)`, uncached outside IO). -/
example :
    (({ aw := 32, dw := 32 } : BusH Nat).run
      [.addRegion 1 { origin := some 0x0, size := 0x1800 },
       .addRegion 1 { origin := some 0x10000, size := 0x1000 },
       .addRegion 2 { origin := some 0x2000, size := 0x1800 },
       .addRegion 3 { origin := some 0x3800, size := 0x800 },
       .addRegion 4 { io := true, origin := some 0x80000000, size := 0x10000, cached := false },
       .addRegion 5 { origin := some 0x4000, size := 0x100, cached := false },
       .addRegion 6 { origin := none, size := 0x1000 },
       .addSlave (some 7) (some { origin := none, size := 0x100, cached := false })]).regions
    = [(1, ⟨0x0, 0x1800, true, false, true⟩), (2, ⟨0x2000, 0x1800, true, false, true⟩),
       (6, ⟨0x4000, 0x1000, true, false, true⟩), (7, ⟨0x80000000, 0x100, false, false, true⟩)] := by
  decide +kernel

omit [DecidableEq ν] in
/-- `alloc_region` is sound in every state: the returned region has the requested size/cached flag, its origin is
    aligned on its decoded size, its window is disjoint from the window of every existing non-linker region,
    a cached region lies (window included) inside `[0, 2^address_width)`, and an uncached region lies inside
    the *power-of-two window* of some IO region. -/
theorem alloc_sound (s : BusH ν) (size : Nat) (cached : Bool) (r : Region)
    (h : s.allocRegion size cached = .ok r) :
    r.size = size ∧ r.cached = cached ∧ r.linker = false ∧ r.origin % r.p2 = 0 ∧
    (∀ a ∈ s.regs, a.linker = false → WinDisjoint a r) ∧
    (cached = true → r.origin + r.size < 2 ^ s.aw ∧ r.origin + r.p2 ≤ 2 ^ s.aw) ∧
    (cached = false → ∃ io ∈ s.ios, io.origin ≤ r.origin ∧ r.origin + r.size < io.origin + io.p2) := by
  obtain ⟨hpos, o, rfl, hal, hno, sr, hsr, h1, h2⟩ := BusH.allocRegion_ok h
  refine ⟨rfl, rfl, rfl, hal, fun a ha hl => (winDisjoint_iff a _ hl rfl).1 (hno a ha), ?_, ?_⟩
  · rintro rfl
    cases List.mem_singleton.1 hsr
    have hmain : (mainRegion s.aw).p2 ≤ 2 ^ s.aw := pow2ceil_le_of_le_two_pow (Nat.sub_le _ _)
    have h2 : o + size < 0 + (mainRegion s.aw).p2 := h2
    rw [Nat.zero_add] at h2
    have hlt : o + size < 2 ^ s.aw := Nat.lt_of_lt_of_le h2 hmain
    exact ⟨hlt, aligned_add_le hal (pow2ceil_dvd_two_pow (Nat.le_of_lt (Nat.lt_of_le_of_lt (Nat.le_add_left _ _) hlt)))
      (Nat.lt_of_le_of_lt (Nat.le_add_right _ _) hlt)⟩
  · rintro rfl
    exact ⟨sr, hsr, h1, h2⟩

omit [DecidableEq ν] in
/-- Full statement "an uncached allocation lies inside the *declared* size of an IO region" needs the IO sizes
    to be powers of two (`alloc_region` bounds its search by `size_pow2` of the IO region). -/
theorem alloc_in_io_partial (s : BusH ν) (size : Nat) (r : Region)
    (hpow2 : ∀ io ∈ s.ios, io.size = io.p2)
    (h : s.allocRegion size false = .ok r) :
    ∃ io ∈ s.ios, io.origin ≤ r.origin ∧ r.origin + r.size ≤ io.origin + io.size := by
  obtain ⟨_, _, _, _, _, _, hio⟩ := alloc_sound s size false r h
  obtain ⟨io, hm, h1, h2⟩ := hio rfl
  exact ⟨io, hm, h1, by rw [hpow2 io hm]; omega⟩

/-- Negative witness for the full statement (known finding C13-alloc-io-nonpow2): IO region
    `[0x80000000, +0x3000)`, two uncached `0x1800` allocations — the second lands at `0x80002000` and ends at
    `0x80003800`, beyond the declared end `0x80003000` of the only IO region. -/
example :
    let s := ({ aw := 32, dw := 32 } : BusH Nat).run
      [.addRegion 0 { io := true, origin := some 0x80000000, size := 0x3000, cached := false },
       .addRegion 1 { origin := none, size := 0x1800, cached := false }]
    s.allocRegion 0x1800 false = .ok (cand 0x80002000 0x1800 false) ∧
    ¬ (∃ io ∈ s.ios, io.origin ≤ 0x80002000 ∧ 0x80002000 + 0x1800 ≤ io.origin + io.size) := by
  decide +kernel

/-- Non-vacuity of `alloc_in_io_partial`: with a power-of-two IO region the same requests stay inside. -/
example :
    let s := ({ aw := 32, dw := 32 } : BusH Nat).run
      [.addRegion 0 { io := true, origin := some 0x80000000, size := 0x4000, cached := false },
       .addRegion 1 { origin := none, size := 0x1800, cached := false }]
    (∀ io ∈ s.ios, io.size = io.p2) ∧ s.allocRegion 0x1800 false = .ok (cand 0x80002000 0x1800 false) := by
  decide +kernel

omit [DecidableEq ν] in
/-- The model's fuel is never exhausted: for `size > 0` the first-fit loop terminates by itself
    (`Err.fuel` is unreachable; `size = 0` is the guard `Err.sizeZero`). -/
theorem alloc_terminates (s : BusH ν) (size : Nat) (cached : Bool) :
    s.allocRegion size cached ≠ .error .fuel := by
  unfold BusH.allocRegion
  split
  · exact nofun
  · rename_i hs
    cases he : allocSearch s.regs size cached (s.searchRegions cached) with
    | ok o => exact nofun
    | error e => exact fun hc => allocSearch_ne_fuel (Nat.pos_of_ne_zero hs) _ (Except.error.inj hc ▸ he)


/-- After any history (explicit names, automatic `master<N>` / `slave<N>` names under *any* naming scheme, in any
    mixture): master names are unique, slave names are unique, and every master/slave registered after a prefix
    of the history is still registered, at the same position, after the whole history — an automatically named
    master can never take the place of an earlier one. -/
theorem masters_names_unique_never_lost [AutoNames ν] (aw dw : Nat) (ops1 ops2 : List (BusOp ν)) :
    let s1 := ({ aw := aw, dw := dw } : BusH ν).run ops1
    let s2 := ({ aw := aw, dw := dw } : BusH ν).run (ops1 ++ ops2)
    s2.masters.Nodup ∧ s2.slaves.Nodup ∧ s1.masters <+: s2.masters ∧ s1.slaves <+: s2.slaves := by
  intro s1 s2
  have hi2 : BusH.Inv s2 := BusH.run_inv (ops1 ++ ops2) (BusH.inv_init aw dw)
  have e : s2 = s1.run ops2 := BusH.run_append _ ops1 ops2
  exact ⟨hi2.masters_nodup, hi2.slaves_nodup, e ▸ (BusH.run_grows s1 ops2).frame.2.2⟩

/-- Every accepted `add_master` registers exactly one more master under a name (explicit, or generated from the
    current number of masters) that no registered master carries; all earlier masters stay. -/
theorem add_master_grants_fresh_name [AutoNames ν] (s s' : BusH ν) (name : Option ν) (h : s.apply (.addMaster name) = .ok s') :
    s'.masters = s.masters ++ [name.getD (AutoNames.master s.masters.length)] ∧
    name.getD (AutoNames.master s.masters.length) ∉ s.masters ∧
    s'.masters.length = s.masters.length + 1 := by
  obtain ⟨hn, rfl⟩ := BusH.addMaster_ok (show s.addMaster _ = .ok s' from h)
  exact ⟨rfl, hn, List.length_append⟩

/-- Non-vacuity, on the history where a generated name meets an explicit one: `add_master()`, `add_master("master2")`, `add_master()` — the
    third call generates `master2` (= 1002 in the driver's encoding), which is taken, and is rejected; the
    three-master variant with a free generated name is accepted. -/
example :
    (({ aw := 32, dw := 32 } : BusH Nat).run [.addMaster none, .addMaster (some 1002), .addMaster none]).masters
      = [1000, 1002] ∧
    (({ aw := 32, dw := 32 } : BusH Nat).verdicts [.addMaster none, .addMaster (some 1002), .addMaster none])
      = [none, none, some .dupMaster] ∧
    (({ aw := 32, dw := 32 } : BusH Nat).run [.addMaster none, .addMaster (some 7), .addMaster none,
        .addSlave none (some { origin := none, size := 0x100 }), .addSlave none none]).masters = [1000, 7, 1002] := by
  decide +kernel

/-- For an origin aligned on `size_pow2`, a decoded region of at least one bus word: the predicate built by
    `SoCRegion.decoder` accepts word address `a` exactly when byte address `a·(dw/8)` lies in
    `[origin, origin + size_pow2)`.  (`_partial`: hypothesis `hword`, see the negative witness below.) -/
theorem region_decoder_exact_partial (aw dw sh : Nat) (r : Region) (a : Nat)
    (hdw : dw / 8 = 2 ^ sh) (hsh : sh ≤ aw) (ha : a < 2 ^ (aw - sh))
    (hdec : r.decode = true) (hal : r.aligned = true)
    (hword : dw / 8 ≤ r.p2) :
    decoderAccepts aw dw r a = true ↔ r.InWindow (a * (dw / 8)) :=
  decoderAccepts_iff aw dw sh r a hdw hsh hdec hal hword ha


/-- Non-vacuity: region `[0x1000, +0x1000)` on a 32-bit bus accepts word `0x400` (byte `0x1000`) and `0x7ff`,
    rejects `0x3ff` and `0x800`. -/
example :
    (decoderAccepts 32 32 ⟨0x1000, 0xc00, true, false, true⟩ 0x400, decoderAccepts 32 32 ⟨0x1000, 0xc00, true, false, true⟩ 0x7ff,
     decoderAccepts 32 32 ⟨0x1000, 0xc00, true, false, true⟩ 0x3ff, decoderAccepts 32 32 ⟨0x1000, 0xc00, true, false, true⟩ 0x800)
    = (true, true, false, false) := by decide +kernel

/-- Negative witness for the full statement without `hword` (known finding C13-decoder-subword): a one-byte
    region at `0x1001` on a 32-bit bus is aligned and decoded, yet its decoder accepts word `0x400`, whose byte
    address `0x1000` is outside `[0x1001, 0x1002)`. -/
example :
    let r : Region := ⟨0x1001, 1, true, false, true⟩
    r.aligned = true ∧ decoderAccepts 32 32 r 0x400 = true ∧ ¬ (r.origin ≤ 0x400 * (32 / 8)) := by decide +kernel

/-- (`_partial`: `hw0 hw1`, open finding C13-decoder-subword; alignment and `decode=True` are what `do_finalize` checks,
    `finalize_rejects_unaligned`.) -/
theorem disjoint_regions_disjoint_decoders_partial (aw dw sh : Nat) (r0 r1 : Region) (a : Nat)
    (hdw : dw / 8 = 2 ^ sh) (hsh : sh ≤ aw) (ha : a < 2 ^ (aw - sh))
    (hd0 : r0.decode = true) (hd1 : r1.decode = true) (hal0 : r0.aligned = true) (hal1 : r1.aligned = true)
    (hw0 : dw / 8 ≤ r0.p2) (hw1 : dw / 8 ≤ r1.p2) (hdis : WinDisjoint r0 r1) :
    ¬ (decoderAccepts aw dw r0 a = true ∧ decoderAccepts aw dw r1 a = true) :=
  decoders_disjoint aw dw sh r0 r1 a hdw hsh ha hd0 hd1 hal0 hal1 hw0 hw1 hdis

/-- An unaligned origin is refused at finalize: whenever `do_finalize` succeeds and builds a decoding
    interconnect (some master, some slave, not the point-to-point shortcut), every slave region is aligned on
    its decoded size. -/
theorem finalize_rejects_unaligned (s : BusH ν) (hfin : s.finalize = .ok ())
    (hm : s.masters ≠ []) (hs : s.slaves ≠ []) (hp : s.isP2P = false) :
    ∀ n r, n ∈ s.slaves → s.regionOf n = some r → r.origin % r.p2 = 0 := by
  intro n r hn hr
  have := (BusH.finalize_ok_aligned hfin hm hs hp).2 _ (BusH.mem_slaveRegions hn hr)
  simpa [Region.aligned] using this

/-- No word address selects two slaves: after any call history followed by a successful `do_finalize`, two
    different slaves with non-linker regions of at least one bus word never both decode the same address.
    (`_partial`: hypotheses `hw0 hw1`.) -/
theorem one_slave_per_address_partial [AutoNames ν] (aw dw sh : Nat) (ops : List (BusOp ν))
    (hdw : dw / 8 = 2 ^ sh) (hsh : sh ≤ aw) :
    let s := ({ aw := aw, dw := dw } : BusH ν).run ops
    s.finalize = .ok () → s.masters ≠ [] →
    ∀ n0 n1 r0 r1 a, n0 ∈ s.slaves → n1 ∈ s.slaves → n0 ≠ n1 →
      s.regionOf n0 = some r0 → s.regionOf n1 = some r1 → r0.linker = false → r1.linker = false →
      dw / 8 ≤ r0.p2 → dw / 8 ≤ r1.p2 → a < 2 ^ (aw - sh) →
      ¬ (decoderAccepts s.aw s.dw r0 a = true ∧ decoderAccepts s.aw s.dw r1 a = true) := by
  intro s hfin hm n0 n1 r0 r1 a hn0 hn1 hne hr0 hr1 hl0 hl1 hw0 hw1 ha
  obtain ⟨haw, hdw'⟩ := BusH.run_widths ops ({ aw := aw, dw := dw } : BusH ν)
  show ¬ (decoderAccepts s.aw s.dw r0 a = true ∧ decoderAccepts s.aw s.dw r1 a = true)
  rw [haw, hdw']
  exact BusH.finalize_one_slave_per_address (BusH.run_inv ops (BusH.inv_init aw dw)) hfin hm aw dw sh hdw hsh
    hn0 hn1 hne hr0 hr1 hl0 hl1 hw0 hw1 ha


/-- Every slave is selected by exactly the addresses of its window, whichever interconnect `do_finalize` builds
    (point-to-point: no decoder at all; shared/crossbar: `SoCRegion.decoder`): after any call history followed
    by a successful `do_finalize`, for every slave `n` with a decoded region `r` of at least one bus word, the
    built interconnect presents word address `a` to the slave iff byte address `a·(dw/8)` lies in
    `[origin, origin + size_pow2)`.
    (`_partial`: `hword` = open finding C13-decoder-subword; `hp2p` — a point-to-point bus is only exact when
    the slave's window covers the whole address space — = open finding C06-p2p-partial-region-origin0.) -/
theorem slave_selected_exactly_partial [AutoNames ν] (aw dw sh : Nat) (ops : List (BusOp ν))
    (hdw : dw / 8 = 2 ^ sh) (hsh : sh ≤ aw) :
    let s := ({ aw := aw, dw := dw } : BusH ν).run ops
    s.finalize = .ok () → s.masters ≠ [] →
    ∀ n r a, n ∈ s.slaves → s.regionOf n = some r → r.decode = true → dw / 8 ≤ r.p2 →
      (s.buildsP2P = true → 2 ^ aw ≤ r.p2) → a < 2 ^ (aw - sh) →
      (s.selects r a = true ↔ r.InWindow (a * (dw / 8))) := by
  intro s hfin hm n r a hn hr hdec hword hp2p ha
  have hs : s.slaves ≠ [] := List.ne_nil_of_mem hn
  obtain ⟨haw, hdw'⟩ := BusH.run_widths ops ({ aw := aw, dw := dw } : BusH ν)
  have hb : s.buildsP2P = s.isP2P := by rw [BusH.buildsP2P, BusH.isEmpty_or_eq_false hm hs]; rfl
  rw [BusH.selects, hb]
  cases hp : s.isP2P with
  | true =>
    -- point-to-point: the only slave is `n`, its region starts at 0 and (hypothesis) covers the address space
    have horg := BusH.isP2P_origin hp hn hr
    refine ⟨fun _ => ⟨horg ▸ Nat.zero_le _, ?_⟩, fun _ => rfl⟩
    rw [horg, hdw, Nat.zero_add]
    exact Nat.lt_of_lt_of_le (word_mul_lt_two_pow ha hsh) (hp2p (hb.trans hp))
  | false =>
    rw [Bool.false_or, haw, hdw']
    exact decoderAccepts_iff aw dw sh r a hdw hsh hdec
      ((BusH.finalize_ok_aligned hfin hm hs hp).2 _ (BusH.mem_slaveRegions hn hr)) hword ha

/-- Non-vacuity (point-to-point with a slave covering the 12-bit toy space, and a decoding bus) and the negative
    witness for `hp2p` (open finding C06-p2p-partial-region-origin0: one master, one slave `[0, 0x1000)` on a
    32-bit bus is wired point-to-point, word `0x800` = byte `0x2000` outside the window reaches the slave).
    And the configuration in which "the first region starts at 0" and "the slave's region starts at 0" differ (a
    slave-less region at 0 declared first, the only slave at `0x10000000`): the code as it stands builds a decoding
    interconnect, and word `0` does not select the slave. -/
example :
    let p := ({ aw := 12, dw := 32 } : BusH Nat).run
      [.addSlave (some 1) (some { origin := some 0, size := 0x1000 }), .addMaster none]
    let q := ({ aw := 32, dw := 32 } : BusH Nat).run
      [.addSlave (some 1) (some { origin := some 0, size := 0x1000 }), .addMaster none]
    let t := ({ aw := 32, dw := 32 } : BusH Nat).run
      [.addRegion 1 { origin := some 0, size := 0x1000, linker := true },
       .addSlave (some 2) (some { origin := some 0x10000000, size := 0x1000 }), .addMaster none]
    p.finalize = .ok () ∧ p.buildsP2P = true ∧ p.selects ⟨0, 0x1000, true, false, true⟩ 0x3ff = true ∧
    q.finalize = .ok () ∧ q.buildsP2P = true ∧ q.selects ⟨0, 0x1000, true, false, true⟩ 0x800 = true ∧
      ¬ (0x800 * (32 / 8) < 0 + (⟨0, 0x1000, true, false, true⟩ : Region).p2) ∧
    t.finalize = .ok () ∧ t.buildsP2P = false ∧ t.selects ⟨0x10000000, 0x1000, true, false, true⟩ 0 = false ∧
      t.selects ⟨0x10000000, 0x1000, true, false, true⟩ 0x4000000 = true := by decide +kernel

/-- Non-vacuity: two slaves and a master, finalize succeeds, the hypotheses hold, and each decoder accepts
    addresses of its own window. -/
example :
    let s := ({ aw := 32, dw := 32 } : BusH Nat).run
      [.addSlave (some 1) (some { origin := some 0x0, size := 0x1000 }), .addMaster (some 9),
       .addSlave (some 2) (some { origin := some 0x2000, size := 0x1800 })]
    s.finalize = .ok () ∧ s.masters ≠ [] ∧ s.slaves = [1, 2] ∧
    s.regionOf 2 = some ⟨0x2000, 0x1800, true, false, true⟩ ∧
    decoderAccepts 32 32 ⟨0x2000, 0x1800, true, false, true⟩ 0xfff = true ∧
    decoderAccepts 32 32 ⟨0x0, 0x1000, true, false, true⟩ 0xfff = false := by decide +kernel

/-- Negative witness without `hw0 hw1` (known finding C13-decoder-subword): the disjoint one-byte regions at
    `0x1001` and `0x1002` are both accepted, finalize succeeds, and both decoders select word `0x400`. -/
example :
    let s := ({ aw := 32, dw := 32 } : BusH Nat).run
      [.addSlave (some 1) (some { origin := some 0x1001, size := 1 }), .addSlave (some 2) (some { origin := some 0x1002, size := 1 }),
       .addMaster (some 9)]
    s.finalize = .ok () ∧ s.slaves = [1, 2] ∧
    s.regionOf 1 = some ⟨0x1001, 1, true, false, true⟩ ∧ s.regionOf 2 = some ⟨0x1002, 1, true, false, true⟩ ∧
    decoderAccepts 32 32 ⟨0x1001, 1, true, false, true⟩ 0x400 = true ∧
    decoderAccepts 32 32 ⟨0x1002, 1, true, false, true⟩ 0x400 = true := by decide +kernel

/-- An unaligned slave origin is refused by finalize (and accepted once aligned). -/
example :
    (({ aw := 32, dw := 32 } : BusH Nat).run
      [.addSlave (some 1) (some { origin := some 0x800, size := 0x1000 }), .addSlave (some 2) (some { origin := some 0x4000, size := 0x1000 }),
       .addMaster (some 9)]).finalize = .error .unaligned := by decide +kernel

/-! ## The state a rejected request leaves behind (`RawH`: the real object used on after a caught `SoCError`) -/

/-- Full strength, code as it stands (after fix C13-rejected-region-left-registered): whatever a caller does
    after catching `SoCError` — any history on the real, NON-rolled-back object — names stay unique across
    `regions ∪ io_regions`, ANY two distinct non-linker regions keep disjoint decoded windows, every slave has
    a region, and the regions of any two different slaves are window-disjoint.  No "granted only" restriction:
    a refused request leaves no region behind. -/
theorem rejected_ops_keep_all_slave_regions_disjoint [AutoNames ν] (aw dw : Nat) (ops : List (BusOp ν)) :
    let s := ({ h := { aw := aw, dw := dw } } : RawH ν).run ops
    (s.h.regions.map (·.1) ++ s.h.ioRegions.map (·.1)).Nodup ∧
    (∀ n0 r0 n1 r1, (n0, r0) ∈ s.h.regions → (n1, r1) ∈ s.h.regions → n0 ≠ n1 →
        r0.linker = false → r1.linker = false → WinDisjoint r0 r1) ∧
    s.h.slaves.Nodup ∧ (∀ n ∈ s.h.slaves, n ∈ s.h.regions.map (·.1)) ∧
    (∀ n0 n1 r0 r1, n0 ∈ s.h.slaves → n1 ∈ s.h.slaves → n0 ≠ n1 →
        s.h.regionOf n0 = some r0 → s.h.regionOf n1 = some r1 →
        r0.linker = false → r1.linker = false → WinDisjoint r0 r1) ∧
    s.stale = [] := by
  intro s
  obtain ⟨hg, hst⟩ := RawH.run_grows ({ h := { aw := aw, dw := dw } } : RawH ν) ops
  have hi := hg.inv (BusH.inv_init aw dw)
  exact ⟨hi.names_nodup, fun _ _ _ _ => BusH.regions_winDisjoint hi, hi.slaves_nodup, hi.slaves_have,
    fun _ _ _ _ _ _ hne h0 h1 => BusH.regions_winDisjoint hi (BusH.regionOf_some h0) (BusH.regionOf_some h1) hne, hst⟩

/-- And no address selects two slaves on the non-rolled-back object either: after any history with caught
    rejections followed by a successful `do_finalize`, two different slaves with non-linker regions of at least
    one bus word never both decode the same word address (`_partial`: `hw0 hw1`, C13-decoder-subword). -/
theorem rejected_ops_one_slave_per_address_partial [AutoNames ν] (aw dw sh : Nat) (ops : List (BusOp ν))
    (hdw : dw / 8 = 2 ^ sh) (hsh : sh ≤ aw) :
    let s := (({ h := { aw := aw, dw := dw } } : RawH ν).run ops).h
    s.finalize = .ok () → s.masters ≠ [] →
    ∀ n0 n1 r0 r1 a, n0 ∈ s.slaves → n1 ∈ s.slaves → n0 ≠ n1 →
      s.regionOf n0 = some r0 → s.regionOf n1 = some r1 → r0.linker = false → r1.linker = false →
      dw / 8 ≤ r0.p2 → dw / 8 ≤ r1.p2 → a < 2 ^ (aw - sh) →
      ¬ (decoderAccepts aw dw r0 a = true ∧ decoderAccepts aw dw r1 a = true) := by
  intro s hfin hm n0 n1 r0 r1 a hn0 hn1 hne hr0 hr1 hl0 hl1 hw0 hw1 ha
  exact BusH.finalize_one_slave_per_address ((RawH.run_grows _ ops).1.inv (BusH.inv_init aw dw)) hfin hm aw dw sh hdw hsh
    hn0 hn1 hne hr0 hr1 hl0 hl1 hw0 hw1 ha

/-- The method BEFORE the fix (`RawH.stepPreFix`: a fixed-origin region / IO region refused for overlap stayed
    in its dictionary): names stayed unique, and only the regions that were actually GRANTED (not left behind by
    a refusal, ghost list `stale`) kept disjoint decoded windows. -/
theorem rejected_ops_keep_granted_regions_disjoint [AutoNames ν] (aw dw : Nat) (ops : List (BusOp ν)) :
    let s := ({ h := { aw := aw, dw := dw } } : RawH ν).runPreFix ops
    (s.h.regions.map (·.1) ++ s.h.ioRegions.map (·.1)).Nodup ∧
    ∀ n0 r0 n1 r1, (n0, r0) ∈ s.h.regions → (n1, r1) ∈ s.h.regions → n0 ≠ n1 → n0 ∉ s.stale → n1 ∉ s.stale →
      r0.linker = false → r1.linker = false → WinDisjoint r0 r1 := by
  intro s
  have hi : RawH.Inv s := RawH.runPreFix_inv ops (RawH.inv_init aw dw)
  refine ⟨hi.names_nodup, ?_⟩
  intro n0 r0 n1 r1 h0 h1 hne s0 s1 l0 l1
  exact (winDisjoint_iff r0 r1 l0 l1).1 (hi.live_ok _ h0 _ h1 hne s0 s1)

/-- As long as nothing is refused, the real object and the transactional model `BusH.run` (about which all the
    theorems above speak) are the same, and nothing is stale. -/
theorem raw_eq_transactional_when_nothing_refused [AutoNames ν] (aw dw : Nat) (ops : List (BusOp ν))
    (hok : ∀ v ∈ ({ h := { aw := aw, dw := dw } } : RawH ν).verdicts ops, v = none) :
    (({ h := { aw := aw, dw := dw } } : RawH ν).run ops).h = ({ aw := aw, dw := dw } : BusH ν).run ops ∧
    (({ h := { aw := aw, dw := dw } } : RawH ν).run ops).stale = [] :=
  RawH.run_eq_of_all_ok _ ops hok

/-- Fixed finding C13-rejected-region-left-registered, negative witness of the PRE-FIX method and non-vacuity of
    the fixed one.  `add_slave("r2", region [0x1000,+0x1000))` is refused (overlaps `r1` = `[0,+0x2000)`).
    Pre-fix: its region stayed in `bus.regions`; `add_slave("r2")` then found it, `do_finalize` succeeded (both
    origins are aligned) and word `0x400` selected both slaves — the full-strength statement fails for `runPreFix`.
    Code as it stands: nothing is left behind, the third call is refused ("Region not found") exactly as in the
    transactional model, and only `r1` is a slave. -/
example :
    let ops : List (BusOp Nat) :=
      [.addSlave (some 1) (some { origin := some 0, size := 0x2000 }),
       .addSlave (some 2) (some { origin := some 0x1000, size := 0x1000 }),
       .addSlave (some 2) none, .addMaster none]
    let s := ({ h := { aw := 32, dw := 32 } } : RawH Nat).runPreFix ops
    let t := ({ h := { aw := 32, dw := 32 } } : RawH Nat).run ops
    ({ h := { aw := 32, dw := 32 } } : RawH Nat).verdictsPreFix ops = [none, some .overlap, none, none] ∧
    s.stale = [2] ∧ s.h.slaves = [1, 2] ∧ s.h.finalize = .ok () ∧
    s.h.regionOf 1 = some ⟨0, 0x2000, true, false, true⟩ ∧ s.h.regionOf 2 = some ⟨0x1000, 0x1000, true, false, true⟩ ∧
    s.h.selects ⟨0, 0x2000, true, false, true⟩ 0x400 = true ∧ s.h.selects ⟨0x1000, 0x1000, true, false, true⟩ 0x400 = true ∧
    ({ h := { aw := 32, dw := 32 } } : RawH Nat).verdicts ops = [none, some .overlap, some .noRegion, none] ∧
    t.h.slaves = [1] ∧ t.h.regions = [(1, ⟨0, 0x2000, true, false, true⟩)] ∧ t.stale = [] ∧
    ({ aw := 32, dw := 32 } : BusH Nat).verdicts ops = [none, some .overlap, some .noRegion, none] := by
  decide +kernel

/-- Names and numbers are granted at most once, after any history on any handler (`n` locations, IRQ handlers
    start disabled, CSR handlers enabled). -/
theorem loc_injective (n : Nat) (enabled : Bool) (ops : List (LocOp ν)) :
    let s := ({ nLocs := n, enabled := enabled } : LocH ν).run ops
    (s.locs.map (·.1)).Nodup ∧ (s.locs.map (·.2)).Nodup := by
  intro s
  have hi := LocH.run_inv ops (LocH.inv_empty (ν := ν) n enabled)
  exact ⟨hi.names_nodup, hi.locs_nodup⟩

/-- Every granted number lies in `[0, n_locs)`.  The model follows the code as it stands, which refuses
    `n >= self.n_locs`; with `n == n_locs` accepted the statement fails (finding C13-loc-eq-nlocs below). -/
theorem loc_in_range (n : Nat) (enabled : Bool) (ops : List (LocOp ν)) :
    let s := ({ nLocs := n, enabled := enabled } : LocH ν).run ops
    ∀ p ∈ s.locs, 0 ≤ p.2 ∧ p.2 < (n : Int) :=
  (LocH.run_inv ops (LocH.inv_empty (ν := ν) n enabled)).in_range

/-- Non-vacuity and the fixed finding C13-loc-eq-nlocs: on a 32-entry handler, `31` and an automatic location are
    granted; `n = n_locs = 32`, `33`, `-1`, a used number and a used name are all rejected. -/
example :
    (({ nLocs := 32 } : LocH Nat).run
      [.add 1 (some 31) false, .add 2 none false, .add 3 (some 32) false, .add 4 (some 33) false,
       .add 5 (some (-1)) false, .add 6 (some 31) false, .add 1 (some 7) false, .add 1 (some 7) true]).locs
    = [(1, 31), (2, 0)] := by decide +kernel

example : ({ nLocs := 32 } : LocH Nat).add 7 (some 32) false = .error .tooHigh := by decide +kernel

example : (csrHandler Nat 32 14 32 0x800).map (·.nLocs) = .ok 32 := by decide +kernel

/-- The same with `reserved_csrs` / `reserved_irqs` passed to the constructor: whatever handler the constructor
    returns for a reserved list, after any further history names and numbers are unique and in `[0, n_locs)`. -/
theorem loc_unique_in_range_with_reserved (n : Nat) (enabled : Bool) (reserved : List (ν × Int)) (h : LocH ν)
    (ops : List (LocOp ν)) (hh : ({ nLocs := n, enabled := enabled } : LocH ν).addAll reserved = .ok h) :
    let s := h.run ops
    (s.locs.map (·.1)).Nodup ∧ (s.locs.map (·.2)).Nodup ∧ ∀ p ∈ s.locs, 0 ≤ p.2 ∧ p.2 < (n : Int) := by
  intro s
  have hi := LocH.run_inv ops (LocH.addAll_inv reserved (LocH.inv_empty (ν := ν) n enabled) hh)
  exact ⟨hi.names_nodup, hi.locs_nodup, hi.in_range⟩

/-- Non-vacuity: reserved CSR pages are honoured; a reserved page `n_locs` makes the constructor fail; a
    non-empty `reserved_irqs` always fails (added while the handler is disabled). -/
example :
    ((csrHandlerR Nat 32 14 32 0x800 [(1, 3), (2, 0)]).map fun h => (h.run [.add 5 none false, .add 6 (some 3) false]).locs)
      = .ok [(1, 3), (2, 0), (5, 1)] ∧
    (csrHandlerR Nat 32 14 32 0x800 [(1, 32)]) = .error .tooHigh ∧
    (irqHandlerR Nat 32 [(1, 3)]) = .error .disabled := by decide +kernel

omit [DecidableEq ν] in
/-- The two concrete handlers are instances: a successfully constructed CSR/IRQ handler is empty, with
    `n_locs = alignment/8·2^address_width/paging` resp. `n_irqs ≤ 32`. -/
theorem handlers_start_empty (dwid awid al pg nIrqs : Nat) (h : LocH ν) :
    (csrHandler ν dwid awid al pg = .ok h → h = { nLocs := al / 8 * 2 ^ awid / pg, enabled := true }) ∧
    (irqHandler ν nIrqs = .ok h → h = { nLocs := nIrqs, enabled := false } ∧ nIrqs ≤ 32) := by
  constructor
  · intro hh
    simp only [csrHandler, ite_error_eq_ok] at hh
    exact (Except.ok.inj hh.2.2.2.2.2).symm
  · intro hh
    rw [irqHandler, ite_error_eq_ok] at hh
    exact ⟨(Except.ok.inj hh.2).symm, Nat.le_of_not_lt hh.1⟩


omit [DecidableEq ν] in
/-- Page arithmetic with the real formulas: `n_locs = alignment//8 * 2**address_width // paging` (alignment 32)
    pages of `paging` bytes starting at `csr_base` all lie inside `[csr_base, csr_base + 2**(address_width+2))`,
    the extent of the `csr` bus region — for every paging (no divisibility needed) and address width. -/
theorem csr_page_inside_csr_region (awid pg base k x : Nat) (hk : k < 32 / 8 * 2 ^ awid / pg)
    (hx0 : base + pg * k ≤ x) (hx1 : x < base + pg * (k + 1)) :
    (csrRegion base awid).InExtent x ∧ (csrRegion base awid).InWindow x := by
  have hend : pg * (k + 1) ≤ 2 ^ (awid + 2) := by
    have := succ_mul_le_of_lt_div hk
    rwa [Nat.mul_comm, show 32 / 8 * 2 ^ awid = 2 ^ (awid + 2) by rw [Nat.pow_add, Nat.mul_comm]] at this
  have hlo : base ≤ x := Nat.le_trans (Nat.le_add_right _ _) hx0
  have hhi : x < base + 2 ^ (awid + 2) := Nat.lt_of_lt_of_le hx1 (Nat.add_le_add_left hend _)
  exact ⟨⟨hlo, hhi⟩, Region.InExtent.inWindow ⟨hlo, hhi⟩⟩

/-- Every page granted by a CSR handler — any data width 8/32, address width 14..18, paging, `reserved_csrs`,
    any history of `add` / `address_map` requests with fixed, automatic and boundary locations — lies inside
    the `csr` bus region of `add_csr_bridge`, hence is reachable through the `csr` slave. -/
theorem csr_pages_inside_bus_region (dwid awid pg base : Nat) (reserved : List (ν × Int)) (h : LocH ν)
    (ops : List (LocOp ν)) (hh : csrHandlerR ν dwid awid 32 pg reserved = .ok h) :
    ∀ p ∈ (h.run ops).locs, ∃ k : Nat, p.2 = (k : Int) ∧
      ∀ x, base + pg * k ≤ x → x < base + pg * (k + 1) → (csrRegion base awid).InExtent x := by
  unfold csrHandlerR at hh
  cases h0e : csrHandler ν dwid awid 32 pg with
  | error e => simp [h0e] at hh
  | ok h0 =>
    simp only [h0e] at hh
    have e0 := (handlers_start_empty dwid awid 32 pg 0 h0).1 h0e
    subst e0
    obtain ⟨_, _, hr⟩ := loc_unique_in_range_with_reserved (32 / 8 * 2 ^ awid / pg) true reserved h ops hh
    intro p hp
    obtain ⟨h0', h1'⟩ := hr p hp
    obtain ⟨k, hk⟩ := Int.eq_ofNat_of_zero_le h0'
    exact ⟨k, hk, fun x a b => (csr_page_inside_csr_region awid pg base k x (Int.ofNat_lt.1 (hk ▸ h1')) a b).1⟩

/-- … and in no other slave's region: in any bus built by any call history that contains the `csr` region of
    `add_csr_bridge`, no address of a grantable CSR page lies in the decoded window of another non-linker region
    (a slave requested inside the CSR window is refused). -/
theorem csr_pages_in_no_other_region [AutoNames ν] (aw dw : Nat) (ops : List (BusOp ν)) (awid pg base k x : Nat)
    (c n : ν) (r : Region) (hk : k < 32 / 8 * 2 ^ awid / pg) (hx0 : base + pg * k ≤ x) (hx1 : x < base + pg * (k + 1)) :
    let s := ({ aw := aw, dw := dw } : BusH ν).run ops
    (c, csrRegion base awid) ∈ s.regions → (n, r) ∈ s.regions → n ≠ c → r.linker = false → ¬ r.InWindow x := by
  intro s hc hn hne hl hin
  have hd := BusH.regions_winDisjoint (BusH.run_inv ops (BusH.inv_init aw dw)) hc hn (Ne.symm hne) rfl hl
  exact hd x ⟨(csr_page_inside_csr_region awid pg base k x hk hx0 hx1).2, hin⟩

/-- Non-vacuity on an 8-bit CSR bus (14-bit CSR address, paging 0x800: 32 pages in a 64 KiB window whatever the
    data width): page 31 is granted; with a RAM at `csr_base + 0x4000` — inside the window, though beyond the
    `2^14·8/8` bytes a window scaled by the data width would have — the `csr` slave of `add_csr_bridge` is refused at
    finalize; a RAM right behind the window is fine. -/
example :
    ((csrHandlerR Nat 8 14 32 0x800 [(1, 31)]).map fun h => (h.nLocs, h.locs)) = .ok (32, [(1, 31)]) ∧
    csrRegion 0xf0000000 14 = ⟨0xf0000000, 0x10000, false, false, true⟩ ∧
    (({ aw := 32, dw := 32 } : BusH Nat).verdicts (csrBus 0xf0000000 14 (some (0xf0004000, 0x1000))))
      = [none, none, some .overlap] ∧
    (({ aw := 32, dw := 32 } : BusH Nat).run (csrBus 0xe0000000 14 (some (0xe0010000, 0x1000)))).regionOf 0
      = some (csrRegion 0xe0000000 14) ∧
    (({ aw := 32, dw := 32 } : BusH Nat).verdicts (csrBus 0xe0000000 14 (some (0xe0010000, 0x1000))))
      = [none, none, none] := by decide +kernel

/-- Whatever CSR handler a design has built up (any `n_locs`, reserved pages, any history of location requests),
    whatever banks it contains (any register widths, any CSR data width, any paging): if the finalize step
    succeeds, every bank has its own page `0 ≤ k < n_locs`, its `simpleCount` 32-bit aligned locations fit in
    that page (`4·simpleCount ≤ paging`), its byte range lies inside the page, and the byte ranges of two
    different banks never intersect. -/
theorem bank_fits_page_after_finalize (n : Nat) (enabled : Bool) (ops : List (LocOp ν)) (paging dataWidth base : Nat)
    (banks : List (Bank ν)) (h' : LocH ν) (l : List (Bank ν × Int))
    (hfin : (({ nLocs := n, enabled := enabled } : LocH ν).run ops).finalizeBanks paging dataWidth banks = .ok (h', l)) :
    l.map (·.1) = banks ∧
    (∀ p ∈ l, 0 ≤ p.2 ∧ p.2 < (n : Int) ∧ 4 * simpleCount dataWidth p.1.widths ≤ paging ∧
      ∀ x, bankRange base paging dataWidth p x →
        (base : Int) + paging * p.2 ≤ x ∧ x < (base : Int) + paging * (p.2 + 1)) ∧
    (∀ p ∈ l, ∀ q ∈ l, p.1.name ≠ q.1.name → ∀ x, ¬ (bankRange base paging dataWidth p x ∧ bankRange base paging dataWidth q x)) := by
  obtain ⟨hscan, hfit⟩ := LocH.finalizeBanks_ok hfin
  obtain ⟨hi, _, hmem, hmap⟩ := LocH.scanBanks_spec banks (LocH.run_inv ops (LocH.inv_empty (ν := ν) n enabled)) hscan
  refine ⟨hmap, fun p hp => ?_, fun p hp q hq hne x ⟨hx, hy⟩ => ?_⟩
  · have hr := hi.in_range _ (hmem p hp)
    exact ⟨hr.1, hr.2, hfit p hp, fun x => bankRange_in_page (hfit p hp)⟩
  · -- locations are unique, so banks under different names sit on different pages
    exact pages_disjoint
      (fun e => hne (congrArg Prod.fst (eq_of_mem_of_nodup_map (·.2) hi.locs_nodup (hmem p hp) (hmem q hq) e)))
      (bankRange_in_page (hfit p hp) hx) (bankRange_in_page (hfit q hq) hy)

/-- Non-vacuity at the capacity boundary: 8-bit CSR bus, paging 0x400 (256 locations per page).  64
    32-bit registers (256 simple CSRs) are accepted; 65 of them (260 simple CSRs) are refused although
    `paging / (data_width/8) = 1024` would let them through; on a 32-bit bus 256 registers pass and 257 fail. -/
example :
    (match ({ nLocs := 64 } : LocH Nat).finalizeBanks 0x400 8 [⟨0, List.replicate 64 32⟩, ⟨1, [32, 8]⟩] with
     | .ok (_, l) => l.map (fun p => (p.1.name, p.2, simpleCount 8 p.1.widths)) | .error _ => [])
      = [(0, 0, 256), (1, 1, 5)] ∧
    (({ nLocs := 64 } : LocH Nat).finalizeBanks 0x400 8 [⟨0, List.replicate 65 32⟩, ⟨1, [32, 8]⟩]).toOption = none ∧
    (({ nLocs := 64 } : LocH Nat).finalizeBanks 0x400 32 [⟨0, List.replicate 256 32⟩]).toOption.isSome = true ∧
    (({ nLocs := 64 } : LocH Nat).finalizeBanks 0x400 32 [⟨0, List.replicate 257 32⟩]).toOption = none := by
  decide +kernel

/-- Table entries are conserved by every request/lookup history: what is available plus what has been granted is
    a permutation of the initial table plus all extensions (so that, for distinct entries, none is granted twice:
    `cm_granted_once`). -/
theorem cm_request_once (io : List Res) (ops : List CmOp) :
    let s := ({ available := io } : Cm).run ops
    (s.available ++ s.matched).Perm (io ++ Cm.extensions ops) := by
  intro s
  simpa using Cm.run_perm { available := io } ops

/-- With distinct table entries: no entry is granted twice and a granted entry is no longer available. -/
theorem cm_granted_once (io : List Res) (ops : List CmOp) (hnd : ((io ++ Cm.extensions ops).map (·.uid)).Nodup) :
    let s := ({ available := io } : Cm).run ops
    (s.matched.map (·.uid)).Nodup ∧ ∀ r ∈ s.matched, ∀ r' ∈ s.available, r.uid ≠ r'.uid := by
  intro s
  have hp := (cm_request_once io ops).map (·.uid)
  have hn := hp.nodup_iff.2 hnd
  rw [List.map_append, List.nodup_append] at hn
  refine ⟨hn.2.1, ?_⟩
  intro r hr r' hr' e
  exact hn.2.2 r'.uid (List.mem_map_of_mem hr') r.uid (List.mem_map_of_mem hr) e.symm

/-- A grant comes from `available`, carries the requested name/number, and ends up in `matched`. -/
theorem cm_request_grants_available (s s' : Cm) (name : Nat) (num : Option Nat) (loose : Bool) (r : Res)
    (h : s.request name num loose = .ok (s', some r)) :
    r ∈ s.available ∧ r.name = name ∧ (∀ k, num = some k → r.num = k) ∧
      s'.available = s.available.erase r ∧ s'.matched = s.matched ++ [r] := by
  rcases Cm.request_spec h with ⟨h1, _⟩ | ⟨r', h1, hm, hn, hk, ha, hma⟩
  · cases h1
  · injection h1 with h1
    subst h1
    exact ⟨hm, hn, hk, ha, hma⟩

/-- `lookup_request` only returns granted entries (and only existing subsignals of them). -/
theorem cm_lookup_only_matched (s : Cm) (name : Nat) (num sub : Option Nat) (loose : Bool) (r : Res) (sb : Option Nat)
    (h : s.lookup name num sub loose = .ok (some (r, sb))) :
    r ∈ s.matched ∧ r.name = name ∧ (∀ k, num = some k → r.num = k) ∧ (∀ x, sb = some x → x ∈ r.subs) := by
  obtain ⟨h1, h2, h3, _, h5⟩ := Cm.lookup_spec h
  exact ⟨h1, h2, h3, h5⟩

/-- `get_sig_constraints` emits each (entry, subsignal) key at most once. -/
theorem cm_constraints_once (io : List Res) (ops : List CmOp)
    (hnd : ((io ++ Cm.extensions ops).map (·.uid)).Nodup) (hsubs : ∀ r ∈ io ++ Cm.extensions ops, r.subs.Nodup) :
    (({ available := io } : Cm).run ops).sigConstraints.Nodup := by
  have hp := cm_request_once io ops
  refine Cm.sigConstraints_nodup _ (cm_granted_once io ops hnd).1 ?_
  intro r hr
  exact hsubs r (hp.subset (List.mem_append_right _ hr))

/-- No two live requests share a pin: whatever pins the IO table assigns to its (entry, subsignal) signals, if
    different signals of the table have disjoint pin sets, then after any request/lookup/extension history the
    constraints emitted by `get_sig_constraints` for two different granted signals never mention a common pin. -/
theorem cm_no_shared_pin (io : List Res) (ops : List CmOp) (pins : Nat × Option Nat → List Nat)
    (hnd : ((io ++ Cm.extensions ops).map (·.uid)).Nodup) (hsubs : ∀ r ∈ io ++ Cm.extensions ops, r.subs.Nodup)
    (hpins : ∀ k1 k2 : Nat × Option Nat, k1 ≠ k2 → ∀ p, ¬ (p ∈ pins k1 ∧ p ∈ pins k2)) :
    (({ available := io } : Cm).run ops).sigConstraints.Pairwise (fun k1 k2 => ∀ p, ¬ (p ∈ pins k1 ∧ p ∈ pins k2)) :=
  (cm_constraints_once io ops hnd hsubs).imp (fun {a b} hab => hpins a b hab)

/-- Isolation of manager instances: two managers built from the same io list (`ConstraintManager.__init__`
    copies it) never influence each other — after any interleaved history, each instance is in the state its own
    calls alone produce.  (Trivial for a functional model; the point is the tie: the harness builds several real
    managers/platforms from ONE list object and compares each with this model and with a manager built alone.) -/
theorem cm_instances_isolated (a b : Cm) (ops : List (Bool × CmOp)) :
    (Cm.run2 a b ops).1 = a.run (Cm.callsOn false ops) ∧ (Cm.run2 a b ops).2 = b.run (Cm.callsOn true ops) := by
  induction ops generalizing a b with
  | nil => exact ⟨rfl, rfl⟩
  | cons t ops ih =>
    obtain ⟨i, op⟩ := t
    cases i with
    | true => exact ih a (b.apply op).1
    | false => exact ih (a.apply op).1 b

/-- Non-vacuity: the board-file scenario — the first platform extends its table and requests, the second one,
    built afterwards from the same list, still sees exactly the original table. -/
example :
    let io : List Res := [⟨0, 1, 0, []⟩, ⟨1, 1, 1, []⟩]
    let ops : List (Bool × CmOp) := [(false, .extend [⟨7, 1, 0, []⟩] false), (false, .request 1 (some 0) false),
      (true, .request 1 (some 0) false), (true, .request 1 (some 0) false)]
    ((Cm.run2 { available := io } { available := io } ops).1.available.map (·.uid),
     (Cm.run2 { available := io } { available := io } ops).2.available.map (·.uid),
     (Cm.run2 { available := io } { available := io } ops).2.matched.map (·.uid)) = ([1, 7], [1], [0]) := by
  decide +kernel

/-- Non-vacuity: a table with a duplicate-free `led` bank and a record resource; double requests fail, the
    loose one returns nothing, `request_all` takes what is left, lookups see only granted entries. -/
example :
    let io : List Res := [⟨0, 1, 0, []⟩, ⟨1, 1, 1, []⟩, ⟨2, 1, 2, []⟩, ⟨3, 3, 0, [5, 6]⟩]
    let ops : List CmOp := [.request 1 (some 1) false, .request 1 (some 1) false, .request 1 (some 1) true,
      .lookup 3 none none true, .request 3 none false, .lookup 3 (some 0) (some 6) false, .requestRemaining 1]
    (({ available := io } : Cm).outs ops).map (fun o => match o with
        | .granted l => l.map (·.uid) | .found r _ => [r.uid] | _ => [])
      = [[1], [], [], [], [3], [3], [0, 2]] ∧
    (({ available := io } : Cm).run ops).available = [] ∧
    (({ available := io } : Cm).run ops).sigConstraints = [(1, none), (3, some 5), (3, some 6), (0, none), (2, none)] := by
  decide +kernel

end Litex.C13
