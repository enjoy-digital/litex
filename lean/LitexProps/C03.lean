import LitexProofs.Stream.Basic
import LitexProofs.Stream.Conv
import LitexProofs.Stream.Pipe
import LitexProofs.Stream.Route
import LitexProofs.Stream.Gearbox
import LitexModel.Stream.NumG
import LitexProofs.Stream.Layout
import LitexProofs.Stream.Stride
import LitexProofs.Stream.Cast
import LitexProofs.Stream.Glue
import LitexProofs.Stream.Fields
/-
  INVENTORY of the anchored code (`litex/soc/interconnect/stream.py`, every class / function).
  Tie: A = exhaustive co-exploration of the reachable real-code × model product (small parameters, listed),
       B = seeded lock-step co-simulation (large parameters), C = Python-level call comparison, — = not tied.
  Models: LitexModel/Stream/{Basic,Conv,Gearbox,Route,Pipe,NumG,Glue}.lean; driver: LitexModel/Stream/{Open,Open2}.lean.

  code                              | model                          | theorems (this file)                          | tie
  ----------------------------------+--------------------------------+-----------------------------------------------+-----------------------------
  _make_m2s, set_reset_less,        | not modelled (record plumbing; | —                                             | indirectly: every instance is
   EndpointDescription, Endpoint    |  field order = numeric packing)|                                               |  driven through these records
  _rawbits_layout                   | castFn on one-field layouts    | cast_token_rel                                | A Cast(int layouts) ×2, B ×1
  pack_layout                       | chunk order of encUp/decDown   | pack_field_rel, unpack_field_rel              | A/B through Pack/Unpack
  get_endpoints, get_single_ep      | not modelled (unused helpers)  | —                                             | —
  BinaryActor, CombinatorialActor   | mapElem (control of Cast)      | cast_token_rel                                | A, B (Cast)
  PipelinedActor(latency)           | pipeActor L                    | pipelinedActor_token_rel (all L)              | A L=0..4, B L=1,5 (`busy` output not compared)
  _FIFOWrapper                      | syncFifo, syncFifoBuffered     | syncFifo_token_rel, syncFifoBuffered_token_rel| A, B (word packing = packed data number)
  SyncFIFO(depth, buffered)         | syncFifoStages + stages        | streamSyncFifo_token_rel (all depth, buffered) | A depth 0,1,2,3,5 × buffered (+4,6,7 thorough), B 5..64,
                                    |                                |                                               |  C structure (which sub-blocks exist); `level` by monitor
  AsyncFIFO, ClockDomainCrossing    | property C05                   | (C05)                                         | (C05)
   (cd_from ≠ cd_to)                |                                |                                               |
  ClockDomainCrossing(same domain)  | cdcSameStages                  | cdcSame_token_rel                             | A buffered / not, B
  Multiplexer(n), Demultiplexer(n)  | muxOut, demuxOut, selWidth     | mux_token_rel, demux_token_rel, selWidth_spec | A n=1,2,3 (direct, with_csr, via Crossbar), n=2,3 selector
                                    |                                |                                               |  beyond its width; B n=3,5,6,9; C selector width n=1..69
  Crossbar(n)                       | crossbar                       | crossbar_token_rel                            | A n=2,3, B n=5
  Gate(sink_ready_when_disabled)    | gate                           | gate_token_rel                                | A both settings, B
  _UpConverter(ratio, reverse)      | upConv + encUp                 | upConv_token_rel, upConv_no_loss_dup_reorder, | A ratio 2..6 ± reverse, B 2..16
                                    |                                |  upconv_layout, pack_field_rel (count)        |
  _DownConverter(ratio, reverse)    | downConv, downConvV + decDown  | downConv_token_rel_partial (+ witness),       | A ratio 2..6 ± reverse, B 2..16
                                    |                                |  downConv_vtc, unpack_field_rel               |
  _IdentityConverter                | downConvV 1 (count ≡ 1)        | downConv_vtc (r = 1), wire_token_rel          | A
  _get_converter_ratio              | converterKind                  | converter_selection (all widths)              | C exhaustive widths 1..40 (1..96 thorough) incl. ValueError
  Converter(reverse, report_vtc)    | converterOpen                  | converter_selection + element theorems        | A 10 (up/down/identity × count port), B 4; C constructor
  StrideConverter(reverse)          | strideUp, strideOut, strideIn  | strideUp_token_rel, strideUp_field_rel,       | A ratio 2,3 ± reverse + identity path, B ratio 2..8
                                    |                                |  strideDown_field_rel, stride_map_bijective,  |
                                    |                                |  stride_map_fields                            |
  lcm, inc_mod                      | ioLcm, incMod                  | ioLcm_spec                                    | through Gearbox
  Gearbox(i, o, msb_first)          | gearbox (ioLcm i o)            | gearbox_bits_rel, gearbox_prefix,             | A (i,o) ∈ {1..4}² ± msb_first, B 13 width pairs
                                    |                                |  gearbox_no_deadlock, gearbox_token_rel       |
  Shifter(dw, shift)                | shifter                        | shifter_token_rel, shifter_window             | A dw 2,3 (own / external shift), B 8,32,64
  Monitor (clock_domain = "sys")    | monCounterNext, monitor        | monitor_counter_spec, monitor_counts,         | A w=1,2 (single / paired counters, logic and CSR strobes),
                                    |                                |  monitor_counts_tokens                        |  B w=3,8,32 all four counters; other domains: C05
  PipeValid, PipeReady              | pipeValid, pipeReady           | pipeValid_token_rel, pipeReady_token_rel, …   | A, B 32..128 bit
  Buffer(pipe_valid, pipe_ready)    | bufferStages + stages          | buffer_token_rel (all four), bufferVR_…       | A all four combinations, B
  Delay(n)                          | delay n, delayStages n         | delay_token_rel, delayStages_token_rel (all n)| A n=0..3, B 2,3,5
  Cast(reverse_from, reverse_to)    | castFn                         | cast_token_rel, cast_identity, cast_inverse,  | A all four flag combinations, B 4
                                    |                                |  cast_bijective                               |
  Unpack(n, reverse)                | downConv + decDown             | downConv_token_rel_partial, unpack_field_rel, | A n=2..6, multi-field [1,2] n=3, [2,1]+param n=2; B n=2..8
                                    |                                |  unpack_pack_field_roundtrip                  |
  Pack(n, reverse)                  | upConv + encUp                 | upConv_token_rel, pack_field_rel              | A n=2..6, multi-field [1,2] n=3, [2,1]+param n=2; B n=3..8
  Pipeline(*modules)                | stages l, Elem.comp            | stages_token_rel (all stage lists),           | A 8 heterogeneous lists (12 thorough), B 3 long lists;
                                    |                                |  stages_no_loss_dup_reorder, pipeline_token_rel|  `Pipeline.add` / deferred finalize: —
  BufferizeEndpoints(dict, pv, pr)  | bufferize                      | bufferize_token_rel (any element),            | A sink / source / both × v / r / vr around _UpConverter, Pack,
                                    |                                |  bufferizeUp_token_rel, bufferizedUp_token_rel|  _DownConverter, Unpack; B 6
  Endpoint.connect(omit / keep)     | Migen `Record.connect`, run,   | —                                             | the omit sets used here (PipeReady {ready}, Converter
                                    |  not modelled                  |                                               |  {valid_token_count}) through those elements
-/
/-
  C03 — Stream elements deliver each token exactly once, in order, rightly transformed.

  Every theorem quantifies over `ins : List (In α)`: an arbitrary cycle-by-cycle choice of sink.valid, the
  token on the sink (garbage allowed while valid = 0) and source.ready — i.e. every valid/ready schedule and
  every token sequence.  `accepted`/`delivered` are the tokens transferred at the sink/source by handshake.
-/
namespace Litex.C03
open Litex.Stream Litex.Stream.Elem
variable {α β π : Type}

/-- PipeValid: accepted = delivered ++ (token held in the output register). -/
theorem pipeValid_token_rel (z : Tok α) (ins : List (In α)) :
    (pipeValid z).accepted (pipeValid z).init ins =
      (pipeValid z).delivered (pipeValid z).init ins ++ ((pipeValid z).runFrom (pipeValid z).init ins).inflight :=
  ((pipeValid_queue z).token_rel ins).1

/-- PipeValid never loses, duplicates or reorders: what was delivered is a prefix of what was accepted, and at
    most one token is in flight. -/
theorem pipeValid_no_loss_dup_reorder (z : Tok α) (ins : List (In α)) :
    (pipeValid z).delivered (pipeValid z).init ins <+: (pipeValid z).accepted (pipeValid z).init ins ∧
    ((pipeValid z).accepted (pipeValid z).init ins).length ≤
      ((pipeValid z).delivered (pipeValid z).init ins).length + 1 :=
  (pipeValid_queue z).no_loss ins

/-- PipeReady: accepted = delivered ++ (token parked in the skid register). -/
theorem pipeReady_token_rel (z : Tok α) (ins : List (In α)) :
    (pipeReady z).accepted (pipeReady z).init ins =
      (pipeReady z).delivered (pipeReady z).init ins ++ ((pipeReady z).runFrom (pipeReady z).init ins).inflight :=
  ((pipeReady_queue z).token_rel ins).1

/-- A wire (depth-0 FIFO, `Endpoint.connect`) delivers exactly what it accepts. -/
theorem wire_token_rel (ins : List (In α)) :
    (wire (α := α)).accepted () ins = (wire (α := α)).delivered () ins :=
  ((wire_queue (α := α)).token_rel ins).1.trans (List.append_nil _)

/-- SyncFIFO (any depth): accepted = delivered ++ queue content, and the queue never exceeds `depth`. -/
theorem syncFifo_token_rel (depth : Nat) (z : Tok α) (ins : List (In α)) :
    (syncFifo depth z).accepted [] ins =
      (syncFifo depth z).delivered [] ins ++ (syncFifo depth z).runFrom [] ins ∧
    ((syncFifo depth z).runFrom [] ins).length ≤ depth :=
  have h := (syncFifo_queue depth z).token_rel ins
  ⟨h.1, h.2.1⟩

/-- `Buffer(pipe_valid=True, pipe_ready=True)` = PipeValid ⟫ PipeReady: the composed history relation. -/
theorem bufferVR_token_rel (z : Tok α) (ins : List (In α)) :
    ∃ mid,
      (bufferVR z).accepted (bufferVR z).init ins = mid ++ ((bufferVR z).runFrom (bufferVR z).init ins).1.inflight ∧
      mid = (bufferVR z).delivered (bufferVR z).init ins ++ ((bufferVR z).runFrom (bufferVR z).init ins).2.inflight :=
  ⟨_, (List.append_assoc ..).symm ▸ (((pipeValid_queue z).comp (pipeReady_queue z)).token_rel ins).1, rfl⟩

/-! Non-vacuity: a concrete schedule on which tokens really move (two tokens accepted, one delivered,
    one in flight). -/
example :
    let z : Tok Nat := ⟨0, false, false⟩
    let ins : List (In Nat) := [⟨true, ⟨5, true, false⟩, false⟩, ⟨true, ⟨6, false, true⟩, true⟩, ⟨false, ⟨9, true, true⟩, false⟩]
    (pipeValid z).accepted (pipeValid z).init ins = [⟨5, true, false⟩, ⟨6, false, true⟩] ∧
    (pipeValid z).delivered (pipeValid z).init ins = [⟨5, true, false⟩] := by decide

/-- SyncFIFO(buffered=True), any depth: accepted = delivered ++ output register ++ inner queue, and the inner queue
    never exceeds `depth` (so at most `depth + 1` tokens are in flight). -/
theorem syncFifoBuffered_token_rel (depth : Nat) (z : Tok α) (ins : List (In α)) :
    let e := syncFifoBuffered depth z
    e.accepted e.init ins = e.delivered e.init ins ++ (e.runFrom e.init ins).inflight ∧
    (e.runFrom e.init ins).q.length ≤ depth :=
  have h := (syncFifoBuffered_queue depth z).token_rel ins
  ⟨h.1, h.2.2.1⟩

/-! ### Up-converting elements: `_UpConverter`, `Converter` (up), `Pack`, `StrideConverter` (up)

  Documented function = greedy chunking (`chunks r`: cut after `r` sub-words or after a sub-word with `last`);
  a chunk becomes the word `wordOf`: lanes = the payloads in order, param = the last sub-word's param, first/last
  OR-accumulated.  `upView` is the specified part of a delivered word: the first `valid_token_count` lanes
  (lanes beyond it keep stale data, documented), param, first, last. -/

/-- The chunking specification itself loses and reorders nothing and cuts only where documented. -/
theorem chunks_spec_sound (r : Nat) (hr : 0 < r) (ts : List (Tok α)) :
    (chunks r ts).flatten ++ chunkRest r ts = ts ∧
    (∀ c ∈ chunks r ts, ChunkOk r c) ∧ (chunkRest r ts).length < r ∧ ∀ t ∈ chunkRest r ts, t.last = false :=
  ⟨chunks_flatten r ts, chunks_shape r hr ts⟩

/-- `_UpConverter(ratio = r)` / `Pack(n = r)`, every schedule, every token sequence (early `last` included):
    the words of the complete chunks of the accepted sub-words = the delivered words ++ the word waiting in the
    output register. -/
theorem upConv_token_rel (r : Nat) (hr : 0 < r) (z : α) (p0 : π) (ins : List (In (α × π))) :
    let e := upConv r z p0
    (chunks r (e.accepted e.init ins)).map (wordOf p0) =
      (e.delivered e.init ins).map upView ++ (e.runFrom e.init ins).inflight :=
  (upConv_run r hr z p0 ins).1

/-- No word is lost, duplicated, reordered or altered: the delivered words are a prefix of the specified words and
    at most one complete word waits inside; the sub-words not yet in a delivered or waiting word are exactly the
    `demux` sub-words of the current partial chunk. -/
theorem upConv_no_loss_dup_reorder (r : Nat) (hr : 0 < r) (z : α) (p0 : π) (ins : List (In (α × π))) :
    let e := upConv r z p0
    (e.delivered e.init ins).map upView <+: (chunks r (e.accepted e.init ins)).map (wordOf p0) ∧
    (chunks r (e.accepted e.init ins)).length ≤ (e.delivered e.init ins).length + 1 ∧
    (e.runFrom e.init ins).demux = (chunkRest r (e.accepted e.init ins)).length := by
  have h := upConv_run r hr z p0 ins
  refine ⟨?_, ?_, h.2.1⟩
  · rw [h.1]; exact List.prefix_append _ _
  · have := congrArg List.length h.1
    simp only [List.length_map, List.length_append, UpState.inflight] at this
    split at this <;> simp at this <;> omega

/-- `StrideConverter` (up-converting): same relation, params included — the param register kept
    beside the converter behaves like the one inside `Pack`. -/
theorem strideUp_token_rel (r : Nat) (hr : 0 < r) (z : α) (p0 : π) (ins : List (In (α × π))) :
    let e := strideUp r z p0
    (chunks r (e.accepted e.init ins)).map (wordOf p0) =
      (e.delivered e.init ins).map upView ++ (strideUpMap (e.runFrom e.init ins)).inflight := by
  obtain ⟨h1, h2, h3⟩ := strideUp_sim r z p0 ins
  simp only [h1, h2, h3]
  exact upConv_token_rel r hr z p0 ins

/-! ### Down-converting elements: `_DownConverter`, `Converter` (down), `Unpack`, `StrideConverter` (down)

  These read the sink combinationally `r` times before accepting it, so the token relation needs the producer
  contract of the stream protocol (`Elem.Held`: a token offered and not accepted is offered again unchanged).

  Full statement (false without the contract, see the witness below):
    ∀ ins, delivered ins = (accepted ins).flatMap (splitTok r z) ++ lanes already delivered of the held token -/

/-- Under the producer contract: delivered = all lanes of every accepted token, in order, followed by the first
    `mux` lanes of the token currently held on the sink. -/
theorem downConv_token_rel_partial (r : Nat) (hr : 0 < r) (z : α) (ins : List (In (List α × π)))
    (hheld : (downConv (π := π) r z).Held (downConv (π := π) r z).init none ins) :
    let e := downConv (π := π) r z
    e.delivered e.init ins =
      (e.accepted e.init ins).flatMap (splitTok r z) ++
        downPart r z (e.runFrom e.init ins) (e.oblAfter e.init none ins) ∧
    e.runFrom e.init ins < r :=
  let h := rel_run_held_init (downConv r z) (downRel r z)
    ⟨by simpa [downConv] using hr, by simp [downConv], by simp [downPart]⟩
    (fun s p a d i h hm => downConv_step r z s p a d i h hm) ins hheld
  ⟨h.2.2, h.1⟩

/-- Negative witness for the full statement: a producer that swaps its token in the middle of a word (ratio 2:
    `[1,2]` offered, lane 0 taken, then `[3,4]` offered and accepted) gets `1,4` delivered, not the lanes of the
    accepted token. -/
example :
    let e := downConv (α := Nat) (π := Unit) 2 0
    let ins : List (In (List Nat × Unit)) :=
      [⟨true, ⟨([1, 2], ()), false, false⟩, true⟩, ⟨true, ⟨([3, 4], ()), false, false⟩, true⟩]
    e.delivered e.init ins ≠ (e.accepted e.init ins).flatMap (splitTok 2 0) := by decide

/-- `valid_token_count` of `_DownConverter` / `Converter(report_valid_token_count)` (model `downConvV` = `downConv`
    with every source token decorated by the count output), every schedule, no producer contract needed: the
    decorated element accepts and delivers exactly what `downConv` does, and the count is 1 on exactly every
    `r`-th delivered token (positions `r-1, 2r-1, …`), i.e. on the last lane of each group of `r` — which under
    the producer contract is the last lane of each accepted wide token (`downConv_token_rel_partial`). -/
theorem downConv_vtc (r : Nat) (hr : 0 < r) (z : α) (ins : List (In (List α × π))) :
    let e := downConvV (π := π) r z
    (e.delivered e.init ins).map (·.data.2) =
      (List.range (e.delivered e.init ins).length).map (fun p => decide (p % r + 1 = r)) ∧
    (e.delivered e.init ins).map (mapTok Prod.fst) = (downConv r z).delivered (downConv (π := π) r z).init ins ∧
    e.accepted e.init ins = (downConv r z).accepted (downConv (π := π) r z).init ins := by
  have h := rel_run_init (downConvV (π := π) r z) (downVtcRel r)
    ⟨by simpa [downConvV] using hr, by simp [downConvV], by simp⟩ (downConvV_step r z) ins
  have hs := sim_run (downConvV (π := π) r z) (downConv r z) id (mapTok Prod.fst) (fun _ => True)
    (fun _ _ _ => trivial) (fun _ _ _ _ => rfl) (fun _ _ _ _ _ => rfl) (fun _ _ _ _ _ => rfl) ins 0 trivial
  exact ⟨h.2.2, hs.2.1, hs.1⟩

/-! ### Gearbox

  Bits in stream order.  `L` is the register size; the constructor's `io_lcm` (`ioLcm`) satisfies the side
  conditions (`ioLcm_spec`). -/

/-- `io_lcm` is a common multiple of both widths and holds at least two words of each side. -/
theorem ioLcm_spec (i o : Nat) (hi : 0 < i) (ho : 0 < o) :
    i ∣ ioLcm i o ∧ o ∣ ioLcm i o ∧ 2 * i ≤ ioLcm i o ∧ 2 * o ≤ ioLcm i o :=
  ioLcm_facts i o hi ho

/-- Gearbox, every schedule: the accepted bit stream = the delivered bit stream ++ the `level` bits held in the
    circular register (so the delivered bits are a prefix of the accepted bits: nothing lost, duplicated,
    reordered or altered), together with the level invariant
    `(o·o_count + level) mod L = i·i_count`, `level < L`, counters in range. -/
theorem gearbox_bits_rel (L i o : Nat) (hi : 0 < i) (ho : 0 < o) (hiL : i ∣ L) (hoL : o ∣ L) (hL : 0 < L)
    (z : α) (ins : List (In (List α))) :
    let e := gearbox L i o z
    let s := e.runFrom e.init ins
    bitsIn i z (e.accepted e.init ins) = bitsOut (e.delivered e.init ins) ++ inflightOf L z s.sr (o * s.ocount) s.level ∧
    (inflightOf L z s.sr (o * s.ocount) s.level).length = s.level ∧
    s.level < L ∧ (o * s.ocount + s.level) % L = i * s.icount ∧ s.icount < L / i ∧ s.ocount < L / o := by
  have h := rel_run_init (gearbox L i o z) (gbRel L i o z) (gbRel_init L i o hi ho hiL hoL hL z)
    (gearbox_step L i o hi ho hiL hoL z) ins
  obtain ⟨h1, h2, h3, h4, h5, h6⟩ := h
  exact ⟨h6, inflightOf_length .., h4, h5, h2, h3⟩

theorem gearbox_prefix (L i o : Nat) (hi : 0 < i) (ho : 0 < o) (hiL : i ∣ L) (hoL : o ∣ L) (hL : 0 < L)
    (z : α) (ins : List (In (List α))) :
    let e := gearbox L i o z
    bitsOut (e.delivered e.init ins) <+: bitsIn i z (e.accepted e.init ins) := by
  have h := (gearbox_bits_rel L i o hi ho hiL hoL hL z ins).1
  simp only at h ⊢
  rw [h]
  exact List.prefix_append _ _

/-- No deadlock: whenever the register holds at least one word of each side (`i + o ≤ L`, guaranteed by
    `ioLcm_spec`), in every state the sink is ready or the source is valid. -/
theorem gearbox_no_deadlock (L i o : Nat) (hio : i + o ≤ L) (z : α) (s : GbState α) (x : In (List α)) :
    ((gearbox L i o z).out s x).ready = true ∨ ((gearbox L i o z).out s x).valid = true := by
  simp only [gearbox, Elem.out, decide_eq_true_eq]
  omega

/-- The gearbox as constructed (`L = io_lcm(i, o)`), any widths `i, o ≥ 1`: delivered bits are a prefix of the
    accepted bits, at most `L - 1` bits are in flight, and it never blocks both sides. -/
theorem gearbox_token_rel (i o : Nat) (hi : 0 < i) (ho : 0 < o) (z : α) (ins : List (In (List α))) :
    let e := gearbox (ioLcm i o) i o z
    bitsOut (e.delivered e.init ins) <+: bitsIn i z (e.accepted e.init ins) ∧
    (bitsIn i z (e.accepted e.init ins)).length < (bitsOut (e.delivered e.init ins)).length + ioLcm i o ∧
    ∀ s x, (e.out s x).ready = true ∨ (e.out s x).valid = true := by
  obtain ⟨h1, h2, h3, h4⟩ := ioLcm_spec i o hi ho
  have hL : 0 < ioLcm i o := by omega
  have hrel := gearbox_bits_rel (ioLcm i o) i o hi ho h1 h2 hL z ins
  refine ⟨gearbox_prefix (ioLcm i o) i o hi ho h1 h2 hL z ins, ?_, fun s x => gearbox_no_deadlock _ i o (by omega) z s x⟩
  simp only at hrel ⊢
  rw [hrel.1, List.length_append, hrel.2.1]
  omega

/-- Multiplexer(n), every input sequence (selector changes included): what the source delivers is, cycle by cycle,
    what the selected sink accepts; a sink accepts only in cycles in which it is selected. -/
theorem mux_token_rel (n : Nat) (z : Tok α) (ins : List (MuxIn α)) :
    ins.flatMap (muxDel n z) = ins.flatMap (fun i => muxAccAt n z i.sel i) ∧
    ∀ k, ins.flatMap (muxAccAt n z k) = (ins.filter (·.sel == k)).flatMap (muxDel n z) :=
  ⟨by rw [show muxDel n z = fun i => muxAccAt n z i.sel i from funext (mux_cycle_sel n z)],
   flatMap_filter_sel MuxIn.sel (muxDel n z) (muxAccAt n z) (fun i => (mux_cycle_sel n z i).symm) (mux_cycle_other n z) ins⟩

/-- Demultiplexer(n): what the sink hands over is, cycle by cycle, what the selected source delivers; a source
    delivers only in cycles in which it is selected. -/
theorem demux_token_rel (n : Nat) (z : Tok α) (ins : List (DemuxIn α)) :
    ins.flatMap (demuxAcc n z) = ins.flatMap (fun i => demuxDelAt n z i.sel i) ∧
    ∀ k, ins.flatMap (demuxDelAt n z k) = (ins.filter (·.sel == k)).flatMap (demuxAcc n z) :=
  ⟨by rw [show demuxAcc n z = fun i => demuxDelAt n z i.sel i from funext fun i => (demux_cycle_sel n z i).symm],
   flatMap_filter_sel DemuxIn.sel (demuxAcc n z) (demuxDelAt n z) (demux_cycle_sel n z) (demux_cycle_other n z) ins⟩

/-- Gate: delivered = the tokens accepted while `enable` was set (payload unchanged); without
    `sink_ready_when_disabled` no token is ever accepted while disabled, i.e. nothing is dropped. -/
theorem gate_token_rel (srd : Bool) (z : α) (ins : List (In (α × Bool))) :
    let e := gate srd z
    e.delivered () ins = ((e.accepted () ins).filter (·.data.2)).map (mapTok (·.1)) ∧
    (srd = false → e.delivered () ins = (e.accepted () ins).map (mapTok (·.1))) := by
  have h := rel_run_init (gate srd z) (gateRel srd) ⟨rfl, by simp⟩ (gate_step srd z) ins
  refine ⟨h.1, fun hs => ?_⟩
  have hall := h.2 hs
  rw [h.1, List.filter_eq_self.mpr hall]

/-- Cast (any combinational re-labelling `f` of the data): delivered = accepted with `f` applied. -/
theorem cast_token_rel (f : α → β) (ins : List (In α)) :
    (mapElem f).delivered () ins = ((mapElem f).accepted () ins).map (mapTok f) :=
  rel_run_init (mapElem f) (mapRel f) rfl (mapElem_step f) ins

/-- Delay(n) for every `n` (a `Pipeline` of `n` `Buffer(pipe_valid)` stages; `n = 0` is a wire): accepted =
    delivered ++ at most `n` tokens in flight. -/
theorem delay_token_rel (z : Tok α) (n : Nat) (ins : List (In α)) :
    ∃ fl, (delay z n).accepted (delay z n).init ins = (delay z n).delivered (delay z n).init ins ++ fl ∧
      fl.length ≤ n :=
  have h := (delay_queue z n).token_rel ins
  ⟨_, h.1, h.2.1⟩

/-- Pipeline of any two elements with identity-like relations `accepted = delivered ++ fl`, `|fl| ≤ cap`:
    the composition has the same relation with capacity `capA + capB`. -/
theorem pipeline_token_rel {σ τ : Type} (ea : Elem α α σ) (eb : Elem α α τ) (ca cb : Nat)
    (Ra : σ → List (Tok α) → List (Tok α) → Prop) (Rb : τ → List (Tok α) → List (Tok α) → Prop)
    (ha0 : Ra ea.init [] []) (hb0 : Rb eb.init [] [])
    (ha : ∀ s x d i, Ra s x d → Ra (ea.step s i) (x ++ ea.accNow s i) (d ++ ea.delNow s i))
    (hb : ∀ s x d i, Rb s x d → Rb (eb.step s i) (x ++ eb.accNow s i) (d ++ eb.delNow s i))
    (hca : ∀ s x d, Ra s x d → ∃ fl, x = d ++ fl ∧ fl.length ≤ ca)
    (hcb : ∀ s x d, Rb s x d → ∃ fl, x = d ++ fl ∧ fl.length ≤ cb)
    (ins : List (In α)) :
    ∃ fl, (ea.comp eb).accepted (ea.comp eb).init ins = (ea.comp eb).delivered (ea.comp eb).init ins ++ fl ∧
      fl.length ≤ ca + cb := by
  obtain ⟨mid, h1, h2⟩ := rel_run_init (ea.comp eb) (fun s x d => ∃ mid, Ra s.1 x mid ∧ Rb s.2 mid d)
    ⟨[], ha0, hb0⟩ (comp_rel ea eb Ra Rb ha hb) ins
  obtain ⟨fa, hfa, hla⟩ := hca _ _ _ h1
  obtain ⟨fb, hfb, hlb⟩ := hcb _ _ _ h2
  exact ⟨fb ++ fa, by rw [hfa, hfb, List.append_assoc], by simp; omega⟩

/-- BufferizeEndpoints (sink and source buffered) around an `_UpConverter`: PipeValid ⟫ upConv ⟫ PipeValid.
    The chunk words of what the outer sink accepted, minus what still sits in the sink buffer, = delivered words
    ++ source buffer ++ converter output register. -/
theorem bufferizedUp_token_rel (r : Nat) (hr : 0 < r) (ins : List (In (Nat × Nat))) :
    let e := bufferizedUp r
    let s := e.runFrom e.init ins
    ∃ mid1 mid2,
      e.accepted e.init ins = mid1 ++ s.1.inflight ∧
      (chunks r mid1).map (wordOf 0) = mid2.map upView ++ s.2.1.inflight ∧
      mid2 = e.delivered e.init ins ++ s.2.2.inflight := by
  obtain ⟨m1, ⟨_, h1⟩, m2, h2, _, h3⟩ := rel_run_init (bufferizedUp r) _
    ⟨[], ⟨trivial, rfl⟩, [], upRel_init r hr 0 0, trivial, rfl⟩
    (comp_rel _ ((upConv r 0 0).comp _) _ _ (pipeValid_queue _).rel
      (comp_rel (upConv r 0 0) _ (upRel r 0) _ (upConv_step r 0 0) (pipeValid_queue _).rel)) ins
  exact ⟨m1, m2, h1, h2.1, h3⟩

/-- Shifter, every schedule (and every `shift` value, changing freely): the accepted tokens (data truncated to
    `dw` bits) = `dpre` ++ the at most two tokens in the pipeline registers, where `dpre` corresponds one-to-one and
    in order to the delivered tokens: same first/last, data = the `dw`-bit window at `shift` over the token and
    whatever followed it on the sink (`ShiftOf`). -/
theorem shifter_token_rel (dw : Nat) (ins : List (In (Nat × Nat))) :
    let e := shifter dw
    ∃ dpre, (e.accepted e.init ins).map (shNorm dw) = dpre ++ (e.runFrom e.init ins).inflight ∧
      shList dw dpre (e.delivered e.init ins) ∧ dpre.length = (e.delivered e.init ins).length ∧
      (e.runFrom e.init ins).inflight.length ≤ 2 := by
  obtain ⟨dpre, h1, h2⟩ := rel_run_init (shifter dw) (shRel dw)
    ⟨[], by simp [shifter, ShState.inflight], trivial⟩ (shifter_step dw) ins
  refine ⟨dpre, h1, h2, shList_length dw _ _ h2, ?_⟩
  simp only [ShState.inflight, List.length_append]
  split <;> split <;> simp

/-- The window: with `shift = 0` it is the token itself; for any `shift < dw` its low `dw - shift` bits are bits
    `[shift, dw)` of the token. -/
theorem shifter_window (dw lo hi sh : Nat) (hsh : sh < dw) (hlo : lo < 2 ^ dw) :
    shOut dw lo hi 0 = lo ∧ shOut dw lo hi sh % 2 ^ (dw - sh) = lo / 2 ^ sh :=
  ⟨shOut_zero dw lo hi (by omega) hlo, shOut_low dw lo hi sh hsh hlo⟩

/-- In the word of an up-converter the bits of physical lane `n = reverse ? r-1-i : i` are sub-word `i`. -/
theorem upconv_layout (nb : Nat) (rev : Bool) (lanes : List Nat) (i : Nat) (h : i < lanes.length) :
    slice ((if rev then lanes.length - 1 - i else i) * nb) nb (packLanes nb (phys rev lanes)) =
      lanes.getD i 0 % 2 ^ nb :=
  Litex.Stream.upconv_layout nb rev lanes i h

/-- A down-converter's lane extraction inverts an up-converter's packing. -/
theorem downconv_layout_roundtrip (nb : Nat) (lanes : List Nat) :
    unpackLanes nb lanes.length (packLanes nb lanes) = lanes.map (· % 2 ^ nb) :=
  unpack_pack nb lanes

/-- `Cast` without reversal is the identity on the raw bits, whatever the two layouts' field widths. -/
theorem cast_identity (wsFrom wsTo : List Nat) (hw : sumW wsFrom = sumW wsTo) (x : Nat) :
    castFn false false wsFrom wsTo x = x % 2 ^ sumW wsFrom := by
  simp only [castFn, phys, Bool.false_eq_true, if_false]
  rw [cat_fieldsOf, cat_fieldsOf, ← hw, Nat.mod_mod]

/-! ### StrideConverter: the field-wise stride bit map (`strideOut` up, `strideIn` down; both are what the driver
    and the real code are compared through) -/

/-- The stride map is a bijection between `r` narrow words and the `r·Σw` payload bits of the wide word, for every
    list of field widths `ws` and every ratio: down-after-up and up-after-down are identities. -/
theorem stride_map_bijective (ws : List Nat) :
    (∀ lanes : List Nat, strideIn lanes.length ws (strideOut ws lanes) = lanes.map (· % 2 ^ sumW ws)) ∧
    (∀ r x : Nat, strideOut ws (strideIn r ws x) = x % 2 ^ (r * sumW ws)) :=
  ⟨strideIn_strideOut ws, fun r x => strideOut_strideIn r ws x⟩

/-- The map on FIELDS: slice `i` of wide field `k` (at `r·j_k`, `r·w_k` wide) is narrow field `k` (at `j_k`, `w_k`
    wide) of sub-word `i`. -/
theorem stride_map_fields (ws : List Nat) (lanes : List Nat) (i : Nat) (hi : i < lanes.length) :
    (fieldPos ws).map (fun (j, w) => slice (i * w) w (slice (lanes.length * j) (lanes.length * w) (strideOut ws lanes))) =
    (fieldPos ws).map (fun (j, w) => slice j w (lanes.getD i 0)) :=
  strideOut_field ws lanes i hi

/-- StrideConverter (up) token relation stated on the FIELDS of the source endpoint, multi-field layouts, params and
    `reverse` included: the `m`-th delivered word belongs to the `m`-th chunk `c` of the accepted sub-words; its
    count/first/last/param are the chunk's (`wordOf`), the param field of the encoded source word holds the param of
    the chunk's last sub-word, and slice `n` (`n = reverse ? r-1-i : i`) of every wide field `k` is field `k` of the
    chunk's `i`-th sub-word. -/
theorem strideUp_field_rel (r : Nat) (hr : 0 < r) (pw : Nat) (rev : Bool) (ws : List Nat)
    (ins : List (In (Nat × Nat))) :
    let e := strideUp (α := Nat) (π := Nat) r 0 0
    ∀ (m : Nat) (hm : m < (e.delivered e.init ins).length),
      ∃ c, (chunks r (e.accepted e.init ins))[m]? = some c ∧
        wordOf 0 c = upView ((e.delivered e.init ins)[m]) ∧
        slice (r * sumW ws) pw (encStrideUp r pw rev ws ((e.delivered e.init ins)[m]).data) =
          ((c.getLast?.map (·.data.2)).getD 0) % 2 ^ pw ∧
        ∀ (i : Nat) (hi : i < c.length),
          (fieldPos ws).map (fun (j, w) => slice ((if rev then r - 1 - i else i) * w) w
              (slice (r * j) (r * w) (encStrideUp r pw rev ws ((e.delivered e.init ins)[m]).data))) =
            (fieldPos ws).map (fun (j, w) => slice j w (c[i].data.1)) := by
  intro e m hm
  obtain ⟨hA, hD, _⟩ := strideUp_sim (α := Nat) (π := Nat) r 0 0 ins
  have hm' := hm
  simp only [e, hA, hD] at hm' ⊢
  obtain ⟨c, hc, hw, hW, _, hcl, hlane⟩ := upConv_word_at r hr 0 0 0 ins m hm'
  refine ⟨c, hc, hw, ?_, fun i hi => ?_⟩
  · rw [(encStrideUp_fields r pw rev ws _ hW 0 hr).2]
    exact congrArg (fun t => t.data.2 % 2 ^ pw) hw.symm
  · rw [(encStrideUp_fields r pw rev ws _ hW i (by omega)).1, hlane i hi]

/-- `cast(b→a) ∘ cast(a→b) = id` on the `Σw` bits: the inverse of `Cast(a, b, reverse_from, reverse_to)` is
    `Cast(b, a, reverse_from := reverse_to, reverse_to := reverse_from)`, for all field-width lists of equal total
    width and all four flag combinations. -/
theorem cast_inverse (rf rt : Bool) (wsFrom wsTo : List Nat) (hw : sumW wsFrom = sumW wsTo) (x : Nat) :
    castFn rt rf wsTo wsFrom (castFn rf rt wsFrom wsTo x) = x % 2 ^ sumW wsFrom :=
  castFn_inverse rf rt wsFrom wsTo hw x

/-- Hence every cast is a bijection of `[0, 2^Σw)`: no two sink words give the same source word, and every
    source word is produced. -/
theorem cast_bijective (rf rt : Bool) (wsFrom wsTo : List Nat) (hw : sumW wsFrom = sumW wsTo) :
    (∀ x y, x < 2 ^ sumW wsFrom → y < 2 ^ sumW wsFrom →
      castFn rf rt wsFrom wsTo x = castFn rf rt wsFrom wsTo y → x = y) ∧
    (∀ y, y < 2 ^ sumW wsTo → ∃ x, x < 2 ^ sumW wsFrom ∧ castFn rf rt wsFrom wsTo x = y) := by
  constructor
  · intro x y hx hy h
    have h1 := castFn_inverse rf rt wsFrom wsTo hw x
    have h2 := castFn_inverse rf rt wsFrom wsTo hw y
    rw [h, h2, Nat.mod_eq_of_lt hy, Nat.mod_eq_of_lt hx] at h1
    exact h1.symm
  · intro y hy
    refine ⟨castFn rt rf wsTo wsFrom y, castFn_lt rt rf wsTo wsFrom y, ?_⟩
    rw [castFn_inverse rt rf wsTo wsFrom hw.symm y, Nat.mod_eq_of_lt hy]

/-- `PipelinedActor(latency = L)` for every `L` (`L = 0` combinational), every schedule: accepted = delivered ++
    the tokens in the valid stages (oldest first), never more than `L` of them; first/last travel with their token.
    This is the control path every `PipelinedActor` subclass shares (Shifter, the 8b/10b stream wrappers). -/
theorem pipelinedActor_token_rel (L : Nat) (z : Tok α) (ins : List (In α)) :
    let e := pipeActor L z
    e.accepted e.init ins = e.delivered e.init ins ++ paInflight (e.runFrom e.init ins) ∧
    (paInflight (e.runFrom e.init ins)).length ≤ L :=
  have h := (pipeActor_queue L z).token_rel ins
  ⟨h.1, h.2.1⟩

/-- `Crossbar(n)` wired as its name says (its Demultiplexer's source `k` to its Multiplexer's sink `k`), the two
    selectors changing freely: the composition of the two models delivers exactly what it accepts, unchanged and in
    order, and accepts only while both selectors name the same existing port (otherwise it is blocked, nothing is
    dropped). -/
theorem crossbar_token_rel (n : Nat) (z : α) (ins : List (In (α × Nat × Nat))) :
    let e := crossbar n z
    e.delivered () ins = (e.accepted () ins).map (mapTok (·.1)) ∧
    ∀ t ∈ e.accepted () ins, t.data.2.1 = t.data.2.2 ∧ t.data.2.1 < n :=
  rel_run_init (crossbar n z) (xbarRel n) ⟨rfl, by simp⟩ (crossbar_step n z) ins


/-- `Pipeline(m_1, …, m_n)` of ANY list of identity-typed stages (Endpoint/connect, PipeValid, PipeReady, SyncFIFO d,
    SyncFIFOBuffered d, in any order and number), every schedule: accepted = delivered ++ the tokens inside (stage
    nearest the source first), never more than the sum of the stage capacities. -/
theorem stages_token_rel (l : List Stage) (z : Tok α) (ins : List (In α)) :
    let e := stages z l
    e.accepted e.init ins = e.delivered e.init ins ++ pipeInflight l (e.runFrom e.init ins) ∧
    (pipeInflight l (e.runFrom e.init ins)).length ≤ stagesCap l :=
  have h := (stages_queue z l).token_rel ins
  ⟨h.1, h.2.1⟩

theorem stages_no_loss_dup_reorder (l : List Stage) (z : Tok α) (ins : List (In α)) :
    let e := stages z l
    e.delivered e.init ins <+: e.accepted e.init ins ∧
    (e.accepted e.init ins).length ≤ (e.delivered e.init ins).length + stagesCap l :=
  (stages_queue z l).no_loss ins

/-- `Buffer(layout, pipe_valid, pipe_ready)`, all four flag combinations (the instance `bufferVR_token_rel` above is
    `pv = pr = true`): identity with at most `pv + pr` tokens inside. -/
theorem buffer_token_rel (pv pr : Bool) (z : Tok α) (ins : List (In α)) :
    let e := stages z (bufferStages pv pr)
    e.accepted e.init ins = e.delivered e.init ins ++ pipeInflight _ (e.runFrom e.init ins) ∧
    (pipeInflight _ (e.runFrom e.init ins)).length ≤ pv.toNat + pr.toNat := by
  have h := stages_token_rel (bufferStages pv pr) z ins
  rwa [stagesCap_buffer] at h

/-- `SyncFIFO(layout, depth, buffered)` as constructed, for EVERY `depth ≥ 0` and both `buffered` settings
    (depth 0: connect; depth 1: `Buffer`, `buffered` ignored; depth ≥ 2: Migen FIFO, one more slot when buffered):
    identity, at most `depth (+1)` tokens inside. -/
theorem streamSyncFifo_token_rel (depth : Nat) (buffered : Bool) (z : Tok α) (ins : List (In α)) :
    let e := stages z (syncFifoStages depth buffered)
    e.accepted e.init ins = e.delivered e.init ins ++ pipeInflight _ (e.runFrom e.init ins) ∧
    (pipeInflight _ (e.runFrom e.init ins)).length ≤ depth + (if buffered && decide (2 ≤ depth) then 1 else 0) := by
  have h := stages_token_rel (syncFifoStages depth buffered) z ins
  rwa [stagesCap_syncFifo] at h

/-- `Delay(layout, n)` as constructed (n × `Buffer(pipe_valid)` in a `Pipeline`), every `n`. -/
theorem delayStages_token_rel (n : Nat) (z : Tok α) (ins : List (In α)) :
    let e := stages z (delayStages n)
    e.accepted e.init ins = e.delivered e.init ins ++ pipeInflight _ (e.runFrom e.init ins) ∧
    (pipeInflight _ (e.runFrom e.init ins)).length ≤ n := by
  have h := stages_token_rel (delayStages n) z ins
  rwa [stagesCap_delay] at h

/-- `ClockDomainCrossing(cd_from == cd_to, buffered)`: a connect, or one `Buffer`. -/
theorem cdcSame_token_rel (buffered : Bool) (z : Tok α) (ins : List (In α)) :
    let e := stages z (cdcSameStages buffered)
    e.accepted e.init ins = e.delivered e.init ins ++ pipeInflight _ (e.runFrom e.init ins) ∧
    (pipeInflight _ (e.runFrom e.init ins)).length ≤ buffered.toNat := by
  have h := stages_token_rel (cdcSameStages buffered) z ins
  have hc : stagesCap (cdcSameStages buffered) = buffered.toNat := by cases buffered <;> rfl
  rwa [hc] at h

/-- `BufferizeEndpoints({sink if bs, source if bd}, pipe_valid, pipe_ready)` around ANY element `e` whose history
    relation `R` is preserved cycle by cycle: what the outer sink accepted, minus the at most `pv + pr` tokens in the
    sink buffer, is related by `R` to what was delivered plus the at most `pv + pr` tokens in the source buffer. -/
theorem bufferize_token_rel {σ : Type} (bs bd pv pr : Bool) (zi : Tok α) (zo : Tok β) (e : Elem α β σ)
    (R : σ → List (Tok α) → List (Tok β) → Prop) (h0 : R e.init [] [])
    (hstep : ∀ s a d i, R s a d → R (e.step s i) (a ++ e.accNow s i) (d ++ e.delNow s i))
    (ins : List (In α)) :
    let b := bufferize bs bd pv pr zi zo e
    let s := b.runFrom b.init ins
    ∃ mid1 mid2,
      b.accepted b.init ins = mid1 ++ pipeInflight _ s.1 ∧ R s.2.1 mid1 mid2 ∧
      mid2 = b.delivered b.init ins ++ pipeInflight _ s.2.2 ∧
      (pipeInflight _ s.1).length ≤ (if bs then pv.toNat + pr.toNat else 0) ∧
      (pipeInflight _ s.2.2).length ≤ (if bd then pv.toNat + pr.toNat else 0) := by
  intro b s
  have H1 := stages_queue zi (if bs then bufferStages pv pr else [])
  have H2 := stages_queue zo (if bd then bufferStages pv pr else [])
  -- the two buffers enter `comp_rel` as the history relations of their queues
  obtain ⟨m1, ⟨i1, e1⟩, m2, h2, i3, e3⟩ := rel_run_init b _
    ⟨[], ⟨H1.inv_init, H1.fl_init.symm⟩, [], h0, H2.inv_init, H2.fl_init.symm⟩
    (comp_rel _ (e.comp _) _ _ H1.rel (comp_rel e _ R _ hstep H2.rel)) ins
  exact ⟨m1, m2, e1, h2, e3, stagesCap_optBuffer bs pv pr ▸ H1.bound _ i1, stagesCap_optBuffer bd pv pr ▸ H2.bound _ i3⟩

/-- Instance: any `BufferizeEndpoints` configuration around `_UpConverter` / `Pack`, any ratio. -/
theorem bufferizeUp_token_rel (bs bd pv pr : Bool) (r : Nat) (hr : 0 < r) (ins : List (In (Nat × Nat))) :
    let b := bufferize bs bd pv pr zUpIn (zUpOut r) (upConv (α := Nat) (π := Nat) r 0 0)
    let s := b.runFrom b.init ins
    ∃ mid1 mid2,
      b.accepted b.init ins = mid1 ++ pipeInflight _ s.1 ∧
      (chunks r mid1).map (wordOf 0) = mid2.map upView ++ s.2.1.inflight ∧
      mid2 = b.delivered b.init ins ++ pipeInflight _ s.2.2 := by
  obtain ⟨m1, m2, h1, h2, h3, _⟩ := bufferize_token_rel bs bd pv pr zUpIn (zUpOut r) (upConv (α := Nat) (π := Nat) r 0 0)
    (upRel r 0) (upRel_init r hr 0 0) (upConv_step r 0 0) ins
  exact ⟨m1, m2, h1, h2.1, h3⟩

/-- For all widths ≥ 1: the down-converter is chosen exactly when `nbits_from` is a proper multiple of `nbits_to`
    (ratio ≥ 2 with `from = ratio·to`), the up-converter when `nbits_to` is a proper multiple of `nbits_from`,
    the identity when the widths are equal, and the constructor raises exactly when neither width divides the other. -/
theorem converter_selection (nf nt : Nat) (hf : 0 < nf) (ht : 0 < nt) :
    match converterKind nf nt with
    | some (.down, r) => nf = r * nt ∧ 2 ≤ r
    | some (.up, r) => nt = r * nf ∧ 2 ≤ r
    | some (.ident, r) => nf = nt ∧ r = 1
    | none => ¬ (nt ∣ nf) ∧ ¬ (nf ∣ nt) :=
  converterKind_spec nf nt hf ht

/-- `Pack(layout, n = r)` with ANY payload layout (field widths `ws`), params, `reverse`, every schedule: the `m`-th
    delivered word belongs to the `m`-th chunk `c` of the accepted sub-words; first/last/param/count are the chunk's,
    and field `k` of source chunk `reverse ? r-1-i : i` is field `k` of the chunk's `i`-th sub-word. -/
theorem pack_field_rel (r : Nat) (hr : 0 < r) (pw : Nat) (rev vtc : Bool) (ws : List Nat)
    (ins : List (In (Nat × Nat))) :
    let e := upConv (α := Nat) (π := Nat) r 0 0
    ∀ (m : Nat) (hm : m < (e.delivered e.init ins).length),
      ∃ c, (chunks r (e.accepted e.init ins))[m]? = some c ∧
        wordOf 0 c = upView ((e.delivered e.init ins)[m]) ∧
        slice (r * sumW ws) pw (encUp r (sumW ws) pw rev vtc ((e.delivered e.init ins)[m]).data) =
          ((c.getLast?.map (·.data.2)).getD 0) % 2 ^ pw ∧
        (vtc = true →
          encUp r (sumW ws) pw rev vtc ((e.delivered e.init ins)[m]).data / 2 ^ (r * sumW ws + pw) = c.length) ∧
        ∀ (i : Nat) (hi : i < c.length),
          (fieldPos ws).map (fun (j, w) => slice ((if rev then r - 1 - i else i) * sumW ws + j) w
              (encUp r (sumW ws) pw rev vtc ((e.delivered e.init ins)[m]).data)) =
            (fieldPos ws).map (fun (j, w) => slice j w (c[i].data.1)) := by
  intro e m hm
  obtain ⟨c, hc, hw, hW, hcnt, hcl, hlane⟩ := upConv_word_at r hr 0 0 0 ins m hm
  refine ⟨c, hc, hw, ?_, fun hv => ?_, fun i hi => ?_⟩
  · rw [(encUp_fields r pw rev vtc ws _ hW 0 hr).2.1]
    exact congrArg (fun t => t.data.2 % 2 ^ pw) hw.symm
  · rw [(encUp_fields r pw rev vtc ws _ hW 0 hr).2.2, hv, hcnt]
    rfl
  · rw [(encUp_fields r pw rev vtc ws _ hW i (by omega)).1, hlane i hi]

/-- `Unpack(n = r, layout)` / `_DownConverter` on FIELDS, any layout `ws`, params, `reverse`: the `i`-th narrow token
    the element makes of a wide sink token `t` (`splitTok`, which `downConv_token_rel_partial` shows to be what is
    delivered) carries field `k` of sink chunk `reverse ? r-1-i : i`, the sink's param, `first` on lane 0 only and
    `last` on lane `r-1` only. -/
theorem unpack_field_rel (r pw : Nat) (rev : Bool) (ws : List Nat) (t : Tok Nat) (i : Nat) (hi : i < r) :
    ∃ u, (splitTok r 0 (mapTok (fun d => decDown r (sumW ws) pw rev d []) t))[i]? = some u ∧
      (fieldPos ws).map (fun (j, w) => slice j w u.data.1) =
        (fieldPos ws).map (fun (j, w) => slice ((if rev then r - 1 - i else i) * sumW ws + j) w t.data) ∧
      u.data.2 = slice (r * sumW ws) pw t.data ∧
      u.first = (t.first && i == 0) ∧ u.last = (t.last && i + 1 == r) := by
  refine ⟨laneTok r 0 (mapTok (fun d => decDown r (sumW ws) pw rev d []) t) i, ?_, ?_, rfl, rfl, rfl⟩
  · simp [splitTok_eq, hi]
  · exact (decDown_fields r pw rev ws t.data i hi).1

/-- `StrideConverter` (down) on FIELDS: the `i`-th narrow token carries, in field `k`, slice `reverse ? r-1-i : i` of
    the wide sink field `k`. -/
theorem strideDown_field_rel (r pw : Nat) (rev : Bool) (ws : List Nat) (t : Tok Nat) (i : Nat) (hi : i < r) :
    ∃ u, (splitTok r 0 (mapTok (fun d => decStrideDown r pw rev ws d []) t))[i]? = some u ∧
      (fieldPos ws).map (fun (j, w) => slice j w u.data.1) =
        (fieldPos ws).map (fun (j, w) => slice ((if rev then r - 1 - i else i) * w) w (slice (r * j) (r * w) t.data)) ∧
      u.data.2 = slice (r * sumW ws) pw t.data ∧
      u.first = (t.first && i == 0) ∧ u.last = (t.last && i + 1 == r) := by
  refine ⟨laneTok r 0 (mapTok (fun d => decStrideDown r pw rev ws d []) t) i, ?_, ?_, rfl, rfl, rfl⟩
  · simp [splitTok_eq, hi]
  · exact (decStrideDown_fields r pw rev ws t.data i hi).1

/-- Unpack after Pack returns every field of every sub-word, any layout, any `n`, either `reverse` (same on both). -/
theorem unpack_pack_field_roundtrip (r : Nat) (rev : Bool) (ws : List Nat) (W : UpWord Nat Nat)
    (hW : W.lanes.length = r) (i : Nat) (hi : i < r) :
    (fieldPos ws).map (fun (j, w) =>
        slice j w ((decDown r (sumW ws) 0 rev (encUp r (sumW ws) 0 rev false W) []).1.getD i 0)) =
      (fieldPos ws).map (fun (j, w) => slice j w (W.lanes.getD i 0)) := by
  rw [(decDown_fields r 0 rev ws _ i hi).1]
  exact (encUp_fields r 0 rev false ws W hW i hi).1

/-- One `MonitorCounter` of any width `w`, every history of `(reset, latch, enable)` cycles: `_count` is the number of
    `enable` cycles since the last `reset`, saturated at `2^w - 1`; `_count_latched` is the value `_count` had just
    before the last `latch` (0 after a reset); the CSR status shows `_count_latched` two cycles late (`MultiReg`). -/
theorem monitor_counter_spec (w : Nat) (h : List (Bool × Bool × Bool)) (x y : Bool × Bool × Bool) :
    (monRun w monCtr0 h).count = (monSpec w h).1 ∧ (monRun w monCtr0 h).latched = (monSpec w h).2 ∧
    (monRun w monCtr0 (h ++ [x, y])).m1 = (monSpec w h).2 ∧
    (monSpec w h).1 ≤ 2 ^ w - 1 :=
  ⟨(monCounter_spec w h).1, (monCounter_spec w h).2, monCounter_status w h x y, by
    rw [← (monCounter_spec w h).1]
    exact monRun_count_le w h⟩

/-- The four counters of `Monitor` count what they are documented to count: with `ins` the cycles seen on the
    watched endpoint (and the two controls), each enabled counter is `monRun` over the cycle-wise enable
    `valid & ready` (tokens), `valid & ~ready` (overflows), `~valid & ready` (underflows),
    `valid & delimiter & ready` (packets); an absent counter stays 0. -/
theorem monitor_counts (w : Nat) (cfg : MonCfg) (df : Bool) (ins : List MonIn) :
    let s := (monitor w cfg df).runFrom (monitor w cfg df).init ins
    (cfg.tokens = true → s.tokens = monRun w monCtr0 (ins.map fun i => (i.reset, i.latch, i.valid && i.ready))) ∧
    (cfg.overflows = true → s.overflows = monRun w monCtr0 (ins.map fun i => (i.reset, i.latch, i.valid && !i.ready))) ∧
    (cfg.underflows = true → s.underflows = monRun w monCtr0 (ins.map fun i => (i.reset, i.latch, !i.valid && i.ready))) ∧
    (cfg.packets = true → s.packets = monRun w monCtr0
        (ins.map fun i => (i.reset, i.latch, i.valid && (if df then i.first else i.last) && i.ready))) ∧
    (cfg.tokens = false → s.tokens = monCtr0) ∧ (cfg.overflows = false → s.overflows = monCtr0) ∧
    (cfg.underflows = false → s.underflows = monCtr0) ∧ (cfg.packets = false → s.packets = monCtr0) := by
  obtain ⟨t1, t0⟩ := monitor_slot w cfg df (·.tokens) cfg.tokens (fun i => i.valid && i.ready) (fun _ _ => rfl)
    ins (monitor w cfg df).init
  obtain ⟨o1, o0⟩ := monitor_slot w cfg df (·.overflows) cfg.overflows (fun i => i.valid && !i.ready)
    (fun _ _ => rfl) ins (monitor w cfg df).init
  obtain ⟨u1, u0⟩ := monitor_slot w cfg df (·.underflows) cfg.underflows (fun i => !i.valid && i.ready)
    (fun _ _ => rfl) ins (monitor w cfg df).init
  obtain ⟨p1, p0⟩ := monitor_slot w cfg df (·.packets) cfg.packets
    (fun i => i.valid && (if df then i.first else i.last) && i.ready) (fun _ _ => rfl) ins (monitor w cfg df).init
  exact ⟨t1, o1, u1, p1, t0, o0, u0, p0⟩

/-- Without reset, the token counter (wide enough not to saturate) is the number of tokens handed over. -/
theorem monitor_counts_tokens (w : Nat) (es : List Bool) (hfit : es.length < 2 ^ w) :
    (monSpec w (es.map fun e => (false, false, e))).1 = (es.filter id).length := by
  have := monSpec_count_from w es 0 0 (by omega)
  simpa [monSpec] using this

/-- `Signal(max = max(n, 2))` is wide enough for every port number and no wider than needed: all of `0 … n-1` pass the
    selector port unchanged, and the width is the smallest with that property (for `n ≥ 2`). -/
theorem selWidth_spec (n : Nat) :
    (∀ k, k < n → k % 2 ^ selWidth n = k) ∧ 1 ≤ selWidth n ∧ (2 < n → 2 ^ (selWidth n - 1) < n) := by
  unfold selWidth bitsFor
  by_cases h : max n 2 - 1 < 2
  · simp only [h, if_true]
    refine ⟨fun k hk => Nat.mod_eq_of_lt (by omega), by omega, fun hn => by omega⟩
  · simp only [h, if_false]
    have hv : max n 2 - 1 ≠ 0 := by omega
    have h1 : max n 2 - 1 < 2 ^ (Nat.log2 (max n 2 - 1) + 1) := Nat.lt_log2_self
    have h2 : 2 ^ Nat.log2 (max n 2 - 1) ≤ max n 2 - 1 := Nat.log2_self_le hv
    refine ⟨fun k hk => Nat.mod_eq_of_lt (by omega), by omega, fun hn => ?_⟩
    rw [Nat.add_sub_cancel]
    omega

/-- Up-converter, ratio 3: four sub-words, the second with an early `last`; consumer stalls once.  Two words are
    specified (one partial with 2 valid lanes, one cut by `last` again), one delivered, one waiting. -/
example :
    let e := upConv (α := Nat) (π := Unit) 3 0 ()
    let ins : List (In (Nat × Unit)) :=
      [⟨true, ⟨(5, ()), true, false⟩, false⟩, ⟨true, ⟨(6, ()), false, true⟩, false⟩,
       ⟨true, ⟨(7, ()), true, true⟩, true⟩, ⟨false, ⟨(9, ()), true, true⟩, false⟩]
    (e.delivered e.init ins).map upView = [⟨([5, 6], ()), true, true⟩] ∧
    (chunks 3 (e.accepted e.init ins)).map (wordOf ()) = [⟨([5, 6], ()), true, true⟩, ⟨([7], ()), true, true⟩] := by
  decide

/-- Down-converter, ratio 2, a producer that honours the contract and a consumer that stalls. -/
example :
    let e := downConv (α := Nat) (π := Unit) 2 0
    let ins : List (In (List Nat × Unit)) :=
      [⟨true, ⟨([1, 2], ()), true, true⟩, true⟩, ⟨true, ⟨([1, 2], ()), true, true⟩, false⟩,
       ⟨true, ⟨([1, 2], ()), true, true⟩, true⟩, ⟨true, ⟨([3, 4], ()), false, false⟩, true⟩]
    e.Held e.init none ins ∧
    e.delivered e.init ins = [⟨(1, ()), true, false⟩, ⟨(2, ()), false, true⟩, ⟨(3, ()), false, false⟩] := by
  refine ⟨?_, by decide⟩
  simp [Elem.Held, Elem.Meets, Elem.obl, Elem.out, Elem.step, downConv]

/-- Gearbox 3 → 2 (L = 6): two words accepted (the second only once there is room), three 2-bit words leave in
    order. -/
example :
    let e := gearbox (α := Bool) 6 3 2 false
    let ins : List (In (List Bool)) :=
      [⟨true, ⟨[true, false, true], false, false⟩, true⟩, ⟨true, ⟨[true, true, false], false, false⟩, true⟩,
       ⟨true, ⟨[true, true, false], false, false⟩, true⟩, ⟨false, ⟨[], false, false⟩, true⟩,
       ⟨false, ⟨[], false, false⟩, true⟩]
    bitsOut (e.delivered e.init ins) = [true, false, true, true, true, false] ∧ ioLcm 3 2 = 6 := by decide

/-- Gate with sink_ready_when_disabled: the token offered while disabled is accepted and dropped (by design). -/
example :
    let e := gate (α := Nat) true 0
    let ins : List (In (Nat × Bool)) := [⟨true, ⟨(1, true), false, false⟩, true⟩, ⟨true, ⟨(2, false), false, false⟩, true⟩]
    (e.accepted () ins).length = 2 ∧ e.delivered () ins = [⟨1, false, false⟩] := by decide

/-- Shifter, dw = 4, shift = 0: two tokens in, the first comes out unchanged, the second is still inside. -/
example :
    let e := shifter 4
    let ins : List (In (Nat × Nat)) :=
      [⟨true, ⟨(5, 0), true, false⟩, true⟩, ⟨true, ⟨(9, 0), false, true⟩, true⟩, ⟨false, ⟨(0, 0), false, false⟩, true⟩]
    e.delivered e.init ins = [⟨5, true, false⟩] ∧ (e.runFrom e.init ins).inflight = [⟨9, false, true⟩] := by decide

/-- SyncFIFO(2, buffered): three tokens offered back to back while the consumer stalls, then one is taken. -/
example :
    let e := syncFifoBuffered (α := Nat) 2 ⟨0, false, false⟩
    let ins : List (In Nat) :=
      [⟨true, ⟨1, true, false⟩, false⟩, ⟨true, ⟨2, false, false⟩, false⟩, ⟨true, ⟨3, false, true⟩, false⟩,
       ⟨false, ⟨7, true, true⟩, true⟩]
    e.accepted e.init ins = [⟨1, true, false⟩, ⟨2, false, false⟩, ⟨3, false, true⟩] ∧
    e.delivered e.init ins = [⟨1, true, false⟩] ∧ (e.runFrom e.init ins).inflight.length = 2 := by decide

/-- Delay(2): a token needs two cycles to appear; two tokens accepted, one delivered. -/
example :
    let e := delay (α := Nat) ⟨0, false, false⟩ 2
    let ins : List (In Nat) :=
      [⟨true, ⟨1, true, false⟩, true⟩, ⟨true, ⟨2, false, true⟩, true⟩, ⟨false, ⟨0, false, false⟩, true⟩]
    e.accepted e.init ins = [⟨1, true, false⟩, ⟨2, false, true⟩] ∧ e.delivered e.init ins = [⟨1, true, false⟩] := by
  decide

/-- StrideConverter (up, ratio 2) with params: the word stalled at the source keeps the param it was accepted
    with although the producer already offers the next packet (the param register is loaded only together with a
    sub-word). -/
example :
    let e := strideUp (α := Nat) (π := Nat) 2 0 0
    let ins : List (In (Nat × Nat)) :=
      [⟨true, ⟨(1, 1), true, false⟩, false⟩, ⟨true, ⟨(0, 1), false, true⟩, false⟩,
       ⟨true, ⟨(1, 2), true, false⟩, false⟩, ⟨true, ⟨(1, 2), true, false⟩, true⟩]
    (e.delivered e.init ins).map upView = [⟨([1, 0], 1), true, true⟩] := by decide

/-- Multiplexer(2): sink 1 is selected; sink 0 offers a token too but is not accepted. -/
example :
    let i : MuxIn Nat := ⟨1, [(true, ⟨7, false, false⟩), (true, ⟨8, true, true⟩)], true⟩
    muxDel 2 zTok i = [⟨8, true, true⟩] ∧ muxAccAt 2 zTok 0 i = [] ∧ muxAccAt 2 zTok 1 i = [⟨8, true, true⟩] := by
  decide

/-- Demultiplexer(3) with `sel = 3` (no such source): nothing is accepted, nothing delivered. -/
example :
    let i : DemuxIn Nat := ⟨3, true, ⟨7, false, false⟩, [true, true, true]⟩
    demuxAcc 3 zTok i = [] ∧ demuxDelAt 3 zTok 2 i = [] := by decide

/-- PipelinedActor, latency 3: a token needs three enabled cycles; two accepted, the first just delivered. -/
example :
    let e := pipeActor (α := Nat) 3 ⟨0, false, false⟩
    let ins : List (In Nat) :=
      [⟨true, ⟨1, true, false⟩, true⟩, ⟨false, ⟨9, true, true⟩, true⟩, ⟨true, ⟨2, false, true⟩, true⟩,
       ⟨false, ⟨0, false, false⟩, true⟩]
    e.delivered e.init ins = [⟨1, true, false⟩] ∧ paInflight (e.runFrom e.init ins) = [⟨2, false, true⟩] := by decide

/-- Crossbar(3): passes with both selectors at 2, blocked (not dropped) when they differ or name port 3. -/
example :
    let e := crossbar (α := Nat) 3 0
    let ins : List (In (Nat × Nat × Nat)) :=
      [⟨true, ⟨(7, 2, 2), true, false⟩, true⟩, ⟨true, ⟨(8, 1, 2), false, false⟩, true⟩,
       ⟨true, ⟨(9, 3, 3), false, true⟩, true⟩]
    e.delivered () ins = [⟨7, true, false⟩] ∧ (e.accepted () ins).length = 1 := by decide

/-- `_DownConverter` ratio 3: the count output marks every third delivered token. -/
example :
    let e := downConvV (α := Nat) (π := Unit) 3 0
    let i : In (List Nat × Unit) := ⟨true, ⟨([1, 2, 3], ()), true, true⟩, true⟩
    (e.delivered e.init [i, i, i, i]).map (·.data.2) = [false, false, true, false] := by decide

/-- Stride map, fields (1 bit, 2 bits), ratio 2: sub-words `0b101` (a=1,b=2) and `0b010` (a=0,b=1) give wide
    fields a = 0b01, b = 0b0110, i.e. `0b011001`; and back. -/
example : strideOut [1, 2] [0b101, 0b010] = 0b011001 ∧ strideIn 2 [1, 2] 0b011001 = [0b101, 0b010] := by decide

/-- Cast with `reverse_from`: fields (1 bit, 2 bits) → (2 bits, 1 bit), the first source field gets the second
    sink field. -/
example : castFn true false [1, 2] [2, 1] 0b101 = 0b110 := by decide

/-- Pipeline PipeValid → SyncFIFO(2) → PipeReady: three tokens accepted while the consumer stalls, then one leaves. -/
example :
    let e := stages (α := Nat) ⟨0, false, false⟩ [.pv, .fifo 2, .pr]
    let ins : List (In Nat) :=
      [⟨true, ⟨1, true, false⟩, false⟩, ⟨true, ⟨2, false, false⟩, false⟩, ⟨true, ⟨3, false, true⟩, false⟩,
       ⟨false, ⟨7, true, true⟩, true⟩]
    e.accepted e.init ins = [⟨1, true, false⟩, ⟨2, false, false⟩, ⟨3, false, true⟩] ∧
    e.delivered e.init ins = [⟨1, true, false⟩] ∧ stagesCap [.pv, .fifo 2, .pr] = 4 := by decide

/-- The constructor selections: SyncFIFO(1, buffered) is a plain Buffer, SyncFIFO(0) a connect, SyncFIFO(3, buffered)
    the buffered Migen FIFO; Delay(2) is two PipeValid stages; Buffer(False, True) is a lone PipeReady. -/
example : syncFifoStages 1 true = [.pv] ∧ syncFifoStages 0 true = [] ∧ syncFifoStages 3 true = [.fifoB 3] ∧
    syncFifoStages 2 false = [.fifo 2] ∧ delayStages 2 = [.pv, .pv] ∧ bufferStages false true = [.pr] := by decide

/-- Converter selection: 8 → 32 is an up-converter of ratio 4, 24 → 8 a down-converter of ratio 3, 9 → 6 raises. -/
example : converterKind 8 32 = some (.up, 4) ∧ converterKind 24 8 = some (.down, 3) ∧ converterKind 9 6 = none ∧
    converterKind 5 5 = some (.ident, 1) := by decide

/-- Pack of fields (1 bit, 2 bits), n = 2, reverse: the word with sub-words 0b101, 0b010 is 0b101010 (chunk 1 holds the
    first sub-word); field b (2 bits at offset 1) of chunk 1 is field b of sub-word 0. -/
example : encUp 2 3 0 true false ⟨[0b101, 0b010], 0, 2⟩ = 0b101010 ∧
    slice (1 * 3 + 1) 2 (encUp 2 3 0 true false ⟨[0b101, 0b010], 0, 2⟩) = slice 1 2 0b101 := by decide

/-- MonitorCounter, 2-bit: five enabled cycles saturate at 3; a latch then shows 3 two cycles later; the side
    condition of `monitor_counts_tokens` is needed (the count is 3, not 5). -/
example :
    let en : Bool × Bool × Bool := (false, false, true)
    (monRun 2 monCtr0 [en, en, en, en, en]).count = 3 ∧
    (monRun 2 monCtr0 [en, en, en, en, en, (false, true, false), en, en]).m1 = 3 ∧
    (monSpec 2 ([true, true, true, true, true].map fun e => (false, false, e))).1 ≠ 5 := by decide

/-- Selector widths: 1 bit for n ≤ 2, 2 bits for n = 3, 4, 3 bits for n = 5. -/
example : selWidth 1 = 1 ∧ selWidth 2 = 1 ∧ selWidth 3 = 2 ∧ selWidth 4 = 2 ∧ selWidth 5 = 3 ∧ selWidth 9 = 4 := by
  decide

end Litex.C03
