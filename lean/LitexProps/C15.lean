import LitexProofs.Event.Bus
import LitexProofs.Event.Gpio
import LitexProofs.Event.Discipline
import LitexProofs.Event.Producers
import LitexProofs.Event.SocIrq
/-
  C15 — Interrupt events are never lost and the IRQ line means pending-and-enabled.

  Model: `Litex.Event.evMgr c` (LitexModel/Event/Core.lean) = `EventManager` with sources `c.kinds` (any count, any
  mix of pulse / process-rising / process-falling / level) + its `status`/`pending`/`enable` CSRs in a `CSRBank` on a
  `c.bw`-bit CSR bus.  Every theorem quantifies over the configuration `c` and over `ins : List In`, an arbitrary
  cycle-by-cycle choice of all trigger lines and of the CSR bus (address, write strobe, write data): every trigger
  waveform and every interleaving with software accesses, including a clear in the same cycle as a trigger.
  Notation (LitexProofs/Event/Basic.lean): `…At c ins t k` = the signal of source `k` in cycle `t` of that run.

  The models are compared with the real cores on every run (`harness/props/c15.py`, instances and monitors in
  `harness/c15lib.py`); how each is tied (exhaustive co-exploration of the reachable product, seeded lock-step
  co-simulation, Python-level case comparison, model-independent monitors on the real signals) is recorded there and in
  DESIGN.md §7.C15.

  INVENTORY of the anchored code (code | model | theorems here):

  litex/soc/interconnect/csr_eventmanager.py
    _EventSource (ports)            | Bit / Kind.* (Core.lean)                 | —
    EventSourcePulse                | Kind.pulse: event/pendingNext/status     | pending_next, pending_iff_unacked_event, event_not_lost, set_wins_over_clear, status_shows
    EventSourceProcess(rising/falling, default edge) | Kind.rising/.falling, trigDNext | same + event = edge of prevTrig
    EventSourceLevel                | Kind.level: pendingVis = trig            | level_mirrors, status_shows
    EventManager.do_finalize: status/pending/enable CSRs, bit order = duid, clear = pending.re & pending.r[i], irq = OR | evMgr (Core.lean) incl. real CSRBank timing, multi-word registers, both orderings | irq_iff, irq_iff_out, enable_is_last_written, clear_iff_commit_of_last_written, clear_iff_write_one, event_not_lost_until_acked, ack_clears, clear_other_bit_keeps, clear_is_local, read_shows; multi-word: clear_needs_one_in_this_write_partial (+witness), clear_after_addressed_write, discipline_exact, whole_register_is_safe, single_word_always_safe, clear_under_discipline, stale_commit_drops_pending, event_not_lost_until_acked_any_width
    EventManager: field names / descriptions (get_source_name, get_pending_source_description, CSRField docs) | not modelled (documentation strings; no behaviour) | —
    EventManager.__setattr__ (FinalizeError after finalize) | not modelled (elaboration-time guard) | —
    SharedIRQ                       | shared (Core.lean)                       | shared_irq_or, shared_run_proj
  litex/soc/cores/timer.py
    Timer: value counter, ev.zero trigger `value == 0` | timer (Producers.lean); `_en/_load/_reload` values are inputs | timer_is_evMgr, timer_zero_pending, timer_zero_not_lost, timer_elapses_pending
    Timer: `_value`/`_update_value` latch, add_uptime  | not modelled (no event; property C14)  | —
  litex/soc/cores/uart.py
    UART (sys-clocked): tx/rx SyncFIFO(buffered) levels, ev.tx = sink.ready, ev.rx = source.valid, rx pop = ev.rx.clear | rx_we & rxtx.we | uart, fifoNext (Producers.lean; depths >= 2, data abstracted) | uart_is_evMgr, uart_rx_valid_pending, uart_tx_nonfull_pending, uart_rx_char_pending, uart_rx_ack_is_pop, uart_levels_bounded
    UART: FIFO data path, `_txfull/_rxempty/_txempty/_rxfull`, phy_cd != sys (AsyncFIFO), add_auto_tx_flush | not modelled here (data: C03/C14; CDC: C05) | —
    RS232PHY*, UARTBone, Stream2Wishbone, UARTCrossover …    | not event logic                        | —
  litex/soc/cores/gpio.py
    _GPIOIRQ.add_irq (mode/edge, in_d, EventSourceProcess rising) | gpioIrq (Gpio.lean); `_mode/_edge` values are inputs | gpio_is_evMgr, gpio_change_pending_partial (+witness = open finding C15-gpio-change-back-to-back)
    GPIOIn / GPIOTristate(external): MultiReg(pads, _in.status) + add_irq | gpioSync (Producers.lean) | gpio_sync_is_gpioIrq, gpio_sync_two_cycles, gpio_raw_change_pending_partial
    GPIOOut, GPIOInOut, GPIOTristate(internal TSTriple) | not modelled (no event logic / needs a tristate primitive) | —
  litex/soc/integration/soc.py
    SoCIRQHandler / SoCLocHandler.add+alloc as used for IRQs, add_cpu reserved lines | irqAlloc (SocIrq.lean; fresh names; name bookkeeping is C13) | irq_numbers_distinct
    SoC.do_finalize `cpu.interrupt[loc] = ev.irq`       | cpuInterrupt, socIrq (SocIrq.lean)  | soc_interrupt_bit, soc_interrupt_unused, soc_run_is_product, soc_event_raises_interrupt
    add_config/add_constant (`*_INTERRUPT` constants for software) | not modelled (export: C12/C13)       | —
  Remaining gaps: client configuration registers (`_mode`, `_edge`, `_en`, `_load`, `_reload`) are model inputs fed from
  the real storage (their CSR write path is C12's); CPU-internal interrupt controllers (e.g. VexRiscv mask/pending CSRs)
  are outside LiteX Python; UART with depth-0/1 FIFOs or a separate PHY clock domain is not modelled.
-/
namespace Litex.C15
open Litex Litex.Event

variable {c : Cfg} {ins : List In} {k : Nat}

/-- In every cycle of every run, `irq` is high exactly when some source is pending and enabled. -/
theorem irq_iff (c : Cfg) (ins : List In) (t : Nat) :
    irqAt c ins t = true ↔ ∃ k, k < c.n ∧ pendingAt c ins t k = true ∧ enableAt c ins t k = true :=
  irqOf_iff _ _

/-- The same for the output record of the machine in any reachable state and any current input. -/
theorem irq_iff_out (c : Cfg) (ins : List In) (i : In) :
    ((evMgr c).out ((evMgr c).run ins) i).irq = true ↔
      ∃ k, k < c.n ∧ pendingVis c ((evMgr c).run ins) i k = true ∧ (((evMgr c).run ins).bit k).en = true :=
  irqOf_iff _ _

/-- "Enabled" is what software last wrote to that bit position of `enable` (disabled after reset). -/
theorem enable_is_last_written (hk : k < c.n) {t : Nat} (ht : t ≤ ins.length) :
    enableAt c ins t k = (lastWr c ins .enable t k).getD false :=
  eq_lastWr_of_step (x := fun t => enableAt c ins t k) enable_zero (fun _ ht => enable_succ hk ht) t ht

/-- `SharedIRQ`: in every cycle of every run of several managers (each with its own triggers and bus traffic) the
    shared line is high exactly when some manager has a pending and enabled source. -/
theorem shared_irq_or (cs : List Cfg) (ss : List St) (is : List In)
    (hs : ss.length = cs.length) (hi : is.length = cs.length) :
    ((shared cs).out ss is).1 = true ↔
      ∃ j, ∃ (hc : j < cs.length) (hs' : j < ss.length) (hi' : j < is.length),
        ∃ k, k < cs[j].n ∧ pendingVis cs[j] ss[j] is[j] k = true ∧ (ss[j].bit k).en = true := by
  have hlen := sharedOuts_length cs ss is hs hi
  show ((sharedOuts cs ss is).map (·.irq)).any id = true ↔ _
  rw [List.any_map, List.any_eq_true]
  constructor
  · rintro ⟨o, ho, hirq⟩
    obtain ⟨j, hj, rfl⟩ := List.getElem_of_mem ho
    have hc : j < cs.length := hlen ▸ hj
    rw [sharedOuts_getElem cs ss is j hc (hs ▸ hc) (hi ▸ hc) hj] at hirq
    exact ⟨j, hc, hs ▸ hc, hi ▸ hc, (irqOf_iff _ _).mp hirq⟩
  · rintro ⟨j, hc, hs', hi', h⟩
    have hj : j < (sharedOuts cs ss is).length := hlen ▸ hc
    refine ⟨(sharedOuts cs ss is)[j], List.getElem_mem hj, ?_⟩
    rw [sharedOuts_getElem cs ss is j hc hs' hi' hj]
    exact (irqOf_iff _ _).mpr h

/-- The states of the product are the states of the individual managers: manager `j` of the `SharedIRQ` system,
    after any run, is in the state it reaches alone on its own share of the inputs (so every theorem below holds
    for each manager under a `SharedIRQ`). -/
theorem shared_run_proj (cs : List Cfg) :
    ∀ (ins : List (List In)) (ss : List St), ss.length = cs.length → (∀ v ∈ ins, v.length = cs.length) →
      ((shared cs).runFrom ss ins).length = cs.length ∧
      ∀ j (hc : j < cs.length) (hs : j < ss.length),
        ((shared cs).runFrom ss ins)[j]? =
          some ((evMgr cs[j]).runFrom ss[j] (ins.map fun v => v.getD j In.idle)) := by
  intro ins ss hs hwf
  exact ⟨shared_runFrom_length cs ins ss hs hwf, fun j hc hs' =>
    shared_runFrom_getElem? cs (List.getElem?_eq_getElem hc) ins ss _ (List.getElem?_eq_getElem hs')
      fun v hv => hwf v hv ▸ hc⟩

/-- One-step law of every pulse/process source, in every cycle of every run:
    `pending' = (pending ∧ ¬clear) ∨ event`, with `event` = trigger (pulse) / edge of the declared polarity of the
    trigger waveform (process; the cycle before the first counts as 0). -/
theorem pending_next (hk : k < c.n) (hkind : c.kind k ≠ .level) {t : Nat} (ht : t < ins.length) :
    pendRegAt c ins (t + 1) k = ((pendRegAt c ins t k && !clearAt c ins t k) || eventAt c ins t k) := by
  rw [pendReg_succ hk ht, pendingNext_of_ne_level hkind]

/-- Closed form over the whole history: a source is pending in cycle `T` exactly when an earlier cycle `u` carried
    an event and no cycle strictly between `u` and `T` cleared it (a clear in cycle `u` itself does not count). -/
theorem pending_iff_unacked_event (hk : k < c.n) (hkind : c.kind k ≠ .level) {T : Nat} (hT : T ≤ ins.length) :
    pendingAt c ins T k = true ↔
      ∃ u, u < T ∧ eventAt c ins u k = true ∧ ∀ v, u < v → v < T → clearAt c ins v k = false := by
  rw [pendingAt_of_ne_level hkind]
  exact pendReg_iff hk hkind T hT

/-- Never lost: an event in cycle `u` is pending from cycle `u+1` on and stays pending through every later cycle
    `T` as long as no clear addressed to this source intervenes. -/
theorem event_not_lost (hk : k < c.n) (hkind : c.kind k ≠ .level) {u T : Nat} (hu : u < T) (hT : T ≤ ins.length)
    (hev : eventAt c ins u k = true) (hno : ∀ v, u < v → v < T → clearAt c ins v k = false) :
    pendingAt c ins T k = true :=
  (pending_iff_unacked_event hk hkind hT).mpr ⟨u, hu, hev, hno⟩

/-- … pending no later than the cycle after the event, whatever else happens in the event's cycle. -/
theorem event_pending_next_cycle (hk : k < c.n) (hkind : c.kind k ≠ .level) {u : Nat} (hu : u < ins.length)
    (hev : eventAt c ins u k = true) : pendingAt c ins (u + 1) k = true :=
  pending_succ_of_event hk hkind hu hev

/-- A trigger coinciding with the clear is retained. -/
theorem set_wins_over_clear (hk : k < c.n) (hkind : c.kind k ≠ .level) {t : Nat} (ht : t < ins.length)
    (hev : eventAt c ins t k = true) (_hcl : clearAt c ins t k = true) : pendingAt c ins (t + 1) k = true :=
  event_pending_next_cycle hk hkind ht hev

/-- Pending drops only in a cycle in which the source's own clear is active. -/
theorem pending_drops_only_on_clear (hk : k < c.n) (hkind : c.kind k ≠ .level) {t : Nat} (ht : t < ins.length)
    (hp : pendingAt c ins t k = true) (hq : pendingAt c ins (t + 1) k = false) : clearAt c ins t k = true := by
  rw [pendingAt_of_ne_level hkind] at hp hq
  rw [pending_next hk hkind ht, hp] at hq
  cases h : clearAt c ins t k <;> simp_all

/-- No spurious interrupts: a pending source had an event. -/
theorem pending_has_cause (hk : k < c.n) (hkind : c.kind k ≠ .level) {T : Nat} (hT : T ≤ ins.length)
    (hp : pendingAt c ins T k = true) : ∃ u, u < T ∧ eventAt c ins u k = true := by
  obtain ⟨u, hu, hev, _⟩ := (pending_iff_unacked_event hk hkind hT).mp hp
  exact ⟨u, hu, hev⟩

/-- Interrupt not lost: an event on an enabled source raises `irq` in every later cycle until it is cleared. -/
theorem event_raises_irq (hk : k < c.n) (hkind : c.kind k ≠ .level) {u T : Nat} (hu : u < T) (hT : T ≤ ins.length)
    (hev : eventAt c ins u k = true) (hno : ∀ v, u < v → v < T → clearAt c ins v k = false)
    (hen : enableAt c ins T k = true) : irqAt c ins T = true :=
  (irq_iff c ins T).mpr ⟨k, hk, event_not_lost hk hkind hu hT hev hno, hen⟩

/-- All configurations: the source's clear is active in cycle `t+1` exactly when cycle `t` wrote the committing
    word of `pending` (the only word when the sources fit one bus word) and the most recent value written to the
    source's bit position is a one.  It is never active in cycle 0. -/
theorem clear_iff_commit_of_last_written (hk : k < c.n) {t : Nat} (ht : t < ins.length) :
    clearAt c ins (t + 1) k = (commits c (inAt ins t) && (lastWr c ins .pending (t + 1) k).getD false) :=
  clear_eq_commit_lastWr hk ht

theorem no_clear_at_reset : clearAt c ins 0 k = false := clear_zero

/-- Sources fit one bus word (`n ≤ bus width`, e.g. up to 8 / 32 sources): the clear of source `k` is active in
    cycle `t+1` exactly when cycle `t` is a bus write to `pending` with a one in bit `k` — "until software writes a
    one to its bit", one cycle of latency. -/
theorem clear_iff_write_one (hk : k < c.n) (hw : c.n ≤ c.bw) {t : Nat} (ht : t < ins.length) :
    clearAt c ins (t + 1) k =
      ((inAt ins t).we && decide ((inAt ins t).adr = 1) && (inAt ins t).datW.testBit k) := by
  rw [clear_succ ht, r_succ hk ht, commits_single (Nat.zero_lt_of_lt hk) hw, wrBit_single hk hw]
  cases hwe : (inAt ins t).we <;> by_cases ha : (inAt ins t).adr = 1 <;> simp [ha]

/-- The property in software terms (sources fit one bus word): an event in cycle `u` is pending in every later
    cycle `T` unless some cycle `v` with `u ≤ v`, `v + 1 < T` wrote a one to bit `k` of `pending`.  (A write in
    cycle `u - 1`, whose clear coincides with the event, does not count: the event is retained.) -/
theorem event_not_lost_until_acked (hk : k < c.n) (hkind : c.kind k ≠ .level) (hw : c.n ≤ c.bw) {u T : Nat}
    (hu : u < T) (hT : T ≤ ins.length) (hev : eventAt c ins u k = true)
    (hno : ∀ v, u ≤ v → v + 1 < T →
      ¬ ((inAt ins v).we = true ∧ (inAt ins v).adr = 1 ∧ (inAt ins v).datW.testBit k = true)) :
    pendingAt c ins T k = true := by
  refine event_not_lost hk hkind hu hT hev fun v h1 h2 => ?_
  cases v with
  | zero => exact clear_zero
  | succ v =>
    rw [clear_iff_write_one hk hw (Nat.lt_of_succ_lt (Nat.lt_of_lt_of_le h2 hT)), Bool.eq_false_iff]
    intro h
    simp only [Bool.and_eq_true, decide_eq_true_eq] at h
    exact hno v (Nat.le_of_lt_succ h1) h2 ⟨h.1.1, h.1.2, h.2⟩

/-- Acknowledging works: a write of a one to bit `k` of `pending` in cycle `t`, with no new event in cycle `t+1`,
    leaves the source not pending in cycle `t+2`. -/
theorem ack_clears (hk : k < c.n) (hkind : c.kind k ≠ .level) (hw : c.n ≤ c.bw) {t : Nat} (ht : t + 1 < ins.length)
    (hwr : (inAt ins t).we = true ∧ (inAt ins t).adr = 1 ∧ (inAt ins t).datW.testBit k = true)
    (hnoev : eventAt c ins (t + 1) k = false) : pendingAt c ins (t + 2) k = false := by
  rw [pendingAt_of_ne_level hkind, pending_next hk hkind ht, clear_iff_write_one hk hw (Nat.lt_of_succ_lt ht), hnoev]
  simp [hwr.1, hwr.2.1, hwr.2.2]

/-- Clearing one event never clears another (one-word case, in terms of the written mask): if the mask written to
    `pending` has a zero in bit `j`, source `j` stays pending. -/
theorem clear_other_bit_keeps {j : Nat} (hj : j < c.n) (hkind : c.kind j ≠ .level) (hw : c.n ≤ c.bw)
    {t : Nat} (ht : t + 1 < ins.length) (hzero : (inAt ins t).datW.testBit j = false)
    (hp : pendingAt c ins (t + 1) j = true) : pendingAt c ins (t + 2) j = true := by
  rw [pendingAt_of_ne_level hkind] at hp ⊢
  rw [pending_next hj hkind ht, hp, clear_iff_write_one hj hw (Nat.lt_of_succ_lt ht), hzero]
  simp

/-- Bit-locality for every configuration (also several words): the complete behaviour of source `k` (its
    registers, its bit of `pending.r` and of `enable`, its clear) after any run depends only on its own trigger and
    on the bus traffic restricted to its own bit position: changing other triggers or other bits of any written
    mask changes nothing for `k`. -/
theorem clear_is_local (hk : k < c.n) (ins₁ ins₂ : List In) (h : AgreeTraces c k ins₁ ins₂) :
    ((evMgr c).run ins₁).bit k = ((evMgr c).run ins₂).bit k ∧
    ((evMgr c).run ins₁).clear k = ((evMgr c).run ins₂).clear k := by
  obtain ⟨hb, hre⟩ := runFrom_agree hk ins₁ ins₂ (evMgr c).init (evMgr c).init h rfl rfl
  exact ⟨hb, by unfold St.clear Machine.run; rw [hb, hre]⟩

/- Not proved, because the code does not satisfy it when `pending` spans several bus words: the statement below
   without `hw`, `clearAt c ins (t+1) k = true → wrBit c (inAt ins t) .pending k = some true`
   (a clear of `k` is caused by a write that itself carries a one for `k`).  `pending.r` is a register per word, so a
   write of the committing word alone re-applies the words of earlier writes.  Proved for the one-word case;
   the excluded region (`c.bw < c.n`) has the negative witness below.  With several words software must write
   every word before the committing one (the generated accessors do), see `clear_after_addressed_write`. -/
theorem clear_needs_one_in_this_write_partial (hk : k < c.n) (hw : c.n ≤ c.bw) {t : Nat} (ht : t < ins.length)
    (hcl : clearAt c ins (t + 1) k = true) : wrBit c (inAt ins t) .pending k = some true := by
  rw [clear_iff_write_one hk hw ht, Bool.and_eq_true, Bool.and_eq_true, decide_eq_true_eq] at hcl
  rw [wrBit_single hk hw, if_pos hcl.1, hcl.2]

/-- Several words, accessor discipline: if cycle `t` writes the committing word and the most recent write to the
    word holding bit `k` (cycle `u ≤ t`, nothing written to that position afterwards) carried value `b` for `k`,
    the clear in cycle `t+1` is `b`. -/
theorem clear_after_addressed_write (hk : k < c.n) {u t : Nat} (hut : u ≤ t) (ht : t < ins.length) {b : Bool}
    (hwr : wrBit c (inAt ins u) .pending k = some b)
    (hnone : ∀ v, u < v → v ≤ t → wrBit c (inAt ins v) .pending k = none)
    (hcommit : commits c (inAt ins t) = true) : clearAt c ins (t + 1) k = b := by
  rw [clear_iff_commit_of_last_written hk ht, hcommit, lastWr_of_wr hut hwr hnone]
  rfl

/-- Level events mirror their input (and ignore clears), in every cycle of every run. -/
theorem level_mirrors (hkind : c.kind k = .level) (t : Nat) : pendingAt c ins t k = trigAt ins t k := by
  simp [pendingAt, pendingVis, hkind, Kind.pendingVis, trigAt]

/-- The status bit is the raw trigger for process and level sources and constant 0 for pulse sources (the
    behaviour the class documents: "It is always 0 for EventSourcePulse"). -/
theorem status_shows (t : Nat) :
    statusAt c ins t k = (match c.kind k with | .pulse => false | _ => trigAt ins t k) := by
  unfold statusAt statusBit trigAt
  cases c.kind k <;> rfl

/-- What software reads: one cycle after the bus presents the index of word `w` of a register, `dat_r` carries,
    in bit `j`, bit `w·bw + j` of that register as it was in the addressed cycle (status = raw levels, pending,
    enable); reads have no side effect on the event state (the step function does not look at a read strobe). -/
theorem read_shows {t : Nat} (ht : t < ins.length) {reg : Reg} {w j : Nat}
    (hdec : c.decode (inAt ins t).adr = some (reg, w)) (hj : j < c.bw) (hn : w * c.bw + j < c.n) :
    (datRAt c ins (t + 1)).testBit j = regBit c (stAt c ins t) (inAt ins t) reg (w * c.bw + j) := by
  unfold datRAt
  rw [stAt_succ ht, next_datR, readWord, hdec]
  simp [packFrom_testBit, hj, hn]

/-! ## client: GPIO interrupt (`gpio.py:_GPIOIRQ`), model `gpioIrq` -/

/-- The event manager inside the GPIO client is `evMgr` run on the trigger trace the pads produce, so every theorem
    above applies to it with `ins := gpioTrace n gins`. -/
theorem gpio_is_evMgr (n bw : Nat) (little : Bool) (gins : List GpioIn) :
    ((gpioIrq n bw little).run gins).ev = (evMgr (gpioCfg n bw little)).run (gpioTrace n gins) :=
  gpio_run_ev n bw little gins _

/-- Non-interference between pads (the model keeps one delayed sample `in_d` PER pad): two runs of the GPIO client
    whose inputs agree on pad `k` (its synchronised value, its `_mode`/`_edge` bits, the bus traffic at its bit
    position) agree on everything of source `k` - pending register, edge detector, enable, clear - whatever all the
    other pads, their modes and the other bits of every written mask do. -/
theorem gpio_pads_independent {n bw : Nat} {little : Bool} {k : Nat} (hk : k < n) (g₁ g₂ : List GpioIn)
    (h : GpioAgreeTraces bw k g₁ g₂) :
    ((gpioIrq n bw little).run g₁).ev.bit k = ((gpioIrq n bw little).run g₂).ev.bit k ∧
    ((gpioIrq n bw little).run g₁).ev.clear k = ((gpioIrq n bw little).run g₂).ev.clear k := by
  rw [gpio_is_evMgr, gpio_is_evMgr]
  exact clear_is_local (by rw [gpio_cfg_n]; exact hk) _ _ (gpioDerive_agree n bw little hk g₁ g₂ _ _ h rfl)

/-- Non-vacuity: three pads in Change mode; the two runs differ in pads 0 and 2 (pad 2, the LAST pad, toggles in one
    run only) and agree on pad 1, which changes in cycle 1 to the value pad 2 has in the other run. -/
example :
    let g (pads : List Bool) : GpioIn :=
      { pads := pads, mode := [true, true, true], edge := [false, false, false], adr := 9, we := false, datW := 0 }
    GpioAgreeTraces 8 1 [g [false, false, false], g [true, true, true], g [false, true, false]]
                        [g [true, false, true], g [false, true, false], g [false, true, true]] ∧
    (List.range 4).map (fun t => pendingAt (gpioCfg 3 8 false)
        (gpioTrace 3 [g [false, false, false], g [true, true, true], g [false, true, false], g [false, true, false]]) t 1) =
      [false, false, true, true] := by
  refine ⟨?_, by decide⟩
  simp only [GpioAgreeTraces, GpioAgreeOn]
  decide

/- Not proved, because the code does not satisfy it (known finding C15-gpio-change-back-to-back): the statement below
   without `hquiet`, `modeAt gins t k = true → changeAt gins t k = true →
   pendingAt (gpioCfg n bw little) (gpioTrace n gins) (t + 1) k = true`
   (in Change mode every change of the synchronised pad is pending in the next cycle, whatever software does).
   The change pulse `in ^ in_d` goes into a rising-edge process source, so a change directly after another change
   is no edge.  Proved under the hypothesis that the previous cycle had no change; negative witness below. -/
theorem gpio_change_pending_partial {n bw : Nat} {little : Bool} {gins : List GpioIn} {t k : Nat}
    (hk : k < n) (ht : t < gins.length)
    (hmode : modeAt gins t k = true) (hchange : changeAt gins t k = true)
    (hquiet : ∀ t', t = t' + 1 → modeAt gins t' k = true ∧ changeAt gins t' k = false) :
    pendingAt (gpioCfg n bw little) (gpioTrace n gins) (t + 1) k = true := by
  have hkind : (gpioCfg n bw little).kind k = .rising := gpio_cfg_kind hk
  refine event_pending_next_cycle (by rw [gpio_cfg_n]; exact hk) (ne_level_of_rising hkind)
    (by rw [gpioTrace_length]; exact ht) ?_
  have h1 := (gpio_trig_change hk ht hmode).trans hchange
  cases t with
  | zero =>
    unfold eventAt
    rw [hkind]
    show (trigAt _ 0 k && !false) = true
    rw [h1]
    rfl
  | succ t' =>
    obtain ⟨hm, hc⟩ := hquiet t' rfl
    exact rising_edge_event hkind ((gpio_trig_change hk (Nat.lt_of_succ_lt ht) hm).trans hc) h1

/-! ## access disciplines for a `pending` register of several bus words: exactly which are safe

  `freshWr c ins t k` = the most recent value written to bit position `k` of `pending` within the TRANSACTION that
  ends in cycle `t` (the cycles after the previous commit, up to and including `t`); `SafeCommit c ins t` = every one
  that the commit of cycle `t` applies was written in its own transaction ("fresh or zero"); `WholeRegister` = every
  word is written in every transaction (what the generated `*_ev_pending_write` accessors do).
  (LitexProofs/Event/Discipline.lean) -/

/-- EXACT characterisation, every configuration: the commit of cycle `t` applies no clear that its transaction did
    not ask for  ⇔  it is a `SafeCommit`. -/
theorem discipline_exact {t : Nat} (ht : t < ins.length) :
    SafeCommit c ins t ↔ ∀ k, k < c.n → clearAt c ins (t + 1) k = true → freshWr c ins t k = some true := by
  constructor
  · intro hs k hk hcl
    rw [clear_eq_commit_lastWr hk ht, Bool.and_eq_true] at hcl
    exact hs hcl.1 k hk hcl.2
  · intro h hc k hk hl
    apply h k hk
    rw [clear_eq_commit_lastWr hk ht, hc, hl]
    rfl

/-- Sufficient in practice: whole-register transactions are safe … -/
theorem whole_register_is_safe (h : WholeRegister c ins) : Disciplined c ins := wholeRegister_disciplined h

/-- … and when the sources fit one bus word every access pattern is. -/
theorem single_word_always_safe (hn : 0 < c.n) (hw : c.n ≤ c.bw) (ins : List In) : Disciplined c ins := by
  -- the committing write itself writes every bit
  intro t _ hc k hk hl
  rw [commits_single hn hw, Bool.and_eq_true, decide_eq_true_eq] at hc
  have hwr : wrBit c (inAt ins t) .pending k = some ((inAt ins t).datW.testBit k) := by
    rw [wrBit_single hk hw, if_pos hc]
  rw [lastWr, hwr] at hl
  rw [freshWr_of_wr hwr]
  exact congrArg some hl

/-- Under the discipline the clear is exactly "this transaction wrote a one to bit `k` and now commits". -/
theorem clear_under_discipline (hk : k < c.n) {t : Nat} (ht : t < ins.length) (hs : SafeCommit c ins t) :
    clearAt c ins (t + 1) k = (commits c (inAt ins t) && (freshWr c ins t k).getD false) := by
  rw [clear_eq_commit_lastWr hk ht]
  cases hc : commits c (inAt ins t) with
  | false => rfl
  | true =>
    cases hl : (lastWr c ins .pending (t + 1) k).getD false with
    | true => rw [hs hc k hk hl]; rfl
    | false =>
      -- a fresh value is the last written one
      cases hf : freshWr c ins t k with
      | none => rfl
      | some b => rw [freshWr_eq_lastWr_of_some t hf] at hl; exact congrArg _ hl.symm

/-- Necessary: ANY commit outside the discipline (a stale one in bit `k`, nothing fresh) clears source `k`, and a
    pending, un-acknowledged event of `k` is lost — for every configuration and trace, not only the witness. -/
theorem stale_commit_drops_pending (hk : k < c.n) (hkind : c.kind k ≠ .level) {t : Nat} (ht : t + 1 < ins.length)
    (hc : commits c (inAt ins t) = true) (hl : (lastWr c ins .pending (t + 1) k).getD false = true)
    (hf : freshWr c ins t k ≠ some true) (hp : pendingAt c ins (t + 1) k = true)
    (hev : eventAt c ins (t + 1) k = false) : pendingAt c ins (t + 2) k = false := by
  rw [pendingAt_of_ne_level hkind] at hp ⊢
  rw [pending_next hk hkind ht, hp, hev, (stale_commit_spurious_clear hk (Nat.lt_of_succ_lt ht) hc hl hf).1]
  rfl

/-- Never lost, ANY number of words, under the discipline: an event in cycle `u` is pending in every later cycle `T`
    unless a transaction committing in some cycle `v`, `u ≤ v`, `v + 1 < T`, wrote a one to bit `k`.
    (`event_not_lost_until_acked` is the one-word instance.) -/
theorem event_not_lost_until_acked_any_width (hk : k < c.n) (hkind : c.kind k ≠ .level) (hd : Disciplined c ins)
    {u T : Nat} (hu : u < T) (hT : T ≤ ins.length) (hev : eventAt c ins u k = true)
    (hno : ∀ v, u ≤ v → v + 1 < T → ¬ (commits c (inAt ins v) = true ∧ freshWr c ins v k = some true)) :
    pendingAt c ins T k = true := by
  refine event_not_lost hk hkind hu hT hev fun v h1 h2 => ?_
  cases v with
  | zero => exact clear_zero
  | succ v =>
    have hv : v < ins.length := Nat.lt_of_succ_lt (Nat.lt_of_lt_of_le h2 hT)
    rw [clear_under_discipline hk hv (hd v hv), Bool.eq_false_iff]
    intro h
    rw [Bool.and_eq_true] at h
    cases hf : freshWr c ins v k with
    | none => rw [hf] at h; exact absurd h.2 (by decide)
    | some b => rw [hf] at h; exact hno v (Nat.le_of_lt_succ h1) h2 ⟨h.1, hf ▸ congrArg some h.2⟩

/-! ## the event PRODUCERS end to end (models in LitexModel/Event/Producers.lean)

  In each client the event manager is `evMgr` run on the trigger trace that the client logic produces
  (`timerTrace`, `uartTrace`, `gpioTrace ∘ syncTrace`), so every theorem above applies to it; the theorems below say
  what the hardware condition of each producer is and that it always ends up pending. -/

section producers
variable {bw : Nat} {little : Bool}

/-! ### Timer: `ev.zero`, trigger `value == 0`, rising edge -/

theorem timer_is_evMgr (bw : Nat) (little : Bool) (tins : List TimerIn) :
    ((timer bw little).run tins).ev = (evMgr (timerCfg bw little)).run (timerTrace bw little tins) :=
  run_proj (timer bw little) (evMgr (timerCfg bw little)) (·.ev) (fun s i => timerEvIn s.value i)
    (fun _ _ => rfl) tins _

/-- Every arrival of the counter at zero (non-zero in cycle `t`, zero in cycle `t+1`) is pending in cycle `t+2`,
    for every schedule of `_en`/`_load`/`_reload` values and of bus accesses (clears included). -/
theorem timer_zero_pending {tins : List TimerIn} {t : Nat} (ht : t + 1 < tins.length)
    (hnz : timerValueAt tins t ≠ 0) (hz : timerValueAt tins (t + 1) = 0) :
    pendingAt (timerCfg bw little) (timerTrace bw little tins) (t + 2) 0 = true :=
  event_pending_next_cycle (c := timerCfg bw little) (k := 0) Nat.zero_lt_one (ne_level_of_rising rfl)
    (by rw [timerTrace_length]; exact ht)
    (timer_zero_event ht hnz hz)

/-- … and stays pending until software writes a one to bit 0 of `ev_pending` (bank-local index 1). -/
theorem timer_zero_not_lost {tins : List TimerIn} {t T : Nat} (hbw : 1 ≤ bw) (htT : t + 1 < T) (hT : T ≤ tins.length)
    (hnz : timerValueAt tins t ≠ 0) (hz : timerValueAt tins (t + 1) = 0)
    (hno : ∀ v, t + 1 ≤ v → v + 1 < T →
      ¬ ((timerInAt tins v).we = true ∧ (timerInAt tins v).adr = 1 ∧ (timerInAt tins v).datW.testBit 0 = true)) :
    pendingAt (timerCfg bw little) (timerTrace bw little tins) T 0 = true := by
  refine event_not_lost_until_acked (c := timerCfg bw little) (k := 0) Nat.zero_lt_one (ne_level_of_rising rfl) hbw htT
    (by rw [timerTrace_length]; exact hT) (timer_zero_event (Nat.lt_of_lt_of_le htT hT) hnz hz)
    fun v h1 h2 => ?_
  -- the bus part of the derived trace is the bus part of the timer's input
  rw [timerTrace_inAt (Nat.lt_of_succ_lt (Nat.lt_of_lt_of_le h2 hT))]
  exact hno v h1 h2

/-- One-shot / period: the counter holds `v > 0` in cycle `t` and the timer stays enabled for `v` cycles ⇒ the zero
    event is pending in cycle `t + v + 1`. -/
theorem timer_elapses_pending {tins : List TimerIn} {t v : Nat} (hv : 0 < v) (hval : timerValueAt tins t = v)
    (hen : ∀ i, i < v → (timerInAt tins (t + i)).en = true) (ht : t + v < tins.length) :
    pendingAt (timerCfg bw little) (timerTrace bw little tins) (t + v + 1) 0 = true := by
  cases v with
  | zero => exact absurd hv (Nat.lt_irrefl 0)
  | succ w =>
    -- the counter holds 1 in cycle `t + w` and 0 in the next
    have h1 := timer_countdown hval w (Nat.le_succ w) fun i hi => hen i (Nat.lt_succ_of_lt hi)
    have h2 := timer_countdown hval (w + 1) (Nat.le_refl _) hen
    rw [Nat.add_sub_cancel_left] at h1
    rw [Nat.sub_self] at h2
    exact timer_zero_pending (t := t + w) ht (by rw [h1]; decide) h2

/-! ### UART: `ev.tx` (tx FIFO not full), `ev.rx` (rx FIFO output valid), both rising-edge -/

variable {dtx drx : Nat} {rxWe : Bool}

theorem uart_is_evMgr (dtx drx : Nat) (rxWe : Bool) (bw : Nat) (little : Bool) (uins : List UartIn) :
    ((uart dtx drx rxWe bw little).run uins).ev =
      (evMgr (uartCfg bw little)).run (uartTrace dtx drx rxWe bw little uins) :=
  uart_run_ev dtx drx rxWe bw little uins

/-- The rx FIFO output becoming valid is pending (bit 1) in the next cycle, whatever software does. -/
theorem uart_rx_valid_pending {uins : List UartIn} {t : Nat} (ht : t + 1 < uins.length)
    (h0 : (uartStAt dtx drx rxWe bw little uins t).rx.rd = false)
    (h1 : (uartStAt dtx drx rxWe bw little uins (t + 1)).rx.rd = true) :
    pendingAt (uartCfg bw little) (uartTrace dtx drx rxWe bw little uins) (t + 2) 1 = true :=
  rising_edge_pending (c := uartCfg bw little) (k := 1) Nat.one_lt_two rfl (by rw [uartTrace_length]; exact ht)
    (by rw [uart_trig_rx (Nat.lt_of_succ_lt ht), h0])
    (by rw [uart_trig_rx ht, h1])

/-- The tx FIFO leaving the full state is pending (bit 0) in the next cycle. -/
theorem uart_tx_nonfull_pending {uins : List UartIn} {t : Nat} (ht : t + 1 < uins.length)
    (h0 : (uartStAt dtx drx rxWe bw little uins t).tx.writable dtx = false)
    (h1 : (uartStAt dtx drx rxWe bw little uins (t + 1)).tx.writable dtx = true) :
    pendingAt (uartCfg bw little) (uartTrace dtx drx rxWe bw little uins) (t + 2) 0 = true :=
  rising_edge_pending (c := uartCfg bw little) (k := 0) Nat.zero_lt_two rfl (by rw [uartTrace_length]; exact ht)
    (by rw [uart_trig_tx (Nat.lt_of_succ_lt ht), h0])
    (by rw [uart_trig_tx ht, h1])

/-- End to end: a character arriving at an empty rx FIFO (cycle `t`) makes the rx event pending in cycle `t+3`,
    for every schedule of software accesses (acknowledges, rxtx reads) and of the tx side. -/
theorem uart_rx_char_pending {uins : List UartIn} {t : Nat} (hd : 0 < drx) (ht : t + 2 < uins.length)
    (hempty : (uartStAt dtx drx rxWe bw little uins t).rx = FifoSt.empty)
    (hv : (uartInAt uins t).sinkValid = true) :
    pendingAt (uartCfg bw little) (uartTrace dtx drx rxWe bw little uins) (t + 3) 1 = true := by
  have s1 : (uartStAt dtx drx rxWe bw little uins (t + 1)).rx = { lvl := 1, rd := false } := by
    rw [uartStAt_succ (Nat.lt_of_succ_lt (Nat.lt_of_succ_lt ht))]
    show fifoNext drx _ _ _ = _
    rw [hempty, hv]
    exact fifoNext_empty_push hd _
  have s2 : (uartStAt dtx drx rxWe bw little uins (t + 2)).rx.rd = true := by
    rw [uartStAt_succ (Nat.lt_of_succ_lt ht)]
    show (fifoNext drx _ _ _).rd = true
    rw [s1]
    exact fifoNext_refill_rd _ _ _
  exact uart_rx_valid_pending (t := t + 1) ht (by rw [s1]) s2

/-- The acknowledge of the rx event is the pop of the rx FIFO (same cycle, same signal). -/
theorem uart_rx_ack_is_pop (s : UartSt) (i : UartIn) :
    ((uart dtx drx rxWe bw little).out s i).rxPop = (s.ev.clear 1 || (rxWe && i.rxtxWe)) := rfl

theorem uart_levels_bounded (uins : List UartIn) :
    ((uart dtx drx rxWe bw little).run uins).tx.lvl ≤ dtx ∧ ((uart dtx drx rxWe bw little).run uins).rx.lvl ≤ drx :=
  Machine.invariant_runFrom (uart dtx drx rxWe bw little) (fun s => s.tx.lvl ≤ dtx ∧ s.rx.lvl ≤ drx)
    (fun s _ h => ⟨fifoNext_le dtx s.tx _ _ h.1, fifoNext_le drx s.rx _ _ h.2⟩) uins _
    ⟨Nat.zero_le _, Nat.zero_le _⟩

/-! ### GPIO: MultiReg synchroniser in front of `_GPIOIRQ` -/

theorem gpio_sync_is_gpioIrq (n bw : Nat) (little : Bool) (gins : List GpioRawIn) :
    ((gpioSync n bw little).run gins).g = (gpioIrq n bw little).run (syncTrace n bw little gins) :=
  run_proj (gpioSync n bw little) (gpioIrq n bw little) (·.g) (fun s i => i.toIn s.r1) (fun _ _ => rfl) gins _

/-- The IRQ logic sees every raw pad exactly two cycles late (0 during the first two cycles). -/
theorem gpio_sync_two_cycles (n bw : Nat) (little : Bool) (gins : List GpioRawIn) {k t : Nat} (hk : k < n)
    (ht : t < gins.length) : padAt (syncTrace n bw little gins) t k = delay2 (fun t => rawAt gins t k) t :=
  sync_pad hk ht

/-- End to end, Change mode: a change of the RAW pad in cycle `t` is pending in cycle `t+3`, whatever software
    does, provided the raw pad did not also change in cycle `t-1` (same hypothesis as `gpio_change_pending_partial`,
    moved in front of the synchroniser; the excluded region is the open finding). -/
theorem gpio_raw_change_pending_partial {n : Nat} {gins : List GpioRawIn} {t k : Nat} (hk : k < n)
    (ht : t + 2 < gins.length)
    (hmode2 : (gpioRawInAt gins (t + 2)).mode.getD k false = true)
    (hmode1 : (gpioRawInAt gins (t + 1)).mode.getD k false = true)
    (hchange : rawChangeAt gins k t = true)
    (hquiet : ∀ t', t = t' + 1 → rawChangeAt gins k t' = false) :
    pendingAt (gpioCfg n bw little) (gpioTrace n (syncTrace n bw little gins)) (t + 3) k = true := by
  have ht1 : t + 1 < gins.length := Nat.lt_of_succ_lt ht
  refine gpio_change_pending_partial (t := t + 2) hk (by rw [syncTrace_length]; exact ht) ?_ ?_ ?_
  · rw [sync_mode ht]; exact hmode2
  · rw [sync_change hk ht]; exact hchange
  · intro t' ht'
    obtain rfl : t' = t + 1 := (Nat.succ.inj ht').symm
    refine ⟨by rw [sync_mode ht1]; exact hmode1, ?_⟩
    rw [sync_change hk ht1]
    cases t with
    | zero => rfl
    | succ t'' => exact hquiet t'' rfl

end producers

/-! ## SoC level: interrupt numbers and the CPU's interrupt vector (LitexModel/Event/SocIrq.lean) -/

/-- `soc.irq.add` numbering, any request sequence that the handler accepts: one number per request, pairwise
    distinct, below `n_irqs`, none of the CPU's own lines, a requested number is the number given. -/
theorem irq_numbers_distinct {nl : Nat} {used locs : List Nat} {reqs : List (Option Nat)}
    (h : irqAlloc nl used reqs = some locs) :
    locs.length = reqs.length ∧ locs.Nodup ∧ (∀ l ∈ locs, l < nl ∧ l ∉ used) ∧
    (∀ (j m : Nat), reqs[j]? = some (some m) → locs[j]? = some m) := by
  induction reqs generalizing used locs with
  | nil =>
    simp only [irqAlloc, Option.some.injEq] at h
    subst h
    simp
  | cons r rs ih =>
    simp only [irqAlloc] at h
    split at h
    · cases h
    · rename_i n hn
      obtain ⟨rest, hrest, rfl⟩ := Option.map_eq_some_iff.mp h
      obtain ⟨h1, h2, h3, h4⟩ := ih hrest
      obtain ⟨a1, a2, a3⟩ := irqAdd_spec hn
      refine ⟨congrArg (· + 1) h1, List.nodup_cons.mpr ⟨fun hmem => (h3 n hmem).2 List.mem_cons_self, h2⟩, ?_, ?_⟩
      · intro l hl
        rcases List.mem_cons.mp hl with rfl | hl
        · exact ⟨a1, a2⟩
        · exact ⟨(h3 l hl).1, fun hu => (h3 l hl).2 (List.mem_cons_of_mem _ hu)⟩
      · intro j m hj
        cases j with
        | zero => rw [a3 m (Option.some.inj hj)]; rfl
        | succ j => exact h4 j m hj

/-- Bit `locs[j]` of `cpu.interrupt` is high exactly when manager `j` has a pending and enabled source — in every
    state and for every input of the SoC (so in every cycle of every run). -/
theorem soc_interrupt_bit {width : Nat} {locs : List Nat} {cs : List Cfg} (ss : List St) (is : List In)
    (hnd : locs.Nodup) (hlc : locs.length = cs.length) (hs : ss.length = cs.length) (hi : is.length = cs.length)
    {j : Nat} (hj : j < cs.length) (hw : locs[j]'(by omega) < width) :
    ((socIrq width locs cs).out ss is).1.getD (locs[j]'(by omega)) false = true ↔
      ∃ k, k < cs[j].n ∧ pendingVis cs[j] (ss[j]'(by omega)) (is[j]'(by omega)) k = true ∧
        ((ss[j]'(by omega)).bit k).en = true := by
  rw [socIrq_out_getD hnd (List.getElem?_eq_getElem (hlc ▸ hj)) hw (List.getElem?_eq_getElem hj)
    (List.getElem?_eq_getElem (hs ▸ hj)) (List.getElem?_eq_getElem (hi ▸ hj))]
  exact irqOf_iff _ _

/-- Every bit that no peripheral was given is 0. -/
theorem soc_interrupt_unused {width : Nat} {locs : List Nat} {cs : List Cfg} (ss : List St) (is : List In)
    {b : Nat} (hb : b < width) (hn : b ∉ locs) : ((socIrq width locs cs).out ss is).1.getD b false = false := by
  show (cpuInterrupt width locs _).getD b false = false
  rw [cpuInterrupt_getD hb, cpuInterruptBit_unused hn]

/-- The SoC's managers step as the `SharedIRQ` product does, so `shared_run_proj` (each manager behaves as alone on
    its own share of the inputs) and with it every theorem of this file applies to each peripheral of the SoC. -/
theorem soc_run_is_product (width : Nat) (locs : List Nat) (cs : List Cfg) (ins : List (List In)) :
    (socIrq width locs cs).run ins = (shared cs).run ins :=
  socIrq_runFrom width locs cs ins _

/-- End to end at SoC level: an event of source `k` of peripheral `j` in cycle `u` raises bit `locs[j]` of
    `cpu.interrupt` in every later cycle `T` in which the source is enabled, until it is cleared — for all trigger
    waveforms of all peripherals and all bus traffic to all banks. -/
theorem soc_event_raises_interrupt {width : Nat} {locs : List Nat} {cs : List Cfg} (hnd : locs.Nodup)
    (hlc : locs.length = cs.length) (ins : List (List In)) (hwf : ∀ v ∈ ins, v.length = cs.length)
    {j k u T : Nat} (hj : j < cs.length) (hw : locs[j]'(by omega) < width) (hk : k < cs[j].n)
    (hkind : cs[j].kind k ≠ .level) (hu : u < T) (hT : T < ins.length)
    (hev : eventAt cs[j] (ins.map fun v => v.getD j In.idle) u k = true)
    (hno : ∀ v, u < v → v < T → clearAt cs[j] (ins.map fun v => v.getD j In.idle) v k = false)
    (hen : enableAt cs[j] (ins.map fun v => v.getD j In.idle) T k = true) :
    ((socIrq width locs cs).out ((socIrq width locs cs).run (ins.take T)) (ins.getD T [])).1.getD
      (locs[j]'(by omega)) false = true := by
  have hjv : ∀ v ∈ ins, j < v.length := fun v hv => hwf v hv ▸ hj
  rw [socIrq_out_getD hnd (List.getElem?_eq_getElem (hlc ▸ hj)) hw (List.getElem?_eq_getElem hj)
    (socIrq_run_take width locs cs hj ins hjv T) (socIrq_inAt hT (hjv _ (List.getElem_mem hT)))]
  exact event_raises_irq hk hkind hu (by rw [List.length_map]; exact Nat.le_of_lt hT) hev hno hen

def wr (adr dat : Nat) (trig : List Bool := []) : In := { trig := trig, adr := adr, we := true, datW := dat }
def idle (trig : List Bool := []) : In := { trig := trig, adr := 99, we := false, datW := 0 }

/-- pulse + rising + falling + level on an 8-bit bus: events become pending, irq follows enable, a clear coinciding
    with a new pulse keeps the source pending, clearing bit 0 leaves bit 1 alone. -/
example :
    let c : Cfg := { kinds := [.pulse, .rising, .falling, .level], bw := 8, little := false }
    let ins := [idle [true, true, true, false],          -- pulse, rising edge, falling source high
                wr 2 0b0011 [false, true, false, false],  -- enable sources 0,1; falling edge on source 2
                wr 1 0b0001 [false, true, false, false],  -- acknowledge source 0 …
                idle [true, true, false, true],           -- … the clear lands together with a new pulse
                idle]
    (List.range 5).map (fun t => (irqAt c ins t, (List.range 4).map (pendingAt c ins t))) =
      [(false, [false, false, false, false]),
       (false, [true, true, false, false]),
       (true, [true, true, true, false]),
       (true, [true, true, true, true]),
       (true, [true, true, true, false])] := by decide

/-- Negative witness for `clear_needs_one_in_this_write` outside its hypothesis (two sources on a 1-bit bus, i.e.
    `pending` = 2 words): source 1 is acknowledged by a whole-register write (word 1 := 1, word 0 := 0); later a
    write of word 0 alone (to acknowledge source 0) also clears the new event of source 1, although that write
    carries nothing for bit 1. -/
example :
    let c : Cfg := { kinds := [.pulse, .pulse], bw := 1, little := false }
    let ins := [idle [false, true], wr 2 1, wr 3 0, idle, idle [true, true], wr 3 1, idle, idle]
    pendingAt c ins 6 1 = true ∧ clearAt c ins 6 1 = true ∧ wrBit c (inAt ins 5) .pending 1 = none ∧
    pendingAt c ins 7 1 = false := by decide

/-- Non-vacuity of `clear_after_addressed_write`: three sources on a 2-bit bus (`pending` = words [bits 0,1] and
    [bit 2]); a whole-register write of 0b101 (word 1 first, then the committing word 0) clears exactly sources 0
    and 2 and leaves source 1 pending. -/
example :
    let c : Cfg := { kinds := [.pulse, .rising, .pulse], bw := 2, little := false }
    let ins := [idle [true, true, true], wr 2 0b1, wr 3 0b01, idle, idle]
    (List.range 3).map (clearAt c ins 3) = [true, false, true] ∧
    (List.range 3).map (pendingAt c ins 3) = [true, true, true] ∧
    (List.range 3).map (pendingAt c ins 4) = [false, true, false] := by decide

/-- Negative witness for `gpio_change_pending` outside the hypothesis of the `_partial` theorem (one pad, Change
    mode, 8-bit bus): the pad rises in cycle 1 (pending from cycle 2); in cycle 4 software acknowledges; the pad
    falls in cycle 4 and rises again in cycle 5, where the clear lands: the change of cycle 5 is not pending in
    cycle 6, and nothing is pending afterwards. -/
example :
    let g (pad : Bool) (adr : Nat) (we : Bool) (dat : Nat) : GpioIn :=
      { pads := [pad], mode := [true], edge := [false], adr := adr, we := we, datW := dat }
    let gins := [g false 9 false 0, g true 9 false 0, g true 9 false 0, g true 9 false 0,
                 g false 1 true 1, g true 9 false 0, g true 9 false 0, g true 9 false 0]
    let c := gpioCfg 1 8 false
    changeAt gins 5 0 = true ∧ clearAt c (gpioTrace 1 gins) 5 0 = true ∧
    (List.range 8).map (fun t => pendingAt c (gpioTrace 1 gins) t 0) =
      [false, false, true, true, true, true, false, false] := by decide

/-- Non-vacuity of the timer theorems (8-bit CSR bus): periodic mode with reload 2; the counter runs 0,2,1,0,2,1,0;
    the arrival at zero in cycle 3 is pending in cycle 4, the acknowledge written in cycle 4 clears it in cycle 6,
    the next arrival (cycle 6, coinciding with nothing) is pending in cycle 7. -/
example :
    let ti (adr : Nat) (we : Bool) (dat : Nat) : TimerIn := { en := true, load := 0, reload := 2, adr := adr, we := we, datW := dat }
    let tins := [ti 9 false 0, ti 2 true 1, ti 9 false 0, ti 9 false 0, ti 1 true 1, ti 9 false 0, ti 9 false 0, ti 9 false 0]
    (List.range 8).map (timerValueAt tins) = [0, 2, 1, 0, 2, 1, 0, 2] ∧
    (List.range 8).map (fun t => pendingAt (timerCfg 8 false) (timerTrace 8 false tins) t 0) =
      [false, true, true, true, true, true, false, true] ∧
    (List.range 8).map (irqAt (timerCfg 8 false) (timerTrace 8 false tins)) =
      [false, false, true, true, true, true, false, true] := by decide

/-- Non-vacuity of `uart_rx_char_pending` (depths 2/2, 8-bit bus): a character arrives in cycle 1 at the empty rx
    FIFO; rx (bit 1) is pending from cycle 4 on; the acknowledge written in cycle 4 pops the FIFO in cycle 5. -/
example :
    let ui (sv : Bool) (adr : Nat) (we : Bool) (dat : Nat) : UartIn :=
      { sinkValid := sv, srcReady := false, rxtxRe := false, rxtxWe := false, adr := adr, we := we, datW := dat }
    let uins := [ui false 9 false 0, ui true 9 false 0, ui false 9 false 0, ui false 9 false 0, ui false 1 true 2,
                 ui false 9 false 0, ui false 9 false 0]
    (uartStAt 2 2 false 8 false uins 1).rx = FifoSt.empty ∧
    (List.range 7).map (fun t => pendingAt (uartCfg 8 false) (uartTrace 2 2 false 8 false uins) t 1) =
      [false, false, false, false, true, true, false] ∧
    (List.range 7).map (fun t => (uartStAt 2 2 false 8 false uins t).rx) =
      [⟨0, false⟩, ⟨0, false⟩, ⟨1, false⟩, ⟨0, true⟩, ⟨0, true⟩, ⟨0, true⟩, ⟨0, false⟩] := by decide

/-- What "as coded" means for the UART rx event (documented limit, not a defect of the event manager): the trigger
    is the LEVEL `rx_fifo.source.valid` into a rising-edge source, so with two characters queued the acknowledge of
    the first (cycle 5, pops one character in cycle 6) leaves the FIFO non-empty, the trigger never falls, and no
    second event is raised: software has to drain until `rxempty` before it returns (the LiteX ISR does). -/
example :
    let ui (sv : Bool) (adr : Nat) (we : Bool) (dat : Nat) : UartIn :=
      { sinkValid := sv, srcReady := false, rxtxRe := false, rxtxWe := false, adr := adr, we := we, datW := dat }
    let uins := [ui true 9 false 0, ui true 9 false 0, ui false 9 false 0, ui false 9 false 0, ui false 9 false 0,
                 ui false 1 true 2, ui false 9 false 0, ui false 9 false 0, ui false 9 false 0]
    (List.range 9).map (fun t => (uartStAt 2 2 false 8 false uins t).rx.rd) =
      [false, false, true, true, true, true, true, true, true] ∧
    (List.range 9).map (fun t => pendingAt (uartCfg 8 false) (uartTrace 2 2 false 8 false uins) t 1) =
      [false, false, false, true, true, true, true, false, false] := by decide

/-- Non-vacuity of `gpio_raw_change_pending_partial` (one pad, Change mode): the raw pad rises in cycle 1, the IRQ
    logic sees it in cycle 3, pending from cycle 4. -/
example :
    let g (pad : Bool) : GpioRawIn := { raw := [pad], mode := [true], edge := [false], adr := 9, we := false, datW := 0 }
    let gins := [g false, g true, g true, g true, g true, g true]
    rawChangeAt gins 0 1 = true ∧ rawChangeAt gins 0 0 = false ∧
    (List.range 6).map (fun t => padAt (syncTrace 1 8 false gins) t 0) = [false, false, false, true, true, true] ∧
    (List.range 6).map (fun t => pendingAt (gpioCfg 1 8 false) (gpioTrace 1 (syncTrace 1 8 false gins)) t 0) =
      [false, false, false, false, true, true] := by decide

/-- Interrupt numbering: CPU lines 0 and 2 taken; requests 5, "any", 31 get 5, 1, 31.  The vector of three managers
    with irq = 1,0,1 at those numbers; a request for a used number, or for a number ≥ n_irqs, is refused. -/
example :
    irqAlloc 32 [0, 2] [some 5, none, some 31] = some [5, 1, 31] ∧
    (List.range 32).filter (fun b => (cpuInterrupt 32 [5, 1, 31] [true, false, true]).getD b false) = [5, 31] ∧
    irqAlloc 32 [0, 2] [some 5, some 2] = none ∧ irqAlloc 4 [] [some 4] = none ∧
    irqAlloc 2 [0] [none, none] = none := by decide

/-- Why `soc_interrupt_bit` needs distinct numbers (which `irq_numbers_distinct` provides): were two managers wired
    to the same bit, the later statement would win and the earlier manager's interrupt would be invisible. -/
example : cpuInterruptBit [3, 3] [true, false] 3 = false := by decide

/-- Non-vacuity of `clear_is_local`: two runs that differ in the trigger of source 0 and in bit 0 of every written
    mask agree on everything that concerns source 1. -/
example :
    let c : Cfg := { kinds := [.pulse, .rising], bw := 8, little := false }
    AgreeTraces c 1 [idle [true, true], wr 1 0b11, wr 2 0b10, idle [false, true]]
                    [idle [false, true], wr 1 0b10, wr 2 0b11, idle [true, true]] := by
  simp only [AgreeTraces, AgreeOn]
  decide

end Litex.C15
