import LitexProofs.Export.Addr
import LitexProofs.Export.Accessor
import LitexProofs.Export.MemImage
import LitexProofs.Export.Soc
import LitexProofs.Export.Adapt
import LitexProofs.Soc.AcceptedDisjoint
import LitexProofs.Soc.LocInv
/-
  C14 — exported software maps tell the truth about the hardware.

  Model: `LitexModel/Export/{Addr,Accessor,MemImage,Soc,Adapt}.lean` (tied to `/repo` by `harness/props/c14.py`: real SoCs are
  built, exported and every exported address is accessed in simulation; every model function below is compared with
  what that run observed).  The export model stands on its own: `Bank`, `nwords`, `nbits`, `bankSel`/`decodeFrom`,
  `RegSt.write`, `nLocs` here model the same LiteX code as `BankCfg`, `Csr.nwords`, `wordBits`, `BankCfg.hit`, `regNext`,
  `csrNLocs` of C12 (`LitexModel/Csr`), but no Lean statement relates the two models; each is tied to the code by its
  own harness.

  Inventory: every exporter of `litex/soc/integration/export.py` / `common.py` / `builder.py` against the model
  (M = Lean model function, T = theorem, tie = how the real code is compared; "oracle" = model-independent check of c14lib).

  | exporter (file written by Builder)                  | model                                   | theorems                                   | tie |
  |-----------------------------------------------------|-----------------------------------------|--------------------------------------------|-----|
  | get_csr_json / get_csr_csv (csr.json, csr.csv)      | exportAddrs, regAddrs, jsonWords        | export_matches_decode_*, json_words_eq_hw, json_next_address, json_csv_svd_agree | `export`, `jsonwords`, `chunks` calls per SoC and on hand-made regions; every view's own addresses driven on the bus |
  | get_csr_header (csr.h): addresses, CSR_BASE         | headerAddrs                             | json_csv_svd_agree                         | `export` H part; CHeader evaluates the emitted C |
  | csr.h accessors <reg>_read/_write                   | accRead, accWriteWords, hwWords, hwWrite| accessor_roundtrip_big/_partial            | `accread/accwrite/hwwords/hwwrite`, stores/loads on the real SoC |
  | csr.h field macros / _extract / _replace            | fieldExtract                            | field_extract_exact                        | `fieldextract`; _replace: oracle only |
  | get_csr_svd (csr.svd): registers, bases, interrupts | svdAddrsK                               | json_csv_svd_agree(_kinds), irq_export_matches_wiring | `export` S part; SVD memoryRegions/constants/interrupt: oracle |
  | CSR memories (csr_bases of windows, <mem>_page)     | sramSel, sramSelWide, wideWord/wideSub  | mem_window(_paged), wide_mem_window_paged, wide_mem_roundtrip_head | `sramsel/sramwide/wideword/widesub/sweep`; wide AND paged memories driven through their page register |
  | get_mem_header (mem.h *_BASE/_SIZE, MEM_REGIONS str) | memExport, selectedSlaves               | region_export_decoded_partial              | `slaves` call; MEM_REGIONS string: oracle |
  | get_linker_regions (regions.ld), get_memory_x       | ldRegions, memoryX, ldOverlap            | linker_regions_are_published_regions, region_export_decoded_partial | `ldregions` call per SoC (regions.ld text parsed) and per CPU SoC (memory.x); _stext inside a region: oracle |
  | get_linker_output_format (output_format.ld)         | -                                       | -                                          | oracle (stub CPU's format string) |
  | window -> cell behind add_master/add_slave adapters | convS2M/M2S, axil2wb, wb2axil, slaveCell| published_reaches_cell, cell_reached_only_from_its_word, adapters_transparent | `slavecell` per store of the window walk (cell observed in the slave's memory), `chainword/masterbus/adrconv` on add_adapter alone |
  | get_soc_header (soc.h), JSON/CSV/SVD constants      | addConstants                            | constants_declared_once                    | `constants`; values: oracle |
  | <NAME>_INTERRUPT, CONFIG_CPU_INTERRUPTS             | irqConstants, irqWiring, cpuInterrupts  | irq_export_matches_wiring                  | `irq` call + event fired on the real SoC |
  | common.get_mem_data (ROM/RAM init images)           | memImage, imageByte                     | mem_image_lanes, mem_image_any_base, _gap, _length | `memimage/imagebytes`; init images read back through the bus |
  | get_git_header (git.h), get_cpu_mak (variables.mak), get_i2c_header | -                       | -                                          | not addresses of the hardware: outside the property |
  | common.get_boot_address                             | -                                       | -                                          | not modelled (not used by the Builder flow; parses the base with int(base, 0) while get_mem_data uses base 16) |
  | load_csr_json (import of another SoC's csr.json)    | -                                       | -                                          | not modelled |
-/
namespace Litex.Export

/-- For every bank list (`pre ++ bank :: post`), every register list of the bank
    (`rpre ++ s :: rpost`), every word `j` of register `s`: the address the exporters publish for that word is
    `csr_base + paging·page + 4·index` with `index = Σ nwords(earlier registers) + j` (the flattening index of
    `GenericBank`), and a 32-bit access at that address strobes exactly simple CSR `index` of that bank and nothing
    else.  Hypotheses = the checks the build makes: pages distinct and `< n_locs` (`SoCLocHandler.add`), the bank fits
    its page (`SoC.finalize`). -/
theorem export_matches_decode_csr32
    (csrBase paging aw page s j : Nat) (pre post : List Bank) (rpre rpost : List Nat)
    (h4 : paging % 4 = 0)
    (hj : j < nwords 32 s)
    (hdist : ∀ b ∈ pre ++ post, b.page ≠ page)
    (hfit : nsimple 32 (rpre ++ s :: rpost) ≤ paging / 4)
    (hloc : page < nLocs 32 aw paging) :
    ∃ e, ((exportAddrs csrBase paging 32 32 (pre ++ ⟨page, rpre ++ s :: rpost⟩ :: post))[pre.length]?.bind
            (·[rpre.length]?)) = some e ∧
      e.2 = nwords 32 s ∧
      wordAddr 4 e j = csrBase + paging * page + 4 * (nsimple 32 rpre + j) ∧
      hwDecode 32 aw paging (pre ++ ⟨page, rpre ++ s :: rpost⟩ :: post) (wordAddr 4 e j - csrBase)
        = [(pre.length, nsimple 32 rpre + j)] := by
  have hw : wordAddr 4 (csrBase + paging * page + 4 * nsimple 32 rpre, nwords 32 s) j
      = csrBase + paging * page + 4 * (nsimple 32 rpre + j) := by
    rw [wordAddr, Nat.mul_add, Nat.mul_comm j, Nat.add_assoc]
  refine ⟨_, ?_, rfl, hw, ?_⟩
  · rw [exportAddrs, List.getElem?_map, List.getElem?_append_right (Nat.le_refl _), Nat.sub_self]
    exact regAddrs_getElem? _ _ _ _ _ _
  · have hidx : nsimple 32 rpre + j < nsimple 32 (rpre ++ s :: rpost) := by
      rw [nsimple_append, nsimple_cons]; omega
    have hlt : nsimple 32 rpre + j < paging / 4 := Nat.lt_of_lt_of_le hidx hfit
    rw [hw, Nat.add_assoc, Nat.add_sub_cancel_left, hwDecode, if_neg (by decide), bridgeAdr_32 aw paging page _ h4 hlt hloc]
    exact decode_unique paging 32 page _ pre post _ hdist hlt hidx

/-- Non-vacuity: two banks (pages 0 and 5), second register (40 bit, two words) of the second bank, word 1. -/
example : ∃ e, ((exportAddrs 0xf0000000 0x800 32 32 [⟨0, [2, 32, 32]⟩, ⟨5, [8, 40, 17]⟩])[1]?.bind (·[1]?)) = some e ∧
    wordAddr 4 e 1 = 0xf0000000 + 0x800 * 5 + 4 * 2 ∧
    hwDecode 32 14 0x800 [⟨0, [2, 32, 32]⟩, ⟨5, [8, 40, 17]⟩] (wordAddr 4 e 1 - 0xf0000000) = [(1, 2)] := by
  refine ⟨(0xf0000000 + 0x800 * 5 + 4, 2), by decide, by decide, by decide⟩

/-- Negative witness (known finding `C14-csr8-stride`): with an 8-bit CSR bus the exported address of the second
    register (`base + 4`) does not select simple CSR 1 of its bank: the hardware packs bytes contiguously, so the
    32-bit access strobes simple CSRs 4..7. -/
example : hwDecode 8 14 0x800 [⟨0, [8, 8, 32, 32]⟩] (wordAddr 4 (4, 1) 0) = [(0, 4), (0, 5), (0, 6), (0, 7)] ∧
    ((exportAddrs 0 0x800 32 8 [⟨0, [8, 8, 32, 32]⟩])[0]?.bind (·[1]?)) = some (4, 1) := by decide

/-- Negative witness for `hfit` (fixed finding `C14-bank-exceeds-page`): a 257-word bank (one 8224-bit register) in a 256-word page
    exports word 256 at the address of the next bank's first register; the build refuses such a bank (`accepts`). -/
example : hwDecode 32 14 0x400 [⟨0, [8224]⟩, ⟨1, [32]⟩] (0x400 * 0 + 4 * 256) = [(1, 0)] ∧
    accepts 32 14 0x400 32 [⟨0, [8224]⟩, ⟨1, [32]⟩] = false := by decide

/-- Negative witness for `hloc` (fixed finding `C14-csr-page-eq-nlocs`): page `n_locs` lies outside the CSR window
    (its address wraps to page 0 in the bridge); the build refuses it. -/
example : nLocs 32 14 0x800 = 32 ∧ hwDecode 32 14 0x800 [⟨32, [8]⟩] (0x800 * 32) = [] ∧
    accepts 32 14 0x800 32 [⟨32, [8]⟩] = false := by decide

/-- Negative witness (known finding `C14-axil-wide-bus-read-side-effects`): on an `axi-lite`/`axi` SoC with a 64-bit
    bus the AXI-Lite 64→32 down-converter reads both halves of the bus word, so a load from the exported address of
    simple CSR 0 also strobes simple CSR 1 ("and nothing else" fails for loads); stores are exact. -/
example : hwDecodeWide 2 32 14 0x800 [⟨0, [32, 32]⟩] 0 = [(0, 0), (0, 1)] ∧
    hwDecodeWide 2 32 14 0x800 [⟨0, [32, 32]⟩] 4 = [(0, 0), (0, 1)] ∧
    hwDecodeWide 1 32 14 0x800 [⟨0, [32, 32]⟩] 4 = [(0, 1)] := by decide

/- Full statement of DESIGN §7.C14 (does NOT hold on the code):
     theorem export_matches_decode : ∀ busword ≤ 32, ∀ ratio, … hwDecodeWide ratio busword … = [(bank, index)]
   It fails for `busword = 8` (known finding `C14-csr8-stride`, witness above, exact extent in
   `csr8_stride_mismatch`) and for loads with `ratio = 2` (known finding `C14-axil-wide-bus-read-side-effects`,
   witness above).  Proved: the statement under the two decidable hypotheses that exclude those regions. -/
/-- `export_matches_decode` for every CSR bus width / bus ratio outside the two
    known-finding regions (`busword = 32`; `ratio ≤ 1`, i.e. wishbone, a 32-bit bus, or a store). -/
theorem export_matches_decode_partial
    (busword ratio csrBase paging aw page s j : Nat) (pre post : List Bank) (rpre rpost : List Nat)
    (hbw : busword = 32) (hratio : ratio ≤ 1)
    (h4 : paging % 4 = 0)
    (hj : j < nwords busword s)
    (hdist : ∀ b ∈ pre ++ post, b.page ≠ page)
    (hfit : nsimple busword (rpre ++ s :: rpost) ≤ paging / 4)
    (hloc : page < nLocs 32 aw paging) :
    ∃ e, ((exportAddrs csrBase paging 32 busword (pre ++ ⟨page, rpre ++ s :: rpost⟩ :: post))[pre.length]?.bind
            (·[rpre.length]?)) = some e ∧
      e.2 = nwords busword s ∧
      wordAddr 4 e j = csrBase + paging * page + 4 * (nsimple busword rpre + j) ∧
      hwDecodeWide ratio busword aw paging (pre ++ ⟨page, rpre ++ s :: rpost⟩ :: post) (wordAddr 4 e j - csrBase)
        = [(pre.length, nsimple busword rpre + j)] := by
  subst hbw
  simp only [hwDecodeWide, hratio, if_true]
  exact export_matches_decode_csr32 csrBase paging aw page s j pre post rpre rpost h4 hj hdist hfit hloc

/-- What the build accepts gives, for each of its banks, the hypotheses `hloc` and `hfit` of
    `export_matches_decode_partial` (`hdist`, distinct pages, is the third conjunct of `accepts`). -/
theorem accepts_fits (aw paging : Nat) (banks : List Bank) (h : accepts 32 aw paging 32 banks = true)
    (b : Bank) (hb : b ∈ banks) : b.page < nLocs 32 aw paging ∧ nsimple 32 b.regs ≤ paging / 4 := by
  simp only [accepts, Bool.and_eq_true, List.all_eq_true, decide_eq_true_eq] at h
  exact h.1 b hb

/-- The exact extent of known finding `C14-csr8-stride`.  With an 8-bit CSR bus the
    simple CSR `idx` of the bank at `page` answers at byte offset `(paging/4)·page + idx` of the CSR window (and
    nothing else does), while every exporter publishes `paging·page + 4·idx`: the two coincide only for the very
    first simple CSR of page 0. -/
theorem csr8_stride_mismatch (paging aw page idx : Nat) (pre post : List Bank) (regs : List Nat)
    (h4 : paging % 4 = 0) (hdist : ∀ b ∈ pre ++ post, b.page ≠ page)
    (hidx : idx < paging / 4) (hn : idx < nsimple 8 regs) (hloc : page < 2 ^ aw / (paging / 4)) :
    decodeFrom paging 8 (((paging / 4) * page + idx) % 2 ^ aw) 0 (pre ++ ⟨page, regs⟩ :: post) = [(pre.length, idx)] ∧
    (paging * page + 4 * idx = (paging / 4) * page + idx ↔ page = 0 ∧ idx = 0) := by
  constructor
  · rw [Nat.mul_comm, Nat.mod_eq_of_lt (page_lt hidx hloc)]
    exact decode_unique paging 8 page idx pre post regs hdist hidx hn
  · obtain ⟨P, rfl⟩ : ∃ P, paging = 4 * P := ⟨paging / 4, by omega⟩
    rw [Nat.mul_div_cancel_left _ (by decide : 0 < 4)] at hidx ⊢
    rw [Nat.mul_assoc]
    constructor
    · intro h
      have h0 : P * page = 0 ∧ idx = 0 := by omega
      exact ⟨(Nat.mul_eq_zero.1 h0.1).resolve_left (Nat.ne_of_gt (Nat.zero_lt_of_lt hidx)), h0.2⟩
    · rintro ⟨rfl, rfl⟩
      rfl

/-- A CSR memory (width ≤ bus word) that fits one page — including one that fills it exactly — has
    no page register, and word `i` of the memory answers at `base + 4·i` of the exported window
    `csr_base + paging·page` for every `i < depth`, whatever a page value would be (32-bit CSR bus).
    `hk0` (a page of at least two words): `bits_for(0) = 1`, so even a one-word memory has a one-bit `port.adr`, which
    a one-word page would not cover.  `hk` (a page of `2^k` words): the memory is addressed by the low `len(port.adr)` bits of the
    CSR address, so its word 0 answers at the first word of the page only if the page size is a multiple of `2^len(port.adr)`. -/
theorem mem_window (paging aw page depth pv i k : Nat) (h4 : paging % 4 = 0)
    (hk : paging / 4 = 2 ^ k) (hk0 : 0 < k) (hi : i < depth) (hdepth : depth ≤ paging / 4) (hloc : page < nLocs 32 aw paging) :
    sramPageBits paging depth = 0 ∧
    sramSel paging page depth pv (bridgeAdr 32 aw (paging * page + 4 * i)) = some i := by
  have hlt : i < paging / 4 := Nat.lt_of_lt_of_le hi hdepth
  have hpb : sramPageBits paging depth = 0 := by
    have : sramPages paging depth ≤ 1 :=
      Nat.le_of_lt_succ ((Nat.div_lt_iff_lt_mul (Nat.zero_lt_of_lt hlt)).2 (by omega))
    rw [sramPageBits, clog2, if_pos this]
  -- `i ≤ depth - 1 < 2^len(port.adr)`, and `len(port.adr) ≤ k` because `depth - 1 < 2^k`
  have hi' : i < 2 ^ bitsFor (depth - 1) := Nat.lt_of_le_of_lt (Nat.le_sub_one_of_lt hi) Nat.lt_log2_self
  have hdvd : 2 ^ bitsFor (depth - 1) ∣ page * (paging / 4) :=
    hk ▸ Nat.dvd_mul_left_of_dvd (Nat.pow_dvd_pow 2 (bitsFor_le hk0 (hk ▸ Nat.lt_of_lt_of_le
      (Nat.sub_lt (Nat.zero_lt_of_lt hi) Nat.one_pos) hdepth))) page
  refine ⟨hpb, ?_⟩
  rw [bridgeAdr_32 aw paging page i h4 hlt hloc, sramSel, mul_add_div_of_lt _ hlt, if_pos rfl, hpb]
  dsimp only
  rw [Nat.sub_zero, Nat.pow_zero, Nat.mod_one, Nat.zero_mul, Nat.add_zero, Nat.add_mod, Nat.mod_eq_zero_of_dvd hdvd,
    Nat.zero_add, Nat.mod_mod, Nat.mod_eq_of_lt hi']

/-- A CSR memory deeper than a page is reached through its `<mem>_page` register: with the
    register holding `w / (paging/4)`, word `w` answers at `base + 4·(w mod paging/4)`.  Hypothesis `hwin`: the
    window the hardware cuts out (`2^(len(port.adr) - page_bits)` words) is one page — decidable, and true for every
    depth the harness builds (see the examples). -/
theorem mem_window_paged (paging aw page depth w : Nat) (h4 : paging % 4 = 0)
    (hwin : 2 ^ (bitsFor (depth - 1) - sramPageBits paging depth) = paging / 4)
    (hpv : w / (paging / 4) < 2 ^ sramPageBits paging depth) (hloc : page < nLocs 32 aw paging) :
    sramSel paging page depth (w / (paging / 4)) (bridgeAdr 32 aw (paging * page + 4 * (w % (paging / 4)))) = some w := by
  have hP : 0 < paging / 4 := by rw [← hwin]; exact Nat.two_pow_pos _
  have hlt : w % (paging / 4) < paging / 4 := Nat.mod_lt _ hP
  rw [bridgeAdr_32 aw paging page _ h4 hlt hloc, sramSel, mul_add_div_of_lt _ hlt, if_pos rfl]
  simp only [hwin, Option.some.injEq]
  rw [Nat.mod_eq_of_lt hpv, Nat.mul_comm page, Nat.mul_add_mod, Nat.mod_mod, Nat.mul_comm]
  exact Nat.mod_add_div w (paging / 4)

/-- Non-vacuity: a 256-word memory exactly filling a 0x400 page (last word, no page register); paged memories of
    300, 512 and 768 words at paging 0x400 satisfy `hwin`, and word 300 of the 768-word one is page 1, offset 44. -/
example : 0x400 / 4 = 2 ^ 8 ∧ sramPageBits 0x400 256 = 0 ∧ sramSel 0x400 1 256 0 (bridgeAdr 32 14 (0x400 * 1 + 4 * 255)) = some 255 ∧
    2 ^ (bitsFor (300 - 1) - sramPageBits 0x400 300) = 0x400 / 4 ∧
    2 ^ (bitsFor (512 - 1) - sramPageBits 0x400 512) = 0x400 / 4 ∧
    2 ^ (bitsFor (768 - 1) - sramPageBits 0x400 768) = 0x400 / 4 ∧
    sramSel 0x400 2 768 (300 / 256) (bridgeAdr 32 14 (0x400 * 2 + 4 * (300 % 256))) = some 300 := by decide

/-- A CSR memory whose word is `n` bus words wide AND that is deeper than a page: CSR-word index
    `i = w·n + k` (sub-word `k` of memory word `w`) answers at `base + 4·(i mod paging/4)` with the `<mem>_page` register holding
    `i / (paging/4)`.  Hypothesis `hwin`: the window the hardware cuts out (`2^(len(port.adr) - page_bits)` memory words of `n`
    sub-words) is one page — decidable, true for every memory the harness builds (see the example). -/
theorem wide_mem_window_paged (paging aw page depth n i : Nat) (h4 : paging % 4 = 0) (hn : 0 < n)
    (hwin : n * 2 ^ (bitsFor (depth - 1) - clog2 ((depth * n + paging / 4 - 1) / (paging / 4))) = paging / 4)
    (hpv : i / (paging / 4) < 2 ^ clog2 ((depth * n + paging / 4 - 1) / (paging / 4))) (hloc : page < nLocs 32 aw paging) :
    sramSelWide paging page depth n (i / (paging / 4)) (bridgeAdr 32 aw (paging * page + 4 * (i % (paging / 4))))
      = some (i / n, i % n) := by
  generalize hMd : 2 ^ (bitsFor (depth - 1) - clog2 ((depth * n + paging / 4 - 1) / (paging / 4))) = M at hwin
  have hP : 0 < paging / 4 := hwin ▸ Nat.mul_pos hn (hMd ▸ Nat.two_pow_pos _)
  have hlt := Nat.mod_lt i hP
  rw [bridgeAdr_32 aw paging page _ h4 hlt hloc, sramSelWide, mul_add_div_of_lt _ hlt, if_pos rfl]
  dsimp only
  rw [hMd, Nat.mod_eq_of_lt hpv, ← hwin]
  -- a page is `n·M` CSR words: the CSR-bus address is `n·(M·page) + i mod (n·M)`,
  have hadr : page * (n * M) + i % (n * M) = n * (M * page) + i % (n * M) := by rw [Nat.mul_comm page, Nat.mul_assoc]
  -- its memory word inside the window is `(i/n) mod M`, to which the page register adds `(i/n / M)·M`,
  have hword : (n * (M * page) + i % (n * M)) / n % M = i / n % M := by
    rw [Nat.mul_add_div hn, Nat.mod_mul_right_div_self, Nat.mul_add_mod, Nat.mod_mod]
  -- and its sub-word is `i mod n`
  have hsub : (n * (M * page) + i % (n * M)) % n = i % n := by rw [Nat.mul_add_mod, Nat.mod_mul_right_mod]
  rw [hadr, hword, hsub, ← Nat.div_div_eq_div_mul, Nat.mod_add_div']

/-- Non-vacuity: 96 and 65 words of 4 CSR words in a 256-word page (two pages): `hwin` holds, and CSR-word index 300 of the first
    (memory word 75, sub-word 0) is page 1, offset 44. -/
example : 4 * 2 ^ (bitsFor (96 - 1) - clog2 ((96 * 4 + 0x400 / 4 - 1) / (0x400 / 4))) = 0x400 / 4 ∧
    4 * 2 ^ (bitsFor (65 - 1) - clog2 ((65 * 4 + 0x400 / 4 - 1) / (0x400 / 4))) = 0x400 / 4 ∧
    sramSelWide 0x400 3 96 4 (300 / 256) (bridgeAdr 32 14 (0x400 * 3 + 4 * (300 % 256))) = some (75, 0) := by decide

/-- A CSR memory word `n` bus words wide: writing sub-words `x₀ … xₙ₋₁` at the successive
    addresses assembles a word from which sub-word 0 (the first address) reads back as `x₀`, for every width and every
    list.  This is the head of `wideSub_wideWord` (every sub-word reads back; `LitexProofs/Export/Addr.lean`): the position
    that tells most-significant-first from the reverse; whole round trips on concrete 4- and 8-word memories below. -/
theorem wide_mem_roundtrip_head (dw x : Nat) (rest : List Nat) (hx : x < 2 ^ dw)
    (hrest : wideWord dw rest < 2 ^ (dw * rest.length)) :
    wideSub dw (rest.length + 1) (wideWord dw (x :: rest)) 0 = x :=
  (wideSub_wideWord dw (x :: rest) 0 (Nat.succ_pos _)).trans (Nat.mod_eq_of_lt hx)

example : (List.range 4).map (wideSub 8 4 (wideWord 8 [0x11, 0x22, 0x33, 0x44])) = [0x11, 0x22, 0x33, 0x44] ∧
    wideWord 8 [0x11, 0x22, 0x33, 0x44] = 0x11223344 ∧
    (List.range 8).map (wideSub 32 8 (wideWord 32 [1, 2, 3, 4, 5, 6, 7, 8])) = [1, 2, 3, 4, 5, 6, 7, 8] ∧
    sramSelWide 0x400 3 16 4 0 (3 * 256 + 4 * 5 + 2) = some (5, 2) := by decide

/-- For every register size (any number of words for which a C type exists, i.e.
    up to 64 bit), every byte-multiple bus word up to 32 bit and every register value `v`: the generated
    `<reg>_read()` evaluated on the words the hardware returns at the successive exported addresses yields `v`. -/
theorem accessor_read_big (bw size ct v : Nat) (hbw : 0 < bw) (hbw8 : bw % 8 = 0) (hbw32 : bw ≤ 32)
    (hs : 0 < size) (hct : ctypeBits (nwords bw size) bw = some ct) (hv : v < 2 ^ size) :
    accRead bw ct (hwWords true bw size v) = v := by
  obtain ⟨hfit, _⟩ := ctype_fits _ _ _ hbw8 hct
  rw [hwWords_big, accRead_descList bw ct _ _ hbw32 (fun i _ => hwWord_lt bw size v i)
    (Nat.pow_le_pow_right (by decide) hfit)]
  exact sumWords_hwWord bw size v hbw hs hv

/-- After the stores of the generated `<reg>_write(v)` (ascending addresses),
    the storage signal holds `v` — from every previous register state, with and without `atomic_write`. -/
theorem accessor_write_big (bw size ct v : Nat) (atomic : Bool) (st : RegSt)
    (hbw : 0 < bw) (hbw8 : bw % 8 = 0) (hbw32 : bw ≤ 32)
    (hs : 0 < size) (hct : ctypeBits (nwords bw size) bw = some ct) (hv : v < 2 ^ size) :
    (hwWrite true atomic bw size st (accWriteWords bw ct (nwords bw size) v)).value bw size = v := by
  obtain ⟨hfit, _⟩ := ctype_fits _ _ _ hbw8 hct
  obtain ⟨_, h2, h3⟩ := nwords_spec bw size hbw hs
  have hvct : v < 2 ^ ct :=
    Nat.lt_of_lt_of_le hv (Nat.pow_le_pow_right (by decide) (Nat.le_trans h2 hfit))
  obtain ⟨m, hm⟩ : ∃ m, nwords bw size = m + 1 := ⟨_, (Nat.sub_add_cancel h3).symm⟩
  unfold hwWrite RegSt.value
  -- word by word the register holds the words of `v`
  refine (sumWords_congr bw _ (hwWord bw size v) _ fun k hk => ?_).trans (sumWords_hwWord bw size v hbw hs hv)
  rw [accWriteWords_desc, hm, hwWriteFrom_desc_words atomic bw size _ k m st 0 ((Nat.zero_add _).trans hm.symm),
    if_pos (hm ▸ hk)]
  exact store_word bw size ct v k hbw32 hvct

/-- Non-vacuity: a 40-bit register on the 32-bit CSR bus (two words, `uint64_t` accessors), atomic, from a dirty
    state; and a 16-bit register on an 8-bit CSR bus. -/
example : ctypeBits (nwords 32 40) 32 = some 64 ∧
    accRead 32 64 (hwWords true 32 40 0x789abcdef0) = 0x789abcdef0 ∧
    (hwWrite true true 32 40 (RegSt.ofValue 32 40 0x1122334455 0xff) (accWriteWords 32 64 2 0x789abcdef0)).value 32 40
      = 0x789abcdef0 ∧
    ctypeBits (nwords 8 16) 8 = some 16 ∧ accRead 8 16 (hwWords true 8 16 0xbeef) = 0xbeef := by decide

/-- The round trip fails for ordering `little` (known finding `C14-little-ordering-accessors`): the exporters ignore
    `csr_ordering`.  With ordering `little` the hardware presents the least significant word at the lowest address,
    the generated reader still composes most-significant-first and the generated writer stores the high word at the
    low address: a 40-bit register holding `0x789abcdef0` reads `0x9abcdef000000078`, and `write(0x789abcdef0)`
    leaves `0xf012345678`-style garbage (here from the all-zero state: `0xf000000078`). -/
example : accRead 32 64 (hwWords false 32 40 0x789abcdef0) ≠ 0x789abcdef0 ∧
    (hwWrite false false 32 40 (RegSt.ofValue 32 40 0 0) (accWriteWords 32 64 2 0x789abcdef0)).value 32 40
      ≠ 0x789abcdef0 := by decide

/-- Read and write round trips together (sizes up to 64 bit, i.e. whenever accessors are
    generated). -/
theorem accessor_roundtrip_big (bw size ct v : Nat) (atomic : Bool) (st : RegSt)
    (hbw : 0 < bw) (hbw8 : bw % 8 = 0) (hbw32 : bw ≤ 32)
    (hs : 0 < size) (hct : ctypeBits (nwords bw size) bw = some ct) (hv : v < 2 ^ size) :
    accRead bw ct (hwWords true bw size v) = v ∧
    (hwWrite true atomic bw size st (accWriteWords bw ct (nwords bw size) v)).value bw size = v :=
  ⟨accessor_read_big bw size ct v hbw hbw8 hbw32 hs hct hv,
   accessor_write_big bw size ct v atomic st hbw hbw8 hbw32 hs hct hv⟩

/- Full statement for every ordering (does NOT hold for ordering `little`, witness above):
     theorem accessor_roundtrip : ∀ big, accRead bw ct (hwWords big bw size v) = v ∧ (hwWrite big …).value = v  -/
/-- The round trips for every ordering outside the known-finding region
    `ordering = little ∧ nwords > 1`. -/
theorem accessor_roundtrip_partial (big : Bool) (bw size ct v : Nat) (atomic : Bool) (st : RegSt)
    (hord : big = true ∨ nwords bw size = 1)
    (hbw : 0 < bw) (hbw8 : bw % 8 = 0) (hbw32 : bw ≤ 32)
    (hs : 0 < size) (hct : ctypeBits (nwords bw size) bw = some ct) (hv : v < 2 ^ size) :
    accRead bw ct (hwWords big bw size v) = v ∧
    (hwWrite big atomic bw size st (accWriteWords bw ct (nwords bw size) v)).value bw size = v := by
  have hr := accessor_roundtrip_big bw size ct v atomic st hbw hbw8 hbw32 hs hct hv
  rcases hord with rfl | h1
  · exact hr
  · rw [hwWords_single big bw size v h1]
    refine ⟨hr.1, ?_⟩
    rw [h1] at hr ⊢
    exact (congrArg (RegSt.value bw size) (hwWrite_single big atomic bw size st _ h1)).trans hr.2

/-- The generated `<field>_extract` macro returns bits `[offset, offset+size)` of the
    32-bit register word. -/
theorem field_extract_exact (offset size word : Nat) (hw : word < 2 ^ 32) :
    fieldExtract offset size word = slice offset size word := by
  unfold fieldExtract slice
  rw [Nat.mod_eq_of_lt hw, Nat.and_two_pow_sub_one_eq_mod, Nat.shiftRight_eq_div_pow]

/-- For every bank list: (1) `csr.h` (`get_csr_header` called with a `csr_base` argument not
    above the CSR base, as `builder.py` does with the CSR base itself) publishes for every register the `(address,
    nwords)` of the JSON/CSV export (the CSV is printed from the JSON dictionary); (2) for every bank whose
    registers have positive sizes the SVD register list is exactly the list of word addresses `addr + 4·j` of the
    JSON export (SVD's hard-coded `+4` = `alignment/8` because `SoC` fixes `alignment = 32`). -/
theorem json_csv_svd_agree (csrBaseArg csrBase paging bw : Nat) (banks : List Bank) (hbw : 0 < bw)
    (harg : csrBaseArg ≤ csrBase) :
    headerAddrs csrBaseArg csrBase paging 32 bw banks = exportAddrs csrBase paging 32 bw banks ∧
    ∀ b ∈ banks, (∀ s ∈ b.regs, 0 < s) →
      svdAddrs csrBase paging bw b = flatWordAddrs 4 (regAddrs (32 / 8) bw (regionOrigin csrBase paging b) b.regs) := by
  constructor
  · unfold headerAddrs exportAddrs
    apply List.map_congr_left
    intro b _
    rw [regAddrs_shift]
    congr 1
    unfold regionOrigin; omega
  · intro b _ hpos
    unfold svdAddrs
    have := svdOffsets_flat bw (regionOrigin csrBase paging b) hbw b.regs 0 hpos
    simpa using this

/-- Non-vacuity: two banks (pages 0 and 2), multi-word registers. -/
example : headerAddrs 0 0 0x800 32 32 [⟨0, [2, 32, 32]⟩, ⟨2, [8, 40, 33, 17]⟩]
      = [[(0, 1), (4, 1), (8, 1)], [(4096, 1), (4100, 2), (4108, 2), (4116, 1)]] ∧
    svdAddrs 0 0x800 32 ⟨2, [8, 40, 33, 17]⟩ = [4096, 4100, 4104, 4108, 4112, 4116] := by decide

/-- Negative witness for `harg`: a base argument above the CSR base makes the header disagree (Python would print a
    negative offset; `Nat` subtraction truncates). -/
example : headerAddrs 0x2000 0 0x800 32 32 [⟨3, [8]⟩] ≠ exportAddrs 0 0x800 32 32 [⟨3, [8]⟩] := by decide

/-- For EVERY master kind (wishbone word / wishbone byte / AXI-Lite-AXI), EVERY slave kind
    (word-addressed wishbone core such as `wishbone.SRAM` or a user register file, byte-addressed wishbone core,
    AXI-Lite/AXI core), both SoC bus addressings (wishbone = word, axi-lite/axi = byte), every bus width `8·2^shB`,
    slave width `8·2^shS ≤` bus width, address width and window of `2^cb` cells aligned on its size (`origin = m·2^(shS+cb)`,
    `SoCRegion`'s alignment rule): an access at published address `origin + 2^shS·k + o` (`o` a byte inside the word) reaches
    cell `k` of the slave — through `add_master`'s "m2s" adapters, the interconnect, and `add_slave`'s "s2m" adapters
    (`bus_addressing_convert`'s four slice assignments and the `AXILite2Wishbone`/`Wishbone2AXILite` shifts). -/
theorem published_reaches_cell (mk : MasterKind) (kind : SlaveKind) (busByte : Bool) (shS shB aw cb m k o : Nat)
    (h1 : shS ≤ shB) (h2 : shB ≤ aw) (hk : k < 2 ^ cb) (ho : o < 2 ^ shS)
    (ha : m * 2 ^ (shS + cb) + 2 ^ shS * k + o < 2 ^ aw) :
    slaveCell mk kind busByte shS shB aw cb (m * 2 ^ (shS + cb) + 2 ^ shS * k + o) = k := by
  rw [slaveCell_eq mk kind busByte shS shB aw cb _ ha h1 h2]
  have e : m * 2 ^ (shS + cb) + 2 ^ shS * k + o = 2 ^ shS * (m * 2 ^ cb + k) + o := by
    rw [Nat.pow_add, Nat.mul_add, Nat.mul_left_comm]
  rw [e, Nat.mul_add_div (Nat.two_pow_pos shS), Nat.div_eq_of_lt ho, Nat.add_zero, Nat.add_comm,
    Nat.add_mul_mod_self_right, Nat.mod_eq_of_lt hk]

/-- The converse of `published_reaches_cell`.  Inside the published window `[origin, origin + 2^(shS+cb))` the cell
    an access reaches is `(a - origin) / 2^shS`: cell `k` answers exactly for the byte addresses of published word `k`
    (no aliasing inside the window, nothing of the window is unreachable). -/
theorem cell_reached_only_from_its_word (mk : MasterKind) (kind : SlaveKind) (busByte : Bool) (shS shB aw cb origin a : Nat)
    (h1 : shS ≤ shB) (h2 : shB ≤ aw) (horg : origin % 2 ^ (shS + cb) = 0)
    (hlo : origin ≤ a) (hhi : a < origin + 2 ^ (shS + cb)) (ha : a < 2 ^ aw) :
    slaveCell mk kind busByte shS shB aw cb a = (a - origin) / 2 ^ shS := by
  obtain ⟨m, rfl⟩ := Nat.dvd_of_mod_eq_zero horg
  obtain ⟨d, rfl⟩ := Nat.exists_eq_add_of_le hlo
  have hd : d < 2 ^ shS * 2 ^ cb := by rw [← Nat.pow_add]; exact Nat.lt_of_add_lt_add_left hhi
  rw [slaveCell_eq mk kind busByte shS shB aw cb _ ha h1 h2, Nat.add_sub_cancel_left, Nat.pow_add, Nat.mul_assoc,
    Nat.mul_add_div (Nat.two_pow_pos shS), Nat.mul_add_mod, Nat.mod_eq_of_lt (Nat.div_lt_of_lt_mul hd)]

/-- Non-vacuity: a 64 x 32-bit `wishbone.SRAM` at 0x30000000 on an axi-lite SoC, AXI-Lite master: published word 5 is cell 5,
    the last word is cell 63; a 32-bit wishbone slave on a 64-bit axi-lite bus (down-converter): word 5 is cell 5; a
    byte-addressed wishbone core on a wishbone SoC driven by an AXI-Lite master.  Negative witness for the alignment
    hypothesis: the same RAM at 0x30000040 answers published word 0 with cell 16.  And why the `[shift:]` slice of
    `bus_addressing_convert` matters: without it (shift 0) word 1 lands in cell 4. -/
example : slaveCell .axil .wbword true 2 2 32 6 (0x30000000 + 4 * 5) = 5 ∧
    slaveCell .axil .wbword true 2 2 32 6 (0x30000000 + 4 * 63 + 3) = 63 ∧
    slaveCell .axil .wbword true 2 3 32 6 (0x30000000 + 4 * 5) = 5 ∧
    slaveCell .axil .wbbyte false 2 2 32 6 (0x40000000 + 4 * 9) = 9 ∧
    slaveCell .wbword .axil false 3 3 32 5 (0x50000000 + 8 * 31) = 31 ∧
    slaveCell .axil .wbword true 2 2 32 6 0x30000040 = 16 ∧
    convS2M true false 2 30 0x30000004 % 2 ^ 6 = 1 ∧ convS2M true false 0 30 0x30000004 % 2 ^ 6 = 4 := by decide

/-- The two directions compose to the identity on bus words — what a word-addressed master
    presents arrives unchanged at a word-addressed slave across a byte-addressed bus, and a byte-addressed slave on a
    word-addressed bus sees the word's base byte address. -/
theorem adapters_transparent (sh aw w : Nat) (hw : w < 2 ^ (aw - sh)) :
    convS2M true false sh (aw - sh) (convM2S true false sh aw w) = w ∧
    convS2M false true sh aw w = w * 2 ^ sh ∧
    convM2S false true sh (aw - sh) (convS2M false true sh aw w) = w := by
  have hP := Nat.two_pow_pos sh
  refine ⟨?_, ?_, ?_⟩ <;>
    simp [convS2M, convM2S, Nat.mod_eq_of_lt hw, Nat.mul_div_cancel _ hP]

/-- For EVERY register width and bus word: the `size` that `get_csr_json`/`get_csr_csv` publish (and by
    which the address of the next register advances) is the number of simple CSRs `CSRStorage/CSRStatus.do_finalize` cuts
    the register into; those simple CSRs are non-empty, at most a bus word wide and hold exactly the register's `size`
    bits; no smaller word count can hold the register (so the ceiling — not the floor — is forced); and it is the
    `nwords` the address theorems above run on. -/
theorem json_words_eq_hw (bw size : Nat) (hbw : 0 < bw) :
    jsonWords bw size = (hwChunks bw size).length ∧
    (hwChunks bw size).sum = size ∧
    (∀ c ∈ hwChunks bw size, 0 < c ∧ c ≤ bw) ∧
    (∀ n, n * bw < size → n < jsonWords bw size) ∧
    jsonWords bw size = nwords bw size ∧
    (∀ big, (hwChunksAddr big bw size).length = jsonWords bw size) := by
  have hcover : size ≤ (size + bw - 1) / bw * bw := le_nwords_mul bw size hbw
  have hmin : ∀ i, i < (size + bw - 1) / bw → i * bw < size := fun i => mul_lt_of_lt_nwords bw size i hbw
  refine ⟨(List.length_map _).trans List.length_range |>.symm, ?_, ?_, ?_, rfl, ?_⟩
  · rw [hwChunks, chunks_sum]; omega
  · intro c hc
    obtain ⟨i, hi, rfl⟩ := List.mem_map.1 hc
    have := hmin i (List.mem_range.1 hi)
    omega
  · exact fun n hn => (lt_ceilDiv_iff hbw).2 hn
  · intro big
    cases big
    · exact (List.length_map _).trans List.length_range
    · exact List.length_reverse.trans ((List.length_map _).trans List.length_range)

/-- The running JSON/CSV/csr.h address steps over exactly the simple CSRs of the register before it. -/
theorem json_next_address (stride bw origin s : Nat) (rest : List Nat) :
    regAddrs stride bw origin (s :: rest) =
      (origin, jsonWords bw s) :: regAddrs stride bw (origin + stride * (hwChunksAddr true bw s).length) rest := by
  have : (hwChunksAddr true bw s).length = nwords bw s := by simp [hwChunksAddr, hwChunks, nwords]
  rw [this]; rfl

/-- Non-vacuity: a 40-bit register on the 32-bit CSR bus is 2 words (8 + 32 bits, most significant first in address order),
    48 bits on 32: 16 + 32; 12 bits on the 8-bit bus: 4 + 8.  Negative witness for a floor in place of the ceiling
    (`max 1 (40 / 32) = 1`): one word cannot hold 40 bits. -/
example : jsonWords 32 40 = 2 ∧ hwChunksAddr true 32 40 = [8, 32] ∧ hwChunksAddr false 32 48 = [32, 16] ∧
    hwChunksAddr true 8 12 = [4, 8] ∧ max 1 (40 / 32) = 1 ∧ ¬ (1 * 32 < 40 → 1 < max 1 (40 / 32)) := by decide

/-- For every file content (bytes `< 256`), data width `32·q`, endianness and word-aligned
    placement `base - offset = k·4q`: in the image `get_mem_data` produces, the byte a CPU of that endianness reads
    at byte address `k·4q + a` — word `address/(4q)`, 32-bit sub-word `(address/4) mod q` (lower address = lower
    sub-word), byte lane by endianness — is file byte `a`, and `0` (padding) beyond the end of the file, for every
    address of the file's words. -/
theorem mem_image_lanes (big : Bool) (q k : Nat) (bytes : List Nat) (a : Nat) (hq : 0 < q)
    (hb : ∀ b ∈ bytes, b < 256) (ha : a / (4 * q) < (bytes.length + 4 * q - 1) / (4 * q)) :
    imageByte big q (memImage big q (k * (4 * q)) bytes) (k * (4 * q) + a) = bytes.getD a 0 := by
  have h := imageByte_memImage big q (k * (4 * q)) bytes a hq hb ha
  rwa [Nat.mul_div_cancel _ (by omega : 0 < 4 * q)] at h

/- Full statement of the property for images (does NOT hold on the code): file byte `a` of a region placed at `base` is read at
   bus address `base - offset + a`.  `get_mem_data` indexes its word list with `(base - offset)//bytes_per_data` — the
   floor — so a region whose base is not a multiple of the memory word (e.g. a 4-byte aligned JSON region on a 64-bit bus) is
   silently placed at the aligned-down address.  `mem_image_lanes` above is the `_partial` form (aligned base); the exact
   behaviour for every base is `mem_image_any_base`, and the example below is the negative witness (open finding
   `C14-mem-image-unaligned-base`). -/
/-- For EVERY base (aligned or not): the image holds file byte `a` at byte address
    `⌊baseOff/(4q)⌋·4q + a` (and padding zeros up to the end of the file's last word). -/
theorem mem_image_any_base (big : Bool) (q baseOff : Nat) (bytes : List Nat) (a : Nat) (hq : 0 < q)
    (hb : ∀ b ∈ bytes, b < 256) (ha : a / (4 * q) < (bytes.length + 4 * q - 1) / (4 * q)) :
    imageByte big q (memImage big q baseOff bytes) (baseOff / (4 * q) * (4 * q) + a) = bytes.getD a 0 :=
  imageByte_memImage big q baseOff bytes a hq hb ha

/-- Negative witness (unaligned base): 4 bytes placed at byte offset 2 of a 32-bit memory are stored at offset 0 — the CPU
    reads file byte 0 at address 0, and finds file byte 2 where byte 0 should be; a 4-byte aligned region at offset 4 of a
    64-bit memory lands at offset 0. -/
example : imageByte false 1 (memImage false 1 2 [1, 2, 3, 4]) 2 = 3 ∧ imageByte false 1 (memImage false 1 2 [1, 2, 3, 4]) 0 = 1 ∧
    memImage false 2 4 [1, 2, 3, 4] = [0x04030201] := by decide

/-- Words below the file's placement are zero. -/
theorem mem_image_gap (big : Bool) (q k : Nat) (bytes : List Nat) (a : Nat) (hq : 0 < q) (ha : a < k * (4 * q)) :
    imageByte big q (memImage big q (k * (4 * q)) bytes) a = 0 := by
  have hpos : 0 < 4 * q := by omega
  refine imageByte_memImage_below big q _ bytes a hq ?_
  rw [Nat.mul_div_cancel _ hpos]
  exact (Nat.div_lt_iff_lt_mul hpos).2 ha

/-- The image has exactly enough words for the file (zero padding of the tail only). -/
theorem mem_image_length (big : Bool) (q : Nat) (bytes : List Nat) (hq : 0 < q) :
    bytes.length ≤ 4 * q * (memImage big q 0 bytes).length ∧
    4 * q * (memImage big q 0 bytes).length < bytes.length + 4 * q := by
  rw [memImage_length, Nat.zero_add]
  have hpos : 0 < 4 * q := by omega
  have h1 := Nat.div_mul_le_self (bytes.length + 4 * q - 1) (4 * q)
  have h2 := Nat.lt_mul_div_succ (bytes.length + 4 * q - 1) hpos
  rw [Nat.mul_comm] at h1
  rw [Nat.mul_add, Nat.mul_one] at h2
  omega

/-- Non-vacuity: 6 bytes, 64-bit words, big endian (one word, tail padded); 5 bytes, 32-bit little endian. -/
example : memImage true 2 0 [1, 2, 3, 4, 5, 6] = [0x0506000001020304] ∧
    imageByte true 2 [0x0506000001020304] 5 = 6 ∧ imageByte true 2 [0x0506000001020304] 6 = 0 ∧
    memImage false 1 0 [1, 2, 3, 4, 5] = [0x04030201, 0x05] := by decide

section irq
open Litex.Soc
variable {ν : Type} [DecidableEq ν]

/-- After ANY history of `SoCIRQHandler` calls (C13's handler model `LocH`, starting disabled as
    the real handler does), for any set of CPU-owned interrupt names and any set of sub-modules:
    (a) a sub-module's `<NAME>_INTERRUPT = loc` is exported iff `cpu.interrupt[loc]` is wired to that module;
    (b) no interrupt line is driven by two modules and no module drives two lines;
    (c) every wired line lies inside the handler's range and below the exported `CONFIG_CPU_INTERRUPTS`;
    (d) asserting one exported module's event raises exactly the line its constant names. -/
theorem irq_export_matches_wiring (n : Nat) (ops : List (LocOp ν)) (cpuOwn : List ν) (isModule : ν → Bool) :
    let s := ({ nLocs := n, enabled := false } : LocH ν).run ops
    (∀ name loc, isModule name = true →
      ((name, loc) ∈ irqConstants s.locs cpuOwn ↔ (loc, name) ∈ irqWiring s.locs cpuOwn isModule)) ∧
    (∀ l n1 n2, (l, n1) ∈ irqWiring s.locs cpuOwn isModule → (l, n2) ∈ irqWiring s.locs cpuOwn isModule → n1 = n2) ∧
    (∀ l1 l2 nm, (l1, nm) ∈ irqWiring s.locs cpuOwn isModule → (l2, nm) ∈ irqWiring s.locs cpuOwn isModule → l1 = l2) ∧
    (∀ l nm, (l, nm) ∈ irqWiring s.locs cpuOwn isModule → 0 ≤ l ∧ l < (n : Int) ∧ l < cpuInterrupts s.locs) ∧
    (∀ name loc, (name, loc) ∈ irqConstants s.locs cpuOwn → isModule name = true →
      irqLines (irqWiring s.locs cpuOwn isModule) [name] = [loc]) := by
  intro s
  have hi := LocH.run_inv ops (LocH.inv_empty (ν := ν) n false)
  have hloc : ∀ {l nm}, (l, nm) ∈ irqWiring s.locs cpuOwn isModule → (nm, l) ∈ s.locs :=
    fun h => (mem_irqConstants.1 (mem_irqWiring.1 h).1).1
  refine ⟨fun name loc hm => ⟨fun h => mem_irqWiring.2 ⟨h, hm⟩, fun h => (mem_irqWiring.1 h).1⟩,
    fun l n1 n2 h1 h2 => (Prod.mk.inj (eq_of_mem_of_nodup_map (·.2) hi.locs_nodup (hloc h1) (hloc h2) rfl)).1,
    fun l1 l2 nm h1 h2 => (Prod.mk.inj (eq_of_mem_of_nodup_map (·.1) hi.names_nodup (hloc h1) (hloc h2) rfl)).2,
    fun l nm h => ?_, fun name loc hc hm => ?_⟩
  · have hr := hi.in_range (nm, l) (hloc h)
    exact ⟨hr.1, hr.2, Int.lt_add_one_iff.2 (le_foldl_max _ 0 l (Or.inl (List.mem_map_of_mem (f := (·.2)) (hloc h))))⟩
  · -- names are unique, so the look-up of `name` among the wired locations finds its one entry
    obtain ⟨hmem, hown⟩ := mem_irqConstants.1 hc
    rw [irqLines_singleton, filter_eq_singleton _ _ (name, loc) (List.Nodup.of_map _ hi.names_nodup) hmem
      (by rw [hown, hm, beq_self_eq_true]; rfl)]
    · rfl
    · intro y hy hne
      refine Bool.and_eq_false_imp.2 fun _ => beq_false_of_ne fun e => hne ?_
      exact eq_of_mem_of_nodup_map (·.1) hi.names_nodup hy hmem e

/-- Non-vacuity: the handler is enabled, `timer0` allocates 0, `q0` is pinned at 31, `cpuirq` (CPU-owned, location 5)
    gets no constant; `q0`'s event raises line 31 and `CONFIG_CPU_INTERRUPTS = 32`. -/
example :
    let s := ({ nLocs := 32, enabled := false } : LocH Nat).run
      [.enable, .add 5 (some 5) false, .add 0 none true, .add 1 (some 31) false]
    irqConstants s.locs [5] = [(0, 0), (1, 31)] ∧ irqWiring s.locs [5] (fun _ => true) = [(0, 0), (31, 1)] ∧
    irqLines (irqWiring s.locs [5] (fun _ => true)) [1] = [31] ∧ cpuInterrupts s.locs = 32 := by decide

end irq

section regions
open Litex.Soc
variable {ν : Type} [DecidableEq ν]

/- Full statement (does NOT hold without the C13 hypotheses): every published `(base, size)` is answered by exactly its
   own slave.  The hypotheses below are what C13 establishes: regions decoded and aligned on their power-of-two window
   (`finalize_rejects_unaligned`), at least one bus word (`C13-decoder-subword` is the negative witness there), windows
   pairwise disjoint (`check_regions_overlap`, `one_slave_per_address_partial`). -/
omit [DecidableEq ν] in
/-- `mem.h` / JSON / linker publish exactly `origin, size` of every bus region, and
    for every word address whose byte address lies in a published range `[base, base+size)` the interconnect's decoders
    (C13's `decoderAccepts`, `region_decoder_exact_partial`) select exactly that region's slave. -/
theorem region_export_decoded_partial (aw dw sh : Nat) (regions : List (ν × Region)) (name : ν) (r : Region) (a : Nat)
    (hmem : (name, r) ∈ regions) (hnames : (regions.map (·.1)).Nodup)
    (hdw : dw / 8 = 2 ^ sh) (hsh : sh ≤ aw) (ha : a < 2 ^ (aw - sh))
    (hall : ∀ p ∈ regions, p.2.decode = true ∧ p.2.aligned = true ∧ dw / 8 ≤ p.2.p2)
    (hdis : ∀ p ∈ regions, ∀ q ∈ regions, p ≠ q → WinDisjoint p.2 q.2)
    (hx : r.origin ≤ a * (dw / 8) ∧ a * (dw / 8) < r.origin + r.size) :
    (name, r.origin, r.size) ∈ memExport regions ∧ selectedSlaves aw dw regions a = [name] := by
  constructor
  · exact List.mem_map.2 ⟨(name, r), hmem, rfl⟩
  · have hwin : r.InWindow (a * (dw / 8)) := Region.InExtent.inWindow hx
    obtain ⟨hd, hal, hw⟩ := hall _ hmem
    have hacc : decoderAccepts aw dw r a = true := (decoderAccepts_iff aw dw sh r a hdw hsh hd hal hw ha).2 hwin
    unfold selectedSlaves
    rw [filter_eq_singleton _ regions (name, r) (List.Nodup.of_map _ hnames) hmem hacc]
    · rfl
    · intro q hq hne
      obtain ⟨hdq, halq, hwq⟩ := hall _ hq
      exact Bool.eq_false_iff.2 fun hq' =>
        decoders_disjoint aw dw sh q.2 r a hdw hsh ha hdq hd halq hal hwq hw (hdis q hq (name, r) hmem hne) ⟨hq', hacc⟩

/-- Non-vacuity: a 0x300-byte RAM at 0 (decoded as 0x400), a 0x100-byte RAM at 0x400, the CSR window at 0xf0000000:
    the last published word of the first RAM selects only it; negative witness for the disjointness hypothesis: a RAM inside the first one's power-of-two shadow is selected together
    with it. -/
example :
    selectedSlaves 32 32 [(0, ⟨0, 0x300, true, false, true⟩), (1, ⟨0x400, 0x100, true, false, true⟩),
                          (2, ⟨0xf0000000, 0x10000, false, false, true⟩)] (0x2fc / 4) = [0] ∧
    memExport [(0, (⟨0, 0x300, true, false, true⟩ : Region)), (1, ⟨0x400, 0x100, true, false, true⟩)]
      = [(0, 0, 0x300), (1, 0x400, 0x100)] ∧
    selectedSlaves 32 32 [(0, ⟨0, 0x300, true, false, true⟩), (1, ⟨0x300, 0x100, true, false, true⟩)] (0x300 / 4) = [0, 1] := by
  decide +kernel

omit [DecidableEq ν] in
/-- For every bus-region table: (1) regions.ld / the MEMORY block of memory.x list
    exactly the triples mem.h / JSON / CSV publish (nothing skipped, renamed or resized; memory.x's `_stext` is the reset address
    it was given); (2) every linker line is a bus region with that origin and length, and its byte range starts at the base of that
    region's decoder window and lies inside it; (3) when the table was accepted by `check_regions_overlap` (C13's `anyOverlap`), no two linker lines of non-linker regions share a byte.  Regions flagged `linker=True` are exempt from
    the build's overlap check and are listed all the same (negative witness below). -/
theorem linker_regions_are_published_regions (regions : List (ν × Region)) (reset : Nat) :
    ldRegions regions = memExport regions ∧ (memoryX regions reset) = (memExport regions, reset) ∧
    (∀ e ∈ ldRegions regions, ∃ r, (e.1, r) ∈ regions ∧ e.2.1 = r.origin ∧ e.2.2 = r.size ∧
        ∀ x, (e.2.1 ≤ x ∧ x < e.2.1 + e.2.2) → r.InWindow x) ∧
    (anyOverlap (regions.map (·.2)) = false →
      (ldRegions (regions.filter fun p => !p.2.linker)).Pairwise fun a b => ¬ ldOverlap a b) := by
  refine ⟨rfl, rfl, ?_, ?_⟩
  · intro e he
    obtain ⟨p, hp, rfl⟩ := List.mem_map.1 he
    exact ⟨p.2, hp, rfl, rfl, fun x hx => Region.InExtent.inWindow hx⟩
  · intro hacc
    have hp := List.pairwise_map.1 (accepted_regions_pairwise_disjoint_windows _ hacc)
    have hf := hp.sublist (List.filter_sublist (p := fun p => !p.2.linker) (l := regions))
    unfold ldRegions
    rw [List.pairwise_map]
    refine hf.imp_of_mem ?_
    intro p q hpm hqm hd
    have lp : p.2.linker = false := by simpa using (List.mem_filter.1 hpm).2
    have lq : q.2.linker = false := by simpa using (List.mem_filter.1 hqm).2
    rintro ⟨x, hx, hy⟩
    exact hd lp lq x ⟨Region.InExtent.inWindow hx, Region.InExtent.inWindow hy⟩

/-- Non-vacuity (rom, sram, csr accepted: three disjoint linker lines), and the negative witness for the `linker=False`
    restriction: a `linker=True` region inside the ROM is accepted by the build and printed, overlapping the ROM's line. -/
example :
    ldRegions [(0, (⟨0, 0x300, true, false, true⟩ : Region)), (1, ⟨0x10000000, 0x2000, true, false, true⟩),
               (2, ⟨0xf0000000, 0x10000, false, false, true⟩)] = [(0, 0, 0x300), (1, 0x10000000, 0x2000), (2, 0xf0000000, 0x10000)] ∧
    anyOverlap [⟨0, 0x300, true, false, true⟩, ⟨0x10000000, 0x2000, true, false, true⟩, ⟨0xf0000000, 0x10000, false, false, true⟩] = false ∧
    anyOverlap [⟨0, 0x8000, true, false, true⟩, ⟨0x4000, 0x100, true, true, true⟩] = false ∧
    ldOverlap ((0 : Nat), 0, 0x8000) (1, 0x4000, 0x100) := by
  refine ⟨by decide +kernel, by decide +kernel, by decide +kernel, ⟨0x4000, by decide⟩⟩

end regions

/-- `SoC.add_constant` (duplicate check on): whatever sequence of declarations a build
    survives, every exported constant name is defined exactly once, in declaration order, with the value it was
    declared with (soc.h `#define`, JSON/CSV `constants`, SVD `<constant>` all print that list). -/
theorem constants_declared_once {ν : Type} [DecidableEq ν] (l cs' : List (ν × Int))
    (h : addConstants [] l = some cs') : (cs'.map (·.1)).Nodup ∧ cs' = l := by
  have := addConstants_nodup l [] cs' h (by simp)
  simpa using this

example : addConstants [] [(0, 32), (1, 4), (2, -1)] = some [(0, 32), (1, 4), ((2 : Nat), -1)] ∧
    addConstants [] [(0, 32), (1, 4), ((0 : Nat), 7)] = none := by decide

/-- `json_csv_svd_agree` at the generality of the register kinds: for every bank of
    compound registers (`CSRStorage`/`CSRStatus`, any width) and plain `CSR`s (at most one bus word — `GenericBank`
    asserts it), the SVD register list — one entry per simple CSR of a multi-word compound register, ONE entry for
    everything else, plain CSRs included — enumerates exactly the word addresses of the JSON/CSV export. -/
theorem json_csv_svd_agree_kinds (csrBase paging bw page : Nat) (regs : List (Nat × Bool)) (hbw : 0 < bw)
    (hregs : ∀ r ∈ regs, 0 < r.1 ∧ (r.2 = true ∨ nwords bw r.1 = 1)) :
    svdAddrsK csrBase paging bw page regs =
      flatWordAddrs 4 (regAddrs (32 / 8) bw (regionOrigin csrBase paging ⟨page, regs.map (·.1)⟩) (regs.map (·.1))) := by
  unfold svdAddrsK regionOrigin
  have := svdOffsetsK_flat bw (csrBase + paging * page) hbw regs 0 hregs
  simpa using this

/-- Non-vacuity (a plain 5-bit CSR between two compound registers), and the negative witness for the hypothesis: a
    plain CSR wider than the bus word (refused by `GenericBank`) would get one SVD entry for two exported words. -/
example : svdAddrsK 0 0x800 32 2 [(40, true), (5, false), (33, true)] = [4096, 4100, 4104, 4108, 4112] ∧
    svdAddrsK 0 0x800 32 0 [(40, false)] ≠ flatWordAddrs 4 (regAddrs 4 32 0 [40]) := by decide

end Litex.Export
