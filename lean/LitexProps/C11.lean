import LitexProofs.Lists
import LitexProofs.Timeout.Wb
import LitexProofs.Timeout.Axi
import LitexModel.Timeout.AxiXbar
import LitexProofs.Timeout.BusErr
/-
  C11 — A silent or absent slave cannot hang the bus.

  Reading of "within the configured number of cycles": the timer expires after exactly `t` consecutive waiting
  cycles; Wishbone terminates the request in that very cycle (the `(t+1)`-th cycle of the request), AXI/AXI-Lite
  raise `error` in that cycle, absorb the request in the next and offer the SLVERR response in the one after.
  All theorems quantify over every input history (`List` of per-cycle environment choices: what every master
  and every slave drives), every number of masters/slaves, every decoder and every `t`.

  Models: `LitexModel/Timeout/*`, compared with the real interconnects, timeouts and `SoCController` on every run
  (`harness/props/c11.py`, instances, probes and monitors in `harness/c11lib.py`; driver names are those of
  `LitexModel/Timeout/Num.lean`).  How each model is tied (exhaustive co-exploration of model × real netlist for small
  parameters, seeded lock-step co-simulation at realistic sizes, `SoCMini`/`SoCBusHandler` scenarios, probes of the
  findings) is recorded there and in DESIGN.md §7.C11.

  INVENTORY of the anchored code (file: object — Lean model — theorems here):

  | code (file: object)                                   | Lean model                          | theorems                                                         |
  |--------------------------------------------------------|-------------------------------------|------------------------------------------------------------------|
  | misc.py: WaitTimer(t) (int/float t, bits_for corner)   | WaitTimer.next/done/machine         | waittimer_count, _done_iff, _exact, _reload                      |
  | wishbone.py: Timeout                                   | Wb.timeout (tOut/tWait/tNext)       | wb_timeout_module_exact                                          |
  | wishbone.py: InterconnectShared(timeout_cycles=t/None) | Wb.Shared (arbiter RR withdraw +    | wb_timeout_exact, _undisturbed, _arbitration_independent,         |
  |   incl. Arbiter + Decoder as far as cyc/stb/adr/ack/   |   decoder + Timeout override)       | _coincidence, _recovers, wb_waited_scenario,                      |
  |   err/dat_r go (we/dat_w/sel/cti/bte: C06)             |                                     | wb_silent_request_terminated_at_t, wb_unmapped_address,           |
  |                                                        |                                     | wb_bounded_termination, wb_healthy_bus_transparent,               |
  |                                                        |                                     | wb_grant_is_roundrobin, wb_every_master_served,                   |
  |                                                        |                                     | wb_closed_liveness (+ _budget_le): (n-1)(t+2) cycle bound         |
  | wishbone.py: Crossbar(timeout_cycles)  [ignored]       | Wb.Crossbar                         | wb_crossbar_ignores_timeout, _silent_slave_hangs, _hangs_forever  |
  | wishbone.py: InterconnectPointToPoint                  | — (no timeout exists; C06-p2p-*)    | —                                                                |
  | axi_lite.py: AXILiteTimeout ; axi_full.py: AXITimeout  | Axi.wTimeout, Axi.rTimeout full     | axl_wr/rd_transparent, _timeout_exact, _forced, _recovers,        |
  |   (channel_fsm WAIT/RESPOND, two WaitTimers, error =   |   (FState, wOut/wNext, rOut/rNext)  | _undisturbed, _waiting, _timeout_bound, axi_rd_forced_last,       |
  |   wr_error | rd_error)                                 |                                     | axi_forced_read_one_beat, axi_wr_respond_absorbs_burst,           |
  |                                                        |                                     | axi_wr_respond_burst_then_b                                       |
  | axi_lite.py/axi_full.py: _AXI(Lite)RequestCounter      | Axi.ctrNext/ctrReady                | used in the composed theorems (lock = 0 again after forced resp.) |
  | AXI(Lite)Arbiter, AXI(Lite)Decoder (control: valid/    | Axi.SharedW, Axi.SharedR            | axl_shared_wr/rd_exact, _undisturbed, axl_wr/rd_timeout_bound_    |
  |   ready/addr/resp/data/last, lock counters, selects)   |                                     | partial, axl_unmapped_address, axl_response_phase_hangs,          |
  | AXI(Lite)InterconnectShared(timeout_cycles=t/None)     |                                     | axl_shared_wr/rd_stall_bounded, axl_healthy_bus_transparent_wr/rd,|
  |                                                        |                                     | axl_wr/rd_grant_is_roundrobin, axl_wr/rd_every_master_served,     |
  |                                                        |                                     | axl_wr_ce_when_idle, axl_wr_timeout_recovers_any_beats (lone W    |
  |                                                        |                                     | before AW: lock stays 0), axl_request_counter_never_wraps         |
  | AXIArbiter/AXIDecoder pass-through payload: aw/ar id,  | Axi.payOut (Timeout/Soc.lean)       | axi_response_id_independent_of_request, axi_forced_response_id_   |
  |   len, w.last, b/r id                                  |                                     | zero, _matches_partial (+ witness), axi_request_payload_routed    |
  |   burst, size, lock, prot, cache, qos, region, data,   | not modelled: routed by the same    | —                                                                |
  |   strb: same M→S broadcast as id/len                   |   two statements as id/len          |                                                                  |
  |   user: zero-width on the shared bus (not connected);  | n/a                                 | —                                                                |
  |   dest: not on AXI ports ("No DEST")                   |                                     |                                                                  |
  | AXILiteCrossbar / AXICrossbar(timeout_cycles) [ignored]| Axi.XbarW / XbarR                   | axl_crossbar_ignores_timeout, _silent_slave_hangs, _hangs_forever |
  | soc.py: SoCController bus_errors (32-bit saturating)   | BusErr.next/machine                 | bus_errors_counts(_from)                                         |
  | soc.py: SoC.finalize `ctrl.bus_error = interconnect.   | Wb.Soc.machine, Axi.Soc.machine     | wb_soc_bus_errors_counts, wb_soc_pulse_is_forced_ack,             |
  |   timeout.error` (as a composed model)                 |   (Timeout/Soc.lean)                | axi_soc_bus_errors_counts, axi_soc_pulses_inclusion_exclusion,    |
  |                                                        |                                     | axi_soc_bus_errors_counts_partial, axi_soc_bus_errors_le (+ witn.)|
  | soc.py: SoC(bus_timeout=1e6) → SoCBusHandler(timeout)  | parameter `t` of the models         | all theorems are parametric in `t`                               |
  |   → do_finalize: interconnect_cls(..., timeout_cycles) |                                     |                                                                  |
  |   (p2p when 1×1 at origin 0: no timeout)               |                                     |                                                                  |

  Open (not theorems): crossbars with a working timeout (finding); AXI response phase (finding), which is also why the
  AXI liveness is stated per phase (stall bound, RESPOND termination, arbitration) and not as one closed cycle bound.
-/
namespace Litex.C11
open Litex Litex.Timeout

/-- `count` is `t` minus the number of consecutive waiting cycles so far (saturating at 0). -/
theorem waittimer_count (t : Nat) (ws : List Bool) :
    WaitTimer.run t ws = t - min t (WaitTimer.streak ws) :=
  WaitTimer.run_spec t ws

/-- `done` exactly when `wait` has been held for (at least) the `t` preceding cycles — for every history. -/
theorem waittimer_done_iff (t : Nat) (ws : List Bool) :
    WaitTimer.done (WaitTimer.run t ws) = true ↔ t ≤ WaitTimer.streak ws := by
  rw [WaitTimer.done_run]; exact decide_eq_true_iff

/-- The same with the streak spelled out: after any history, one idle cycle and then `n` waiting cycles,
    `done` holds iff `n ≥ t` (so: after exactly `t` waiting cycles, never before). -/
theorem waittimer_exact (t : Nat) (pre : List Bool) (n : Nat) :
    WaitTimer.done (WaitTimer.run t (pre ++ false :: List.replicate n true)) = true ↔ t ≤ n := by
  rw [waittimer_done_iff, WaitTimer.streak_false_trues]

/-- Any cycle with `wait = 0` reloads the timer. -/
theorem waittimer_reload (t : Nat) (ws : List Bool) : WaitTimer.run t (ws ++ [false]) = t := by
  rw [WaitTimer.run_spec, WaitTimer.streak, WaitTimer.streakFrom_append]
  show t - min t 0 = t
  rw [Nat.min_zero]; rfl

example : WaitTimer.done (WaitTimer.run 3 [true, false, true, true]) = false ∧
          WaitTimer.done (WaitTimer.run 3 [true, false, true, true, true]) = true ∧
          WaitTimer.run 3 [true, true, true, true, true, false] = 3 := by decide

/-- For every history on the watched bus: the module forces `ack`, all-ones `dat_r` and `error` exactly when the
    bus has carried an unacknowledged request for the `t` preceding cycles; otherwise it is transparent. -/
theorem wb_timeout_module_exact (t dw : Nat) (xs : List Wb.TIn) (x : Wb.TIn) :
    (Wb.timeout t dw).out ((Wb.timeout t dw).run xs) x =
      if t ≤ WaitTimer.streak (Wb.tWaits t dw t xs)
      then { ack := true, datR := Wb.ones dw, error := true }
      else { ack := x.ack, datR := x.datR, error := false } := by
  show Wb.tOut dw ((Wb.timeout t dw).run xs) x = _
  rw [Wb.timeout_run_count]
  simp only [Wb.tOut, WaitTimer.done_sub_iff]

section wbShared
open Wb Wb.Shared
variable (c : Wb.Cfg) {t : Nat}

/-- `Reduce("OR", slave acks)`: what the bus owner would see without a timeout. -/
def slavesAck (c : Wb.Cfg) (x : BusIn) : Bool := orAll c.k fun j => (x.ss j).ack

/-- For every history `xs` from reset and every input `x` of the next cycle, with
    `w = waited c xs` the number of consecutive preceding cycles in which the bus owner had `cyc & stb` and saw
    no `ack`:  `w ≤ t`;  `error = 1` iff `w = t`;  in that case the owner sees `ack = 1` and all-ones `dat_r`
    (whatever the slaves do);  otherwise it sees exactly the slaves' `ack` — never a forced one. -/
theorem wb_timeout_exact (ht : c.t = some t) (xs : List BusIn) (x : BusIn) :
    let s := (machine c).run xs
    let o := out c s x
    waited c xs ≤ t ∧
    (o.error = true ↔ waited c xs = t) ∧
    (waited c xs = t → (o.toM s.grant).ack = true ∧ (o.toM s.grant).datR = ones c.dw) ∧
    (waited c xs < t → (o.toM s.grant).ack = slavesAck c x) := by
  intro s o
  have hle := waited_le c ht xs
  by_cases hd : t ≤ waited c xs
  · obtain ⟨he, ha⟩ := out_of_done c ht s x ((run_done_iff c ht xs).mpr hd)
    exact ⟨hle, ⟨fun _ => Nat.le_antisymm hle hd, fun _ => he⟩, fun _ => ha, fun h => absurd hd (Nat.not_le_of_lt h)⟩
  · have hne : waited c xs ≠ t := fun h => hd (Nat.le_of_eq h.symm)
    obtain ⟨he, ha⟩ := out_of_not_done c ht s x (run_not_done c ht xs (Nat.lt_of_not_le hd))
    exact ⟨hle, ⟨fun h => absurd (he.symm.trans h) Bool.false_ne_true, fun h => absurd h hne⟩,
           fun h => absurd h hne, fun _ => ha⟩

/-- While the owner has waited fewer than `t` cycles, every port of the
    interconnect (all masters, all slaves) carries exactly what it would carry without the `Timeout` module,
    and `error = 0`.  (`{c with t := none}` is `InterconnectShared(timeout_cycles=None)`.) -/
theorem wb_timeout_undisturbed (ht : c.t = some t) (xs : List BusIn) (x : BusIn)
    (hw : waited c xs < t) :
    let s := (machine c).run xs
    (∀ i, (out c s x).toM i = (out { c with t := none } s x).toM i) ∧
    (∀ j, (out c s x).toS j = (out { c with t := none } s x).toS j) ∧
    (out c s x).error = false := by
  obtain ⟨h1, h2, h3, _⟩ := sim_out c ht _ _ x ⟨rfl, rfl⟩ (run_not_done c ht xs hw)
  exact ⟨h1, h2, h3⟩

/-- The timeout has no influence on arbitration and decoding state: grant and registered select evolve as in
    the interconnect without a timeout, in every cycle (also in the expiry cycle). -/
theorem wb_timeout_arbitration_independent (s : State) (x : BusIn) :
    (next c s x).grant = (next { c with t := none } s x).grant ∧
    (next c s x).selR = (next { c with t := none } s x).selR := ⟨rfl, rfl⟩

/-- **Coincidence in the expiry cycle**, stated as the code behaves: a slave acknowledging in the very cycle
    the timer has expired is overridden — the owner gets one termination with all-ones data and `error = 1`.
    (The slaves' acknowledge plays no part: this is the case `waited = t` of `wb_timeout_exact`.) -/
theorem wb_timeout_coincidence (ht : c.t = some t) (xs : List BusIn) (x : BusIn)
    (hw : waited c xs = t) (_hack : slavesAck c x = true) :
    let s := (machine c).run xs
    (out c s x).error = true ∧ ((out c s x).toM s.grant).ack = true ∧
    ((out c s x).toM s.grant).datR = ones c.dw := by
  have h := wb_timeout_exact c ht xs x
  exact ⟨h.2.1.mpr hw, h.2.2.1 hw⟩

/-- The cycle after a forced acknowledge the timer is reloaded: the waiting streak is
    0 again, so by `wb_timeout_exact`/`wb_timeout_undisturbed` the next request gets the full `t` cycles and is
    served normally.  No other state is touched by the timeout (`wb_timeout_arbitration_independent`). -/
theorem wb_timeout_recovers (ht : c.t = some t) (xs : List BusIn) (x : BusIn)
    (hw : waited c xs = t) :
    waited c (xs ++ [x]) = 0 ∧ ((machine c).run (xs ++ [x])).count = t := by
  have h0 : ownerWaits c ((machine c).run xs) x = false := by
    rw [ownerWaits_eq c ht]; exact tWait_done _ ((run_done_iff c ht xs).mpr (Nat.le_of_eq hw.symm))
  have hz : waited c (xs ++ [x]) = 0 := by rw [waited_step, h0]; rfl
  exact ⟨hz, by rw [run_count_spec c ht, hz]; rfl⟩

/-- Scenario form, spelling out `waited`: after a history whose last cycle was not a waiting one, let the owner
    keep `cyc & stb` for `ys.length ≤ t` cycles in which no slave acknowledges.  Then the streak is exactly
    `ys.length` and the owner still owns the bus. -/
theorem wb_waited_scenario (ht : c.t = some t) (hn : 0 < c.n) (xs : List BusIn) (hw : waited c xs = 0)
    (ys : List BusIn) (hlen : ys.length ≤ t)
    (hreq : ∀ y ∈ ys, (y.ms ((machine c).run xs).grant).cyc = true ∧
                      (y.ms ((machine c).run xs).grant).stb = true ∧ slavesAck c y = false) :
    waited c (xs ++ ys) = ys.length ∧
    ((machine c).run (xs ++ ys)).grant = ((machine c).run xs).grant := by
  induction ys using snoc_induction with
  | nil => simpa using hw
  | snoc zs z ih =>
    have hlen' : zs.length < t := by simp at hlen; omega
    obtain ⟨ihw, ihg⟩ := ih (by omega) (fun y hy => hreq y (by simp [hy]))
    obtain ⟨hcyc, hstb, hsil⟩ := hreq z (by simp)
    have hack := (out_of_not_done c ht _ z (run_not_done c ht (xs ++ zs) (ihw ▸ hlen'))).2
    rw [ihg] at hack
    have hwait : ownerWaits c ((machine c).run (xs ++ zs)) z = true := by
      simp [ownerWaits, ihg, hcyc, hstb, hack]; exact hsil
    rw [← List.append_assoc, waited_step, hwait, ihw, Machine.run_snoc]
    refine ⟨by simp [WaitTimer.streakStep], ?_⟩
    show (next c _ z).grant = _
    exact (RoundRobin.next_withdraw_keep (fun i => (z.ms i).cyc) true (grant_lt c hn _)
      (by rw [ihg]; exact hcyc)).trans ihg

/-- **Exact latency.**  A request of the bus owner that no slave answers is left alone for `t` cycles
    (`ack = 0`, `error = 0` in each of them) and terminated in the next one — the `(t+1)`-th cycle of the
    request — with `ack = 1`, all-ones data and `error = 1`; never earlier. -/
theorem wb_silent_request_terminated_at_t (ht : c.t = some t) (hn : 0 < c.n) (xs : List BusIn)
    (hw : waited c xs = 0) (ys : List BusIn) (hlen : ys.length ≤ t) (x : BusIn)
    (hreq : ∀ y ∈ ys, (y.ms ((machine c).run xs).grant).cyc = true ∧
                      (y.ms ((machine c).run xs).grant).stb = true ∧ slavesAck c y = false) :
    let g := ((machine c).run xs).grant
    let o := out c ((machine c).run (xs ++ ys)) x
    (ys.length < t → o.error = false ∧ (o.toM g).ack = slavesAck c x) ∧
    (ys.length = t → o.error = true ∧ (o.toM g).ack = true ∧ (o.toM g).datR = ones c.dw) := by
  intro g o
  obtain ⟨hwd, hg⟩ := wb_waited_scenario c ht hn xs hw ys hlen hreq
  have hex := wb_timeout_exact c ht (xs ++ ys) x
  simp only [hwd, hg] at hex
  refine ⟨fun h => ⟨?_, hex.2.2.2 h⟩, fun h => ⟨hex.2.1.mpr h, hex.2.2.1 h⟩⟩
  cases he : o.error
  · rfl
  · have := hex.2.1.mp he; omega

/-- An address that matches no decoder raises `cyc` at no slave (so no protocol-abiding
    slave answers, and the request times out as above). -/
theorem wb_unmapped_address (s : State) (x : BusIn)
    (hun : ∀ j, c.dec j (x.ms s.grant).adr = false) (j : Nat) :
    ((out c s x).toS j).cyc = false := by
  simp [out, sel, bus, hun]

/-- **Bounded termination**, for every history: the bus owner is never left with an unacknowledged request for
    more than `t` consecutive cycles (in the `(t+1)`-th it is acknowledged, by a slave or by the timeout). -/
theorem wb_bounded_termination (ht : c.t = some t) (xs : List BusIn) : waited c xs ≤ t :=
  waited_le c ht xs

/-! Non-vacuity: a 2-master x 2-slave interconnect (`timeout_cycles = 3`, slave `j` at addresses `2j, 2j+1`) on
    which master 0 requests the silent slave 1: the streak really reaches `t`, the forced acknowledge appears in
    the 4th cycle with `0xff` and `error`, and the hypotheses of the scenario theorems are satisfied. -/
def cfgWb : Wb.Cfg := { n := 2, k := 2, dec := fun j a => (a >>> 1) == j, reg := false, t := some 3, dw := 8 }

def reqIn : BusIn := { ms := fun i => if i = 0 then { cyc := true, stb := true, adr := 2 } else {}, ss := fun _ => {} }

example : waited cfgWb [reqIn, reqIn, reqIn] = 3 ∧ waited cfgWb [reqIn, reqIn, reqIn, reqIn] = 0 ∧
    ((machine cfgWb).trace [reqIn, reqIn, reqIn, reqIn]).map (fun o => ((o.toM 0).ack, (o.toM 0).datR, o.error)) =
      [(false, 0, false), (false, 0, false), (false, 0, false), (true, 255, true)] := by decide

example : slavesAck cfgWb reqIn = false ∧ (reqIn.ms ((machine cfgWb).run []).grant).cyc = true ∧
    waited cfgWb [] = 0 := by decide

/-- An answer in time is passed through (slave 1 acks with `0x5a` in the third cycle, no error). -/
example :
    let ackIn : BusIn := { reqIn with ss := fun j => if j = 1 then { ack := true, datR := 0x5a } else {} }
    ((machine cfgWb).trace [reqIn, reqIn, ackIn, reqIn]).map (fun o => ((o.toM 0).ack, (o.toM 0).datR, o.error)) =
      [(false, 0, false), (false, 0, false), (true, 0x5a, false), (false, 0, false)] := by decide

end wbShared

/-! ## AXI-Lite / AXI: the timeout FSMs alone, any bus behaviour

  `wTimeout t` / `rTimeout full dw t` are the write / read halves of `AXILiteTimeout` (`full = false`) and
  `AXITimeout` (`full = true`); their inputs are the watched bus (request side and the decoder's answer),
  chosen freely in every cycle.  Exact numbers, counting the first waiting cycle as cycle 0: `error` pulse in
  cycle `t`, RESPOND from cycle `t+1` (absorbs AW/W resp. AR in the cycle they are offered), SLVERR response
  offered in the first RESPOND cycle in which the master offers no address/data beat — cycle `t+2` for a
  master that holds its valids until accepted. -/

section axFsm
open Axi

/-- WAIT is transparent: whatever the history, while the FSM is in WAIT the master side of the bus carries
    exactly the decoder's `aw.ready`, `w.ready`, `b.valid`, `b.resp` (**undisturbed**). -/
theorem axl_wr_transparent (s : FState) (x : WIn) (h : s.respond = false) :
    (wOut s x).awr = x.awr ∧ (wOut s x).wr = x.wr ∧ (wOut s x).bv = x.bv ∧ (wOut s x).bresp = x.bresp := by
  rw [wOut_wait x h]; exact ⟨rfl, rfl, rfl, rfl⟩

/-- For every history: the error pulse (= entry into RESPOND) happens exactly in
    a WAIT cycle in which an AW/W beat is pending and unaccepted (`wait_cond`) after at least `t` consecutive
    such cycles — never earlier, and not if the slave accepts in the expiry cycle (`wait_cond = 0`). -/
theorem axl_wr_timeout_exact (t : Nat) (xs : List WIn) (x : WIn) :
    let s := (wTimeout t).run xs
    ((wOut s x).error = true ↔ s.respond = false ∧ t ≤ wWaited t xs ∧ wWaitCond x = true) ∧
    ((wNext t s x).respond = true ↔
      (wOut s x).error = true ∨ (s.respond = true ∧ ¬(x.awv = false ∧ x.wv = false ∧ x.br = true))) := by
  intro s
  have hd : WaitTimer.done s.count = true ↔ t ≤ wWaited t xs := by
    rw [wRun_count_spec t xs]; exact WaitTimer.done_sub_iff t _
  cases hr : s.respond
  · rw [wNext_wait t x hr, wOut_wait x hr]; simp [hd]
  · rw [wNext_respond t x hr, wOut_respond x hr]
    cases x.awv <;> cases x.wv <;> cases x.br <;> simp

/-- **Forced response.**  In RESPOND the FSM accepts whatever address/data beat is offered, offers `B` with
    `SLVERR` as soon as none is offered, and signals no further error. -/
theorem axl_wr_forced (s : FState) (x : WIn) (h : s.respond = true) :
    wOut s x = { awr := x.awv, wr := x.wv, bv := !x.awv && !x.wv, bresp := RESP_SLVERR, error := false } :=
  wOut_respond x h

/-- The forced `B` handshake returns the FSM to its reset state (WAIT, timer
    reloaded): nothing of the timeout is remembered. -/
theorem axl_wr_recovers (t : Nat) (s : FState) (x : WIn) (h : s.respond = true)
    (haw : x.awv = false) (hw : x.wv = false) (hb : x.br = true) : wNext t s x = fInit t := by
  rw [wNext_respond t x h, haw, hw, hb]; rfl

/-- Whenever the pending beats are accepted (or nothing is pending) in a
    WAIT cycle — including the very cycle in which the timer has expired — there is no error, no RESPOND, and
    the timer is reloaded. -/
theorem axl_wr_undisturbed (t : Nat) (s : FState) (x : WIn) (h : s.respond = false)
    (hacc : wWaitCond x = false) : (wOut s x).error = false ∧ wNext t s x = fInit t := by
  rw [wNext_wait t x h, wOut_wait x h, hacc, Bool.and_false]; exact ⟨rfl, rfl⟩

/-! Scope of "undisturbed" on the write channels (finding C11-axi-timeout-accumulates-across-transfers).
    `axl_wr_timeout_exact` characterises the code exactly: the streak counts consecutive cycles in which ANY AW or W
    beat is stalled, and `axl_wr_undisturbed` guarantees a reload only in a cycle in which NO beat is stalled.  The
    stronger per-transfer reading — a write whose own AW and W beats are each accepted after fewer than `t` stall
    cycles never sees an error / forced response — is not proved, because it is false: with back-to-back writes the stalls of different beats and different transfers add up.  Negative
    witness (`t = 4`; AW1 stalled cycles 0–1, W1 stalled 1–2, AW2 stalled from 3, W2 from 4 — no beat waits more than
    2 cycles, transfer #2 is 2 cycles old): error pulse in cycle 4.  The read FSM watches a single channel, so every AR
    handshake cycle has `wait_cond = 0` and reloads; `wishbone.Timeout` reloads on every `ack`. -/
example :
    ((wTimeout 4).trace
      [{ awv := true,  wv := false, br := false, awr := false, wr := false, bv := false, bresp := 0 },
       { awv := true,  wv := true,  br := false, awr := false, wr := false, bv := false, bresp := 0 },
       { awv := true,  wv := true,  br := false, awr := true,  wr := false, bv := false, bresp := 0 },
       { awv := true,  wv := true,  br := false, awr := false, wr := true,  bv := false, bresp := 0 },
       { awv := true,  wv := true,  br := false, awr := false, wr := false, bv := false, bresp := 0 }]).map (·.error)
    = [false, false, false, false, true] := by decide

/-- Waiting stretch: from a freshly loaded timer, `ys.length ≤ t` cycles with a pending unaccepted beat give no
    error and leave `count = t - ys.length`. -/
theorem axl_wr_waiting (t : Nat) (ys : List WIn) : ∀ (cnt : Nat), ys.length ≤ cnt → cnt ≤ t →
    (∀ y ∈ ys, wWaitCond y = true) →
    (wTimeout t).runFrom { count := cnt, respond := false } ys = { count := cnt - ys.length, respond := false } ∧
    ∀ o ∈ (wTimeout t).traceFrom { count := cnt, respond := false } ys, o.error = false := by
  intro cnt hl _ hw
  exact Machine.runFrom_countdown (wTimeout t) (Inv := fun n s => s = { count := n, respond := false })
    (fun n s y hs hy => by
      subst hs
      exact ⟨(wNext_wait t y rfl).trans (by rw [hy]; rfl), congrArg WOut.error (wOut_wait y rfl)⟩)
    ys (cnt - ys.length) { count := cnt, respond := false } (by rw [Nat.sub_add_cancel hl]) hw

/-- Exact numbers.  From reset state (or any state with WAIT and a reloaded
    timer): `t` cycles with a pending unaccepted beat (`ys`), then one more (`x0`): error pulse exactly there
    (cycle `t`), none before.  Next cycle (`x1`, master still offering a beat): the beat(s) are accepted by the
    FSM, no `B` yet.  Next cycle (`x2`, nothing offered, `b.ready`): `B` with `SLVERR`, and the FSM is back in its
    reset state. -/
theorem axl_wr_timeout_bound (t : Nat) (ys : List WIn) (x0 x1 x2 : WIn)
    (hlen : ys.length = t) (hys : ∀ y ∈ ys, wWaitCond y = true) (h0 : wWaitCond x0 = true)
    (h1 : (x1.awv || x1.wv) = true) (h2 : x2.awv = false ∧ x2.wv = false ∧ x2.br = true) :
    let m := wTimeout t
    let s0 := m.runFrom (fInit t) ys
    let s1 := m.next s0 x0
    let s2 := m.next s1 x1
    (∀ o ∈ m.traceFrom (fInit t) ys, o.error = false) ∧
    (m.out s0 x0).error = true ∧
    m.out s1 x1 = { awr := x1.awv, wr := x1.wv, bv := false, bresp := RESP_SLVERR, error := false } ∧
    m.out s2 x2 = { awr := false, wr := false, bv := true, bresp := RESP_SLVERR, error := false } ∧
    m.next s2 x2 = fInit t := by
  intro m s0 s1 s2
  obtain ⟨hr, he⟩ := axl_wr_waiting t ys t (Nat.le_of_eq hlen) (Nat.le_refl t) hys
  have hs0 : s0 = { count := 0, respond := false } := hr.trans (by rw [hlen, Nat.sub_self])
  have hs1 : s1 = { count := 0, respond := true } := by
    show wNext t s0 x0 = _
    rw [hs0, wNext_wait t x0 rfl, h0]; rfl
  have hbv := not_and_not_of_or h1
  have hs2 : s2.respond = true := by
    show (wNext t s1 x1).respond = true
    rw [hs1, wNext_respond t x1 rfl, hbv]; rfl
  refine ⟨he, ?_, ?_, ?_, axl_wr_recovers t s2 x2 hs2 h2.1 h2.2.1 h2.2.2⟩
  · show (wOut s0 x0).error = true
    rw [hs0, wOut_wait x0 rfl, h0]; rfl
  · show wOut s1 x1 = _
    rw [hs1, wOut_respond x1 rfl, hbv]
  · show wOut s2 x2 = _
    rw [wOut_respond x2 hs2, h2.1, h2.2.1]; rfl

/-! Read direction (AXI-Lite: `full = false`; AXI: `full = true`, forced `r.last = 1`). -/

theorem axl_rd_transparent (full : Bool) (dw : Nat) (s : FState) (x : RIn) (h : s.respond = false) :
    (rOut full dw s x).arr = x.arr ∧ (rOut full dw s x).rv = x.rv ∧ (rOut full dw s x).rresp = x.rresp ∧
    (rOut full dw s x).rdata = x.rdata ∧ (rOut full dw s x).rlast = x.rlast := by
  rw [rOut_wait full dw x h]; exact ⟨rfl, rfl, rfl, rfl, rfl⟩

theorem axl_rd_timeout_exact (full : Bool) (dw t : Nat) (xs : List RIn) (x : RIn) :
    let s := (rTimeout full dw t).run xs
    ((rOut full dw s x).error = true ↔ s.respond = false ∧ t ≤ rWaited full dw t xs ∧ rWaitCond x = true) ∧
    ((rNext full dw t s x).respond = true ↔
      (rOut full dw s x).error = true ∨ (s.respond = true ∧ ¬(x.arv = false ∧ x.rr = true))) := by
  intro s
  have hd : WaitTimer.done s.count = true ↔ t ≤ rWaited full dw t xs := by
    rw [rRun_count_spec full dw t xs]; exact WaitTimer.done_sub_iff t _
  cases hr : s.respond
  · rw [rNext_wait full dw t x hr, rOut_wait full dw x hr]; simp [hd]
  · rw [rNext_respond full dw t x hr, rOut_respond full dw x hr]
    cases x.arv <;> cases x.rr <;> simp

/-- Forced read response: `SLVERR`, all-ones data, and `r.last = 1` on AXI. -/
theorem axl_rd_forced (full : Bool) (dw : Nat) (s : FState) (x : RIn) (h : s.respond = true) :
    rOut full dw s x = { arr := x.arv, rv := !x.arv, rresp := RESP_SLVERR, rdata := Wb.ones dw,
                         rlast := if full then true else x.rlast, error := false } :=
  rOut_respond full dw x h

theorem axi_rd_forced_last (dw : Nat) (s : FState) (x : RIn) (h : s.respond = true) :
    (rOut true dw s x).rlast = true := by rw [rOut_respond true dw x h]; rfl

theorem axl_rd_recovers (full : Bool) (dw t : Nat) (s : FState) (x : RIn) (h : s.respond = true)
    (ha : x.arv = false) (hr : x.rr = true) : rNext full dw t s x = fInit t := by
  rw [rNext_respond full dw t x h, ha, hr]; rfl

theorem axl_rd_undisturbed (full : Bool) (dw t : Nat) (s : FState) (x : RIn) (h : s.respond = false)
    (hacc : rWaitCond x = false) : (rOut full dw s x).error = false ∧ rNext full dw t s x = fInit t := by
  rw [rNext_wait full dw t x h, rOut_wait full dw x h, hacc, Bool.and_false]; exact ⟨rfl, rfl⟩

theorem axl_rd_waiting (full : Bool) (dw t : Nat) (ys : List RIn) : ∀ (cnt : Nat), ys.length ≤ cnt → cnt ≤ t →
    (∀ y ∈ ys, rWaitCond y = true) →
    (rTimeout full dw t).runFrom { count := cnt, respond := false } ys =
      { count := cnt - ys.length, respond := false } ∧
    ∀ o ∈ (rTimeout full dw t).traceFrom { count := cnt, respond := false } ys, o.error = false := by
  intro cnt hl _ hw
  exact Machine.runFrom_countdown (rTimeout full dw t) (Inv := fun n s => s = { count := n, respond := false })
    (fun n s y hs hy => by
      subst hs
      exact ⟨(rNext_wait full dw t y rfl).trans (by rw [hy]; rfl), congrArg ROut.error (rOut_wait full dw y rfl)⟩)
    ys (cnt - ys.length) { count := cnt, respond := false } (by rw [Nat.sub_add_cancel hl]) hw

/-- Exact numbers: error pulse in cycle `t`, AR absorbed in cycle `t+1`, `R` with
    `SLVERR`/all-ones (and `last` on AXI) in cycle `t+2`, then reset state. -/
theorem axl_rd_timeout_bound (full : Bool) (dw t : Nat) (ys : List RIn) (x0 x1 x2 : RIn)
    (hlen : ys.length = t) (hys : ∀ y ∈ ys, rWaitCond y = true) (h0 : rWaitCond x0 = true)
    (h1 : x1.arv = true) (h2 : x2.arv = false ∧ x2.rr = true) :
    let m := rTimeout full dw t
    let s0 := m.runFrom (fInit t) ys
    let s1 := m.next s0 x0
    let s2 := m.next s1 x1
    (∀ o ∈ m.traceFrom (fInit t) ys, o.error = false) ∧
    (m.out s0 x0).error = true ∧
    ((m.out s1 x1).arr = true ∧ (m.out s1 x1).rv = false ∧ (m.out s1 x1).error = false) ∧
    ((m.out s2 x2).rv = true ∧ (m.out s2 x2).rresp = RESP_SLVERR ∧ (m.out s2 x2).rdata = Wb.ones dw ∧
      (full = true → (m.out s2 x2).rlast = true) ∧ (m.out s2 x2).error = false) ∧
    m.next s2 x2 = fInit t := by
  intro m s0 s1 s2
  obtain ⟨hr, he⟩ := axl_rd_waiting full dw t ys t (Nat.le_of_eq hlen) (Nat.le_refl t) hys
  have hs0 : s0 = { count := 0, respond := false } := hr.trans (by rw [hlen, Nat.sub_self])
  have hs1 : s1 = { count := 0, respond := true } := by
    show rNext full dw t s0 x0 = _
    rw [hs0, rNext_wait full dw t x0 rfl, h0]; rfl
  have hs2 : s2.respond = true := by
    show (rNext full dw t s1 x1).respond = true
    rw [hs1, rNext_respond full dw t x1 rfl, h1]; rfl
  refine ⟨he, ?_, ?_, ?_, axl_rd_recovers full dw t s2 x2 hs2 h2.1 h2.2⟩
  · show (rOut full dw s0 x0).error = true
    rw [hs0, rOut_wait full dw x0 rfl, h0]; rfl
  · rw [show m.out s1 x1 = _ from rOut_respond full dw x1 (hs1 ▸ rfl), h1]; exact ⟨rfl, rfl, rfl⟩
  · rw [show m.out s2 x2 = _ from rOut_respond full dw x2 hs2, h2.1]
    exact ⟨rfl, rfl, rfl, fun hf => by rw [hf]; rfl, rfl⟩

end axFsm

/-! ## AXI-Lite / AXI `…InterconnectShared` with `timeout_cycles = t` (arbiter + decoder + timeout)

  `c.full = false`: `AXILiteInterconnectShared`; `c.full = true`: `AXIInterconnectShared`.  Any number of masters
  and slaves, any decoder.  The *owner* is the master holding the write (resp. read) grant. -/

section axShared
open Axi
variable (c : Axi.Cfg) {t : Nat}

/-- For every history from reset, with `waited` the number of consecutive preceding
    cycles in which the FSM was in WAIT and the owner had an AW/W beat that was not accepted (observed at the
    owner's port): the error pulse occurs exactly when `waited ≥ t` and the owner is again left waiting in this
    cycle; in RESPOND the owner sees the forced handshake/response and all other masters see nothing. -/
theorem axl_shared_wr_exact (ht : c.t = some t) (xs : List WBusIn) (x : WBusIn) :
    let s := (SharedW.machine c).run xs
    let o := SharedW.out c s x
    (o.error = true ↔ t ≤ SharedW.waited c xs ∧ SharedW.ownerWaits c s x = true) ∧
    (s.tm.respond = true →
      (o.toM s.grant).awr = (x.ms s.grant).awv ∧ (o.toM s.grant).wr = (x.ms s.grant).wv ∧
      (o.toM s.grant).bv = (!(x.ms s.grant).awv && !(x.ms s.grant).wv) ∧
      (o.toM s.grant).bresp = RESP_SLVERR ∧ o.error = false ∧
      ∀ i, i ≠ s.grant → (o.toM i).awr = false ∧ (o.toM i).wr = false ∧ (o.toM i).bv = false) := by
  intro s o
  constructor
  · show (SharedW.out c s x).error = true ↔ _
    rw [SharedW.out_error c ht, Bool.and_eq_true, (SharedW.timed c ht).run_done_iff]; exact Iff.rfl
  · intro hr
    have hres := (SharedW.tRes_some c ht s x).trans (wOut_respond _ hr)
    have hne : ∀ i, i ≠ s.grant → (s.grant == i) = false := fun i hi => by
      simp; exact fun h => hi h.symm
    refine ⟨?_, ?_, ?_, ?_, ?_, ?_⟩ <;>
      simp only [o, SharedW.out, hres, SharedW.tIn, SharedW.bus, beq_self_eq_true, Bool.and_true]
    intro i hi; simp [hne i hi]

/-- While the write FSM is in WAIT — in particular whenever the slave accepts
    within `t` cycles, *including* the expiry cycle — every port carries exactly what the interconnect without a
    timeout (`timeout_cycles=None`) would carry, and arbiter grant, lock counter and registered select evolve
    identically.  (What the slaves see never depends on the timeout at all — also not in RESPOND, which is the
    root of finding C11-axi-stale-late-response.) -/
theorem axl_shared_wr_undisturbed (ht : c.t = some t) (s : DState) (x : WBusIn) (hr : s.tm.respond = false) :
    (∀ i, (SharedW.out c s x).toM i = (SharedW.out { c with t := none } s x).toM i) ∧
    (∀ j, (SharedW.out c s x).toS j = (SharedW.out { c with t := none } s x).toS j) ∧
    (SharedW.next c s x).grant = (SharedW.next { c with t := none } s x).grant ∧
    (SharedW.next c s x).lock = (SharedW.next { c with t := none } s x).lock ∧
    (SharedW.next c s x).selReg = (SharedW.next { c with t := none } s x).selReg := by
  obtain ⟨h1, h2, _, h3, h4, h5⟩ := SharedW.sim_wait c ht s s x ⟨rfl, rfl, rfl, hr, hr⟩
  exact ⟨h1, h2, h3, h4, h5⟩

/-- **axl_timeout_bound / recovers on the composed interconnect (write), exact numbers — `_partial`.**
    (The case "AW and W both offered" of `axl_wr_timeout_recovers_any_beats` further down, with the `error` flag of the
    two RESPOND cycles and the owner's ports in the expiry cycle in addition.)
    Hypotheses that delimit the region in which the property holds on the unchanged tree (all decidable on the
    trace): shared interconnect; the fault lies before/within the address-data phase (`hsil`: no slave accepts
    anything up to the expiry cycle — a fault in the *response* phase is never timed out, see
    `axl_response_phase_hangs`); for "afterwards … normally" additionally no slave may accept a beat in the RESPOND
    cycles `x1`, `x2` (else its late answer hits the next transaction, see the stale-response witness) — the
    conclusions below about the interconnect itself hold without that last hypothesis.
    State `s`: no write outstanding (`lock = 0`), FSM in reset state.  The owner offers AW and W and every slave stays silent.
    Cycles `0 … t-1` (`ys`): nothing; cycle `t` (`x0`): `error = 1`, still nothing accepted; cycle `t+1` (`x1`):
    AW and W accepted by the timeout; cycle `t+2` (`x2`, owner has dropped its valids, `b.ready = 1`): `B` with
    `SLVERR`.  Afterwards: same owner, `lock = 0` again (the forced request and response were both counted),
    FSM in its reset state — the interconnect is exactly as before the request. -/
theorem axl_wr_timeout_bound_partial (ht : c.t = some t) (s : DState) (hgn : s.grant < c.n)
    (hl : s.lock = 0) (htm : s.tm = fInit t) (ys : List WBusIn) (x0 x1 x2 : WBusIn) (hlen : ys.length = t)
    (hreq : ∀ y ∈ ys ++ [x0, x1], (y.ms s.grant).awv = true ∧ (y.ms s.grant).wv = true)
    (hsil : ∀ y ∈ ys ++ [x0], SharedW.Silent y)
    (h2 : (x2.ms s.grant).awv = false ∧ (x2.ms s.grant).wv = false ∧ (x2.ms s.grant).br = true) :
    let m := SharedW.machine c
    let g := s.grant
    let s0 := m.runFrom s ys
    let s1 := m.next s0 x0
    let s2 := m.next s1 x1
    let s3 := m.next s2 x2
    (∀ o ∈ m.traceFrom s ys, o.error = false ∧ (o.toM g).awr = false ∧ (o.toM g).wr = false ∧ (o.toM g).bv = false) ∧
    ((m.out s0 x0).error = true ∧ ((m.out s0 x0).toM g).awr = false ∧ ((m.out s0 x0).toM g).wr = false ∧
      ((m.out s0 x0).toM g).bv = false) ∧
    (((m.out s1 x1).toM g).awr = true ∧ ((m.out s1 x1).toM g).wr = true ∧ ((m.out s1 x1).toM g).bv = false ∧
      (m.out s1 x1).error = false) ∧
    (((m.out s2 x2).toM g).bv = true ∧ ((m.out s2 x2).toM g).bresp = RESP_SLVERR ∧ (m.out s2 x2).error = false) ∧
    (s3.grant = g ∧ s3.lock = 0 ∧ s3.tm = fInit t) := by
  intro m g s0 s1 s2 s3
  obtain ⟨q, a, ⟨b1, b2, b3, b4, _⟩, d, fin⟩ := SharedW.silent_timeout ht hgn hl htm hlen
    (fun y hy => by rw [(hreq y hy).1]; rfl) hsil h2
  have hx1 := hreq x1 (by simp)
  exact ⟨q, a, ⟨b1.trans hx1.1, b2.trans hx1.2, b3, b4⟩, d, fin⟩

theorem axl_shared_rd_exact (ht : c.t = some t) (xs : List RBusIn) (x : RBusIn) :
    let s := (SharedR.machine c).run xs
    let o := SharedR.out c s x
    (o.error = true ↔ t ≤ SharedR.waited c xs ∧ SharedR.ownerWaits c s x = true) ∧
    (s.tm.respond = true →
      (o.toM s.grant).arr = (x.ms s.grant).arv ∧ (o.toM s.grant).rv = (!(x.ms s.grant).arv) ∧
      (o.toM s.grant).rresp = RESP_SLVERR ∧ (o.toM s.grant).rdata = Wb.ones c.dw ∧
      (c.full = true → (o.toM s.grant).rlast = true) ∧ o.error = false ∧
      ∀ i, i ≠ s.grant → (o.toM i).arr = false ∧ (o.toM i).rv = false) := by
  intro s o
  constructor
  · show (SharedR.out c s x).error = true ↔ _
    rw [SharedR.out_error c ht, Bool.and_eq_true, (SharedR.timed c ht).run_done_iff]; exact Iff.rfl
  · intro hr
    have hres := (SharedR.tRes_some c ht s x).trans (rOut_respond _ _ _ hr)
    have hne : ∀ i, i ≠ s.grant → (s.grant == i) = false := fun i hi => by
      simp; exact fun h => hi h.symm
    refine ⟨?_, ?_, ?_, ?_, ?_, ?_, ?_⟩ <;>
      simp only [o, SharedR.out, hres, SharedR.tIn, SharedR.bus, beq_self_eq_true, Bool.and_true]
    · intro hf; simp [hf]
    · intro i hi; simp [hne i hi]

theorem axl_shared_rd_undisturbed (ht : c.t = some t) (s : DState) (x : RBusIn) (hr : s.tm.respond = false) :
    (∀ i, (SharedR.out c s x).toM i = (SharedR.out { c with t := none } s x).toM i) ∧
    (∀ j, (SharedR.out c s x).toS j = (SharedR.out { c with t := none } s x).toS j) ∧
    (SharedR.next c s x).grant = (SharedR.next { c with t := none } s x).grant ∧
    (SharedR.next c s x).lock = (SharedR.next { c with t := none } s x).lock ∧
    (SharedR.next c s x).selReg = (SharedR.next { c with t := none } s x).selReg := by
  obtain ⟨h1, h2, _, h3, h4, h5⟩ := SharedR.sim_wait c ht s s x ⟨rfl, rfl, rfl, hr, hr⟩
  exact ⟨h1, h2, h3, h4, h5⟩

/-- **axl_timeout_bound / recovers on the composed interconnect (read), exact numbers — `_partial`** (same
    region as the write theorem: shared interconnect, fault in the address phase): error in cycle `t`, AR
    accepted by the timeout in cycle `t+1`, `R` with `SLVERR`, all-ones data (and `last` on AXI) in cycle `t+2`;
    afterwards same owner, `lock = 0`, FSM in reset state. -/
theorem axl_rd_timeout_bound_partial (ht : c.t = some t) (s : DState) (hgn : s.grant < c.n)
    (hl : s.lock = 0) (htm : s.tm = fInit t) (ys : List RBusIn) (x0 x1 x2 : RBusIn) (hlen : ys.length = t)
    (hreq : ∀ y ∈ ys ++ [x0, x1], (y.ms s.grant).arv = true)
    (hsil : ∀ y ∈ ys ++ [x0], SharedR.Silent y)
    (h2 : (x2.ms s.grant).arv = false ∧ (x2.ms s.grant).rr = true) :
    let m := SharedR.machine c
    let g := s.grant
    let s0 := m.runFrom s ys
    let s1 := m.next s0 x0
    let s2 := m.next s1 x1
    let s3 := m.next s2 x2
    (∀ o ∈ m.traceFrom s ys, o.error = false ∧ (o.toM g).arr = false ∧ (o.toM g).rv = false) ∧
    ((m.out s0 x0).error = true ∧ ((m.out s0 x0).toM g).arr = false ∧ ((m.out s0 x0).toM g).rv = false) ∧
    (((m.out s1 x1).toM g).arr = true ∧ ((m.out s1 x1).toM g).rv = false ∧ (m.out s1 x1).error = false) ∧
    (((m.out s2 x2).toM g).rv = true ∧ ((m.out s2 x2).toM g).rresp = RESP_SLVERR ∧
      ((m.out s2 x2).toM g).rdata = Wb.ones c.dw ∧ (c.full = true → ((m.out s2 x2).toM g).rlast = true) ∧
      (m.out s2 x2).error = false) ∧
    (s3.grant = g ∧ s3.lock = 0 ∧ s3.tm = fInit t) := by
  intro m g s0 s1 s2 s3
  -- `g_`, `l_`, `tm_`: grant, lock and FSM of state `s_`; `q`, `a_`, `b_`, `d_`: what `ys`, `x0`, `x1`, `x2` show
  obtain ⟨⟨g0, l0, tm0⟩, q⟩ := SharedR.silent_waiting ht hgn ys 0 s rfl hl (by rw [htm, Nat.zero_add, hlen]; rfl)
    fun y hy => ⟨hreq y (by simp [hy]), hsil y (by simp [hy])⟩
  obtain ⟨a1, a2, a3, g1, l1, tm1⟩ :=
    SharedR.silent_wait_step ht hgn g0 l0 tm0 (hreq x0 (by simp)) (hsil x0 (by simp))
  obtain ⟨b1, b2, b3, g2, l2, tm2⟩ :=
    SharedR.silent_absorb_step ht hgn g1 l1 (by rw [tm1]; rfl) (hreq x1 (by simp))
  obtain ⟨d1, d2, d3, d4, d5, g3, l3, tm3⟩ :=
    SharedR.silent_r_step ht hgn g2 l2 (by rw [tm2]) h2.1 h2.2
  exact ⟨q, ⟨a3, a1, a2⟩, ⟨b1, b2, b3⟩, ⟨d1, d2, d3, d4, d5⟩, g3, l3, tm3⟩

/-- With no response outstanding (`lock = 0`), an address matching no decoder
    raises `aw.valid`/`w.valid` (resp. `ar.valid`) at no slave and no slave's `ready` reaches the bus: the
    request waits and is timed out as in `axl_*_timeout_bound_partial`. -/
theorem axl_unmapped_address (s : DState) (hl : s.lock = 0) :
    (∀ (x : WBusIn), (∀ j, c.dec j (x.ms s.grant).awa = false) →
      (∀ j, ((SharedW.out c s x).toS j).awv = false ∧ ((SharedW.out c s x).toS j).wv = false) ∧
      (SharedW.tIn c s x).awr = false ∧ (SharedW.tIn c s x).wr = false) ∧
    (∀ (x : RBusIn), (∀ j, c.dec j (x.ms s.grant).ara = false) →
      (∀ j, ((SharedR.out c s x).toS j).arv = false) ∧ (SharedR.tIn c s x).arr = false) := by
  constructor
  · intro x hun
    have hsel : ∀ j, SharedW.sel c s x j = false := fun j => by
      simp [SharedW.sel, selOf, ctrReady, hl, SharedW.bus, hun]
    exact ⟨fun j => by simp [SharedW.out, hsel], Wb.orAll_false (fun j => by simp [hsel]),
           Wb.orAll_false (fun j => by simp [hsel])⟩
  · intro x hun
    have hsel : ∀ j, SharedR.sel c s x j = false := fun j => by
      simp [SharedR.sel, selOf, ctrReady, hl, SharedR.bus, hun]
    exact ⟨fun j => by simp [SharedR.out, hsel], Wb.orAll_false (fun j => by simp [hsel])⟩

end axShared

/-! ## Known findings on the AXI-Lite / AXI shared interconnects: negative witnesses

  Not proved: the full statement of the property — every write (read) of the owner whose B (R) response has not
  arrived `t + 2` cycles after the slave stopped making progress, in the address phase, the data phase *or the
  response phase*, is terminated with SLVERR, and afterwards every transaction receives its own response.  It does
  **not** hold on the unchanged tree, hence the `_partial` theorems above.

  Excluded regions (each decidable on the trace) and their witnesses:
    * response phase (`C11-axi-response-phase-unwatched`): the slave accepted AW+W (AR) and never answers;
    * late answer (`C11-axi-stale-late-response`): a slave accepts a beat during RESPOND (or accepted AW but not W
      before expiry) and answers after the forced response. -/

section axFindings
open Axi

/-- **Negative witness, response phase (for all run lengths and all configurations).**  Once the FSM is in WAIT
    and no master offers an AW/W beat (they are all waiting for `B`) while no slave sends `b.valid`, nothing ever
    happens again: no `b.valid` reaches any master, no `error` pulse, the lock counter keeps its value — if it is
    non-zero (a write was accepted, see the `example` below) the owner waits for its `B` forever and, the grant
    being frozen by the lock, every other master is blocked as well. -/
theorem axl_response_phase_hangs (c : Axi.Cfg) (t : Nat) (ht : c.t = some t) (xs : List WBusIn) :
    ∀ (s : DState), s.tm.respond = false →
    (∀ x ∈ xs, (∀ i, (x.ms i).awv = false ∧ (x.ms i).wv = false) ∧ ∀ j, (x.ss j).bv = false) →
    (∀ o ∈ (SharedW.machine c).traceFrom s xs, o.error = false ∧ ∀ i, (o.toM i).bv = false) ∧
    ((SharedW.machine c).runFrom s xs).lock = s.lock ∧
    ((SharedW.machine c).runFrom s xs).tm.respond = false ∧
    (s.lock ≠ 0 → s.grant < c.n → ((SharedW.machine c).runFrom s xs).grant = s.grant) := by
  intro s hr hidle
  have h := Machine.inv_along (SharedW.machine c)
    (Inv := fun s' => s'.tm.respond = false ∧ s'.lock = s.lock ∧
      (s.lock ≠ 0 → s.grant < c.n → s'.grant = s.grant))
    (Q := fun o => o.error = false ∧ ∀ i, (o.toM i).bv = false)
    (fun s' x ⟨hr', hl', hg'⟩ ⟨hm, hs⟩ => by
      obtain ⟨q, l, r, g⟩ := SharedW.idle_wait_step c ht s' x hr' hm hs
      refine ⟨⟨r, l.trans hl', fun hl hn => ?_⟩, q⟩
      -- the state before the step has the lock and (the lock being non-zero) the grant of `s`
      have hgs := hg' hl hn
      rw [← hl'] at hl
      rw [← hgs] at hn
      exact (g hl hn).trans hgs)
    xs s ⟨hr, rfl, fun _ _ => rfl⟩ (Machine.LegalFrom.of_forall _ hidle s)
  exact ⟨h.2, h.1.2.1, h.1.1, h.1.2.2⟩

/-- Concrete 1x1 AXI-Lite interconnect, `timeout_cycles = 3`, slave 0 at addresses `0..15`. -/
def cfg11 : Axi.Cfg := { n := 1, k := 1, dec := fun j a => (a >>> 4) == j, t := some 3, dw := 32, full := false }

def wIn (m : WM) (sl : WS) : WBusIn := { ms := fun _ => m, ss := fun _ => sl }

/-- The excluded region is reachable: the slave accepts AW+W in cycle 0 (`lock` becomes 1, FSM stays in WAIT);
    by `axl_response_phase_hangs` a slave that now stays silent hangs the bus although `timeout_cycles = 3`. -/
example :
    let s1 := SharedW.next cfg11 (dInit cfg11) (wIn { awv := true, wv := true } { awr := true, wr := true })
    s1.lock = 1 ∧ s1.tm.respond = false := by decide

/-- What the owner sees on `b.valid`/`b.resp` and the `error` flag, cycle by cycle. -/
def bTrace (c : Axi.Cfg) (xs : List WBusIn) : List (Bool × Nat × Bool) :=
  ((SharedW.machine c).trace xs).map fun o => ((o.toM 0).bv, (o.toM 0).bresp, o.error)

/-- **Negative witness, stale late response** (the trace of `harness/c11lib.py: probe_stale_response`).
    Write #1 is offered in cycles 0–4; the slave is silent in cycles 0–3 and ready from cycle 4 on, i.e. it takes
    AW+W in the RESPOND cycle in which the timeout also takes them.  The owner gets the forced `SLVERR` in cycle
    5.  The slave answers write #1 (`OKAY`, resp 0) from cycle 10 on; nobody listens (`b.ready = 0`).  Write #2
    is offered in cycle 12 and accepted at once; in cycle 13 the owner, now waiting for the response of write #2,
    receives `b.valid` with the slave's answer to write #1. -/
example :
    let req : WM := { awv := true, wv := true }
    let idle : WM := {}
    let waitB : WM := { br := true }
    let silent : WS := {}
    let ready : WS := { awr := true, wr := true }
    let readyB : WS := { awr := true, wr := true, bv := true, bresp := 0 }
    bTrace cfg11
      ([wIn req silent, wIn req silent, wIn req silent, wIn req silent,      -- 0-3: waiting, error in cycle 3
        wIn req ready,                                                       -- 4: RESPOND absorbs; slave too
        wIn waitB ready,                                                     -- 5: forced B (SLVERR) taken
        wIn idle ready, wIn idle ready, wIn idle ready, wIn idle ready,      -- 6-9
        wIn idle readyB, wIn idle readyB,                                    -- 10-11: slave's late B, not taken
        wIn req readyB,                                                      -- 12: write #2 accepted
        wIn waitB readyB])                                                   -- 13: owner takes write #1's B
    = [(false, 0, false), (false, 0, false), (false, 0, false), (false, 0, true),
       (false, 2, false),
       (true, 2, false),
       (false, 0, false), (false, 0, false), (false, 0, false), (false, 0, false),
       (true, 0, false), (true, 0, false),
       (true, 0, false),
       (true, 0, false)] := by decide

/-- Non-vacuity of the read theorems on AXI (`full = true`): silent slave, `timeout_cycles = 3` — nothing for
    cycles 0–2, `error` in cycle 3, AR accepted by the timeout in cycle 4, `R` = SLVERR / all ones / `last` in
    cycle 5, idle again in cycle 6. -/
example :
    let c : Axi.Cfg := { cfg11 with full := true }
    let rIn (m : RM) : RBusIn := { ms := fun _ => m, ss := fun _ => {} }
    let req : RM := { arv := true }
    ((SharedR.machine c).trace [rIn req, rIn req, rIn req, rIn req, rIn req, rIn { rr := true }, rIn {}]).map
      (fun o => ((o.toM 0).arr, (o.toM 0).rv, (o.toM 0).rresp, (o.toM 0).rdata, (o.toM 0).rlast, o.error)) =
    [(false, false, 0, 0, false, false), (false, false, 0, 0, false, false), (false, false, 0, 0, false, false),
     (false, false, 0, 0, false, true),
     (true, false, 2, 0xffffffff, true, false),
     (false, true, 2, 0xffffffff, true, false),
     (false, false, 0, 0, false, false)] := by decide

end axFindings

/-! ## Bus error counter (`SoCController.bus_errors`, fed by `timeout.error`) -/

section busErr
open BusErr

/-- From any start value `c0` not above the maximum: after a history of `bus_error` values the counter holds
    `min (c0 + number of pulses) (2^w - 1)`. -/
theorem bus_errors_counts_from (w : Nat) (l : List Bool) (c0 : Nat) (h : c0 ≤ maxVal w) :
    (BusErr.machine w c0).run l = min (c0 + pulses l) (maxVal w) :=
  BusErr.runFrom_spec w l c0 c0 h

/-- The 32-bit (any width `w`) counter equals the number of cycles in which the timeout
    signalled `error`, saturating at `2^w - 1` (it never wraps). -/
theorem bus_errors_counts (w : Nat) (l : List Bool) :
    (BusErr.machine w).run l = min (pulses l) (2 ^ w - 1) := by
  have := bus_errors_counts_from w l 0 (Nat.zero_le _)
  simpa [maxVal] using this

example : (BusErr.machine 2).run [true, false, true, true, true, true] = 3 := by decide

end busErr

/-! ## SoC level: the bus error counter wired to the interconnect (`SoC.finalize`) -/

section socCounter
open BusErr

/-- **Wishbone SoC.**  `InterconnectShared` + `SoCController` wired as `SoC.finalize` does, any `n x k`, any decoder,
    any history: `bus_errors` = number of expiry cycles so far, saturating at `2^w - 1`.  By `wb_timeout_exact` an
    expiry cycle is exactly a cycle in which the owner's request has waited `t` cycles and is terminated with the
    forced all-ones acknowledge, so on Wishbone the counter counts the timed-out requests one by one. -/
theorem wb_soc_bus_errors_counts (c : Wb.Cfg) (w : Nat) (xs : List Wb.BusIn) :
    ((Wb.Soc.machine c w).run xs).errs =
      min (pulses (((Wb.Shared.machine c).trace xs).map (·.error))) (2 ^ w - 1) :=
  (Wb.Soc.runFrom_errs c w 0 xs (Wb.Soc.init c 0) (Nat.zero_le _)).trans
    (congrArg (min · (2 ^ w - 1)) (Nat.zero_add _))

/-- Every counted pulse is a forced termination of the owner's request (or of the idle bus if the owner withdrew in
    the expiry cycle): `ack`, all-ones data. -/
theorem wb_soc_pulse_is_forced_ack (c : Wb.Cfg) {t : Nat} (ht : c.t = some t) (xs : List Wb.BusIn) (x : Wb.BusIn)
    (he : (Wb.Shared.out c ((Wb.Shared.machine c).run xs) x).error = true) :
    let s := (Wb.Shared.machine c).run xs
    Wb.Shared.waited c xs = t ∧ ((Wb.Shared.out c s x).toM s.grant).ack = true ∧
    ((Wb.Shared.out c s x).toM s.grant).datR = Wb.ones c.dw := by
  have h := wb_timeout_exact c ht xs x
  have hw := h.2.1.mp he
  exact ⟨hw, h.2.2.1 hw⟩

example : ((Wb.Soc.machine cfgWb 32).run [reqIn, reqIn, reqIn, reqIn, reqIn, reqIn, reqIn, reqIn]).errs = 2 := by
  decide

/-- `wr_error` / `rd_error` cycle by cycle. -/
def wrErrors (c : Axi.Cfg) (xs : List Axi.SocIn) : List Bool :=
  ((Axi.SharedW.machine c).trace (xs.map (·.xw))).map (·.error)
def rdErrors (c : Axi.Cfg) (xs : List Axi.SocIn) : List Bool :=
  ((Axi.SharedR.machine c).trace (xs.map (·.xr))).map (·.error)

/-- **AXI / AXI-Lite SoC, as coded.**  `bus_errors` = number of cycles in which the write OR the read timeout
    expired (`error = wr_error | rd_error`), saturating — for every `n x k`, decoder, history. -/
theorem axi_soc_bus_errors_counts (c : Axi.Cfg) (w : Nat) (xs : List Axi.SocIn) :
    ((Axi.Soc.machine c w).run xs).errs =
      min (pulses (List.zipWith (· || ·) (wrErrors c xs) (rdErrors c xs))) (2 ^ w - 1) :=
  (Axi.Soc.runFrom_errs c w 0 xs (Axi.Soc.init c 0) (Nat.zero_le _)).trans
    (congrArg (min · (2 ^ w - 1)) (Nat.zero_add _))

/-- Inclusion–exclusion: the pulses the counter sees plus the coincidences = write expiries + read expiries. -/
theorem axi_soc_pulses_inclusion_exclusion (c : Axi.Cfg) (xs : List Axi.SocIn) :
    pulses (List.zipWith (· || ·) (wrErrors c xs) (rdErrors c xs)) +
      pulses (List.zipWith (· && ·) (wrErrors c xs) (rdErrors c xs)) =
    pulses (wrErrors c xs) + pulses (rdErrors c xs) := by
  have hl : (wrErrors c xs).length = (rdErrors c xs).length := by
    simp [wrErrors, rdErrors, Machine.trace, Machine.traceFrom_length]
  have h := pulses_or_and (wrErrors c xs) (rdErrors c xs)
  rw [← hl, List.take_length, hl, List.take_length] at h
  exact h

/-- Full statement of the property ("every timed-out request is counted": `bus_errors = min (write expiries + read
    expiries) max`) — `_partial`: it holds when no write expiry coincides with a read expiry.  In general the
    counter is a lower bound (`axi_soc_bus_errors_le`). -/
theorem axi_soc_bus_errors_counts_partial (c : Axi.Cfg) (w : Nat) (xs : List Axi.SocIn)
    (hno : pulses (List.zipWith (· && ·) (wrErrors c xs) (rdErrors c xs)) = 0) :
    ((Axi.Soc.machine c w).run xs).errs = min (pulses (wrErrors c xs) + pulses (rdErrors c xs)) (2 ^ w - 1) := by
  rw [axi_soc_bus_errors_counts, ← axi_soc_pulses_inclusion_exclusion, hno, Nat.add_zero]

theorem axi_soc_bus_errors_le (c : Axi.Cfg) (w : Nat) (xs : List Axi.SocIn) :
    ((Axi.Soc.machine c w).run xs).errs ≤ pulses (wrErrors c xs) + pulses (rdErrors c xs) := by
  rw [axi_soc_bus_errors_counts, ← axi_soc_pulses_inclusion_exclusion]; omega

/-- 1x1 AXI interconnect, `timeout_cycles = 3`; a master that issues a write (id 3, 2 beats) and a read (id 2, 4
    beats) in the same cycle to a silent slave which drives id 0. -/
def cfgAxi : Axi.Cfg := { cfg11 with full := true }
def bothIn (wm : Axi.WM) (rm : Axi.RM) : Axi.SocIn :=
  { xw := { ms := fun _ => wm, ss := fun _ => {} }, xr := { ms := fun _ => rm, ss := fun _ => {} },
    p := { pm := fun _ => { awid := 3, awlen := 1, arid := 2, arlen := 3 }, ps := fun _ => {} } }
def bothTrace : List Axi.SocIn :=
  [bothIn { awv := true, wv := true } { arv := true }, bothIn { awv := true, wv := true } { arv := true },
   bothIn { awv := true, wv := true } { arv := true }, bothIn { awv := true, wv := true } { arv := true },
   bothIn { awv := true, wv := true } { arv := true }, bothIn { br := true } { rr := true }, bothIn {} {}]

/-- **Negative witness (candidate finding C11-axi-simultaneous-expiry-one-count).**  The write and the read expire in
    the same cycle: two requests are terminated with SLVERR, `bus_errors` is 1. -/
example : pulses (wrErrors cfgAxi bothTrace) = 1 ∧ pulses (rdErrors cfgAxi bothTrace) = 1 ∧
    ((Axi.Soc.machine cfgAxi 32).run bothTrace).errs = 1 := by decide

end socCounter

/-! ## AXI pass-through payload: ids, burst length, `last`

  Property reading: the forced response must be a response *to the request it terminates*: on AXI4 that means it
  carries the request's id, and a burst must be brought to an end (`last`).  What the code does is stated and
  proved as it is; where that falls short of the AXI4 rule the theorem is `_partial` with a witness. -/

section axPayload
open Axi

/-- The ids a master sees on `B`/`R` never depend on anything the masters drive as payload — in particular not on
    the id of the request being answered — nor on the timeout FSM: also a forced response carries the decoder's mux
    of the slaves' id outputs (AXITimeout overrides `resp`, `data`, `last`, not `id`). -/
theorem axi_response_id_independent_of_request (c : Axi.Cfg) (sw sr : DState) (xw : WBusIn) (xr : RBusIn)
    (p : PayIn) (pm' : Nat → PM) :
    (payOut c sw sr xw xr { p with pm := pm' }).toM = (payOut c sw sr xw xr p).toM := by
  simp only [payOut]; split <;> rfl

/-- The response ids of a slave that drives 0 (any silent/idle slave of the tree) or of an unmapped address. -/
theorem axi_forced_response_id_zero (c : Axi.Cfg) (sw sr : DState) (xw : WBusIn) (xr : RBusIn) (p : PayIn)
    (h0 : ∀ j, ((p.ps j).bid = 0 ∨ SharedW.sel c sw xw j = false) ∧ ((p.ps j).rid = 0 ∨ SharedR.sel c sr xr j = false))
    (i : Nat) : ((payOut c sw sr xw xr p).toM i).bid = 0 ∧ ((payOut c sw sr xw xr p).toM i).rid = 0 := by
  simp only [payOut]; split
  · refine ⟨Wb.orDat_zero fun j => ?_, Wb.orDat_zero fun j => ?_⟩
    · rcases (h0 j).1 with h | h <;> simp [Wb.gate, h]
    · rcases (h0 j).2 with h | h <;> simp [Wb.gate, h]
  · exact ⟨rfl, rfl⟩

/-- Full statement (AXI4 A5.2: "the RID/BID of a response must match the ARID/AWID of the request it answers") —
    `_partial`: with a silent (id-0-driving) or absent slave it holds exactly for requests issued with id 0. -/
theorem axi_forced_response_id_matches_partial (c : Axi.Cfg) (sw sr : DState) (xw : WBusIn) (xr : RBusIn)
    (p : PayIn) (h0 : ∀ j, (p.ps j).bid = 0 ∧ (p.ps j).rid = 0) (awid arid : Nat) (i : Nat) :
    (((payOut c sw sr xw xr p).toM i).bid = awid ↔ awid = 0) ∧
    (((payOut c sw sr xw xr p).toM i).rid = arid ↔ arid = 0) := by
  have h := axi_forced_response_id_zero c sw sr xw xr p (fun j => ⟨Or.inl (h0 j).1, Or.inl (h0 j).2⟩) i
  rw [h.1, h.2]; exact ⟨eq_comm, eq_comm⟩

/-- Master-to-slave payload is that of the owner of the respective direction, for every slave (broadcast). -/
theorem axi_request_payload_routed (c : Axi.Cfg) (hf : c.full = true) (sw sr : DState) (xw : WBusIn)
    (xr : RBusIn) (p : PayIn) (j : Nat) :
    (payOut c sw sr xw xr p).toS j =
      { awid := (p.pm sw.grant).awid, awlen := (p.pm sw.grant).awlen, wlast := (p.pm sw.grant).wlast,
        arid := (p.pm sr.grant).arid, arlen := (p.pm sr.grant).arlen } := by
  simp [payOut, hf]

/-- What the single master sees in `bothTrace`, per cycle: (b.valid, b.resp, b.id, r.valid, r.resp, r.last, r.id). -/
def seen (c : Axi.Cfg) (xs : List SocIn) : List ((Bool × Nat × Nat) × (Bool × Nat × Bool × Nat)) :=
  ((Soc.machine c 32).trace xs).map fun o =>
    (((o.ow.toM 0).bv, (o.ow.toM 0).bresp, (o.pay.toM 0).bid),
     ((o.or.toM 0).rv, (o.or.toM 0).rresp, (o.or.toM 0).rlast, (o.pay.toM 0).rid))

/-- **Negative witness (candidate finding C11-axi-forced-response-id).**  Write with id 3 / read with id 2 to a
    silent slave: the forced `B` and the forced `R` (cycle 5) carry id 0.  Also visible: the 4-beat read burst
    (`ar.len = 3`) is answered by ONE beat with `last`. -/
example : seen cfgAxi bothTrace =
    [((false, 0, 0), (false, 0, false, 0)), ((false, 0, 0), (false, 0, false, 0)), ((false, 0, 0), (false, 0, false, 0)),
     ((false, 0, 0), (false, 0, false, 0)), ((false, 2, 0), (false, 2, true, 0)),
     ((true, 2, 0), (true, 2, true, 0)),
     ((false, 0, 0), (false, 0, false, 0))] := by decide

/-- **Bursts, read: the forced response is exactly one beat.**  Whatever `ar.len` was: every forced `R` beat has
    `last` (AXI), and its handshake returns the FSM to its reset state — a master that ends a burst on `last` is
    released after one beat (it receives `len + 1` beats only if `len = 0`). -/
theorem axi_forced_read_one_beat (dw t : Nat) (s : FState) (x : RIn) (hs : s.respond = true) :
    ((rOut true dw s x).rv = true → (rOut true dw s x).rlast = true ∧ (rOut true dw s x).rresp = RESP_SLVERR) ∧
    ((rOut true dw s x).rv = true → x.rr = true → rNext true dw t s x = fInit t) := by
  refine ⟨fun _ => by simp [rOut, hs], fun hv hr => ?_⟩
  have ha : x.arv = false := by simpa [rOut, hs] using hv
  exact axl_rd_recovers true dw t s x hs ha hr

/-- **Bursts, write: RESPOND absorbs any number of beats.**  From RESPOND, for every stretch `ys` of cycles in each
    of which the master offers an AW or a W beat: every offered beat is accepted in its cycle, no `B` is offered, the
    FSM stays in RESPOND (so a burst of any length streamed without a bubble is swallowed whole). -/
theorem axi_wr_respond_absorbs_burst (t : Nat) (ys : List WIn) : ∀ (s : FState), s.respond = true →
    (∀ y ∈ ys, (y.awv || y.wv) = true) →
    ((wTimeout t).runFrom s ys).respond = true ∧
    ((wTimeout t).traceFrom s ys) = ys.map fun y =>
      { awr := y.awv, wr := y.wv, bv := false, bresp := RESP_SLVERR, error := false } := by
  induction ys with
  | nil => intro s hs _; simp [Machine.runFrom, Machine.traceFrom, hs]
  | cons y ys ih =>
    intro s hs hy
    have hbv := not_and_not_of_or (hy y (by simp))
    have ho : wOut s y = { awr := y.awv, wr := y.wv, bv := false, bresp := RESP_SLVERR, error := false } := by
      rw [wOut_respond y hs, hbv]
    have hn : (wNext t s y).respond = true := by rw [wNext_respond t y hs, hbv]; rfl
    obtain ⟨r1, r2⟩ := ih (wNext t s y) hn (fun z hz => hy z (by simp [hz]))
    exact ⟨r1, by simp only [Machine.traceFrom, List.map_cons]; rw [← ho]; congr 1⟩

/-- … and the first cycle without an offered beat gets the `B` (SLVERR); with `b.ready` the FSM is reset. -/
theorem axi_wr_respond_burst_then_b (t : Nat) (ys : List WIn) (s : FState) (hs : s.respond = true)
    (hy : ∀ y ∈ ys, (y.awv || y.wv) = true) (x : WIn) (hx : x.awv = false ∧ x.wv = false ∧ x.br = true) :
    let s' := (wTimeout t).runFrom s ys
    (wOut s' x).bv = true ∧ (wOut s' x).bresp = RESP_SLVERR ∧ wNext t s' x = fInit t := by
  intro s'
  have hr : s'.respond = true := (axi_wr_respond_absorbs_burst t ys s hs hy).1
  rw [wOut_respond x hr, hx.1, hx.2.1]
  exact ⟨rfl, rfl, axl_wr_recovers t s' x hr hx.1 hx.2.1 hx.2.2⟩

/-! Not proved: the full statement for write bursts ("one B per AW"), that a timed-out write burst receives exactly
    one B.  It holds for bursts streamed without a bubble (`axi_wr_respond_absorbs_burst`); it fails when the master pauses
    between two W beats while `b.ready` is high: the pause is taken for the end of the write, `B` is sent, and the
    remaining beats start a second time-out and earn a second `B` (`t = 2`: B in cycles 4 and 9). -/
example :
    let w (wv br : Bool) : WIn := { awv := false, wv := wv, br := br, awr := false, wr := false, bv := false, bresp := 0 }
    ((wTimeout 2).trace
      [{ w true true with awv := true }, { w true true with awv := true }, { w true true with awv := true },  -- 0-2: stalled; error in 2
       { w true true with awv := true },                                     -- 3: AW + beat 1 absorbed
       w false true,                                                         -- 4: bubble: B #1
       w true true, w true true, w true true,                                -- 5-7: beat 2 stalls; error in 7
       w true true,                                                          -- 8: beat 2 absorbed
       w false true]).map (fun o => (o.wr, o.bv, o.error))                   -- 9: B #2
    = [(false, false, false), (false, false, false), (false, false, true), (true, false, false), (false, true, false),
       (false, false, false), (false, false, false), (false, false, true), (true, false, false), (false, true, false)] := by
  decide

end axPayload

section transparency

/-- **Wishbone.**  Reference system: the same interconnect built with `timeout_cycles=None`.  If there no request
    ever waits `t` cycles (every slave answers within `t` cycles: no prefix of the history ends in a streak of `t`
    waiting cycles), then in EVERY cycle every port of the interconnect with timeout carries exactly what the
    reference carries, and `error` is never raised. -/
theorem wb_healthy_bus_transparent (c : Wb.Cfg) {t : Nat} (ht : c.t = some t) (xs : List Wb.BusIn)
    (hh : ∀ ys zs, xs = ys ++ zs → Wb.Shared.waited (Wb.Shared.noT c) ys < t)
    (ys : List Wb.BusIn) (x : Wb.BusIn) (zs : List Wb.BusIn) (hsplit : xs = ys ++ x :: zs) :
    let o := Wb.Shared.out c ((Wb.Shared.machine c).run ys) x
    let o0 := Wb.Shared.out (Wb.Shared.noT c) ((Wb.Shared.machine (Wb.Shared.noT c)).run ys) x
    (∀ i, o.toM i = o0.toM i) ∧ (∀ j, o.toS j = o0.toS j) ∧ o.error = false := by
  intro o o0
  have hpre : ∀ a b, ys = a ++ b → Wb.Shared.waited (Wb.Shared.noT c) a < t :=
    fun a b hab => hh a (b ++ x :: zs) (by rw [hsplit, hab, List.append_assoc])
  obtain ⟨hs, hw⟩ := Wb.Shared.healthy_sim c ht ys hpre
  have hd := Wb.Shared.run_not_done c ht ys (hw ▸ hpre ys [] (List.append_nil _).symm)
  obtain ⟨h1, h2, h3, _⟩ := Wb.Shared.sim_out c ht _ _ x hs hd
  exact ⟨h1, h2, h3⟩

/-- **AXI / AXI-Lite, write channels.**  Reference: `timeout_cycles=None`.  If there no AW/W stall streak of the owner
    exceeds `t` cycles, every port carries what the reference carries in every cycle and `wr_error` never fires.
    (The streak is the one of `wait_cond`, see finding C11-axi-timeout-accumulates-across-transfers.) -/
theorem axl_healthy_bus_transparent_wr (c : Axi.Cfg) {t : Nat} (ht : c.t = some t) (xs : List Axi.WBusIn)
    (hh : ∀ ys zs, xs = ys ++ zs → Axi.SharedW.waited (Axi.SharedW.noT c) ys ≤ t)
    (ys : List Axi.WBusIn) (x : Axi.WBusIn) (zs : List Axi.WBusIn) (hsplit : xs = ys ++ x :: zs) :
    let o := Axi.SharedW.out c ((Axi.SharedW.machine c).run ys) x
    let o0 := Axi.SharedW.out (Axi.SharedW.noT c) ((Axi.SharedW.machine (Axi.SharedW.noT c)).run ys) x
    (∀ i, o.toM i = o0.toM i) ∧ (∀ j, o.toS j = o0.toS j) ∧ o.error = false := by
  intro o o0
  obtain ⟨hs, hw⟩ := (Axi.SharedW.timed c ht).healthy_sim (Axi.SharedW.reference c ht) ys
    fun a b hab => hh a (b ++ x :: zs) (by rw [hsplit, hab, List.append_assoc])
  obtain ⟨h1, h2, _⟩ := Axi.SharedW.sim_wait c ht _ _ x hs
  exact ⟨h1, h2, (Axi.SharedW.timed c ht).no_error_of_healthy (Axi.SharedW.reference c ht) ys x hs hw
    (hh (ys ++ [x]) zs (by rw [hsplit, List.append_assoc]; rfl))⟩

theorem axl_healthy_bus_transparent_rd (c : Axi.Cfg) {t : Nat} (ht : c.t = some t) (xs : List Axi.RBusIn)
    (hh : ∀ ys zs, xs = ys ++ zs → Axi.SharedR.waited (Axi.SharedR.noT c) ys ≤ t)
    (ys : List Axi.RBusIn) (x : Axi.RBusIn) (zs : List Axi.RBusIn) (hsplit : xs = ys ++ x :: zs) :
    let o := Axi.SharedR.out c ((Axi.SharedR.machine c).run ys) x
    let o0 := Axi.SharedR.out (Axi.SharedR.noT c) ((Axi.SharedR.machine (Axi.SharedR.noT c)).run ys) x
    (∀ i, o.toM i = o0.toM i) ∧ (∀ j, o.toS j = o0.toS j) ∧ o.error = false := by
  intro o o0
  obtain ⟨hs, hw⟩ := (Axi.SharedR.timed c ht).healthy_sim (Axi.SharedR.reference c ht) ys
    fun a b hab => hh a (b ++ x :: zs) (by rw [hsplit, hab, List.append_assoc])
  obtain ⟨h1, h2, _⟩ := Axi.SharedR.sim_wait c ht _ _ x hs
  exact ⟨h1, h2, (Axi.SharedR.timed c ht).no_error_of_healthy (Axi.SharedR.reference c ht) ys x hs hw
    (hh (ys ++ [x]) zs (by rw [hsplit, List.append_assoc]; rfl))⟩

/-- Non-vacuity: the in-time answer of the Wishbone example above satisfies the hypothesis (`t = 3`, longest wait 2). -/
example :
    let ackIn : Wb.BusIn := { reqIn with ss := fun j => if j = 1 then { ack := true, datR := 0x5a } else {} }
    (List.range 5).all (fun m => Wb.Shared.waited (Wb.Shared.noT cfgWb) ([reqIn, reqIn, ackIn, reqIn].take m) < 3) = true := by
  decide

end transparency

section liveness

/-- **AXI / AXI-Lite shared, write: no stall outlives the timeout — for EVERY history** (all `n x k`, decoders, master
    schedules, slave behaviours: silent, late, absent, answering after expiry …).  The owner's pending AW/W beat is
    refused for at most `t + 1` consecutive cycles; after `t + 1` the FSM is in RESPOND, where by
    `axl_shared_wr_exact` every offered beat is accepted in the cycle it is offered and `B`(SLVERR) is offered as
    soon as none is.  (The *response* phase is not covered: finding C11-axi-response-phase-unwatched.) -/
theorem axl_shared_wr_stall_bounded (c : Axi.Cfg) {t : Nat} (ht : c.t = some t) (xs : List Axi.WBusIn) :
    Axi.SharedW.waited c xs ≤ t + 1 ∧
    (Axi.SharedW.waited c xs = t + 1 → ((Axi.SharedW.machine c).run xs).tm.respond = true) :=
  (Axi.SharedW.timed c ht).stall_bounded xs

theorem axl_shared_rd_stall_bounded (c : Axi.Cfg) {t : Nat} (ht : c.t = some t) (xs : List Axi.RBusIn) :
    Axi.SharedR.waited c xs ≤ t + 1 ∧
    (Axi.SharedR.waited c xs = t + 1 → ((Axi.SharedR.machine c).run xs).tm.respond = true) :=
  (Axi.SharedR.timed c ht).stall_bounded xs

/-- The request vectors the Wishbone arbiter sees along a history. -/
def wbReqs (xs : List Wb.BusIn) : List ((Nat → Bool) × Bool) := xs.map fun x => (fun i => (x.ms i).cyc, true)

/-- The arbiter of the shared interconnect is Migen's round-robin on the masters' `cyc`, untouched by the timeout. -/
theorem wb_grant_is_roundrobin (c : Wb.Cfg) (xs : List Wb.BusIn) : ∀ (s : Wb.State),
    ((Wb.Shared.machine c).runFrom s xs).grant = RoundRobin.run .withdraw c.n s.grant (wbReqs xs) := by
  induction xs with
  | nil => intro s; rfl
  | cons x xs ih => intro s; simp only [Machine.runFrom, wbReqs, List.map_cons, RoundRobin.run]; rw [ih]; rfl

/-- **Wishbone shared: every master is served.**  Let master `i` keep `cyc` asserted during `xs` (from any reachable
    state).  (1) The number of times the bus is handed to somebody else while `i` waits, plus the round-robin
    distance still to go, never exceeds the initial distance `≤ n - 1`: `i` is overtaken at most `n - 1` times,
    whatever the other masters and all slaves do.  (2) Each owner's single request is terminated after at most `t`
    waiting cycles (`wb_bounded_termination`, every slave behaviour).  Hence a master is served after at most
    `n - 1` foreign accesses of at most `t + 1` cycles each, provided owners release `cyc` after their
    acknowledge (a master holding `cyc` forever keeps the bus by design: SP_WITHDRAW). -/
theorem wb_every_master_served (c : Wb.Cfg) (i : Nat) (hi : i < c.n) (s : Wb.State) (hg : s.grant < c.n)
    (xs : List Wb.BusIn) (hreq : ∀ x ∈ xs, (x.ms i).cyc = true) :
    RoundRobin.stalls c.n i s.grant (wbReqs xs) +
      RoundRobin.dist c.n ((Wb.Shared.machine c).runFrom s xs).grant i ≤ RoundRobin.dist c.n s.grant i ∧
    RoundRobin.dist c.n s.grant i ≤ c.n - 1 := by
  rw [wb_grant_is_roundrobin]
  have hr : ∀ rc ∈ wbReqs xs, rc.1 i = true := by
    intro rc hrc
    simp only [wbReqs, List.mem_map] at hrc
    obtain ⟨x, hx, rfl⟩ := hrc
    exact hreq x hx
  refine ⟨RoundRobin.rr_stalls_bounded hi (wbReqs xs) hg hr, ?_⟩
  have := RoundRobin.dist_lt c.n s.grant i (by omega)
  omega

end liveness

/-! ## Arbitration liveness on the AXI / AXI-Lite shared interconnects

  The grant of each direction is Migen's round-robin (SP_CE) on `valid`s; `ce` is asserted whenever nothing is
  outstanding and the owner offers and sees nothing.  A waiting master is overtaken at most `n - 1` times. -/

section liveness2
open Axi

/-- `(rr_write.request, rr_write.ce)` along a run of the write direction from `s`. -/
def axWReqs (c : Axi.Cfg) : DState → List WBusIn → List ((Nat → Bool) × Bool)
  | _, [] => []
  | s, x :: xs => (SharedW.rrReq c s x, SharedW.ce c s x) :: axWReqs c (SharedW.next c s x) xs

def axRReqs (c : Axi.Cfg) : DState → List RBusIn → List ((Nat → Bool) × Bool)
  | _, [] => []
  | s, x :: xs => (SharedR.rrReq c s x, SharedR.ce c s x) :: axRReqs c (SharedR.next c s x) xs

theorem axl_wr_grant_is_roundrobin (c : Axi.Cfg) (xs : List WBusIn) : ∀ (s : DState),
    ((SharedW.machine c).runFrom s xs).grant = RoundRobin.run .ce c.n s.grant (axWReqs c s xs) := by
  induction xs with
  | nil => intro s; rfl
  | cons x xs ih => intro s; simp only [Machine.runFrom, axWReqs, RoundRobin.run]; rw [ih]; rfl

theorem axl_rd_grant_is_roundrobin (c : Axi.Cfg) (xs : List RBusIn) : ∀ (s : DState),
    ((SharedR.machine c).runFrom s xs).grant = RoundRobin.run .ce c.n s.grant (axRReqs c s xs) := by
  induction xs with
  | nil => intro s; rfl
  | cons x xs ih => intro s; simp only [Machine.runFrom, axRReqs, RoundRobin.run]; rw [ih]; rfl

theorem axl_wr_every_master_served (c : Axi.Cfg) (i : Nat) (hi : i < c.n) (xs : List WBusIn) (s : DState)
    (hg : s.grant < c.n) (hreq : ∀ x ∈ xs, ((x.ms i).awv || (x.ms i).wv) = true)
    (hw : RoundRobin.waiting .ce c.n i s.grant (axWReqs c s xs)) :
    RoundRobin.ceStalls c.n i s.grant (axWReqs c s xs) +
      RoundRobin.dist c.n ((SharedW.machine c).runFrom s xs).grant i ≤ RoundRobin.dist c.n s.grant i ∧
    RoundRobin.dist c.n s.grant i ≤ c.n - 1 := by
  rw [axl_wr_grant_is_roundrobin]
  have hr : ∀ rc ∈ axWReqs c s xs, rc.1 i = true :=
    Machine.obs_forall (SharedW.machine c) (es := axWReqs c) (fun _ => rfl) (fun _ _ _ => rfl)
      (fun s x (hx : ((x.ms i).awv || (x.ms i).wv) = true) => by simp only [SharedW.rrReq, hx, Bool.true_or])
      xs s hreq
  refine ⟨RoundRobin.rr_ce_stalls_bounded hi _ hg hr hw, ?_⟩
  have := RoundRobin.dist_lt c.n s.grant i (by omega)
  omega

theorem axl_rd_every_master_served (c : Axi.Cfg) (i : Nat) (hi : i < c.n) (xs : List RBusIn) (s : DState)
    (hg : s.grant < c.n) (hreq : ∀ x ∈ xs, (x.ms i).arv = true)
    (hw : RoundRobin.waiting .ce c.n i s.grant (axRReqs c s xs)) :
    RoundRobin.ceStalls c.n i s.grant (axRReqs c s xs) +
      RoundRobin.dist c.n ((SharedR.machine c).runFrom s xs).grant i ≤ RoundRobin.dist c.n s.grant i ∧
    RoundRobin.dist c.n s.grant i ≤ c.n - 1 := by
  rw [axl_rd_grant_is_roundrobin]
  have hr : ∀ rc ∈ axRReqs c s xs, rc.1 i = true :=
    Machine.obs_forall (SharedR.machine c) (es := axRReqs c) (fun _ => rfl) (fun _ _ _ => rfl)
      (fun s x (hx : (x.ms i).arv = true) => by simp only [SharedR.rrReq, hx, Bool.true_or]) xs s hreq
  refine ⟨RoundRobin.rr_ce_stalls_bounded hi _ hg hr hw, ?_⟩
  have := RoundRobin.dist_lt c.n s.grant i (by omega)
  omega

/-- The hand-over condition: with nothing outstanding (`lock = 0`) and the owner offering nothing and seeing no
    response, `ce = 1` — so after a (forced or genuine) response the very next idle cycle passes the grant on. -/
theorem axl_wr_ce_when_idle (c : Axi.Cfg) (s : DState) (x : WBusIn) (hl : s.lock = 0)
    (hidle : (x.ms s.grant).awv = false ∧ (x.ms s.grant).wv = false) (hb : (SharedW.tRes c s x).bv = false) :
    SharedW.ce c s x = true := by
  simp [SharedW.ce, SharedW.bus, hidle.1, hidle.2, hb, ctrReady, hl]

/-- Non-vacuity: 2 masters, master 0 owns the write channels and keeps a write pending on a silent slave; master 1
    requests and waits (hypotheses of `axl_wr_every_master_served` for `i = 1`). -/
example :
    let c : Axi.Cfg := { cfg11 with n := 2 }
    let x : WBusIn := { ms := fun _ => { awv := true, wv := true }, ss := fun _ => {} }
    RoundRobin.waiting .ce c.n 1 (dInit c).grant (axWReqs c (dInit c) [x, x, x]) ∧
    RoundRobin.ceStalls c.n 1 (dInit c).grant (axWReqs c (dInit c) [x, x, x]) = 0 := by
  simp only [RoundRobin.waiting, axWReqs]
  decide

end liveness2

/-! ## Wishbone shared interconnect: closed liveness bound for every master

  For EVERY slave behaviour (silent, late, absent, answering in or after the expiry cycle — the slaves' inputs are
  unconstrained) and every number of masters/slaves: a master that keeps requesting owns the bus after at most
  `(n - 1) * (t + 2)` cycles, provided the masters follow the elementary discipline `Disciplined` (release `cyc`
  after the acknowledge; no `cyc` without `stb`).  Derived from `RoundRobin` (C06's arbiter lemmas), the timer
  register and the forced acknowledge. -/

section wbClosed
open Wb Wb.Shared

/-- Master discipline along a run from `s` (closed-loop: it refers to what the interconnect answered):
    master `i` keeps `cyc`; an owner that was acknowledged in the previous cycle (`rel`) drops `cyc` now; an owner
    that holds `cyc` also drives `stb` (it uses the bus it holds). -/
def Disciplined (c : Wb.Cfg) (i : Nat) : Wb.State → Bool → List Wb.BusIn → Prop
  | _, _, [] => True
  | s, rel, x :: xs =>
    (x.ms i).cyc = true ∧ (rel = true → (x.ms s.grant).cyc = false) ∧
    ((x.ms s.grant).cyc = true → (x.ms s.grant).stb = true) ∧
    Disciplined c i (Shared.next c s x) ((x.ms s.grant).cyc && ((Shared.out c s x).toM s.grant).ack) xs

/-- Cycles master `i` still has to wait at most: `t + 2` per master ahead of it in the round-robin order (at most `t`
    waiting cycles, the cycle of the acknowledge, the cycle in which the owner has released `cyc` and the grant moves),
    minus the progress of the current owner's access: `t + 1` once it was acknowledged in the previous cycle (`rel`: only
    the release cycle is left), else the `t - count` cycles it has waited so far. -/
def budget (c : Wb.Cfg) (t i : Nat) (s : Wb.State) (rel : Bool) : Nat :=
  RoundRobin.dist c.n s.grant i * (t + 2) - (if rel then t + 1 else t - s.count)

theorem wb_closed_liveness (c : Wb.Cfg) {t : Nat} (ht : c.t = some t) (i : Nat) (hi : i < c.n)
    (xs : List Wb.BusIn) : ∀ (s : Wb.State) (rel : Bool), s.grant < c.n → s.count ≤ t →
    Disciplined c i s rel xs → budget c t i s rel ≤ xs.length →
    ∃ k, k ≤ budget c t i s rel ∧ ((Shared.machine c).runFrom s (xs.take k)).grant = i := by
  induction xs with
  | nil =>
    intro s rel hg _ _ hb
    by_cases hgi : s.grant = i
    · exact ⟨0, Nat.zero_le _, hgi⟩
    · -- a master that is not the owner has a positive budget
      have hd : 1 ≤ RoundRobin.dist c.n s.grant i :=
        Nat.pos_of_ne_zero fun h => hgi (RoundRobin.dist_eq_zero hg hi h)
      have := Nat.mul_le_mul_right (t + 2) hd
      simp only [budget, List.length_nil] at hb
      cases rel <;> simp at hb <;> omega
  | cons x xs ih =>
    intro s rel hg hc hdis hb
    by_cases hgi : s.grant = i
    · exact ⟨0, Nat.zero_le _, hgi⟩
    obtain ⟨hreq, hrel, hstb, hrest⟩ := hdis
    obtain ⟨hg', hc', hlex⟩ := waiting_master_step c ht hi s x rel hg hgi hc hreq hrel hstb
    -- `i` is not the owner, so at least one owner is ahead, and no credit reaches a full turn of `t + 2` cycles
    have hdec : budget c t i (Shared.next c s x) _ + 1 ≤ budget c t i s rel :=
      lex_decrease (Nat.pos_of_ne_zero fun h => hgi (RoundRobin.dist_eq_zero hg hi h)) (by split <;> omega) hlex
    obtain ⟨k, hk, hrun⟩ := ih _ _ hg' hc' hrest (by simp only [List.length_cons] at hb; omega)
    exact ⟨k + 1, by omega, hrun⟩

theorem wb_closed_liveness_budget_le (c : Wb.Cfg) (t i : Nat) (s : Wb.State) (rel : Bool) (hn : 0 < c.n) :
    budget c t i s rel ≤ (c.n - 1) * (t + 2) := by
  have hd := RoundRobin.dist_lt c.n s.grant i hn
  have : RoundRobin.dist c.n s.grant i * (t + 2) ≤ (c.n - 1) * (t + 2) := Nat.mul_le_mul_right _ (by omega)
  simp only [budget]; omega

/-- Non-vacuity (`cfgWb`: 2 masters, `t = 3`): master 0 owns the bus with a request to the silent slave 1, master 1
    requests too.  Master 0 is terminated in cycle 3, releases `cyc` in cycle 4, master 1 owns the bus from cycle 5
    on — exactly the budget `1 * (3 + 2)`. -/
example :
    let both : Wb.BusIn := { ms := fun m => if m = 0 then { cyc := true, stb := true, adr := 2 }
                                            else { cyc := true, stb := true, adr := 0 }, ss := fun _ => {} }
    let only1 : Wb.BusIn := { ms := fun m => if m = 0 then {} else { cyc := true, stb := true, adr := 0 },
                              ss := fun _ => {} }
    Disciplined cfgWb 1 (Shared.init cfgWb) false [both, both, both, both, only1, only1] ∧
    budget cfgWb 3 1 (Shared.init cfgWb) false = 5 ∧
    ((Shared.machine cfgWb).run [both, both, both, both]).grant = 0 ∧
    ((Shared.machine cfgWb).run [both, both, both, both, only1]).grant = 1 := by
  simp only [Disciplined]
  decide

end wbClosed

section recoverAny
open Axi

/-- `_AXI(Lite)RequestCounter`: a response while the counter is empty leaves it empty (`response & ~empty`), a
    request while it is full leaves it full: the 8-bit register never wraps, in either direction. -/
theorem axl_request_counter_never_wraps (cnt : Nat) (req resp : Bool) (h : cnt ≤ 255) :
    ctrNext cnt req resp ≤ 255 ∧ ctrNext 0 false resp = 0 ∧ ctrNext 255 req false = 255 ∧
    (cnt ≠ 0 → ctrNext cnt false true = cnt - 1) := by
  refine ⟨?_, by cases resp <;> simp [ctrNext], by cases req <;> simp [ctrNext], fun h0 => by simp [ctrNext, h0]⟩
  unfold ctrNext
  cases req <;> cases resp <;> simp <;> (try split) <;> omega

/-- **axl_timeout_recovers, every beat pattern.**  State `s`: nothing outstanding, FSM in its reset state.  The owner
    offers an AW and/or a W beat in every cycle (possibly only the W: a master that presents W before AW) and all
    slaves stay silent.  `error` in cycle `t`; in cycle `t+1` exactly the offered beats are absorbed; in the first
    cycle without an offered beat `B`(SLVERR) is delivered — and afterwards the interconnect is exactly as before:
    same owner, **lock counter 0** (also when no AW was absorbed, i.e. a `B` was delivered with nothing accepted),
    FSM in reset state.  With `axl_wr_ce_when_idle` / `axl_wr_every_master_served` the channel is then handed to
    the next requesting master, and with `lock = 0` the decoder follows the current address again. -/
theorem axl_wr_timeout_recovers_any_beats (c : Axi.Cfg) {t : Nat} (ht : c.t = some t) (s : DState)
    (hgn : s.grant < c.n) (hl : s.lock = 0) (htm : s.tm = fInit t) (ys : List WBusIn) (x0 x1 x2 : WBusIn)
    (hlen : ys.length = t)
    (hreq : ∀ y ∈ ys ++ [x0, x1], ((y.ms s.grant).awv || (y.ms s.grant).wv) = true)
    (hsil : ∀ y ∈ ys ++ [x0], SharedW.Silent y)
    (h2 : (x2.ms s.grant).awv = false ∧ (x2.ms s.grant).wv = false ∧ (x2.ms s.grant).br = true) :
    let m := SharedW.machine c
    let g := s.grant
    let s0 := m.runFrom s ys
    let s1 := m.next s0 x0
    let s2 := m.next s1 x1
    let s3 := m.next s2 x2
    (∀ o ∈ m.traceFrom s ys, o.error = false ∧ (o.toM g).awr = false ∧ (o.toM g).wr = false ∧ (o.toM g).bv = false) ∧
    (m.out s0 x0).error = true ∧
    (((m.out s1 x1).toM g).awr = (x1.ms g).awv ∧ ((m.out s1 x1).toM g).wr = (x1.ms g).wv ∧
      ((m.out s1 x1).toM g).bv = false ∧ s2.lock = (if (x1.ms g).awv then 1 else 0)) ∧
    (((m.out s2 x2).toM g).bv = true ∧ ((m.out s2 x2).toM g).bresp = RESP_SLVERR) ∧
    (s3.grant = g ∧ s3.lock = 0 ∧ s3.tm = fInit t) := by
  intro m g s0 s1 s2 s3
  obtain ⟨q, ⟨a4, _⟩, ⟨b1, b2, b3, _, l2⟩, ⟨d1, d2, _⟩, fin⟩ := SharedW.silent_timeout ht hgn hl htm hlen hreq hsil h2
  exact ⟨q, a4, ⟨b1, b2, b3, l2⟩, ⟨d1, d2⟩, fin⟩

/-- Non-vacuity (`cfg11`, `t = 3`): a lone W towards a silent slave is timed
    out and answered; the lock counter is 0 in every cycle (it would be 255 after cycle 5 without `& ~empty`), and
    the AW that arrives later is timed out and answered in the same way. -/
example :
    let w1 : WM := { wv := true, br := true }
    let idle : WM := { br := true }
    let aw1 : WM := { awv := true, br := true }
    let xs := [wIn w1 {}, wIn w1 {}, wIn w1 {}, wIn w1 {}, wIn w1 {}, wIn idle {}, wIn idle {},
               wIn aw1 {}, wIn aw1 {}, wIn aw1 {}, wIn aw1 {}, wIn aw1 {}, wIn idle {}, wIn idle {}]
    ((List.range 15).map fun m => ((SharedW.machine cfg11).run (xs.take m)).lock) =
      [0, 0, 0, 0, 0, 0, 0, 0, 0, 0, 0, 0, 1, 0, 0] ∧
    (bTrace cfg11 xs).map (·.1) =
      [false, false, false, false, false, true, false, false, false, false, false, false, true, false] := by
  decide

end recoverAny

/-! ## Wishbone `Crossbar`: `timeout_cycles` is ignored (known finding C11-crossbar-timeout-ignored) -/

section wbCrossbar
open Wb

/-- The crossbar model does not read `timeout_cycles`: any two configurations that differ only there are the
    same machine (the correspondence check confirms this against `wishbone.Crossbar(timeout_cycles=t)`). -/
theorem wb_crossbar_ignores_timeout (c : Wb.Cfg) (t1 t2 : Option Nat) :
    Crossbar.machine { c with t := t1 } = Crossbar.machine { c with t := t2 } := rfl

/-- Negative witness for the property on the crossbar: in *every* state and for *every* `timeout_cycles`, if no
    slave acknowledges then no master is acknowledged and no error is signalled — a request to a silent or
    unmapped slave therefore waits forever (for all run lengths). -/
theorem wb_crossbar_silent_slave_hangs (c : Wb.Cfg) (s : XState) (x : BusIn)
    (hsil : ∀ j, (x.ss j).ack = false) (i : Nat) :
    ((Crossbar.out c s x).toM i).ack = false ∧ (Crossbar.out c s x).error = false := by
  refine ⟨?_, rfl⟩
  show orAll c.k _ = false
  exact orAll_false (fun j => by simp [hsil])

/-- The same as a statement about whole runs: from reset, under any request pattern, as long as the slaves stay
    silent no cycle of the trace carries an `ack` for anybody. -/
theorem wb_crossbar_hangs_forever (c : Wb.Cfg) (xs : List BusIn)
    (hsil : ∀ x ∈ xs, ∀ j, (x.ss j).ack = false) :
    ∀ o ∈ (Crossbar.machine c).trace xs, ∀ i, (o.toM i).ack = false :=
  Machine.obs_forall (Crossbar.machine c) (es := (Crossbar.machine c).traceFrom) (fun _ => rfl) (fun _ _ _ => rfl)
    (fun s x hx i => (wb_crossbar_silent_slave_hangs c s x hx i).1) xs _ hsil

end wbCrossbar

/-! ## `AXILiteCrossbar` / `AXICrossbar`: `timeout_cycles` is ignored as well -/

section axCrossbar
open Axi

theorem axl_crossbar_ignores_timeout (c : Axi.Cfg) (t1 t2 : Option Nat) :
    XbarW.machine { c with t := t1 } = XbarW.machine { c with t := t2 } ∧
    XbarR.machine { c with t := t1 } = XbarR.machine { c with t := t2 } := ⟨rfl, rfl⟩

/-- Negative witness (any state, any configuration, any `timeout_cycles`): while no slave raises a ready or a
    valid, no master of an AXI(-Lite) crossbar sees one, and there is no error signal — a request to a silent or
    unmapped slave is never terminated. -/
theorem axl_crossbar_silent_slave_hangs (c : Axi.Cfg) (s : XState) :
    (∀ (x : WBusIn), (∀ j, (x.ss j).awr = false ∧ (x.ss j).wr = false ∧ (x.ss j).bv = false) → ∀ i,
      ((XbarW.out c s x).toM i).awr = false ∧ ((XbarW.out c s x).toM i).wr = false ∧
      ((XbarW.out c s x).toM i).bv = false ∧ (XbarW.out c s x).error = false) ∧
    (∀ (x : RBusIn), (∀ j, (x.ss j).arr = false ∧ (x.ss j).rv = false) → ∀ i,
      ((XbarR.out c s x).toM i).arr = false ∧ ((XbarR.out c s x).toM i).rv = false ∧
      (XbarR.out c s x).error = false) := by
  constructor
  · intro x h i
    exact ⟨Wb.orAll_false (fun j => by simp [XbarW.acc, (h j).1]),
           Wb.orAll_false (fun j => by simp [XbarW.acc, (h j).2.1]),
           Wb.orAll_false (fun j => by simp [XbarW.acc, (h j).2.2]), rfl⟩
  · intro x h i
    exact ⟨Wb.orAll_false (fun j => by simp [XbarR.acc, (h j).1]),
           Wb.orAll_false (fun j => by simp [XbarR.acc, (h j).2]), rfl⟩

/-- As a statement about whole runs from reset (reads; writes are analogous): silent slaves, any requests, any
    length — nobody ever sees `ar.ready` or `r.valid`. -/
theorem axl_crossbar_hangs_forever (c : Axi.Cfg) (xs : List RBusIn)
    (hsil : ∀ x ∈ xs, ∀ j, (x.ss j).arr = false ∧ (x.ss j).rv = false) :
    ∀ o ∈ (XbarR.machine c).trace xs, ∀ i, (o.toM i).arr = false ∧ (o.toM i).rv = false :=
  Machine.obs_forall (XbarR.machine c) (es := (XbarR.machine c).traceFrom) (fun _ => rfl) (fun _ _ _ => rfl)
    (fun s x hx i => have h := (axl_crossbar_silent_slave_hangs c s).2 x hx i; ⟨h.1, h.2.1⟩) xs _ hsil

end axCrossbar

end Litex.C11
