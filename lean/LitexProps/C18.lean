import LitexProofs.Ecc.Secded
import LitexProofs.Ecc.Multi
import LitexProofs.Ecc.Tables
/-
  C18 — ECC corrects every single-bit error and flags every double-bit error (`litex/soc/cores/ecc.py`).

  Model: `LitexModel/Ecc/{Geometry,Secded}.lean` (the Python loops and the encoder/decoder netlists, bit for bit).
  Every theorem below holds for EVERY data width `k ≥ 1` (the property asks for 1..128) and EVERY data word `d`
  of that width; error positions are bit indexes of the `n+1`-bit code word `encode k d`
  (index 0 = overall parity bit, index `p ≥ 1` = Hamming position `p`, as in `Cat(parity, codeword_d_p)`).
  `flipAt w j` inverts bit `j` of `w` (`w ^ (1 << j)`).

  INVENTORY of `ecc.py` and of its users (code — model in `LitexModel/Ecc` — theorems here).  The GF(2) matrices the
  elaborated `ECCEncoder` / `ECCDecoder` netlists implement are regenerated on every run from the zero word and the
  unit vectors (`LitexModel/Generated/EccTables.lean`) and compared with the model by the kernel:
  `generated_tables_match`.  How the helpers and the netlists are tied otherwise (helper calls for all `k` of a grid,
  all words for small `k`, single and double flips, linearity of the real netlists on random pairs) is recorded in
  `harness/props/c18.py` and DESIGN.md §7.C18.

  compute_m_n                         computeMLoop/computeM/N/MN       m_minimal, m_unique, code_length, position_fits_syndrome
  compute_syndrome_positions          synLoop/syndromePositions        check_positions
  compute_data_positions              dataPositions                    data_positions, data_positions_count
  compute_cover_positions             coverLoop/coverPositions         cover_eq_filter (every stride 2^b)
  SECDED.place_data                   placeData (scatter)              via syndrome_zero/no_error_clean
  SECDED.extract_data                 extractData                      disabled_passthrough, no_error_clean, loopback_clean
  SECDED.compute_syndrome             xorFold/computeSyndrome          syndrome_zero/_single/_check_bit, flags_any_errors
  SECDED.place_syndrome               placeSyndrome                    syndrome_zero
  SECDED.compute_parity               xorAll                           syndrome_zero (even), parity_bit_error
  ECCEncoder                          encode, encVal                   syndrome_zero, code_length, generated_tables_match (rows k<=16)
  ECCDecoder (enable=1)               decode true, decVal, synOf,      sec_correct(+_driver), ded_detect(+_driver),
                                      flipMaskOf                       flags_any_errors, triple_error, generated_tables_match
  ECCDecoder (enable=0)               decode false                     disabled_passthrough(+_value), disabled_roundtrip
  Case(syndrome,…) 2^m-1 entries      flipAt (no-op beyond n)          sec_correct, generated_tables_match
  USER: test/test_ecc.py DUT,         loopback (decoder.i =            loopback_single, loopback_double, loopback_clean
   litedram frontend (not in repo)     encoder.o ^ flip)
  urv core `g_with_ecc = 0`           not ecc.py (Verilog parameter)   -
-/
namespace Litex.C18
open Litex.Ecc

/-- `compute_m_n(k)` returns the least `m ≥ 1` with `2^m ≥ m + k + 1` (so the `while` loop's fuel in the model is
    never exhausted and the number of check bits is minimal). -/
theorem m_minimal (k : Nat) :
    1 ≤ computeM k ∧ computeM k + k + 1 ≤ 2 ^ computeM k ∧
      ∀ m', 1 ≤ m' → m' < computeM k → 2 ^ m' < m' + k + 1 :=
  computeM_spec k

/-- Hence every code word position `1..n` has an `m`-bit binary index (it can be named by the syndrome). -/
theorem position_fits_syndrome (k p : Nat) (hp : p ≤ computeN k) : p < 2 ^ computeM k :=
  Nat.lt_of_le_of_lt hp (computeN_lt k)

/-- The check bits sit at the powers of two `1, 2, 4, …, 2^(m-1)`: exactly `m` of them fit into `1..n`. -/
theorem check_positions (k : Nat) (hk : 1 ≤ k) :
    syndromePositions (computeN k) = (List.range (computeM k)).map (2 ^ ·) := by
  rw [syndromePositions_closed, numCheck_computeN k hk]

/-- `compute_cover_positions(n, 2^b)` is, in increasing order, the set of positions `1..n` whose index has bit
    `b` set — for every length `n` and every check bit `b` (stride arithmetic of the loop is right). -/
theorem cover_eq_filter (n b : Nat) :
    coverPositions n (2 ^ b) = (List.range' 1 n).filter (·.testBit b) :=
  Litex.Ecc.cover_eq_filter n b

/-- The data positions are the non-powers-of-two in `1..n`, in increasing order. -/
theorem data_positions (n : Nat) :
    (∀ q, q ∈ dataPositions n ↔ 1 ≤ q ∧ q ≤ n ∧ ∀ j, q ≠ 2 ^ j) ∧ (dataPositions n).Pairwise (· < ·) :=
  ⟨fun _ => mem_dataPositions, dataPositions_sorted n⟩

/-- There are exactly `k` data positions: every data bit gets a place, no code word bit is left undriven. -/
theorem data_positions_count (k : Nat) (hk : 1 ≤ k) : (dataPositions (computeN k)).length = k :=
  dataPositions_length_computeN k hk

/-- `m` is THE least number of check bits: any `m' ≥ 1` that satisfies the Hamming bound `2^m' ≥ m' + k + 1` and is
    minimal with it equals `compute_m_n(k)[0]`. -/
theorem m_unique (k m' : Nat) (h1 : 1 ≤ m') (hb : m' + k + 1 ≤ 2 ^ m')
    (hmin : ∀ m'', 1 ≤ m'' → m'' < m' → 2 ^ m'' < m'' + k + 1) : m' = computeM k := by
  obtain ⟨c1, cb, cmin⟩ := computeM_spec k
  rcases Nat.lt_trichotomy m' (computeM k) with h | h | h
  · have := cmin m' h1 h; omega
  · exact h
  · have := hmin (computeM k) c1 h; omega

/-- The transmitted word has `m + k + 1` bits; bit 0 is the overall parity of the other `n = m + k` bits, which are
    the Hamming code word (check bits at the powers of two, data elsewhere). -/
theorem code_length (k : Nat) (d : Word) :
    (encode k d).length = computeM k + k + 1 ∧ computeMN k = (computeM k, computeM k + k) ∧
    (encode k d).head? = some (xorAll ((encode k d).drop 1)) := by
  refine ⟨by rw [encode_length]; rfl, rfl, ?_⟩
  rw [encode_eq]; rfl

/-- The encoder output is `n+1` bits wide; its Hamming part has syndrome 0 and the whole word has even parity. -/
theorem syndrome_zero (k : Nat) (hk : 1 ≤ k) (d : Word) :
    (encode k d).length = computeN k + 1 ∧
    computeSyndrome ((encode k d).drop 1) = List.replicate (computeM k) false ∧
    xorAll (encode k d) = false := by
  refine ⟨encode_length k d, ?_, ?_⟩
  · rw [encode_eq, List.drop_one, List.tail_cons, computeSyndrome_codeword, numCheck_computeN k hk]
    rw [List.map_const', List.length_range]
  · rw [encode_eq, xorAll_cons]
    simp

/-- GF(2) linearity: inverting code word bit `p ≥ 1` makes the decoder's syndrome read exactly `p`. -/
theorem syndrome_single (k : Nat) (hk : 1 ≤ k) (d : Word) (p : Nat) (hp1 : 1 ≤ p) (hp : p ≤ computeN k) :
    bitsToNat (computeSyndrome ((flipAt (encode k d) p).drop 1)) = p := by
  simpa [xorPos] using (decode_flips_flags k hk d [p] (by simpa using hp)).1

/-- No error: the data comes back, no flag. -/
theorem no_error_clean (k : Nat) (hk : 1 ≤ k) (d : Word) (hd : d.length = k) :
    decode true (encode k d) = { o := d, sec := false, ded := false } :=
  decode_encode k hk d hd

/-- SINGLE ERROR CORRECTION.  Any one inverted bit `j` of the `n+1`-bit code word — the overall parity bit `j = 0`
    included — is corrected: the decoder returns the original data, `ded = 0`, and `sec = 1` exactly when the
    inverted bit is a data or check bit (`j ≠ 0`). -/
theorem sec_correct (k : Nat) (hk : 1 ≤ k) (d : Word) (hd : d.length = k) (j : Nat) (hj : j ≤ computeN k) :
    decode true (flipAt (encode k d) j) = { o := d, sec := decide (j ≠ 0), ded := false } :=
  decode_flipAt_encode k hk d hd j hj

theorem at_most_one_error (k : Nat) (hk : 1 ≤ k) (d : Word) (hd : d.length = k) (errs : List Nat)
    (hlen : errs.length ≤ 1) (hpos : ∀ j, j ∈ errs → j ≤ computeN k) :
    let r := decode true (errs.foldl flipAt (encode k d))
    r.o = d ∧ r.ded = false ∧ (r.sec = true ↔ ∃ j, j ∈ errs ∧ j ≠ 0) := by
  match errs, hlen, hpos with
  | [], _, _ => simp [no_error_clean k hk d hd]
  | [j], _, hpos => simp [sec_correct k hk d hd j (hpos j (by simp))]

/-- DOUBLE ERROR DETECTION.  Any two distinct inverted bits of the code word (either of them may be the overall
    parity bit) are flagged as uncorrectable: `ded = 1` and `sec = 0` — never silent, never "corrected". -/
theorem ded_detect (k : Nat) (hk : 1 ≤ k) (d : Word) (j1 j2 : Nat) (hne : j1 ≠ j2)
    (h1 : j1 ≤ computeN k) (h2 : j2 ≤ computeN k) :
    (decode true (flipAt (flipAt (encode k d) j1) j2)).ded = true ∧
    (decode true (flipAt (flipAt (encode k d) j1) j2)).sec = false := by
  -- two flips: syndrome `j1 xor j2 ≠ 0`, and their number is even
  have h := decode_flips_flags k hk d [j1, j2] (by
    intro j hj
    simp only [List.mem_cons, List.not_mem_nil, or_false] at hj
    rcases hj with rfl | rfl <;> assumption)
  have hx : xorPos [j1, j2] ≠ 0 := by
    simp only [xorPos, List.foldl_cons, List.foldl_nil, Nat.zero_xor]
    exact xor_ne_zero hne
  simp only [List.foldl_cons, List.foldl_nil, List.length_cons, List.length_nil] at h
  exact ⟨by rw [h.2.2.1]; simp [hx], by rw [h.2.1]; simp⟩

/-- CHECKING DISABLED.  With `enable = 0` the decoder is a pure wire-through for ANY input word `w`: output bit `i`
    is the received bit at the `i`-th data position, nothing is inverted, no flag is raised. -/
theorem disabled_passthrough (w : Word) :
    decode false w = { o := (dataPositions (w.length - 1)).map fun p => w.getD p false, sec := false, ded := false } :=
  decode_false w

/-- In particular the encoder's data comes back unchanged. -/
theorem disabled_roundtrip (k : Nat) (hk : 1 ≤ k) (d : Word) (hd : d.length = k) :
    decode false (encode k d) = { o := d, sec := false, ded := false } := by
  rw [decode_false, encode_length, Nat.add_sub_cancel]
  congr 1
  conv => rhs; rw [← extractData_codeword k hk d hd, extractData, codeword_length]
  exact List.map_congr_left fun p hp => (bitAt_drop_one (encode k d) p (dataPositions_bounds _ p hp).1).symm

/-- The overall parity bit alone inverted: the syndrome stays 0, so NO flag is raised (`sec = 0`, `ded = 0`) and the
    data is unchanged — "corrected" is signalled exactly for data and check bits. -/
theorem parity_bit_error (k : Nat) (hk : 1 ≤ k) (d : Word) (hd : d.length = k) :
    decode true (flipAt (encode k d) 0) = { o := d, sec := false, ded := false } ∧
    bitsToNat (computeSyndrome ((flipAt (encode k d) 0).drop 1)) = 0 := by
  refine ⟨by simpa using sec_correct k hk d hd 0 (Nat.zero_le _), ?_⟩
  rw [encode_eq, flipAt_cons_zero, List.drop_one, List.tail_cons, syndrome_value_zero]

/-- A CHECK bit (position `2^b`) inverted: the syndrome is one-hot (`2^b`, only syndrome bit `b` is set), the decoder
    inverts the check bit back, the data is untouched and `sec = 1`. -/
theorem syndrome_check_bit (k : Nat) (hk : 1 ≤ k) (d : Word) (hd : d.length = k) (b : Nat) (hb : 2 ^ b ≤ computeN k) :
    bitsToNat (computeSyndrome ((flipAt (encode k d) (2 ^ b)).drop 1)) = 2 ^ b ∧
    decode true (flipAt (encode k d) (2 ^ b)) = { o := d, sec := true, ded := false } := by
  refine ⟨syndrome_single k hk d (2 ^ b) (Nat.two_pow_pos b) hb, ?_⟩
  have := sec_correct k hk d hd (2 ^ b) hb
  have hne : 2 ^ b ≠ 0 := Nat.ne_of_gt (Nat.two_pow_pos b)
  simpa [hne] using this

/-! ## ANY error pattern: what the decoder does beyond its guarantee -/

/-- For ANY list of inverted positions (repetitions cancel) the syndrome is the XOR of the positions (the parity bit,
    position 0, contributes 0) and the flags are: `sec` iff that XOR is non-zero and the number of flips is odd, `ded`
    iff it is non-zero and the number is even; the output is the received data with the position named by the
    syndrome inverted. -/
theorem flags_any_errors (k : Nat) (hk : 1 ≤ k) (d : Word) (errs : List Nat) (h : ∀ j, j ∈ errs → j ≤ computeN k) :
    let w := errs.foldl flipAt (encode k d)
    bitsToNat (computeSyndrome (w.drop 1)) = xorPos errs ∧
    (decode true w).sec = (xorPos errs != 0 && decide (errs.length % 2 = 1)) ∧
    (decode true w).ded = (xorPos errs != 0 && decide (errs.length % 2 = 0)) ∧
    (decode true w).o = extractData (if xorPos errs = 0 then w.drop 1 else flipAt (w.drop 1) (xorPos errs - 1)) :=
  decode_flips_flags k hk d errs h

/-- TRIPLE errors are outside the guarantee.  The decoder NEVER reports them as uncorrectable: `ded = 0` always;
    it claims a correction (`sec = 1`, inverting a FOURTH position `j1 ^ j2 ^ j3` if that is ≤ n) unless the three
    positions XOR to 0 (e.g. 1, 2, 3), in which case the corrupted data passes silently. -/
theorem triple_error (k : Nat) (hk : 1 ≤ k) (d : Word) (j1 j2 j3 : Nat)
    (h1 : j1 ≤ computeN k) (h2 : j2 ≤ computeN k) (h3 : j3 ≤ computeN k) :
    let r := decode true (flipAt (flipAt (flipAt (encode k d) j1) j2) j3)
    r.ded = false ∧ r.sec = (j1 ^^^ j2 ^^^ j3 != 0) := by
  have h := flags_any_errors k hk d [j1, j2, j3] (by
    intro j hj
    simp only [List.mem_cons, List.not_mem_nil, or_false] at hj
    rcases hj with rfl | rfl | rfl <;> assumption)
  simp only [List.foldl_cons, List.foldl_nil, List.length_cons, List.length_nil] at h
  have hx : xorPos [j1, j2, j3] = j1 ^^^ j2 ^^^ j3 := by simp [xorPos]
  rw [hx] at h
  exact ⟨by rw [h.2.2.1]; simp, by rw [h.2.1]; simp⟩

/-! ## The same statements on signal VALUES (what the ports carry and what the correspondence compares):
    data `x < 2^k`, code word `cw = value of ECCEncoder.o`, injected error `cw ^ (1 << j)`. -/

/-- `flipAt` is XOR with `1 << j` on the value of the signal. -/
theorem flip_is_xor_one_shl (w : Word) (j : Nat) (hj : j < w.length) :
    bitsToNat (flipAt w j) = bitsToNat w ^^^ 2 ^ j :=
  bitsToNat_flipAt w j hj

theorem sec_correct_value (k : Nat) (hk : 1 ≤ k) (x : Nat) (hx : x < 2 ^ k) (j : Nat) (hj : j ≤ computeN k) :
    bitsToNat (decode true (flipAt (encode k (natToBits k x)) j)).o = x ∧
    (decode true (flipAt (encode k (natToBits k x)) j)).sec = decide (j ≠ 0) ∧
    (decode true (flipAt (encode k (natToBits k x)) j)).ded = false := by
  rw [sec_correct k hk _ (natToBits_length k x) j hj]
  exact ⟨bitsToNat_natToBits k x hx, rfl, rfl⟩

theorem roundtrip_value (k : Nat) (hk : 1 ≤ k) (x : Nat) (hx : x < 2 ^ k) (en : Bool) :
    bitsToNat (decode en (encode k (natToBits k x))).o = x ∧
    (decode en (encode k (natToBits k x))).sec = false ∧ (decode en (encode k (natToBits k x))).ded = false := by
  cases en with
  | true =>
    rw [no_error_clean k hk _ (natToBits_length k x)]
    exact ⟨bitsToNat_natToBits k x hx, rfl, rfl⟩
  | false =>
    rw [disabled_roundtrip k hk _ (natToBits_length k x)]
    exact ⟨bitsToNat_natToBits k x hx, rfl, rfl⟩

/-! ## Driver level: exactly the functions `call enc` / `call dec` / `call loop` serve and the harness compares
    (`encVal k x` = value of `ECCEncoder(k).o`, `decVal k en w` = `ECCDecoder(k)` on the input value `w`) -/

/-- Single error on values: `decoder(encoder(x) ^ (1 << j))` for every bit `j` of the `n+1`-bit word. -/
theorem sec_correct_driver (k : Nat) (hk : 1 ≤ k) (x j : Nat) (hj : j ≤ computeN k) :
    decVal k true (encVal k x ^^^ 2 ^ j) = { o := natToBits k x, sec := decide (j ≠ 0), ded := false } := by
  unfold decVal
  rw [decVal_flip1 k x j hj]
  exact sec_correct k hk _ (natToBits_length k x) j hj

/-- Double error on values: `decoder(encoder(x) ^ (1 << j1) ^ (1 << j2))`, `j1 ≠ j2`. -/
theorem ded_detect_driver (k : Nat) (hk : 1 ≤ k) (x j1 j2 : Nat) (hne : j1 ≠ j2)
    (h1 : j1 ≤ computeN k) (h2 : j2 ≤ computeN k) :
    (decVal k true (encVal k x ^^^ 2 ^ j1 ^^^ 2 ^ j2)).ded = true ∧
    (decVal k true (encVal k x ^^^ 2 ^ j1 ^^^ 2 ^ j2)).sec = false := by
  unfold decVal
  rw [decVal_flip2 k x j1 j2 h1 h2]
  exact ded_detect k hk _ j1 j2 hne h1 h2

/-- Checking disabled, ANY input value `w`: output bit `i` is input bit `dataPositions[i]`, no flags. -/
theorem disabled_passthrough_value (k w : Nat) :
    decVal k false w = { o := (dataPositions (computeN k)).map fun p => w.testBit p, sec := false, ded := false } := by
  unfold decVal
  rw [disabled_passthrough, natToBits_length, Nat.add_sub_cancel]
  simp only [DecOut.mk.injEq, and_true]
  apply List.map_congr_left
  intro p hp
  have := (dataPositions_bounds _ p hp).2
  unfold natToBits
  rw [getD_range_map, if_pos (by omega)]

/-- The user of the two cores (test bench DUT / memory controller): `decoder.i = encoder.o ^ flip`. -/
theorem loopback_clean (k : Nat) (hk : 1 ≤ k) (x : Nat) (en : Bool) :
    (loopback k en x 0).2 = { o := natToBits k x, sec := false, ded := false } := by
  unfold loopback decVal
  rw [Nat.xor_zero, decVal_clean]
  cases en with
  | true => exact no_error_clean k hk _ (natToBits_length k x)
  | false => exact disabled_roundtrip k hk _ (natToBits_length k x)

theorem loopback_single (k : Nat) (hk : 1 ≤ k) (x j : Nat) (hj : j ≤ computeN k) :
    (loopback k true x (2 ^ j)).2 = { o := natToBits k x, sec := decide (j ≠ 0), ded := false } :=
  sec_correct_driver k hk x j hj

theorem loopback_double (k : Nat) (hk : 1 ≤ k) (x j1 j2 : Nat) (hne : j1 ≠ j2)
    (h1 : j1 ≤ computeN k) (h2 : j2 ≤ computeN k) :
    (loopback k true x (2 ^ j1 ^^^ 2 ^ j2)).2.ded = true ∧ (loopback k true x (2 ^ j1 ^^^ 2 ^ j2)).2.sec = false := by
  unfold loopback
  simp only [← Nat.xor_assoc]
  exact ded_detect_driver k hk x j1 j2 hne h1 h2

/-! ## The model against the tables REGENERATED from the real netlists on this run -/

/-- For every width in the generated table (1..16, 32, 64, 128) the model's single-error table, parity-check
    (syndrome) matrix, correction table and extraction matrix equal what the elaborated `ECCDecoder` computes; for the
    widths 1..16 the model's generator matrix equals what the elaborated `ECCEncoder` computes (kernel-checked). -/
theorem generated_tables_match :
    (∀ k ∈ Tables.widths, mDecSingle k = Tables.decSingle k ∧ mSynCols k = Tables.synCols k ∧
      mFlipCols k = Tables.flipCols k ∧ mDecPass k = Tables.decPass k) ∧
    (∀ k ∈ smallWidths, mEncRows k = Tables.encRows k ∧ encVal k 0 = Tables.encZero k) :=
  ⟨decoder_tables_match, small_encRows⟩

/-- The regenerated tables themselves state the property on the unit vectors: every single inverted bit of the zero
    code word gives syndrome = its position, the decoder inverts that very bit, `o = 0`, `sec = (j ≠ 0)`, `ded = 0`. -/
theorem generated_tables_property : ∀ k ∈ Tables.widths,
    Tables.synCols k = List.range (Tables.codeLen k) ∧
    Tables.decSingle k = (List.range (Tables.codeLen k)).map fun j => if j = 0 then 0 else 2 := by
  intro k hk
  rw [tables_widths] at hk
  obtain ⟨h0, h1, h2, _⟩ := closed_tables_check k hk
  rw [h0]; exact ⟨h2, h1⟩


/-! ## Non-vacuity: concrete instances (k = 4: m = 3, n = 7, 8-bit code word; k = 11: m = 4, n = 15) -/

example : computeMN 4 = (3, 7) ∧ computeMN 11 = (4, 15) ∧ computeMN 128 = (8, 136) := by decide

example : encode 4 [true, false, true, true] = [false, false, true, true, false, false, true, true] := by decide

-- a data bit (index 3), a check bit (index 4) and the parity bit (index 0) inverted: all corrected
example : decode true (flipAt (encode 4 [true, false, true, true]) 3) = ⟨[true, false, true, true], true, false⟩ := by
  decide
example : decode true (flipAt (encode 4 [true, false, true, true]) 4) = ⟨[true, false, true, true], true, false⟩ := by
  decide
example : decode true (flipAt (encode 4 [true, false, true, true]) 0) = ⟨[true, false, true, true], false, false⟩ := by
  decide
-- two inverted bits (one of them the parity bit / both in the Hamming part): flagged
example : (decode true (flipAt (flipAt (encode 4 [true, false, true, true]) 0) 5)).ded = true ∧
    (decode true (flipAt (flipAt (encode 4 [true, false, true, true]) 2) 7)).ded = true := by decide
-- the flags are not constant: THREE inverted bits are outside the property and are indeed mis-"corrected"
example : (decode true (flipAt (flipAt (flipAt (encode 4 [true, false, true, true]) 1) 2) 7)).sec = true ∧
    (decode true (flipAt (flipAt (flipAt (encode 4 [true, false, true, true]) 1) 2) 7)).o ≠ [true, false, true, true] := by
  decide
-- enable = 0: an inverted data bit passes through uncorrected and unflagged
example : decode false (flipAt (encode 4 [true, false, true, true]) 3) = ⟨[false, false, true, true], false, false⟩ := by
  decide

-- three errors 1,2,3 XOR to 0: silent; 1,2,7: "corrected" into a wrong word (see `triple_error`)
example : (decode true (flipAt (flipAt (flipAt (encode 4 [true, false, true, true]) 1) 2) 3)) =
    ⟨[false, false, true, true], false, false⟩ := by decide
-- driver level, k = 4: data 13, code word 204; bit 3 / bits 0 and 3 inverted
example : encVal 4 13 = 204 ∧ decVal 4 true (204 ^^^ 8) = ⟨natToBits 4 13, true, false⟩ ∧
    (loopback 4 true 13 9).2.ded = true := by decide
-- a check bit (position 4) inverted: one-hot syndrome 4
example : synVal 4 true (204 ^^^ 16) = 4 ∧ flipMaskVal 4 true (204 ^^^ 16) = 16 := by decide
-- the regenerated tables are not empty
example : Tables.encRows 4 = [15, 51, 85, 150] ∧ (Tables.synCols 128).length = 137 := by decide +kernel

end Litex.C18
