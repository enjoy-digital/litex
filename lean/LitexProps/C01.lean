import LitexProofs.Fhdl.StaticSound
import LitexProofs.Fhdl.ModuleStep
import LitexProofs.Fhdl.LowerCorrect
import LitexProofs.Fhdl.MemoryEquiv
import LitexProofs.Fhdl.InstanceExact
import LitexProofs.Fhdl.SimBackendEquiv
import LitexProofs.Fhdl.MemoryNEquiv
import LitexProofs.Fhdl.ResetInsertCorrect
import LitexProofs.Fhdl.ArraySelCorrect
/-
  C01 — generated Verilog behaves exactly like the simulated FHDL design.

  Layer 1 (expressions and assignments of expressions).  Objects:
    `evalF ρ e`            the reference simulator (`Evaluator.eval`, unbounded Python integers)
    `printE e`             the printer of `litex/gen/fhdl/expression.py` (model checked node by node against the
                           real text on every run)
    `evalV ρ W sg v`       IEEE 1364-2005 §5.4/§5.5 evaluation of the printed text in a `W`-bit context
                           (TRUSTED formalisation; the sandbox has no Verilog simulator)
    `storeF/assignV`      bits stored into an `lw`-bit target by `Evaluator.assign` / by the Verilog assignment
  The property at full strength is FALSE on the code that exists: Migen evaluates over unbounded integers,
  Verilog in the context width (intermediate overflow, inherent to the two languages).  It is therefore proved
  under the decidable side condition `Fits` (`_partial`), the excluded region is exhibited by concrete
  counterexamples, and a static sufficient condition (`staticallyFits`, a value-range analysis) is proved sound.

  The model follows /repo with the fixes of the findings C01-signed-const-unsigned-literal,
  C01-comparison-reported-signed, C01-slice-reported-signed, C01-shift-reported-signed, C01-signed-1bit-noslice,
  C01-signed-full-slice-dropped / C01-full-slice-dropped-negative-operand, C01-mux-condition-unmasked and
  C01-output-reg-no-initialiser (the identifiers are those of /verif/known_findings.json); the witness of each is a
  positive example below ("fix of …").  What the side conditions ask and do not ask:
    * `fitsP`/`leafOk` admit slices of signed 1-bit signals (printed `{x}`);
    * `fitsV` asks nothing of the value of a `?:` condition; `condOk` asks that it be zero in the Migen width iff
      it is zero in the Verilog width (trivial when the widths agree);
    * `Fits`/`staticallyFits` hold on `(a < -1)`, `(a < b) + c`, `x[0:4] + t`.

  Back-end variants (every keyword option of `convert` is exercised by the correspondence through the same tie as the
  default): `regular_comb=False` has its own printer model (`printModuleSim`: one filtered item per comb target) and
  its own theorems (`filter_*`, `sim_comb_group_equiv_partial`, `module_step_sim_equiv_partial`); reset insertion
  (`insert_resets`) is modelled (`insertReset`, `reset_insertion_correct`); memories with several ports / clocks:
  `mem_ports_*`.
-/
namespace Litex.C01

/-
  Full statement (does NOT hold, see the negative witnesses below):
  theorem printE_correct (ρ : Env) (e : Expr) (W : Nat) (hρ : envOk ρ e = true)
      (hW : selfWidth (printE e).1 ≤ W) :
      evalV ρ W (selfSigned (printE e).1) (printE e).1 = tn W (evalF ρ e)
-/

/-- **Printer theorem.**  For every FHDL expression `e`, every valuation `ρ` and every context width
    `W ≥ selfWidth(text)`: if `Fits ρ e W` (at each self-determined boundary of the printed text — comparison
    operands, shift amounts and right-shift operands, concatenation/replication elements, conditions, promoted
    `$signed({1'd0, x})` operands — the unbounded value is representable in the width/type Verilog gives it)
    then the printed text evaluates, under the Verilog rules, to the simulator's value modulo `2^W`. -/
theorem printE_correct_partial (ρ : Env) (e : Expr) (W : Nat)
    (hW : selfWidth (printE e).1 ≤ W) (h : Fits ρ e W = true) :
    evalV ρ W (selfSigned (printE e).1) (printE e).1 = tn W (evalF ρ e) :=
  printE_correct ρ e W hW h

/-- **Assignment theorem.**  `target.eq(e)` stores the same bits in the simulator and in the generated
    Verilog (`target <= text;` / `assign target = text;`), for a target of any width `lw`. -/
theorem assign_correct_partial (ρ : Env) (e : Expr) (lw : Nat)
    (h : Fits ρ e (max lw (selfWidth (printE e).1)) = true) :
    assignV ρ lw (printE e).1 = storeF ρ lw e :=
  assign_correct ρ e lw h

/-- **Verilog sizing theorem** (about the Verilog semantics alone): context-determined evaluation equals the
    exact integer value modulo `2^W` whenever no self-determined boundary loses information. -/
theorem evalV_eq_ideal_partial (ρ : Nat → Int) (v : VExpr) (W : Nat) (sg : Bool)
    (hW : selfWidth v ≤ W) (h : fitsV ρ v W sg = true) : evalV ρ W sg v = tn W (ideal ρ v) :=
  evalV_ideal ρ v W sg hW h

/-- **Printed text denotes the simulator's value** over unbounded integers (printer side condition only). -/
theorem printE_ideal_partial (ρ : Env) (e : Expr) (h : fitsP ρ e = true) :
    ideal ρ (printE e).1 = evalF ρ e :=
  printE_ideal ρ e h

/-- The value-range analysis is sound: the unbounded value of a Verilog expression lies within `bounds`. -/
theorem bounds_contains (ρ : Nat → Int) (v : VExpr) : (bounds v).1 ≤ ideal ρ v ∧ ideal ρ v ≤ (bounds v).2 :=
  bounds_sound ρ v

/-- **Soundness of the static classifier**: a statically fitting expression fits under every valuation whose
    signal values are in their declared ranges. -/
theorem staticallyFits_sound (e : Expr) (W : Nat) (h : staticallyFits e W = true) :
    ∀ ρ : Env, envOk ρ e = true → Fits ρ e W = true :=
  staticallyFits_Fits e W h

/-- Statically fitting assignments are translated correctly for ALL inputs. -/
theorem assign_correct_static (e : Expr) (lw : Nat)
    (h : staticallyFits e (max lw (selfWidth (printE e).1)) = true) :
    ∀ ρ : Env, envOk ρ e = true → assignV ρ lw (printE e).1 = storeF ρ lw e :=
  fun ρ hρ => assign_correct_partial ρ e lw (staticallyFits_sound e _ h ρ hρ)

def envL (l : List Int) : Env := fun i => l.getD i 0

/-- **Printer sign-flag theorem** (full strength; fix of C01-shift-reported-signed).  For EVERY expression, the sign the
    printer itself attributes to the text it emits (the flag that decides where `$signed({1'd0, x})` promotions go) IS
    the self-determined type IEEE 1364 gives that text — constants, comparisons, shifts, selects, promotions, `?:`
    included. -/
theorem printE_sign_correct (e : Expr) : (printE e).2 = selfSigned (printE e).1 :=
  printE_sign e

/-- Non-trivial instance: `(a < b) + Mux(c, x[0:4], -3)` (signed a, b, x): the flag is "signed". -/
example :
    let e : Expr := .op2 .add (.op2 .lt (.sig 0 8 true) (.sig 1 8 true))
                      (.mux (.sig 2 1 false) (.slice (.sig 3 8 true) 0 4) (.const (-3) 3 true))
    (printE e).2 = true ∧ selfSigned (printE e).1 = true := by decide +kernel

/-- (fix of C01-shift-reported-signed) `u <<< s` with `u` unsigned and a signed amount `s` is reported unsigned,
    as Verilog types it (by `u` alone), so `(u <<< s) + t` promotes it and `t = −1` is sign-extended: u = 1, s = 1
    into 16 bits: both sides 1; the unpromoted text (last conjunct) gives 0x0101. -/
example :
    let sh : Expr := .op2 .shl (.sig 0 4 false) (.sig 1 3 true)
    let e : Expr := .op2 .add sh (.sig 2 8 true)
    let ρ := envL [1, 1, -1]
    (printE sh).2 = false ∧ selfSigned (printE sh).1 = false ∧
    envOk ρ e = true ∧ storeF ρ 16 e = 1 ∧ assignV ρ 16 (printE e).1 = 1 ∧ Fits ρ e 16 = true ∧
    assignV ρ 16 (.bin .add (.bin .shl (.id 0 4 false) (.id 1 3 true)) (.id 2 8 true)) = 257 := by decide +kernel

/-! ## Layer 2 — statements, `always` blocks

  `Rel wd ρ m p` (LitexProofs/Fhdl/AssignMerge.lean): applying the scheduled Verilog non-blocking updates `p`
  (oldest first, `applyPending`) to the bit patterns of the committed values `ρ` gives, for EVERY signal `i`
  of declared width `wd i`, the bit pattern of the simulator's post-commit view (`modifications` over
  `signal_values`, `readPost ρ m`).  It holds for the empty tables (`rel_nil`) and is what `commit` turns into
  equal next states.  `wfSs wd ss`: the width annotation of every assignment-target signal node is the declared
  width.  `distinctSs ss`: the keys of every `Case` are pairwise distinct (they are Python dict keys hashed by
  value).  `fitsSs ρ ss`: every right-hand side / `If` condition / `Case` test of `ss` satisfies its side
  condition under `ρ` (`fitsAssign`/`fitsCond`/`fitsCase`, LitexModel/Fhdl/FitsStmt.lean), and every target is a
  signal, an in-range slice of a signal or a flat `Cat` of those. -/

/-- The printer emits the items of a `Case` sorted by key (then `default`); the
    simulator walks the dictionary in insertion order.  With pairwise distinct keys both execute the same. -/
theorem case_sorted_equiv (ρ : Env) (ss : Stmts) (hd : distinctSs ss) (m : Mods) :
    execFs ρ (sortSs ss) m = execFs ρ ss m :=
  execFs_sortSs ρ ss hd m

/-- One assignment to a signal, to a slice of a signal, or to a flat `Cat` of those:
    the simulator merges into the pending value read back with `postcommit=True`, Verilog queues a part-select
    update; the correspondence `Rel` is preserved (so any sequence of partial assignments merges identically).
    `x`, `y` are the value assigned by the simulator and by Verilog; they need only agree on the target's bits. -/
theorem assign_slices_merge (wd : Nat → Nat) (ρ : Env) (m : Mods) (p : Pending) (h : Rel wd ρ m p)
    (l : Expr) (hl : targetOk l = true) (hw : wfTarget wd l) (x y : Int)
    (hxy : tn (bitsSign l).1 x = tn (bitsSign l).1 y) :
    Rel wd ρ (assignT ρ l x m) (nbaAssign (printE l).1 y p) :=
  rel_target h l hl hw x y hxy

/-- **Block theorem** (`_generate_node`): executing statements `ss` in the simulator and the printed text
    (`printStmts ss`: assignments as `<=`, `If`, `Case` sorted + `default`) under the Verilog rules preserves
    `Rel` — for every statement list, every valuation and every starting pair of tables. -/
theorem block_equiv_partial (wd : Nat → Nat) (ρ : Env) (ss : Stmts) (m : Mods) (p : Pending)
    (h : Rel wd ρ m p) (hd : distinctSs ss) (hf : fitsSs ρ ss = true) (hw : wfSs wd ss) :
    Rel wd ρ (execFs ρ ss m) (execVs ρ (printStmts ss) p) :=
  rel_printStmts wd ρ ss m p h hd hf hw

/-- A comb group that is not a single whole-signal assignment is printed as
    `always @(*) begin <target <= reset;…> <statements> end`; the simulator prepends the same defaults. -/
theorem comb_block_equiv_partial (sigs : Array SigDecl) (ρ : Env) (g : CombGroup) (m : Mods) (p : Pending)
    (body : VStmts) (hprint : printCombGroup sigs g = .comb body)
    (h : Rel (wdOf sigs) ρ m p) (hr : resetsOk sigs (sortByName sigs g.targets) = true)
    (hd : distinctSs g.stmts) (hf : fitsSs ρ g.stmts = true) (hw : wfSs (wdOf sigs) g.stmts) :
    Rel (wdOf sigs) ρ
      (execFs ρ g.stmts (execFs ρ (resetStmts sigs (sortByName sigs g.targets)) m))
      (execVs ρ body p) :=
  comb_block_equiv sigs ρ g m p body hprint h hr hd hf hw

/-- A group made of one whole-signal assignment is printed as `assign sig = rhs;`; the
    simulator's default-then-assign leaves the same view as the continuous assignment. -/
theorem wire_vs_always_partial (sigs : Array SigDecl) (ρ : Env) (i w : Nat) (s : Bool) (r : Expr) (m : Mods)
    (p : Pending) (h : Rel (wdOf sigs) ρ m p) (hwd : w = wdOf sigs i) (hw0 : 0 < w)
    (hf : Fits ρ r (max w (selfWidth (printE r).1)) = true) :
    let g : CombGroup := { targets := [i], stmts := .cons (.assign (.sig i w s) r) .nil }
    printCombGroup sigs g = .assign (.id i w s) (printE r).1 ∧
    Rel (wdOf sigs) ρ
      (execFs ρ g.stmts (execFs ρ (resetStmts sigs (sortByName sigs g.targets)) m))
      (nbaAssign (.id i w s) (assignV ρ w (printE r).1) p) :=
  -- the default assignment to `i` is shadowed by the one that follows it
  ⟨rfl, rel_congr (fun j => (readPost_shadow ρ m i _ _ j).symm) (rel_wire h i w s r hwd hw0 hf)⟩

/-- One clock domain (after `insert_resets`) printed as `always @(posedge clk)`. -/
theorem sync_block_equiv_partial (wd : Nat → Nat) (ρ : Env) (d : SyncDom) (m : Mods) (p : Pending)
    (h : Rel wd ρ m p) (hd : distinctSs d.stmts) (hf : fitsSs ρ d.stmts = true) (hw : wfSs wd d.stmts) :
    Rel wd ρ (execFs ρ d.stmts m) (execVs ρ (printStmts d.stmts) p) :=
  sync_block_equiv wd ρ d m p h hd hf hw

/-- **Static block theorem**: statements all of whose sites fit statically (`sfitsSs`, what the harness
    computes for every site of every real core) satisfy the block theorem's side condition for EVERY valuation
    with in-range signal values — so only the sites listed in corpus/C01/overflow_sites.json can ever make a
    real core's text and simulation part. -/
theorem static_block_sound (ss : Stmts) (h : sfitsSs ss = true) :
    ∀ ρ : Env, envOkSs ρ ss = true → fitsSs ρ ss = true :=
  fun ρ hρ => sfitsSs_sound ρ ss h hρ

/-! ## Lowering (`_ComplexSliceLowerer` index arithmetic)

  `sliceVal ρ e st len` = value of `_Slice(e, st, st+len)`.  The final step of `visit_Slice` drops the slice
  altogether when it covers the resolved node exactly; a Migen slice is an unsigned zero-extending view, the bare
  node is not when it is signed or can be negative (`~x`, `a - b`), so only unsigned signals,
  `Cat`s and `Replicate`s are dropped (`dropsSlice`, checked against the real `visit_Slice` on every run). -/

/-- Descending into the `Cat` element that contains the slice (with the start index
    made relative to that element, repeatedly through nested `Cat`s) does not change the slice's value. -/
theorem lowerSliceCat_correct (ρ : Env) (e : Expr) (st len : Nat) :
    sliceVal ρ (lowerCat e st len).1 (lowerCat e st len).2 len = sliceVal ρ e st len :=
  lowerCat_correct ρ e st len

/-- A non-empty slice inside the replicated value that lies within one copy is
    the slice of that copy at `start % len(v)` (repeatedly through nested `Replicate`s). -/
theorem lowerSliceReplicate_correct (ρ : Env) (e : Expr) (st len : Nat) (hl : 0 < len)
    (hb : st + len ≤ (bitsSign e).1) :
    sliceVal ρ (lowerRep e st len).1 (lowerRep e st len).2 len = sliceVal ρ e st len :=
  lowerRep_correct ρ e st len hl hb

/-- The slice really moves: `Cat(a[4], b[4], c[4])[5:7]` is resolved to `b[1:3]`. -/
example : lowerCat (.cat [.sig 0 4 false, .sig 1 4 false, .sig 2 4 false]) 5 2 = (.sig 1 4 false, 1) := rfl

/-- The last step of `visit_Slice` drops the slice altogether when it covers the
    resolved node exactly and that node is an unsigned `Signal`, a `Cat` or a `Replicate` (`dropsSlice`); for
    every valuation with in-range signal values the bare node then has the value of the slice. -/
theorem lowerSliceDrop_correct (ρ : Env) (e : Expr) (st len : Nat) (h : dropsSlice e st len = true)
    (hρ : envOk ρ e = true) : sliceVal ρ e st len = evalF ρ e := by
  simp only [dropsSlice, Bool.and_eq_true, decide_eq_true_eq] at h
  obtain ⟨⟨rfl, rfl⟩, hk⟩ := h
  rw [sliceVal, p2_zero, Int.ediv_one]
  cases e with
  | sig i w s =>
    rw [Bool.not_eq_true'] at hk
    subst hk
    exact tn_of_inRange_unsigned hρ
  | cat l => exact tn_of_range (evalCat_range ρ l).1 (evalCat_range ρ l).2
  | rep a n =>
    have := replV_range (tn_nonneg (bitsSign a).1 (evalF ρ a)) (tn_lt (bitsSign a).1 (evalF ρ a)) n
    rw [Nat.mul_comm] at this
    exact tn_of_range this.1 this.2
  | _ => cases hk

example : dropsSlice (.cat [.sig 0 4 true, .sig 1 4 false]) 0 8 = true := rfl

/-- (fix of C01-signed-full-slice-dropped / C01-full-slice-dropped-negative-operand) full-width slices of a signed
    signal and of `~z` are NOT dropped — and must not be: `(~z)[0:1]` is 1 for z = 0,
    the bare `~z` is −1, i.e. 15 in a 4-bit target; `x[0:4]` of a signed `x = −1` is 15, the bare `x` 255 in 8 bits. -/
example : dropsSlice (.op1 .not (.sig 0 1 false)) 0 1 = false ∧ dropsSlice (.sig 0 4 true) 0 4 = false ∧
          sliceVal (envL [0]) (.op1 .not (.sig 0 1 false)) 0 1 = 1 ∧
          storeF (envL [0]) 4 (.op1 .not (.sig 0 1 false)) = 15 ∧
          sliceVal (envL [-1]) (.sig 0 4 true) 0 4 = 15 ∧ storeF (envL [-1]) 8 (.sig 0 4 true) = 255 := by decide +kernel

/-! ## Layer 2 — modules

  `StRel sigs aF aV`: the Verilog state `aV` holds, for every signal, the declared-width bit pattern of the
  simulator's value in `aF`.  `GroupOk`/`DomOk`: the statements of a comb group / sync domain carry the declared
  widths, have distinct case keys and satisfy `fitsSs` in the given state; a group printed as a continuous
  `assign` is a single whole-signal assignment.  Combinational settling is, on both sides, re-evaluation until
  nothing changes (`settleF` = `Simulator._commit_and_comb_propagate`; for Verilog a fair schedule of the event
  queue).  Not covered by a theorem: the power-up state (every `reg`, `output reg` ports included — fix of
  C01-output-reg-no-initialiser —, carries the initialiser `= Signal.reset`; `wire`s carry none and settle —
  checked declaration by declaration by the correspondence).

  Where the hypotheses of this layer are defined (all under LitexProofs/Fhdl): `Rel` AssignMerge.lean; `wfSs` Wf.lean;
  `wfSEs` WfExpr.lean; `distinctSs` Sort.lean; `wdOf`, `resetsOk` ModuleEquiv.lean; `StRel`, `GroupOk`, `DomOk`,
  `SettleOk`, `RunOk` ModuleStep.lean; `GroupOkSim`, `SettleOkSim`, `RunOkSim` SimBackendEquiv.lean; `envOkSs`
  StaticSound.lean; `fitsSs`, `leafTargetsSs` are model definitions (LitexModel/Fhdl/FitsStmt.lean, SimBackend.lean). -/

/-- One comb evaluation + commit of the printed module = one `execute(comb)` + `commit` of the simulator. -/
theorem module_comb_step_equiv_partial (f : FModule) (aF aV : Array Int) (h : StRel f.sigs aF aV)
    (hg : ∀ g ∈ f.comb, GroupOk f.sigs (envA aF) g) :
    StRel f.sigs (iterF f aF) (iterV f.sigs (printModule f) aV) :=
  (follows_printModule f).iter h hg

/-- Comb settling: if the simulator's propagation loop reaches its fix-point within `fuel` rounds (acyclic comb
    logic does), the printed module settles in the corresponding state. -/
theorem module_settle_equiv_partial (f : FModule) (fuel : Nat) (aF aV : Array Int) (h : StRel f.sigs aF aV)
    (hok : SettleOk f fuel aF) (hfix : iterF f (settleF f fuel aF) = settleF f fuel aF) :
    StRel f.sigs (settleF f fuel aF) (settleV f.sigs (printModule f) fuel aV) :=
  (follows_printModule f).settle (SettleOk f) (fun _ _ h => h) fuel aF aV h hok hfix

/-- Clock edge: `always @(posedge clk)` blocks of the ticking domains = `execute(sync[cd])` + `commit`. -/
theorem module_edge_equiv_partial (f : FModule) (aF aV : Array Int) (clks : List Nat) (h : StRel f.sigs aF aV)
    (hd : ∀ d ∈ sortDoms f.sync, DomOk f.sigs (envA aF) d) :
    StRel f.sigs (commitF aF (syncPassF f aF clks)) (commitV f.sigs aV (syncPassV (printModule f) aV clks)) :=
  (follows_printModule f).edge clks h hd

/-- The property itself for the modelled subset: for EVERY input sequence and
    every choice of ticking clocks (`cs : List Cycle`), from any pair of corresponding states, the printed module
    and the simulator pass, cycle for cycle, through corresponding settled states — all ports, registers and
    internal signals — provided the side conditions hold along the simulator's run (`RunOk`). -/
theorem module_step_equiv_partial (f : FModule) (fuel : Nat) (cs : List Cycle) (aF aV : Array Int)
    (h : StRel f.sigs aF aV) (hok : RunOk f fuel aF cs) :
    List.Forall₂ (StRel f.sigs) (runF f fuel aF cs) (runV f.sigs (printModule f) fuel aV cs) :=
  (follows_printModule f).run fuel (SettleOk f) (fun _ _ h => h) (RunOk f fuel) (fun _ _ _ h => h) cs aF aV h hok

/-! Non-vacuity of the module theorem: a 4-bit counter `r` with `assign c = r[3]`, two clock cycles from
    reset; all hypotheses hold and both sides really move. -/

def exF : FModule :=
  { sigs := #[⟨4, false, 0, "r"⟩, ⟨1, false, 0, "c"⟩, ⟨1, false, 0, "clk"⟩],
    comb := [{ targets := [1], stmts := .cons (.assign (.sig 1 1 false) (.slice (.sig 0 4 false) 3 4)) .nil }],
    sync := [{ name := "sys", clk := 2,
               stmts := .cons (.assign (.sig 0 4 false) (.op2 .add (.sig 0 4 false) (.const 1 1 false))) .nil }] }

def exCycles : List Cycle := [⟨[], [2]⟩, ⟨[], [2]⟩]

example : RunOk exF 2 (initF exF) exCycles := by
  have hG : ∀ (a : Array Int),
      fitsSs (envA a) (.cons (.assign (.sig 1 1 false) (.slice (.sig 0 4 false) 3 4)) .nil) = true →
      ∀ g ∈ exF.comb, GroupOk exF.sigs (envA a) g := by
    intro a h g hg
    obtain rfl := List.mem_singleton.1 hg
    exact ⟨⟨⟨rfl, rfl⟩, trivial⟩, ⟨trivial, trivial⟩, h, by decide +kernel, Or.inr ⟨1, 1, false, _, rfl, rfl⟩⟩
  have hD : ∀ (a : Array Int),
      fitsSs (envA a) (.cons (.assign (.sig 0 4 false) (.op2 .add (.sig 0 4 false) (.const 1 1 false))) .nil) = true →
      ∀ d ∈ sortDoms exF.sync, DomOk exF.sigs (envA a) d := by
    intro a h d hd
    obtain rfl := List.mem_singleton.1 hd
    exact ⟨⟨⟨rfl, rfl, trivial⟩, trivial⟩, ⟨trivial, trivial⟩, h⟩
  simp only [exCycles, RunOk, SettleOk]
  exact ⟨⟨hG _ (by decide +kernel), hG _ (by decide +kernel), trivial⟩, by decide +kernel, hD _ (by decide +kernel),
    ⟨hG _ (by decide +kernel), hG _ (by decide +kernel), trivial⟩, by decide +kernel, hD _ (by decide +kernel), trivial⟩

example : runF exF 2 (initF exF) exCycles = [#[0, 0, 0], #[1, 0, 0]] := by decide +kernel
example : runV exF.sigs (printModule exF) 2 #[0, 0, 0] exCycles = [#[0, 0, 0], #[1, 0, 0]] := by decide +kernel

/-- Non-vacuity of the block theorem: `if (a[3]) r[7:4] <= b; case (a[1:0]) 2: r <= r + 1; 0: r[0] <= 1`
    (items unsorted) satisfies all hypotheses in a concrete state, and both sides really schedule updates. -/
example :
    let a : Expr := .sig 0 4 false
    let b : Expr := .sig 1 4 false
    let r : Expr := .sig 2 8 false
    let ss : Stmts :=
      .cons (.ite (.slice a 3 4) (.cons (.assign (.slice r 4 8) b) .nil) .nil)
      (.cons (.case (.slice a 0 2)
          (.cons 2 2 false (.cons (.assign r (.op2 .add r (.const 1 1 false))) .nil)
          (.cons 0 1 false (.cons (.assign (.slice r 0 1) (.const 1 1 false)) .nil) .nil)) false .nil) .nil)
    let ρ := envL [10, 5, 200]
    fitsSs ρ ss = true ∧ execFs ρ ss [] = [(2, 201), (2, 88)] ∧
    execVs ρ (printStmts ss) [] = [⟨2, 0, 8, 201⟩, ⟨2, 4, 4, 5⟩] := by decide +kernel

/-- `module_step_equiv_partial` read for clock schedules: `cs` is an ARBITRARY
    edge schedule — each instant names the subset `clks` of clock signals that rise in it (none, one, several
    domains, in any pattern: different periods, phases, non-coincident edges) and the inputs applied before it.
    The printed module and the simulator stay in corresponding states at every instant.  (The harness derives `cs`
    from a clock description and runs the real `run_simulation` against it.) -/
theorem module_schedule_equiv_partial (f : FModule) (fuel : Nat) (sched : List (List (Nat × Int) × List Nat))
    (aF aV : Array Int) (h : StRel f.sigs aF aV)
    (hok : RunOk f fuel aF (sched.map fun ic => ⟨ic.1, ic.2⟩)) :
    List.Forall₂ (StRel f.sigs)
      (runF f fuel aF (sched.map fun ic => ⟨ic.1, ic.2⟩))
      (runV f.sigs (printModule f) fuel aV (sched.map fun ic => ⟨ic.1, ic.2⟩)) :=
  module_step_equiv_partial f fuel _ aF aV h hok

/-- Two clock domains with non-coincident edges: `r` (4 bit, clock 2) counts, `q` (4 bit, clock 3) samples `r`;
    schedule clk2, clk3, clk2, clk2+clk3, none: both sides pass through the same states, and `q` really sees the
    value `r` had BEFORE a coincident edge. -/
def exF2 : FModule :=
  { sigs := #[⟨4, false, 0, "r"⟩, ⟨4, false, 0, "q"⟩, ⟨1, false, 0, "ck_a"⟩, ⟨1, false, 0, "ck_b"⟩],
    comb := [],
    sync := [{ name := "a", clk := 2,
               stmts := .cons (.assign (.sig 0 4 false) (.op2 .add (.sig 0 4 false) (.const 1 1 false))) .nil },
             { name := "b", clk := 3, stmts := .cons (.assign (.sig 1 4 false) (.sig 0 4 false)) .nil }] }

def exSched : List Cycle := [⟨[], [2]⟩, ⟨[], [3]⟩, ⟨[], [2]⟩, ⟨[], [2, 3]⟩, ⟨[], []⟩]

example : runF exF2 2 (initF exF2) exSched =
    [#[0, 0, 0, 0], #[1, 0, 0, 0], #[1, 1, 0, 0], #[2, 1, 0, 0], #[3, 2, 0, 0]] := by decide +kernel
example : runV exF2.sigs (printModule exF2) 2 #[0, 0, 0, 0] exSched =
    [#[0, 0, 0, 0], #[1, 0, 0, 0], #[1, 1, 0, 0], #[2, 1, 0, 0], #[3, 2, 0, 0]] := by decide +kernel

/-! ## The simulation-flavoured comb back-end (`convert(..., regular_comb=False)`)

  `_generate_combinatorial_logic_sim` emits ONE item per comb target `t` — `assign` if the only top-level
  statement for `t` is a whole-signal assignment, else `always @(*) begin t <= reset; <statements filtered to t> end`
  with `_generate_node(..., target_filter=t)`: a node without `t` among its targets prints nothing, `If`/`Case`
  forward the filter to both branches / every item and `default`.  Model: `filterSs t` (what survives),
  `printSsF t` (the printer with the filter), `printModuleSim` (LitexModel/Fhdl/SimBackend.lean; compared node by
  node with the real text of every third random module, and the text executed by the Lean Verilog semantics
  against the simulator model `runF`).  `leafTargetsSs ss`: every assignment drives ONE signal (a signal or a slice of one).

  Full statement (does NOT hold: an assignment to a `Cat` of several signals is repeated in the block of each of
  them, so the blocks race on those registers — negative witness below):
  theorem module_comb_step_sim_equiv (f : FModule) (aF aV : Array Int) (h : StRel f.sigs aF aV)
      (hg : ∀ g ∈ f.comb, GroupOk f.sigs (envA aF) g) :
      StRel f.sigs (iterF f aF) (iterV f.sigs (printModuleSim f) aV)
-/

/-- **Every per-target block drives only its own target**: the statements kept by `target_filter = t` leave the
    pending value of every other signal `u` untouched — through `If`/`Else` and `Case`/`default` nesting. -/
theorem filter_writes_own_target_partial (ρ : Env) (t u : Nat) (hut : u ≠ t) (ss : Stmts)
    (hl : leafTargetsSs ss = true) (m : Mods) :
    lookupM (execFs ρ (filterSs t ss) m) u = lookupM m u :=
  filter_otherSs ρ t u hut ss hl m

/-- **…and computes its target like the unfiltered list**: on `t`, executing only the statements kept for `t`
    gives what executing ALL statements gives (slice assignments to `t` merge identically; assignments to other
    signals never feed back: right-hand sides read the committed values). -/
theorem filter_computes_target_partial (ρ : Env) (t : Nat) (ss : Stmts) (hl : leafTargetsSs ss = true) (m : Mods) :
    lookupM (execFs ρ (filterSs t ss) m) t = lookupM (execFs ρ ss m) t :=
  filter_sameSs ρ t ss hl m m rfl

/-- The printer with the filter executes exactly like the unfiltered printer on the surviving statements (the only
    textual difference: `else` / case items are printed for the UNFILTERED structure, possibly with empty bodies). -/
theorem filtered_printer_equiv (ρ : Nat → Int) (t : Nat) (ss : Stmts) (p : Pending) :
    execVs ρ (printSsF t ss) p = execVs ρ (printSs (filterSs t ss)) p :=
  execVs_printSsF ρ t ss p

/-- **Per-target blocks = unfiltered statement list** (`GroupOkSim`: declared widths, distinct case keys, `fitsSs`,
    printable resets, one signal per assignment, `g.targets` duplicate-free and containing every target): all the
    items emitted for a group, executed together under the Verilog rules, keep `Rel` with the simulator's
    default-then-statements evaluation of the whole group. -/
theorem sim_comb_group_equiv_partial (sigs : Array SigDecl) (ρ : Env) (g : CombGroup) (m : Mods) (p : Pending)
    (h : Rel (wdOf sigs) ρ m p) (hg : GroupOkSim sigs ρ g) :
    Rel (wdOf sigs) ρ (combStepF sigs ρ m g)
      ((printCombGroupSim sigs g).foldl (combStepV (bitsEnv (wdOf sigs) ρ)) p) :=
  sim_group_step sigs ρ g m p h hg

/-- One comb evaluation + commit of the module printed with `regular_comb=False` = one of the simulator. -/
theorem module_comb_step_sim_equiv_partial (f : FModule) (aF aV : Array Int) (h : StRel f.sigs aF aV)
    (hg : ∀ g ∈ f.comb, GroupOkSim f.sigs (envA aF) g) :
    StRel f.sigs (iterF f aF) (iterV f.sigs (printModuleSim f) aV) :=
  (follows_printModuleSim f).iter h hg

/-- Comb settling of the per-target blocks (acyclic comb logic reaches the simulator's fix-point). -/
theorem module_settle_sim_equiv_partial (f : FModule) (fuel : Nat) (aF aV : Array Int) (h : StRel f.sigs aF aV)
    (hok : SettleOkSim f fuel aF) (hfix : iterF f (settleF f fuel aF) = settleF f fuel aF) :
    StRel f.sigs (settleF f fuel aF) (settleV f.sigs (printModuleSim f) fuel aV) :=
  (follows_printModuleSim f).settle (SettleOkSim f) (fun _ _ h => h) fuel aF aV h hok hfix

/-- The property for the simulation back-end: cycle for cycle, for every input
    sequence and clock schedule, the module printed with `regular_comb=False` and the simulator pass through
    corresponding settled states. -/
theorem module_step_sim_equiv_partial (f : FModule) (fuel : Nat) (cs : List Cycle) (aF aV : Array Int)
    (h : StRel f.sigs aF aV) (hok : RunOkSim f fuel aF cs) :
    List.Forall₂ (StRel f.sigs) (runF f fuel aF cs) (runV f.sigs (printModuleSim f) fuel aV cs) :=
  (follows_printModuleSim f).run fuel (SettleOkSim f) (fun _ _ h => h) (RunOkSim f fuel) (fun _ _ _ h => h) cs aF aV h hok

/-- Non-vacuity: `Case(sel, {0: a.eq(1), default: [a.eq(x), b.eq(y)]}); If(en, a.eq(z)).Else(b[0].eq(1))` — `Case`
    with `default`, `If`/`Else`, two targets, a later override and a slice target: `GroupOkSim` holds, the filtered
    lists differ from the full list, and both emitters give what the simulator gives. -/
def exSimSigs : Array SigDecl :=
  #[⟨2, false, 0, "sel"⟩, ⟨4, false, 0, "x"⟩, ⟨4, false, 0, "y"⟩, ⟨4, false, 0, "z"⟩, ⟨1, false, 0, "en"⟩,
    ⟨4, false, 0, "a"⟩, ⟨4, false, 5, "b"⟩]

def exSimG : CombGroup :=
  { targets := [5, 6],
    stmts :=
      .cons (.case (.sig 0 2 false)
          (.cons 0 1 false (.cons (.assign (.sig 5 4 false) (.const 1 1 false)) .nil) .nil) true
          (.cons (.assign (.sig 5 4 false) (.sig 1 4 false)) (.cons (.assign (.sig 6 4 false) (.sig 2 4 false)) .nil)))
      (.cons (.ite (.sig 4 1 false) (.cons (.assign (.sig 5 4 false) (.sig 3 4 false)) .nil)
          (.cons (.assign (.slice (.sig 6 4 false) 0 1) (.const 1 1 false)) .nil)) .nil) }

def exSimF : FModule := { sigs := exSimSigs, comb := [exSimG], sync := [] }

example : ∀ a : Array Int, fitsSs (envA a) exSimG.stmts = true → GroupOkSim exSimSigs (envA a) exSimG := by
  intro a h
  refine ⟨?_, ?_, h, by decide +kernel, by decide +kernel, by decide +kernel, by decide +kernel⟩
  · simp [exSimG, wfSEs, wfSE, wfSEItems, wfE, wdOf, widthOf, exSimSigs]
  · simp [exSimG, distinctSs, distinctS, distinctItems, keysOf]

example : fitsSs (envA #[1, 3, 9, 12, 1, 0, 0]) exSimG.stmts = true := by decide +kernel

example :
    filterSs 6 exSimG.stmts =
      .cons (.case (.sig 0 2 false) (.cons 0 1 false .nil .nil) true
          (.cons (.assign (.sig 6 4 false) (.sig 2 4 false)) .nil))
      (.cons (.ite (.sig 4 1 false) .nil
          (.cons (.assign (.slice (.sig 6 4 false) 0 1) (.const 1 1 false)) .nil)) .nil) := rfl

/-- sel = 1 (default taken), en = 1 (override active): a = z = 12, b = y = 9 on all three sides. -/
example :
    let a0 : Array Int := #[1, 3, 9, 12, 1, 0, 0]
    iterF exSimF a0 = #[1, 3, 9, 12, 1, 12, 9] ∧
    iterV exSimSigs (printModuleSim exSimF) a0 = #[1, 3, 9, 12, 1, 12, 9] ∧
    iterV exSimSigs (printModule exSimF) a0 = #[1, 3, 9, 12, 1, 12, 9] := by decide +kernel

/-- What the filter is for (and what a printer that forgets to forward it into `default` emits): if the block of
    target `b` (id 6) also carried the `a <= x` of the shared `default` branch, `a` would end as x = 3 instead of the
    override z = 12 — the blocks are evaluated in source order and the stale copy comes last. -/
example :
    let bad : VStmts := printSs (.cons (.case (.sig 0 2 false) (.cons 0 1 false .nil .nil) true
          (.cons (.assign (.sig 5 4 false) (.sig 1 4 false)) (.cons (.assign (.sig 6 4 false) (.sig 2 4 false)) .nil)))
        .nil)
    let items : List VItem := [printTargetSim exSimSigs exSimG.stmts 5,
      .comb (VStmts.append (printSs (resetStmts exSimSigs [6])) bad)]
    iterV exSimSigs items #[1, 3, 9, 12, 1, 0, 0] = #[1, 3, 9, 12, 1, 3, 9] := by decide +kernel

/-- Negative witness (the excluded region `leafTargetsSs = false`): `b.eq(0); Cat(a, b).eq(y); If(en, b.eq(z))`.
    The text has the blocks `b: b <= 0; {b, a} <= y; if (en) b <= z` and `a: {b, a} <= y` (the `Cat` assignment is
    kept for BOTH targets): the simulator ends with b = z = 5, the two processes with b = y[7:4] = 10. -/
example :
    let sigs : Array SigDecl := #[⟨8, false, 0, "y"⟩, ⟨4, false, 0, "z"⟩, ⟨1, false, 0, "en"⟩, ⟨4, false, 0, "a"⟩,
      ⟨4, false, 0, "b"⟩]
    let ss : Stmts :=
      .cons (.assign (.sig 4 4 false) (.const 0 1 false))
      (.cons (.assign (.cat [.sig 3 4 false, .sig 4 4 false]) (.sig 0 8 false))
      (.cons (.ite (.sig 2 1 false) (.cons (.assign (.sig 4 4 false) (.sig 1 4 false)) .nil) .nil) .nil))
    let f : FModule := { sigs := sigs, comb := [{ targets := [4, 3], stmts := ss }], sync := [] }
    let a0 : Array Int := #[0xa7, 5, 1, 0, 0]
    leafTargetsSs ss = false ∧ fitsSs (envA a0) ss = true ∧
    iterF f a0 = #[0xa7, 5, 1, 7, 5] ∧ iterV sigs (printModuleSim f) a0 = #[0xa7, 5, 1, 7, 10] ∧
    iterV sigs (printModule f) a0 = #[0xa7, 5, 1, 7, 5] := by decide +kernel

/-! ## Array reads and writes (`_ArrayProxy`)

  The simulator selects with `Evaluator._array_index` (`arrayIndex`: the key reduced to its FHDL width/signedness;
  choice `k` if `0 ≤ k < n`, else the last one — fix of C01-array-key-unmasked, in `eval` AND `assign`); the
  printed design carries Migen's lowering `Case(key, {0: b0, …, n-1: b(n-1)}).makedefault()` (`arrayCase`:
  `bi` = `muxed.eq(choice_i)` for a read, `choice_i.eq(muxed)` for a write).  `arrayIndex` is compared with the real
  `_array_index` on every run; whole designs with negative / over-range / signed keys go through the module ties. -/

/-- (Full strength.)  For EVERY key value — negative (`arr[~x]`, a signed key), beyond the
    number of choices, in range — the lowered `Case` executes exactly the body of the choice the simulator selects. -/
theorem array_select_correct (ρ : Env) (test : Expr) (bodies : List Stmts) (h : bodies ≠ []) (m : Mods) :
    execF ρ (arrayCase test bodies) m =
      execFs ρ (bodies.getD (arrayIndex (bitsSign test).1 (bitsSign test).2 bodies.length (evalF ρ test)) .nil) m := by
  have hn : 0 < bodies.length := List.length_pos_iff.mpr h
  simp only [arrayCase, execF, arrayIndex, if_true]
  generalize truncS (bitsSign test).1 (bitsSign test).2 (evalF ρ test) = k
  -- the default body is the last one
  rw [List.getLastD_eq_getLast?, List.getLast?_eq_getElem?, List.getD_eq_getElem?_getD]
  by_cases h0 : 0 ≤ k
  · obtain ⟨j, rfl⟩ := Int.eq_ofNat_of_zero_le h0
    have hj := execItems_arrayItems_add ρ m bodies.dropLast 0 j
    rw [Nat.zero_add] at hj
    rw [hj, List.getElem?_dropLast]
    by_cases hlt : j < bodies.length - 1
    · rw [if_pos hlt, if_pos ⟨h0, by omega⟩, Int.toNat_natCast, List.getElem?_eq_getElem (by omega)]
      rfl
    · rw [if_neg hlt]
      by_cases hin : (j : Int) < bodies.length
      · rw [if_pos ⟨h0, hin⟩, Int.toNat_natCast, show j = bodies.length - 1 by omega]
        rfl
      · rw [if_neg (fun hh => hin hh.2)]
        rfl
  · rw [execItems_arrayItems_lt ρ k m _ 0 (by omega), if_neg (fun hh => h0 hh.1)]

/-- (fix of C01-array-key-unmasked) `Array([1, 2, 4])[~x]`, x 2 bit.  x = 1: `~x = −2`, reduced to 2 bits
    unsigned = 2 → choice 2 (an unmasked key would take `choices[−2]` = choice 1); x = 3: `~x = −4` → 0 → choice 0
    (unmasked: IndexError); x = 0: → 3 ≥ n → the last choice.  A signed key −1 selects the last choice. -/
example : arrayIndex 2 false 3 (-2) = 2 ∧ arrayIndex 2 false 3 (-4) = 0 ∧ arrayIndex 2 false 3 (-1) = 2 ∧
          arrayIndex 3 true 3 (-1) = 2 ∧ arrayIndex 3 true 5 3 = 3 ∧ arrayIndex 3 false 3 7 = 2 := by decide +kernel

example :
    let x : Expr := .sig 0 2 false
    let y : Expr := .sig 1 4 false
    let bodies : List Stmts := [1, 2, 4].map fun c => .cons (.assign y (.const c 4 false)) .nil
    execF (envL [1, 0]) (arrayCase (.op1 .not x) bodies) [] = [(1, 4)] ∧
    execF (envL [3, 0]) (arrayCase (.op1 .not x) bodies) [] = [(1, 1)] ∧
    execF (envL [0, 0]) (arrayCase (.op1 .not x) bodies) [] = [(1, 4)] := by decide +kernel

/-! ## Reset insertion (`insert_resets`)

  `convert` (and the simulator's constructor) turn the `sync` list `sl` of every clock domain that has a reset into
  `sl + [If(rst, t.eq(t.reset) for the non-reset-less targets t of sl, sorted)]` BEFORE printing.  Model:
  `insertReset sigs rst rl sl` (LitexModel/Fhdl/ResetInsert.lean; the harness captures the statements before
  `insert_resets`, the driver applies `insertReset` and the result must be, node for node, the `always @(posedge)`
  block of the real text and behave like the real Evaluator on the lowered fragment). -/

/-- (Full strength.)  With the reset low the domain executes exactly its own statements;
    with it high every target of the domain that is not reset-less ends the edge with its reset value (whatever the
    statements assigned), and every other signal — reset-less registers included — is what the statements made it. -/
theorem reset_insertion_correct (sigs : Array SigDecl) (ρ : Env) (rst : Nat) (rl : List Nat) (ss : Stmts) (m : Mods) :
    (tn (sigs.getD rst default).w (ρ rst) = 0 →
      execFs ρ (insertReset sigs rst rl ss) m = execFs ρ ss m) ∧
    (tn (sigs.getD rst default).w (ρ rst) ≠ 0 → ∀ u,
      lookupM (execFs ρ (insertReset sigs rst rl ss) m) u =
        if u ∈ targetsSs ss ∧ u ∉ rl then some (resetVal sigs u) else lookupM (execFs ρ ss m) u) :=
  ⟨insertReset_inactive sigs ρ rst rl ss m, fun h u => insertReset_active sigs ρ rst rl ss m h u⟩

/-- Non-vacuity: `r <= r + 1; q <= r` with `q` reset-less, `r` reset to 9: reset high ⇒ r = 9, q = old r; the inserted
    statement is `if (rst) r <= 9` (q is not reset). -/
example :
    let sigs : Array SigDecl := #[⟨4, false, 9, "r"⟩, ⟨4, false, 3, "q"⟩, ⟨1, false, 0, "rst"⟩]
    let ss : Stmts := .cons (.assign (.sig 0 4 false) (.op2 .add (.sig 0 4 false) (.const 1 1 false)))
      (.cons (.assign (.sig 1 4 false) (.sig 0 4 false)) .nil)
    resetTargets [1] ss = [0] ∧
    execFs (envL [5, 0, 1]) (insertReset sigs 2 [1] ss) [] = [(0, 9), (1, 5), (0, 6)] ∧
    execFs (envL [5, 0, 0]) (insertReset sigs 2 [1] ss) [] = [(1, 5), (0, 6)] := by decide +kernel

/-! ## Layer 3 — memories (one port, one clock)

  `memEdgeF`/`memReadF`: one clock edge / `dat_r` of the simulator's MemoryToArray semantics; `memEdgeV`/`memReadV`:
  of the port template memory.py emits (LitexModel/Fhdl/Memory.lean; both compared with the real simulator and
  with the independent reading of the real text on every run, inside AND outside the hypotheses below).
  `memCfgOk c`: granularity 0 or `0 < g < width` (what Migen's `get_port` leaves) — `g ∣ width` is not even needed;
  `memStOk c st`: `depth` words, registered address `< depth`; `memInOk c i`: address `< depth` (any depth, powers
  of two or not), reset not asserted, and for NO_CHANGE the enables all clear or all set.
  The memory models stand beside layer 2, not on it: an `FModule` has no memories, and no theorem derives `memEdgeF`
  from `execFs` on the statements `MemoryToArray` produces; both are tied to the code by the correspondence.

  Full statement (does NOT hold: see the two negative witnesses — the open findings C01-memory-nochange-partial-we
  and C01-memory-not-reset):
  theorem mem_port_equiv (c : MemCfg) (st : MemSt) (i : MemIn) (hc : memCfgOk c) (hs : memStOk c st)
      (ha : i.adr < c.depth) : memEdgeF c st i = memEdgeV c st i
-/

/-- One clock edge of the template = one edge of the array semantics — the write
    (every enable pattern, every granularity: per-chunk part-select NBAs merge exactly like the simulator's slice
    assignments with read-back), the registered address / registered data / read enable. -/
theorem mem_port_equiv_partial (c : MemCfg) (st : MemSt) (i : MemIn) (hc : memCfgOk c = true)
    (hs : memStOk c st = true) (hi : memInOk c i = true) :
    memEdgeF c st i = memEdgeV c st i ∧ memReadF c (memEdgeF c st i) i.adr = memReadV c (memEdgeV c st i) i.adr := by
  have he := memEdge_equiv c st i hc hs hi
  rw [he]
  exact ⟨rfl, memRead_equiv c _ i.adr (memStOk_edgeV c st i hs hi) (memInOk_adr hi)⟩

/-- The four port kinds.  WRITE_FIRST / READ_FIRST / asynchronous read need NO condition on the enables. -/
theorem mem_port_equiv_writeFirst (c : MemCfg) (st : MemSt) (i : MemIn) (hm : c.mode = .writeFirst)
    (hc : memCfgOk c = true) (hs : memStOk c st = true) (ha : i.adr < c.depth) (hr : i.rst = false) :
    memEdgeF c st i = memEdgeV c st i :=
  memEdge_equiv c st i hc hs (by simp [memInOk, ha, hr, hm])

theorem mem_port_equiv_readFirst (c : MemCfg) (st : MemSt) (i : MemIn) (hm : c.mode = .readFirst)
    (hc : memCfgOk c = true) (hs : memStOk c st = true) (ha : i.adr < c.depth) (hr : i.rst = false) :
    memEdgeF c st i = memEdgeV c st i :=
  memEdge_equiv c st i hc hs (by simp [memInOk, ha, hr, hm])

theorem mem_port_equiv_async (c : MemCfg) (st : MemSt) (i : MemIn) (hm : c.mode = .async)
    (hc : memCfgOk c = true) (hs : memStOk c st = true) (ha : i.adr < c.depth) (hr : i.rst = false) :
    memEdgeF c st i = memEdgeV c st i :=
  memEdge_equiv c st i hc hs (by simp [memInOk, ha, hr, hm])

theorem mem_port_equiv_noChange_partial (c : MemCfg) (st : MemSt) (i : MemIn) (_hm : c.mode = .noChange)
    (hc : memCfgOk c = true) (hs : memStOk c st = true) (ha : i.adr < c.depth) (hr : i.rst = false)
    (hwe : tn c.nwe i.we = 0 ∨ tn c.nwe i.we = p2 c.nwe - 1) :
    memEdgeF c st i = memEdgeV c st i :=
  memEdge_equiv c st i hc hs (by
    simp only [memInOk, Bool.and_eq_true, Bool.or_eq_true, decide_eq_true_eq, Bool.not_eq_true']
    exact ⟨⟨ha, hr⟩, hwe.elim (fun h => Or.inl (Or.inr h)) Or.inr⟩)

/-- For EVERY sequence of edges (addresses, data, enables, read enables) within the side
    condition, from the power-up state, the `dat_r` outputs of the text and of the simulator are the same. -/
theorem mem_run_equiv_partial (c : MemCfg) (hc : memCfgOk c = true) (hd : 0 < c.depth) (is : List MemIn)
    (hi : ∀ i ∈ is, memInOk c i = true) : memRunF c (memInit c) is = memRunV c (memInit c) is :=
  memRun_equiv c hc is _ (memStOk_init c hd) hi

def exMem : MemCfg := { w := 16, g := 8, mode := .writeFirst, hasRe := false, depth := 5, init := [0xbeef, 1] }

/-- Non-vacuity: 16-bit words, byte enables, depth 5 (not a power of two), WRITE_FIRST: write the high byte of
    word 4, the low byte of word 4, read word 0: hypotheses hold, the bytes merge, both sides give the same. -/
example :
    let is : List MemIn := [⟨4, 0xaa55, 2, false, false⟩, ⟨4, 0x1234, 1, false, false⟩, ⟨0, 0, 0, false, false⟩]
    memCfgOk exMem = true ∧ (∀ i ∈ is, memInOk exMem i = true) ∧
    memRunF exMem (memInit exMem) is = [0xaa00, 0xaa34, 0xbeef] ∧
    memRunV exMem (memInit exMem) is = [0xaa00, 0xaa34, 0xbeef] := by decide +kernel

/-- Negative witness 1 (finding C01-memory-nochange-partial-we): NO_CHANGE, two byte enables, only one set: the
    simulator (`If(~we, …)`: reads unless ALL enables are set) updates `dat_r`, the text (`if (!we)`) does not. -/
example :
    let c : MemCfg := { w := 16, g := 8, mode := .noChange, hasRe := false, depth := 4, init := [7] }
    let i : MemIn := ⟨0, 0x1234, 1, false, false⟩
    memCfgOk c = true ∧ memStOk c (memInit c) = true ∧ memInOk c i = false ∧
    memReadF c (memEdgeF c (memInit c) i) 0 = 7 ∧ memReadV c (memEdgeV c (memInit c) i) 0 = 0 := by decide +kernel

/-- Negative witness 2 (finding C01-memory-not-reset): write word 1, then assert reset: the simulator restores
    `init` (word 1 = 2 again), the text keeps the written word. -/
example :
    let c : MemCfg := { w := 8, g := 0, mode := .async, hasRe := false, depth := 4, init := [1, 2] }
    let w1 : MemIn := ⟨1, 0x55, 1, false, false⟩
    let rs : MemIn := ⟨1, 0, 0, false, true⟩
    memInOk c rs = false ∧ memRunF c (memInit c) [w1, rs] = [0x55, 2] ∧ memRunV c (memInit c) [w1, rs] = [0x55, 0x55] := by
  decide +kernel

/-! ### several ports, one or several clocks

  `edgeFN`/`readFN`: one instant (the clocks `clks` rise) / the `dat_r` outputs of the simulator's MemoryToArray
  semantics for a memory with any number of ports (read statements on the committed words, the writes of the ports
  merging in port order); `edgeVN`/`readVN`: of the text memory.py emits — one `always @(posedge clk_n)` and one
  `assign dat_r` per port, with `effMode`: EVERY port forced to READ_FIRST when the ports do not share one clock
  (LitexModel/Fhdl/MemoryN.lean; both compared on every run with the real simulator and with the independent reading
  of the real text, on multi-port same-clock, multi-clock, mixed-mode, two-writer memories, inside and outside the
  hypotheses).  `memCfgOkN`: every port has a legal granularity, its mode is kept by the text (`modeKept`:
  single-clock memory, or the port is READ_FIRST / async), NO_CHANGE ports are write capable;
  `insOk`: per port `memInOk` (address in range, NO_CHANGE enables all-or-nothing).

  Full statement (does NOT hold — besides the two one-port witnesses above, the negative witness below: the open
  finding C01-memory-multiclock-forced-read-first):
  theorem mem_ports_equiv (c : MemCfgN) (st : MemStN) (clks : List Nat) (ins : List MemIn) (hs : memStOkN c st = true)
      (ha : ∀ i ∈ ins, i.adr < c.depth) : edgeFN c st clks ins = edgeVN c st clks ins
-/

/-- One instant of a multi-port memory — whatever subset of the clocks rises, every
    mode mix, every granularity mix, several writers (merging in port order), read enables. -/
theorem mem_ports_equiv_partial (c : MemCfgN) (st : MemStN) (clks : List Nat) (ins : List MemIn)
    (hc : memCfgOkN c = true) (hs : memStOkN c st = true) (hi : insOk c c.ports ins = true) :
    edgeFN c st clks ins = edgeVN c st clks ins ∧
    readFN c (edgeFN c st clks ins) ins = readVN c (edgeVN c st clks ins) ins := by
  have he := memEdgeN_equiv c st clks ins hc hs hi
  rw [he]
  exact ⟨rfl, memReadN_equiv c _ ins hc (memStOkN_edgeV c st clks ins hs hi) hi⟩

/-- All ports on one clock — NO condition on the modes (WRITE_FIRST / READ_FIRST /
    NO_CHANGE / async read in any mix). -/
theorem mem_ports_equiv_sameclock (c : MemCfgN) (st : MemStN) (clks : List Nat) (ins : List MemIn)
    (h1 : multiClock c = false)
    (hp : c.ports.all (fun p => memCfgOk (p.cfg c) && (decide (p.mode ≠ .noChange) || p.hasWe)) = true)
    (hs : memStOkN c st = true) (hi : insOk c c.ports ins = true) :
    edgeFN c st clks ins = edgeVN c st clks ins := by
  refine memEdgeN_equiv c st clks ins (memCfgOkN_of_all (fun p hq => ?_) hp) hs hi
  simpa only [portOk, modeKept, h1, Bool.not_false, Bool.true_or, Bool.and_true] using hq

/-- Ports on different clocks, any interleaving of their edges (also
    coincident ones): holds when every port is READ_FIRST or async-read — the modes memory.py's rewrite leaves alone. -/
theorem mem_ports_equiv_multiclock_partial (c : MemCfgN) (st : MemStN) (clks : List Nat) (ins : List MemIn)
    (hp : c.ports.all (fun p => memCfgOk (p.cfg c) && (decide (p.mode = .readFirst) || decide (p.mode = .async))) = true)
    (hs : memStOkN c st = true) (hi : insOk c c.ports ins = true) :
    edgeFN c st clks ins = edgeVN c st clks ins := by
  refine memEdgeN_equiv c st clks ins (memCfgOkN_of_all (fun p hq => ?_) hp) hs hi
  -- READ_FIRST and async are kept by the text, and neither is NO_CHANGE
  have hq := Bool.and_eq_true_iff.1 hq
  have hm : p.mode = .readFirst ∨ p.mode = .async := by simpa using hq.2
  simp only [portOk, modeKept, hq.1, Bool.true_and, Bool.and_eq_true, Bool.or_eq_true, decide_eq_true_eq]
  exact ⟨hm.imp_left Or.inr, Or.inl (by rcases hm with h | h <;> rw [h] <;> decide)⟩

/-- For EVERY schedule of instants (rising clocks + the inputs of every port) within
    the side condition, from the power-up state, all `dat_r` outputs agree after every instant. -/
theorem mem_ports_run_equiv_partial (c : MemCfgN) (hc : memCfgOkN c = true) (hd : 0 < c.depth)
    (sched : List (List Nat × List MemIn)) (hi : ∀ x ∈ sched, insOk c c.ports x.2 = true) :
    runFN c (memInitN c) sched = runVN c (memInitN c) sched :=
  memRunN_equiv c hc sched _ (memStOkN_init c hd) hi

/-- Non-vacuity: 16-bit words, depth 5; port 0 WRITE_FIRST read/write with byte enables, port 1 READ_FIRST read-only
    with `re`, port 2 a second WRITER (granularity 0), all on clock 7.  Instant 1: port 0 writes the high byte of
    word 4 while port 1 reads word 4 (old value) and port 2 writes word 0; instant 2: ports 0 and 2 write the SAME
    word 4 (low byte / whole word: the later port wins), port 1 holds (`re` = 0). -/
def exMemN : MemCfgN :=
  { w := 16, depth := 5, init := [0xbeef, 1, 2, 3, 0x1234],
    ports := [⟨8, .writeFirst, false, true, 7⟩, ⟨0, .readFirst, true, false, 7⟩, ⟨0, .writeFirst, false, true, 7⟩] }

example :
    let sched : List (List Nat × List MemIn) :=
      [([7], [⟨4, 0xaa55, 2, false, false⟩, ⟨4, 0, 0, true, false⟩, ⟨0, 0x7777, 1, false, false⟩]),
       ([7], [⟨4, 0x00cc, 1, false, false⟩, ⟨0, 0, 0, false, false⟩, ⟨4, 0x5a5a, 1, false, false⟩])]
    memCfgOkN exMemN = true ∧ multiClock exMemN = false ∧ (∀ x ∈ sched, insOk exMemN exMemN.ports x.2 = true) ∧
    runFN exMemN (memInitN exMemN) sched = [[0xaa34, 0x1234, 0x7777], [0x5a5a, 0x1234, 0x5a5a]] ∧
    runVN exMemN (memInitN exMemN) sched = [[0xaa34, 0x1234, 0x7777], [0x5a5a, 0x1234, 0x5a5a]] := by decide +kernel

/-- Two clocks, READ_FIRST writer on clock 10, READ_FIRST reader on clock 11, coincident and separate edges. -/
example :
    let c : MemCfgN := { w := 8, depth := 6, init := [3, 1, 4],
                         ports := [⟨0, .readFirst, false, true, 10⟩, ⟨0, .readFirst, false, false, 11⟩] }
    let sched : List (List Nat × List MemIn) :=
      [([10], [⟨2, 0x55, 1, false, false⟩, ⟨2, 0, 0, false, false⟩]),
       ([10, 11], [⟨2, 0x66, 1, false, false⟩, ⟨2, 0, 0, false, false⟩]),
       ([11], [⟨0, 0, 0, false, false⟩, ⟨2, 0, 0, false, false⟩])]
    multiClock c = true ∧ memCfgOkN c = true ∧
    runFN c (memInitN c) sched = [[4, 0], [0x55, 0x55], [0x55, 0x66]] ∧
    runVN c (memInitN c) sched = [[4, 0], [0x55, 0x55], [0x55, 0x66]] := by decide +kernel

/-- Negative witness 3 (finding C01-memory-multiclock-forced-read-first): a WRITE_FIRST read/write port on clock 10
    next to a read port on clock 11.  The write of 0x55 to word 0: the simulator's port 0 shows the NEW word
    (transparent read through the address register), the text — rewritten to READ_FIRST — the registered OLD one. -/
example :
    let c : MemCfgN := { w := 8, depth := 8, init := [3, 1, 4],
                         ports := [⟨0, .writeFirst, false, true, 10⟩, ⟨0, .readFirst, false, false, 11⟩] }
    let sched : List (List Nat × List MemIn) := [([10], [⟨0, 0x55, 1, false, false⟩, ⟨0, 0, 0, false, false⟩])]
    multiClock c = true ∧ memCfgOkN c = false ∧ memStOkN c (memInitN c) = true ∧
    insOk c c.ports (sched.head!).2 = true ∧
    runFN c (memInitN c) sched = [[0x55, 0]] ∧ runVN c (memInitN c) sched = [[3, 0]] := by decide +kernel

/-! ## Instances (`instance.py`)

  `printInstance params ports` (LitexModel/Fhdl/Instance.lean, compared name by name, in order, node for node with
  the text the real `_instance_generate_verilog` emits): the `#( .NAME (VALUE) … )` list and the connection list. -/

/-- The emitted connection list is, up to the grouping inputs / outputs / inouts,
    EXACTLY the Instance's port items — each item once, under its own name, connected to the expression printer's
    text of its own expression; nothing dropped, duplicated or invented — and the parameter list is the parameter
    items in order (Constants through `printConst`, strings quoted, floats / preformatted values verbatim). -/
theorem instance_connections_exact (ps : List InstParam) (qs : List InstPort) :
    (printInstance ps qs).ports.Perm (qs.map printPort) ∧
    (printInstance ps qs).params = ps.map (fun p => (p.name, printParam p.v)) :=
  ⟨printInstance_ports_perm ps qs, printInstance_params ps qs⟩

/-- Consequence: with distinct port names every name is connected exactly once. -/
theorem instance_port_names_nodup (ps : List InstParam) (qs : List InstPort) (h : (qs.map (·.name)).Nodup) :
    ((printInstance ps qs).ports.map (·.1)).Nodup := by
  have hp := (printInstance_ports_perm ps qs).map (·.1)
  rw [List.map_map] at hp
  exact (hp.nodup_iff).2 (by simpa [Function.comp_def, printPort] using h)

/-- The order really changes (outputs declared first are printed after the inputs), the content does not. -/
example : ((printInstance [] [⟨.output, "O", .sig 0 4 false⟩, ⟨.inout, "P", .sig 2 1 false⟩,
                              ⟨.input, "I", .op1 .not (.sig 1 4 false)⟩]).ports.map (·.1)) = ["I", "O", "P"] := by
  decide +kernel

/-! ### Non-vacuity (layer 1) -/

/-- `y[8] = (a & ~b) + (c >> 1)` with a,b,c 8-bit unsigned fits statically (so for all inputs). -/
example : staticallyFits
    (.op2 .add (.op2 .and (.sig 0 8 false) (.op1 .not (.sig 1 8 false))) (.op2 .shr (.sig 2 8 false) (.const 1 1 false))) 8
    = true := by decide +kernel

/-- a signed/unsigned mix that needs the `$signed({1'd0, x})` promotion fits statically. -/
example : staticallyFits (.op2 .lt (.sig 0 8 true) (.sig 1 4 false)) 1 = true := by decide +kernel

example : printE (.op2 .lt (.sig 0 8 true) (.sig 1 4 false)) =
    (.bin .lt (.id 0 8 true) (.signed (.concat [.lit 1 false 0, .id 1 4 false])), false) := rfl

/-! ### Negative witnesses (the excluded region is not empty: the full statement fails there) -/

/-- `(a - 1) == b`, a = 0, b = 0xFF, 8 bits: simulator 0 (−1 ≠ 255), Verilog 1 (8'hFF == 8'hFF). -/
example :
    let e : Expr := .op2 .eq (.op2 .sub (.sig 0 8 false) (.const 1 1 false)) (.sig 1 8 false)
    let ρ := envL [0, 255]
    envOk ρ e = true ∧ storeF ρ 1 e = 0 ∧ assignV ρ 1 (printE e).1 = 1 ∧ Fits ρ e 1 = false := by decide +kernel

/-- `~a == k` with a = 0, k = 0xFF: simulator 0 (−1 ≠ 255), Verilog 1. -/
example :
    let e : Expr := .op2 .eq (.op1 .not (.sig 0 8 false)) (.const 255 8 false)
    let ρ := envL [0]
    envOk ρ e = true ∧ storeF ρ 1 e = 0 ∧ assignV ρ 1 (printE e).1 = 1 ∧ Fits ρ e 1 = false := by decide +kernel

/-- `(a + b) >> 1` assigned to 8 bits, a = b = 0x80: simulator 0x80, Verilog 0 (carry lost before the shift). -/
example :
    let e : Expr := .op2 .shr (.op2 .add (.sig 0 8 false) (.sig 1 8 false)) (.const 1 1 false)
    let ρ := envL [128, 128]
    envOk ρ e = true ∧ storeF ρ 8 e = 128 ∧ assignV ρ 8 (printE e).1 = 0 ∧ Fits ρ e 8 = false := by decide +kernel

/-! ### The witnesses of the fixed findings: they evaluate equal on both sides, satisfy `Fits` (the printer theorem
    covers them) and — where no value is involved — fit statically -/

/-- (fix of C01-signed-const-unsigned-literal) `a < -1` with `a` 8-bit signed, a = 5: the text is
    `(a < 1'sd1)`, a SIGNED comparison (5 < −1 = 0) as in the simulator. -/
example :
    let e : Expr := .op2 .lt (.sig 0 8 true) (.const (-1) 1 true)
    let ρ := envL [5]
    envOk ρ e = true ∧ storeF ρ 1 e = 0 ∧ assignV ρ 1 (printE e).1 = 0 ∧ Fits ρ e 1 = true ∧
      staticallyFits e 1 = true := by decide +kernel

example : (printE (.op2 .lt (.sig 0 8 true) (.const (-1) 1 true))).1 =
    .bin .lt (.id 0 8 true) (.lit 1 true 1) := rfl

/-- Why an unsigned literal under a minus sign is wrong there: `(a < -1'd1)` is an unsigned comparison, 5 < 255. -/
example : assignV (envL [5]) 1 (.bin .lt (.id 0 8 true) (.un .neg (.lit 1 false 1))) = 1 := by decide +kernel

/-- Why a signed literal under a minus sign (`-4'sd8` instead of `-4'd8`) would be wrong too: the most negative value of a
    width, extended to a wider signed context, negates to the POSITIVE value (`-4'sd8` in 8 bits is +8);
    printing the two's-complement pattern (`4'sd8`, i.e. 1000 = −8) is right in every context — which is what
    `printConst` (and `_generate_constant`) does. -/
example : evalV (fun _ => 0) 8 true (.un .neg (.lit 4 true 8)) = 8 ∧
          evalV (fun _ => 0) 8 true (.lit 4 true 8) = tn 8 (-8) := by decide +kernel

example : (printE (.const (-8) 4 true)).1 = .lit 4 true 8 := rfl

/-- `a + (-8 as 4-bit signed constant)` into 16 bits fits statically (all inputs). -/
example : staticallyFits (.op2 .add (.sig 0 8 true) (.const (-8) 4 true)) 16 = true := by decide +kernel

/-- Case items keep the unsigned form `-1'd1` (`printConstU`): next to an unsigned item the `case` is evaluated
    in an unsigned context, where a signed literal `1'sd1` would be ZERO-extended (0001) and match x = 1 instead
    of x = −1 (1111); `-1'd1` is 1111 in 4 bits. -/
example : evalV (fun _ => 0) 4 false (printConstU (-1) 1) = 15 ∧ evalV (fun _ => 0) 4 false (.lit 1 true 1) = 1 := by
  decide +kernel

/-- `Case(x, {-1: r <= 1, 0: r <= 2})`, x 4-bit signed: both sides select the first item for x = −1 and nothing
    for x = 1; the side condition holds. -/
example :
    let x : Expr := .sig 0 4 true
    let r : Expr := .sig 1 2 false
    let ss : Stmts := .cons (.case x (.cons (-1) 1 true (.cons (.assign r (.const 1 1 false)) .nil)
                                     (.cons 0 1 false (.cons (.assign r (.const 2 2 false)) .nil) .nil)) false .nil) .nil
    fitsSs (envL [-1, 0]) ss = true ∧ execFs (envL [-1, 0]) ss [] = [(1, 1)] ∧
    execVs (envL [-1, 0]) (printStmts ss) [] = [⟨1, 0, 2, 1⟩] ∧
    fitsSs (envL [1, 0]) ss = true ∧ execFs (envL [1, 0]) ss [] = [] ∧ execVs (envL [1, 0]) (printStmts ss) [] = [] := by
  decide +kernel

/-- (fix of C01-comparison-reported-signed) `(a < b) + c`, all signed 8 bit, into 16 bits with c = −1, a ≥ b: the
    comparison is reported unsigned and promoted, `$signed({1'd0, (a < b)}) + c`: both sides 0xFFFF (the text
    `((a < b) + c)` of the next example zero-extends c: 0x00FF).  Fits statically, i.e. for all inputs. -/
example :
    let e : Expr := .op2 .add (.op2 .lt (.sig 0 8 true) (.sig 1 8 true)) (.sig 2 8 true)
    let ρ := envL [0, 0, -1]
    envOk ρ e = true ∧ storeF ρ 16 e = 65535 ∧ assignV ρ 16 (printE e).1 = 65535 ∧ Fits ρ e 16 = true ∧
      staticallyFits e 16 = true := by decide +kernel

example : assignV (envL [0, 0, -1]) 16 (.bin .add (.bin .lt (.id 0 8 true) (.id 1 8 true)) (.id 2 8 true)) = 255 := by
  decide +kernel

/-- (fix of C01-slice-reported-signed) `x[0:4] + t`, x and t signed 8 bit, t = −1, into 16 bits: the part-select
    is reported unsigned and promoted: both sides 0xFFFF (unpromoted: 0x00FF).  Fits statically. -/
example :
    let e : Expr := .op2 .add (.slice (.sig 0 8 true) 0 4) (.sig 1 8 true)
    let ρ := envL [0, -1]
    envOk ρ e = true ∧ storeF ρ 16 e = 65535 ∧ assignV ρ 16 (printE e).1 = 65535 ∧ Fits ρ e 16 = true ∧
      staticallyFits e 16 = true := by decide +kernel

/-- (fix of C01-signed-1bit-noslice) `x[0]` of a 1-bit signed `x = −1` into 4 bits: the text is `{x}` (unsigned
    view): both sides 1; the bare `x` sign-extended to 15.  Fits statically. -/
example :
    let e : Expr := .slice (.sig 0 1 true) 0 1
    let ρ := envL [-1]
    storeF ρ 4 e = 1 ∧ assignV ρ 4 (printE e).1 = 1 ∧
      assignV ρ 4 (.id 0 1 true) = 15 ∧ Fits ρ e 4 = true ∧ staticallyFits e 4 = true := by decide +kernel

example : (printE (.slice (.sig 0 1 true) 0 1)).1 = .concat [.id 0 1 true] := rfl

/-- (fix of C01-mux-condition-unmasked) `Mux(~b, x, y)`, b = 1: the simulator masks the condition to its width
    (`~b & 1 = 0`) and selects `y` like the 1-bit Verilog `~b` (the unbounded `~b ∈ {−1, −2}` is always true).
    Fits statically: nothing is asked of the condition's VALUE. -/
example :
    let e : Expr := .mux (.op1 .not (.sig 0 1 false)) (.sig 1 4 false) (.sig 2 4 false)
    let ρ := envL [1, 3, 9]
    envOk ρ e = true ∧ storeF ρ 4 e = 9 ∧ assignV ρ 4 (printE e).1 = 9 ∧ Fits ρ e 4 = true ∧
      staticallyFits e 4 = true := by decide +kernel

/-- Where `condOk` still bites (intermediate overflow, stays excluded): `Mux(a + b, x, y)` with a = b = 8 (4 bit):
    the simulator tests the 5-bit sum 16 (true), Verilog the 4-bit sum 0 (false). -/
example :
    let e : Expr := .mux (.op2 .add (.sig 0 4 false) (.sig 1 4 false)) (.sig 2 4 false) (.sig 3 4 false)
    let ρ := envL [8, 8, 3, 9]
    envOk ρ e = true ∧ storeF ρ 4 e = 3 ∧ assignV ρ 4 (printE e).1 = 9 ∧ Fits ρ e 4 = false := by decide +kernel

end Litex.C01
