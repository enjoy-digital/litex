import LitexProofs.Cdc.BusSync
import LitexProofs.Cdc.AxiLite
import LitexProofs.Cdc.Wrapper
import LitexProofs.Cdc.Monitor
import LitexProofs.Stream.Basic
import LitexProofs.Cdc.PulseSync
import LitexProofs.Cdc.Capacity
import LitexProofs.Cdc.SyncReset
/-
  ══ INVENTORY of the code C05 is anchored in ═══════════════════════════════════════════════════════════════════
  M = Lean model, T = theorems (this file; `afStepR2_common` is in `LitexProofs/Cdc/SyncReset.lean`), tie = how model and
  /repo are compared on every run
  (A = exhaustive co-exploration of the reachable product, B = seeded lock-step co-simulation with edge-level
  driving and injected per-bit resolutions, C = `call` comparison of a Python-level decision, S = structural).

  litex/soc/interconnect/stream.py
    _FIFOWrapper (record packing)      M Wrapper.lean packTok/unpackTok        T fifowrapper_roundtrip/_token_rel   tie A+B afifo_tok
    AsyncFIFO.__init__ (depth rules)   M Glue.lean afifoCtor/afifoCapacity     T afifo_ctor_spec/_refuses/_capacity tie C afifo_ctor (grid 0..256,
                                       (no rounding: non-2^k or <4 refused)                                            capacity MEASURED on the real module)
    AsyncFIFO / migen AsyncFIFO(Buffered), GrayCounter, MultiReg
                                       M AsyncFifo.lean afStep (any k, b)      T gray_*, afifo_inv, _no_rw_collision, _token_rel, _delivered_prefix,
                                                                                 _capacity, _capacity_tight, _writable_exact, _eventually_readable(_buffered),
                                                                                 _eventually_writable — all parametric in depth 2^k and payload type
                                                                               tie A depth 4 (±buffered), B depths 4..128
    ClockDomainCrossing: same domain   M Stream wire / pipeValid (C03 models)  T cdc_same_domain_wire_rel/_buffered_rel, cdc_kind_spec  tie A + C cdc_kind
    ClockDomainCrossing: cd_from≠cd_to M afStep (renamed domains)              T as AsyncFIFO                         tie A/B through the real constructor
      independent domain resets        M afStepR2 (rw, rr separately)          T (afStepR2_common: = afStepR when equal)  tie B afifo_rst2
      with_common_rst, simulator's DummyAsyncResetSynchronizer (one level)
                                       M afStepR / runRst                      T cdc_common_rst_inv, _token_rel (+ witness: one-edge pulse)  tie B afifo_rst
      with_common_rst, vendor AsyncResetSynchronizer (two FDPE, async preset), ANY pulse length
                                       M arsStep, crStep, crMasked             T ars_stretch, cdc_sync_rst_sim, cdc_sync_rst_token_rel (+ witness: pulse
                                                                                 missing one clock)   tie B cdc_sync: real wiring + interpreted
                                                                                 XilinxAsyncResetSynchronizerImpl flops (FDPE semantics trusted)
    Monitor(clock_domain ≠ sys)        M Monitor.lean monStep                  T monitor_latch_no_spurious, _exactly_once_partial, _latch_spacing,
                                                                                 monitor_status_partial, _status_mixture (full), _status_coherent_partial
                                                                                 (exactly which reads can be torn), monitor_torn_read_hull   tie A w=1, B w=4,32
    Monitor(clock_domain = sys)        no crossing (C03/C12)
  litex/gen/genlib/cdc.py
    BusSynchronizer (width ≥ 2)        M BusSync.lean bsStep                   T bussync_coherent_partial, _no_spurious_timeout (4R+7; witnesses
                                                                                 at 4R+6 for R = 1, 2, 3), _coherent_of_ratio, _coherent_periodic (po ≤ R·pi),
                                                                                 _coherent_default (t=128 ⇒ R=30), bussync_eventually   tie A w=2,3; B w=2..64
    BusSynchronizer (width 1)          M bs1Step                               T bussync_width1                        tie A
    users of BusSynchronizer           NONE in /repo (out-of-tree PHY cores; all rely on timeout=128) — see bussync_coherent_default
    ElasticBuffer                      NOT modelled: no handshake, correct only for equal-frequency clocks within depth/2 of skew; no user in /repo
    (migen) PulseSynchronizer          M psStep                                T pulsesync_no_spurious, _partial, _drain, _spacing (period ≥ R+2 i-cycles),
                                                                                 _spacing_tight (exact for every R)     tie A; B spaced + minimum-gap;
                                                                                 witness psTight replayed on the real module
  litex/soc/interconnect/axi/axi_lite.py
    AXILiteClockDomainCrossing         M AxiLite.lean axStep (5 FIFOs)         T axilite_cdc_rel, _direction, _channels_independent   tie B (two configs)
    AXI (full) / Wishbone CDC          do not exist in /repo (AXI-full has no ClockDomainCrossing class; wishbone has none)
  litex/soc/cores/uart.py
    _get_uart_fifo, UART(phy_cd)       M Glue.lean uartFifoKind/uartTx/RxFifo  T uart_fifo_async_iff, uart_fifos_cross_iff   tie C + B through UART()
    UARTBone / UARTWishboneBridge(cd)  M Glue.lean uartBoneDomains (who lives in which domain)   T uartbone_ports_in_own_domain, uartbone_crossing_rel
                                                                               tie C uartbone_domains vs domains MEASURED on the lowered module +
                                                                               end-to-end byte-order oracle with unrelated clocks + domain audit
    JTAG/video/hyperbus/icap           plain users of ClockDomainCrossing/AsyncFIFO with default or 2^k depths: domain audit where they elaborate
  Plain MultiReg users (GPIO, SPI, I2S, video timing CSRs, freqmeter Gray counter): single-bit or quasi-static
    buses, no coherence claimed by the code; not part of C05 (the only multi-bit dynamic one, Monitor's status, is).
  ═══════════════════════════════════════════════════════════════════════════════════════════════════════════════
-/
/-
  C05 — Clock-domain crossings never corrupt, drop, duplicate or reorder data.

  First and largest part: the asynchronous FIFO, model `LitexModel/Cdc/AsyncFifo.lean` (Migen `AsyncFIFO`/
  `AsyncFIFOBuffered` behind LiteX's `_FIFOWrapper`: `stream.AsyncFIFO`, `stream.ClockDomainCrossing`,
  `uart._get_uart_fifo`, `AXILiteClockDomainCrossing`).  The later sections (BusSynchronizer, PulseSynchronizer, common
  reset, `_FIFOWrapper`, AXI-Lite crossing, Monitor, selection glue) name their models (`BusSync`, `Wrapper`, `AxiLite`,
  `Monitor`, `Glue` in the same directory) and their schedule types (`BSIn`, `PSIn`, `MonIn`, `AxIn`) where they begin.

  Every FIFO theorem quantifies over `ins : List (AFIn α)`: an arbitrary sequence of instants, each choosing
    * which clocks have a rising edge (`tw`, `tr`: write only, read only, or both — any frequency ratio, any
      phase, any drift, coincident edges included),
    * for each of the two synchronisers a mask saying, bit by bit, whether its first flop catches the old or
      the new value of a Gray pointer that changes in the same instant (`mw`, `mr`),
    * the producer (`valid`, `tok`) and the consumer (`ready`),
  and over the depth `2^k` (`k ≥ 1`; LiteX asserts depth ≥ 4) and the buffered/unbuffered variant `b`.
-/
namespace Litex.C05
open Litex.Cdc
variable {α : Type}

/-- Successive Gray codes differ in exactly one bit. -/
theorem gray_succ_one_bit (n : Nat) : ∃ j, gray (n + 1) ^^^ gray n = 2 ^ j :=
  (gray_succ_flip n).imp fun _ => FlipAt.xor_eq

/-- The same for a wrapping `w`-bit counter (`w ≥ 1`), including the wrap from `2^w - 1` to `0`. -/
theorem gray_succ_one_bit_wrap (w n : Nat) (hw : 1 ≤ w) :
    ∃ j, gray ((n + 1) % 2 ^ w) ^^^ gray (n % 2 ^ w) = 2 ^ j :=
  (gray_succ_flip_mod w n hw).imp fun _ => FlipAt.xor_eq

/-- **Sampling a Gray pointer while it changes.**  Any word `r` each of whose bits is the corresponding bit
    of `gray n` or of `gray (n+1)` (an arbitrary per-bit old/new mixture) *is* `gray n` or `gray (n+1)`. -/
theorem gray_sample_mix (n r : Nat)
    (hr : ∀ i, r.testBit i = (gray n).testBit i ∨ r.testBit i = (gray (n + 1)).testBit i) :
    r = gray n ∨ r = gray (n + 1) := by
  obtain ⟨j, hj⟩ := gray_succ_flip n
  exact flip_mixture hj hr

/-- The same for the wrapping `w`-bit pointer actually used, with the mixture given by a mask as in the model. -/
theorem gray_sample_mix_wrap (w n m : Nat) (hw : 1 ≤ w) :
    mix m (gray (n % 2 ^ w)) (gray ((n + 1) % 2 ^ w)) = gray (n % 2 ^ w) ∨
    mix m (gray (n % 2 ^ w)) (gray ((n + 1) % 2 ^ w)) = gray ((n + 1) % 2 ^ w) :=
  gray_sample_mix_mod w n m hw

/-- `mix` really is the per-bit choice. -/
theorem mix_bitwise (m a b i : Nat) :
    (mix m a b).testBit i = if m.testBit i then b.testBit i else a.testBit i := mix_testBit m a b i

/-- Gray coding loses no information (needed for `readable`/`writable` to be exact). -/
theorem gray_inj (a b : Nat) (h : gray a = gray b) : a = b := gray_injective a b h

/-- After *every* schedule there are unbounded counters `C` (words consumed), `Cw1 Cw2`
    (consume pointer as seen by the two synchroniser flops in the write domain), `Pr1 Pr2` (produce pointer as
    seen in the read domain) such that, with `P` = number of tokens accepted:
    * `Cw2 ≤ Cw1 ≤ C ≤ Pr2 ≤ Pr1 ≤ P ≤ Cw2 + 2^k` — each domain only ever sees an *older* value of the other
      domain's pointer, and never more than `2^k` words are outstanding;
    * every register holds the (Gray code of the) wrapped counter it stands for — in particular each
      synchroniser stage holds the Gray code of a genuine pointer value between its source's older and current
      value, whatever the resolution masks were;
    * every slot `j mod 2^k` with `C ≤ j < P` holds the token that was accepted as number `j`;
    * the registered read address is `C mod 2^k`;
    * the word in the output stage of the buffered variant is accepted token number `C - 1`. -/
theorem afifo_inv (k : Nat) (b : Bool) (z : α) (hk : 1 ≤ k) (ins : List (AFIn α)) :
    let s := runFrom k b z (afInit k z) ins
    let acc := accepted k b z (afInit k z) ins
    ∃ C Cw1 Cw2 Pr1 Pr2 : Nat,
      Cw2 ≤ Cw1 ∧ Cw1 ≤ C ∧ C ≤ Pr2 ∧ Pr2 ≤ Pr1 ∧ Pr1 ≤ acc.length ∧ acc.length ≤ Cw2 + 2 ^ k ∧
      s.pbin = acc.length % 2 ^ (k + 1) ∧ s.pq = gray s.pbin ∧
      s.cbin = C % 2 ^ (k + 1) ∧ s.cq = gray s.cbin ∧
      s.cw1 = gray (Cw1 % 2 ^ (k + 1)) ∧ s.cw2 = gray (Cw2 % 2 ^ (k + 1)) ∧
      s.pr1 = gray (Pr1 % 2 ^ (k + 1)) ∧ s.pr2 = gray (Pr2 % 2 ^ (k + 1)) ∧
      s.mem.length = 2 ^ k ∧ (∀ j, C ≤ j → j < acc.length → s.mem[j % 2 ^ k]? = acc[j]?) ∧
      s.radr = C % 2 ^ k ∧
      (s.bval = true → b = true ∧ 1 ≤ C ∧ acc[C - 1]? = some s.bdat) := by
  intro s acc
  obtain ⟨g, h, ha, _⟩ := run_init_facts k b z hk ins
  rw [show acc = g.acc from ha.symm]
  exact ⟨_, _, _, _, _, h.r.o1, h.r.o2, h.avail, h.w.o1, h.len ▸ h.w.o2, h.len ▸ h.room, h.pbin, h.w.q, h.r.bin,
    h.r.q, h.r.r1, h.r.r2, h.w.r1, h.w.r2, h.memlen, h.slots, h.radr, h.buf⟩

/-- **No read/write collision.**  In every reachable state, if a word is written in an instant
    (`produce.ce`), the written slot differs from the slot the synchronous read port addresses in that instant
    (`consume.q_next_binary`), unless the FIFO is completely empty after the read (the two `k+1`-bit pointers
    coincide) — and then `readable` is low after a simultaneous read edge, so the word is not used. -/
theorem afifo_no_rw_collision (k : Nat) (b : Bool) (z : α) (hk : 1 ≤ k) (ins : List (AFIn α)) (i : AFIn α) :
    let s := runFrom k b z (afInit k z) ins
    wce k s i = true → s.pbin % 2 ^ k = cbinN k b s i % 2 ^ k →
      s.pbin = cbinN k b s i ∧ (i.tr = true → ireadable (afStep k b z s i) = false) := by
  intro s hw hslot
  exact no_rw_collision_aux z hk (inv_run k b z hk ins _ _ (inv_init k b z)) i hw hslot

/-- What has been handed over at `source` is exactly the first `n` tokens accepted at
    `sink`, where `n` is the number of hand-overs: nothing lost, duplicated, reordered or altered. -/
theorem afifo_token_rel (k : Nat) (b : Bool) (z : α) (hk : 1 ≤ k) (ins : List (AFIn α)) :
    delivered k b z (afInit k z) ins =
      (accepted k b z (afInit k z) ins).take (delivered k b z (afInit k z) ins).length := by
  obtain ⟨g, _, ha, hd⟩ := run_init_facts k b z hk ins
  rw [← ha, ← hd]
  simp

/-- The usual reading: delivered is a prefix of accepted. -/
theorem afifo_delivered_prefix (k : Nat) (b : Bool) (z : α) (hk : 1 ≤ k) (ins : List (AFIn α)) :
    delivered k b z (afInit k z) ins <+: accepted k b z (afInit k z) ins := by
  rw [afifo_token_rel k b z hk ins]
  exact List.take_prefix _ _

/-- Never more than `2^k` tokens (one more with the output stage) are in flight. -/
theorem afifo_capacity (k : Nat) (b : Bool) (z : α) (hk : 1 ≤ k) (ins : List (AFIn α)) :
    (accepted k b z (afInit k z) ins).length ≤
      (delivered k b z (afInit k z) ins).length + 2 ^ k + (if b then 1 else 0) := by
  obtain ⟨g, hi, ha, hd⟩ := run_init_facts k b z hk ins
  rw [← ha, ← hd]
  exact capacity_aux hi

/-! ### Progress: "after the input has been stable for long enough the output reflects it" -/

/-- Unbuffered.  Take any schedule `x`, then any continuation `y` that
    contains at least two read-clock edges (no assumption on the write clock, the clock ratio or the
    resolutions).  Then every token accepted during `x` has been handed over, or `source.valid` is high. -/
theorem afifo_eventually_readable (k : Nat) (z : α) (hk : 1 ≤ k) (x y : List (AFIn α))
    (hy : 2 ≤ readTicks y) :
    (accepted k false z (afInit k z) x).length ≤ (delivered k false z (afInit k z) (x ++ y)).length ∨
      srcValid false (runFrom k false z (afInit k z) (x ++ y)) = true := by
  obtain ⟨g1, g2, f1, f2, hp, _, _⟩ := run_split_facts k false z hk x y
  have hp := hp hy
  rw [← f1.acc, f2.delivered_length]
  cases hr : ireadable (runFrom k false z (afInit k z) (x ++ y))
  · left
    have hC := not_ireadable_eq f2.inv hr
    rw [dcount_unbuffered f2.inv]; omega
  · right; simpa [srcValid] using hr

/-- The buffered variant needs one more read-clock edge (the output register). -/
theorem afifo_eventually_readable_buffered (k : Nat) (z : α) (hk : 1 ≤ k) (x y : List (AFIn α))
    (hy : 3 ≤ readTicks y) :
    (accepted k true z (afInit k z) x).length ≤ (delivered k true z (afInit k z) (x ++ y)).length ∨
      srcValid true (runFrom k true z (afInit k z) (x ++ y)) = true := by
  obtain ⟨g1, g2, f1, f2, _, hp, _⟩ := run_split_facts k true z hk x y
  rw [← f1.acc, f2.delivered_length]
  rcases hp rfl hy with hv | hd'
  · right; simpa [srcValid] using hv
  · left; exact hd'


/-- After every schedule: `sink.ready` is low if and only if exactly `2^k` tokens are
    outstanding with respect to the consume pointer *as seen through the write-side synchroniser* (`Cw2`, a
    genuine earlier value of the consume counter).  The FIFO never refuses a token for any other reason
    (no capacity is lost to the Gray comparison) and never accepts one beyond it. -/
theorem afifo_writable_exact (k : Nat) (b : Bool) (z : α) (hk : 1 ≤ k) (ins : List (AFIn α)) :
    let s := runFrom k b z (afInit k z) ins
    let acc := accepted k b z (afInit k z) ins
    ∃ C Cw2 : Nat, Cw2 ≤ C ∧ C ≤ acc.length ∧ s.cbin = C % 2 ^ (k + 1) ∧ s.cw2 = gray (Cw2 % 2 ^ (k + 1)) ∧
      (writable k s = false ↔ acc.length = Cw2 + 2 ^ k) := by
  intro s acc
  obtain ⟨g, h, ha, _⟩ := run_init_facts k b z hk ins
  rw [show acc = g.acc from ha.symm]
  exact ⟨g.r.N, g.r.N2, le_trans h.r.o1 h.r.o2, le_trans h.avail (le_trans h.w.o1 (h.len ▸ h.w.o2)), h.r.bin, h.r.r2,
    writable_exact hk h⟩

/-- Mirror image of `afifo_eventually_readable`: take any schedule `x`, then any
    continuation `y` with at least two write-clock edges (nothing assumed about the read clock, the ratio or the
    resolutions).  Then `sink.ready` is high, or at least `2^k` tokens have been accepted beyond those handed
    over during `x` (the storage really is full). -/
theorem afifo_eventually_writable (k : Nat) (b : Bool) (z : α) (hk : 1 ≤ k) (x y : List (AFIn α))
    (hy : 2 ≤ writeTicks y) :
    writable k (runFrom k b z (afInit k z) (x ++ y)) = true ∨
      (delivered k b z (afInit k z) x).length + 2 ^ k ≤ (accepted k b z (afInit k z) (x ++ y)).length := by
  obtain ⟨g1, g2, f1, f2, _, _, hp⟩ := run_split_facts k b z hk x y
  have hp := hp hy
  cases hw : writable k (runFrom k b z (afInit k z) (x ++ y))
  · right
    have he := (writable_exact hk f2.inv).1 hw
    have hdl : (delivered k b z (afInit k z) x).length ≤ g1.r.N := f1.delivered_length ▸ dcount_le _ _
    rw [← f2.acc, he]
    omega
  · left; rfl

/-- The bound of `afifo_capacity` is reached, for every depth: `2^k` write-clock
    edges without any read-clock edge accept `2^k` tokens, the next one is refused (`sink.ready` low), and
    nothing is handed over.  Together with `afifo_capacity`: the capacity is exactly the depth. -/
theorem afifo_capacity_tight (k : Nat) (b : Bool) (z : α) (hk : 1 ≤ k) (toks : List α) (d : α)
    (hn : toks.length = 2 ^ k) :
    accepted k b z (afInit k z) (toks.map wOnly ++ [wOnly d]) = toks ∧
    delivered k b z (afInit k z) (toks.map wOnly ++ [wOnly d]) = [] ∧
    writable k (runFrom k b z (afInit k z) (toks.map wOnly)) = false := by
  obtain ⟨f1, f2, hw⟩ := fill_full k b z hk toks hn
  have s1 := accepted_append k b z (toks.map wOnly) [wOnly d] (afInit k z)
  have s2 := delivered_append k b z (toks.map wOnly) [wOnly d] (afInit k z)
  refine ⟨?_, ?_, hw⟩
  · rw [s1, f1]; simp [accepted, accNow, wce, hw]
  · rw [s2, f2]; simp [delivered, delNow, wOnly]

/-- Non-vacuity / the statement on depth 4: four tokens go in, the fifth does not. -/
example : accepted 2 false 0 (afInit 2 0) ([1, 2, 3, 4, 5].map wOnly) = [1, 2, 3, 4] := by decide +kernel

/-! ### Constructor arithmetic (`stream.AsyncFIFO.__init__` → Migen `AsyncFIFO.__init__`)

  The constructor does NOT round: `depth=None` means 4, `depth < 4` fails the assertion, and a depth that is not a
  power of two makes `log2_int(depth, need_pow2=True)` raise.  `afifoCtor` is compared with the real constructor
  over a grid of requested depths on every run (`call afifo_ctor`). -/

/-- The constructor builds a FIFO with `depth_bits = k` exactly when the requested depth
    (4 when omitted) equals `2^k` with `k ≥ 2`; every other request is refused. -/
theorem afifo_ctor_spec (depth : Option Nat) (k : Nat) :
    afifoCtor depth = some k ↔ 2 ≤ k ∧ depth.getD 4 = 2 ^ k := afifoCtor_spec depth k

/-- No rounding: a requested depth that is not a power of two (or is below 4) is refused. -/
theorem afifo_ctor_refuses (depth : Option Nat) (h : ∀ k, 2 ≤ k → depth.getD 4 ≠ 2 ^ k) :
    afifoCtor depth = none := by
  cases e : afifoCtor depth with
  | none => rfl
  | some k => exact absurd ((afifoCtor_spec depth k).1 e).2 (h k ((afifoCtor_spec depth k).1 e).1)

/-- Whatever depth the constructor accepts is really available: the FIFO it builds
    takes exactly that many tokens with the consumer idle (and by `afifo_capacity` never holds more, plus the one
    word of the output register when buffered). -/
theorem afifo_ctor_capacity (depth : Option Nat) (b : Bool) (z : α) (k : Nat) (h : afifoCtor depth = some k)
    (toks : List α) (d : α) (hn : toks.length = depth.getD 4) :
    accepted k b z (afInit k z) (toks.map wOnly ++ [wOnly d]) = toks ∧
    afifoCapacity k b = depth.getD 4 + (if b then 1 else 0) := by
  obtain ⟨hk, hd⟩ := (afifoCtor_spec depth k).1 h
  exact ⟨(afifo_capacity_tight k b z (by omega) toks d (by rw [hn, hd])).1, by simp [afifoCapacity, hd]⟩

example : afifoCtor none = some 2 ∧ afifoCtor (some 64) = some 6 ∧ afifoCtor (some 2) = none ∧
    afifoCtor (some 12) = none ∧ afifoCtor (some 0) = none := by decide +kernel


/-! ### BusSynchronizer (`litex/gen/genlib/cdc.py`)

  Schedules are `List BSIn`: per instant which of the two clocks tick (`ti`, `tO`), how the first flop of the
  request, acknowledge and data synchronisers resolves if its source changes in that instant (`mPing`, `mPong`,
  `mBuf` per bit), and the word on `i`.

  Full statement (false, see the negative witness below):
    ∀ w t ins, (bsRun w t (bsInit t) ins).o ∈ 0 :: (bsInputs ins).map (· % 2 ^ w)
  It holds whenever the retry timer does not expire spuriously (`NoTimeout`), and that is guaranteed by a bound
  on the clock drift together with a long enough time-out. -/

/-- As long as the retry timer never expires, every word shown on `o` is the
    reset value or a word that was present on `i` at one i-clock edge — never a bit-wise mixture — for every
    interleaving of the clocks and every per-bit resolution of all three synchronisers. -/
theorem bussync_coherent_partial (w t : Nat) (ins : List BSIn) (h : NoTimeout w t (bsInit t) ins) :
    (bsRun w t (bsInit t) ins).o ∈ 0 :: (bsInputs ins).map (· % 2 ^ w) := by
  simpa using bsCoherent_run w t ins (bsInit t) 0 [0] (bsInvP_init t) (List.mem_singleton.2 rfl) (List.mem_singleton.2 rfl) h

/-- If the i clock never has more than `R` consecutive edges without an
    o-clock edge (`IBurst R`; for free-running clocks implied by "i at most `R` times faster than o", see
    `bussync_coherent_periodic`; no assumption in the other direction) and the time-out is at least `4R + 7`
    i-cycles, the timer never expires.  (With the default `t = 128` every `R ≤ 30` qualifies.) -/
theorem bussync_no_spurious_timeout (w t R : Nat) (ht : 4 * R + 7 ≤ t) (ins : List BSIn)
    (hb : IBurst R 0 ins) : NoTimeout w t (bsInit t) ins :=
  noTimeout_of_burst w t R ht ins _ _ (tInv_init t R ht) hb

/-- The property as stated: bounded drift and a time-out longer than the round trip give coherence. -/
theorem bussync_coherent_of_ratio (w t R : Nat) (ht : 4 * R + 7 ≤ t) (ins : List BSIn)
    (hb : IBurst R 0 ins) :
    (bsRun w t (bsInit t) ins).o ∈ 0 :: (bsInputs ins).map (· % 2 ^ w) :=
  bussync_coherent_partial w t ins (bussync_no_spurious_timeout w t R ht ins hb)

/-! #### The drift bound in terms of clock frequencies, the default time-out, and the users in the tree

  `IBurst R` is a property of the edge interleaving.  For two free-running periodic clocks (`perClocks pi po`:
  i-clock period `pi`, o-clock period `po`, any phase `no < ni + po`) it follows from `po ≤ R * pi`, i.e. from
  "the i clock is at most `R` times faster than the o clock" — no assumption in the other direction.
  With the default `timeout = 128` the largest admissible `R` is 30 (`4 * 30 + 7 = 127 ≤ 128`).
  LiteX itself contains NO instantiation of `BusSynchronizer` (nor of `ElasticBuffer`); every user is out of
  tree (LiteDRAM/LiteEth/LitePCIe/… PHYs) and passes the default time-out: each such site is covered by
  `bussync_coherent_default` whenever its i clock is at most 30 times faster than its o clock. -/

/-- Free-running clocks with `po ≤ R * pi` and a time-out of at least `4R + 7`
    i-cycles: every word on `o` is a word that was on `i`, for every phase, every resolution and every input. -/
theorem bussync_coherent_periodic (w t R pi po n ni no : Nat) (hpi : 1 ≤ pi) (hr : po ≤ R * pi)
    (hph : no < ni + po) (ht : 4 * R + 7 ≤ t) (ins : List BSIn)
    (hclk : bsClocks ins = perClocks pi po n ni no) :
    (bsRun w t (bsInit t) ins).o ∈ 0 :: (bsInputs ins).map (· % 2 ^ w) :=
  bussync_coherent_of_ratio w t R ht ins
    (iburst_of_periodic pi po R hpi hr n ins ni no 0 hclk (by omega))

/-- The default `timeout = 128`: coherent whenever the i clock is at most 30 times faster than the o clock. -/
theorem bussync_coherent_default (w pi po n ni no : Nat) (hpi : 1 ≤ pi) (hr : po ≤ 30 * pi)
    (hph : no < ni + po) (ins : List BSIn) (hclk : bsClocks ins = perClocks pi po n ni no) :
    (bsRun w 128 (bsInit 128) ins).o ∈ 0 :: (bsInputs ins).map (· % 2 ^ w) :=
  bussync_coherent_periodic w 128 30 pi po n ni no hpi hr hph (by omega) ins hclk

/-- The time-out bound `4R + 7` of `bussync_no_spurious_timeout` is exact (kernel-checked for `R = 1, 2, 3`
    below): with `t = 4R + 6` and, between two o-clock edges, one coincident i-edge that resolves to the old value
    followed by `R` i-only edges (still within `IBurst R`), the timer expires. -/
def bsTightSched (R : Nat) : List BSIn :=
  (List.replicate 6 (⟨true, true, false, false, 0, 0⟩ :: List.replicate R ⟨true, false, false, false, 0, 0⟩)).flatten

example : IBurst 1 0 (bsTightSched 1) ∧ ¬ NoTimeout 2 (4 * 1 + 6) (bsInit (4 * 1 + 6)) (bsTightSched 1) := by decide +kernel
example : IBurst 2 0 (bsTightSched 2) ∧ ¬ NoTimeout 2 (4 * 2 + 6) (bsInit (4 * 2 + 6)) (bsTightSched 2) := by decide +kernel
example : IBurst 3 0 (bsTightSched 3) ∧ ¬ NoTimeout 2 (4 * 3 + 6) (bsInit (4 * 3 + 6)) (bsTightSched 3) := by decide +kernel

/-- Non-vacuity of the periodic-clock hypothesis: `pi = 10`, `po = 30`, phase 7 is a `perClocks` schedule with
    `R = 3`, on which a word crosses with `t = 19`. -/
example :
    let cl := perClocks 10 30 40 0 7
    let ins : List BSIn := cl.map fun c => ⟨c.1, c.2, true, true, 3, 2⟩
    bsClocks ins = cl ∧ (bsRun 2 19 (bsInit 19) ins).o = 2 := by decide +kernel

/-- "After the input has been stable for long enough the output reflects it":
    after any prefix `x`, let the input word be held at `v` during a continuation that consists of at least 12
    consecutive blocks in each of which both clocks have at least one edge (any interleaving, any resolution;
    12 ring advances = finishing the hand-shake in progress, one full round that loads `v`, and the four
    output-side steps).  If the retry timer does not expire, `o = v` at the end. -/
theorem bussync_eventually (w t v : Nat) (x : List BSIn) (blocks : List (List BSIn))
    (hn : NoTimeout w t (bsInit t) (x ++ blocks.flatten))
    (hb : ∀ blk ∈ blocks, 1 ≤ bsITicks blk ∧ 1 ≤ bsOTicks blk) (hlen : 12 ≤ blocks.length)
    (hv : ∀ e ∈ blocks.flatten, e.i % 2 ^ w = v) :
    (bsRun w t (bsInit t) (x ++ blocks.flatten)).o = v := by
  obtain ⟨hn1, hn2⟩ := noTimeout_append w t x blocks.flatten _ hn
  obtain ⟨p, hp⟩ := bsInvP_run w t x _ _ (bsInvP_init t) hn1
  rw [bsRun_append]
  exact held_word_crosses w t v hp blocks hn2 hb hlen hv

/-- Non-vacuity: a schedule with drift bound `R = 1`, time-out 11, on which a word really crosses
    (`i = 2` is loaded into `ibuffer` and appears on `o`). -/
example :
    let e : Nat → BSIn := fun v => ⟨true, true, true, true, 3, v⟩
    let ins := List.replicate 20 (e 2)
    IBurst 1 0 ins ∧ (bsRun 2 11 (bsInit 11) ins).o = 2 := by decide +kernel

/-- **Negative witness** for the region excluded by the hypothesis (`t = 1`: the retry time-out is shorter than
    one request/acknowledge round trip).  Requests are re-sent while one is in flight; `ibuffer` is reloaded
    (0 → 3) in the very instant in which the output side samples it for the word it shows next, and `o`
    becomes 1 although `i` only ever carried 0 and 3.  The same schedule is replayed on the real module on every
    run (`corpus/C05/bussync_t1_incoherent.json`). -/
example :
    let ins : List BSIn :=
      [⟨true, true, true, false, 0, 0⟩, ⟨false, true, false, false, 0, 0⟩, ⟨false, true, false, false, 0, 0⟩,
       ⟨true, true, false, true, 0, 0⟩, ⟨true, true, true, false, 0, 0⟩, ⟨true, true, false, false, 1, 3⟩,
       ⟨false, true, false, false, 0, 0⟩, ⟨false, true, false, false, 0, 0⟩]
    ¬ ((bsRun 2 1 (bsInit 1) ins).o ∈ 0 :: (bsInputs ins).map (· % 2 ^ 2)) ∧
      ¬ NoTimeout 2 1 (bsInit 1) ins := by
  decide +kernel

/-- With `width = 1` the module is a bare two-flop `MultiReg`: `o` is the reset value or
    the value `i` had at an earlier o-clock edge; a single bit cannot be torn. -/
theorem bussync_width1 (ins : List (Bool × Bool)) :
    (ins.foldl (fun s x => bs1Step s x.1 x.2) ⟨false, false⟩).r2 ∈
      false :: (ins.filter (·.1)).map (·.2) := by
  suffices h : ∀ (s : BS1State) (L : List Bool), s.r1 ∈ L → s.r2 ∈ L →
      (ins.foldl (fun s x => bs1Step s x.1 x.2) s).r2 ∈ L ++ (ins.filter (·.1)).map (·.2) by
    simpa using h ⟨false, false⟩ [false] (by simp) (by simp)
  induction ins with
  | nil => intro s L _ h2; simpa using h2
  | cons x xs ih =>
    intro s L h1 h2
    obtain ⟨tO, i⟩ := x
    cases tO
    · simpa [bs1Step] using ih s L h1 h2
    · have := ih (bs1Step s true i) (L ++ [i]) (by simp [bs1Step]) (by simp [bs1Step, h1])
      simpa [List.append_assoc] using this

/-! ### PulseSynchronizer (used by `stream.Monitor` for its reset/latch pulses, and inside BusSynchronizer) -/

/-- For every schedule and resolution: the synchroniser never invents a pulse (output pulses so far plus toggles
    still in the chain never exceed the input pulses). -/
theorem pulsesync_no_spurious (ins : List PSIn) :
    psSeen psInit ins + psFlight (psRun psInit ins) ≤ psSent ins := by
  simpa [psFlight, psInit] using ps_seen_le ins psInit

/-- If every input pulse comes only after the previous one was caught by the first
    flop (`PSpaced`; `pulsesync_spacing` derives it from a drift bound and a minimum gap), every pulse is delivered exactly once:
    input pulses = output pulses + toggles in flight, at most 3 in flight, and none in flight after three
    o-clock edges without a new pulse (`pulsesync_drain`).
    Full statement without the spacing hypothesis is false: two pulses between two o-clock edges cancel. -/
theorem pulsesync_partial (ins : List PSIn) (h : PSpaced false ins) :
    psSent ins = psSeen psInit ins + psFlight (psRun psInit ins) ∧ psFlight (psRun psInit ins) ≤ 3 := by
  refine ⟨?_, psFlight_le _⟩
  have := ps_seen_eq ins psInit false (by simp [psInit]) h
  simpa [psFlight, psInit] using this.symm

/-- Draining: three o-clock edges without a new input pulse empty the chain. -/
theorem pulsesync_drain (s : PSState) (x1 x2 x3 : PSIn) (h1 : x1.tO = true ∧ (x1.ti && x1.i) = false)
    (h2 : x2.tO = true ∧ (x2.ti && x2.i) = false) (h3 : x3.tO = true ∧ (x3.ti && x3.i) = false) :
    psFlight (psStep (psStep (psStep s x1) x2) x3) = 0 := by
  rw [ps_shift s x1 h1, ps_shift _ x2 h2, ps_shift _ x3 h3]
  simp [psFlight]

/-- Negative witness: two input pulses with no o-clock edge in between are both lost. -/
example :
    let ins : List PSIn := [⟨true, false, false, true⟩, ⟨true, false, false, true⟩,
                            ⟨false, true, false, false⟩, ⟨false, true, false, false⟩, ⟨false, true, false, false⟩]
    psSent ins = 2 ∧ psSeen psInit ins = 0 ∧ psFlight (psRun psInit ins) = 0 := by decide +kernel

/-! #### Exact minimum pulse spacing as a function of the clock ratio

  `PBurst R`: at most `R` i-clock edges fall between two o-clock edges — the same recursion as `IBurst R` of the bus
  synchroniser, for which `iburst_of_periodic` derives it from "the i clock is at most `R` times faster than the o clock,
  any phase" (for `PBurst` that reading is the intent, not a theorem); `R = 1` covers every o clock that is at least as
  fast as the i clock.
  `PGap n`: two pulses are separated by at least `n` pulse-free i-clock edges (pulse period ≥ `n + 1` i-cycles). -/

/-- Under drift bound `R`, pulses separated by at least `R + 1` pulse-free i-clock edges
    (pulse period ≥ `R + 2` i-cycles) are each delivered exactly once, whatever the phase, the coincidences and the
    resolutions. -/
theorem pulsesync_spacing (R : Nat) (ins : List PSIn) (hb : PBurst R 0 ins) (hg : PGap (R + 1) (R + 1) ins) :
    psSent ins = psSeen psInit ins + psFlight (psRun psInit ins) ∧ psFlight (psRun psInit ins) ≤ 3 :=
  pulsesync_partial ins (pspaced_of_gap R ins 0 (R + 1) false (Nat.zero_le _) (by simp) hb hg)

/-- The bound is exact for every `R`: with one pulse-free i-edge fewer (`PGap R`)
    there is a schedule inside the same drift bound on which two pulses are sent and none ever comes out
    (`psTight R`, replayed on the real `PulseSynchronizer` for several `R` on every run). -/
theorem pulsesync_spacing_tight (R : Nat) :
    PBurst R 0 (psTight R) ∧ PGap R R (psTight R) ∧ psSent (psTight R) = 2 ∧
    psSeen psInit (psTight R) = 0 ∧ psFlight (psRun psInit (psTight R)) = 0 := ps_tight R

/-- Non-vacuity of `pulsesync_spacing` (`R = 1`, pulses two pulse-free i-edges apart, both delivered). -/
example :
    let p : PSIn := ⟨true, true, false, true⟩
    let n : PSIn := ⟨true, false, false, false⟩
    let o : PSIn := ⟨false, true, false, false⟩
    let ins := [p, n, o, n, p, o, o, o, o]
    PBurst 1 0 ins ∧ PGap 2 2 ins ∧ psSent ins = 2 ∧ psSeen psInit ins = 2 := by decide +kernel

/-- The Monitor's latch strobe under the same spacing rule. -/
theorem monitor_latch_spacing (w R : Nat) (ins : List MonIn) (hb : PBurst R 0 (ins.map monLatIn))
    (hg : PGap (R + 1) (R + 1) (ins.map monLatIn)) :
    psSent (ins.map monLatIn) = monLatches w monInit ins + psFlight (monRun w monInit ins).lat := by
  rw [mon_latches, mon_lat_run]
  exact (pulsesync_spacing R (ins.map monLatIn) hb hg).1

/-! ### Common reset (`ClockDomainCrossing(with_common_rst=True)`)

  `runRst` runs instants in which the common reset (`ResetSignal(cd_from) | ResetSignal(cd_to)`) is high;
  `afStepR … false = afStep` (`afStepR_false`), so everything above applies between resets. -/

/-- From ANY state `s` (reachable or not — e.g. in the middle of traffic): if the common
    reset is held while each clock has one edge (`x`) and then two more edges each (`y`) — in any interleaving and
    with any resolution of the synchroniser flops, which are reset-less and keep sampling — the FIFO is exactly in
    its initial state (only the reset-less output register of the buffered variant keeps a stale word, with
    `valid` low). -/
theorem cdc_common_rst_inv (k : Nat) (b : Bool) (z : α) (s : AFState α) (x y : List (AFIn α))
    (hx : 1 ≤ writeTicks x ∧ 1 ≤ readTicks x) (hy : 2 ≤ writeTicks y ∧ 2 ≤ readTicks y) :
    runRst k b z s (x ++ y) = { afInit k z with bdat := (runRst k b z s (x ++ y)).bdat } :=
  rst_state k b z x y s hx hy

/-- … hence after such a reset what the crossing hands over is a prefix of what it accepts after the reset (exactly
    once, in order, unaltered), for every continuation. -/
theorem cdc_common_rst_token_rel (k : Nat) (b : Bool) (z : α) (hk : 1 ≤ k) (s : AFState α)
    (x y ins : List (AFIn α))
    (hx : 1 ≤ writeTicks x ∧ 1 ≤ readTicks x) (hy : 2 ≤ writeTicks y ∧ 2 ≤ readTicks y) :
    delivered k b z (runRst k b z s (x ++ y)) ins <+: accepted k b z (runRst k b z s (x ++ y)) ins :=
  delivered_prefix_of_inv k b z hk ins _ (rst_inv k b z x y s hx hy)

/-- Negative witness: a reset pulse lasting a single coincident edge leaves the old produce pointer in the
    reset-less synchroniser flops; `source.valid` rises and a word is handed over although nothing has been
    accepted since the reset.  (Replayed on the real module, which uses the simulator's combinational stand-in
    for `AsyncResetSynchronizer`; a real reset synchroniser stretches the pulse.) -/
example :
    let w (d : Nat) : AFIn Nat := ⟨true, false, 0, 0, true, d, false⟩
    let r : AFIn Nat := ⟨false, true, 0, 0, false, 0, true⟩
    let s1 := runFrom 2 false 0 (afInit 2 0) [w 5, w 6, ⟨false, true, 0, 0, false, 0, false⟩,
                                               ⟨false, true, 0, 0, false, 0, false⟩]
    let s2 := runRst 2 false 0 s1 [⟨true, true, 0, 0, false, 0, false⟩]
    accepted 2 false 0 s2 [r] = [] ∧ delivered 2 false 0 s2 [r] = [0] := by decide +kernel

/-! #### Reset pulses of ARBITRARY length: the two domains are released by their own reset synchronisers

  On hardware each private domain's reset is the output of a vendor `AsyncResetSynchronizer` (two flops preset
  asynchronously by `ResetSignal(cd_from) | ResetSignal(cd_to)`, modelled by `arsStep`; structure compared with
  `XilinxAsyncResetSynchronizerImpl` on every run).  It stretches any pulse to two edges of its own clock, so the
  two sides leave reset at DIFFERENT times, and the reset-less synchroniser flops of the slower side are still
  stale when the faster side is already running.  `crStep` composes the FIFO with per-domain reset levels
  (`afStepR2`, tied to `ClockDomainCrossing` with independently driven domain resets) and the two synchronisers. -/

/-- Any pulse, however short (even one that covers no clock edge), holds the domain in reset through the next two
    edges of its clock and releases it synchronously after the second. -/
theorem ars_stretch (s : ARSState) (t : Bool) :
    let s0 := arsStep s t true
    arsOut s0 false = true ∧ arsOut (arsStep s0 true false) false = true ∧
    arsOut (arsStep (arsStep s0 true false) true false) false = false ∧
    arsStep s0 false false = s0 := by
  cases t <;> simp [arsStep, arsOut]

/-- From ANY state of FIFO and synchronisers: if the raw common reset is high while each
    clock has at least one edge (`x`; nothing more is asked of the pulse length) and then low (`y`, arbitrary
    traffic, any interleaving and resolution), the crossing — with the not-yet-flushed synchroniser flops of a
    domain still in reset read as 0 (`patch`) — is, instant by instant, a freshly initialised FIFO whose producer
    is held off while the write domain is in reset and whose consumer is held off while the read domain is
    (`crMasked`).  Two edges of each clock after the pulse both domains are released and the states coincide
    exactly, so every theorem above (token relation, capacity, progress) applies from the reset on. -/
theorem cdc_sync_rst_sim (k : Nat) (b : Bool) (z : α) (S0 : CRState α) (x y : List (AFIn α))
    (hx : 1 ≤ writeTicks x ∧ 1 ≤ readTicks x) :
    let S1 := crRun k b z true S0 x
    let S2 := crRun k b z false S1 y
    let fresh := runFrom k b z { afInit k z with bdat := S1.f.bdat } (crMasked ⟨true, true⟩ ⟨true, true⟩ y)
    patch S2.aw S2.ar S2.f = fresh ∧
    (2 ≤ writeTicks y → 2 ≤ readTicks y → S2.f = fresh ∧ S2.aw = ⟨false, false⟩ ∧ S2.ar = ⟨false, false⟩) := by
  intro S1 S2 fresh
  have hne : x ≠ [] := by rintro rfl; simp [writeTicks] at hx
  obtain ⟨hf, hars⟩ := crRun_true k b z x S0
  obtain ⟨haw, har⟩ := hars hne
  obtain ⟨hwz, hrz⟩ := rst_zero k b z x S0.f (Or.inl hx.1) (Or.inl hx.2)
  rw [← hf] at hwz hrz
  exact sync_after_pulse k b z S1 haw har hwz hrz y

/-- The token relation for the fresh FIFO that `cdc_sync_rst_sim` compares the crossing with (initial state, any
    word `d` in the reset-less output register): what it hands over is a prefix of what it accepts, on every
    schedule — in particular on the masked schedule `crMasked … y` of that theorem. -/
theorem cdc_sync_rst_token_rel (k : Nat) (b : Bool) (z d : α) (hk : 1 ≤ k) (ins : List (AFIn α)) :
    delivered k b z { afInit k z with bdat := d } ins <+: accepted k b z { afInit k z with bdat := d } ins :=
  delivered_prefix_of_inv k b z hk ins _ (inv_init_bdat k b z d)

/-- Negative witness for the hypothesis "the pulse covers an edge of EACH clock" (depth 4): three tokens cross,
    then a reset pulse covers one write edge but no read edge.  The write side is released after two write edges
    while the read side has not even been reset: it compares its fresh pointer with the stale consume pointer 3
    and accepts SEVEN tokens into four slots before any read edge. -/
example :
    let wr (d : Nat) : AFIn Nat := ⟨true, false, 0, 0, true, d, false⟩
    let rd : AFIn Nat := ⟨false, true, 0, 0, false, 0, true⟩
    let S0 : CRState Nat := ⟨runFrom 2 false 0 (afInit 2 0)
      [wr 1, wr 2, wr 3, rd, rd, rd, rd, rd, ⟨true, false, 0, 0, false, 0, false⟩,
       ⟨true, false, 0, 0, false, 0, false⟩], ⟨false, false⟩, ⟨false, false⟩⟩
    let S1 := crRun 2 false 0 true S0 [⟨true, false, 0, 0, false, 0, false⟩]
    let S2 := crRun 2 false 0 false S1 ((List.range 10).map fun n => wr (10 + n))
    S0.f.cbin = 3 ∧ S1.f.pbin = 0 ∧ S2.f.pbin = 7 ∧ S2.f.cbin = 3 ∧ S2.aw = ⟨false, false⟩ := by decide +kernel

/-- Non-vacuity of `cdc_sync_rst_sim`: a pulse of one coincident edge, then traffic; after release the token
    written after the reset comes out. -/
example :
    let both (v : Bool) (d : Nat) (r : Bool) : AFIn Nat := ⟨true, true, 0, 0, v, d, r⟩
    let S1 := crRun 2 false 0 true ⟨afInit 2 0, ⟨false, false⟩, ⟨false, false⟩⟩ [both false 0 false]
    let y := [both true 9 true, both true 9 true, both true 5 true, both false 0 true, both false 0 true,
              both false 0 true]
    let S2 := crRun 2 false 0 false S1 y
    S2.aw = ⟨false, false⟩ ∧ delivered 2 false 0 (afInit 2 0) (crMasked ⟨true, true⟩ ⟨true, true⟩ y) = [5] := by
  decide +kernel

/-! ### `_FIFOWrapper`: payload AND param (and first/last) cross unaltered

  `FTok` is the endpoint token; `packTok`/`unpackTok` are `fifo_in.raw_bits()` / `fifo_out.raw_bits()` with the
  field order payload, param, first, last.  The driver's `afifo_tok` machine is compared field by field with the
  real `stream.AsyncFIFO` built from an `EndpointDescription` with payload and param layouts. -/

/-- Packing is lossless up to the truncation of the fields to their widths. -/
theorem fifowrapper_roundtrip (wp wq : Nat) (t : FTok) : unpackTok wp wq (packTok wp wq t) = normTok wp wq t :=
  unpack_pack wp wq t

/-- For every schedule the endpoint tokens handed over at the source are exactly
    the first `n` endpoint tokens accepted at the sink — payload, param, first and last, each truncated to its
    width (inputs that fit their signals are unchanged: `normTok` is then the identity). -/
theorem fifowrapper_token_rel (k : Nat) (b : Bool) (wp wq : Nat) (hk : 1 ≤ k) (ins : List (AFIn FTok)) :
    wrapDelivered k b wp wq (afInit k 0) ins =
      ((wrapAccepted k b wp wq (afInit k 0) ins).map (normTok wp wq)).take
        (wrapDelivered k b wp wq (afInit k 0) ins).length := by
  have hd := wrap_delivered k b wp wq ins (afInit k 0)
  have ha := wrap_accepted k b wp wq ins (afInit k 0)
  have hrel := afifo_token_rel k b (0 : Nat) hk (ins.map (wrapIn wp wq))
  rw [hd, List.length_map]
  conv => lhs; rw [hrel, ← ha]
  rw [← List.map_take, ← List.map_take, List.map_map]
  congr 1
  funext t
  exact unpack_pack wp wq t

/-- A token whose fields fit their signals is what the hardware represents: the truncation in `fifowrapper_token_rel`
    then changes nothing. -/
theorem normTok_id (wp wq : Nat) (t : FTok) (h1 : t.payload < 2 ^ wp) (h2 : t.param < 2 ^ wq) :
    normTok wp wq t = t := by
  obtain ⟨a, c, f, l⟩ := t
  simp only [normTok] at *
  rw [Nat.mod_eq_of_lt h1, Nat.mod_eq_of_lt h2]

/-- Non-vacuity: a token with a non-zero param crosses with its param. -/
example :
    let t : FTok := ⟨5, 3, true, false⟩
    let ins : List (AFIn FTok) := [⟨true, false, 0, 0, true, t, false⟩, ⟨false, true, 0, 0, false, t, true⟩,
      ⟨false, true, 0, 0, false, t, true⟩, ⟨false, true, 0, 0, false, t, true⟩]
    wrapDelivered 2 false 4 2 (afInit 2 0) ins = [t] := by decide +kernel

/-! ### AXILiteClockDomainCrossing: five crossings, the response channels in the opposite direction -/

/-- For every interleaving of the two clocks, every resolution of all ten synchronisers
    and every behaviour of master and slave: on each of the five channels the tokens handed over are a prefix of
    the tokens accepted (exactly once, in order, unaltered), with at most `2^k` in flight. -/
theorem axilite_cdc_rel (k : Nat) (z : α) (hk : 1 ≤ k) (c : AxChan) (ins : List (AxIn α)) :
    axDelivered k z c (axInit k z) ins <+: axAccepted k z c (axInit k z) ins ∧
    (axAccepted k z c (axInit k z) ins).length ≤ (axDelivered k z c (axInit k z) ins).length + 2 ^ k := by
  rw [ax_accepted_ch, ax_delivered_ch, ax_init_ch]
  refine ⟨afifo_delivered_prefix k false z hk _, ?_⟩
  simpa using afifo_capacity k false z hk (ins.map (axChanIn c))

/-- **Direction of every channel, as coded.**  AW, W and AR accept at `cd_from` edges and hand over at `cd_to`
    edges; B and R accept at `cd_to` edges (slave side) and hand over at `cd_from` edges (master side). -/
theorem axilite_direction (k : Nat) (z : α) (c : AxChan) (s : AxState α) (x : AxIn α) :
    (accNow k (s.ch c) (axChanIn c x) ≠ [] → (if c.fwd then x.tf else x.tt) = true) ∧
    (delNow false z (s.ch c) (axChanIn c x) ≠ [] → (if c.fwd then x.tt else x.tf) = true) :=
  ⟨accNow_tw, delNow_tr⟩

example : AxChan.fwd .aw = true ∧ AxChan.fwd .w = true ∧ AxChan.fwd .ar = true ∧
    AxChan.fwd .b = false ∧ AxChan.fwd .r = false := by decide +kernel

/-- The product really is a product: channel `c` evolves as a single FIFO on its own projection of the
    schedule, whatever happens on the other four channels. -/
theorem axilite_channels_independent (k : Nat) (z : α) (c : AxChan) (ins : List (AxIn α)) :
    (axRun k z (axInit k z) ins).ch c = runFrom k false z (afInit k z) (ins.map (axChanIn c)) := by
  rw [ax_run_ch, ax_init_ch]

/-! ### `stream.Monitor` in a foreign clock domain: strobes out by PulseSynchronizer, count back by MultiReg -/

/-- The latch strobe never fires more often in the monitored domain than software issued it … -/
theorem monitor_latch_no_spurious (w : Nat) (ins : List MonIn) :
    monLatches w monInit ins ≤ psSent (ins.map monLatIn) := by
  rw [mon_latches]
  have := pulsesync_no_spurious (ins.map monLatIn)
  simp only [monInit] at *
  omega

/-- … and, if strobes are spaced (`PSpaced`), every strobe latches exactly once (at most 3 still in flight). -/
theorem monitor_latch_exactly_once_partial (w : Nat) (ins : List MonIn)
    (h : PSpaced false (ins.map monLatIn)) :
    psSent (ins.map monLatIn) = monLatches w monInit ins + psFlight (monRun w monInit ins).lat ∧
    psFlight (monRun w monInit ins).lat ≤ 3 := by
  rw [mon_latches, mon_lat_run]
  exact pulsesync_partial (ins.map monLatIn) h

/-- After any history `x`: if the latched count does not change during `y` (no
    latch or reset event lands) and `y` contains two sys-clock edges, the CSR status is exactly the latched count
    — for every interleaving and every per-bit resolution of the status synchroniser.
    Full statement ("the status is always a value the counter has held") is false: the count crosses through a
    plain `MultiReg`, see the witness below. -/
theorem monitor_status_partial (w : Nat) (x y : List MonIn)
    (hs : LatchedStable w (monRun w monInit x) y) (hy : 2 ≤ monSysTicks y) :
    (monRun w (monRun w monInit x) y).s2 = (monRun w monInit x).latd ∧
    (monRun w (monRun w monInit x) y).latd = (monRun w monInit x).latd := by
  obtain ⟨h1, h2⟩ := mon_status_progress w y _ 0 hs (Fill.zero _ _ _)
  exact ⟨h2.two (by omega), h1⟩

/-- Negative witness (replayed on the real `Monitor`, `corpus/C05/monitor_torn_status.json`): the latched count
    goes 1 → 2 (`01 → 10`) at a latch event that coincides with a sys edge whose first flop catches bit 1 new and
    bit 0 old; software then reads 3 although only two tokens were ever counted and no reset occurred. -/
example :
    let e (ts tc : Bool) (mc : Nat) (la en : Bool) : MonIn := ⟨ts, tc, false, false, mc, false, la, en⟩
    let tr : List MonIn := [e false true 0 false true, e true false 0 true false, e false true 0 false false,
      e false true 0 false false, e false true 0 false false, e false true 0 false true, e true false 0 false false,
      e true false 0 false false, e true false 0 true false, e false true 0 false false, e false true 0 false false,
      e true true 2 false false, e true false 0 false false]
    (monRun 2 monInit tr).s2 = 3 ∧ (monRun 2 monInit tr).cnt = 2 ∧ (monRun 2 monInit tr).latd = 2 := by decide +kernel

/-- Full statement, no hypothesis: whatever software reads is, bit by bit, taken from
    two values the latched count has really held — `status = mix m a b` with `a`, `b` in the history of
    `_count_latched` (reset value included).  In particular every bit that is equal in `a` and `b` is read
    correctly (`monitor_torn_read_hull`), and the status never shows a bit pattern foreign to both. -/
theorem monitor_status_mixture (w : Nat) (ins : List MonIn) :
    ∃ a b m, a ∈ monLatdHist w monInit ins ∧ b ∈ monLatdHist w monInit ins ∧
      (monRun w monInit ins).s2 = mix m a b := by
  have h0 := monLatdHist_head w monInit ins
  have hs : ∃ a b m, a ∈ monLatdHist w monInit ins ∧ b ∈ monLatdHist w monInit ins ∧ 0 = mix m a b :=
    ⟨_, _, 0, h0, h0, (mix_same 0 0).symm⟩
  exact mon_status_mix w (fun v => ∃ a b m, a ∈ monLatdHist w monInit ins ∧ b ∈ monLatdHist w monInit ins ∧ v = mix m a b)
    ins monInit (fun a ha b hb m => ⟨a, b, m, ha, hb, rfl⟩) ⟨fun _ => hs, fun _ => hs⟩

/-- Bounded error of a torn read: every bit set in both `a` and `b` is set in the mixture, every bit set in the
    mixture is set in `a` or `b` (so `a &&& b ≤ status ≤ a ||| b` bit-wise). -/
theorem monitor_torn_read_hull (m a b i : Nat) :
    ((a &&& b).testBit i = true → (mix m a b).testBit i = true) ∧
    ((mix m a b).testBit i = true → (a ||| b).testBit i = true) := by
  rw [mix_testBit, Nat.testBit_and, Nat.testBit_or]
  cases m.testBit i <;> cases a.testBit i <;> cases b.testBit i <;> simp

/-- Exactly which observations can be torn: only those sampled at a sys-clock
    edge that coincides with an edge of the monitored clock at which a latch or reset event changes the latched
    count.  On every schedule without such a coincidence (`NoCoincidentChange`; any interleaving and any resolution
    otherwise) the status is always a value the latched count really held.  The negative witness above has such a
    coincidence (checked below). -/
theorem monitor_status_coherent_partial (w : Nat) (ins : List MonIn) (h : NoCoincidentChange w monInit ins) :
    (monRun w monInit ins).s2 ∈ monLatdHist w monInit ins := by
  have h0 := monLatdHist_head w monInit ins
  exact mon_status_coherent w _ ins monInit h (fun _ ha => ha) ⟨fun _ => h0, fun _ => h0⟩

/-- The torn-read witness violates exactly that hypothesis, and its torn value 3 is the mixture of the two
    consecutive latched values 1 and 2 (`01`, `10`): inside the AND/OR hull `[0, 3]`, outside the history. -/
example :
    let e (ts tc : Bool) (mc : Nat) (la en : Bool) : MonIn := ⟨ts, tc, false, false, mc, false, la, en⟩
    let tr : List MonIn := [e false true 0 false true, e true false 0 true false, e false true 0 false false,
      e false true 0 false false, e false true 0 false false, e false true 0 false true, e true false 0 false false,
      e true false 0 false false, e true false 0 true false, e false true 0 false false, e false true 0 false false,
      e true true 2 false false, e true false 0 false false]
    ¬ NoCoincidentChange 2 monInit tr ∧ (monRun 2 monInit tr).s2 ∉ monLatdHist 2 monInit tr ∧
      (monRun 2 monInit tr).s2 = mix 2 1 2 := by decide +kernel

/-- Non-vacuity of `monitor_status_coherent_partial`: a latch of count 1 crosses without coincidence. -/
example :
    let e (ts tc : Bool) (la en : Bool) : MonIn := ⟨ts, tc, false, false, 0, false, la, en⟩
    let tr : List MonIn := [e false true false true, e true false true false, e false true false false,
      e false true false false, e false true false false, e false true false false, e true false false false,
      e true false false false]
    NoCoincidentChange 1 monInit tr ∧ (monRun 1 monInit tr).s2 = 1 := by decide +kernel

/-! ### Which primitive is selected (Python-level glue, tied through the driver's `call`) -/

/-- `ClockDomainCrossing` builds an asynchronous FIFO exactly when the two domains differ — with the requested
    depth (4 by default) and the requested output stage; otherwise a wire, or a `Buffer` when `buffered`. -/
theorem cdc_kind_spec (a b : String) (d : Option Nat) (buf : Bool) :
    (a ≠ b → cdcKind a b d buf = .afifo (d.getD 2) buf) ∧
    (a = b → cdcKind a b d buf = if buf then .buffer else .wire) := by
  constructor <;> intro h <;> simp [cdcKind, h]

open Litex.Stream Litex.Stream.Elem in
/-- Same-domain crossing, unbuffered (`sink.connect(source)`): every schedule delivers exactly what it accepts,
    in the same cycle. -/
theorem cdc_same_domain_wire_rel (ins : List (Stream.In α)) :
    (wire (α := α)).accepted () ins = (wire (α := α)).delivered () ins :=
  ((wire_queue (α := α)).token_rel ins).1.trans (List.append_nil _)

open Litex.Stream Litex.Stream.Elem in
/-- Same-domain crossing, buffered (`Buffer(layout)` = `PipeValid`): accepted = delivered ++ (the token in the
    register), so delivered is a prefix of accepted and at most one token is in flight. -/
theorem cdc_same_domain_buffered_rel (z : Stream.Tok α) (ins : List (Stream.In α)) :
    (pipeValid z).accepted (pipeValid z).init ins =
      (pipeValid z).delivered (pipeValid z).init ins ++ ((pipeValid z).runFrom (pipeValid z).init ins).inflight ∧
    (pipeValid z).delivered (pipeValid z).init ins <+: (pipeValid z).accepted (pipeValid z).init ins ∧
    ((pipeValid z).runFrom (pipeValid z).init ins).inflight.length ≤ 1 :=
  have h := (pipeValid_queue z).token_rel ins
  ⟨h.1, ((pipeValid_queue z).no_loss ins).1, h.2.1⟩

/-- **`uart._get_uart_fifo`**: an asynchronous FIFO if and only if the two domains differ (otherwise the
    buffered synchronous FIFO), with the requested depth. -/
theorem uart_fifo_async_iff (d : Nat) (a b : String) :
    (uartFifoKind d a b = .async d ↔ a ≠ b) ∧ (uartFifoKind d a b = .syncBuffered d ↔ a = b) := by
  by_cases h : a = b <;> simp [uartFifoKind, h]

/-- `UART(phy_cd)`: both FIFOs are crossings exactly when the PHY domain is not `sys` — TX from `sys` to
    `phy_cd`, RX from `phy_cd` to `sys`; the token relation of each is then `afifo_token_rel`. -/
theorem uart_fifos_cross_iff (dt dr : Nat) (p : String) :
    (uartTxFifo dt p = .async dt ∧ uartRxFifo dr p = .async dr ↔ p ≠ "sys") ∧
    (uartTxFifo dt p = .syncBuffered dt ∧ uartRxFifo dr p = .syncBuffered dr ↔ p = "sys") := by
  by_cases h : p = "sys"
  · subst h; simp [uartTxFifo, uartRxFifo, uartFifoKind]
  · have h' : ¬ "sys" = p := fun e => h e.symm
    simp [uartTxFifo, uartRxFifo, uartFifoKind, h, h']

/-! ### Users of the crossing: `UARTBone` / `UARTWishboneBridge` with `cd ≠ "sys"`

  The async-FIFO theorems assume that the sink handshake happens at write-clock edges and the source handshake at
  read-clock edges, i.e. that whatever drives a port of the crossing lives in that port's domain.  `uartBoneDomains`
  is the domain assignment `UARTBone.__init__` makes (compared on every run with the domains measured on the
  lowered real module: which clock the PHY's registers, the bridge's registers and each FIFO side really have),
  and the harness additionally audits every user's lowered fragment (no register of one domain is read by sync
  logic of another except through a synchroniser or FIFO storage) and drives `UARTBone(cd="uart")` end to end with
  unrelated clocks. -/

/-- With the assignment the code makes, every port of both crossings is driven
    from its own domain: `rx_cdc` is written in the PHY's domain and read in the bridge's, `tx_cdc` the other way
    round; there is a crossing exactly when the two domains differ, and then it is an asynchronous FIFO. -/
theorem uartbone_ports_in_own_domain (cd : String) :
    let d := uartBoneDomains cd
    (∀ p, d.rx = some p → p.1 = d.phy ∧ p.2 = d.bridge) ∧
    (∀ p, d.tx = some p → p.1 = d.bridge ∧ p.2 = d.phy) ∧
    (d.rx = none ↔ d.phy = d.bridge) ∧ (d.tx = none ↔ d.phy = d.bridge) ∧
    (d.phy ≠ d.bridge → cdcKind d.phy d.bridge none false = .afifo 2 false ∧
                        cdcKind d.bridge d.phy none false = .afifo 2 false) := by
  by_cases h : cd = "sys"
  · subst h; simp [uartBoneDomains]
  · have h' : ¬ "sys" = cd := fun e => h e.symm
    simp [uartBoneDomains, h, h', cdcKind]

/-- Hence (`cd ≠ "sys"`), with `tw` = edges of the PHY clock and `tr` = edges of the sys
    clock for the received bytes (and the other way round for the bytes to transmit), both byte streams satisfy the
    FIFO theorem: what the bridge (resp. the PHY) takes is a prefix of what the PHY (resp. the bridge) handed in —
    for every relation of the two clocks. -/
theorem uartbone_crossing_rel (cd : String) (hcd : cd ≠ "sys") (z : α) (ins : List (AFIn α)) :
    (uartBoneDomains cd).rx = some ((uartBoneDomains cd).phy, (uartBoneDomains cd).bridge) ∧
    (uartBoneDomains cd).tx = some ((uartBoneDomains cd).bridge, (uartBoneDomains cd).phy) ∧
    delivered 2 false z (afInit 2 z) ins <+: accepted 2 false z (afInit 2 z) ins := by
  refine ⟨by simp [uartBoneDomains, hcd], by simp [uartBoneDomains, hcd], afifo_delivered_prefix 2 false z (by omega) ins⟩

example : (uartBoneDomains "uart").show = "phy=uart bridge=sys rx=uart>sys tx=sys>uart" ∧
    (uartBoneDomains "sys").show = "phy=sys bridge=sys rx=none tx=none" := by decide +kernel

/-! ### Non-vacuity: a concrete schedule with coincident edges and both resolutions, on which tokens move -/

example :
    let ins : List (AFIn Nat) :=
      [⟨true, false, 0, 0, true, 5, false⟩,      -- write edge: token 5 accepted
       ⟨true, true, 0, 7, true, 6, true⟩,        -- both edges: token 6 accepted, read side catches the new pointer
       ⟨false, true, 0, 0, false, 0, true⟩,      -- read edges: pointer reaches produce_rdomain
       ⟨true, true, 7, 0, true, 7, true⟩,        -- both edges: 5 delivered, 7 accepted
       ⟨false, true, 0, 0, false, 0, true⟩]      -- 6 delivered
    accepted 2 false 0 (afInit 2 0) ins = [5, 6, 7] ∧ delivered 2 false 0 (afInit 2 0) ins = [5, 6] := by
  decide +kernel

end Litex.C05
