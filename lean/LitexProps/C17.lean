import LitexProofs.Codes.Stream
import LitexProofs.Codes.Regen
import LitexProofs.Codes.Build
/-
  C17 — 8b/10b coding is invertible, DC-balanced and comma-safe (`litex/soc/cores/code_8b10b.py`).

  `encode1 d k disp` / `decode1 word` transcribe `SingleEncoder` / `Decoder` over the ten tables regenerated from
  the repository on every run (`LitexModel/Generated/Tables8b10b.lean`).  A disparity bit is `false` for RD−,
  `true` for RD+; `rd` maps it to −1/+1.  `encodeSeq disp syms` is the successive encoding of a symbol sequence
  with chained running disparity, `serial` its bit stream in transmission order, `bal` = ones − zeros.
  The finite facts are checked by the kernel over the whole domain (all 256 bytes × K flag × both disparities,
  all 1024 decoder inputs); the sequence theorems are inductions over symbol sequences of arbitrary length.

  INVENTORY of the anchor file (every function / table / class — Lean model — theorems here).  The truth tables of
  the real elaborated `SingleEncoder`, `Decoder`, `Encoder(2..4)` netlists are regenerated on every run
  (`LitexModel/Generated/Netlist8b10b.lean`) and compared with the model by the kernel: `netlist_single_encoder`,
  `netlist_decoder`, `netlist_encoder_chain`.  How the machines and the helpers are tied otherwise (exhaustive
  comparison, co-exploration of netlist × model, seeded co-simulation, the instances run) is recorded in
  `harness/props/c17.py` and DESIGN.md §7.C17.

  K(x,y), D(x,y)                      `symK`, `symD`, `kList`                   `tables_construction` (kList = the K(..))
  disparity(word,nbits)               `disparity` (2·ones − n, as is `bal        `tables_construction` (the unbalanced
                                      (bitsMsb n w)`: `disparity_eq_ones`,      flags), `build_disparity10`
                                      `bal_bitsMsb`)
  reverse_table_flip, reverse_table   `reverseTableFlip`, `reverseTable`        `tables_construction` (the 4 dumped reverse
    (ValueError on collisions)        (`none` = the raise)                      tables are what they build), `roundtrip`
  table_5b6b/_unbalanced/_flip,       `Tables.table_5b6b*`, `table_3b4b*`       the sweeps `fin_*` range over them
  table_3b4b/_unbalanced/_flip
  table_6b5b (+K.28 patches)          `Tables.table_6b5b`                       `roundtrip`, `invalid_*`
  table_4b3b (+alt D.x.7), _kn, _kp   `Tables.table_4b3b*`                      `roundtrip`
  SingleEncoder stage 1 (sync:        `stage1`, `Stage1`, `Stage1.reset`        `disparity_step` (halves)
    K.28 case, tables, alt7 flags)
  SingleEncoder stage 2 (comb:        `stage2`, `dispInter`, `encode1`          `roundtrip`, `disparity_step`,
    disp_inter, flips, alt D.x.A7)                                              `running_disparity_bound`, `run_length_5`,
                                                                                `no_false_comma`, `comma_aligned_partial`,
                                                                                `comma_across_exact`, `comma_at_comma_symbols`,
                                                                                `word_disparity_alternates`
  SingleEncoder lsb_first             `fmt`, `rev10`, `bitsLsb`, `serialLsb`    `lsb_first_order`
  @CEInserter (SingleEncoder.ce)      `encoder.next` (`if ce`)                  `encoderN_chain` (every ce pattern)
  Encoder(nwords, lsb_first):         `EncState`, `chain`, `encStep`,           `encoderN_chain` (every n), `encoderN_iterated`
    disp register, e2.disp_in =       `encoder n lsb`, `chainProbe`
    e1.disp_out, output/disparity
  Decoder(lsb_first): memory port,    `DecState`, `decStepMsb`, `decOut`,       `roundtrip`, `decoder_ce_roundtrip`,
    K detection, code3b tables,       `decode1`, `decStep`, `decoder lsb`       `invalid_ones`, `invalid_sound`,
    ones count / invalid                                                        `invalid_complete_partial`, `code_words`
  StreamEncoder(nwords)               `pipe2`, `encDatapath`, `streamEncoder`   `streamEncoder_decodable`,
    (PipelinedActor latency 2)                                                  `stream_disparity_partial` (+ witness),
                                                                                `stream_comma_aligned_partial`
  StreamDecoder(nwords)               `pipe1`, `decDatapath`, `streamDecoder`   `streamDecoder_token_rel`
  StreamEncoder >> StreamDecoder      `Elem.comp`                               `stream_roundtrip`
  payload packing d[8i:8i+8], k[i],   `unpackSyms`, `packW`, `unpackW`,         (driver-side packing; the theorems are on
    data[10i:10i+10]                  `packSyms`                                structured tokens)
  Not modelled: nothing else exists in the file.  Specification vocabulary (not code): `Sym.Valid`, `encodeSeq`,
  `dispAfter`, `dispSeq`, `serial`, `bal`, `rd`, `commaAt`, `isCommaSym`, `isK287`, `isCodeWord`.
-/
namespace Litex.C17
open Litex.Code8b10b Litex.Stream Litex.Stream.Elem

/-- Every data byte and every defined control symbol, under either running disparity, decodes to itself with
    the right control flag and `invalid = 0`. -/
theorem roundtrip (s : Sym) (h : s.Valid) (disp : Bool) :
    decode1 (encode1 s.d s.k disp).1 = (s.d, s.k, false) :=
  encode1_roundtrip s.d h.1 s.k disp h

/-- … hence for symbol sequences of any length, from either start disparity. -/
theorem roundtrip_seq (disp : Bool) (syms : List Sym) (h : AllValid syms) :
    (encodeSeq disp syms).map decode1 = syms.map fun s => (s.d, s.k, false) := by
  induction syms generalizing disp with
  | nil => rfl
  | cons s rest ih =>
    have hs := h.head
    simp only [encodeSeq, List.map_cons]
    rw [ih _ h.tail, encode1_roundtrip s.d hs.1 s.k disp hs]

example : (Sym.mk 0xBC true).Valid ∧ (Sym.mk 0xF7 true).Valid ∧ ¬ (Sym.mk 0x00 true).Valid := by decide
example : (encode1 0xBC true false).1 = 0b0011111010 ∧ (encode1 0xBC true true).1 = 0b1100000101 := by decide

/-- `disp_out` differs from `disp_in` exactly by the disparity of the emitted word: a word is balanced (5 ones)
    iff the disparity is kept, has 6 ones iff RD− → RD+, 4 ones iff RD+ → RD−; the same for the 6b sub-block
    against `disp_inter` and the 4b sub-block.  Holds for all 1024 encoder inputs (also K on undefined symbols). -/
theorem disparity_step (d : Nat) (hd : d < 256) (k disp : Bool) :
    bal (bitsMsb 10 (encode1 d k disp).1) = rd (encode1 d k disp).2 - rd disp ∧
    bal (bitsMsb 6 ((encode1 d k disp).1 / 16)) = rd (dispInter (stage1 d k) disp) - rd disp ∧
    bal (bitsMsb 4 ((encode1 d k disp).1 % 16)) = rd (encode1 d k disp).2 - rd (dispInter (stage1 d k) disp) :=
  ⟨encode1_bal d hd k disp, encode1_halves d hd k disp⟩

/-- Over any symbol sequence from either start: at every symbol boundary the running disparity (start value plus
    ones − zeros of everything emitted) equals the encoder's disparity bit, i.e. is −1 or +1 — within one bit of
    balance — and at every bit position inside a symbol it stays within [−3, +3]. -/
theorem running_disparity_bound (disp : Bool) (syms : List Sym) (h : Bytes syms) :
    (∀ k, rd disp + bal ((serial (encodeSeq disp syms)).take (10 * k)) = rd (dispAfter disp (syms.take k))) ∧
    (∀ k, rd disp + bal ((serial (encodeSeq disp syms)).take (10 * k)) = 1 ∨
          rd disp + bal ((serial (encodeSeq disp syms)).take (10 * k)) = -1) ∧
    (∀ m, -3 ≤ rd disp + bal ((serial (encodeSeq disp syms)).take m) ∧
          rd disp + bal ((serial (encodeSeq disp syms)).take m) ≤ 3) :=
  ⟨seq_disparity_boundary disp syms h,
   fun k => by rw [seq_disparity_boundary disp syms h k]; exact rd_cases _,
   seq_disparity_inside disp syms h⟩

example : bal (serial (encodeSeq false [⟨3, false⟩, ⟨3, false⟩, ⟨0xBC, true⟩])) = 2 ∧
    dispAfter false [⟨3, false⟩, ⟨3, false⟩, ⟨0xBC, true⟩] = true := by decide

/-- Over any symbol sequence (data and control mixed, also K on undefined symbols), from either start: every 10-bit
    word has disparity 0, +2 or −2, and the non-zero word disparities alternate in sign, the first one being opposite
    to the starting running disparity. -/
theorem word_disparity_alternates (disp : Bool) (syms : List Sym) (h : Bytes syms) :
    (∀ w ∈ encodeSeq disp syms, wordBal w = 0 ∨ wordBal w = 2 ∨ wordBal w = -2) ∧
    nonzero ((encodeSeq disp syms).map wordBal) =
      altList (-(rd disp)) (nonzero ((encodeSeq disp syms).map wordBal)).length :=
  ⟨seq_word_bal disp syms h, seq_alternation disp syms h⟩

example : nonzero ((encodeSeq false [⟨3, false⟩, ⟨0xB5, false⟩, ⟨3, false⟩, ⟨0xBC, true⟩]).map wordBal) =
    [2, -2, 2] ∧ altList (-(rd false)) 3 = [2, -2, 2] := by decide

/-- No six equal bits in a row anywhere in the serial stream of any symbol sequence, from either start
    (stronger than the property: also with the K flag on undefined symbols). -/
theorem run_length_5 (disp : Bool) (syms : List Sym) (h : Bytes syms) (b : Bool) :
    ¬ List.replicate 6 b <:+: serial (encodeSeq disp syms) := fun hin =>
  -- `run_window` wants some allowed 6-bit tail in front of the first word: `000011` / `000010` are members of
  -- `tailMask disp` without a run
  run_window b syms disp (if disp then 3 else 2) h (by cases disp <;> decide) (by cases disp <;> decide)
    (hin.trans (List.suffix_append _ _).isInfix)

/-- Five in a row does occur (K.28.5), so the bound is tight. -/
example : List.replicate 5 true <:+: serial (encodeSeq false [⟨0xBC, true⟩]) := by decide

/-- In any sequence of data symbols, from either start, no 7-bit window of the serial stream — inside a word or
    across a word boundary — equals a comma `0011111` / `1100000`. -/
theorem no_false_comma (disp : Bool) (ds : List Nat) (h : ∀ d ∈ ds, d < 256) :
    ¬ [false, false, true, true, true, true, true] <:+: serial (encodeSeq disp (dataSyms ds)) ∧
    ¬ [true, true, false, false, false, false, false] <:+: serial (encodeSeq disp (dataSyms ds)) := by
  have hm : ∀ s ∈ dataSyms ds, s.d < 256 ∧ s.k = false := by
    intro s hs
    obtain ⟨d, hd, rfl⟩ := List.mem_map.mp hs
    exact ⟨h d hd, rfl⟩
  exact seq_no_comma disp _ (fun s hs => (hm s hs).1) (fun s hs => (hm s hs).2)

/-- The comma control symbols do contain it (the statement is not vacuous about the pattern). -/
example : [false, false, true, true, true, true, true] <:+: serial (encodeSeq false [⟨0xBC, true⟩]) := by decide

/-- Full statement (FALSE for the code, as for the IBM code itself): in the serial stream of any sequence of valid
    symbols a comma window `0011111` / `1100000` starts only at bit 0 of a K.28.1 / K.28.5 / K.28.7 word.
        theorem comma_aligned_open : ∀ disp syms, AllValid syms → ∀ i, commaAt … i → i % 10 = 0 ∧ …
    K.28.7 followed by a word whose first two bits repeat K.28.7's last bit builds a comma across the boundary
    (negative witness below).  Proved: the statement for sequences in which K.28.7 occurs at most as the LAST
    symbol (`NoK287Inside`), control symbols otherwise unrestricted, from either start, for every bit position. -/
theorem comma_aligned_partial (disp : Bool) (syms : List Sym) (h : AllValid syms) (hk : NoK287Inside syms)
    (i : Nat)
    (hc : commaAt commaP (serial (encodeSeq disp syms)) i = true ∨
          commaAt commaN (serial (encodeSeq disp syms)) i = true) :
    i % 10 = 0 ∧ ∃ s, syms[i / 10]? = some s ∧ isCommaSym s = true := by
  rcases hc with hc | hc
  · exact comma_aligned commaP (Or.inl rfl) syms disp i h hk hc
  · exact comma_aligned commaN (Or.inr rfl) syms disp i h hk hc

/-- Non-vacuity: D3.0, K.28.5, D21.5, K.28.7 satisfies the hypotheses and has commas at bits 10 and 30. -/
example : AllValid [⟨3, false⟩, ⟨0xBC, true⟩, ⟨0xB5, false⟩, ⟨0xFC, true⟩] ∧
    NoK287Inside [⟨3, false⟩, ⟨0xBC, true⟩, ⟨0xB5, false⟩, ⟨0xFC, true⟩] ∧
    commaAt commaN (serial (encodeSeq false [⟨3, false⟩, ⟨0xBC, true⟩, ⟨0xB5, false⟩, ⟨0xFC, true⟩])) 10 = true ∧
    commaAt commaP (serial (encodeSeq false [⟨3, false⟩, ⟨0xBC, true⟩, ⟨0xB5, false⟩, ⟨0xFC, true⟩])) 30 = true := by
  decide

/-- **Negative witness** in the excluded region: K.28.7 followed by D12.0 (from RD−) has the comma `1100000` at
    bit 5 — across the word boundary, not at a word start. -/
example : AllValid [⟨0xFC, true⟩, ⟨12, false⟩] ∧ ¬ NoK287Inside [⟨0xFC, true⟩, ⟨12, false⟩] ∧
    commaAt commaN (serial (encodeSeq false [⟨0xFC, true⟩, ⟨12, false⟩])) 5 = true ∧ 5 % 10 ≠ 0 := by decide

/-- Exactly what holds at a boundary between two valid symbols (either running disparity): a comma window
    overlapping both words exists iff the first symbol is K.28.7 and the second starts with the two bits that
    complete the pattern (`k287Successor`: after `…11000` the words starting `00` — D/K.12, .20, .28 — and after
    `…00111` those starting `11` — D.3, D.11, D.19, K.28).  This is the K.28.7 caveat of the IBM code, here for the
    code as implemented. -/
theorem comma_across_exact (c : Bool) (s s' : Sym) (hs : s.Valid) (hs' : s'.Valid) :
    commaAcross c s s' = (isK287 s && k287Successor c s') := by
  cases hk : isK287 s
  · -- not K.28.7: no window can overlap the boundary
    rw [Bool.false_and, commaAcross, List.any_eq_false]
    intro j hj
    have hj := List.mem_range.mp hj
    rw [comma_boundary commaP (Or.inl rfl) c s s' hs hs' hk [] (4 + j) (by omega) (by omega),
      comma_boundary commaN (Or.inr rfl) c s s' hs hs' hk [] (4 + j) (by omega) (by omega)]
    exact Bool.noConfusion
  · obtain ⟨sd, sk⟩ := s
    simp only [isK287, Bool.and_eq_true, beq_iff_eq] at hk
    obtain ⟨rfl, rfl⟩ := hk
    rw [Bool.true_and]
    exact k287_exact s'.d s'.k c

example : commaAcross false ⟨0xFC, true⟩ ⟨12, false⟩ = true ∧ commaAcross false ⟨0xFC, true⟩ ⟨3, false⟩ = false ∧
    commaAcross true ⟨0xFC, true⟩ ⟨3, false⟩ = true ∧ commaAcross true ⟨0xBC, true⟩ ⟨0xBC, true⟩ = false := by
  decide

/-- Conversely, every K.28.1 / K.28.5 / K.28.7 in a sequence of valid symbols shows a comma at bit 0 of its word
    (the singular comma is always there to align on). -/
theorem comma_at_comma_symbols (disp : Bool) (syms : List Sym) (h : AllValid syms) (j : Nat) (s : Sym)
    (hj : syms[j]? = some s) (hs : isCommaSym s = true) :
    commaAt commaP (serial (encodeSeq disp syms)) (10 * j) = true ∨
    commaAt commaN (serial (encodeSeq disp syms)) (10 * j) = true := by
  induction syms generalizing disp j with
  | nil => simp at hj
  | cons s0 rest ih =>
    have hs0 := h.head
    rw [encodeSeq, serial_cons]
    cases j with
    | zero =>
      simp only [List.getElem?_cons_zero, Option.some.injEq] at hj
      subst hj
      have hin := (fin_valid s0.d hs0.1 s0.k disp hs0).comma0
      rw [hs, Bool.or_eq_true] at hin
      rw [commaAt_append_left _ _ _ _ (by simp [commaP]), commaAt_append_left _ _ _ _ (by simp [commaN])]
      exact hin
    | succ j =>
      simp only [List.getElem?_cons_succ] at hj
      rw [commaAt_append_right _ _ _ _ (by simp; omega), commaAt_append_right _ _ _ _ (by simp; omega),
        bitsMsb_length, show 10 * (j + 1) - 10 = 10 * j by omega]
      exact ih (encode1 s0.d s0.k disp).2 h.tail j hj

/-- `invalid` is raised exactly for the inputs whose number of ones is not 4, 5 or 6 (all 1024 inputs); in
    particular every word with an impossible number of ones is reported. -/
theorem invalid_ones (w : Nat) (h : w < 1024) :
    (decode1 w).2.2 = true ↔ ¬ (ones10 w = 4 ∨ ones10 w = 5 ∨ ones10 w = 6) := by
  rw [decode1_invalid]
  simp [and_assoc]

example : (decode1 0b1111111000).2.2 = true ∧ (decode1 0b0011111010).2.2 = false := by decide

/-- The set of code words: `isCodeWord w` iff `w` is the encoding of a data byte or defined control symbol under some
    running disparity; 464 of the 1024 words. -/
theorem code_words (w : Nat) (hw : w < 1024) :
    (isCodeWord w = true ↔ ∃ (s : Sym) (c : Bool), s.Valid ∧ (encode1 s.d s.k c).1 = w) ∧
    ((List.range 1024).filter isCodeWord).length = 464 :=
  ⟨code_word_iff w, fin_code_counts.1⟩

/-- Soundness of `invalid`: it is never raised on a code word. -/
theorem invalid_sound (w : Nat) (hw : w < 1024) (h : (decode1 w).2.2 = true) :
    ¬ ∃ (s : Sym) (c : Bool), s.Valid ∧ (encode1 s.d s.k c).1 = w := by
  rw [← code_word_iff w, invalid_not_code w h]
  exact Bool.noConfusion

/-- Full statement (FALSE, and announced as such by the code's comment "does not report all invalid symbols"):
        theorem invalid_complete_open : ∀ w < 1024, isCodeWord w = false → (decode1 w).2.2 = true
    Proved: completeness in the region the implementation checks — words whose number of ones is not 4, 5 or 6
    (352 words, all non-code words); the 208 non-code words with 4, 5 or 6 ones are not reported. -/
theorem invalid_complete_partial (w : Nat) (hw : w < 1024)
    (hones : ¬ (ones10 w = 4 ∨ ones10 w = 5 ∨ ones10 w = 6)) :
    isCodeWord w = false ∧ (decode1 w).2.2 = true := by
  have hi := (invalid_ones w hw).mpr hones
  exact ⟨invalid_not_code w hi, hi⟩

/-- **Negative witness** for full completeness: `0000001111` (four ones) is not a code word and is not reported;
    and the exact counts. -/
example : isCodeWord 0b0000001111 = false ∧ (decode1 0b0000001111).2.2 = false ∧
    ones10 0b0000001111 = 4 := by decide

example : ((List.range 1024).filter fun w => (decode1 w).2.2).length = 352 ∧
    ((List.range 1024).filter fun w => !isCodeWord w && !(decode1 w).2.2).length = 208 :=
  ⟨fin_code_counts.2.1, fin_code_counts.2.2⟩

/-- `Encoder(nwords, lsb_first)` for every `ce` pattern: once two enabled edges have passed, the `n` parallel
    output words are the `n` successive single encodings of the group presented at the last-but-one enabled edge,
    chained from the running disparity left by all earlier groups (RD− at reset), in either bit order; the
    `disparity` outputs are the running disparities after each word. -/
theorem encoderN_chain (n : Nat) (lsb : Bool) (ins : List (Bool × List Sym))
    (pre : List (List Sym)) (g last : List Sym) (h : enabledGroups ins = pre ++ [g, last]) :
    ((encoder n lsb).run ins).outs = (encodeSeq (dispAfter false pre.flatten) g).map (fmt lsb) ∧
    ((encoder n lsb).run ins).disps = dispSeq (dispAfter false pre.flatten) g ∧
    ((encoder n lsb).run ins).disp = dispAfter false (pre.flatten ++ g) := by
  have hr : (encoder n lsb).run ins = encRun lsb n (pre ++ [g, last]) := by
    rw [← h]; exact encoder_runFrom n lsb ins _
  rw [hr]
  obtain ⟨h1, h2, h3, _⟩ := encRun_two lsb n pre g last
  exact ⟨h1, h2, h3⟩

example : enabledGroups [(true, [⟨3, false⟩, ⟨0xBC, true⟩]), (false, []), (true, [⟨5, false⟩, ⟨6, false⟩])] =
    [] ++ [[⟨3, false⟩, ⟨0xBC, true⟩], [⟨5, false⟩, ⟨6, false⟩]] := by decide

/-- `Decoder(lsb_first)` for every `ce` pattern: its outputs are the decoding of the last word presented at an
    enabled edge, held across any number of disabled cycles; if that word is the encoder's output for a valid
    symbol (same bit order, either disparity) the outputs are that symbol with `invalid = 0`. -/
theorem decoder_ce_roundtrip (lsb : Bool) (ins : List (Bool × Nat)) (s : Sym) (hs : s.Valid) (disp : Bool)
    (h : lastEnabled ins = some (fmt lsb (encode1 s.d s.k disp).1)) (i : Bool × Nat) :
    (decoder lsb).out ((decoder lsb).run ins) i = (s.d, s.k, false) := by
  have hr : (decoder lsb).run ins = decStep lsb (fmt lsb (encode1 s.d s.k disp).1) := by
    have := decoder_runFrom lsb ins (decoder lsb).init
    rw [h] at this
    exact this
  rw [hr]
  cases lsb
  · have hw := encode1_lt s.d s.k disp
    simp only [decoder, decStep, fmt, Bool.false_eq_true, ite_false, Nat.mod_eq_of_lt hw]
    exact encode1_roundtrip s.d hs.1 s.k disp hs
  · exact encode1_roundtrip_lsb s.d hs.1 s.k disp hs

example : lastEnabled [(true, 5), (true, 0b0011111010), (false, 7), (false, 9)] = some 0b0011111010 := by decide

/-- `lsb_first=True`: sending the words of `Encoder(·, lsb_first=True)` least significant bit first is sending the
    msb-first words most significant bit first — the same serial stream, for every symbol sequence. -/
theorem lsb_first_order (disp : Bool) (syms : List Sym) (h : Bytes syms) :
    serialLsb ((encodeSeq disp syms).map (fmt true)) = serial (encodeSeq disp syms) :=
  serialLsb_fmt _

/-- `Encoder(n)` is the iterated `Encoder(1)`: for every `ce` pattern, once two enabled edges have passed, the `n`
    parallel `(output[i], disparity[i])` are exactly what `Encoder(1)` (same bit order) shows, symbol after symbol,
    when all symbols of the earlier groups and then those of the group are presented to it one per enabled edge. -/
theorem encoderN_iterated (n : Nat) (lsb : Bool) (ins : List (Bool × List Sym))
    (pre : List (List Sym)) (g last : List Sym) (h : enabledGroups ins = pre ++ [g, last]) :
    ((encoder n lsb).run ins).outs.zip ((encoder n lsb).run ins).disps = iterSingle lsb pre.flatten g := by
  obtain ⟨h1, h2, _⟩ := encoderN_chain n lsb ins pre g last h
  rw [h1, h2, iterSingle_eq]

example : iterSingle false [⟨3, false⟩] [⟨0xBC, true⟩, ⟨5, false⟩] =
    [(0b1100000101, false), (0b1010011011, true)] := by decide

/-! ## Stream wrappers, every valid/ready schedule -/

/-- `StreamDecoder(n)`: the accepted words, decoded, are the delivered tokens followed by the one in the output
    stage — nothing lost, duplicated or reordered, first/last preserved. -/
theorem streamDecoder_token_rel (n : Nat) (ins : List (In (List Nat))) :
    ((streamDecoder n).accepted (streamDecoder n).init ins).map decTok =
      (streamDecoder n).delivered (streamDecoder n).init ins ++
        decInflight n ((streamDecoder n).runFrom (streamDecoder n).init ins) :=
  rel_run_init (streamDecoder n) (decRel n) (by simp [decRel, streamDecoder, pipe1, decInflight])
    (streamDecoder_step n) ins

/-- `StreamEncoder(n)`: if the accepted tokens consist of bytes / defined control symbols, decoding everything
    delivered and in flight gives back the accepted tokens — also across bubbles and stalls. -/
theorem streamEncoder_decodable (n : Nat) (ins : List (In (List Sym)))
    (h : ∀ t ∈ (streamEncoder n).accepted (streamEncoder n).init ins, AllValid t.data) :
    (streamEncoder n).accepted (streamEncoder n).init ins =
      ((streamEncoder n).delivered (streamEncoder n).init ins ++
        encInflight ((streamEncoder n).runFrom (streamEncoder n).init ins)).map decTok :=
  rel_run_init (streamEncoder n) encRel (by simp [encRel, streamEncoder, pipe2, encInflight])
    (streamEncoder_step n) ins h

/-- `StreamEncoder(n)` connected to `StreamDecoder(n)`: for every valid/ready schedule, the decoded token stream
    is the accepted one (tokens of valid symbols), in order, up to the at most three tokens still in flight. -/
theorem stream_roundtrip (n : Nat) (ins : List (In (List Sym))) :
    let e := (streamEncoder n).comp (streamDecoder n)
    (∀ t ∈ e.accepted e.init ins, AllValid t.data) →
      e.accepted e.init ins =
        e.delivered e.init ins ++ decInflight n (e.runFrom e.init ins).2 ++
          (encInflight (e.runFrom e.init ins).1).map decTok ∧
      e.delivered e.init ins <+: e.accepted e.init ins ∧
      (e.accepted e.init ins).length ≤ (e.delivered e.init ins).length + 3 := by
  intro e hv
  have h := rel_run_init e (fun s x d => ∃ mid, encRel s.1 x mid ∧ decRel n s.2 mid d)
    ⟨[], by simp [e, encRel, comp, streamEncoder, pipe2, encInflight],
         by simp [e, decRel, comp, streamDecoder, pipe1, decInflight]⟩
    (comp_rel (streamEncoder n) (streamDecoder n) encRel (decRel n) (streamEncoder_step n)
      (streamDecoder_step n)) ins
  obtain ⟨mid, h1, h2⟩ := h
  have h1' := h1 hv
  unfold decRel at h2
  have heq : e.accepted e.init ins =
      e.delivered e.init ins ++ decInflight n (e.runFrom e.init ins).2 ++
        (encInflight (e.runFrom e.init ins).1).map decTok := by
    rw [h1', List.map_append, h2]
  refine ⟨heq, ?_, ?_⟩
  · rw [heq, List.append_assoc]; exact List.prefix_append _ _
  · rw [heq]
    simp only [List.length_append, List.length_map, decInflight, encInflight]
    split <;> split <;> split <;> simp

/-- Full statement (FALSE on the code as it is): for every schedule the words delivered by `StreamEncoder` are the
    chained encoding of the accepted symbols, so that the delivered serial stream is DC balanced.
        theorem stream_disparity_open : ∀ ins, … delivered words = chained encoding of accepted symbols …
    The encoder's disparity register is clocked by `pipe_ce` also when `sink.valid = 0`, with whatever is on the
    data lines (see the negative witness below).  Proved: the statement in the region
    "every enabled cycle carries a valid token" (`NoBubble`): the serial stream delivered (lsb-first words, word 0
    first) is exactly the chained encoding from RD− of all accepted symbols but those of the last two tokens
    (still in the pipeline); hence running disparity ±1 at word boundaries, within ±3 inside, no run of six, and
    no comma if only data symbols were accepted. -/
theorem stream_disparity_partial (n : Nat) (ins : List (In (List Sym)))
    (hnb : NoBubble (streamEncoder n) ins)
    (hb : ∀ t ∈ (streamEncoder n).accepted (streamEncoder n).init ins, Bytes t.data) :
    let acc := (streamEncoder n).accepted (streamEncoder n).init ins
    let bits := serialLsb (((streamEncoder n).delivered (streamEncoder n).init ins).flatMap (·.data))
    let syms := acc.dropLast.dropLast.flatMap (·.data)
    bits = serial (encodeSeq false syms) ∧
    (∀ k, rd false + bal (bits.take (10 * k)) = 1 ∨ rd false + bal (bits.take (10 * k)) = -1) ∧
    (∀ m, -3 ≤ rd false + bal (bits.take m) ∧ rd false + bal (bits.take m) ≤ 3) ∧
    (∀ b, ¬ List.replicate 6 b <:+: bits) ∧
    ((∀ t ∈ acc, ∀ s ∈ t.data, s.k = false) →
      ¬ [false, false, true, true, true, true, true] <:+: bits ∧
      ¬ [true, true, false, false, false, false, false] <:+: bits) := by
  intro acc bits syms
  have hbits : bits = serial (encodeSeq false syms) := nb_delivered n ins hnb
  have hsyms : Bytes syms := fun s hs =>
    let ⟨t, ht, hst⟩ := mem_dropLast2_flatMap hs
    hb t ht s hst
  rw [hbits]
  obtain ⟨_, hb1, hb2⟩ := running_disparity_bound false syms hsyms
  exact ⟨rfl, hb1, hb2, run_length_5 false syms hsyms, fun hk =>
    seq_no_comma false syms hsyms fun s hs =>
      let ⟨t, ht, hst⟩ := mem_dropLast2_flatMap hs
      hk t ht s hst⟩

/-- A producer that always offers a token (D3.0, D3.0, D3.0, D5.0, …) with a consumer that stalls. -/
def fullIns : List (In (List Sym)) :=
  let t (d : Nat) : Tok (List Sym) := ⟨[⟨d, false⟩], false, false⟩
  [⟨true, t 3, true⟩, ⟨true, t 3, false⟩, ⟨true, t 3, true⟩, ⟨true, t 5, false⟩, ⟨false, t 9, false⟩,
   ⟨true, t 5, true⟩]

/-- Non-vacuity of the region: `fullIns` satisfies `NoBubble`, and tokens are really delivered. -/
example : NoBubble (streamEncoder 1) fullIns ∧
    ((streamEncoder 1).delivered (streamEncoder 1).init fullIns).map (·.data) =
      [[rev10 0b1100011011], [rev10 0b1100010100]] := by
  decide +kernel

/-- D3.0 tokens separated by one `valid = 0` cycle with the data lines unchanged, consumer always ready. -/
def bubbleIns : List (In (List Sym)) :=
  let t : Tok (List Sym) := ⟨[⟨3, false⟩], false, false⟩
  [⟨true, t, true⟩, ⟨false, t, true⟩, ⟨true, t, true⟩, ⟨false, t, true⟩, ⟨true, t, true⟩, ⟨false, t, true⟩,
   ⟨true, t, true⟩, ⟨false, t, true⟩, ⟨false, t, true⟩, ⟨false, t, true⟩]

def bubbleWords : List Nat :=
  ((streamEncoder 1).delivered (streamEncoder 1).init bubbleIns).flatMap (·.data)

/-- **Negative witness** (known finding `C17-stream-bubble-disparity`) on `bubbleIns`: every delivered word has
    6 ones, the cumulative disparity of the delivered stream is 2, 4, 6, 8 — the conclusion of
    `stream_disparity_partial` fails (its hypothesis `NoBubble` fails on this schedule), while the words still
    decode correctly. -/
example :
    ¬ NoBubble (streamEncoder 1) bubbleIns ∧
    bubbleWords.map ones10 = [6, 6, 6, 6] ∧
    bal (serialLsb bubbleWords) = 8 ∧
    ¬ (rd false + bal ((serialLsb bubbleWords).take (10 * 2)) = 1 ∨
       rd false + bal ((serialLsb bubbleWords).take (10 * 2)) = -1) ∧
    bubbleWords.map decodeSym = [⟨3, false⟩, ⟨3, false⟩, ⟨3, false⟩, ⟨3, false⟩] := by
  decide +kernel

/-- The stream version, for every valid/ready schedule in the no-bubble region (see `stream_disparity_partial`; the
    bubble finding keeps this `_partial`): if the accepted tokens consist of valid symbols, K.28.7 at most as the
    last symbol delivered, then in the delivered lsb-first serial stream every comma window starts at bit 0 of a
    K.28.1/5/7 word, and the non-zero disparities of the delivered words alternate starting with +2. -/
theorem stream_comma_aligned_partial (n : Nat) (ins : List (In (List Sym)))
    (hnb : NoBubble (streamEncoder n) ins)
    (hv : ∀ t ∈ (streamEncoder n).accepted (streamEncoder n).init ins, AllValid t.data) :
    let acc := (streamEncoder n).accepted (streamEncoder n).init ins
    let bits := serialLsb (((streamEncoder n).delivered (streamEncoder n).init ins).flatMap (·.data))
    let syms := acc.dropLast.dropLast.flatMap (·.data)
    (NoK287Inside syms → ∀ i, (commaAt commaP bits i = true ∨ commaAt commaN bits i = true) →
      i % 10 = 0 ∧ ∃ s, syms[i / 10]? = some s ∧ isCommaSym s = true) ∧
    nonzero ((encodeSeq false syms).map wordBal) =
      altList 1 (nonzero ((encodeSeq false syms).map wordBal)).length := by
  intro acc bits syms
  have hb : ∀ t ∈ (streamEncoder n).accepted (streamEncoder n).init ins, Bytes t.data :=
    fun t ht => (hv t ht).bytes
  obtain ⟨hbits, _⟩ := stream_disparity_partial n ins hnb hb
  have hsyms : AllValid syms := fun s hs =>
    let ⟨t, ht, hst⟩ := mem_dropLast2_flatMap hs
    hv t ht s hst
  refine ⟨fun hk i hc => ?_, ?_⟩
  · simp only [bits] at hc
    rw [hbits] at hc
    exact comma_aligned_partial false syms hsyms hk i hc
  · have := (word_disparity_alternates false syms hsyms.bytes).2
    simpa [rd] using this

/-! ## Regeneration tie: the model equals the real netlists on their whole input spaces -/

/-- The real `SingleEncoder(lsb_first)` netlist — evaluated on this run for all 256 bytes × K flag × both input
    disparities, table `Netlist.encMsb/encLsb` — computes `encode1` (word in its bit order, `disp_out`).  Every
    theorem about `encode1` is thereby a theorem about what the code computes now; a code change alters the table
    and breaks the kernel check `regen_enc`. -/
theorem netlist_single_encoder (lsb : Bool) (d : Nat) (hd : d < 256) (k c : Bool) :
    (netEnc lsb).getD (d + 256 * b2n k + 512 * b2n c) 0 =
      fmt lsb (encode1 d k c).1 + 1024 * b2n (encode1 d k c).2 := by
  obtain ⟨_, h1, h2, h3, h4⟩ := idx_fields 0 d hd k c
  simp only [Nat.mul_zero, Nat.zero_add] at h1 h2 h3
  have : (netEnc lsb).getD (d + 256 * b2n k + 512 * b2n c) 0 = encEntry lsb (d + 256 * b2n k + 512 * b2n c) := by
    cases lsb
    · exact getD_of_map_range regen_enc.1.1 _ h4
    · exact getD_of_map_range regen_enc.1.2 _ h4
  rw [this, encEntry, h1, h2, h3]

/-- The real `Decoder(lsb_first)` netlist on all 1024 inputs computes the model's decoder (`d`, `k`, `invalid`). -/
theorem netlist_decoder (lsb : Bool) (w : Nat) (hw : w < 1024) :
    (netDec lsb).getD w 0 =
      (decOut (decStep lsb w)).1 + 256 * b2n (decOut (decStep lsb w)).2.1 +
        512 * b2n (decOut (decStep lsb w)).2.2 := by
  cases lsb
  · exact getD_of_map_range regen_dec.1 _ hw
  · exact getD_of_map_range regen_dec.2 _ hw

/-- The real multi-word `Encoder(n, False)` netlists on the chain probes (a prefix leaving the running disparity at
    `c`, then `(d, k)` in one lane and D0.0 in the others): for n = 2 every lane × every (d, k, c); for n = 3, 4 every
    lane × c × the 16 probe symbols; and `SingleEncoder` straight after reset — all equal the model `encoder n`. -/
theorem netlist_encoder_chain :
    (∀ lane < 2, ∀ d < 256, ∀ k c : Bool,
      Netlist.chain2.getD (1024 * lane + (d + 256 * b2n k + 512 * b2n c)) 0 = chainProbe 2 lane d k c) ∧
    chainProbeTable 3 = Netlist.chain3 ∧ chainProbeTable 4 = Netlist.chain4 ∧
    [false, true].map resetEntry = Netlist.encReset :=
  ⟨fun lane hl d hd k c => net_chain2 lane hl d hd k c, regen_chain3, regen_chain4, regen_encReset⟩

/-- The tables are really there (non-vacuity): 1024 entries each; K.28.5 from RD− is `0011111010`, leaving RD+;
    its lsb-first form is the bit reversal; `0011111010` decodes to K.28.5. -/
example : Netlist.encMsb.length = 1024 ∧ Netlist.decLsb.length = 1024 ∧ Netlist.chain2.length = 2048 ∧
    Netlist.chain4.length = 128 ∧
    Netlist.encMsb.getD (0xBC + 256) 0 = 0b0011111010 + 1024 ∧
    Netlist.encLsb.getD (0xBC + 256) 0 = 0b0101111100 + 1024 ∧
    Netlist.decMsb.getD 0b0011111010 0 = 0xBC + 256 := by decide +kernel

/-! ## Table construction (build-time Python) -/

/-- The eight derived tables are what the module's build-time code makes of the two primary tables: the unbalanced
    flags by `disparity`, the flip flags (= unbalanced, plus D.7 / D.x.3), the reverse tables by
    `reverse_table_flip` / `reverse_table` (no collision) with the K.28, alternate D.x.7 and K.x.7 patches; and the 12
    control symbols are `K(28, 0..7)`, `K(23, 7)`, `K(27, 7)`, `K(29, 7)`, `K(30, 7)`. -/
theorem tables_construction :
    Tables.table_5b6b_unbalanced = Tables.table_5b6b.map (fun c => b2n (disparity c 6 != 0)) ∧
    Tables.table_5b6b_flip = Tables.table_5b6b_unbalanced.set 7 1 ∧
    (reverseTableFlip Tables.table_5b6b (Tables.table_5b6b_flip.map (· != 0)) 6).map
      (fun t => (t.set 0b001111 0b11100).set 0b110000 0b11100) = some Tables.table_6b5b ∧
    Tables.table_3b4b_unbalanced = Tables.table_3b4b.map (fun c => b2n (disparity c 4 != 0)) ∧
    Tables.table_3b4b_flip = Tables.table_3b4b_unbalanced.set 3 1 ∧
    (reverseTableFlip Tables.table_3b4b (Tables.table_3b4b_flip.map (· != 0)) 4).map
      (fun t => (t.set 0b0111 0b0111).set 0b1000 0b0111) = some Tables.table_4b3b ∧
    (reverseTable Tables.table_3b4b 4).map (fun t => (t.set 0b0001 0b000).set 0b1000 0b111) =
      some Tables.table_4b3b_kn ∧
    (reverseTable (Tables.table_3b4b.map fun x => 15 - x) 4).map
      (fun t => (t.set 0b1110 0b000).set 0b0111 0b111) = some Tables.table_4b3b_kp ∧
    kList = (List.range 8).map (symK 28) ++ [symK 23 7, symK 27 7, symK 29 7, symK 30 7] :=
  ⟨build_unbalanced6, build_flip6, build_6b5b, build_unbalanced4, build_flip4, build_4b3b, build_4b3b_kn,
   build_4b3b_kp, build_kList⟩

/-- `reverse_table` / `reverse_table_flip` do refuse a collision (the `ValueError`), so the statement above is not vacuous about `some`. -/
example : reverseTable [1, 2, 1] 2 = none ∧ reverseTableFlip [1, 2] [true, false] 2 = none ∧
    reverseTableFlip [1, 3] [false, true] 2 = some [1, 0, 0, 1] := by decide

end Litex.C17
