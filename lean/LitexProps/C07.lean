import LitexProofs.Wishbone.CacheLive
import LitexProofs.Wishbone.BurstWait
import LitexProofs.Wishbone.ToCsrBankSide
import LitexProofs.Wishbone.AddrGlue
/-
  C07 — Wishbone adapters and memories are transparent to the master: flat byte-addressable memory semantics.

  Vocabulary (LitexModel/Wishbone/SramBus.lean, LitexModel/Mem.lean):
  * `ins : List (Req × ω)` is an arbitrary cycle-by-cycle history of what the master drives (`Req`: cyc, stb, we,
    adr, sel, dat_w, cti, bte — garbage allowed whenever it does not strobe) and of what the environment chooses
    (`ω`: nothing for an SRAM, the slave's latency/garbage oracle for an adapter).
  * `Classic m ins`: the master follows the classic handshake (a presented strobe is held unchanged until the
    cycle in which `ack` is seen); idle gaps of any length, back-to-back requests, `cyc` without `stb` are free.
  * `ops m f ins`: the bus cycles completed during the run (cycles with `cyc ∧ stb ∧ ack`), with the data
    written or the data returned; `f` is the device's address decoding.
  * `Consistent nb M0 history`: replayed in order on a byte memory starting from `M0`, every write updates
    exactly its selected bytes and every read returned, on each selected lane, the current content —
    by `mem_last_enabled_write_wins` that is the byte of the last write that enabled it, or the initial content.
  * `AckOnlyStrobed m ins`: in no cycle of the run is `ack` given while no strobe is presented.
-/
namespace Litex.C07
open Litex Litex.WbMem

/-- The specification memory: replaying masked writes in order gives, at every byte, the data of the last write
    that enabled that byte, or the initial content. -/
theorem mem_last_enabled_write_wins (init : Mem) (ws : List Mem.Write) (a : Nat) :
    init.applyAll ws a = Mem.lastEnabled init ws a := Mem.applyAll_eq_lastEnabled init ws a

/-! ## SRAM, classic cycles -/

/-- **`wishbone.SRAM` is a flat byte memory** (any width, any depth, any initial content): for every history of
    a protocol-following master made of classic cycles (anything but `cti = 2` on a bursting bus), with
    arbitrary gaps, the completed cycles are a consistent byte-memory history — reads return per selected byte
    the last enabled write or the initial content, writes touch only the selected bytes of the addressed word —
    and `ack` is never given without a strobe. -/
theorem sram_refines_mem (c : SramCfg) (hd : 0 < c.depth) (hrw : c.readOnly = false) (init : List Byte)
    (ins : List (Req × Unit)) (hm : Classic (sram c init) ins) (hc : ∀ i ∈ ins, Sram.NoBurst c i) :
    Consistent c.nb (Mem.ofList (Sram.initMem c init)) (ops (sram c init) c.idx ins) ∧
    AckOnlyStrobed (sram c init) ins := by
  have h := Sram.run_keep c hd init ins hm hc
  rwa [List.filter_eq_self.mpr (fun op _ => by simp [Sram.keep, hrw])] at h

/-- **Read-only memories ignore writes**: every completed read of a `read_only` SRAM returns the initial content
    on every selected lane, whatever writes the history contains. -/
theorem sram_ro_ignores_writes (c : SramCfg) (hd : 0 < c.depth) (hro : c.readOnly = true) (init : List Byte)
    (ins : List (Req × Unit)) (hm : Classic (sram c init) ins) (hc : ∀ i ∈ ins, Sram.NoBurst c i) :
    (∀ op ∈ ops (sram c init) c.idx ins, op.we = false → op.readOk c.nb (Mem.ofList (Sram.initMem c init))) ∧
    AckOnlyStrobed (sram c init) ins := by
  have h := Sram.run_keep c hd init ins hm hc
  refine ⟨?_, h.2⟩
  have hr := (consistent_reads c.nb _ _ (by
    intro op hop; have := (List.mem_filter.mp hop).2; simpa [Sram.keep, hro] using this)).mp h.1
  intro op hop hwe
  exact hr op (List.mem_filter.mpr ⟨hop, by simp [Sram.keep, hwe]⟩)

/-- **One acknowledge per strobe phase**: a classic strobe presented while `ack` is low is acknowledged in the
    very next cycle, and `ack` is low again in the cycle after an acknowledge — so with `sram_refines_mem`
    (no ack without strobe) each request of a protocol-following master is acknowledged exactly once. -/
theorem sram_one_ack_per_request (c : SramCfg) (init : List Byte) (s : SramState) (r : Req)
    (hb : Sram.adrBurst c r = false) :
    ((sram c init).next s (r, ())).ack = (r.active && !s.ack) := by
  simp [sram, Sram.next, hb]

/-! Non-vacuity: a 16-bit, 4-word SRAM; partial write (lane 1 only), read back, idle gap, full read. -/
example :
    let c : SramCfg := { nb := 2, depth := 4, aw := 3, readOnly := false, burst := false }
    let w : Req := { cyc := true, stb := true, we := true, adr := 6, sel := [false, true], dat := [0x11, 0x22], cti := 0, bte := 0 }
    let r : Req := { w with we := false, sel := [true, true], dat := [] }
    let ins : List (Req × Unit) := [(w, ()), (w, ()), (Req.idle, ()), (r, ()), (r, ())]
    Classic (sram c [1, 2, 3, 4, 5, 6, 7, 8]) ins ∧
    ops (sram c [1, 2, 3, 4, 5, 6, 7, 8]) c.idx ins =
      [{ adr := 2, we := true, sel := [false, true], dat := [0x11, 0x22] },
       { adr := 2, we := false, sel := [true, true], dat := [5, 0x22] }] := by decide

/-! ## SRAM, burst cycles

  `BurstMaster m maxWrap ins`: the master follows the Wishbone registered-feedback burst rules through the whole
  run (LitexModel/Wishbone/SramBurst.lean): every beat is held until acknowledged; after an acknowledged
  incrementing beat (`cti = 2`) the next beat follows in the next cycle with `cyc`/`stb` still asserted, the same
  `we`/`bte`, the next linear/wrapping address and `cti ∈ {2, 7}`; bursts end with `cti = 7`; classic, constant
  address and lone end-of-burst cycles are single beats; arbitrary gaps between bursts.  `maxWrap = true`
  additionally limits a wrapping burst to its wrap length (4/8/16 beats). -/

/-- **`wishbone.SRAM` with the burst address counter is a flat byte memory** for incrementing bursts of any
    length and wrapping bursts up to the wrap length, reads and writes, partial `sel` per beat, mixed with
    classic cycles and gaps (`_partial`: hypothesis `maxWrap`).

    Full statement (fails on the code, witness below, finding C07-sram-wrap-burst-overrun): the same with
    `BurstMaster (sram c init) false ins` — wrapping bursts of any length. -/
theorem sram_burst_refines_mem_partial (c : SramCfg) (hd : 0 < c.depth) (hrw : c.readOnly = false)
    (hb : c.burst = true) (haw : 4 ≤ c.aw) (init : List Byte) (ins : List (Req × Unit))
    (hm : BurstMaster (sram c init) true ins) (hadr : ∀ i ∈ ins, i.1.adr < 2 ^ c.aw) :
    Consistent c.nb (Mem.ofList (Sram.initMem c init)) (ops (sram c init) c.idx ins) ∧
    AckOnlyStrobed (sram c init) ins :=
  (Sram.brefines c hd hrw hb haw init).run _ .free _ (Sram.binv_init c init) ins hm hadr

/-- Non-vacuity: 8-bit, 8-word bursting SRAM; a wrap-4 write burst of 4 beats from address 6 (6,7,4,5), then a
    linear read burst of 3 beats from 4: one beat per cycle after the first. -/
example :
    let c : SramCfg := { nb := 1, depth := 8, aw := 4, readOnly := false, burst := true }
    let w (a d cti : Nat) : Req × Unit :=
      ({ cyc := true, stb := true, we := true, adr := a, sel := [true], dat := [d], cti := cti, bte := 1 }, ())
    let r (a cti : Nat) : Req × Unit :=
      ({ cyc := true, stb := true, we := false, adr := a, sel := [true], dat := [], cti := cti, bte := 0 }, ())
    let ins := [w 6 0x66 2, w 6 0x66 2, w 7 0x77 2, w 4 0x44 2, w 5 0x55 7, (Req.idle, ()),
                r 4 2, r 4 2, r 5 2, r 6 7]
    BurstMaster (sram c []) true ins ∧
    (ops (sram c []) c.idx ins).map (fun op => (op.adr, op.we, op.dat)) =
      [(6, true, [0x66]), (7, true, [0x77]), (4, true, [0x44]), (5, true, [0x55]),
       (4, false, [0x44]), (5, false, [0x55]), (6, false, [0x66])] := by decide

/-- Negative witness for the excluded region: a wrap-4 read burst of 6 beats from address 2 (2,3,0,1,2,3) over
    content `mem[a] = a`: beats 5 and 6 return words 6 and 7 — not a flat-memory history. -/
example :
    let c : SramCfg := { nb := 1, depth := 8, aw := 4, readOnly := false, burst := true }
    let r (a cti : Nat) : Req × Unit :=
      ({ cyc := true, stb := true, we := false, adr := a, sel := [true], dat := [], cti := cti, bte := 1 }, ())
    let ins := [r 2 2, r 2 2, r 3 2, r 0 2, r 1 2, r 2 2, r 3 7]
    BurstMaster (sram c [0, 1, 2, 3, 4, 5, 6, 7]) false ins ∧
    (ops (sram c [0, 1, 2, 3, 4, 5, 6, 7]) c.idx ins).map (fun op => (op.adr, op.dat)) =
      [(2, [2]), (3, [3]), (0, [0]), (1, [1]), (2, [6]), (3, [7])] ∧
    ¬ Consistent c.nb (Mem.ofList [0, 1, 2, 3, 4, 5, 6, 7]) (ops (sram c [0, 1, 2, 3, 4, 5, 6, 7]) c.idx ins) := by
  decide

/-! ### Bursts with master wait states

  `BurstMasterW m maxWrap ins` (LitexModel/Wishbone/SramBurst.lean): as `BurstMaster`, and between two beats of a
  burst the master may also present no strobe — a wait state (`stb` low with `cyc` held; `we`/`adr`/`sel`/`dat`/
  `cti`/`bte` held *or* garbage), for any number of cycles, or the abandonment of the burst (`cyc` dropped).
  Afterwards it is free: it resumes the burst at the next address, starts another burst (other `we`, other
  address, other `bte`) or a classic cycle, or idles.  Ending a burst early with `cti = 7` and changing `we`
  between back-to-back bursts are already part of `BurstMaster`.  `BurstMaster` is the special case without
  such cycles (`BurstFrom.toW`). -/

/-- **`wishbone.SRAM` with the burst address counter is a flat byte memory for burst masters that insert wait
    states or abandon bursts** (`_partial`: `maxWrap`, as `sram_burst_refines_mem_partial`).  A cycle without strobe
    resets the address counter; the next beat is served at the address the master presents and the counter is
    latched again from it — so no beat is transferred in a wait state and none is served at a stale counter
    value (as it would if the counter advanced during wait states).

    The acknowledge statement is `AckStrobedOrPre`: `ack` is given to a presented strobe, or without one only in
    the cycle right after an acknowledged `cti = 2` beat (the registered-feedback pre-acknowledge, which
    completes no cycle: `ops` counts strobed cycles only).  The strict `AckOnlyStrobed` does *not* hold for
    these masters — witness below. -/
theorem sram_burst_waits_refines_mem_partial (c : SramCfg) (hd : 0 < c.depth) (hrw : c.readOnly = false)
    (hb : c.burst = true) (haw : 4 ≤ c.aw) (init : List Byte) (ins : List (Req × Unit))
    (hm : BurstMasterW (sram c init) true ins) (hadr : ∀ i ∈ ins, i.1.adr < 2 ^ c.aw) :
    Consistent c.nb (Mem.ofList (Sram.initMem c init)) (ops (sram c init) c.idx ins) ∧
    AckStrobedOrPre (sram c init) ins :=
  (Sram.brefines c hd hrw hb haw init).runW (Sram.waitOk c init) ins _ .free _ (Sram.binv_init c init) hm hadr

/-- Every `BurstMaster` history is a `BurstMasterW` history. -/
theorem burstMaster_is_burstMasterW {ω τ : Type} (m : Slave ω τ) (mw : Bool) (ins : List (Req × ω))
    (h : BurstMaster m mw ins) : BurstMasterW m mw ins := BurstFrom.toW m mw ins _ _ h

/-- Non-vacuity (wait states inside bursts): 8-bit, 16-word bursting SRAM.  Linear write burst to
    4, 5, 6, 7 with two wait states after the second beat (`stb` low, `cyc`/`cti`/`adr` of the coming beat held),
    one wait state with garbage on the lines after the third, then a read burst 4, 5 abandoned by dropping `cyc`
    and a read burst 6, 7 ended with `cti = 7`: every beat lands at / comes from its own address. -/
example :
    let c : SramCfg := { nb := 1, depth := 16, aw := 4, readOnly := false, burst := true }
    let q (stb we : Bool) (a d cti : Nat) : Req × Unit :=
      ({ cyc := true, stb := stb, we := we, adr := a, sel := [true], dat := [d], cti := cti, bte := 0 }, ())
    let w := q true true
    let r (a cti : Nat) := q true false a 0 cti
    let ins := [w 4 0x44 2, w 4 0x44 2, w 5 0x55 2, q false true 6 0x66 2, q false true 6 0x66 2, w 6 0x66 2,
                w 6 0x66 2, q false false 13 0x99 7, w 7 0x77 7, w 7 0x77 7,
                r 4 2, r 4 2, r 5 2, (Req.idle, ()), r 6 2, r 6 2, r 7 7]
    BurstMasterW (sram c []) true ins ∧ ¬ BurstMaster (sram c []) true ins ∧
    (ops (sram c []) c.idx ins).map (fun op => (op.adr, op.we, op.dat)) =
      [(4, true, [0x44]), (5, true, [0x55]), (6, true, [0x66]), (7, true, [0x77]),
       (4, false, [0x44]), (5, false, [0x55]), (6, false, [0x66]), (7, false, [0x77])] ∧
    AckStrobedOrPre (sram c []) ins := by decide

/-- The strict acknowledge statement fails with wait states: a read beat with `cti = 2`, acknowledged, followed
    by a wait state — `ack` is still up in the wait state (it completes no cycle). -/
example :
    let c : SramCfg := { nb := 1, depth := 16, aw := 4, readOnly := false, burst := true }
    let q (stb : Bool) : Req × Unit :=
      ({ cyc := true, stb := stb, we := false, adr := 4, sel := [true], dat := [], cti := 2, bte := 0 }, ())
    let ins := [q true, q true, q false]
    BurstMasterW (sram c []) true ins ∧ ¬ AckOnlyStrobed (sram c []) ins ∧
    (ops (sram c []) c.idx ins).length = 1 := by decide

/-! ## Width converters in front of a byte memory with arbitrary latency

  `latMem nb M0` is the abstract slave: a byte memory that acknowledges a presented strobe in a cycle chosen by
  the environment (`Lat.ack`, part of the input history — every slave latency, including zero and unbounded
  waits) and drives garbage (`Lat.junk`) on lanes it was not asked for. -/

/-- **`wishbone.DownConverter` is transparent** — every ratio `2^cbits`, every slave width, every partial
    `sel` (sub-words with no byte selected are skipped), every slave latency, every burst tag on the master
    side: the master sees a flat byte memory and is never acknowledged without a strobe. -/
theorem down_refines (c : DownCfg) (M0 : Mem) (ins : List (Req × Lat))
    (hm : Classic ((downConv c).over (latMem c.nbs M0)) ins) :
    Consistent c.nbm M0 (ops ((downConv c).over (latMem c.nbs M0)) id ins) ∧
    AckOnlyStrobed ((downConv c).over (latMem c.nbs M0)) ins :=
  (Down.refines c (latMem c.nbs M0) id id _ (fun _ _ _ => rfl) (fun _ => True) _
      (fun _ _ _ _ => trivial) (latMem_refines c.nbs M0)).run M0
    ⟨Down.ratio_pos c, rfl, rfl⟩ ins hm (fun _ _ => trivial)

/-- **`wishbone.UpConverter` is transparent** — every ratio, every narrow width (`nbm > 0` byte lanes),
    every `sel`, every slave latency. -/
theorem up_refines (c : UpCfg) (hpos : 0 < c.nbm) (M0 : Mem) (ins : List (Req × Lat))
    (hm : Classic ((upConv c).over (latMem c.nbs M0)) ins) :
    Consistent c.nbm M0 (ops ((upConv c).over (latMem c.nbs M0)) id ins) ∧
    AckOnlyStrobed ((upConv c).over (latMem c.nbs M0)) ins :=
  (Up.refines c (latMem c.nbs M0) id id _ hpos
      (fun a => by simp only [id]; rw [Nat.mul_comm]; exact (Nat.div_add_mod a c.ratio).symm)
      (fun _ => True) _ (fun _ _ _ => trivial) (latMem_refines c.nbs M0)).run M0
    rfl ins hm (fun _ _ => trivial)

/-- The acknowledge a master gets through the down-converter is exactly the completion of its last sub-word
    (slave acknowledge or skip while `count = ratio − 1`): one acknowledge per request. -/
theorem down_ack_iff (c : DownCfg) (s : DownState) (r : Req) (rsp : Rsp) :
    (Down.toMaster c s r rsp).ack = (r.active && (rsp.ack || Down.skip c s r) && Down.done c s) := rfl

/-! ## Remapper -/

/-- **`wishbone.Remapper` is transparent up to its address map**: through the remapper the master sees the
    slave's byte memory at the translated word address `Remap.mapAdr c adr` (origin/mask, then the last active
    region) — for every origin, size, region list, signal widths and slave latency. -/
theorem remap_refines (c : RemapCfg) (nb : Nat) (M0 : Mem) (ins : List (Req × Lat))
    (hm : Classic ((remapper c).over (latMem nb M0)) ins) :
    Consistent nb M0 (ops ((remapper c).over (latMem nb M0)) (Remap.mapAdr c) ins) ∧
    AckOnlyStrobed ((remapper c).over (latMem nb M0)) ins := by
  rw [remapper_eq] at hm ⊢
  exact (AdrAdapter.refines (Remap.mapAdr c) (latMem nb M0) id nb _ (fun _ => True) _
      (fun _ _ _ => trivial) (latMem_refines nb M0)).run M0 rfl ins hm (fun _ _ => trivial)

/-- What the map is, without regions: `(origin >> shift) | (adr & mask)` truncated to the slave address width. -/
theorem remap_origin_mask (c : RemapCfg) (h : c.regions = []) (a : Nat) :
    Remap.mapAdr c a = ((c.origin >>> c.shift) ||| (a % 2 ^ c.aw % 2 ^ (Nat.log2 c.size - c.shift))) % 2 ^ c.saw := by
  simp [Remap.mapAdr, h, Remap.applyRegions, Remap.adrRemap, Remap.maskBits]

/-- What the map is, with regions: an address whose origin-remapped byte address lies in source region `g` (and
    in no later one) goes to `g.dstOrigin + (src_adr − g.srcOrigin)`, as a word address. -/
theorem remap_region (c : RemapCfg) (l1 l2 : List RemapRegion) (g : RemapRegion) (h : c.regions = l1 ++ g :: l2)
    (a : Nat) (hg : Remap.regionActive c g a = true) (h2 : ∀ g' ∈ l2, Remap.regionActive c g' a = false) :
    Remap.mapAdr c a =
      (((g.dstOrigin + Remap.srcAdr c a - g.srcOrigin) % 2 ^ Remap.tmpBits c) >>> c.shift) % 2 ^ c.saw := by
  simp only [Remap.mapAdr, h, Remap.applyRegions_last c a l1 l2 g _ hg h2, Remap.regionAdr]

/-- The region test is made on the exact byte address for every bus width (the temporaries are
    `len(adr) + shift + 1` bits wide, so nothing is truncated on a wide bus): a region is active
    iff `src.origin ≤ adr_remap·2^shift < src.origin + src.size`. -/
theorem remap_region_test_exact (c : RemapCfg) (ho : c.origin >>> c.shift < 2 ^ c.aw) (g : RemapRegion) (a : Nat) :
    Remap.regionActive c g a =
      (decide (g.srcOrigin ≤ Remap.adrRemap c a * 2 ^ c.shift) &&
       decide (Remap.adrRemap c a * 2 ^ c.shift < g.srcOrigin + g.srcSize)) := by
  simp only [Remap.regionActive, Remap.srcAdr_exact c ho]

/-- 64-bit bus, region `0x9000_0000 → 0x1000_0000` (its byte addresses need 32 bits, the word address has 29): translated. -/
example :
    let c : RemapCfg := { aw := 29, saw := 29, shift := 3, origin := 0, size := 2 ^ 32,
                          regions := [{ srcOrigin := 0x90000000, srcSize := 0x1000, dstOrigin := 0x10000000 }] }
    Remap.mapAdr c (0x90000008 / 8) = 0x10000008 / 8 := by decide

/-! ## Wishbone2CSR -/

/-- **`wishbone.Wishbone2CSR` over a CSR register file is a flat memory of CSR words** — both `register`
    modes, every gap — provided every write selects all byte lanes or none (`_partial`: the CSR bus has no byte
    enables, see the negative witness below).  A cycle with `sel = 0` performs no CSR access and leaves the
    registers unchanged; reads with any `sel` return the addressed word.

    Full statement (fails, witness below): the same without `FullSelWrites`. -/
theorem wb2csr_refines_partial (c : ToCsrCfg) (init : Mem) (ins : List (Req × Unit))
    (hm : Classic (wb2csrOver c init) ins) (hsel : ∀ i ∈ ins, ToCsr.FullSelWrites c i) :
    Consistent c.nb init (ops (wb2csrOver c init) (ToCsr.adrMap c) ins) ∧
    AckOnlyStrobed (wb2csrOver c init) ins :=
  (ToCsr.refines c init).run init (ToCsr.inv_init c init) ins hm hsel

/-- Negative witness for the excluded region: a 16-bit bridge, write of lane 0 only (`sel = 01`) to a register
    holding `[5, 6]`, then a full read: the read returns `[0x11, 0x22]` — the unselected byte was overwritten —
    so the history is *not* a flat byte-memory history. -/
example :
    let c : ToCsrCfg := { nb := 2, register := true, shift := 0, caw := 14 }
    let w : Req := { cyc := true, stb := true, we := true, adr := 0, sel := [true, false], dat := [0x11, 0x22], cti := 0, bte := 0 }
    let r : Req := { w with we := false, sel := [true, true], dat := [] }
    let ins : List (Req × Unit) := [(w, ()), (w, ()), (w, ()), (r, ()), (r, ()), (r, ())]
    Classic (wb2csrOver c (Mem.ofList [5, 6])) ins ∧
    ops (wb2csrOver c (Mem.ofList [5, 6])) (ToCsr.adrMap c) ins =
      [{ adr := 0, we := true, sel := [true, false], dat := [0x11, 0x22] },
       { adr := 0, we := false, sel := [true, true], dat := [0x11, 0x22] }] ∧
    ¬ Consistent c.nb (Mem.ofList [5, 6]) (ops (wb2csrOver c (Mem.ofList [5, 6])) (ToCsr.adrMap c) ins) := by
  decide

/-! ## Cache -/

/-- **`wishbone.Cache` is transparent** (`_partial`): write-back, direct-mapped, every geometry — any number of
    lines, master narrower or wider than the slave, line = several master words or several slave words,
    `reverse` on or off (`Cache.fmap` is the identity unless `reverse`) — every slave latency, every history of a
    protocol-following master that stays within `NG` global lines: read hits, write hits, clean misses, dirty
    evictions followed by the refill of the same set.  `Cache.Geo c NG` lists the geometry side conditions
    (`nbm·2^offsetbits = nbs·2^wordbits`, address widths large enough).

    Hypothesis `hzero`: the backing memory holds 0 wherever the tag is 0 (the first `2^linebits` lines).
    Full statement (fails on the code, witness below, finding C07-cache-no-valid-bit): the same without `hzero`
    — the cache has no valid bit, its power-up state claims to hold the tag-0 lines. -/
theorem cache_refines_mem_partial (c : CacheCfg) (NG : Nat) (g : Cache.Geo c NG) (M0 : Mem)
    (hzero : ∀ x, x < 2 ^ c.linebits * Cache.LB c → M0 x = 0)
    (ins : List (Req × Lat)) (hm : Classic ((cache c).over (latMem c.nbs M0)) ins)
    (hadr : ∀ i ∈ ins, Cache.gline c i.1.adr < NG) :
    Consistent c.nbm M0 (ops ((cache c).over (latMem c.nbs M0)) (Cache.fmap c) ins) ∧
    AckOnlyStrobed ((cache c).over (latMem c.nbs M0)) ins :=
  (Cache.refines (latMem c.nbs M0) _ NG g (fun i => Cache.gline c i.1.adr < NG) _
      (fun _ _ _ _ => trivial) (fun _ _ h => h) (latMem_refines c.nbs M0)).run M0
    (Cache.inv_init (latMem c.nbs M0) _ NG g M0 rfl hzero) ins hm hadr

/-- The geometry side conditions hold for what `Cache.__init__` computes — e.g. the SoC's L2 cache (8 KiB =
    2048 words, 32-bit master with 30 address bits, 128-bit slave with 28) and a wide-to-narrow cache (64-bit
    master with 10 address bits over a 16-bit slave with 12, 32 words). -/
example : Cache.Geo { nbm := 4, nbs := 16, offsetbits := 2, linebits := 9, tagbits := 21, wordbits := 0, saw := 28,
                      reverse := false } (2 ^ 28) :=
  ⟨by decide, by decide, by decide, by decide, by decide, by decide⟩

example : Cache.Geo { nbm := 8, nbs := 2, offsetbits := 0, linebits := 5, tagbits := 7, wordbits := 2, saw := 12,
                      reverse := true } (2 ^ 10) :=
  ⟨by decide, by decide, by decide, by decide, by decide, by decide⟩

/-- The master's address map is the identity when `reverse` is off. -/
theorem cache_fmap_id (c : CacheCfg) (h : c.reverse = false) (a : Nat) : Cache.fmap c a = a := by
  simp only [Cache.fmap, Cache.gline, Cache.chunk, h, Bool.false_eq_true, if_false]
  rw [Nat.mul_comm]; exact Nat.div_add_mod a _

/-- Non-vacuity: 2 lines × 2 slave words (16-bit master over an 8-bit slave, zero-latency oracle), backing
    memory 0 on the tag-0 lines and `x + 1` elsewhere.  Write to a cold line, conflicting read (dirty eviction
    + refill), read of the first address again (clean miss + refill): all data as a flat memory holds it. -/
example :
    let c : CacheCfg := { nbm := 2, nbs := 1, offsetbits := 0, linebits := 1, tagbits := 2, wordbits := 1, saw := 3, reverse := true }
    let M0 : Mem := fun x => if x < 4 then 0 else x + 1
    let q (we : Bool) (a : Nat) (d : List Byte) : Req × Lat :=
      ({ cyc := true, stb := true, we := we, adr := a, sel := [true, true], dat := d, cti := 0, bte := 0 }, ⟨true, []⟩)
    let ins := List.replicate 2 (q true 1 [0x11, 0x22]) ++ List.replicate 7 (q false 3 []) ++
               List.replicate 5 (q false 1 [])
    Classic ((cache c).over (latMem c.nbs M0)) ins ∧
    ops ((cache c).over (latMem c.nbs M0)) (Cache.fmap c) ins =
      [{ adr := 1, we := true, sel := [true, true], dat := [0x11, 0x22] },
       { adr := 3, we := false, sel := [true, true], dat := [7, 8] },
       { adr := 1, we := false, sel := [true, true], dat := [0x11, 0x22] }] := by decide

/-- Negative witness for the excluded region: same cache, backing memory `x + 1` everywhere.  The very first
    read of address 1 (tag 0) "hits" and returns `[0, 0]`; the backing memory holds `[3, 4]`. -/
example :
    let c : CacheCfg := { nbm := 2, nbs := 1, offsetbits := 0, linebits := 1, tagbits := 2, wordbits := 1, saw := 3, reverse := true }
    let M0 : Mem := fun x => x + 1
    let q (a : Nat) : Req × Lat :=
      ({ cyc := true, stb := true, we := false, adr := a, sel := [true, true], dat := [], cti := 0, bte := 0 }, ⟨true, []⟩)
    let ins := [q 1, q 1]
    Classic ((cache c).over (latMem c.nbs M0)) ins ∧
    ops ((cache c).over (latMem c.nbs M0)) (Cache.fmap c) ins = [{ adr := 1, we := false, sel := [true, true], dat := [0, 0] }] ∧
    ¬ Consistent c.nbm M0 (ops ((cache c).over (latMem c.nbs M0)) (Cache.fmap c) ins) := by decide

/-- **`wishbone.Cache` is transparent once its lines are warm — with NO assumption on the backing memory.**
    The tag-0 hypothesis of `cache_refines_mem_partial` is only needed for the power-up state. From *any* idle cache
    state `s` whose memories are well formed and whose clean lines hold the backing bytes of the line their stored tag
    names (`Cache.Coherent`, a per-line condition: it is what the refill of a line establishes for that line, and it
    constrains dirty lines not at all) over *any* backing memory `Ms`, every continuation of a protocol-following
    master is a flat byte-memory history of `Cache.absMem c s.data s.tags Ms` (the backing memory overlaid with the
    cached lines), for every geometry and slave latency. At power-up `Coherent` fails exactly on the lines whose tag-0
    backing bytes are not 0 (no valid bit: finding C07-cache-no-valid-bit, negative witness above); line by line it
    holds from the first refill on. -/
theorem cache_refines_after_warmup (c : CacheCfg) (NG : Nat) (g : Cache.Geo c NG) (s : CacheState) (Ms : Mem)
    (hidle : s.fsm = .idle) (hwf : Cache.WF c NG s.data s.tags) (hcoh : Cache.Coherent c s.data s.tags Ms)
    (ins : List (Req × Lat)) (hm : ClassicFrom ((cache c).over (latMem c.nbs Ms)) (s, Ms) none ins)
    (hadr : ∀ i ∈ ins, Cache.gline c i.1.adr < NG) :
    Consistent c.nbm (Cache.absMem c s.data s.tags Ms)
      (opsFrom ((cache c).over (latMem c.nbs Ms)) (Cache.fmap c) (s, Ms) ins) ∧
    AckOnlyStrobedFrom ((cache c).over (latMem c.nbs Ms)) (s, Ms) ins := by
  exact (Cache.refines (latMem c.nbs Ms) _ NG g (fun i => Cache.gline c i.1.adr < NG)
    _ (fun _ _ _ _ => trivial) (fun _ _ h => h) (latMem_refines c.nbs Ms)).runFrom (s, Ms) none _
    (Cache.Inv.mk_idle (s := s) (t := Ms) hidle hwf rfl rfl hcoh) ins hm hadr

/-- Non-vacuity, on the configuration and backing memory of the negative witness (`x + 1` everywhere, so the
    tag-0 hypothesis is false): two reads with tag 1 (addresses 2 and 3) warm both lines — the state reached from
    reset is idle, well formed and coherent — and from it the tag-0 addresses 1 and 0 read what the backing memory
    holds (`[3, 4]`, `[1, 2]`; cold, address 1 read `[0, 0]`), also after a write and a dirty eviction. -/
example :
    let c : CacheCfg := { nbm := 2, nbs := 1, offsetbits := 0, linebits := 1, tagbits := 2, wordbits := 1, saw := 3, reverse := true }
    let M0 : Mem := fun x => x + 1
    let q (we : Bool) (a n : Nat) (d : List Byte) : List (Req × Lat) :=
      List.replicate n ({ cyc := true, stb := true, we := we, adr := a, sel := [true, true], dat := d, cti := 0, bte := 0 }, ⟨true, []⟩)
    let sl := (cache c).over (latMem c.nbs M0)
    let warm := q false 2 5 [] ++ q false 3 5 []
    let s := (sl.runFrom sl.init warm).1
    let ins := q false 1 5 [] ++ q false 0 5 [] ++ q true 1 2 [0x11, 0x22] ++ q false 3 7 [] ++ q false 1 5 []
    s.fsm = .idle ∧ s.tags = [(1, false), (1, false)] ∧ s.data = [5, 6, 7, 8] ∧
    Cache.WF c 8 s.data s.tags ∧ Cache.Coherent c s.data s.tags M0 ∧ M0 0 ≠ 0 ∧
    ClassicFrom sl (s, M0) none ins ∧
    (opsFrom sl (Cache.fmap c) (s, M0) ins).map (fun op => (op.adr, op.we, op.dat)) =
      [(1, false, [3, 4]), (0, false, [1, 2]), (1, true, [0x11, 0x22]), (3, false, [7, 8]), (1, false, [0x11, 0x22])] := by
  refine ⟨by decide, by decide, by decide, ?_, ?_, by decide, by decide, by decide⟩
  · unfold Cache.WF; decide
  · unfold Cache.Coherent; decide

/-! ## Bounded liveness: every presented request is acknowledged within an explicit number of cycles

  `Within L w os`: the slave answers within `L` — the latency oracle `os` never stays silent for more than `L`
  consecutive cycles (`w` = cycles of silence so far).  `ackedIn m r s os`: while the master keeps presenting `r`
  from state `s`, some cycle of the run carries `ack`.  Together with `AckOnlyStrobed` and the classic hold rule
  this is "each cycle is acknowledged exactly once".  (SRAM: `sram_one_ack_per_request`, the cycle after the
  strobe.) -/

/-- **DownConverter**: a request is acknowledged within `ratio·(L+1)` cycles (`ratio` over a zero-latency
    slave; a skipped sub-word costs one cycle). -/
theorem down_ack_within (c : DownCfg) (L : Nat) (M0 : Mem) (r : Req) (hact : r.active = true) (datR : List Byte)
    (mem : Mem) (os : List Lat) (hW : Within L 0 os) (hlen : c.ratio * (L + 1) ≤ os.length) :
    ackedIn ((downConv c).over (latMem c.nbs M0)) r ({ count := 0, datR := datR }, mem) os = true :=
  Down.ack_within c L M0 r hact os _ mem 0 (Down.ratio_pos c) (Nat.zero_le _) hW (by rw [rk_zero]; exact hlen)

/-- **UpConverter, Remapper, equal-width Converter**: purely combinational — the master is acknowledged in the
    very cycle in which the slave acknowledges (`K = L + 1`). -/
theorem up_ack_same_cycle (c : UpCfg) (r : Req) (rsp : Rsp) : (Up.toMaster c () r rsp).ack = rsp.ack := rfl

theorem remap_ack_same_cycle (c : RemapCfg) (r : Req) (rsp : Rsp) : ((remapper c).toMaster () r rsp).ack = rsp.ack := rfl

/-- One acknowledge per access, over any CSR side: in the third cycle of a request (registered access) resp. the
    second (un-registered access). -/
theorem wb2csr_on_ack_latency {ω κ : Type} (c : ToCsrCfg) (side : CsrSide ω κ) (r : Req) (hact : r.active = true)
    (s : ToCsrState) (t : κ) (o : ω) (hs : s.fsm = if c.register then .idle else .writeRead) :
    ackedIn (wb2csrOn c side) r (s, t) (List.replicate (if c.register then 3 else 2) o) = true := by
  cases hreg : c.register <;>
    simp [hreg] at hs <;>
    simp [ackedIn, List.replicate, wb2csrOn, ToCsr.rsp, ToCsr.next, hreg, hs, hact]

/-- **Wishbone2CSR**: acknowledged in the third cycle of a request (registered access) resp. the second
    (un-registered access), whatever the CSR side returns. -/
theorem wb2csr_ack_latency (c : ToCsrCfg) (init : Mem) (r : Req) (hact : r.active = true) (s : ToCsrState)
    (cf : CsrFileState) (hs : s.fsm = if c.register then .idle else .writeRead) :
    ackedIn (wb2csrOver c init) r (s, cf) (List.replicate (if c.register then 3 else 2) ()) = true :=
  wb2csr_on_ack_latency c (ToCsr.fileSide c.nb init) r hact s cf () hs

/-- **Cache**: a hit is acknowledged in the TEST_HIT cycle (the second cycle of the request). -/
theorem cache_hit_ack (c : CacheCfg) (s : CacheState) (r : Req) (rsp : Rsp) (hf : s.fsm = .testHit)
    (hh : Cache.hit c s r = true) : (Cache.toMaster c s r rsp).ack = true := by
  simp [Cache.toMaster, Cache.mack, hf, hh]

/-- **Cache**: from IDLE every request — hit, clean miss, or miss with dirty eviction — is acknowledged within
    `3 + 2·2^wordbits·(L+1)` cycles when the slave answers each of the `2^wordbits` evicted and refilled words
    within `L`. -/
theorem cache_ack_within (c : CacheCfg) (L : Nat) (M0 : Mem) (r : Req) (hact : r.active = true) (s : CacheState)
    (mem : Mem) (hidle : s.fsm = .idle) (htags : s.tags.length = 2 ^ c.linebits)
    (os : List Lat) (hW : Within L 0 os) (hlen : 3 + 2 * (2 ^ c.wordbits * (L + 1)) ≤ os.length) :
    ackedIn ((cache c).over (latMem c.nbs M0)) r (s, mem) os = true :=
  Cache.ack_within c L M0 r hact os s mem 0 ⟨htags, by simp only [hidle]⟩ (Nat.zero_le _) hW
    (by rw [Cache.idle_bound c L s r 0 hidle]; exact hlen)

/-- Non-vacuity of the bound (and tightness): 16-bit master over an 8-bit slave that answers every second cycle
    (`L = 1`), ratio 2 ⇒ acknowledged within 4 cycles, and not within 3. -/
example :
    let os : List Lat := [⟨false, []⟩, ⟨true, []⟩, ⟨false, []⟩, ⟨true, []⟩]
    let r : Req := { cyc := true, stb := true, we := false, adr := 1, sel := [true, true], dat := [], cti := 0, bte := 0 }
    Within 1 0 os ∧
    ackedIn ((downConv { nbs := 1, cbits := 1 }).over (latMem 1 (fun x => x))) r ({ count := 0, datR := [0, 0] }, fun x => x) os = true ∧
    ackedIn ((downConv { nbs := 1, cbits := 1 }).over (latMem 1 (fun x => x))) r ({ count := 0, datR := [0, 0] }, fun x => x)
      (os.take 3) = false := by decide

/-! ## Compositions with the real SRAM model (the SoC's usual stacks) -/

/-- **`master → DownConverter → SRAM` is a flat byte memory** (narrowing direction).
    The SRAM has `2^n = ratio · dm` words of the narrow width; the master sees `dm` wide words (addresses wrap
    modulo `dm`).  Obtained by composing `Down.refines` with `Sram.refines` — no proof about the product. -/
theorem down_over_sram_refines (c : DownCfg) (sc : SramCfg) (init : List Byte) (n dm : Nat)
    (hnb : sc.nb = c.nbs) (hrw : sc.readOnly = false) (hnb0 : sc.burst = false)
    (hdepth : sc.depth = 2 ^ n) (haw : n ≤ sc.aw) (hdm : sc.depth = c.ratio * dm)
    (ins : List (Req × Unit)) (hm : Classic ((downConv c).over (sram sc init)) ins) :
    Consistent c.nbm (Mem.ofList (Sram.initMem sc init)) (ops ((downConv c).over (sram sc init)) (· % dm) ins) ∧
    AckOnlyStrobed ((downConv c).over (sram sc init)) ins := by
  have hd : 0 < sc.depth := by rw [hdepth]; exact Nat.two_pow_pos n
  have hS := Sram.refines sc hd hrw init
  rw [hnb] at hS
  exact (Down.refines c (sram sc init) sc.idx (· % dm) _ (Down.sram_decode c sc n dm hdepth haw hdm)
      (fun _ => True) _ (fun _ _ _ _ => by simp [Sram.NoBurst, Sram.adrBurst, hnb0]) hS).run _
    ⟨Down.ratio_pos c, rfl, Sram.inv_init sc init⟩ ins hm (fun _ _ => trivial)

/-- **`burst master → DownConverter → bursting SRAM` is a flat byte memory** (full strength): linear
    bursts of any length are forwarded as one linear burst of sub-words (the SRAM's address counter serves them,
    one sub-word per cycle), wrapping bursts *of any length* are degraded to classic sub-word cycles by the
    converter's guard, classic cycles (with skipped sub-words) in between, arbitrary gaps between bursts; the
    master's addresses fit `awm` bits with `ratio·2^awm ≤ 2^aw`.  Composition of `Down.brefines` with
    `Sram.brefines` — the slave-side obligations (`Expect`) are part of the refinement relation. -/
theorem down_burst_over_sram_refines (c : DownCfg) (sc : SramCfg) (init : List Byte) (n dm awm : Nat)
    (hnb : sc.nb = c.nbs) (hrw : sc.readOnly = false) (hb : sc.burst = true) (haw4 : 4 ≤ sc.aw)
    (hdepth : sc.depth = 2 ^ n) (haw : n ≤ sc.aw) (hdm : sc.depth = c.ratio * dm)
    (hfit : c.ratio * 2 ^ awm ≤ 2 ^ sc.aw)
    (ins : List (Req × Unit)) (hm : BurstMaster ((downConv c).over (sram sc init)) false ins)
    (hadr : ∀ i ∈ ins, i.1.adr < 2 ^ awm) :
    Consistent c.nbm (Mem.ofList (Sram.initMem sc init)) (ops ((downConv c).over (sram sc init)) (· % dm) ins) ∧
    AckOnlyStrobed ((downConv c).over (sram sc init)) ins := by
  have hd : 0 < sc.depth := by rw [hdepth]; exact Nat.two_pow_pos n
  have hS := Sram.brefines sc hd hrw hb haw4 init
  rw [hnb] at hS
  exact (Down.brefines c (sram sc init) sc.idx (· % dm) _ (Down.sram_decode c sc n dm hdepth haw hdm)
      false (fun i => i.1.adr < 2 ^ awm) _
      (fun s r _ hcnt hP => Down.toSlave_adr_lt c sc.aw awm hfit s r hcnt hP) hS).run _ .free _
    ⟨Down.ratio_pos c, _, .free, Sram.binv_init sc init, rfl, rfl, rfl⟩ ins hm hadr

/-- **`burst master with wait states → DownConverter → bursting SRAM` is a flat byte memory**: as
    `down_burst_over_sram_refines`, for masters that insert wait states between beats or abandon bursts
    (`BurstMasterW`).  A master wait state is a wait state of the sub-word burst on the narrow side (the SRAM's
    counter resets, the next sub-word is served at the address the converter presents).  The converter gates its
    acknowledge with the master's strobe, so the strict `AckOnlyStrobed` holds here. -/
theorem down_burst_waits_over_sram_refines (c : DownCfg) (sc : SramCfg) (init : List Byte) (n dm awm : Nat)
    (hnb : sc.nb = c.nbs) (hrw : sc.readOnly = false) (hb : sc.burst = true) (haw4 : 4 ≤ sc.aw)
    (hdepth : sc.depth = 2 ^ n) (haw : n ≤ sc.aw) (hdm : sc.depth = c.ratio * dm)
    (hfit : c.ratio * 2 ^ awm ≤ 2 ^ sc.aw)
    (ins : List (Req × Unit)) (hm : BurstMasterW ((downConv c).over (sram sc init)) false ins)
    (hadr : ∀ i ∈ ins, i.1.adr < 2 ^ awm) :
    Consistent c.nbm (Mem.ofList (Sram.initMem sc init)) (ops ((downConv c).over (sram sc init)) (· % dm) ins) ∧
    AckOnlyStrobed ((downConv c).over (sram sc init)) ins := by
  have hd : 0 < sc.depth := by rw [hdepth]; exact Nat.two_pow_pos n
  have hS := Sram.brefines sc hd hrw hb haw4 init
  have hSw := Sram.waitOk sc init
  rw [hnb] at hS
  have hfg := Down.sram_decode c sc n dm hdepth haw hdm
  have hP : ∀ (s : DownState) (r : Req) (o : Unit), s.count < c.ratio → r.adr < 2 ^ awm →
      (Down.toSlave c s r).adr < 2 ^ sc.aw := fun s r _ hcnt hP' => Down.toSlave_adr_lt c sc.aw awm hfit s r hcnt hP'
  refine ⟨?_, Down.ack_only_strobed c (sram sc init) ins _⟩
  exact ((Down.brefines c (sram sc init) sc.idx (· % dm) _ hfg false (fun i => i.1.adr < 2 ^ awm) _ hP hS).runW
      (Down.waitOk c (sram sc init) sc.idx (· % dm) _ (fun i => i.1.adr < 2 ^ awm) _ hP hS hSw) ins _ .free _
    ⟨Down.ratio_pos c, _, .free, Sram.binv_init sc init, rfl, rfl, rfl⟩ hm hadr).1

/-- Non-vacuity: 16-bit master over an 8-bit bursting SRAM of 16 words; linear write burst 2, 3, 4 with a wait
    state (lines held) after the first beat and a garbage wait state after the second, read back by a burst that
    is abandoned after two beats, then a classic read. -/
example :
    let c : DownCfg := { nbs := 1, cbits := 1 }
    let sc : SramCfg := { nb := 1, depth := 16, aw := 4, readOnly := false, burst := true }
    let q (stb we : Bool) (a : Nat) (d : List Byte) (cti n : Nat) : List (Req × Unit) :=
      List.replicate n ({ cyc := true, stb := stb, we := we, adr := a, sel := [true, true], dat := d, cti := cti, bte := 0 }, ())
    let ins := q true true 2 [0x20, 0x21] 2 3 ++ q false true 3 [0x30, 0x31] 2 2 ++ q true true 3 [0x30, 0x31] 2 3 ++
               q false false 9 [0x99] 7 1 ++ q true true 4 [0x40, 0x41] 7 3 ++
               q true false 2 [] 2 3 ++ q true false 3 [] 2 2 ++ [(Req.idle, ())] ++ q true false 4 [] 0 4
    BurstMasterW ((downConv c).over (sram sc [])) false ins ∧
    (ops ((downConv c).over (sram sc [])) (· % 8) ins).map (fun op => (op.adr, op.we, op.dat)) =
      [(2, true, [0x20, 0x21]), (3, true, [0x30, 0x31]), (4, true, [0x40, 0x41]),
       (2, false, [0x20, 0x21]), (3, false, [0x30, 0x31]), (4, false, [0x40, 0x41])] := by decide

/-- Non-vacuity: 16-bit master over an 8-bit bursting SRAM of 16 words.  A linear write burst of 3 beats from 2
    (6 sub-words: 2 cycles for the first, then one per cycle), a wrap-4 read burst 3, 0, 1 (degraded to classic
    sub-word cycles) and a classic partial write with a skipped sub-word. -/
example :
    let c : DownCfg := { nbs := 1, cbits := 1 }
    let sc : SramCfg := { nb := 1, depth := 16, aw := 4, readOnly := false, burst := true }
    let q (we : Bool) (a : Nat) (sel : List Bool) (d : List Byte) (cti bte n : Nat) : List (Req × Unit) :=
      List.replicate n ({ cyc := true, stb := true, we := we, adr := a, sel := sel, dat := d, cti := cti, bte := bte }, ())
    let ins := q true 2 [true, true] [0x20, 0x21] 2 0 3 ++ q true 3 [true, true] [0x30, 0x31] 2 0 2 ++
               q true 4 [true, true] [0x40, 0x41] 7 0 2 ++ [(Req.idle, ())] ++
               q false 3 [true, true] [] 2 1 4 ++ q false 0 [true, true] [] 2 1 4 ++ q false 1 [true, true] [] 7 1 4 ++
               q true 2 [false, true] [0x99, 0x77] 0 0 3 ++ q false 2 [true, true] [] 0 0 4
    BurstMaster ((downConv c).over (sram sc [])) false ins ∧
    (ops ((downConv c).over (sram sc [])) (· % 8) ins).map (fun op => (op.adr, op.we, op.dat)) =
      [(2, true, [0x20, 0x21]), (3, true, [0x30, 0x31]), (4, true, [0x40, 0x41]),
       (3, false, [0x30, 0x31]), (0, false, [0, 0]), (1, false, [0, 0]),
       (2, true, [0x99, 0x77]), (2, false, [0x20, 0x77])] := by decide

/-- **`master → UpConverter → SRAM` is a flat byte memory** (widening direction): the
    master sees `ratio · 2^n` narrow words.  Holds for bursting SRAM buses too, whatever burst tags the master
    drives: the converter does not forward them (the wide slave sees classic cycles). -/
theorem up_over_sram_refines (c : UpCfg) (hpos : 0 < c.nbm) (sc : SramCfg) (init : List Byte) (n : Nat)
    (hnb : sc.nb = c.nbs) (hrw : sc.readOnly = false)
    (hdepth : sc.depth = 2 ^ n) (haw : n ≤ sc.aw)
    (ins : List (Req × Unit)) (hm : Classic ((upConv c).over (sram sc init)) ins) :
    Consistent c.nbm (Mem.ofList (Sram.initMem sc init))
      (ops ((upConv c).over (sram sc init)) (fun a => (a / c.ratio % sc.depth) * c.ratio + a % c.ratio) ins) ∧
    AckOnlyStrobed ((upConv c).over (sram sc init)) ins := by
  have hd : 0 < sc.depth := by rw [hdepth]; exact Nat.two_pow_pos n
  have hS := Sram.refines sc hd hrw init
  rw [hnb] at hS
  exact (Up.refines c (sram sc init) sc.idx _ _ hpos
      (fun a => by simp only [Sram.idx_pow2 sc n hdepth haw])
      (fun _ => True) _ (fun _ _ _ => by simp [Sram.NoBurst, Sram.adrBurst, Up.toSlave]) hS).run _
    (Sram.inv_init sc init) ins hm (fun _ _ => trivial)

/-- The UpConverter does not forward `cti` (forwarded, a bursting SRAM would advance its address counter on every
    narrow beat): 8-bit master over a 16-bit *bursting* SRAM, write burst to 2, 3, 4 (`cti` 2, 2, 7),
    then classic reads of 3 and 5 — a flat-memory history. -/
example :
    let c : UpCfg := { nbm := 1, cbits := 1 }
    let sc : SramCfg := { nb := 2, depth := 8, aw := 4, readOnly := false, burst := true }
    let w (a d cti : Nat) : Req × Unit :=
      ({ cyc := true, stb := true, we := true, adr := a, sel := [true], dat := [d], cti := cti, bte := 0 }, ())
    let r (a : Nat) : Req × Unit :=
      ({ cyc := true, stb := true, we := false, adr := a, sel := [true], dat := [], cti := 0, bte := 0 }, ())
    let ins := [w 2 0xA2 2, w 2 0xA2 2, w 3 0xB3 2, w 3 0xB3 2, w 4 0xC4 7, w 4 0xC4 7, (Req.idle, ()), r 3, r 3,
                (Req.idle, ()), r 5, r 5]
    Classic ((upConv c).over (sram sc [])) ins ∧
    (ops ((upConv c).over (sram sc [])) id ins).map (fun op => (op.adr, op.we, op.dat)) =
      [(2, true, [0xA2]), (3, true, [0xB3]), (4, true, [0xC4]), (3, false, [0xB3]), (5, false, [0])] := by decide

/-- **`master → Remapper → SRAM` is a flat byte memory at the translated address** (non-bursting SRAM bus: the
    remapper forwards the burst tags): decoding `idx ∘ mapAdr`. -/
theorem remap_over_sram_refines (c : RemapCfg) (sc : SramCfg) (init : List Byte) (hd : 0 < sc.depth)
    (hrw : sc.readOnly = false) (hnb0 : sc.burst = false)
    (ins : List (Req × Unit)) (hm : Classic ((remapper c).over (sram sc init)) ins) :
    Consistent sc.nb (Mem.ofList (Sram.initMem sc init))
      (ops ((remapper c).over (sram sc init)) (fun a => sc.idx (Remap.mapAdr c a)) ins) ∧
    AckOnlyStrobed ((remapper c).over (sram sc init)) ins := by
  rw [remapper_eq] at hm ⊢
  exact (AdrAdapter.refines (Remap.mapAdr c) (sram sc init) sc.idx sc.nb _ (fun _ => True) _
      (fun _ _ _ => by simp [Sram.NoBurst, Sram.adrBurst, hnb0]) (Sram.refines sc hd hrw init)).run _
    (Sram.inv_init sc init) ins hm (fun _ _ => trivial)

/-- **`master → Cache → SRAM` is a flat byte memory** (`_partial`, same hypothesis as `cache_refines_mem_partial`):
    the real SRAM model (two-cycle classic slave that writes in both cycles) fills the cache's slave address space
    (`depth = 2^saw`), initial content 0 on the tag-0 lines.  Composition of `Cache.refines` with `Sram.refines`. -/
theorem cache_over_sram_refines_partial (c : CacheCfg) (NG : Nat) (g : Cache.Geo c NG) (sc : SramCfg) (init : List Byte)
    (hnb : sc.nb = c.nbs) (hrw : sc.readOnly = false) (hnb0 : sc.burst = false)
    (hdepth : sc.depth = 2 ^ c.saw) (haw : c.saw ≤ sc.aw)
    (hzero : ∀ x, x < 2 ^ c.linebits * Cache.LB c → Mem.ofList (Sram.initMem sc init) x = 0)
    (ins : List (Req × Unit)) (hm : Classic ((cache c).over (sram sc init)) ins)
    (hadr : ∀ i ∈ ins, Cache.gline c i.1.adr < NG) :
    Consistent c.nbm (Mem.ofList (Sram.initMem sc init)) (ops ((cache c).over (sram sc init)) (Cache.fmap c) ins) ∧
    AckOnlyStrobed ((cache c).over (sram sc init)) ins := by
  have hd : 0 < sc.depth := by rw [hdepth]; exact Nat.two_pow_pos _
  have hS := (Sram.refines sc hd hrw init).restrict (fun i => i.1.adr < sc.depth) id (fun i hi => by
    refine ⟨by simp [Sram.NoBurst, Sram.adrBurst, hnb0], ?_⟩
    simp only [id, Sram.idx_pow2 sc c.saw hdepth haw]
    exact (Nat.mod_eq_of_lt hi).symm)
  rw [hnb] at hS
  exact (Cache.refines (sram sc init) _ NG g (fun i => Cache.gline c i.1.adr < NG) _
      (fun s r _ _ => by
        show (Cache.toSlave c s r).adr < sc.depth
        rw [hdepth]; exact Nat.mod_lt _ (Nat.two_pow_pos _))
      (fun _ _ h => h) hS).run _
    (Cache.inv_init (sram sc init) _ NG g _ (Sram.inv_init sc init) hzero) ins hm hadr

/-- **Chains compose**: `master → Cache → DownConverter → memory` (an L2 cache in front of a narrower memory
    port, arbitrary latency) — `Cache.refines` applied to `Down.refines` applied to the abstract memory. -/
theorem cache_over_down_refines_partial (c : CacheCfg) (NG : Nat) (g : Cache.Geo c NG) (dc : DownCfg)
    (hnb : dc.nbm = c.nbs) (M0 : Mem) (hzero : ∀ x, x < 2 ^ c.linebits * Cache.LB c → M0 x = 0)
    (ins : List (Req × Lat)) (hm : Classic ((cache c).over ((downConv dc).over (latMem dc.nbs M0))) ins)
    (hadr : ∀ i ∈ ins, Cache.gline c i.1.adr < NG) :
    Consistent c.nbm M0 (ops ((cache c).over ((downConv dc).over (latMem dc.nbs M0))) (Cache.fmap c) ins) ∧
    AckOnlyStrobed ((cache c).over ((downConv dc).over (latMem dc.nbs M0))) ins := by
  have hD := Down.refines dc (latMem dc.nbs M0) id id _ (fun _ _ _ => rfl) (fun _ => True)
    _ (fun _ _ _ _ => trivial) (latMem_refines dc.nbs M0)
  rw [hnb] at hD
  exact (Cache.refines ((downConv dc).over (latMem dc.nbs M0)) _ NG g (fun i => Cache.gline c i.1.adr < NG) _
      (fun _ _ _ _ => trivial) (fun _ _ h => h) hD).run M0
    (Cache.inv_init ((downConv dc).over (latMem dc.nbs M0)) _ NG g M0 ⟨Down.ratio_pos dc, rfl, rfl⟩ hzero) ins hm hadr

/-! Non-vacuity: 16-bit master over an 8-bit, 4-word SRAM (ratio 2).  Partial write of the upper byte of wide
    word 1 (the lower sub-word is skipped: 3 cycles), then a full read of it (2 sub-word reads: 4 cycles). -/
example :
    let c : DownCfg := { nbs := 1, cbits := 1 }
    let sc : SramCfg := { nb := 1, depth := 4, aw := 3, readOnly := false, burst := false }
    let w : Req := { cyc := true, stb := true, we := true, adr := 1, sel := [false, true], dat := [0x11, 0x22], cti := 0, bte := 0 }
    let r : Req := { w with we := false, sel := [true, true], dat := [] }
    let ins : List (Req × Unit) := [(w, ()), (w, ()), (w, ()), (Req.idle, ()), (r, ()), (r, ()), (r, ()), (r, ())]
    Classic ((downConv c).over (sram sc [5, 6, 7, 8])) ins ∧
    ops ((downConv c).over (sram sc [5, 6, 7, 8])) (· % 2) ins =
      [{ adr := 1, we := true, sel := [false, true], dat := [0x11, 0x22] },
       { adr := 1, we := false, sel := [true, true], dat := [7, 0x22] }] := by decide

/-! ## Wishbone2CSR over a `CSRBank` (C12's bank model `Csr.bank`)

  `wb2csrBank c b` (LitexModel/Wishbone/ToCsrBank.lean): the bridge wired to the bank; the environment input of
  every cycle is the device side of the registers (`List Csr.Dev`, arbitrary).  `PlainBank nb b`: every register
  is a `CSRStorage` exactly one bus word wide without `write_from_dev`, and the bank fits its page.
  `bankV nb b s`: the register contents as a byte memory (CSR word `a` at bytes `a·nb ..`).
  `ToCsr.PB c (bankMapped b) i`: all-or-nothing write selects, the CSR address `(adr >> shift) mod 2^caw` decodes
  to a register of the bank, the data lines carry bytes. -/

/-- **`Wishbone2CSR` over a `CSRBank` of one-word storages is a flat memory of the register contents**
    (`_partial`: all-or-nothing write selects — finding C07-wb2csr-no-byte-enables, witness below): reads return
    the register contents (initially the reset values), full-word writes land in exactly the addressed register,
    reads have no side effect on the contents (a later read returns the same), no acknowledge without a strobe
    — both `register` modes, word and byte addressing (`shift`), every bank address/paging, every device-side
    input, every gap.  Obtained from `ToCsr.refinesOn` (the bridge over any CSR side that is a register file on
    its mapped addresses) and `bank_sideOk` (C12's `Csr.bank` is one). -/
theorem wb2csr_over_csrbank_refines_partial (c : ToCsrCfg) (b : Csr.BankCfg) (hp : PlainBank c.nb b)
    (ins : List (Req × List Csr.Dev)) (hm : Classic (wb2csrBank c b) ins)
    (hP : ∀ i ∈ ins, ToCsr.PB c (bankMapped b) i) :
    Consistent c.nb (bankV c.nb b (Csr.bank b).init) (ops (wb2csrBank c b) (ToCsr.adrMap c) ins) ∧
    AckOnlyStrobed (wb2csrBank c b) ins :=
  (ToCsr.refinesOn c (bankSide c.nb b) (bankV c.nb b) (bankMapped b) (bank_sideOk c.nb b hp)).run _
    (ToCsr.invOn_init c _ _ _ rfl) ins hm hP

/-- The same bridge over *any* CSR side that behaves as a register file on its mapped addresses (`CsrSideOk`:
    no change without `we`, whole-word replacement with `we`, `dat_r` one cycle after the address). -/
theorem wb2csr_over_side_refines_partial {ω κ : Type} (c : ToCsrCfg) (side : CsrSide ω κ) (V : κ → Mem)
    (Mapped : Nat → Prop) (h : CsrSideOk side c.nb V Mapped) (ins : List (Req × ω))
    (hm : Classic (wb2csrOn c side) ins) (hP : ∀ i ∈ ins, ToCsr.PB c Mapped i) :
    Consistent c.nb (V side.init) (ops (wb2csrOn c side) (ToCsr.adrMap c) ins) ∧
    AckOnlyStrobed (wb2csrOn c side) ins :=
  (ToCsr.refinesOn c side V Mapped h).run _ (ToCsr.invOn_init c _ _ _ rfl) ins hm hP

/-- Non-vacuity: 16-bit bridge (registered) over bank number 1 (`paging = 0x10`: 4 words per page) with two 16-bit
    storages, resets `0xB2A1` and `0`.  Read of register 0 (CSR address 4) returns its reset value, full-word
    write to register 1 (address 5), read back, read of register 0 again: untouched. -/
example :
    let c : ToCsrCfg := { nb := 2, register := true, shift := 0, caw := 4 }
    let b : Csr.BankCfg := { bw := 16, ord := .big, pbits := 2, address := 1,
                             regs := [{ kind := .storage, size := 16, reset := 0xB2A1 }, { kind := .storage, size := 16 }] }
    let q (we : Bool) (a : Nat) (d : List Byte) : List (Req × List Csr.Dev) :=
      List.replicate 3 ({ cyc := true, stb := true, we := we, adr := a, sel := [true, true], dat := d, cti := 0, bte := 0 }, [])
    let ins := q false 4 [] ++ q true 5 [0x34, 0x12] ++ q false 5 [] ++ q false 4 []
    PlainBank c.nb b ∧ Classic (wb2csrBank c b) ins ∧ (∀ i ∈ ins, bankMapped b (ToCsr.csrAdr c i.1)) ∧
    (ops (wb2csrBank c b) (ToCsr.adrMap c) ins).map (fun op => (op.adr, op.we, op.dat)) =
      [(4, false, [0xA1, 0xB2]), (5, true, [0x34, 0x12]), (5, false, [0x34, 0x12]), (4, false, [0xA1, 0xB2])] := by
  refine ⟨⟨by decide, by decide, by decide, by decide⟩, by decide, by decide, by decide⟩

/-- Negative witness for the excluded region, on the bank: write of lane 0 only (`sel = 01`) to register 0 holding
    `0xB2A1`, then a full read returns `[0x11, 0x22]` — the unselected byte was overwritten. -/
example :
    let c : ToCsrCfg := { nb := 2, register := true, shift := 0, caw := 4 }
    let b : Csr.BankCfg := { bw := 16, ord := .big, pbits := 2, address := 1,
                             regs := [{ kind := .storage, size := 16, reset := 0xB2A1 }, { kind := .storage, size := 16 }] }
    let q (we : Bool) (sel : List Bool) (d : List Byte) : List (Req × List Csr.Dev) :=
      List.replicate 3 ({ cyc := true, stb := true, we := we, adr := 4, sel := sel, dat := d, cti := 0, bte := 0 }, [])
    let ins := q true [true, false] [0x11, 0x22] ++ q false [true, true] []
    Classic (wb2csrBank c b) ins ∧
    (ops (wb2csrBank c b) (ToCsr.adrMap c) ins).map (fun op => (op.adr, op.we, op.dat)) =
      [(4, true, [0x11, 0x22]), (4, false, [0x11, 0x22])] ∧
    bankV c.nb b (Csr.bank b).init 9 = 0xB2 := by
  refine ⟨by decide, by decide, by decide⟩

/-! ## The adapters as `SoCBusHandler.add_adapter` composes them (width conversion, then addressing conversion)

  On a byte-addressed main bus (AXI-Lite / AXI) a word-addressed Wishbone interface of another width gets a
  `wishbone.Converter` to the bus width *and then* the word->byte re-wiring `adapted.adr[shift:] = adr` with
  `shift = log2(bus bytes)` (the width of the converted interface, not of the original one).
  `gluedMem nb sh M0`: the byte-addressed bus (a byte memory of `nb` lanes behind `adr[sh:]`) seen through that
  re-wiring; the address functions are C09's `Bridge.Adapter.elemByte` (`glueSubAddr`). -/

/-- **Converter (narrowing) composed with the addressing shift refines the byte memory**: the wide master sees a
    flat byte memory in which lane `j` of word `a` is byte `a·nbm + j` — every ratio, partial `sel`, every latency. -/
theorem down_over_addressing_refines (c : DownCfg) (sh : Nat) (M0 : Mem) (ins : List (Req × Lat))
    (hm : Classic ((downConv c).over (gluedMem c.nbs sh M0)) ins) :
    Consistent c.nbm M0 (ops ((downConv c).over (gluedMem c.nbs sh M0)) id ins) ∧
    AckOnlyStrobed ((downConv c).over (gluedMem c.nbs sh M0)) ins :=
  (Down.refines c (gluedMem c.nbs sh M0) (fun a => byteToWord sh (wordToByte sh a)) id _
      (fun a k _ => by simp only [byteToWord_wordToByte, id]) (fun _ => True) _
      (fun _ _ _ _ => trivial) (gluedMem_refines c.nbs sh M0)).run M0
    ⟨Down.ratio_pos c, rfl, rfl⟩ ins hm (fun _ _ => trivial)

/-- **Converter (widening) composed with the addressing shift refines the byte memory.** -/
theorem up_over_addressing_refines (c : UpCfg) (hpos : 0 < c.nbm) (sh : Nat) (M0 : Mem) (ins : List (Req × Lat))
    (hm : Classic ((upConv c).over (gluedMem c.nbs sh M0)) ins) :
    Consistent c.nbm M0 (ops ((upConv c).over (gluedMem c.nbs sh M0)) id ins) ∧
    AckOnlyStrobed ((upConv c).over (gluedMem c.nbs sh M0)) ins :=
  (Up.refines c (gluedMem c.nbs sh M0) (fun a => byteToWord sh (wordToByte sh a)) id _ hpos
      (fun a => by simp only [byteToWord_wordToByte, id]; rw [Nat.mul_comm]; exact (Nat.div_add_mod a c.ratio).symm)
      (fun _ => True) _ (fun _ _ _ => trivial) (gluedMem_refines c.nbs sh M0)).run M0
    rfl ins hm (fun _ _ => trivial)

/-- **The byte address on the bus is the byte address the master means**: for a bus of `nbs = 2^sh` byte lanes,
    sub-word `count` of the wide word `a` goes (through C09's byte map of the addressing glue) to byte address
    `a·nbm + count·nbs` — the word address shifted by `log2(bus bytes)`, not by `log2(master bytes)`. -/
theorem glue_byte_address (c : DownCfg) (sh count a : Nat) (hsh : c.nbs = 2 ^ sh) :
    glueSubAddr c sh count a = a * c.nbm + count * c.nbs := by
  rw [glueSubAddr_eq, wordToByte, ← hsh, DownCfg.nbm]; ring

/-- The shift is that of the converted width: 64-bit master on a 32-bit byte-addressed bus, word 1 = bytes 8..15:
    sub-words at byte addresses 8 and 12 (the shift of the original width gives 16 and 24). -/
example : glueSubAddr { nbs := 4, cbits := 1 } 2 0 1 = 8 ∧ glueSubAddr { nbs := 4, cbits := 1 } 2 1 1 = 12 := by decide

/-- Non-vacuity: 32-bit master over a 16-bit byte-addressed bus (`sh = 1`), ratio 2, zero-latency memory holding `x + 1`:
    read of wide word 1 returns bytes 4..7. -/
example :
    let c : DownCfg := { nbs := 2, cbits := 1 }
    let M0 : Mem := fun x => x + 1
    let r : Req × Lat := ({ cyc := true, stb := true, we := false, adr := 1, sel := [true, true, true, true], dat := [],
                            cti := 0, bte := 0 }, ⟨true, []⟩)
    Classic ((downConv c).over (gluedMem c.nbs 1 M0)) [r, r] ∧
    (ops ((downConv c).over (gluedMem c.nbs 1 M0)) id [r, r]).map (fun op => (op.adr, op.dat)) = [(1, [5, 6, 7, 8])] := by
  decide

end Litex.C07
