import LitexProofs.Clock.Params
import LitexProofs.Clock.Xilinx
import LitexProofs.Clock.IntelGowin
import LitexProofs.Clock.QRat
import LitexProofs.Clock.Emit
import LitexProofs.Clock.Gw5a
import LitexProofs.Clock.Efinix
import LitexProofs.Clock.Window
import LitexModel.Clock.EmitB
import LitexModel.Generated.ClockRangesB
import LitexModel.Generated.ClockRanges
/-
  C20 — Computed PLL/clock configurations meet the request and the device limits.

  Models (LitexModel/Clock/*): the `compute_config` searches of the clocking helpers as nested `List.findSome?`
  loops (Xilinx, ECP5, iCE40, NX) or as folds that keep the best candidate (Intel, GW1N, GW5A, Trion), in the Python
  iteration order, over exact rationals (`Q`), parametrised by a device range table
  (`XDev`, `EDev`, `IDev`, `NDev`, `ADev`, `GDev`, `WDev`, `TDev`; the tables of the real classes are regenerated into
  `LitexModel/Generated/ClockRanges.lean` and `ClockRangesB.lean` on every run).  `…Valid dev req cfg`
  (LitexModel/Clock/Spec.lean and the model files of GW5A and Trion) is the conclusion of the property, stated on the
  returned configuration only.

  The search theorems quantify over all tables of their helper's table type (hence all classes, speed grades and any
  future change of a range held in the table), all input frequencies and all lists of (frequency, phase, margin)
  requests.  Ranges that the Python code writes as literals are constants of the model, not table entries: IDIV/FBDIV
  1..63 and the ODIV list `gOdivs` of GW1N/GW2A, IDIV/FBDIV/MDIV of GW5A, N and M of Trion.  `xilinx_tables_shape`, the
  witnesses and the `example`s speak about the regenerated tables themselves.
  Covered: the Xilinx generic search (S6PLL, S6DCM, S7PLL, S7MMCM, USPLL, USMMCM, USPPLL) and USPMMCM, ECP5, iCE40, NX,
  Intel (ALTPLL best-of search), Gowin GW1N/GW2A, the NXOSCA and GW1NOSC divider choices, GW5A (best-of search,
  LitexModel/Clock/Gw5a.lean), Efinix Trion (feedback-mode search, LitexModel/Clock/Efinix.lean), the complete emitted
  Instance of every helper (LitexModel/Clock/Emit.lean, EmitB.lean) and the CologneChip CC_PLL request check.

  Where the property as a whole is false of the code, a comment gives the full statement with the reason, the theorem
  named `…_partial` (or `…_nopfd`, `…_noodiv`) states what does hold, and an `example` is the witness.  "Known" or "open
  finding <id>" is the entry of /verif/known_findings.json that records the deviation of the code; a "fixed finding" has
  been repaired in the code, and the model is of the repaired code.
-/
namespace Litex.C20
open Litex.Clock

/-! ## Meaning of the atoms of `Valid` over ℚ -/

/-- The margin test used by every search and by `Valid` is `|clk − f| ≤ f·m` over the rationals. -/
theorem within_is_margin_test (clk : Q) (o : Out) (hc : 0 < clk.den) (hf : 0 < o.freq.den) (hm : 0 < o.margin.den) :
    within clk o = true ↔ |clk.toRat - o.freq.toRat| ≤ o.freq.toRat * o.margin.toRat := by
  unfold within
  rw [Q.le_iff _ _ (by simp [Q.absDiff]; exact ⟨hc, hf⟩) (by simp [Q.mul]; exact ⟨hf, hm⟩),
      Q.toRat_absDiff _ _ hc hf, Q.toRat_mul]

theorem inRange_is_window_test (lo hi x : Q) (h1 : 0 < lo.den) (h2 : 0 < hi.den) (h3 : 0 < x.den) :
    inRange lo hi x = true ↔ lo.toRat ≤ x.toRat ∧ x.toRat ≤ hi.toRat := by
  unfold inRange
  rw [Bool.and_eq_true, Q.le_iff _ _ h1 h3, Q.le_iff _ _ h3 h2]

/-- `clkdiv_range(start, stop, step)` yields exactly the values `start + i·step` below `stop`. -/
theorem clkdiv_range_enumerates (r : DivRange) (hs : 0 < r.s) (q : Q) :
    q ∈ r.toList ↔ ∃ i, r.a + i * r.s < r.b ∧ q = ⟨r.a + i * r.s, r.k⟩ :=
  DivRange.mem_toList hs

/-! ## Xilinx (`XilinxClocking.compute_config`, `USPMMCM.compute_config`) -/

theorem xilinx_search_sound (d : XDev) (r : XReq) (c : XCfg) (h : xSearch d r = some c) : XValid d r c :=
  xSearch_sound h

/-- search_complete: "No PLL config found" only if no configuration of the declared grid is valid. -/
theorem xilinx_search_complete (d : XDev) (r : XReq) (h : xSearch d r = none) : ∀ c, ¬ XValid d r c := fun c hv =>
  xTry_none_not_valid (findSome?₂_none h c.divclk hv.1 c.mult hv.2.1) c rfl rfl hv

/-- search_first: the returned (input divider, multiplier) is the first valid pair in iteration order, and the
    dividers are exactly the per-output scan at that VCO. -/
theorem xilinx_search_first (d : XDev) (r : XReq) (c : XCfg) (h : xSearch d r = some c) :
    ∃ dcs₁ dcs₂ ms₁ ms₂, d.divclks = dcs₁ ++ c.divclk :: dcs₂ ∧ d.multList = ms₁ ++ c.mult :: ms₂ ∧
      (∀ c', XValid d r c' → c'.divclk ∉ dcs₁) ∧
      (∀ c', XValid d r c' → c'.divclk = c.divclk → c'.mult ∉ ms₁) ∧
      xOuts d (c.vco r) 0 r.outs = some c.ds := by
  -- a valid configuration at a lexicographically earlier (divider, multiplier) would make the body succeed there
  obtain ⟨dcs₁, dc, dcs₂, ms₁, m, ms₂, e₁, e₂, hit, h1, h2⟩ := findSome?₂_first h
  obtain ⟨rfl, rfl, -, h4⟩ := xTry_some hit
  exact ⟨dcs₁, dcs₂, ms₁, ms₂, e₁, e₂,
    fun c' hv hm => xTry_none_not_valid (h1 _ hm _ hv.2.1) c' rfl rfl hv,
    fun c' hv hdc hm => xTry_none_not_valid (h2 _ hm) c' hdc rfl hv, h4⟩

/-- … and for an output with a single declared divider range the divider is the first acceptable one. -/
theorem xilinx_divider_first (d : XDev) (vco : Q) (n : Nat) (o : Out) (rg : List Q) (dv : Q)
    (h : d.rangesFor n = [rg]) (hs : xOut d vco n o = some dv) :
    ∃ pre suf, rg = pre ++ dv :: suf ∧ d.ok vco o dv = true ∧ ∀ x ∈ pre, d.ok vco o x = false :=
  let ⟨_, hok, pre, suf, e, hp⟩ := find?_first (xOut_single h ▸ hs); ⟨pre, suf, e, hok, hp⟩

/-- Shape of the regenerated tables: positive steps everywhere, and every output has a single divider range except
    output 0 of S7MMCM (integer range + fractional 1/8 range). -/
theorem xilinx_tables_shape :
    ∀ e ∈ Gen.xilinx, 0 < e.2.2.mults.s ∧ 0 < e.2.2.mults.k ∧ 0 < e.2.2.common.s ∧ 0 < e.2.2.common.k ∧
      ∀ n ∈ List.range e.2.2.nmax, ((e.2.2.rangesFor n).length = 1 ∨ (e.1.startsWith "S7MMCM" ∧ n = 0)) := by
  decide +kernel

/-- params_match (PLL/MMCM): the primitive's output `clkin·CLKFBOUT_MULT/(DIVCLK_DIVIDE·CLKOUTn_DIVIDE)` is the
    configured `vco/dₙ`; the placed numbers are the configuration's. -/
theorem xilinx_params_match (r : XReq) (c : XCfg) :
    (xParams .pll r c).take 2 = [("CLKFBOUT_MULT", c.mult.toSQ), ("DIVCLK_DIVIDE", (Q.ofNat c.divclk).toSQ)] ∧
    (xParams .mmcm r c).take 2 = [("CLKFBOUT_MULT_F", c.mult.toSQ), ("DIVCLK_DIVIDE", (Q.ofNat c.divclk).toSQ)] ∧
    ∀ dn : Q, ((r.clkin.mul c.mult).div ((Q.ofNat c.divclk).mul dn)).beq ((c.vco r).div dn) = true :=
  ⟨rfl, rfl, pll_freq r c⟩

/-- params_match (S6DCM): `CLKFX_MULTIPLY = mult`, `CLKFX_DIVIDE = d₀·divclk`, and
    `clkin·CLKFX_MULTIPLY/CLKFX_DIVIDE` is the configured output frequency. -/
theorem s6dcm_params_match (r : XReq) (c : XCfg) (d0 : Q) (ds : List Q) (h : c.ds = d0 :: ds) :
    xParams .s6dcm r c = [("CLKFX_MULTIPLY", c.mult.toSQ), ("CLKFX_DIVIDE", (d0.mulNat c.divclk).toSQ)] ∧
    ((r.clkin.mul c.mult).div (d0.mulNat c.divclk)).beq ((c.vco r).div d0) = true := by
  refine ⟨?_, s6dcm_freq r c d0⟩
  simp [xParams, h]

/-! non-vacuity: S7MMCM speed grade -1, 100 MHz in, 125 MHz (margin 0) and 200 MHz@90° (margin 1e-2) out. -/
def s7mmcm : XDev := ((Gen.xilinx.find? (·.1 == "S7MMCM:-1")).map (·.2.2)).getD default
def reqX : XReq := ⟨⟨100000000, 1⟩, ⟨0, 1⟩, [⟨⟨125000000, 1⟩, ⟨0, 1⟩, ⟨0, 1⟩⟩, ⟨⟨200000000, 1⟩, ⟨90, 1⟩, ⟨1, 100⟩⟩]⟩
example : xSearch s7mmcm reqX = some ⟨1, ⟨10, 1⟩, [⟨8, 1⟩, ⟨5, 1⟩]⟩ := by decide +kernel
/-- a refusal: 100 MHz → 123.456789 MHz exactly (margin 0) is impossible on an S6DCM. -/
def s6dcm : XDev := ((Gen.xilinx.find? (·.1 == "S6DCM:-1")).map (·.2.2)).getD default
example : xSearch s6dcm ⟨⟨100000000, 1⟩, ⟨0, 1⟩, [⟨⟨123456789, 1⟩, ⟨0, 1⟩, ⟨0, 1⟩⟩]⟩ = none := by
  -- A returned configuration would be valid (`xSearch_sound`): divclk = 1, a multiplier `2 + j` and a divider `1 + i`,
  -- both ≤ 256, and with margin 0 the output is exact, `10⁸·(2 + j) = 123456789·(1 + i)`.  As gcd(10⁸, 123456789) = 1
  -- that needs 123456789 ∣ 2 + j: impossible.  `omega` decides this linear problem.
  rw [Option.eq_none_iff_forall_ne_some]
  intro ⟨dc, m, ds⟩ h
  obtain ⟨hdc, hm, -, ho⟩ := xSearch_sound h
  have hd : s6dcm = { divclkLo := 1, divclkHi := 2, mults := ⟨2, 257, 1, 1⟩, vcoMin := ⟨5000000, 1⟩,
                      vcoMax := ⟨10000000000000000, 1⟩, common := ⟨1, 257, 1, 1⟩, specific := [], out0 := none,
                      usp := false, nmax := 1 } := by decide +kernel
  rw [hd] at hdc hm ho
  match ds, ho with
  | [dv], ⟨⟨rg, hrg, hdv⟩, hw, _⟩ =>
    simp only [XDev.rangesFor, List.getElem?_nil, List.mem_cons, List.not_mem_nil, or_false] at hrg
    subst hrg
    simp only [XDev.multList, List.mem_reverse, DivRange.mem_toList (r := ⟨2, 257, 1, 1⟩) Nat.one_pos,
      DivRange.mem_toList (r := ⟨1, 257, 1, 1⟩) Nat.one_pos, XDev.divclks, mem_pyRange] at hdc hm hdv
    obtain ⟨j, hj, rfl⟩ := hm
    obtain ⟨i, hi, rfl⟩ := hdv
    obtain rfl : dc = 1 := by omega
    have heq : 100000000 * (2 + j) = 123456789 * (1 + i) := by
      simp [within, XCfg.vco, xVco, Q.le, Q.absDiff, Q.div, Q.mul, Q.divNat] at hw
      split at hw <;> omega
    omega

/-! range ends of a helper with its OWN search: the USPMMCM multiplier / CLKOUT0-divider lists are literals inside
    `USPMMCM.compute_config`; they are regenerated from the source of the tree under test (`c20lib.usp_code_ranges`), so a
    shortened list changes the table and breaks these kernel checks: both lists run 2.0 … 128.0 in steps of 1/8, and the
    request that ONLY the last multiplier serves (12.5 MHz in, 800 MHz exactly: VCO 1600 MHz = top of the window) is accepted. -/
def uspmmcm : XDev := ((Gen.xilinx.find? (·.1 == "USPMMCM:-1")).map (·.2.2)).getD default
example : uspmmcm.multList.head? = some ⟨1024, 8⟩ ∧ uspmmcm.multList.getLast? = some ⟨16, 8⟩ ∧ uspmmcm.mults.count = 1009 ∧
    uspmmcm.out0 = some ⟨16, 1025, 1, 8⟩ := by decide +kernel
/- stated on the FIRST grid point the search visits (divclk 1, head of the regenerated multiplier list) so that a broken
   table fails in one step instead of walking the whole grid in the kernel; `xSearch` returns this point when it is `some`. -/
example : (uspmmcm.multList.head?.bind fun m => xTry uspmmcm ⟨⟨12500000, 1⟩, ⟨0, 1⟩, [⟨⟨800000000, 1⟩, ⟨0, 1⟩, ⟨0, 1⟩⟩]⟩ 1 m)
    = some ⟨1, ⟨1024, 8⟩, [⟨16, 8⟩]⟩ ∧ uspmmcm.divclks.head? = some 1 := by
  decide +kernel

/-! ## Lattice ECP5 (`ECP5PLL.compute_config`, tree with the `clkfb is None` and spare-divider fixes) -/

/-- search_sound (requests never exceed the number of outputs: asserted by `create_clkout`). -/
theorem ecp5_search_sound (d : EDev) (r : EReq) (c : ECfg) (hn : r.outs.length ≤ d.nmax)
    (h : eSearch d r = some c) : EValid d r c := by
  unfold eSearch at h
  obtain ⟨clki, hclki, h⟩ := List.exists_of_findSome?_eq_some h
  split at h
  · rename_i hpfd
    obtain ⟨ofb, hofb, h⟩ := List.exists_of_findSome?_eq_some h
    obtain ⟨fb, hfb, h⟩ := List.exists_of_findSome?_eq_some h
    obtain ⟨h1, h2, h3, h4, h5, h6, h7, h8, h9, h10⟩ := eTry_some hn hofb h
    have e : c.vco r = eVco r clki fb ofb := by unfold ECfg.vco; rw [h1, h2, h3]
    exact ⟨h1 ▸ hclki, h1 ▸ hpfd, h2 ▸ hfb, h4, h5, h6, e ▸ h7, h8, e ▸ h9, h10⟩
  · cases h

/-  Full statement (FALSE on the code, see the witness below):
      theorem ecp5_search_complete (d r) (h : eSearch d r = none) : ∀ c, ¬ EValid d r c
    With all `nmax` outputs requested the feedback must be an output whose FIRST matching divider equals the
    searched feedback divider; a valid setting that needs a later matching divider is refused
    (known finding C20-ecp5-4out-first-divider). -/
/-- search_complete, proved when a spare output is left for the feedback. -/
theorem ecp5_search_complete_partial (d : EDev) (r : EReq) (hsp : r.outs.length < d.nmax)
    (h : eSearch d r = none) : ∀ c, ¬ EValid d r c := fun c hv =>
  eSearch_clki_none hsp (List.findSome?_eq_none_iff.mp h c.clkiDiv hv.1) hv rfl

/-- search_first (same hypothesis): no valid configuration uses an earlier CLKI divider. -/
theorem ecp5_search_first_partial (d : EDev) (r : EReq) (c : ECfg) (hsp : r.outs.length < d.nmax)
    (h : eSearch d r = some c) :
    ∃ is₁ is₂, d.clkis = is₁ ++ c.clkiDiv :: is₂ ∧ ∀ c', EValid d r c' → c'.clkiDiv ∉ is₁ := by
  unfold eSearch at h
  obtain ⟨is₁, clki, is₂, hsplit, hin, hpre⟩ := List.findSome?_eq_some_iff.mp h
  split at hin
  · obtain ⟨ofb, hofb, hin⟩ := List.exists_of_findSome?_eq_some hin
    obtain ⟨fb, _, hin⟩ := List.exists_of_findSome?_eq_some hin
    obtain ⟨rfl, _⟩ := eTry_some (Nat.le_of_lt hsp) hofb hin
    exact ⟨is₁, is₂, hsplit, fun c' hv hmem => eSearch_clki_none hsp (hpre _ hmem) hv rfl⟩
  · cases hin

/-- Negative witness in the excluded region (real ECP5 table, all 4 outputs requested): 10 MHz in, four outputs of
    10.13 MHz ± 1.3 % are refused although clki=1, clkfb_div=1, all dividers 40 (VCO 400 MHz, 10.0 MHz out,
    feedback from output 0) is valid. -/
def reqE4 : EReq :=
  let o : EOut := ⟨⟨⟨10130000, 1⟩, ⟨0, 1⟩, ⟨13, 1000⟩⟩, false⟩
  ⟨⟨10000000, 1⟩, false, [o, o, o, o]⟩
example : eSearch Gen.ecp5 reqE4 = none ∧ EValid Gen.ecp5 reqE4 ⟨1, 1, 0, [40, 40, 40, 40]⟩ := by
  /- Evaluation on windows (LitexProofs/Clock/Window.lean), the scheme of all ECP5 and NX test vectors below:
     1. `rw [eSearch]` opens the outer loops by the equation `eSearch.eq_1`.  (`simp only [eSearch]` would unfold by `rfl`
        and leave the kernel a conversion between `eSearch …` and the rewritten term, which it can only settle by
        evaluating both; with `rw` it evaluates the rewritten term alone.)
     2. `eFb_window` restricts the feedback-divider loop to `mulWindow`.  Its left-hand side is
        `d.clkfbs.findSome? fun fb => eTry d r clki ofb fb`, so it has to fire while `eTry` is still folded: hence a
        `simp only` call of its own, before
     3. `eTry` is unfolded, `eOuts_eq` turns the per-output loop into `firstDivs (eOut d vco)` (its only purpose: to show
        `eOut d vco` as a function), and `eOut_window` replaces that function by the scan of `divWindow` (between `o.lo` = f(1−m) and
        `o.hi` = f(1+m)).
     4. `decide +kernel` evaluates what is left; a second conjunct (`EValid …`, `¬ NValid …`) is decided through the
        `Decidable` instances of LitexModel/Clock/Spec.lean. -/
  rw [eSearch]; simp only [eFb_window]; simp only [eTry, eOuts_eq, eOut_window]; decide +kernel

/-- Witness of the fixed finding C20-ecp5-clkfb0 (feedback from output 0 with all outputs used is accepted). -/
def reqEfb0 : EReq := ⟨⟨25000000, 1⟩, false,
  [⟨⟨⟨50000000, 1⟩, ⟨0, 1⟩, ⟨1, 1000⟩⟩, false⟩, ⟨⟨⟨800000000, 3⟩, ⟨0, 1⟩, ⟨1, 1000⟩⟩, false⟩,
   ⟨⟨⟨800000000, 7⟩, ⟨0, 1⟩, ⟨1, 1000⟩⟩, false⟩, ⟨⟨⟨800000000, 11⟩, ⟨0, 1⟩, ⟨1, 1000⟩⟩, false⟩]⟩
example : eSearch Gen.ecp5 reqEfb0 = some ⟨1, 2, 0, [16, 3, 7, 11]⟩ := by
  rw [eSearch]; simp only [eFb_window]; simp only [eTry, eOuts_eq, eOut_window]; decide +kernel
/-- non-vacuity of the spare branch: one request, a spare output (index 1) carries the feedback divider. -/
example : eSearch Gen.ecp5 ⟨⟨100000000, 1⟩, false, [⟨⟨⟨950000000, 3⟩, ⟨0, 1⟩, ⟨1, 1000000000⟩⟩, false⟩]⟩ =
    some ⟨3, 19, 1, [2, 1]⟩ := by
  rw [eSearch]; simp only [eFb_window]; simp only [eTry, eOuts_eq, eOut_window]; decide +kernel

/-- params_match: every enabled output gets its divider, and `CPHASE`/`FPHASE` recombine to
    `round(phase·div/45)` (`FPHASE` = low 3 bits, `CPHASE − (div−1)` = the rest). -/
theorem ecp5_params_match (r : EReq) (c : ECfg) :
    (eParams r c).length = c.divs.length ∧
    (∀ n (h : n < c.divs.length), ∃ fp cp, (eParams r c)[n]? = some ((c.divs[n] : Int), fp, cp)) ∧
    ∀ (p : SQ) (div : Nat), 8 * (eCPhase p div - ((div : Int) - 1)) + eFPhase p div = ePhaseWord p div ∧
      0 ≤ eFPhase p div ∧ eFPhase p div < 8 :=
  ⟨eParams_length r c, fun n h => ⟨_, _, eParams_getElem r c n h⟩, ePhase_split⟩

/-! ## Lattice iCE40 (`iCE40PLL.compute_config`) -/

theorem ice40_search_sound (d : IDev) (clkin : Q) (o : Out) (c : ICfg) (h : iSearch d clkin o = some c) :
    IValid d clkin o c := by
  unfold iSearch at h
  obtain ⟨divr, hr, h⟩ := List.exists_of_findSome?_eq_some h
  obtain ⟨divf, hf, h⟩ := List.exists_of_findSome?_eq_some h
  obtain ⟨h1, h2, h3, h4, h5⟩ := iTry_some h
  subst h1 h2
  exact ⟨hr, hf, h3, h4, h5⟩

theorem ice40_search_complete (d : IDev) (clkin : Q) (o : Out) (h : iSearch d clkin o = none) :
    ∀ c, ¬ IValid d clkin o c := fun c hv =>
  iTry_none_not_valid (findSome?₂_none h c.divr hv.1 c.divf hv.2.1) c rfl rfl hv

/-- search_first: (DIVR, DIVF, DIVQ) is lexicographically the first valid triple in iteration order. -/
theorem ice40_search_first (d : IDev) (clkin : Q) (o : Out) (c : ICfg) (h : iSearch d clkin o = some c) :
    ∃ rs₁ rs₂ fs₁ fs₂ qs₁ qs₂, pyRange d.divrLo d.divrHi = rs₁ ++ c.divr :: rs₂ ∧
      pyRange d.divfLo d.divfHi = fs₁ ++ c.divf :: fs₂ ∧ pyRange d.divqLo d.divqHi = qs₁ ++ c.divq :: qs₂ ∧
      (∀ c', IValid d clkin o c' → c'.divr ∉ rs₁) ∧
      (∀ c', IValid d clkin o c' → c'.divr = c.divr → c'.divf ∉ fs₁) ∧
      (∀ c', IValid d clkin o c' → c'.divr = c.divr → c'.divf = c.divf → c'.divq ∉ qs₁) := by
  obtain ⟨rs₁, divr, rs₂, fs₁, divf, fs₂, e₁, e₂, hit, h1, h2⟩ := findSome?₂_first h
  -- third level: the `find?` over DIVQ inside `iTry`
  obtain ⟨-, q, hq, rfl⟩ := ite_map_eq_some.mp hit
  obtain ⟨-, -, qs₁, qs₂, e₃, h3⟩ := find?_first hq
  refine ⟨rs₁, rs₂, fs₁, fs₂, qs₁, qs₂, e₁, e₂, e₃,
    fun c' hv hm => iTry_none_not_valid (h1 _ hm _ hv.2.1) c' rfl rfl hv,
    fun c' hv hr hm => iTry_none_not_valid (h2 _ hm) c' hr rfl hv, fun c' hv hr hf hm => ?_⟩
  have hw := hv.2.2.2.2
  rw [hr, hf, h3 _ hm] at hw
  cases hw

example : iSearch Gen.ice40 ⟨12000000, 1⟩ ⟨⟨48000000, 1⟩, ⟨0, 1⟩, ⟨1, 100⟩⟩ = some ⟨0, 63, 4⟩ := by decide +kernel

/-! ## Lattice NX (`NXPLL.compute_config` / `do_finalize`) -/

/-- search_sound for everything the code checks (dividers, VCO window, margins). -/
theorem nx_search_sound_nopfd (d : NDev) (r : NReq) (c : NCfg) (h : nSearch d r = some c) : NValidNoPfd d r c :=
  nSearch_sound h

/-  Full statement (FALSE on the code):  nSearch d r = some c → NValid d r c.
    `compute_config` never checks the declared `vco_in_freq_range` (known finding C20-nx-pfd-range-unchecked). -/
/-- search_sound under the hypothesis that the chosen input divider keeps the PFD inside its declared window. -/
theorem nx_search_sound_partial (d : NDev) (r : NReq) (c : NCfg) (h : nSearch d r = some c)
    (hpfd : inRange d.pfdMin d.pfdMax (r.clkin.divNat c.clkiDiv) = true) : NValid d r c :=
  ⟨nSearch_sound h, hpfd⟩

/-- Negative witness (real NX table): 15 MHz in, 401.25 MHz out → clki_div = 2, PFD 7.5 MHz < 10 MHz. -/
def reqNpfd : NReq := ⟨⟨15000000, 1⟩, [⟨⟨401250000, 1⟩, ⟨0, 1⟩, ⟨0, 1⟩⟩]⟩
example : nSearch Gen.nx reqNpfd = some ⟨2, 107, [2]⟩ ∧ ¬ NValid Gen.nx reqNpfd ⟨2, 107, [2]⟩ := by
  -- evaluation on windows, as explained at `reqE4` above (`nFb_window`, `nOuts_eq`, `nOut_window` are the NX versions)
  rw [nSearch]; simp only [nFb_window]; simp only [nTry, nOuts_eq, nOut_window]; decide +kernel

theorem nx_search_complete (d : NDev) (r : NReq) (h : nSearch d r = none) : ∀ c, ¬ NValidNoPfd d r c := fun c hv =>
  nTry_none_not_valid (findSome?₂_none h c.clkiDiv hv.1 c.clkfbDiv hv.2.1) c rfl rfl hv

theorem nx_search_first (d : NDev) (r : NReq) (c : NCfg) (h : nSearch d r = some c) :
    ∃ is₁ is₂ fs₁ fs₂, d.clkis = is₁ ++ c.clkiDiv :: is₂ ∧ d.clkfbs = fs₁ ++ c.clkfbDiv :: fs₂ ∧
      (∀ c', NValidNoPfd d r c' → c'.clkiDiv ∉ is₁) ∧
      (∀ c', NValidNoPfd d r c' → c'.clkiDiv = c.clkiDiv → c'.clkfbDiv ∉ fs₁) := by
  obtain ⟨is₁, clki, is₂, fs₁, fb, fs₂, e₁, e₂, hit, h1, h2⟩ := findSome?₂_first h
  obtain ⟨rfl, rfl, -, -⟩ := nTry_some hit
  exact ⟨is₁, is₂, fs₁, fs₂, e₁, e₂,
    fun c' hv hm => nTry_none_not_valid (h1 _ hm _ hv.2.1) c' rfl rfl hv,
    fun c' hv hi hm => nTry_none_not_valid (h2 _ hm) c' hi rfl hv⟩

/-  Full statement (FALSE on the code): the placed input divider REF_MMD_DIG equals clki_div.
    `do_finalize` writes the literal "1" (known finding C20-nx-clki-div-not-placed). -/
/-- params_match: `DIVF = clkfb_div − 1`, `DIVx = div − 1`, `DELx = int((1+p/360)·div) − 1`; the input divider is
    right only when the search chose `clki_div = 1`. -/
theorem nx_params_match_partial (r : NReq) (c : NCfg) (h1 : c.clkiDiv = 1) :
    (nParams r c).1 = c.clkiDiv ∧ (nParams r c).2.1 + 1 = c.clkfbDiv ∧
    (nParams r c).2.2 = (c.divs.zip r.outs).map fun (dv, o) => ((dv : Int) - 1, nDel o.phase dv) := by
  obtain ⟨a, b, c'⟩ := nParams_spec r c
  exact ⟨by rw [a, h1], b, c'⟩

/-- Negative witness (real NX table): 100 MHz in, 425 MHz out → clki_div = 2 but REF_MMD_DIG = 1. -/
def reqNdiv : NReq := ⟨⟨100000000, 1⟩, [⟨⟨425000000, 1⟩, ⟨0, 1⟩, ⟨0, 1⟩⟩]⟩
example : nSearch Gen.nx reqNdiv = some ⟨2, 17, [2]⟩ ∧ (nParams reqNdiv ⟨2, 17, [2]⟩).1 ≠ 2 := by
  rw [nSearch]; simp only [nFb_window]; simp only [nTry, nOuts_eq, nOut_window]; decide +kernel

/-! ## iCE40 FILTER_RANGE (`do_finalize`) -/

/-- The placed FILTER_RANGE `v` is in 1..6 and the PFD frequency is below the `v`-th threshold of the code's table. -/
theorem ice40_filter_range (clkin : Q) (divr v : Nat) (h : iFilterRange clkin divr = some v) :
    1 ≤ v ∧ v ≤ 6 ∧
    (clkin.divNat (divr + 1)).lt (Q.ofNat ([17000000, 26000000, 44000000, 66000000, 101000000, 133000000].getD (v - 1) 0)) = true := by
  obtain ⟨fv, hm, hs⟩ := List.exists_of_findSome?_eq_some h
  split at hs
  · rename_i hp
    cases hs
    simp only [List.mem_cons, List.not_mem_nil, or_false] at hm
    rcases hm with rfl | rfl | rfl | rfl | rfl | rfl <;> exact ⟨by decide, by decide, hp⟩
  · cases hs

/-! ## Intel ALTPLL (`IntelClocking.compute_config` / `do_finalize`) -/

/-- search_sound: the best-of search only returns valid configurations (n, m inside the counter ranges, PFD and VCO
    inside their windows, every c inside its range with `vco/c` within the output's margin).
    Hypotheses: the PFD limits and the input frequency are positive rationals. -/
theorem intel_search_sound (d : ADev) (r : AReq) (c : ACfg) (h1 : 0 < r.clkin.den * d.pfdMax.num)
    (h2 : 0 < r.clkin.den * d.pfdMin.num) (h : aSearch d r = some c) : AValid d r c := by
  unfold aSearch at h
  simp only [Option.map_eq_some_iff] at h
  obtain ⟨⟨c', key⟩, hf, rfl⟩ := h
  obtain ⟨nm, hm, ht⟩ := foldl_aStep_some _ hf
  obtain ⟨hn, hmm⟩ := mem_aGrid hm
  obtain ⟨g1, g2, g3, g4, g5⟩ := aTry_some ht
  simp only at g1 g2 g4 g5
  obtain ⟨a1, a2, a3⟩ := (mem_aNRange h1 h2).mp hn
  have e : ACfg.vco r c' = (r.clkin.mulNat nm.2).divNat nm.1 := by unfold ACfg.vco; rw [g1, g2]
  refine ⟨g1 ▸ a1, g1 ▸ a2, g2 ▸ hmm, g1 ▸ a3, e ▸ g3, g4, ?_⟩
  intro p hp
  rw [e]; exact g5 p hp

/-- search_complete: "No PLL config found" only if no (n, m, c…) of the declared ranges is valid. -/
theorem intel_search_complete (d : ADev) (r : AReq) (h1 : 0 < r.clkin.den * d.pfdMax.num)
    (h2 : 0 < r.clkin.den * d.pfdMin.num) (h : aSearch d r = none) : ∀ c, ¬ AValid d r c := by
  rintro c ⟨a1, a2, a3, a4, a5, a6, a7⟩
  unfold aSearch at h
  simp only [Option.map_eq_none_iff] at h
  obtain ⟨_, hall⟩ := foldl_aStep_none _ none h
  have hn := (mem_aNRange h1 h2).mpr ⟨a1, a2, a4⟩
  have hg : (c.n, c.m) ∈ aGrid d r := by
    unfold aGrid
    simp only [List.mem_flatMap, List.mem_map]
    exact ⟨c.n, hn, c.m, a3, rfl⟩
  rcases ite_map_eq_none.mp (hall _ hg) with hv | ht
  · exact Bool.noConfusion (hv.symm.trans a5)
  · exact aOuts_none ht c.cs (by omega) a7

/-- a refusal on the reduced table: 50 MHz → 133.7 MHz exactly. -/
example : aSearch (⟨1, 3, 1, 41, ⟨1, 17, 1, 1⟩, ⟨5000000, 1⟩, ⟨325000000, 1⟩, ⟨600000000, 1⟩, ⟨1300000000, 1⟩, 5⟩ : ADev)
    ⟨⟨50000000, 1⟩, ⟨0, 1⟩, [⟨⟨133700000, 1⟩, ⟨0, 1⟩, ⟨0, 1⟩⟩]⟩ = none := by decide +kernel

/-- params_match: `CLKn_DIVIDE_BY = c·n`, `CLKn_MULTIPLY_BY = m`, `CLKn_PHASE_SHIFT` computed from THAT output's
    recomputed frequency `vco/c`; `clkin·MULTIPLY_BY/DIVIDE_BY` is that frequency. -/
theorem intel_params_match (r : AReq) (c : ACfg) :
    aParams r c = ((c.cs.zip r.outs).map fun (cv, o) => (cv.mulNat c.n, c.m, aPhasePs ((c.vco r).div cv) o.phase)) ∧
    ∀ cv : Q, ((r.clkin.mulNat c.m).div (cv.mulNat c.n)).beq ((c.vco r).div cv) = true :=
  ⟨aParams_spec r c, altpll_freq r c⟩

/-- Phase-shift formula: a 360° request is one period of the output itself (10¹²/f ps, truncated) — not of the
    input clock — and 0° is 0 ps. -/
theorem intel_phase_shift_formula (f : Q) (k : Nat) :
    aPhasePs f ⟨360, 1⟩ = ((10 ^ 12 * f.den / f.num : Nat) : Int) ∧ aPhasePs f ⟨0, k⟩ = 0 :=
  ⟨aPhasePs_full_turn f, aPhasePs_zero f k⟩

/-! non-vacuity on a reduced table (n 1..2, m 1..40, c 1..16, Cyclone windows):
    50 MHz in, 133 MHz ± 1 % at 90° → n = 2, m = 32, c = 6 (50·32/12 = 133.33 MHz), DIVIDE_BY 12, 1875 ps. -/
def smallA : ADev := ⟨1, 3, 1, 41, ⟨1, 17, 1, 1⟩, ⟨5000000, 1⟩, ⟨325000000, 1⟩, ⟨600000000, 1⟩, ⟨1300000000, 1⟩, 5⟩
def reqA : AReq := ⟨⟨50000000, 1⟩, ⟨0, 1⟩, [⟨⟨133000000, 1⟩, ⟨90, 1⟩, ⟨1, 100⟩⟩]⟩
example : aSearch smallA reqA = some ⟨2, 32, [⟨6, 1⟩]⟩ ∧
    aParams reqA ⟨2, 32, [⟨6, 1⟩]⟩ = [(⟨12, 1⟩, 32, 1875)] := by decide +kernel
example : aPhasePs ⟨100000000, 1⟩ ⟨90, 1⟩ = 2500 := by decide

/-! ## Gowin GW1N / GW2A (`GW1NPLL.compute_config` / `do_finalize`, tree with the freq_max fix) -/

/-- search_sound: an accepted request gives IDIV/FBDIV/ODIV inside the primitive's ranges, PFD and VCO inside the
    device windows, an even CLKOUTD divider, and every requested clock on a pin (CLKOUT/CLKOUTP: clkin·fdiv/idiv,
    CLKOUTD3: /3, CLKOUTD: /SDIV) whose frequency passes the helper's acceptance test — in particular a clock routed
    to CLKOUTD really needs the divider that was placed as SDIV.  (Which ClockDomain finally drives a pin when two
    clocks resolve to the same pin is the open finding C20-gw1n-same-pin-overwrite; the statement is per clock.) -/
theorem gw1n_search_sound (d : GDev) (r : GReq) (c : GCfg) (h : gSearch d r = .ok c) : GValid d r c :=
  gSearch_sound h

/-- params_match: (IDIV_SEL, FBDIV_SEL, ODIV_SEL, DYN_SDIV_SEL) = (idiv−1, fdiv−1, odiv, sdiv); the primitive's
    `clkin·(FBDIV_SEL+1)/(IDIV_SEL+1)` is the configured CLKOUT frequency. -/
theorem gw1n_params_match (d : GDev) (r : GReq) (c : GCfg) (h : gSearch d r = .ok c) :
    (gParams c).1 + 1 = c.idiv ∧ (gParams c).2.1 + 1 = c.fdiv ∧ (gParams c).2.2.1 = c.odiv ∧ (gParams c).2.2.2 = c.sdiv ∧
    gOutF r ((gParams c).1 + 1) ((gParams c).2.1 + 1) = gOutF r c.idiv c.fdiv := by
  obtain ⟨h1, h2, _⟩ := gSearch_sound h
  rw [mem_pyRange] at h1 h2
  exact gParams_spec r c h1.1 h2.1

/-  Full statement (FALSE on the code):  gSearch d r = .rejected → ∀ c, ¬ GValid d r c.
    Only the (idiv, fdiv) closest to the HIGHEST requested frequency is tried against the other clocks; a setting that
    serves every clock with a CLKOUT frequency further from (but within the margin of) the highest request is never
    looked at (open finding C20-gw1n-best-only-incomplete, witness below). -/
/-- search_complete for the stage that enumerates: "No PLL config found" (no candidate) only if NO (idiv, fdiv, odiv) of
    the primitive's ranges with PFD and VCO inside their windows brings CLKOUT within the margin of the highest
    requested frequency. -/
theorem gw1n_search_complete_partial (d : GDev) (r : GReq) (fm : Out) (h : gPick (gCandidates d r fm) = none)
    (idiv fdiv odiv : Nat) (hi : idiv ∈ pyRange 1 64) (hf : fdiv ∈ pyRange 1 64) (ho : odiv ∈ gOdivs)
    (hp1 : (r.clkin.divNat idiv).lt d.pfdMin = false) (hp2 : d.pfdMax.lt (r.clkin.divNat idiv) = false)
    (hv : inRangeM d.vcoMin d.vcoMax r.vcoMargin ((gOutF r idiv fdiv).mulNat odiv) = true) :
    ((gOutF r idiv fdiv).absDiff fm.freq).le (fm.freq.mul fm.margin) = false := by
  cases hd : ((gOutF r idiv fdiv).absDiff fm.freq).le (fm.freq.mul fm.margin) with
  | false => rfl
  | true =>
    have hm : ((gOutF r idiv fdiv).absDiff fm.freq, idiv, fdiv, odiv) ∈ gCandidates d r fm :=
      mem_gCandidates.mpr ⟨hi, hf, ho, lt_or_lt_eq_false.mp (by rw [hp1, hp2]; rfl), hv, hd, rfl⟩
    rw [gPick_none h] at hm
    cases hm

/-- Negative witness of the full statement (real GW1NR table; confirmed on the real code): 27 MHz in, 108 MHz ± 3 % and
    52.5 MHz ± 1e-4 are refused ("Can't obtain requested frequency": the best CLKOUT is 108 MHz, 108/2 ≠ 52.5), although
    idiv 9, fdiv 35, odiv 4 (CLKOUT 105 MHz, within 3 %; CLKOUTD = 105/2 = 52.5 MHz exactly; VCO 420 MHz) is valid —
    the same helper returns exactly that setting when 105 MHz is requested instead of 108 MHz. -/
def gw1nr : GDev := ((Gen.gowin.find? (·.1 == "GW1NR")).map (·.2)).getD default
def reqGinc : GReq := ⟨⟨27000000, 1⟩, ⟨0, 1⟩, [⟨⟨108000000, 1⟩, ⟨0, 1⟩, ⟨3, 100⟩⟩, ⟨⟨52500000, 1⟩, ⟨0, 1⟩, ⟨1, 10000⟩⟩]⟩
example : gSearch gw1nr reqGinc = .rejected := by
  -- `gCandidates_window` (LitexProofs/Clock/IntelGowin.lean) restricts the FBDIV loop to the window that the margin of the
  -- highest request leaves; `rw [gSearch]` and not `simp only [gSearch]` for the reason given at `reqE4` above.  Same scheme in
  -- the GW1N examples below.
  rw [gSearch]; simp only [gCandidates_window]; decide +kernel
example : GValid gw1nr reqGinc ⟨9, 35, 4, 2, 0, [0, 3]⟩ := by unfold GValid; decide +kernel
example : gSearch gw1nr ⟨⟨27000000, 1⟩, ⟨0, 1⟩, [⟨⟨105000000, 1⟩, ⟨0, 1⟩, ⟨3, 100⟩⟩, ⟨⟨52500000, 1⟩, ⟨0, 1⟩, ⟨1, 10000⟩⟩]⟩ =
    .ok ⟨9, 35, 4, 2, 0, [0, 3]⟩ := by
  rw [gSearch]; simp only [gCandidates_window]; decide +kernel

/-! non-vacuity: GW1NR, 27 MHz in, 108 MHz on CLKOUT and 27 MHz (÷4) on CLKOUTD → SDIV = 4. -/
example : gSearch gw1nr ⟨⟨27000000, 1⟩, ⟨0, 1⟩,
    [⟨⟨108000000, 1⟩, ⟨0, 1⟩, ⟨1, 100⟩⟩, ⟨⟨27000000, 1⟩, ⟨0, 1⟩, ⟨1, 100⟩⟩]⟩ = .ok ⟨1, 4, 4, 4, 0, [0, 3]⟩ := by
  rw [gSearch]; simp only [gCandidates_window]; decide +kernel

/-! ## Oscillator dividers (`NXOSCA.compute_divisor`, `GW1NOSC`) -/

/-- NXOSCA: the divisor is in range, meets the request, and is the first such in `range(lo, hi)`. -/
theorem nxosc_divisor_sound_first (lo hi : Nat) (hf : Q) (o : Out) (dv : Nat) (h : nxOscDiv lo hi hf o = some dv) :
    dv ∈ pyRange lo hi ∧ within (hf.divNat (dv + 1)) o = true ∧
    ∃ pre suf, pyRange lo hi = pre ++ dv :: suf ∧ ∀ x ∈ pre, within (hf.divNat (x + 1)) o = false :=
  find?_first h

/-- NXOSCA: "Bad OSC freq." only if no divisor of the declared range meets the request. -/
theorem nxosc_divisor_complete (lo hi : Nat) (hf : Q) (o : Out) (h : nxOscDiv lo hi hf o = none) :
    ∀ dv ∈ pyRange lo hi, within (hf.divNat (dv + 1)) o = false :=
  find?_none h

/-- GW1NOSC: the divider is in range and `f(1−m) ≤ osc/div ≤ f(1+m)`; refusal only if no divider qualifies. -/
theorem gwosc_divider_sound_complete (lo hi : Nat) (osc : Q) (o : Out) :
    (∀ dv, gOscDiv lo hi osc o = some dv → dv ∈ pyRange lo hi ∧ gOscOk osc o dv = true) ∧
    (gOscDiv lo hi osc o = none → ∀ dv ∈ pyRange lo hi, gOscOk osc o dv = false) :=
  ⟨fun _ h => let hf := find?_first (gOscDiv_eq .. ▸ h); ⟨List.mem_reverse.mp hf.1, hf.2.1⟩,
   fun h dv hdv => find?_none (gOscDiv_eq .. ▸ h) dv (List.mem_reverse.mpr hdv)⟩

example : nxOscDiv Gen.nxoscLo Gen.nxoscHi Gen.nxoscHf ⟨⟨10000000, 1⟩, ⟨0, 1⟩, ⟨5, 100⟩⟩ = some 42 := by decide +kernel

/-! ## The emitted primitive: placed parameters, source selectors and port wiring = the configuration

  `…Emit` (LitexModel/Clock/Emit.lean) is the COMPLETE item list of the Instance `do_finalize` emits (every parameter,
  port connection and attribute); the harness reads all items back from the real Instance and compares the two
  dictionaries key by key.  The theorems below say, for ALL requests and configurations, which item carries which
  number of the configuration. -/

/-- params_match (rPLL / PLLVR, every configuration-carrying item by key): IDIV_SEL/FBDIV_SEL/ODIV_SEL/DYN_SDIV_SEL/
    PSDA_SEL, BOTH source selectors and all four output ports. -/
theorem gw1n_params_emitted (dn dv : String) (r : GReq) (c : GCfg) :
    (gEmit dn dv r c).get "p_IDIV_SEL" = some (.int ((c.idiv - 1 : Nat) : Int)) ∧
    (gEmit dn dv r c).get "p_FBDIV_SEL" = some (.int ((c.fdiv - 1 : Nat) : Int)) ∧
    (gEmit dn dv r c).get "p_ODIV_SEL" = some (.int (c.odiv : Int)) ∧
    (gEmit dn dv r c).get "p_DYN_SDIV_SEL" = some (.int (c.sdiv : Int)) ∧
    (gEmit dn dv r c).get "p_PSDA_SEL" = some (.str (bin4 c.psda)) ∧
    (gEmit dn dv r c).get "p_CLKOUTD_SRC" = some (.str (gSrc r c 3)) ∧
    (gEmit dn dv r c).get "p_CLKOUTD3_SRC" = some (.str (gSrc r c 2)) ∧
    (gEmit dn dv r c).get "o_CLKOUT" = some (gPortTok c 0) ∧
    (gEmit dn dv r c).get "o_CLKOUTP" = some (gPortTok c 1) ∧
    (gEmit dn dv r c).get "o_CLKOUTD" = some (gPortTok c 3) ∧
    (gEmit dn dv r c).get "o_CLKOUTD3" = some (gPortTok c 2) := by
  refine ⟨?_, ?_, ?_, ?_, ?_, ?_, ?_, ?_, ?_, ?_, ?_⟩ <;> rfl

/-- params_match (source selectors / wiring): the clock `i` recorded for a pin was put on that pin by the configuration,
    the pin's port is wired to clock `i`, and the pin's source selector is "CLKOUT" iff THAT clock was requested with
    phase 0 (else the PSDA-shifted "CLKOUTP" tap) — per pin, so CLKOUTD3 follows the /3 clock, not the CLKOUTD one. -/
theorem gw1n_params_source_selectors (r : GReq) (c : GCfg) (pin i : Nat) (o : Out)
    (h : gPinClock c.pins pin = some i) (ho : r.outs[i]? = some o) :
    c.pins[i]? = some pin ∧ gSrc r c pin = (if o.phase.num = 0 then "CLKOUT" else "CLKOUTP") ∧
    gPortTok c pin = .tok (clkTok i) := by
  refine ⟨gPinClock_some h, ?_, ?_⟩
  · simp [gSrc, h, ho]
  · simp [gPortTok, h]

theorem gw1n_params_unused_pin (r : GReq) (c : GCfg) (pin : Nat) (h : gPinClock c.pins pin = none) :
    gSrc r c pin = "CLKOUT" ∧ gPortTok c pin = .tok "open" := by
  simp [gSrc, gPortTok, h]

/-! non-vacuity: GW1NR, 27 MHz in, 90 MHz@0° + 30 MHz@90°: the /3 clock sits
    on CLKOUTD3 taken from the shifted tap while the unused CLKOUTD keeps the default. -/
example : gSearch gw1nr ⟨⟨27000000, 1⟩, ⟨0, 1⟩,
      [⟨⟨90000000, 1⟩, ⟨0, 1⟩, ⟨1, 100⟩⟩, ⟨⟨30000000, 1⟩, ⟨90, 1⟩, ⟨1, 100⟩⟩]⟩ = .ok ⟨3, 10, 8, 2, 4, [0, 2]⟩ := by
  rw [gSearch]; simp only [gCandidates_window]; decide +kernel
example : let r : GReq := ⟨⟨27000000, 1⟩, ⟨0, 1⟩, [⟨⟨90000000, 1⟩, ⟨0, 1⟩, ⟨1, 100⟩⟩, ⟨⟨30000000, 1⟩, ⟨90, 1⟩, ⟨1, 100⟩⟩]⟩
    let e := gEmit "GW1NR-9C" "GW1NR-LV9QN88PC6/I5" r ⟨3, 10, 8, 2, 4, [0, 2]⟩
    e.get "p_CLKOUTD3_SRC" = some (.str "CLKOUTP") ∧ e.get "p_CLKOUTD_SRC" = some (.str "CLKOUT") ∧
    e.get "o_CLKOUTD3" = some (.tok "clkout1") ∧ e.get "o_CLKOUTD" = some (.tok "open") ∧
    e.get "p_PSDA_SEL" = some (.str "0100") := by
  decide +kernel

/-- params_match (iCE40): DIVR/DIVF/DIVQ, the output port and the FILTER_RANGE chosen from the PFD frequency. -/
theorem ice40_params_emitted (pad : Bool) (clkin : Q) (c : ICfg) :
    (iEmit pad clkin c).get "p_DIVR" = some (.int (c.divr : Int)) ∧
    (iEmit pad clkin c).get "p_DIVF" = some (.int (c.divf : Int)) ∧
    (iEmit pad clkin c).get "p_DIVQ" = some (.int (c.divq : Int)) ∧
    (iEmit pad clkin c).get "o_PLLOUTGLOBAL" = some (.tok (clkTok 0)) ∧
    (∀ v, iFilterRange clkin c.divr = some v → (iEmit pad clkin c).get "p_FILTER_RANGE" = some (.int (v : Int))) := by
  refine ⟨rfl, rfl, rfl, rfl, ?_⟩
  intro v hv
  simp [iEmit, Emit.get, List.find?, hv, pvNat]

/-- params_match (ECP5): input/feedback dividers and feedback path by key; every enabled output `n` (requested or the
    spare feedback output) carries ITS divider, the FPHASE/CPHASE split of ITS phase word, and port CLKO<n> = clock n. -/
theorem ecp5_params_emitted (r : EReq) (c : ECfg) :
    (eEmit r c).get "p_CLKI_DIV" = some (.int (c.clkiDiv : Int)) ∧
    (eEmit r c).get "p_CLKFB_DIV" = some (.int (c.clkfbDiv : Int)) ∧
    (eEmit r c).get "p_FEEDBK_PATH" = some (.str ("INT_O" ++ n2l c.clkfb)) ∧
    ∀ n dv, c.divs[n]? = some dv → ∀ kv ∈ eOutItems r n dv, kv ∈ eEmit r c :=
  ⟨rfl, rfl, rfl, eEmit_outs r c⟩

/-- params_match (NX): feedback divider (DIVF = DELF = clkfb_div − 1 on the CLKOS5 feedback path) by key, the items of
    every output by membership.  (REF_MMD_DIG: see `nx_params_match_partial`.) -/
theorem nx_params_emitted (r : NReq) (c : NCfg) :
    (nEmit r c).get "p_DIVF" = some (.str (toString ((c.clkfbDiv : Int) - 1))) ∧
    (nEmit r c).get "p_DELF" = some (.str (toString ((c.clkfbDiv : Int) - 1))) ∧
    (nEmit r c).get "p_SEL_FBK" = some (.str "FBKCLK5") ∧
    ∀ n dv o, (c.divs.zip r.outs)[n]? = some (dv, o) → ∀ kv ∈ nOutItems n dv o, kv ∈ nEmit r c :=
  ⟨(nEmit_get r c).1, (nEmit_get r c).2.1, (nEmit_get r c).2.2.1, nEmit_outs r c⟩

/-- params_match (ALTPLL): every requested output `n` carries DIVIDE_BY = cₙ·n_div and MULTIPLY_BY = m under its own key. -/
theorem intel_params_emitted (nmax : Nat) (r : AReq) (c : ACfg) (n : Nat) (cv : Q) (o : Out)
    (h : (c.cs.zip r.outs)[n]? = some (cv, o)) :
    (s!"p_CLK{n}_DIVIDE_BY", pvDiv (cv.mulNat c.n)) ∈ aEmit nmax r c ∧
    (s!"p_CLK{n}_MULTIPLY_BY", PV.int (c.m : Int)) ∈ aEmit nmax r c :=
  ⟨aEmit_outs nmax r c n cv o h _ (aOutItems_spec r c n cv o).1, aEmit_outs nmax r c n cv o h _ (aOutItems_spec r c n cv o).2⟩

/-- params_match (Xilinx PLL_ADV / PLLE2_ADV / MMCME2_ADV / MMCME4_ADV): input divider and multiplier by key (under the
    primitive's own name), every output's divider (`CLKOUT0_DIVIDE_F` on an MMCM) and port CLKOUT<n> = clock n. -/
theorem xilinx_params_emitted (k : XKind) (of : String) (usp : Bool) (r : XReq) (c : XCfg) (hk : k ≠ .s6dcm) :
    (xEmit k of usp r c).get "p_DIVCLK_DIVIDE" = some (.int (c.divclk : Int)) ∧
    (xEmit k of usp r c).get "i_CLKFBIN" = (xEmit k of usp r c).get "o_CLKFBOUT" ∧
    ∀ n dv o, (c.ds.zip r.outs)[n]? = some (dv, o) →
      (s!"o_CLKOUT{n}", PV.tok (clkTok n)) ∈ xEmit k of usp r c ∧
      ((if k = .mmcm ∧ n = 0 then s!"p_CLKOUT{n}_DIVIDE_F" else s!"p_CLKOUT{n}_DIVIDE"),
        if usp ∧ n = 0 then PV.flt dv.toSQ else pvDiv dv) ∈ xEmit k of usp r c :=
  ⟨(xEmit_get k of usp r c hk).1, (xEmit_get k of usp r c hk).2.2, fun n dv o h =>
    ⟨xEmit_outs k of usp r c hk n dv o h _ (xOutItems_spec k usp n dv o).1,
     xEmit_outs k of usp r c hk n dv o h _ (xOutItems_spec k usp n dv o).2⟩⟩

theorem xilinx_params_multiplier (of : String) (usp : Bool) (r : XReq) (c : XCfg) :
    (xEmit .pll of usp r c).get "p_CLKFBOUT_MULT" = some (if usp then .flt c.mult.toSQ else pvDiv c.mult) ∧
    (xEmit .s6pll of usp r c).get "p_CLKFBOUT_MULT" = some (if usp then .flt c.mult.toSQ else pvDiv c.mult) ∧
    (xEmit .mmcm of usp r c).get "p_CLKFBOUT_MULT_F" = some (if usp then .flt c.mult.toSQ else pvDiv c.mult) ∧
    (xEmit .s6dcm of usp r c).get "p_CLKFX_MULTIPLY" = some (if usp then .flt c.mult.toSQ else pvDiv c.mult) ∧
    (xEmit .s6dcm of usp r c).get "p_CLKFX_DIVIDE" = some (pvDiv ((c.ds.headD Q.zero).mulNat c.divclk)) :=
  ⟨rfl, rfl, rfl, rfl, rfl⟩

/-- CologneChip CC_PLL (no search): an accepted request is realised — every requested clock runs at OUT_CLK, or at
    2·OUT_CLK on a 180°/270° output — and OUT_CLK / CLKxxx_DOUB carry exactly that. -/
theorem gatemate_params_emitted (r : MReq) (h : mLegal r = true) :
    (∃ base, mBase r.outs = some base ∧ ∀ o ∈ r.outs, o.1 ∈ [0, 90, 180, 270] ∧
      (o.2.beq base = true ∨ ((o.1 = 180 ∨ o.1 = 270) ∧ o.2.beq (base.mulNat 2) = true))) ∧
    (mEmit r).get "p_CLK180_DOUB" = some (.int (match mFreqOf r 180 with
      | some f => if f.beq (((mBase r.outs).getD Q.zero).mulNat 2) then 1 else 0 | none => 0)) ∧
    (mEmit r).get "p_CLK270_DOUB" = some (.int (match mFreqOf r 270 with
      | some f => if f.beq (((mBase r.outs).getD Q.zero).mulNat 2) then 1 else 0 | none => 0)) :=
  ⟨mLegal_spec r h, (mEmit_get r).2.1, (mEmit_get r).2.2⟩

example : mLegal ⟨⟨10000000, 1⟩, "speed", 1, 1, false, [(0, ⟨50000000, 1⟩), (180, ⟨100000000, 1⟩)]⟩ = true ∧
    (mEmit ⟨⟨10000000, 1⟩, "speed", 1, 1, false, [(0, ⟨50000000, 1⟩), (180, ⟨100000000, 1⟩)]⟩).get "p_CLK180_DOUB"
      = some (.int 1) := by decide +kernel

/-! ## Gowin GW5A (`GW5APLL.compute_config` / `do_finalize`) -/

/-- search_sound for everything the code checks: IDIV/FBDIV in 1..63, MDIV in 2..127, PFD and VCO inside their windows
    (VCO with `vco_margin`), and per requested output an ODIV ≥ 1 with `|vco/odiv − f| ≤ f·margin`, the phase error of the
    rounded phase step within the margin, and (pe, pe_fine) = (int(p·odiv/360), round(p·odiv·8/360) mod 8). -/
theorem gw5a_search_sound_noodiv (d : WDev) (r : WReq) (c : WCfg) (h : wSearch d r = .ok c) : WValidNoOdiv d r c :=
  wSearch_sound h

/-  Full statement (FALSE on the code):  wSearch d r = .ok c → WValid d r c   (WValid adds ODIVx_SEL ≤ 128).
    `odiv = round(vco/f)` is never checked against the primitive's range (known finding C20-gw5a-odiv-unchecked). -/
/-- search_sound under the hypothesis that every chosen output divider is inside the primitive's range 1..128. -/
theorem gw5a_search_sound_partial (d : WDev) (r : WReq) (c : WCfg) (h : wSearch d r = .ok c)
    (ho : ∀ o ∈ c.outs, o.odiv ≤ 128) : WValid d r c :=
  wSearch_sound_partial h ho

/-- Negative witness (real GW5A-25 table, full search): 50 MHz in, 5 MHz out ± 1 % → ODIV0 = 160 > 128. -/
example : wSearch gw5a25 wWitReq = .ok wWitCfg ∧ (wWitCfg.outs.map (·.odiv)) = [160] ∧ ¬ WValid gw5a25 wWitReq wWitCfg :=
  ⟨wSearch_witness, rfl, wWitness_not_valid⟩
/-- the tables used by the witnesses are the regenerated ones. -/
example : (Gen.gw5a.find? (·.1 == "GW5A")).map (·.2) = some gw5a25 ∧ (Gen.gw5a.find? (·.1 == "GW5AT")).map (·.2) = some gw5at ∧
    Gen.trion = trionDev := by decide
/-- non-vacuity: 50 MHz → 100 MHz is accepted with ODIV0 = 8 and that configuration is fully valid. -/
example : wSearch gw5a25 wOkReq = .ok wOkCfg ∧ WValid gw5a25 wOkReq wOkCfg :=
  ⟨wSearch_ok_example, wSearch_sound_partial wSearch_ok_example (by decide)⟩

/-- search_best: the returned configuration is a kept grid point and its sum of relative errors is ≤ that of every kept
    grid point (the best-of selection is optimal). -/
theorem gw5a_search_best (d : WDev) (r : WReq) (x : WCfg × Q) (hc : 0 < r.clkin.den)
    (ho : ∀ o ∈ r.outs, 0 < o.freq.num ∧ 0 < o.freq.den) (h : wSearchAcc d r = .ok x) :
    (∃ t ∈ wGrid d r, wTryT d r t = .ok x) ∧ ∀ t ∈ wGrid d r, ∀ y, wTryT d r t = .ok y → x.2.le y.2 = true := by
  rw [wSearchAcc_eq_grid] at h
  have hpos : ∀ y, .ok y ∈ (wGrid d r).map (wTryT d r) → 0 < y.2.den := by
    intro y hy
    obtain ⟨t, ht, he⟩ := List.mem_map.mp hy
    obtain ⟨m1, _, _, _⟩ := mem_wGrid.mp ht
    rw [mem_pyRange] at m1
    obtain ⟨_, _, _, _, g5, g6⟩ := wTry_ok he
    rw [g6]
    have hv : 0 < (wVco r.clkin t.1 t.2.1 t.2.2).den := by
      show 0 < r.clkin.den * t.1
      exact Nat.mul_pos hc (by omega)
    exact wSum_den_pos _ (wOuts_diff_den_pos hv ho g5)
  obtain ⟨_, h2⟩ := foldl_wMerge_best _ _ x hpos (fun b hb => by cases hb) h
  refine ⟨?_, fun t ht y hy => h2 y (List.mem_map.mpr ⟨t, ht, hy⟩)⟩
  obtain ⟨t, ht, he⟩ := List.mem_map.mp (foldl_wMerge_ok _ h)
  exact ⟨t, ht, he⟩

/-- search_complete w.r.t. the code's own divider choice: "No PLL config found" only if at EVERY (idiv, fdiv, mdiv) of the
    declared ranges with PFD and VCO inside their windows some output fails its margin or phase test at
    `odiv = round(vco/f)` (the enumeration skips nothing). -/
theorem gw5a_search_complete (d : WDev) (r : WReq) (h : wSearch d r = .rejected) (idiv fdiv mdiv : Nat)
    (hi : idiv ∈ pyRange 1 64) (hf : fdiv ∈ pyRange 1 64) (hm : mdiv ∈ pyRange 2 128)
    (hp : inRange d.pfdMin d.pfdMax (r.clkin.divNat idiv) = true)
    (hv : inRangeM d.vcoMin d.vcoMax r.vcoMargin (wVco r.clkin idiv fdiv mdiv) = true) :
    (∀ o ∈ r.outs, 1 ≤ wOdiv (wVco r.clkin idiv fdiv mdiv) o.freq) ∧
    ∃ o ∈ r.outs,
      o.margin.lt (wPhaseErr o.phase (wOdiv (wVco r.clkin idiv fdiv mdiv) o.freq)) = true ∨
      within ((wVco r.clkin idiv fdiv mdiv).divNat (wOdiv (wVco r.clkin idiv fdiv mdiv) o.freq)) o = false := by
  rw [wSearch, mapW_eq_rejected, wSearchAcc_eq_grid] at h
  obtain ⟨_, hall⟩ := foldl_wMerge_idle (Or.inl rfl) _ _ h
  have hg : (idiv, fdiv, mdiv) ∈ wGrid d r := mem_wGrid.mpr ⟨hi, lt_or_lt_eq_false.mpr hp, hf, hm⟩
  have ht : wTryT d r (idiv, fdiv, mdiv) = .rejected := by
    rcases hall _ (List.mem_map.mpr ⟨_, hg, rfl⟩) with h1 | h1
    · exact h1
    · exact absurd h1 wTry_ne_assertion
  have hr := wTry_rejected ht (by rw [wWindow_eq]; exact hv)
  obtain ⟨hz, o, ho, hro⟩ := wOuts_rejected hr
  refine ⟨fun o' ho' => Nat.pos_of_ne_zero (hz o' ho'), o, ho, (wOut_rejected hro).2⟩

/-- the ZeroDivisionError of `vco/odiv` is raised exactly when some in-window grid point has an output with
    `round(vco/f) = 0` (an output above twice the VCO). -/
theorem gw5a_crash_iff (d : WDev) (r : WReq) :
    wSearch d r = .crash ↔
    ∃ t ∈ wGrid d r, inRangeM d.vcoMin d.vcoMax r.vcoMargin (wVco r.clkin t.1 t.2.1 t.2.2) = true ∧
      ∃ o ∈ r.outs, wOdiv (wVco r.clkin t.1 t.2.1 t.2.2) o.freq = 0 :=
  wSearch_crash_iff

/-- params_match (PLLA / PLL): IDIV_SEL/FBDIV_SEL/MDIV_SEL by key; every requested output `n` carries ITS ODIVn_SEL,
    PE_COARSE, PE_FINE, is enabled and drives port CLKOUT<n>. -/
theorem gw5a_params_emitted (device : String) (r : WReq) (c : WCfg) :
    (wEmit device r c).get "p_IDIV_SEL" = some (.int (c.idiv : Int)) ∧
    (wEmit device r c).get "p_FBDIV_SEL" = some (.int (c.fdiv : Int)) ∧
    (wEmit device r c).get "p_MDIV_SEL" = some (.int (c.mdiv : Int)) ∧
    ∀ n w, n < 7 → c.outs[n]? = some w →
      (s!"p_ODIV{n}_SEL", PV.int (w.odiv : Int)) ∈ wEmit device r c ∧
      (s!"p_CLKOUT{n}_PE_COARSE", PV.int w.pe) ∈ wEmit device r c ∧
      (s!"p_CLKOUT{n}_PE_FINE", PV.int w.peFine) ∈ wEmit device r c ∧
      (s!"p_CLKOUT{n}_EN", PV.str "TRUE") ∈ wEmit device r c ∧
      (s!"o_CLKOUT{n}", PV.tok (clkTok n)) ∈ wEmit device r c := by
  refine ⟨rfl, rfl, rfl, fun n w hn hw => ?_⟩
  have hs := wEmit_slots device r c n hn
  rw [hw] at hs
  obtain ⟨a, b, c', d', e⟩ := wSlotItems_spec n w
  exact ⟨hs _ a, hs _ b, hs _ c', hs _ d', hs _ e⟩

/-! ## Efinix Trion (`EFINIXPLL.compute_config`, feedback mode; tree with the fPLL-maximum fix) -/

/-- search_sound: N in 1..15, M in 1..255, O a legal post divider, PFD, VCO and PLL (= VCO/O) frequencies inside their
    declared windows, M·O·Cfbk ≤ 255, every output divider legal for the output's phase and `fPLL/C = f` EXACTLY, the
    feedback output's divider is Cfbk. -/
theorem trion_search_sound (d : TDev) (r : TReq) (c : TCfg) (hden : 0 < r.clkin.den) (hpfd : 0 < d.pfdMax.num)
    (hfd : ∀ o ∈ r.outs, 0 < o.freq.den) (h : tSearch d r = .ok c) : TValid d r c :=
  tSearch_sound hden hpfd hfd h

/-- search_complete: the AssertionError (`final_list` empty) is raised only if NO setting inside the declared ranges
    satisfies the request (well-formed table and request: positive numerators/denominators, positive dividers). -/
theorem trion_search_complete (d : TDev) (r : TReq) (wf : TWf d r) (h : tSearch d r = .assertion) :
    ∀ c, ¬ TValid d r c :=
  fun c => tSearch_complete wf h c

/-- the fixed finding C20-trion-fpll-max-unchecked, universally: a returned configuration keeps fPLL inside its window. -/
theorem trion_pll_window (d : TDev) (r : TReq) (c : TCfg) (hden : 0 < r.clkin.den) (hpfd : 0 < d.pfdMax.num)
    (hfd : ∀ o ∈ r.outs, 0 < o.freq.den) (h : tSearch d r = .ok c) :
    d.pllMin.le (c.pll r) = true ∧ (c.pll r).le d.pllMax = true := by
  have := (tSearch_sound hden hpfd hfd h).2.2.2.2.2.2.2.1
  simpa only [inRange, Bool.and_eq_true] using this

/-! non-vacuity: 16 MHz in, 16 MHz feedback output (witness of the fixed finding): the pre-fix answer (fPLL 3600 MHz)
    is not valid, a valid setting exists, hence (completeness) the search does not refuse.  The last example is a kernel
    evaluation of the whole search for the 50 → 100 MHz request, on the table with the phase-0 divider range cut to
    1..16 (the 16 → 16 MHz request is evaluated on the range 1..8: `trion_search_16to16_c8`). -/
example : ¬ TValid trionDev trionReq16to16 ⟨1, 1, 1, 225, [225]⟩ ∧ TValid trionDev trionReq16to16 ⟨1, 1, 8, 28, [28]⟩ ∧
    tSearch trionDev trionReq16to16 ≠ .assertion :=
  ⟨trion_invalid_16to16_pll3600, trion_valid_16to16, trion_16to16_ne_assertion⟩
example : tSearch { trionDev with c0Hi := 17 } trionReq50to100 = .ok ⟨1, 2, 4, 9, [9]⟩ := trion_search_50to100_c16

end Litex.C20
