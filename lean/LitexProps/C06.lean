import LitexProofs.Wishbone.InterconnectSoc
/-
  C06 — Wishbone interconnect routes each cycle to one slave and answers only its master.

  Models: `Shared.machine c` (= `InterconnectShared`: `Arbiter` → shared bus → `Decoder` [+ `Timeout`]) and
  `Crossbar.machine c` (= `Crossbar`: one `Decoder` per master, one `Arbiter` per slave) of
  `LitexModel/Wishbone/Interconnect.lean`.  Masters and slaves are environment: `x : BusIn` gives, for one cycle,
  arbitrary values of every master's cyc/stb/we/adr/dat_w/sel/cti/bte and every slave's ack/err/dat_r.

  Quantifiers.  Per-cycle theorems hold for EVERY state `s` and EVERY input `x` (hence for every reachable state
  and every schedule); run theorems are by induction over `ins : List BusIn` (every request arrival pattern,
  withdrawals, back-to-back and simultaneous requests, every slave latency).  Numbers of masters/slaves `c.n`,
  `c.m`, the address predicates `c.dec`, `c.reg`, the timeout and the data width are arbitrary.
  Side conditions are explicit:
    `DisjointDec c.m c.dec`     pairwise disjoint address predicates (C13 provides this for SoC regions),
    `SlavesBehaved c.m o x`     a slave answers only a strobe that is presented to it (environment),
    `s.grant < c.n`             holds in every reachable state (`wb_owner_is_master`).
  The `Timeout` module is part of the model (`c.timeout`); where it can interfere the statements carry the
  explicit term `Shared.done c s` (its theorems are C11's).

  SoC glue (sections at the end): `busTopology`/`SocBus` (which fabric `do_finalize` builds), `checkRegionsOverlap`
  (= `SoCBusHandler.check_regions_overlap` as computed, over `size_pow2`), `glueRun`/`glueBuild` (whole build scripts
  through C13's handler model) and `SocRBus` (remappers of `add_master(region=…)`).  There the
  `DisjointDec` hypothesis is DISCHARGED for every bus the glue accepts (`soc_accepted_disjoint_decoders_partial`,
  `glue_history_disjoint_decoders_partial`, via C13's `LitexProofs/Soc/AcceptedDisjoint.lean`), and a restricted
  master is shown to stay inside its region (`soc_remapped_master_confined`).  `SocABus` adds `add_adapter`'s
  byte<->word addressing conversion (C14's `convM2S`/`convS2M`): `soc_adapter_route_partial`,
  `soc_adapter_exact_partial` (a byte-addressed master's cycle at byte address `a` reaches exactly the slave whose
  region contains `a`, at the right slave-local address).
-/
namespace Litex.C06
open Litex Litex.Wishbone

/-! ## InterconnectShared -/
section SharedThms
variable (c : ShCfg)

/-- **Routing.**  Slave `j` sees `cyc` iff the bus owner drives `cyc` and slave `j`'s address predicate matches
    the owner's address; every other master-to-slave signal is the owner's, bit for bit. -/
theorem wb_route (s : ShState) (x : BusIn) (j : Nat) :
    let o := Shared.out c s x
    let own := x.ms s.grant
    (o.toS j).cyc = (own.cyc && c.dec j (c.busAdr own.adr)) ∧
    (o.toS j).stb = own.stb ∧ (o.toS j).we = own.we ∧ (o.toS j).adr = c.busAdr own.adr ∧
    (o.toS j).datW = own.datW ∧ (o.toS j).sel = own.sel ∧ (o.toS j).cti = own.cti ∧ (o.toS j).bte = own.bte := by
  simp [Shared.out, Shared.bus, Shared.sel]

/-- **Masters of different `adr_width`.**  The shared bus is as wide as the widest master, so the address of an
    owner that respects its own `adr_width` (listed in `c.aws`) is neither truncated nor altered: `wb_route` then
    reads "slave `j` sees `cyc` iff the owner drives `cyc` and `dec j` matches the owner's address", and the slave
    sees exactly that address.  (Sizing the bus from any single master instead breaks this for the wider masters.) -/
theorem wb_route_exact (s : ShState) (x : BusIn) (j : Nat) (w : Nat) (hw : w ∈ c.aws)
    (hfit : (x.ms s.grant).adr < 2 ^ w) :
    let o := Shared.out c s x
    let own := x.ms s.grant
    (o.toS j).cyc = (own.cyc && c.dec j own.adr) ∧ (o.toS j).adr = own.adr ∧
    (Shared.bus c s x).adr = own.adr := by
  have h := c.busAdr_of_fits w _ hw hfit
  simp [Shared.out, Shared.bus, Shared.sel, h]

/-- With pairwise-disjoint decoders at most one slave sees the cycle. -/
theorem wb_route_one_slave (hd : DisjointDec c.m c.dec) (s : ShState) (x : BusIn) (j k : Nat)
    (hj : j < c.m) (hk : k < c.m)
    (h1 : ((Shared.out c s x).toS j).cyc = true) (h2 : ((Shared.out c s x).toS k).cyc = true) : j = k := by
  simp [Shared.out, Shared.bus, Shared.sel] at h1 h2
  exact hd _ j k hj hk h1.2 h2.2

/-- A cycle whose address matches no decoder is presented to no slave. -/
theorem wb_route_none (s : ShState) (x : BusIn)
    (hnone : ∀ j, j < c.m → c.dec j (Shared.bus c s x).adr = false) (j : Nat) (hj : j < c.m) :
    ((Shared.out c s x).toS j).cyc = false := by
  simp [Shared.out, Shared.sel, hnone j hj]

/-- The owner is always one of the masters: in every reachable state `grant < n`. -/
theorem wb_owner_is_master (hn : 0 < c.n) (ins : List BusIn) : ((Shared.machine c).run ins).grant < c.n :=
  Shared.grant_lt_run c hn ins

/-- **Answers reach the owner only.**  A master that sees `ack` or `err` is the owner; the owner's `ack` is the OR
    of the slaves' `ack` (or the timeout's forced acknowledge), its `err` the OR of the slaves' `err`. -/
theorem wb_answer_owner_only (s : ShState) (x : BusIn) (i : Nat) :
    let o := Shared.out c s x
    (((o.toM i).ack = true ∨ (o.toM i).err = true) → s.grant = i) ∧
    (o.toM s.grant).ack = (Shared.done c s || orAll c.m fun j => (x.ss j).ack) ∧
    (o.toM s.grant).err = (orAll c.m fun j => (x.ss j).err) := by
  refine ⟨?_, ?_, ?_⟩
  · intro h
    simp [Shared.out] at h
    rcases h with h | h <;> exact h.2
  · simp [Shared.out, Shared.busAck, Shared.decAck]
  · simp [Shared.out, Shared.busErr, Shared.decErr]

/-- Slaves that answer only presented strobes, disjoint decoders: only the selected slave can be answering. -/
theorem wb_only_selected_answers (hd : DisjointDec c.m c.dec) (s : ShState) (x : BusIn)
    (hb : SlavesBehaved c.m (Shared.out c s x) x) (j : Nat) (hj : j < c.m)
    (hsel : c.dec j (Shared.bus c s x).adr = true) (k : Nat) (hk : k < c.m) (hne : k ≠ j) : sTerm x k = false := by
  cases h : sTerm x k
  · rfl
  · have := (hb k hk h).1
    simp [Shared.out, Shared.bus, Shared.sel] at this
    exact absurd (hd _ k j hk hj this.2 hsel) hne

/-- … then the owner's `ack`/`err` are exactly the selected slave's (or the timeout's). -/
theorem wb_answer_selected (hd : DisjointDec c.m c.dec) (s : ShState) (x : BusIn)
    (hb : SlavesBehaved c.m (Shared.out c s x) x) (j : Nat) (hj : j < c.m)
    (hsel : c.dec j (Shared.bus c s x).adr = true) :
    let o := Shared.out c s x
    (o.toM s.grant).ack = (Shared.done c s || (x.ss j).ack) ∧ (o.toM s.grant).err = (x.ss j).err := by
  have hothers := wb_only_selected_answers c hd s x hb j hj hsel
  have ha : (orAll c.m fun k => (x.ss k).ack) = (x.ss j).ack :=
    orAll_unique hj (fun k hk hne => by have := hothers k hk hne; simp [sTerm] at this; exact this.1)
  have he : (orAll c.m fun k => (x.ss k).err) = (x.ss j).err :=
    orAll_unique hj (fun k hk hne => by have := hothers k hk hne; simp [sTerm] at this; exact this.2)
  simp [Shared.out, Shared.busAck, Shared.decAck, Shared.busErr, Shared.decErr, ha, he]

/-- Unregistered decoder: every acknowledge carries the selected slave's read data (all masters see the shared
    `dat_r`; it is meaningful for the owner, the only one that sees `ack`). -/
theorem wb_dat_r (hd : DisjointDec c.m c.dec) (hreg : c.reg = false) (s : ShState) (x : BusIn)
    (j : Nat) (hj : j < c.m) (hsel : c.dec j (Shared.bus c s x).adr = true) (hto : Shared.done c s = false) (i : Nat) :
    ((Shared.out c s x).toM i).datR = (x.ss j).datR := by
  have : Shared.decDat c s x = (x.ss j).datR :=
    orDat_gate_select hj
      (fun k hk hs => hd _ k j hk hj (by simpa [Shared.selMux, hreg, Shared.sel] using hs) hsel)
      (by simp [Shared.selMux, hreg, Shared.sel, hsel])
  simp [Shared.out, Shared.busDat, hto, this]

/-- FULL STATEMENT (does not hold for `register=True`):
      `c.dec j (owner's address) → ¬ timeout → (o.toM i).datR = (x.ss j).datR`   in every cycle.
    `Decoder(register=True)` muxes the read data with the slave select sampled at the previous clock edge, so the
    claim needs the previous cycle's bus address to decode like the current one ("the acknowledging cycle is not
    the first cycle of a new address", i.e. slave latency ≥ 1).  `s'` is the state after an arbitrary previous
    cycle `x₁` from an arbitrary state `s`. -/
theorem wb_dat_r_registered_partial (hd : DisjointDec c.m c.dec) (hreg : c.reg = true)
    (s : ShState) (x₁ x₂ : BusIn)
    (hsame : ∀ k, k < c.m →
      c.dec k (Shared.bus c s x₁).adr = c.dec k (Shared.bus c (Shared.next c s x₁) x₂).adr)
    (j : Nat) (hj : j < c.m) (hsel : c.dec j (Shared.bus c (Shared.next c s x₁) x₂).adr = true)
    (hto : Shared.done c (Shared.next c s x₁) = false) (i : Nat) :
    ((Shared.out c (Shared.next c s x₁) x₂).toM i).datR = (x₂.ss j).datR := by
  have hselR : ∀ k, k < c.m → Shared.selMux c (Shared.next c s x₁) x₂ k =
      c.dec k (Shared.bus c (Shared.next c s x₁) x₂).adr := by
    intro k hk
    unfold Shared.selMux
    simp only [hreg, if_true]
    rw [Shared.selR_next c hreg s x₁ k hk]
    simp only [Shared.sel, Shared.bus]
    exact hsame k hk
  have : Shared.decDat c (Shared.next c s x₁) x₂ = (x₂.ss j).datR :=
    orDat_gate_select hj
      (fun k hk hs => hd _ k j hk hj (by rw [← hselR k hk]; exact hs) hsel) (by rw [hselR j hj]; exact hsel)
  simp [Shared.out, Shared.busDat, hto, this]

/-- **Ownership is stable.**  The grant moves only in a cycle in which the owner's `cyc` is low, and then to a
    master that is requesting (SP_WITHDRAW). -/
theorem wb_owner_stable (s : ShState) (x : BusIn) (hg : s.grant < c.n)
    (h : (Shared.next c s x).grant ≠ s.grant) :
    (x.ms s.grant).cyc = false ∧ (x.ms (Shared.next c s x).grant).cyc = true := by
  have := RoundRobin.next_change_req .withdraw (fun i => (x.ms i).cyc) true hg h
  exact ⟨this.2, this.1⟩

theorem wb_owner_stable_run (hn : 0 < c.n) (ins : List BusIn) (x : BusIn)
    (h : ((Shared.machine c).run (ins ++ [x])).grant ≠ ((Shared.machine c).run ins).grant) :
    (x.ms ((Shared.machine c).run ins).grant).cyc = false ∧
    (x.ms ((Shared.machine c).run (ins ++ [x])).grant).cyc = true := by
  rw [Machine.run_snoc] at h ⊢
  exact wb_owner_stable c _ x (Shared.grant_lt_run c hn ins) h

/-- A bus cycle stays owned by its master until that master ends it: while the owner keeps `cyc` high, the grant
    does not move, whatever the other masters and the slaves do and however long it takes. -/
theorem wb_cycle_owned (s : ShState) (hg : s.grant < c.n) (ins : List BusIn)
    (hold : ∀ x ∈ ins, (x.ms s.grant).cyc = true) :
    ((Shared.machine c).runFrom s ins).grant = s.grant := by
  exact (Shared.machine c).invariant_of_legal (fun _ x => (x.ms s.grant).cyc = true) (fun t => t.grant = s.grant)
    (fun t x ht hx => by
      show RoundRobin.next .withdraw c.n t.grant (fun k => (x.ms k).cyc) = s.grant
      rw [ht]; exact RoundRobin.next_withdraw_keep _ true hg hx)
    ins s rfl (Machine.LegalFrom.of_forall _ hold s)

/-- **Exactly one termination.**  In a cycle in which the slaves answer only presented strobes (and the timeout
    does not fire): master `i` sees a termination iff it is the owner, drives `cyc & stb`, and the slave selected
    by its address terminates; and a terminating slave is seen by exactly one master (the owner) while no other
    slave terminates in that cycle.  So terminations are neither lost, duplicated nor invented. -/
theorem wb_one_termination (hd : DisjointDec c.m c.dec) (s : ShState) (x : BusIn)
    (hb : SlavesBehaved c.m (Shared.out c s x) x) (hto : Shared.done c s = false) :
    let o := Shared.out c s x
    (∀ i, mTerm o i = true ↔
      (s.grant = i ∧ ∃ j, j < c.m ∧ c.dec j (c.busAdr (x.ms i).adr) = true ∧ (x.ms i).cyc = true ∧ (x.ms i).stb = true ∧
        sTerm x j = true)) ∧
    (∀ j, j < c.m → sTerm x j = true →
      mTerm o s.grant = true ∧ (∀ i, mTerm o i = true → i = s.grant) ∧ (∀ k, k < c.m → sTerm x k = true → k = j)) := by
  have key : ∀ j, j < c.m → sTerm x j = true →
      c.dec j (Shared.bus c s x).adr = true ∧ (x.ms s.grant).cyc = true ∧ (x.ms s.grant).stb = true := by
    intro j hj h
    have := hb j hj h
    simp [Shared.out, Shared.bus, Shared.sel] at this
    exact ⟨this.1.2, this.1.1, this.2⟩
  have mterm : ∀ i, mTerm (Shared.out c s x) i = true ↔ (s.grant = i ∧ ∃ j, j < c.m ∧ sTerm x j = true) := by
    intro i
    simp only [mTerm, Shared.out, Shared.busAck, Shared.busErr, Shared.decAck, Shared.decErr, hto, Bool.false_or,
      Bool.or_eq_true, Bool.and_eq_true, beq_iff_eq, orAll_true, sTerm]
    constructor
    · rintro (⟨⟨j, hj, h⟩, hg⟩ | ⟨⟨j, hj, h⟩, hg⟩)
      · exact ⟨hg, j, hj, Or.inl h⟩
      · exact ⟨hg, j, hj, Or.inr h⟩
    · rintro ⟨hg, j, hj, h | h⟩
      · exact Or.inl ⟨⟨j, hj, h⟩, hg⟩
      · exact Or.inr ⟨⟨j, hj, h⟩, hg⟩
  refine ⟨fun i => ?_, fun j hj h => ⟨?_, ?_, ?_⟩⟩
  · rw [mterm]
    constructor
    · rintro ⟨hg, j, hj, h⟩
      have := key j hj h
      subst hg
      exact ⟨rfl, j, hj, this.1, this.2.1, this.2.2, h⟩
    · rintro ⟨hg, j, hj, _, _, _, h⟩
      exact ⟨hg, j, hj, h⟩
  · exact (mterm _).2 ⟨rfl, j, hj, h⟩
  · intro i hi
    exact ((mterm i).1 hi).1.symm
  · intro k hk h'
    exact hd _ k j hk hj (key k hk h').1 (key j hj h).1

/-- Number of cycles of a run in which master `i` waits (is not the owner) although the owner's `cyc` is low. -/
def idleWaits (i : Nat) (s : ShState) : List BusIn → Nat
  | [] => 0
  | x :: rest =>
    (if s.grant ≠ i ∧ (x.ms s.grant).cyc = false then 1 else 0) + idleWaits i (Shared.next c s x) rest

/-- Number of cycles of a run at whose clock edge the grant changes. -/
def grantChanges (s : ShState) : List BusIn → Nat
  | [] => 0
  | x :: rest => (if (Shared.next c s x).grant ≠ s.grant then 1 else 0) + grantChanges (Shared.next c s x) rest

/-- **Bounded waiting.**  From any state with a valid grant, along any run in which master `i` holds `cyc`:
    (grant changes so far) + (round-robin distance still to go) ≤ (initial distance) ≤ n-1, and likewise for the
    cycles in which `i` waits while the bus is idle.  Hence `i` becomes the owner after at most `n-1` completed
    cycles of other masters, and every cycle in which the owner has released the bus brings it strictly closer. -/
theorem wb_bounded_wait (i : Nat) (hi : i < c.n) (s : ShState) (hg : s.grant < c.n) (ins : List BusIn)
    (hreq : ∀ x ∈ ins, (x.ms i).cyc = true) :
    grantChanges c s ins + RoundRobin.dist c.n ((Shared.machine c).runFrom s ins).grant i
        ≤ RoundRobin.dist c.n s.grant i ∧
    idleWaits c i s ins + RoundRobin.dist c.n ((Shared.machine c).runFrom s ins).grant i
        ≤ RoundRobin.dist c.n s.grant i ∧
    RoundRobin.dist c.n s.grant i ≤ c.n - 1 := by
  have hl := Machine.LegalFrom.of_forall (Shared.machine c) hreq s
  have keep : ∀ (s : ShState) (x : BusIn), (x.ms i).cyc = true → s.grant = i →
      RoundRobin.next .withdraw c.n s.grant (fun k => (x.ms k).cyc) true = s.grant :=
    fun s x hx h => RoundRobin.next_withdraw_keep _ true (h ▸ hi) (h ▸ hx)
  refine ⟨?_, ?_, Nat.le_sub_one_of_lt (RoundRobin.dist_lt c.n _ i (by omega))⟩
  · exact (Shared.machine c).count_add_le (cnt := grantChanges c) (Φ := fun s => RoundRobin.dist c.n s.grant i)
      (Inv := fun s => s.grant < c.n) (fun _ => rfl) (fun _ _ _ => rfl)
      (fun s x hg hx => ⟨Shared.grant_lt_next c s x hg,
        RoundRobin.step_le .withdraw (fun k => (x.ms k).cyc) true hg hi hx (keep s x hx)⟩) ins s hg hl
  · exact (Shared.machine c).count_add_le (cnt := idleWaits c i) (Φ := fun s => RoundRobin.dist c.n s.grant i)
      (Inv := fun s => s.grant < c.n) (fun _ => rfl) (fun _ _ _ => rfl)
      (fun s x hg hx => ⟨Shared.grant_lt_next c s x hg, by
        have h := RoundRobin.handover_le .withdraw (fun k => (x.ms k).cyc) true hg hi hx (keep s x hx)
        simp only [RoundRobin.enabled, Bool.not_eq_true'] at h
        exact h⟩) ins s hg hl

/-- A waiting master whose round-robin distance has reached 0 is the owner (and stays it for as long as it holds `cyc`:
    `wb_cycle_owned`). -/
theorem wb_granted_of_dist_zero (i : Nat) (hi : i < c.n) (s : ShState) (hg : s.grant < c.n)
    (h : RoundRobin.dist c.n s.grant i = 0) : s.grant = i :=
  RoundRobin.dist_eq_zero hg hi h

/-- A waiting master that has sat through `n-1` cycles in which the owner had released the bus owns it. -/
theorem wb_granted_within (i : Nat) (hi : i < c.n) (s : ShState) (hg : s.grant < c.n) (ins : List BusIn)
    (hreq : ∀ x ∈ ins, (x.ms i).cyc = true) (h : c.n - 1 ≤ idleWaits c i s ins) :
    ((Shared.machine c).runFrom s ins).grant = i := by
  have hb := wb_bounded_wait c i hi s hg ins hreq
  apply RoundRobin.dist_eq_zero (Shared.grant_lt_runFrom c s hg ins) hi
  omega
/-- Terminations seen by master `i` along a run / terminations issued by slaves for strobes of master `i`
    (cycles in which `i` owns the bus, drives `cyc & stb` to a matching slave, and that slave terminates). -/
def termsSeen (i : Nat) (s : ShState) : List BusIn → Nat
  | [] => 0
  | x :: rest => (if mTerm (Shared.out c s x) i = true then 1 else 0) + termsSeen i (Shared.next c s x) rest

/-- Cycles of the run in which a slave terminates a strobe that master `i`, owning the bus, presents to it. -/
def termsIssued (i : Nat) (s : ShState) : List BusIn → Nat
  | [] => 0
  | x :: rest =>
    (if s.grant = i ∧ ∃ j, j < c.m ∧ c.dec j (c.busAdr (x.ms i).adr) = true ∧ (x.ms i).cyc = true ∧ (x.ms i).stb = true ∧
        sTerm x j = true then 1 else 0) + termsIssued i (Shared.next c s x) rest

/-- Every cycle of the run satisfies the slave-side environment assumption. -/
def BehavedRun (s : ShState) : List BusIn → Prop
  | [] => True
  | x :: rest => SlavesBehaved c.m (Shared.out c s x) x ∧ BehavedRun (Shared.next c s x) rest

/-- Along every run (no timeout module, behaved slaves): each master sees exactly as many terminations as
    slaves issued for its own presented strobes — one per answered request, for every interleaving. -/
theorem wb_one_termination_run (hd : DisjointDec c.m c.dec) (hto : c.timeout = none) (i : Nat) :
    ∀ (ins : List BusIn) (s : ShState), BehavedRun c s ins → termsSeen c i s ins = termsIssued c i s ins := by
  intro ins
  induction ins with
  | nil => intro s _; rfl
  | cons x rest ih =>
    intro s hb
    have hdone : Shared.done c s = false := by simp [Shared.done, hto]
    have h := (wb_one_termination c hd s x hb.1 hdone).1 i
    simp only [termsSeen, termsIssued]
    rw [ih _ hb.2]
    by_cases hm : mTerm (Shared.out c s x) i = true
    · rw [if_pos hm, if_pos (h.1 hm)]
    · rw [if_neg hm, if_neg (fun hh => hm (h.2 hh))]

end SharedThms

section SharedExamples

/-- 2 masters × 2 slaves, slave `j` decodes `adr[1:] == j`, unregistered, no timeout. -/
def cfgA : ShCfg := { n := 2, m := 2, dec := fun j a => (a >>> 1) == j, reg := false, timeout := none, dw := 8 }

theorem cfgA_disjoint : DisjointDec cfgA.m cfgA.dec := by
  intro a j k _ _ h1 h2
  simp [cfgA] at h1 h2
  omega

/-- Both masters request (master 0 reads slave 1, master 1 writes slave 0); slave 1 acknowledges with 0x42. -/
def xA : BusIn :=
  { ms := fun i => if i = 0 then { cyc := true, stb := true, adr := 2 } else { cyc := true, stb := true, we := true, adr := 1, datW := 7 },
    ss := fun j => if j = 1 then { ack := true, datR := 0x42 } else { datR := 0x99 } }

/-- Master 0 finished, master 1 still requests: the grant moves to master 1 at this edge. -/
def xA' : BusIn :=
  { ms := fun i => if i = 0 then {} else { cyc := true, stb := true, we := true, adr := 1, datW := 7 },
    ss := fun _ => {} }

/-- The hypotheses of the per-cycle theorems are met by a cycle in which things happen: slave 1 (only) sees the
    cycle, master 0 (only) sees the acknowledge with slave 1's data, the slaves are behaved. -/
example :
    let o := Shared.out cfgA (Shared.init cfgA) xA
    (o.toS 1).cyc = true ∧ (o.toS 0).cyc = false ∧ (o.toM 0).ack = true ∧ (o.toM 1).ack = false ∧
    (o.toM 0).datR = 0x42 ∧ mTerm o 0 = true ∧ sTerm xA 1 = true := by decide

example : SlavesBehaved cfgA.m (Shared.out cfgA (Shared.init cfgA) xA) xA := by
  intro j hj h
  have : j = 0 ∨ j = 1 := by simp [cfgA] at hj; omega
  rcases this with rfl | rfl
  · simp [sTerm, xA] at h
  · decide

/-- Ownership really moves (non-vacuity of `wb_owner_stable`, `wb_bounded_wait`): master 1 waits one cycle while
    master 0 is served, then is granted after exactly one grant change (= n-1). -/
example :
    ((Shared.machine cfgA).run [xA]).grant = 0 ∧ ((Shared.machine cfgA).run [xA, xA']).grant = 1 ∧
    grantChanges cfgA (Shared.init cfgA) [xA, xA'] = 1 ∧ idleWaits cfgA 1 (Shared.init cfgA) [xA, xA'] = 1 ∧
    RoundRobin.dist cfgA.n (Shared.init cfgA).grant 1 = 1 := by decide

/-- Why `SlavesBehaved` is a hypothesis: the decoder ORs the `ack` of ALL slaves, so a slave that acknowledges
    without being addressed terminates the owner's cycle to another slave (here: master 0 addresses slave 1,
    which is silent; slave 0 acknowledges unasked; master 0 sees `ack`).  This is a protocol violation of the
    slave, not of the interconnect; the model reproduces it faithfully. -/
example :
    let x : BusIn := { ms := fun _ => { cyc := true, stb := true, adr := 2 },
                       ss := fun j => if j = 0 then { ack := true, datR := 0x99 } else {} }
    let o := Shared.out cfgA (Shared.init cfgA) x
    (o.toS 0).cyc = false ∧ (o.toS 1).cyc = true ∧ (x.ss 1).ack = false ∧ (o.toM 0).ack = true ∧
    (o.toM 0).datR = 0 := by decide

/-- Non-vacuity of `wb_one_termination_run`: a behaved two-cycle run in which master 0 receives its one
    termination and master 1 (still waiting for slave 0) none. -/
example :
    BehavedRun cfgA (Shared.init cfgA) [xA, xA'] ∧
    termsSeen cfgA 0 (Shared.init cfgA) [xA, xA'] = 1 ∧ termsIssued cfgA 0 (Shared.init cfgA) [xA, xA'] = 1 ∧
    termsSeen cfgA 1 (Shared.init cfgA) [xA, xA'] = 0 := by
  refine ⟨⟨?_, ?_, trivial⟩, by decide, by decide, by decide⟩
  · intro j hj h
    have : j = 0 ∨ j = 1 := by simp [cfgA] at hj; omega
    rcases this with rfl | rfl
    · simp [sTerm, xA] at h
    · decide
  · intro j hj h
    simp [sTerm, xA'] at h

/-- Masters of different address width (master 0: 1 bit, master 1: 2 bits, listed narrow first): the wide master's
    address 2 is above the narrow master's range; it still selects slave 1 and arrives unchanged. -/
example :
    let c : ShCfg := { cfgA with aws := [1, 2] }
    let s : ShState := { Shared.init c with grant := 1 }
    let x : BusIn := { ms := fun i => if i = 1 then { cyc := true, stb := true, adr := 2 } else {}, ss := fun _ => {} }
    c.busWidth = some 2 ∧ ((Shared.out c s x).toS 1).cyc = true ∧ ((Shared.out c s x).toS 0).cyc = false ∧
    ((Shared.out c s x).toS 1).adr = 2 := by decide

/-- 1 master × 2 slaves with `register=True`. -/
def cfgR : ShCfg := { n := 1, m := 2, dec := fun j a => (a >>> 1) == j, reg := true, timeout := none, dw := 8 }

/-- cycle 1: read of address 2 (slave 1), slave 1 acknowledges at once (0-latency) with 0x42;
    cycle 2: read of address 0 (slave 0), slave 0 acknowledges at once with 0x17 while slave 1 still drives 0x42. -/
def xR1 : BusIn :=
  { ms := fun _ => { cyc := true, stb := true, adr := 2 },
    ss := fun j => if j = 1 then { ack := true, datR := 0x42 } else { datR := 0x99 } }
def xR2 : BusIn :=
  { ms := fun _ => { cyc := true, stb := true, adr := 0 },
    ss := fun j => if j = 0 then { ack := true, datR := 0x17 } else { datR := 0x42 } }

/-- **Negative witness** for the full read-data statement with `register=True` (documented limitation, finding
    `C06-registered-decoder-0-latency`): the first acknowledge carries 0 instead of slave 1's 0x42, the second
    carries slave 1's 0x42 instead of slave 0's 0x17.  Both cycles violate only the `hsame` hypothesis of
    `wb_dat_r_registered_partial`. -/
example :
    let s0 := Shared.init cfgR
    let s1 := Shared.next cfgR s0 xR1
    cfgR.dec 1 (xR1.ms s0.grant).adr = true ∧ ((Shared.out cfgR s0 xR1).toM 0).ack = true ∧
      ((Shared.out cfgR s0 xR1).toM 0).datR ≠ (xR1.ss 1).datR ∧
    cfgR.dec 0 (xR2.ms s1.grant).adr = true ∧ ((Shared.out cfgR s1 xR2).toM 0).ack = true ∧
      ((Shared.out cfgR s1 xR2).toM 0).datR ≠ (xR2.ss 0).datR ∧
      ((Shared.out cfgR s1 xR2).toM 0).datR = (xR2.ss 1).datR := by decide

/-- Non-vacuity of `wb_dat_r_registered_partial`: a slave with latency 1 (address held for a second cycle) is read
    correctly through the registered decoder. -/
example :
    let s1 := Shared.next cfgR (Shared.init cfgR) { xR1 with ss := fun _ => {} }
    ((Shared.out cfgR s1 xR1).toM 0).ack = true ∧ ((Shared.out cfgR s1 xR1).toM 0).datR = 0x42 := by decide

end SharedExamples

/-! ## Crossbar (one arbiter per slave: the round-robin results per column; one decoder per master) -/
section CrossbarThms
variable (c : XbCfg)

/-- **Routing.**  Slave `j` is driven by exactly one master, the one its arbiter grants: it sees `cyc` iff that
    master drives `cyc` with an address matching slave `j`'s predicate, and all other signals are that master's. -/
theorem xb_route (s : XbState) (x : BusIn) (j : Nat) :
    let o := Crossbar.out c s x
    let own := x.ms (Crossbar.grant s j)
    (o.toS j).cyc = (own.cyc && c.dec j own.adr) ∧
    (o.toS j).stb = own.stb ∧ (o.toS j).we = own.we ∧ (o.toS j).adr = own.adr ∧
    (o.toS j).datW = own.datW ∧ (o.toS j).sel = own.sel ∧ (o.toS j).cti = own.cti ∧ (o.toS j).bte = own.bte := by
  simp [Crossbar.out, Crossbar.colReq, Crossbar.sel]

/-- With disjoint decoders a master's cycle is presented to at most one slave. -/
theorem xb_route_one_slave (hd : DisjointDec c.m c.dec) (s : XbState) (x : BusIn) (i j k : Nat)
    (hj : j < c.m) (hk : k < c.m) (gj : Crossbar.grant s j = i) (gk : Crossbar.grant s k = i)
    (h1 : ((Crossbar.out c s x).toS j).cyc = true) (h2 : ((Crossbar.out c s x).toS k).cyc = true) : j = k := by
  simp [Crossbar.out, Crossbar.colReq, Crossbar.sel, gj, gk] at h1 h2
  exact hd _ j k hj hk h1.2 h2.2

/-- A slave whose predicate does not match its granted master's address sees no cycle; in particular a cycle whose
    address matches no decoder is presented nowhere. -/
theorem xb_route_none (s : XbState) (x : BusIn) (j : Nat)
    (hno : c.dec j (x.ms (Crossbar.grant s j)).adr = false) : ((Crossbar.out c s x).toS j).cyc = false := by
  simp [Crossbar.out, Crossbar.colReq, Crossbar.sel, hno]

/-- In every reachable state every column's owner is one of the masters. -/
theorem xb_owner_is_master (hn : 0 < c.n) (ins : List BusIn) (j : Nat) (hj : j < c.m) :
    Crossbar.grant ((Crossbar.machine c).run ins) j < c.n :=
  Crossbar.grantsOk_runFrom c _ (Crossbar.grantsOk_init c hn) ins j hj

/-- **Answers reach the owner only.**  A master that sees `ack` (`err`) owns a slave that drives `ack` (`err`). -/
theorem xb_answer_owner_only (s : XbState) (x : BusIn) (i : Nat) :
    let o := Crossbar.out c s x
    ((o.toM i).ack = true → ∃ j, j < c.m ∧ Crossbar.grant s j = i ∧ (x.ss j).ack = true) ∧
    ((o.toM i).err = true → ∃ j, j < c.m ∧ Crossbar.grant s j = i ∧ (x.ss j).err = true) := by
  constructor <;>
  · intro h
    simp only [Crossbar.out, orAll_true, Bool.and_eq_true, beq_iff_eq] at h
    obtain ⟨j, hj, h1, h2⟩ := h
    exact ⟨j, hj, h2, h1⟩

theorem xb_only_selected_answers (hd : DisjointDec c.m c.dec) (s : XbState) (x : BusIn)
    (hb : SlavesBehaved c.m (Crossbar.out c s x) x) (i j : Nat) (hj : j < c.m)
    (hsel : c.dec j (x.ms i).adr = true) (k : Nat) (hk : k < c.m) (hne : k ≠ j)
    (hg : Crossbar.grant s k = i) : sTerm x k = false := by
  cases h : sTerm x k
  · rfl
  · have := (hb k hk h).1
    simp [Crossbar.out, Crossbar.colReq, Crossbar.sel, hg] at this
    exact absurd (hd _ k j hk hj this.2 hsel) hne

/-- Behaved slaves, disjoint decoders: master `i`'s `ack`/`err` are exactly those of the slave its address
    selects, gated by that slave's grant. -/
theorem xb_answer_selected (hd : DisjointDec c.m c.dec) (s : XbState) (x : BusIn)
    (hb : SlavesBehaved c.m (Crossbar.out c s x) x) (i j : Nat) (hj : j < c.m)
    (hsel : c.dec j (x.ms i).adr = true) :
    let o := Crossbar.out c s x
    (o.toM i).ack = ((x.ss j).ack && (Crossbar.grant s j == i)) ∧
    (o.toM i).err = ((x.ss j).err && (Crossbar.grant s j == i)) := by
  have hothers := xb_only_selected_answers c hd s x hb i j hj hsel
  constructor <;>
  · simp only [Crossbar.out]
    apply orAll_unique hj
    intro k hk hne
    by_cases hg : Crossbar.grant s k = i
    · have := hothers k hk hne hg
      simp [sTerm] at this
      simp [this.1, this.2]
    · simp [hg]

/-- Unregistered decoders: master `i` reads the data of the slave its address selects. -/
theorem xb_dat_r (hd : DisjointDec c.m c.dec) (hreg : c.reg = false) (s : XbState) (x : BusIn)
    (i j : Nat) (hj : j < c.m) (hsel : c.dec j (x.ms i).adr = true) :
    ((Crossbar.out c s x).toM i).datR = (x.ss j).datR :=
  orDat_gate_select hj
    (fun k hk hs => hd _ k j hk hj (by simpa [Crossbar.selMux, hreg, Crossbar.sel] using hs) hsel)
    (by simp [Crossbar.selMux, hreg, Crossbar.sel, hsel])

/-- FULL STATEMENT (fails for `register=True`): `c.dec j (x.ms i).adr → (o.toM i).datR = (x.ss j).datR` in every
    cycle.  With registered decoders it needs master `i`'s previous-cycle address to decode like the current one. -/
theorem xb_dat_r_registered_partial (hd : DisjointDec c.m c.dec) (hreg : c.reg = true)
    (s : XbState) (x₁ x₂ : BusIn) (i : Nat) (hi : i < c.n)
    (hsame : ∀ k, k < c.m → c.dec k (x₁.ms i).adr = c.dec k (x₂.ms i).adr)
    (j : Nat) (hj : j < c.m) (hsel : c.dec j (x₂.ms i).adr = true) :
    ((Crossbar.out c (Crossbar.next c s x₁) x₂).toM i).datR = (x₂.ss j).datR := by
  have hselR : ∀ k, k < c.m → Crossbar.selMux c (Crossbar.next c s x₁) x₂ i k = c.dec k (x₂.ms i).adr := by
    intro k hk
    unfold Crossbar.selMux
    simp only [hreg, if_true]
    rw [Crossbar.selR_next c hreg s x₁ i k hi hk]
    exact hsame k hk
  exact orDat_gate_select hj
    (fun k hk hs => hd _ k j hk hj (by rw [← hselR k hk]; exact hs) hsel) (by rw [hselR j hj]; exact hsel)

/-- **Ownership is stable** per slave: the grant of column `j` moves only when its owner does not request slave
    `j` in that cycle (cyc low or address elsewhere), and then to a master that does. -/
theorem xb_owner_stable (s : XbState) (x : BusIn) (j : Nat) (hj : j < c.m) (hg : Crossbar.grant s j < c.n)
    (h : Crossbar.grant (Crossbar.next c s x) j ≠ Crossbar.grant s j) :
    Crossbar.colReq c x j (Crossbar.grant s j) = false ∧
    Crossbar.colReq c x j (Crossbar.grant (Crossbar.next c s x) j) = true := by
  rw [Crossbar.grant_next c s x j hj] at h ⊢
  have := RoundRobin.next_change_req .withdraw (Crossbar.colReq c x j) true hg h
  exact ⟨this.2, this.1⟩

/-- While the owner of slave `j` keeps requesting it, it keeps the slave. -/
theorem xb_cycle_owned (s : XbState) (j : Nat) (hj : j < c.m) (hg : Crossbar.grant s j < c.n) (ins : List BusIn)
    (hold : ∀ x ∈ ins, Crossbar.colReq c x j (Crossbar.grant s j) = true) :
    Crossbar.grant ((Crossbar.machine c).runFrom s ins) j = Crossbar.grant s j := by
  exact (Crossbar.machine c).invariant_of_legal (fun _ x => Crossbar.colReq c x j (Crossbar.grant s j) = true)
    (fun t => Crossbar.grant t j = Crossbar.grant s j)
    (fun t x ht hx => by
      show Crossbar.grant (Crossbar.next c t x) j = _
      rw [Crossbar.grant_next c t x j hj, ht]; exact RoundRobin.next_withdraw_keep _ true hg hx)
    ins s rfl (Machine.LegalFrom.of_forall _ hold s)

/-- **Exactly one termination** (crossbar): with behaved slaves master `i` sees a termination
    iff it owns a slave that it addresses with `cyc & stb` and that terminates; a terminating slave is seen by its
    owner and by no other master. -/
theorem xb_one_termination (s : XbState) (x : BusIn) (hb : SlavesBehaved c.m (Crossbar.out c s x) x) :
    let o := Crossbar.out c s x
    (∀ i, mTerm o i = true ↔
      ∃ j, j < c.m ∧ Crossbar.grant s j = i ∧ c.dec j (x.ms i).adr = true ∧ (x.ms i).cyc = true ∧
        (x.ms i).stb = true ∧ sTerm x j = true) ∧
    (∀ j, j < c.m → sTerm x j = true → mTerm o (Crossbar.grant s j) = true) := by
  have mterm : ∀ i, mTerm (Crossbar.out c s x) i = true ↔
      ∃ j, j < c.m ∧ Crossbar.grant s j = i ∧ sTerm x j = true := by
    intro i
    simp only [mTerm, Crossbar.out, Bool.or_eq_true, orAll_true, Bool.and_eq_true, beq_iff_eq, sTerm]
    constructor
    · rintro (⟨j, hj, h, hg⟩ | ⟨j, hj, h, hg⟩)
      · exact ⟨j, hj, hg, Or.inl h⟩
      · exact ⟨j, hj, hg, Or.inr h⟩
    · rintro ⟨j, hj, hg, h | h⟩
      · exact Or.inl ⟨j, hj, h, hg⟩
      · exact Or.inr ⟨j, hj, h, hg⟩
  refine ⟨fun i => ?_, fun j hj h => (mterm _).2 ⟨j, hj, rfl, h⟩⟩
  rw [mterm]
  constructor
  · rintro ⟨j, hj, hg, h⟩
    have := hb j hj h
    simp [Crossbar.out, Crossbar.colReq, Crossbar.sel, hg] at this
    exact ⟨j, hj, hg, this.1.2, this.1.1, this.2, h⟩
  · rintro ⟨j, hj, hg, _, _, _, h⟩
    exact ⟨j, hj, hg, h⟩

/-- With disjoint decoders at most one of the slaves a master owns can be terminating in a cycle: a master never
    receives two terminations at once. -/
theorem xb_termination_to_owner_only (hd : DisjointDec c.m c.dec) (s : XbState) (x : BusIn)
    (hb : SlavesBehaved c.m (Crossbar.out c s x) x) (i : Nat) (j k : Nat) (hj : j < c.m) (hk : k < c.m)
    (gj : Crossbar.grant s j = i) (gk : Crossbar.grant s k = i)
    (tj : sTerm x j = true) (tk : sTerm x k = true) : j = k := by
  have h1 := (hb j hj tj).1
  have h2 := (hb k hk tk).1
  exact xb_route_one_slave c hd s x i j k hj hk gj gk h1 h2

/-- Cycles in which master `i` requests slave `j`, is not its owner, and the owner does not request it. -/
def xbIdleWaits (i j : Nat) (s : XbState) : List BusIn → Nat
  | [] => 0
  | x :: rest =>
    (if Crossbar.grant s j ≠ i ∧ Crossbar.colReq c x j (Crossbar.grant s j) = false then 1 else 0) +
      xbIdleWaits i j (Crossbar.next c s x) rest

/-- Number of cycles of a run at whose clock edge the grant of column `j` changes. -/
def xbGrantChanges (j : Nat) (s : XbState) : List BusIn → Nat
  | [] => 0
  | x :: rest =>
    (if Crossbar.grant (Crossbar.next c s x) j ≠ Crossbar.grant s j then 1 else 0) +
      xbGrantChanges j (Crossbar.next c s x) rest

/-- **Bounded waiting** per slave: a master that keeps requesting slave `j` is granted after at most `n-1` grant
    changes of column `j`, and waits through at most `n-1` cycles in which slave `j` is not being requested by its
    owner. -/
theorem xb_bounded_wait (i j : Nat) (hi : i < c.n) (hj : j < c.m) (s : XbState) (hg : Crossbar.grant s j < c.n)
    (ins : List BusIn) (hreq : ∀ x ∈ ins, Crossbar.colReq c x j i = true) :
    xbGrantChanges c j s ins + RoundRobin.dist c.n (Crossbar.grant ((Crossbar.machine c).runFrom s ins) j) i
        ≤ RoundRobin.dist c.n (Crossbar.grant s j) i ∧
    xbIdleWaits c i j s ins + RoundRobin.dist c.n (Crossbar.grant ((Crossbar.machine c).runFrom s ins) j) i
        ≤ RoundRobin.dist c.n (Crossbar.grant s j) i ∧
    RoundRobin.dist c.n (Crossbar.grant s j) i ≤ c.n - 1 := by
  have hl := Machine.LegalFrom.of_forall (Crossbar.machine c) hreq s
  -- one cycle of column `j`, as the round-robin sees it
  have col : ∀ (t : XbState) (x : BusIn), Crossbar.grant t j < c.n → Crossbar.colReq c x j i = true →
      Crossbar.grant (Crossbar.next c t x) j = RoundRobin.next .withdraw c.n (Crossbar.grant t j) (Crossbar.colReq c x j) true ∧
      (Crossbar.grant t j = i →
        RoundRobin.next .withdraw c.n (Crossbar.grant t j) (Crossbar.colReq c x j) true = Crossbar.grant t j) :=
    fun t x _ hx => ⟨Crossbar.grant_next c t x j hj, fun h => RoundRobin.next_withdraw_keep _ true (h ▸ hi) (h ▸ hx)⟩
  refine ⟨?_, ?_, Nat.le_sub_one_of_lt (RoundRobin.dist_lt c.n _ i (by omega))⟩
  · exact (Crossbar.machine c).count_add_le (cnt := xbGrantChanges c j)
      (Φ := fun t => RoundRobin.dist c.n (Crossbar.grant t j) i) (Inv := fun t => Crossbar.grant t j < c.n)
      (fun _ => rfl) (fun _ _ _ => rfl)
      (fun t x ht hx => by
        obtain ⟨hn, hk⟩ := col t x ht hx
        show Crossbar.grant (Crossbar.next c t x) j < c.n ∧
          (if Crossbar.grant (Crossbar.next c t x) j ≠ Crossbar.grant t j then 1 else 0) +
            RoundRobin.dist c.n (Crossbar.grant (Crossbar.next c t x) j) i ≤ _
        rw [hn]
        exact ⟨RoundRobin.next_lt .withdraw _ true ht, RoundRobin.step_le .withdraw _ true ht hi hx hk⟩) ins s hg hl
  · exact (Crossbar.machine c).count_add_le (cnt := xbIdleWaits c i j)
      (Φ := fun t => RoundRobin.dist c.n (Crossbar.grant t j) i) (Inv := fun t => Crossbar.grant t j < c.n)
      (fun _ => rfl) (fun _ _ _ => rfl)
      (fun t x ht hx => by
        obtain ⟨hn, hk⟩ := col t x ht hx
        have h := RoundRobin.handover_le .withdraw (Crossbar.colReq c x j) true ht hi hx hk
        simp only [RoundRobin.enabled, Bool.not_eq_true'] at h
        show Crossbar.grant (Crossbar.next c t x) j < c.n ∧ _ + RoundRobin.dist c.n (Crossbar.grant (Crossbar.next c t x) j) i ≤ _
        rw [hn]
        exact ⟨RoundRobin.next_lt .withdraw _ true ht, h⟩) ins s hg hl

/-- Terminations seen by master `i` along a run of the crossbar. -/
def xbTermsSeen (i : Nat) (s : XbState) : List BusIn → Nat
  | [] => 0
  | x :: rest => (if mTerm (Crossbar.out c s x) i = true then 1 else 0) + xbTermsSeen i (Crossbar.next c s x) rest

/-- Cycles in which a slave that master `i` owns and addresses with `cyc & stb` terminates. -/
def xbTermsIssued (i : Nat) (s : XbState) : List BusIn → Nat
  | [] => 0
  | x :: rest =>
    (if ∃ j, j < c.m ∧ Crossbar.grant s j = i ∧ c.dec j (x.ms i).adr = true ∧ (x.ms i).cyc = true ∧
        (x.ms i).stb = true ∧ sTerm x j = true then 1 else 0) + xbTermsIssued i (Crossbar.next c s x) rest

/-- Every cycle of the run satisfies the slave-side environment assumption. -/
def XbBehavedRun (s : XbState) : List BusIn → Prop
  | [] => True
  | x :: rest => SlavesBehaved c.m (Crossbar.out c s x) x ∧ XbBehavedRun (Crossbar.next c s x) rest

/-- Along every run of the crossbar with behaved slaves each master sees exactly as many terminations as slaves
    issued for its own presented strobes. -/
theorem xb_one_termination_run (i : Nat) :
    ∀ (ins : List BusIn) (s : XbState), XbBehavedRun c s ins → xbTermsSeen c i s ins = xbTermsIssued c i s ins := by
  intro ins
  induction ins with
  | nil => intro s _; rfl
  | cons x rest ih =>
    intro s hb
    have h := (xb_one_termination c s x hb.1).1 i
    simp only [xbTermsSeen, xbTermsIssued]
    rw [ih _ hb.2]
    by_cases hm : mTerm (Crossbar.out c s x) i = true
    · rw [if_pos hm, if_pos (h.1 hm)]
    · rw [if_neg hm, if_neg (fun hh => hm (h.2 hh))]

theorem xb_granted_within (i j : Nat) (hi : i < c.n) (hj : j < c.m) (s : XbState) (hg : Crossbar.GrantsOk c s)
    (ins : List BusIn) (hreq : ∀ x ∈ ins, Crossbar.colReq c x j i = true) (h : c.n - 1 ≤ xbIdleWaits c i j s ins) :
    Crossbar.grant ((Crossbar.machine c).runFrom s ins) j = i := by
  have hb := xb_bounded_wait c i j hi hj s (hg j hj) ins hreq
  apply RoundRobin.dist_eq_zero (Crossbar.grantsOk_runFrom c s hg ins j hj) hi
  omega
end CrossbarThms

section CrossbarExamples

def xcfgA : XbCfg := { n := 2, m := 2, dec := fun j a => (a >>> 1) == j, reg := false }
def xcfgR : XbCfg := { n := 1, m := 2, dec := fun j a => (a >>> 1) == j, reg := true }

/-- Both masters address slave 1 in the same cycle; slave 1 acknowledges: only master 0 (the owner) sees it.
    Next cycle master 0 has finished and master 1 becomes the owner of slave 1 (one grant change = n-1). -/
def xX : BusIn :=
  { ms := fun i => if i = 0 then { cyc := true, stb := true, adr := 2 } else { cyc := true, stb := true, we := true, adr := 3, datW := 7 },
    ss := fun j => if j = 1 then { ack := true, datR := 0x42 } else { datR := 0x99 } }
def xX' : BusIn :=
  { ms := fun i => if i = 0 then {} else { cyc := true, stb := true, we := true, adr := 3, datW := 7 }, ss := fun _ => {} }

example :
    let o := Crossbar.out xcfgA (Crossbar.init xcfgA) xX
    (o.toS 1).cyc = true ∧ (o.toS 1).adr = 2 ∧ (o.toS 0).cyc = false ∧
    (o.toM 0).ack = true ∧ (o.toM 0).datR = 0x42 ∧ (o.toM 1).ack = false ∧
    Crossbar.grant ((Crossbar.machine xcfgA).run [xX, xX']) 1 = 1 ∧
    xbGrantChanges xcfgA 1 (Crossbar.init xcfgA) [xX, xX'] = 1 := by decide

/-- Negative witness for the registered crossbar decoder (same 0-latency scenario as for the shared bus). -/
example :
    let s0 := Crossbar.init xcfgR
    let s1 := Crossbar.next xcfgR s0 xR1
    ((Crossbar.out xcfgR s0 xR1).toM 0).ack = true ∧ ((Crossbar.out xcfgR s0 xR1).toM 0).datR ≠ (xR1.ss 1).datR ∧
    ((Crossbar.out xcfgR s1 xR2).toM 0).ack = true ∧ ((Crossbar.out xcfgR s1 xR2).toM 0).datR = (xR2.ss 1).datR ∧
    ((Crossbar.out xcfgR s1 xR2).toM 0).datR ≠ (xR2.ss 0).datR := by decide

/-- `InterconnectPointToPoint` is a wire in both directions. -/
theorem p2p_transparent (x : BusIn) :
    (P2P.out () x).toS 0 = x.ms 0 ∧ (P2P.out () x).toM 0 = x.ss 0 := ⟨rfl, rfl⟩

end CrossbarExamples

/-! ## SoC glue: which fabric `SoCBusHandler.do_finalize` instantiates, and routing through it -/
section SocThms

/-- **What the code guarantees about point-to-point**: it is chosen exactly for one master, one slave and
    that slave's region starting at address 0 — nothing is checked about the region's size. -/
theorem busTopology_p2p_iff (n m o : Nat) (k : BusKind) :
    busTopology n m o k = .p2p ↔ n = 1 ∧ m = 1 ∧ o = 0 := by
  unfold busTopology
  by_cases h0 : n = 0 ∨ m = 0
  · simp [h0]; omega
  · by_cases h1 : n = 1 ∧ m = 1 ∧ o = 0
    · simp [h1]
    · cases k <;> simp [h0, h1]

/-- No interconnect iff there is no master or no slave; otherwise, outside the point-to-point case, the configured
    kind (shared bus with decoder and timeout, or crossbar) is built. -/
theorem busTopology_other (n m o : Nat) (k : BusKind) :
    (busTopology n m o k = .none ↔ n = 0 ∨ m = 0) ∧
    (n ≠ 0 → m ≠ 0 → ¬ (n = 1 ∧ m = 1 ∧ o = 0) →
      busTopology n m o k = match k with | .shared => .shared | .crossbar => .crossbar) := by
  unfold busTopology
  constructor
  · by_cases h0 : n = 0 ∨ m = 0
    · simp [h0]
    · by_cases h1 : n = 1 ∧ m = 1 ∧ o = 0
      · simp [h1]
      · cases k <;> simp [h0, h1]
  · intro hn hm h1
    have h0 : ¬ (n = 0 ∨ m = 0) := by omega
    rw [if_neg h0, if_neg h1]
    cases k <;> rfl

/-- A lone slave mapped at a non-zero origin always gets a decoder (without this guard a cycle outside the region would
    reach the slave over the point-to-point wiring). -/
theorem busTopology_nonzero_origin_decoded (n m o : Nat) (k : BusKind) (ho : o ≠ 0) :
    busTopology n m o k ≠ .p2p := by
  intro h
  exact ho ((busTopology_p2p_iff n m o k).1 h).2.2

/-- The bus keeps the shape selected at elaboration. -/
theorem soc_wf_run (c : SocCfg) (ins : List BusIn) : SocBus.WF c ((SocBus.machine c).run ins) := by
  unfold Machine.run
  apply Machine.invariant_runFrom (SocBus.machine c) (SocBus.WF c)
  · intro s x h
    unfold SocBus.WF at *
    rw [← h]
    cases s <;> rfl
  · unfold SocBus.WF
    simp only [SocBus.machine, SocBus.init]
    cases c.topology <;> rfl

/-- FULL STATEMENT (does not hold, see the witness below): for every SoC bus, slave `j` sees `cyc` iff its
    owner drives `cyc` with an address inside slave `j`'s region predicate.
    It holds for the shared bus and the crossbar unconditionally (`wb_route`, `xb_route`); for the
    point-to-point wiring it needs `hcov`: the lone slave's predicate is true at every address (the region
    decodes the whole space). -/
theorem soc_route_partial (c : SocCfg)
    (hcov : c.topology = .p2p → ∀ a, c.dec 0 a = true)
    (s : SocState) (hwf : SocBus.WF c s) (x : BusIn) (hn : 0 < c.n) (j : Nat) (hj : j < c.m) :
    let o := SocBus.out c s x
    let own := x.ms (SocBus.owner s j)
    (o.toS j).cyc = (own.cyc && c.dec j own.adr) ∧
    (o.toS j).stb = own.stb ∧ (o.toS j).we = own.we ∧ (o.toS j).adr = own.adr ∧
    (o.toS j).datW = own.datW ∧ (o.toS j).sel = own.sel ∧ (o.toS j).cti = own.cti ∧ (o.toS j).bte = own.bte := by
  cases s with
  | idle =>
    -- no interconnect is built only without masters or without slaves: excluded by `hn`, `hj`
    have ht : c.topology = .none := hwf.symm
    have := (busTopology_other c.n c.m c.slaveOrigin c.kind).1.1 ht
    omega
  | p2p =>
    have ht : c.topology = .p2p := hwf.symm
    have hm : c.m = 1 := ((busTopology_p2p_iff _ _ _ _).1 ht).2.1
    have hj0 : j = 0 := by omega
    subst hj0
    simp [SocBus.out, SocBus.owner, P2P.out, hcov ht]
  | sh s' => exact wb_route c.sh s' x j
  | xb s' => exact xb_route c.xb s' x j

theorem soc_route_run_partial (c : SocCfg) (hcov : c.topology = .p2p → ∀ a, c.dec 0 a = true)
    (ins : List BusIn) (x : BusIn) (hn : 0 < c.n) (j : Nat) (hj : j < c.m) :
    let s := (SocBus.machine c).run ins
    let own := x.ms (SocBus.owner s j)
    ((SocBus.out c s x).toS j).cyc = (own.cyc && c.dec j own.adr) :=
  (soc_route_partial c hcov _ (soc_wf_run c ins) x hn j hj).1

/-- `hcov` is met as coded when the lone slave's region starts at 0 and its (rounded) size is the whole address
    space: `SoCRegion.decoder` then returns `lambda a: True`. -/
theorem soc_hcov_whole_space (c : SocCfg) (size : Nat) (hr : c.regions = [(0, size)])
    (hsz : 2 ^ clog2 size = 2 ^ c.aw) : ∀ a, c.dec 0 a = true := by
  intro a
  simp [SocCfg.dec, hr, regionDec, hsz]

/-- A bus whose (first) slave is mapped at a NON-ZERO origin always gets a decoder, so a cycle outside the regions
    reaches no slave — unconditionally (no `hcov` needed), whatever other regions exist. -/
theorem soc_nonzero_origin_routed (c : SocCfg) (ho : c.slaveOrigin ≠ 0) (s : SocState) (hwf : SocBus.WF c s)
    (x : BusIn) (hn : 0 < c.n) (j : Nat) (hj : j < c.m) :
    ((SocBus.out c s x).toS j).cyc = ((x.ms (SocBus.owner s j)).cyc && c.dec j (x.ms (SocBus.owner s j)).adr) :=
  (soc_route_partial c (fun h => absurd h (busTopology_nonzero_origin_decoded _ _ _ _ ho)) s hwf x hn j hj).1

end SocThms

section SocExamples

/-- 32-bit bus, one master, one slave: region [0x10000000, +0x1000). -/
def socA : SocCfg :=
  { n := 1, regions := [(0x10000000, 0x1000)], kind := .shared, reg := true,
    timeout := some 8, dw := 32, aw := 32 }
/-- One master, one slave: region [0, +0x1000), much smaller than the 4 GiB space. -/
def socW1 : SocCfg := { socA with regions := [(0, 0x1000)] }

/-- A read of byte address 0x2000 (word address 0x800): outside all of the regions above. -/
def xOut : BusIn := { ms := fun _ => { cyc := true, stb := true, adr := 0x800 }, ss := fun _ => {} }
/-- A read of byte address 0x10000004. -/
def xIn : BusIn := { ms := fun _ => { cyc := true, stb := true, adr := 0x4000001 }, ss := fun _ => {} }

/-- Non-vacuity: the non-zero-origin 1×1 bus gets a shared interconnect with decoder; the inside address reaches
    the slave, the outside address does not. -/
example :
    socA.topology = .shared ∧ socA.dec 0 0x4000001 = true ∧ socA.dec 0 0x800 = false ∧
    ((SocBus.out socA (SocBus.init socA) xIn).toS 0).cyc = true ∧
    ((SocBus.out socA (SocBus.init socA) xOut).toS 0).cyc = false := by decide

/-- **Negative witness** (open finding `C06-p2p-partial-region-origin0`): region [0, +0x1000) →
    point-to-point, and the cycle at 0x2000, which the region predicate rejects, is presented to the slave. -/
example :
    socW1.topology = .p2p ∧ socW1.dec 0 0x800 = false ∧
    ((SocBus.out socW1 (SocBus.init socW1) xOut).toS 0).cyc = true := by decide

end SocExamples

/-! ## Address-map glue: what `check_regions_overlap` accepts has pairwise-disjoint decoders

  `SoCBusHandler.add_region` / `alloc_region` admit a region only if `check_regions_overlap` (modelled as computed:
  `checkRegionsOverlap`, both comparisons on `size_pow2`) returns `None`; `do_finalize` then hands one
  `SoCRegion.decoder` per slave to `InterconnectShared`/`Crossbar`.  The theorems below discharge the
  `DisjointDec` hypothesis of the routing theorems for such buses, using C13's interface theorems
  (`LitexProofs/Soc/AcceptedDisjoint.lean`) through `checkRegionsOverlap_none_iff` and
  `regionDec_eq_decoderAccepts`. -/
section GlueThms
open Litex.Soc

/-- **Accepted ⇒ disjoint windows.**  A region list on which `check_regions_overlap` returns `None` has
    pairwise-disjoint decoded (power-of-two) windows among its non-linker regions — for every list, every
    registration order, power-of-two sizes or not. -/
theorem overlap_check_accepts_disjoint_windows (rs : List Region) (h : checkRegionsOverlap false rs = none) :
    rs.Pairwise (fun r0 r1 => r0.linker = false → r1.linker = false → WinDisjoint r0 r1) :=
  accepted_regions_pairwise_disjoint_windows rs ((checkRegionsOverlap_none_iff rs).1 h)

/-- **Reported ⇒ really overlapping** (the check rejects nothing it should accept): a returned pair `(i, k)`
    names two positions `i < k` whose decoded windows share a byte address, and neither is a linker region
    unless `check_linker` was requested. -/
theorem overlap_check_reports_real_pair (cl : Bool) (rs : List Region) (i k : Nat)
    (h : checkRegionsOverlap cl rs = some (i, k)) :
    i < k ∧ ∃ r0 r1, rs[i]? = some r0 ∧ rs[k]? = some r1 ∧
      (cl = true ∨ (r0.linker = false ∧ r1.linker = false)) ∧ ∃ x, r0.InWindow x ∧ r1.InWindow x := by
  obtain ⟨_, hlt, r0, r1, h0, h1, hov⟩ := firstOverlapFrom_some cl rs 0 i k h
  obtain ⟨hl, ha, hb⟩ := (ovPair_true_iff cl r0 r1).mp hov
  -- the larger of the two origins lies in both windows
  have p0 : 0 < r0.p2 := pow2ceil_pos r0.size
  have p1 : 0 < r1.p2 := pow2ceil_pos r1.size
  refine ⟨hlt, r0, r1, by simpa using h0, by simpa using h1, hl, max r0.origin r1.origin, ?_, ?_⟩ <;>
    unfold Region.InWindow <;> omega

/-- FULL STATEMENT (does not hold, see the witnesses below): a region list accepted by `check_regions_overlap`
    gives `DisjointDec` for the decoders `do_finalize` builds.
    Proved under `RegionsDecodable` — no slave region is a linker region (the check skips those), origins aligned
    on `size_pow2` (enforced by `decoder()`), windows of at least one bus word (C13-decoder-subword) — and for
    word addresses that fit the bus (`a < 2^(aw - sh)`, every address an `adr` signal can carry). -/
theorem soc_accepted_disjoint_decoders_partial (c : SocCfg) (rs : List Region) (sh : Nat)
    (hr : c.regions = pairsOf rs) (hdw : c.dw / 8 = 2 ^ sh) (hsh : sh ≤ c.aw)
    (hacc : checkRegionsOverlap false rs = none) (hall : RegionsDecodable c.dw rs) :
    DisjointDec c.m (fun j a => decide (a < 2 ^ (c.aw - sh)) && c.dec j a) := by
  intro a j k hj hk h1 h2
  have hm : c.m = rs.length := by simp [SocCfg.m, hr, pairsOf]
  rw [hm] at hj hk
  simp only [Bool.and_eq_true, decide_eq_true_eq] at h1 h2
  rw [socDec_eq c rs hr j hj (hall _ (List.getElem_mem hj)).2.1] at h1
  rw [socDec_eq c rs hr k hk (hall _ (List.getElem_mem hk)).2.1] at h2
  exact accepted_index_disjoint c.aw c.dw sh rs hdw hsh hacc hall a h1.1 j k hj hk h1.2 h2.2

/-- **One slave per cycle on a bus built from an accepted map** (shared, crossbar or point-to-point, every state,
    every input): two slaves driven by the same master never both see `cyc`.  (`_partial`: `RegionsDecodable`
    and the owner's address within the bus's address range, as above.) -/
theorem soc_route_one_slave_partial (c : SocCfg) (rs : List Region) (sh : Nat)
    (hr : c.regions = pairsOf rs) (hdw : c.dw / 8 = 2 ^ sh) (hsh : sh ≤ c.aw)
    (hacc : checkRegionsOverlap false rs = none) (hall : RegionsDecodable c.dw rs)
    (s : SocState) (hwf : SocBus.WF c s) (x : BusIn) (j k : Nat) (hj : j < c.m) (hk : k < c.m)
    (hown : SocBus.owner s j = SocBus.owner s k)
    (hin : (x.ms (SocBus.owner s j)).adr < 2 ^ (c.aw - sh))
    (h1 : ((SocBus.out c s x).toS j).cyc = true) (h2 : ((SocBus.out c s x).toS k).cyc = true) : j = k := by
  have hd := soc_accepted_disjoint_decoders_partial c rs sh hr hdw hsh hacc hall
  cases s with
  | idle => simp [SocBus.out] at h1
  | p2p =>
    have ht : c.topology = .p2p := hwf.symm
    have hm : c.m = 1 := ((busTopology_p2p_iff _ _ _ _).1 ht).2.1
    omega
  | sh s' =>
    simp only [SocBus.owner] at hin
    simp [SocBus.out, Shared.out, Shared.bus, Shared.sel, SocCfg.sh, ShCfg.busAdr, ShCfg.busWidth] at h1 h2
    exact hd (x.ms s'.grant).adr j k hj hk (by simp [hin, h1.2]) (by simp [hin, h2.2])
  | xb s' =>
    simp only [SocBus.owner] at hin hown
    simp [SocBus.out, Crossbar.out, Crossbar.colReq, Crossbar.sel, SocCfg.xb] at h1 h2
    rw [← hown] at h2
    exact hd (x.ms (Crossbar.grant s' j)).adr j k hj hk (by simp [hin, h1.2]) (by simp [hin, h2.2])

/-- **Buses built through `SoCBusHandler`** (any build script: explicit and auto-allocated origins, IO regions,
    linker regions, any registration order): when every call and `do_finalize` are accepted, the decoders handed to
    `InterconnectShared`/`Crossbar` satisfy `DisjointDec` on the bus's address range.  This discharges the
    `disjoint decoders` hypothesis of `wb_route_one_slave`, `wb_answer_selected`, `wb_one_termination`, `xb_*` for
    every bus the glue can build.  FULL STATEMENT (fails, witnesses above and in C13): without `hgood`.
    `_partial`: no slave sits on a linker region (`check_regions_overlap` skips those), regions are decoded
    (`decode=True`; the scripts cannot say otherwise) and at least one bus word (C13-decoder-subword). -/
theorem glue_history_disjoint_decoders_partial (dw aw sh : Nat) (ops : List GlueOp) (s : BusH Nat)
    (kind : BusKind) (reg : Bool) (timeout : Option Nat)
    (hrun : glueRun { aw := aw, dw := dw } 0 ops = .inr s) (hfin : s.finalize = .ok ()) (hm : s.masters ≠ [])
    (hdw : dw / 8 = 2 ^ sh) (hsh : sh ≤ aw)
    (hgood : ∀ p ∈ s.slaveRegions, p.2.linker = false ∧ p.2.decode = true ∧ dw / 8 ≤ p.2.p2) :
    DisjointDec (socOfBus s kind reg timeout).m
      (fun j a => decide (a < 2 ^ (aw - sh)) && (socOfBus s kind reg timeout).dec j a) := by
  have hi : BusH.Inv s :=
    glueRun_preserves BusH.Inv (fun _ _ _ _ hi ha => BusH.apply_inv hi ha) ops _ 0 s (BusH.inv_init aw dw) hrun
  obtain ⟨haw, hdw'⟩ : s.aw = aw ∧ s.dw = dw :=
    glueRun_preserves (fun t => t.aw = aw ∧ t.dw = dw)
      (fun _ _ _ _ hq ha => ⟨(BusH.apply_widths ha).1.trans hq.1, (BusH.apply_widths ha).2.trans hq.2⟩) ops _ 0 s ⟨rfl, rfl⟩ hrun
  have hr : (socOfBus s kind reg timeout).regions = pairsOf (s.slaveRegions.map (·.2)) := by
    simp [socOfBus, pairsOf, List.map_map, Function.comp_def]
  have hcaw : (socOfBus s kind reg timeout).aw = aw := haw
  have hcdw : (socOfBus s kind reg timeout).dw = dw := hdw'
  intro a j k hj hk h1 h2
  have hmlen : (socOfBus s kind reg timeout).m = s.slaveRegions.length := by simp [SocCfg.m, socOfBus]
  by_cases hp : s.isP2P = true
  · -- point to point: a single slave
    have h1s : s.slaves.length = 1 := by
      unfold BusH.isP2P at hp
      simp only [Bool.and_eq_true, beq_iff_eq] at hp
      exact hp.1.2
    have : s.slaveRegions.length ≤ 1 := by
      unfold BusH.slaveRegions
      exact Nat.le_trans (List.length_filterMap_le _ _) (Nat.le_of_eq h1s)
    omega
  · have hs : s.slaves ≠ [] := by
      intro hnil
      have : s.slaveRegions = [] := by simp [BusH.slaveRegions, hnil]
      rw [hmlen, this] at hj
      simp at hj
    have hal := (BusH.finalize_ok_aligned hfin hm hs (by simpa using hp)).2
    have hall : RegionsDecodable (socOfBus s kind reg timeout).dw (s.slaveRegions.map (·.2)) := by
      intro r hrm
      obtain ⟨p, hpm, rfl⟩ := List.mem_map.1 hrm
      obtain ⟨g1, g2, g3⟩ := hgood p hpm
      exact ⟨g1, g2, hal p hpm, by rw [hcdw]; exact g3⟩
    have := soc_accepted_disjoint_decoders_partial (socOfBus s kind reg timeout) (s.slaveRegions.map (·.2)) sh hr
      (by rw [hcdw]; exact hdw) (by rw [hcaw]; exact hsh) (slaveRegions_accepted hi) hall
    rw [hcaw] at this
    exact this a j k hj hk h1 h2

end GlueThms

section GlueExamples
open Litex.Soc

/-- 12 KiB (not a power of two: decoded on 16 KiB) and a 4 KiB region placed in its rounding gap. -/
def regA : Region := { origin := 0x0, size := 0x3000 }
def regGap : Region := { origin := 0x3000, size := 0x1000 }
def regNext : Region := { origin := 0x4000, size := 0x1000 }

/-- The gap placement is reported in BOTH registration orders (each of the two symmetric comparisons is on
    `size_pow2`; comparing against the declared `size` in either one loses one order), the placement after the window
    is accepted in both. -/
example :
    checkRegionsOverlap false [regA, regGap] = some (0, 1) ∧ checkRegionsOverlap false [regGap, regA] = some (0, 1) ∧
    checkRegionsOverlap false [regA, regNext] = none ∧ checkRegionsOverlap false [regNext, regA] = none := by
  decide +kernel

/-- Why the check matters: if the gap placement reached the bus, a cycle at byte 0x3000 (word 0xc00) would be
    presented to both slaves. -/
example :
    let c : SocCfg := { n := 2, regions := pairsOf [regA, regGap], kind := .shared, reg := false, timeout := none,
                        dw := 32, aw := 32 }
    let x : BusIn := { ms := fun _ => { cyc := true, stb := true, adr := 0xc00 }, ss := fun _ => {} }
    ((SocBus.out c (SocBus.init c) x).toS 0).cyc = true ∧ ((SocBus.out c (SocBus.init c) x).toS 1).cyc = true := by
  decide +kernel

/-- Non-vacuity of `soc_route_one_slave_partial`: an accepted three-region map with a non-power-of-two region; an
    address in the rounding gap reaches slave 0 only, the next window slave 1 only, an unmapped one nobody. -/
example :
    let rs : List Region := [regA, regNext, { origin := 0x80000000, size := 0x600, cached := false }]
    let c : SocCfg := { n := 2, regions := pairsOf rs, kind := .crossbar, reg := false, timeout := none, dw := 32, aw := 32 }
    checkRegionsOverlap false rs = none ∧
    (∀ r ∈ rs, r.linker = false ∧ r.decode = true ∧ r.aligned = true ∧ 32 / 8 ≤ r.p2) ∧
    (List.range 3).map (fun j => c.dec j 0xc00) = [true, false, false] ∧
    (List.range 3).map (fun j => c.dec j 0x1000) = [false, true, false] ∧
    (List.range 3).map (fun j => c.dec j 0x2000) = [false, false, false] := by
  decide +kernel

/-- **Negative witness** for the full statement without "no linker region": `check_regions_overlap` skips every
    pair with a linker region, so a slave on a linker region and a slave on an ordinary region at the same
    addresses are both accepted and both decode word 0. -/
example :
    let rs : List Region := [{ origin := 0, size := 0x1000, linker := true }, { origin := 0, size := 0x1000 }]
    let c : SocCfg := { n := 2, regions := pairsOf rs, kind := .shared, reg := false, timeout := none, dw := 32, aw := 32 }
    let x : BusIn := { ms := fun _ => { cyc := true, stb := true, adr := 0 }, ss := fun _ => {} }
    checkRegionsOverlap false rs = none ∧ checkRegionsOverlap true rs = some (0, 1) ∧
    ((SocBus.out c (SocBus.init c) x).toS 0).cyc = true ∧ ((SocBus.out c (SocBus.init c) x).toS 1).cyc = true := by
  decide +kernel

/-- A whole build script: two masters, a 12 KiB slave at 0, then an auto-allocated (origin=None) 4 KiB slave.  The
    allocator steps over the rounding gap: the second slave lands at 0x4000, not 0x3000.  Explicitly placing
    it at 0x3000 is rejected at that call (position 3). -/
example :
    (glueBuild 32 32 .shared true (some 8)
      [.master, .master, .slave (some 0) 0x3000 true false, .slave none 0x1000 true false]).regions?
      = some [(0, 0x3000), (0x4000, 0x1000)] ∧
    (glueBuild 32 32 .shared true (some 8)
      [.master, .master, .slave (some 0) 0x3000 true false, .slave (some 0x3000) 0x1000 true false]).rejectedAt?
      = some 3 := by
  constructor
  · decide +kernel
  · decide +kernel

/-- Non-vacuity of `glue_history_disjoint_decoders_partial`: the script "two masters, 12 KiB slave at 0, auto-allocated
    4 KiB slave, auto-allocated 6 KiB slave" is accepted, finalizes, meets `hgood`, and yields the regions
    `[0,+0x3000) [0x4000,+0x1000) [0x6000,+0x1800)` (the allocator steps over the rounding gap). -/
example :
    (match glueRun { aw := 32, dw := 32 } 0
        [.master, .master, .slave (some 0) 0x3000 true false, .slave none 0x1000 true false, .slave none 0x1800 true false] with
     | .inr s => (match s.finalize with | .ok _ => true | .error _ => false) && !s.masters.isEmpty &&
         s.slaveRegions.all (fun p => !p.2.linker && p.2.decode && decide (32 / 8 ≤ p.2.p2)) &&
         decide ((socOfBus s .shared true none).regions = [(0, 0x3000), (0x4000, 0x1000), (0x6000, 0x1800)])
     | .inl _ => false) = true := by decide +kernel

end GlueExamples

/-! ## Masters restricted by `add_master(region=…)` (remapper in front of the port) -/
section RemapThms

/-- The bus behind remapped ports is the bus of the routing theorems fed with the remapped addresses: everything
    proved above about `SocBus` (routing, answers, ownership, terminations) holds for `SocRBus` with
    `c.mapIn x` in place of `x`; ports without a remapper are untouched. -/
theorem socr_out_eq (c : SocRCfg) (s : SocState) (x : BusIn) :
    (SocRBus.machine c).out s x = SocBus.out c.soc s (c.mapIn x) ∧
    (SocRBus.machine c).next s x = SocBus.next c.soc s (c.mapIn x) ∧
    (∀ i, (c.remaps[i]? = none ∨ c.remaps[i]? = some none) → (c.mapIn x).ms i = x.ms i) := by
  refine ⟨rfl, rfl, ?_⟩
  intro i h
  simp [SocRCfg.mapIn, portAdr_none c i _ h]

/-- **A restricted master stays inside its region.**  Master `i` added with `region=SoCRegion(origin, 2^k)`
    (origin aligned on the size, region inside the address space, at least one bus word): in every state and for
    every address it drives, a slave that is presented its cycle sees an address whose byte address lies in
    `[origin, origin + 2^k)` and which that slave's own decoder matches. -/
theorem soc_remapped_master_confined (c : SocRCfg) (i origin k : Nat)
    (hr : c.remaps[i]? = some (some (origin, 2 ^ k))) (hk : c.sh ≤ k) (hal : origin % 2 ^ k = 0)
    (hfit : origin + 2 ^ k ≤ 2 ^ c.soc.aw)
    (hcov : c.soc.topology = .p2p → ∀ a, c.soc.dec 0 a = true)
    (s : SocState) (hwf : SocBus.WF c.soc s) (x : BusIn) (hn : 0 < c.soc.n) (j : Nat) (hj : j < c.soc.m)
    (hown : SocBus.owner s j = i) :
    let o := (SocRBus.machine c).out s x
    (o.toS j).cyc = true →
      c.soc.dec j (o.toS j).adr = true ∧
      origin ≤ (o.toS j).adr * 2 ^ c.sh ∧ (o.toS j).adr * 2 ^ c.sh < origin + 2 ^ k := by
  intro o hc
  have hroute := soc_route_partial c.soc hcov s hwf (c.mapIn x) hn j hj
  have hcyc : (o.toS j).cyc = (((c.mapIn x).ms (SocBus.owner s j)).cyc &&
      c.soc.dec j ((c.mapIn x).ms (SocBus.owner s j)).adr) := hroute.1
  have hadr : (o.toS j).adr = ((c.mapIn x).ms (SocBus.owner s j)).adr := hroute.2.2.2.1
  rw [hc] at hcyc
  have hdec := (Bool.and_eq_true _ _ ▸ hcyc.symm).2
  have hport : ((c.mapIn x).ms (SocBus.owner s j)).adr = remapAdr origin (2 ^ k) c.sh c.soc.aw (x.ms i).adr := by
    rw [hown]
    simp [SocRCfg.mapIn, SocRCfg.portAdr, hr]
  rw [hadr]
  refine ⟨hdec, ?_⟩
  rw [hport]
  exact remapAdr_confined origin k c.sh c.soc.aw _ hk hal hfit

end RemapThms

section RemapExamples

/-- Three slaves `[0,+0x3000)` `[0x4000,+0x1000)` `[0x8000,+0x1800)`; master 0 restricted to `[0x4000, +0x1000)`,
    master 1 to the rounding gap `[0x3000, +0x1000)` of slave 0, master 2 unrestricted. -/
def socR : SocRCfg :=
  { soc := { n := 3, regions := [(0, 0x3000), (0x4000, 0x1000), (0x8000, 0x1800)], kind := .shared, reg := false,
             timeout := none, dw := 32, aw := 32 },
    remaps := [some (0x4000, 0x1000), some (0x3000, 0x1000), none] }

/-- Non-vacuity: whatever master 0 drives (here word 0x2001, a byte address in slave 2's region) reaches slave 1 at
    word 0x1001; master 1's 0x2001 lands in slave 0's gap at 0xc01; the unrestricted master 2 reaches slave 2. -/
example :
    let x : BusIn := { ms := fun _ => { cyc := true, stb := true, adr := 0x2001 }, ss := fun _ => {} }
    let seen (g : Nat) := (SocRBus.machine socR).out (.sh { Shared.init socR.soc.sh with grant := g }) x
    (List.range 3).map (fun j => (((seen 0).toS j).cyc, ((seen 0).toS j).adr)) = [(false, 0x1001), (true, 0x1001), (false, 0x1001)] ∧
    (List.range 3).map (fun j => ((seen 1).toS j).cyc) = [true, false, false] ∧ ((seen 1).toS 0).adr = 0xc01 ∧
    (List.range 3).map (fun j => ((seen 2).toS j).cyc) = [false, false, true] ∧ ((seen 2).toS 2).adr = 0x2001 := by
  decide +kernel

end RemapExamples

/-! ## Ports behind `add_adapter`'s addressing conversion (byte-addressed wishbone masters and slaves)

  `SocABus` = C14's `convM2S`/`convS2M` slice assignments (`LitexModel/Export/Adapt.lean`) around the remappers around
  the fabric.  The corollaries compose the routing theorems above with C14's address-preservation lemmas
  (`Export.masterBus_spec`, through `masterAdr_byte`). -/
section AdapterThms
open Litex.Soc

/-- **Routing through the adapters** (every state, every input; master without remapper): slave `j` sees `cyc` iff
    its owner drives `cyc` and slave `j`'s decoder matches the word address the owner's adapter puts on the bus
    (`masterAdr`: the address itself for a word port, C14's `convM2S` slice for a byte port); the slave's own port
    carries that word through its adapter (`slaveAdr`), every other signal is the owner's. -/
theorem soc_adapter_route_partial (c : SocRCfg) (hcov : c.soc.topology = .p2p → ∀ a, c.soc.dec 0 a = true)
    (s : SocState) (hwf : SocBus.WF c.soc s) (x : BusIn) (hn : 0 < c.soc.n) (j : Nat) (hj : j < c.soc.m)
    (hnr : c.remaps[SocBus.owner s j]? = none ∨ c.remaps[SocBus.owner s j]? = some none) :
    let o := (SocABus.machine c).out s x
    let own := x.ms (SocBus.owner s j)
    let w := c.masterAdr (SocBus.owner s j) own.adr
    (o.toS j).cyc = (own.cyc && c.soc.dec j w) ∧ (o.toS j).adr = c.slaveAdr j w ∧
    (o.toS j).stb = own.stb ∧ (o.toS j).we = own.we ∧ (o.toS j).datW = own.datW ∧ (o.toS j).sel = own.sel := by
  intro o own w
  have hroute := soc_route_partial c.soc hcov s hwf (c.mapIn (c.adaptIn x)) hn j hj
  have hms : (c.mapIn (c.adaptIn x)).ms (SocBus.owner s j) = { own with adr := w } := by
    rw [(socr_out_eq c s (c.adaptIn x)).2.2 _ hnr]
    rfl
  rw [hms] at hroute
  obtain ⟨h1, h2, h3, h4, h5, h6, _, _⟩ := hroute
  refine ⟨h1, ?_, h2, h3, h5, h6⟩
  show c.slaveAdr j ((SocBus.out c.soc s (c.mapIn (c.adaptIn x))).toS j).adr = _
  rw [h4]

/-- FULL STATEMENT: on a bus built through `add_master`/`add_slave`, a byte-addressed master's cycle at byte address
    `a` is presented to exactly the slave whose region contains `a`, at the right slave-local address.
    `_partial`: the map's side conditions of `soc_accepted_disjoint_decoders_partial` (`RegionsDecodable`: no linker
    slave region, aligned, at least one bus word), `a < 2^aw`, master without remapper, and `hcov` for the
    point-to-point shortcut (open finding C06-p2p-partial-region-origin0).
    Then: slave `j` sees `cyc` iff the owner drives `cyc` and `a` lies in region `j`'s decoded window; no other slave
    owned by the same master sees it; slave `j`'s port carries the bus word `a / 2^sh` — as the byte address
    `(a / 2^sh)·2^sh` when the slave port is byte-addressed (what `c.slaveAdr j` is there: `slaveAdr_byte`). -/
theorem soc_adapter_exact_partial (c : SocRCfg) (rs : List Region) (sh : Nat)
    (hr : c.soc.regions = pairsOf rs) (hdw : c.soc.dw / 8 = 2 ^ sh) (hsh : sh ≤ c.soc.aw)
    (hacc : checkRegionsOverlap false rs = none) (hall : RegionsDecodable c.soc.dw rs)
    (hcov : c.soc.topology = .p2p → ∀ a, c.soc.dec 0 a = true)
    (s : SocState) (hwf : SocBus.WF c.soc s) (x : BusIn) (hn : 0 < c.soc.n) (j : Nat) (hj : j < rs.length)
    (hnr : c.remaps[SocBus.owner s j]? = none ∨ c.remaps[SocBus.owner s j]? = some none)
    (hb : c.mByte.getD (SocBus.owner s j) false = true)
    (ha : (x.ms (SocBus.owner s j)).adr < 2 ^ c.soc.aw) :
    let o := (SocABus.machine c).out s x
    let own := x.ms (SocBus.owner s j)
    ((o.toS j).cyc = true ↔ own.cyc = true ∧ rs[j].InWindow own.adr) ∧
    (o.toS j).adr = c.slaveAdr j (own.adr / 2 ^ sh) ∧
    (∀ k (hk : k < rs.length), SocBus.owner s k = SocBus.owner s j → (o.toS k).cyc = true → (o.toS j).cyc = true → k = j) := by
  intro o own
  have hm : c.soc.m = rs.length := by simp [SocCfg.m, hr, pairsOf]
  have hcsh : c.sh = sh := by unfold SocRCfg.sh; rw [hdw, Nat.log2_two_pow]
  have hw : c.masterAdr (SocBus.owner s j) own.adr = own.adr / 2 ^ sh := by
    rw [masterAdr_byte c _ _ hb ha (by rw [hcsh]; exact hsh), hcsh]
  have hw' : c.masterAdr (SocBus.owner s j) (x.ms (SocBus.owner s j)).adr = (x.ms (SocBus.owner s j)).adr / 2 ^ sh := hw
  have hwlt : own.adr / 2 ^ sh < 2 ^ (c.soc.aw - sh) := Export.div_lt_pow_sub _ _ _ ha hsh
  obtain ⟨hl, hd, hal, hword⟩ := hall _ (List.getElem_mem hj)
  have hroute := soc_adapter_route_partial c hcov s hwf x hn j (by rw [hm]; exact hj) hnr
  simp only [] at hroute
  rw [hw'] at hroute
  have hdec : c.soc.dec j (own.adr / 2 ^ sh) = true ↔ rs[j].InWindow own.adr := by
    rw [socDec_eq c.soc rs hr j hj hd, decoderAccepts_iff c.soc.aw c.soc.dw sh rs[j] _ hdw hsh hd hal hword hwlt, hdw]
    exact inWindow_word_base rs[j] sh own.adr (by simpa [Region.aligned] using hal) (by rw [← hdw]; exact hword)
  refine ⟨?_, hroute.2.1, ?_⟩
  · rw [hroute.1, Bool.and_eq_true, hdec]
  · intro k hk hown hck hcj
    have hroutek := soc_adapter_route_partial c hcov s hwf x hn k (by rw [hm]; exact hk) (by rw [hown]; exact hnr)
    rw [hown] at hroutek
    simp only [] at hroutek
    rw [hw'] at hroutek
    rw [hroutek.1, Bool.and_eq_true] at hck
    rw [hroute.1, Bool.and_eq_true] at hcj
    have hdk := hck.2
    have hdj := hcj.2
    rw [socDec_eq c.soc rs hr k hk (hall _ (List.getElem_mem hk)).2.1] at hdk
    rw [socDec_eq c.soc rs hr j hj hd] at hdj
    exact accepted_index_disjoint c.soc.aw c.soc.dw sh rs hdw hsh hacc hall _ hwlt k j hk hj hdk hdj

end AdapterThms

section AdapterExamples
open Litex.Soc

/-- 64-bit bus (8 bytes per word, shift 3): byte-addressed master 0, word-addressed master 1; slave 0 `[0,+0x3000)` with
    a word port, slave 1 `[0x4000,+0x1000)` with a byte port. -/
def socB : SocRCfg :=
  { soc := { n := 2, regions := [(0, 0x3000), (0x4000, 0x1000)], kind := .shared, reg := false, timeout := none,
             dw := 64, aw := 32 },
    mByte := [true, false], sByte := [false, true] }

/-- Non-vacuity, and what a shift taken from `address_width//8` (= 2, instead of 3) would break: byte
    address 0x4008 driven by the byte master reaches slave 1 only, whose byte port sees 0x4008; byte 0x1008 reaches slave
    0 at word 0x201.  With shift 2 the bus word of 0x1008 would be 0x402, i.e. byte 0x2010. -/
example :
    let x (a : Nat) : BusIn := { ms := fun _ => { cyc := true, stb := true, adr := a }, ss := fun _ => {} }
    let o (a : Nat) := (SocABus.machine socB).out (SocBus.init socB.soc) (x a)
    (List.range 2).map (fun j => (((o 0x4008).toS j).cyc, ((o 0x4008).toS j).adr)) = [(false, 0x801), (true, 0x4008)] ∧
    (List.range 2).map (fun j => ((o 0x1008).toS j).cyc) = [true, false] ∧ ((o 0x1008).toS 0).adr = 0x201 ∧
    Export.convM2S false true 2 30 0x1008 = 0x402 := by decide +kernel

end AdapterExamples

end Litex.C06
