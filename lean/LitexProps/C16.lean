import LitexProofs.Packet.HeaderClip
import LitexProofs.Packet.Bytes
import LitexProofs.Packet.FifoAll
import LitexProofs.Packet.Fair
import LitexProofs.Packet.Ctor
import LitexProofs.Packet.UnalignedBoundary
import LitexModel.Packet.Num
/-
  INVENTORY of the anchor file litex/soc/interconnect/packet.py (every class / method / code path):

  element                         | model (LitexModel/…)                  | theorems (this file)                          | tie to /repo (harness/props/c16.py)
  --------------------------------+---------------------------------------+-----------------------------------------------+---------------------------------------------
  Status (first/last/ongoing)     | Stream/Status.lean `status`           | used inside arbiter_* / dispatcher_* (§3);    | A+B `packet.Status` jobs of C04 (driver
                                  |                                       | its own laws are C04's                        | drv_c04 "status"); inside Arbiter/Dispatcher here
  Arbiter, n ≥ 2 (RoundRobin +    | Packet/Arbiter.lean `arbiter n`,      | arbiter_atomic, _lossless, _fair,             | A: n = 2,3 (4 thorough) all letters; B: n = 3..9,
    Status per master + Case)     | RoundRobin.lean                       | _request_remembered                           | payload 8..128 bit, monitor (single source, fairness)
  Arbiter, n = 1 (`connect`)      | `arbiterConnect` / `arbiterCtor 1`    | arbiter_atomic_all_ports, _lossless_all_ports,| A "Arbiter(1)/plain connect"
                                  |                                       | arbiter_single_master_wire                    |
  Arbiter, n = 0 (`pass`)         | `arbiterEmpty` / `arbiterCtor 0`      | arbiter_atomic_all_ports                      | A "Arbiter(0)/nothing connected"
  Dispatcher, m ≥ 2 or one_hot    | `dispatcher m oneHot`                 | dispatcher_atomic, dispatcher_one_slave,      | A: m = 1..3 (4,5 thorough) binary + one_hot, all sel
    (Status, sel latch, Case,     |                                       | dispatcher_log_ports                          | values incl. unmatched; B: m = 3..9, monitor
    default: ready = 1)           |                                       |                                               |
  Dispatcher, m = 1, no one_hot   | `dispatcherConnect`/`dispatcherCtor`  | dispatcher_atomic_all_ports,                  | A "Dispatcher(1)/plain connect"
                                  |                                       | dispatcher_single_slave_wire                  |
  Dispatcher, m = 0               | `dispatcherEmpty`                     | dispatcher_no_slave_dead                      | A "Dispatcher(0)…" (binary and one_hot)
  `**kwargs` of connect (omit/keep)| not modelled (pure pass-through to     | —                                             | not exercised (no user in /repo passes them)
                                  | Endpoint.connect, C03's subject)      |                                               |
  HeaderField(byte,offset,width)  | Packet/Header.lean `HField`           | all of §1                                     | C: random tables (bytes, bit offsets, widths)
  Header.encode / decode          | `encode`/`decode` (unbounded signal), | header_roundtrip_partial, _noswap,            | C: `header_tie` (well-formed + overlapping tables),
    incl. table order, slice      | HeaderClip.lean `encodeL`/`decodeL`   | header_roundtrip_len_partial, encode_layout,  | `c16hdr.header_clip_tie` (fields beyond the length,
    clipping at 8·length          | (signal of 8·length bits)             | encode_fits, header_encode_within_length,     | overlaps, random name order) through the real
                                  |                                       | header_overlap_last_writer, _field_roundtrip, | Header on a Netlist; layout/round-trip oracles
                                  |                                       | header_clipped_field_noswap/_swap, _beyond    |
  reverse_bytes (swap_field_bytes)| `revBytes`, `swapField`               | swap_involutive; _fails_odd_width (finding)   | C: `revbytes` call + swapped tables
  Header.get_field (_lsb/_msb,    | HeaderClip.lean `getField`,           | get_field_width_check,                        | C: named tables (lsb/msb pairs, single halves,
    width check, AttributeError)  | `encodeObj`/`decodeObj`               | header_lsb_msb_roundtrip                      | wrong widths, missing attributes) incl. exceptions
  Header.get_layout               | `getLayout` (table order = sorted)    | — (definition)                                | C: compared with sorted (name, width)
  Packetizer: IDLE / HEADER-SEND /| Packet/Packetizer.lean `packetizer c` | packetizer_bytes_partial (aligned, all B, H), | A: dw 8/16 (24/32 thorough), H 1..5 (8 thorough) all
    ALIGNED-DATA-COPY, sr, count  | (parametric in B, H; count wrap,      | packetizer_header_bytes, frame_bytes          | letters incl. garbage on invalid sink; B: test_packet
    header_words == 1 shortcut    | srFrom min(), W = 1 special cases)    |                                               | header dw 8..128, eth/ip-like, random (B,H), monitor
  Packetizer: UNALIGNED-DATA-COPY,| same machine (`ucopy`, `pkUData`,     | packetizer_bytes_unaligned_partial,           | A: dw16 H3/H5 (dw24/32 thorough); B: unaligned random
    sink_d, fsm_from_idle, flush  | `dData`/`dLast`, `fromIdle`)          | _tight_partial (exact boundary),              | (B,H) with monitors inside the proved region, defect
                                  |                                       | packetizer_bubble_condition_exact; findings:  | regions compared without monitor + probes
                                  |                                       | single-beat, bubble (negative witnesses)      |
  Packetizer/Depacketizer, H < B  | same machines (W = 0)                 | negative witness (finding shorter-than-beat)  | A: dw16/H1; probe
  Depacketizer: IDLE / HEADER-    | `depacketizer c` (dpShift,            | depacketizer_bytes_partial (aligned, all      | as Packetizer (A + B + monitor DeframingMonitor)
    RECEIVE / ALIGNED copy, sr    | W = 1 ∧ L = 0 special case)           | inputs, no hypothesis)                        |
  Depacketizer: UNALIGNED copy,   | same machine (`dpShiftLeft`,          | depacketizer_bytes_unaligned_partial,         | A: dw16 H3/H5; B; probe residue-end
    sr_shift_leftover, sink_d     | `dpUData`)                            | _tight_partial; finding residue-end (witness) |
  Packetizer → Depacketizer       | `pkdpk c` = Elem.comp                 | pkt_depkt_roundtrip_partial, _unaligned_      | A: composites of the small grid; B: all B-grid points
    (closed system)               |                                       | partial, _unaligned_tight_partial,            | with RoundTripMonitor
                                  |                                       | deframe_frame_eq                              |
  `error` pass-through            | Packet/Num.lean `errorWire`,          | error_passthrough                             | A: dw8/dw16 both-sided and source-only; B: eth dw32
                                  | `withError` (port wrapper)            |                                               |
  `last_be`                       | — (this version of packet.py has none)| —                                             | —
  PacketFIFO, depths ≥ 2          | Packet/Fifo.lean `packetFifo`,        | packetfifo_atomic, _valid_complete,           | A: depth 2..4 plain/buffered; B: depths 3..64, param
    (plain / buffered)            | `packetFifoBuffered`                  | _buffered_atomic, _capacity                   | depths 1..20, 8..128 bit, monitor PacketFifoMonitor
  PacketFIFO, every depth incl.   | Packet/FifoAll.lean `packetFifoAll`   | packetfifo_atomic_all_depths (full strength), | A: (1), (1,pd0), (1,buffered), (0), (2,pd0), …;
    0 / 1, mixed kinds, param_    | (QKind never/pipe/fifo/bfifo)         | _valid_complete_all_depths,                   | B: depth-1 / param_depth-0 grid; all PacketFIFO jobs
    depth = 0, dummy param        |                                       | packetfifo_depth0_dead, _all_depths_extends,  | except two run against this model;         
                                  |                                       | _buffered_param_depth0_fixed / _prefix_defect | fixed finding: probe + corpus + monitored jobs
  PacketFIFO `param_layout == []` | same machines with param ≡ 0 (a 1-bit | (the theorems above, param = 0)               | A "PacketFIFO(2)/no params", B "(5,buffered)/no params"
    → dummy param                 | `dummy` that is never connected)      |                                               |

  C16 — Packet framing: headers round-trip and packets are never interleaved or torn.

  Models: `LitexModel/Packet/{Header,HeaderClip,Packetizer,Fifo,FifoAll,Arbiter}.lean` (litex/soc/interconnect/packet.py),
  port encodings `Num*.lean`.
  Every hardware theorem quantifies over `ins`, an arbitrary list of per-cycle inputs: all valid/ready
  schedules, all data, garbage on the lines while valid = 0, selector changes at any time.
-/
namespace Litex.C16
open Litex Litex.Packet Litex.Stream Litex.Stream.Elem

/-! ## 1. Header: encode / decode -/

/-- **header_roundtrip** (`_partial`: fields are swapped by `reverse_bytes`, which is an involution only on
    fields of at most 8 bits or a whole number of bytes — hypothesis `hs`).
    For every field table whose fields do not overlap, with values that fit their fields, with and without
    `swap_field_bytes`:  `decode (encode vals) = vals`.
    Full statement (without `hs`) is false, see `header_roundtrip_fails_odd_width`. -/
theorem header_roundtrip_partial (swap : Bool) (fields : List HField) (vals : List Nat)
    (hlen : vals.length = fields.length) (hd : pairwiseDisjoint fields = true)
    (hs : swap = true → ∀ f ∈ fields, f.swappable = true)
    (hv : ∀ p ∈ fields.zip vals, p.2 < 2 ^ p.1.width) :
    decode swap fields (encode swap fields vals) = vals :=
  decode_encode swap fields vals hlen hd hs hv

/-- Without byte swapping the round trip holds for every non-overlapping table (no width restriction). -/
theorem header_roundtrip_noswap (fields : List HField) (vals : List Nat)
    (hlen : vals.length = fields.length) (hd : pairwiseDisjoint fields = true)
    (hv : ∀ p ∈ fields.zip vals, p.2 < 2 ^ p.1.width) :
    decode false fields (encode false fields vals) = vals :=
  decode_encode false fields vals hlen hd (by simp) hv

/-- **encode_layout**: field `i` of a non-overlapping table occupies bits `[8·byte+offset, +width)` of the
    header signal and holds the (swapped) value; nothing else is written there. -/
theorem encode_layout (swap : Bool) (fields : List HField) (vals : List Nat)
    (hlen : vals.length = fields.length) (hd : pairwiseDisjoint fields = true)
    (i : Nat) (hi : i < fields.length) :
    slice (fields[i]).start (fields[i]).width (encode swap fields vals)
      = swapField swap (fields[i]).width (vals[i]'(by omega)) :=
  Litex.Packet.encode_layout swap fields vals hlen hd i hi

/-- A table that fits in `len` bytes encodes into the `8·len`-bit header signal. -/
theorem encode_fits (swap : Bool) (len : Nat) (fields : List HField) (vals : List Nat)
    (hf : fitsIn len fields = true) : encode swap fields vals < 2 ^ (8 * len) := by
  unfold encode
  apply encodeFrom_lt _ _ _ _ (Nat.two_pow_pos _)
  intro p hp
  have := (List.of_mem_zip hp).1
  simp only [fitsIn, List.all_eq_true, decide_eq_true_eq] at hf
  exact hf _ this

/-- Byte swapping whole bytes is big-endian storage: an involution. -/
theorem swap_involutive (w x : Nat) (h : w ≤ 8 ∨ w % 8 = 0) : revBytes w (revBytes w x) = x % 2 ^ w :=
  swapField_swapField true w x fun _ => h

/-- Non-vacuity: the header of `test/test_packet.py` (31 bytes, five fields, swapped) satisfies the hypotheses. -/
example :
    let fields : List HField := [⟨15, 0, 128⟩, ⟨1, 0, 16⟩, ⟨3, 0, 32⟩, ⟨7, 0, 64⟩, ⟨0, 0, 8⟩]
    pairwiseDisjoint fields = true ∧ fitsIn 31 fields = true ∧ (∀ f ∈ fields, f.swappable = true) ∧
    encode true [⟨0, 0, 8⟩, ⟨1, 0, 16⟩] [0xa1, 0xb2c3] = 0xc3b2a1 ∧
    decode true [⟨0, 0, 8⟩, ⟨1, 0, 16⟩] 0xc3b2a1 = [0xa1, 0xb2c3] := by decide

/-- Negative witness (finding C16-header-swap-odd-width): a swapped 12-bit field does not round-trip. -/
theorem header_roundtrip_fails_odd_width :
    decode true [⟨0, 0, 12⟩] (encode true [⟨0, 0, 12⟩] [0xdef]) = [0xfde] := by decide

/-! ### Header with its LENGTH, ill-formed tables, and the `get_field` name convention

  `encodeL len` / `decodeL len` (`LitexModel/Packet/HeaderClip.lean`) are `Header(fields, len, swap).encode/decode`
  on the `8·len`-bit signal, including what Migen's slice clipping does to fields that reach beyond it.
  `Header` itself never checks a table: overlaps and fields beyond the length elaborate silently. -/

/-- **header_roundtrip for ALL well-formed headers** (`_partial` only in the byte-swap width condition `hs`, finding
    C16-header-swap-odd-width): any field list — bytes, bit offsets, widths arbitrary — whose fields do not overlap
    and lie inside the `len`-byte header round-trips through the real signal width. -/
theorem header_roundtrip_len_partial (len : Nat) (swap : Bool) (fields : List HField) (vals : List Nat)
    (hlen : vals.length = fields.length) (hd : pairwiseDisjoint fields = true) (hf : fitsIn len fields = true)
    (hs : swap = true → ∀ f ∈ fields, f.swappable = true)
    (hv : ∀ p ∈ fields.zip vals, p.2 < 2 ^ p.1.width) :
    decodeL len swap fields (encodeL len swap fields vals) = vals :=
  header_roundtrip_len len swap fields vals hlen hd hf hs hv

/-- For tables inside the header the length plays no role. -/
theorem header_len_irrelevant_when_fits (len : Nat) (swap : Bool) (fields : List HField) (vals : List Nat) (sig : Nat)
    (hf : fitsIn len fields = true) :
    encodeL len swap fields vals = encode swap fields vals ∧ decodeL len swap fields sig = decode swap fields sig :=
  ⟨encodeL_eq_encode len swap fields vals hf, decodeL_eq_decode len swap fields sig hf⟩

/-- The header signal never exceeds its `8·len` bits — for EVERY table, well formed or not. -/
theorem header_encode_within_length (len : Nat) (swap : Bool) (fields : List HField) (vals : List Nat) :
    encodeL len swap fields vals < 2 ^ (8 * len) := encodeL_lt len swap fields vals

/-- **Ill-formed, overlap: the last writer wins** (assignments in `sorted(fields)` order).  For every table, every
    header bit `j` covered by field `i` and by no later field carries field `i`'s (swapped) value bit. -/
theorem header_overlap_last_writer (len : Nat) (swap : Bool) (fields : List HField) (vals : List Nat)
    (hlen : vals.length = fields.length) (i : Nat) (hi : i < fields.length) (j : Nat)
    (hc : ((fields[i]).clip (8 * len)).covers j = true)
    (hlater : ∀ k (hk : k < fields.length), i < k → ((fields[k]).clip (8 * len)).covers j = false) :
    (encodeL len swap fields vals).testBit j
      = (swapField swap (fields[i]).width (vals[i]'(by omega))).testBit (j - ((fields[i]).clip (8 * len)).start) := by
  unfold encodeL
  rw [zip_split fields vals hlen i hi]
  apply testBit_encodeFromL_last_writer _ _ _ _ _ _ _ _ hc
  intro p hp
  obtain ⟨k, hk, hik, hpk⟩ := mem_drop_zip fields vals i p hp
  rw [hpk]; exact hlater k hk hik

/-- … hence field `i` round-trips whenever no LATER field overlaps it and it lies inside the header; earlier
    overlapping fields and other fields beyond the length do not matter (full strength, no global hypothesis). -/
theorem header_field_roundtrip (len : Nat) (swap : Bool) (fields : List HField) (vals : List Nat)
    (hlen : vals.length = fields.length) (i : Nat) (hi : i < fields.length)
    (hlater : ∀ k (hk : k < fields.length), i < k → (fields[i]).disjoint (fields[k]) = true)
    (hfit : (fields[i]).stop ≤ 8 * len) (hs : swap = true → (fields[i]).swappable = true)
    (hv : vals[i]'(by omega) < 2 ^ (fields[i]).width) :
    (decodeL len swap fields (encodeL len swap fields vals))[i]'(by simp [decodeL, hi]) = vals[i]'(by omega) := by
  rw [decodeL_encodeL_getElem len swap fields vals hlen i hi
    (fun k hk hik => clip_disjoint _ _ _ (hlater k hk hik))]
  obtain ⟨_, h2⟩ := clip_of_fits (8 * len) (fields[i]) hfit
  rw [h2, Nat.mod_eq_of_lt (swapField_lt _ _ _), swapField_swapField, Nat.mod_eq_of_lt hv]
  exact fun hsw => (swappable_iff _).mp (hs hsw)

/-- Negative witness: an EARLIER field overlapped by a later one does not round-trip (`a = 0xff` reads back `0x0f`). -/
theorem header_overlap_earlier_field_lost :
    decodeL 2 false [⟨0, 0, 8⟩, ⟨0, 4, 8⟩] (encodeL 2 false [⟨0, 0, 8⟩, ⟨0, 4, 8⟩] [0xff, 0]) = [0x0f, 0] := by decide

/-- **Ill-formed, beyond the length.**  Without byte swap a clipped field gives back the low bits that fit … -/
theorem header_clipped_field_noswap (len : Nat) (fields : List HField) (vals : List Nat)
    (hlen : vals.length = fields.length) (i : Nat) (hi : i < fields.length)
    (hlater : ∀ k (hk : k < fields.length), i < k →
      ((fields[i]).clip (8 * len)).disjoint ((fields[k]).clip (8 * len)) = true) :
    (decodeL len false fields (encodeL len false fields vals))[i]'(by simp [decodeL, hi])
      = vals[i]'(by omega) % 2 ^ ((fields[i]).clip (8 * len)).width := by
  rw [decodeL_encodeL_getElem len false fields vals hlen i hi hlater]
  simp only [swapField, Bool.false_eq_true, ↓reduceIte, Nat.mod_mod]
  exact Nat.mod_mod_of_dvd _ (Nat.pow_dvd_pow 2 (clip_width_le _ _))

/-- … with byte swap (whole-byte widths `8a`, `8b` bytes remaining) the TOP `b` bytes come back (encode swaps at
    the full width, decode at the clipped width) … -/
theorem header_clipped_field_swap (len : Nat) (fields : List HField) (vals : List Nat)
    (hlen : vals.length = fields.length) (i : Nat) (hi : i < fields.length)
    (hlater : ∀ k (hk : k < fields.length), i < k →
      ((fields[i]).clip (8 * len)).disjoint ((fields[k]).clip (8 * len)) = true)
    (a b : Nat) (ha : (fields[i]).width = 8 * a) (hb : ((fields[i]).clip (8 * len)).width = 8 * b) :
    (decodeL len true fields (encodeL len true fields vals))[i]'(by simp [decodeL, hi])
      = vals[i]'(by omega) % 2 ^ (8 * a) / 2 ^ (8 * (a - b)) := by
  rw [decodeL_encodeL_getElem len true fields vals hlen i hi hlater]
  have hab : b ≤ a := by have := clip_width_le (8 * len) (fields[i]); omega
  rw [ha, hb]
  simp only [swapField, ↓reduceIte]
  rw [revBytes_whole, revBytes_whole, revB_trunc_revB a b _ hab]

/-- … a field entirely beyond the header is not encoded at all and decodes to 0; for a swapped clipped field whose
    remaining width is not a whole number of bytes there is no clean formula (kernel-checked witness). -/
theorem header_field_beyond (len : Nat) (swap : Bool) (sig : Nat) (f : HField) (h : 8 * len ≤ f.start)
    (l : List (HField × Nat)) (s0 : Nat) :
    decodeFieldL (8 * len) swap sig f = 0 ∧
    encodeFromL (8 * len) swap s0 l = encodeFromL (8 * len) swap s0 (l.filter fun p => decide (p.1.start < 8 * len)) :=
  ⟨decodeFieldL_beyond len swap sig f h, encodeFromL_filter_beyond (8 * len) swap l s0⟩

theorem header_clipped_swap_odd_witness :
    encodeL 2 true [⟨0, 4, 24⟩] [0xabcdef] = 0xdab0 ∧
    decodeL 2 true [⟨0, 4, 24⟩] (encodeL 2 true [⟨0, 4, 24⟩] [0xabcdef]) = [0xabd] := by decide

/-- **`get_field`**: the `Width mismatch` ValueError is raised exactly when the selected part of the record signal
    (`x` itself, `x[:w]` for `x_lsb`, `x[w:2w]` for `x_msb`, Python-clipped to `len(x)`) is not `w` bits wide. -/
theorem get_field_width_check (W : Nat) (k : FKind) (w : Nat) :
    ((∃ e, getField W k w = .error e) ↔ (k.range W w).2 ≠ w) ∧
    (getField W .plain w = if W = w then .ok (0, W) else .error "Width mismatch") ∧
    (getField W .lsb w = .ok (0, w) ↔ w ≤ W) ∧ ((∃ r, getField W .msb w = .ok r) ↔ (2 * w ≤ W ∨ w = 0)) :=
  ⟨getField_error_iff W k w, getField_plain W w, getField_lsb_ok_iff W w, getField_msb_ok_iff W w⟩

/-- A record signal `x` of `2w` bits carried by the pair of header fields `x_lsb` / `x_msb` (any two disjoint
    `w`-bit places inside the header) round-trips as a whole. -/
theorem header_lsb_msb_roundtrip (len : Nat) (swap : Bool) (fl fm : HField) (w x : Nat)
    (hl : fl.width = w) (hm : fm.width = w) (hd : fl.disjoint fm = true)
    (hfl : fl.stop ≤ 8 * len) (hfm : fm.stop ≤ 8 * len)
    (hs : swap = true → fl.swappable = true ∧ fm.swappable = true) (hx : x < 2 ^ (2 * w)) :
    let tbl : List NField := [⟨fl, 0, .lsb⟩, ⟨fm, 0, .msb⟩]
    ∃ sig, encodeObj len swap tbl [(2 * w, x)] = .ok sig ∧ sig < 2 ^ (8 * len) ∧
      decodeObj len swap tbl [2 * w] sig = .ok [x] :=
  lsb_msb_roundtrip len swap fl fm w x hl hm hd hfl hfm hs hx

/-- Non-vacuity: the `test_packet.py` table is well formed at its length 31 and NOT at length 30 (its 128-bit field
    is clipped to 120 bits there); a 32-bit `x = 0xabcdef12` through swapped `x_lsb`/`x_msb` halves in a 4-byte
    header. -/
example :
    let fields : List HField := [⟨15, 0, 128⟩, ⟨1, 0, 16⟩, ⟨3, 0, 32⟩, ⟨7, 0, 64⟩, ⟨0, 0, 8⟩]
    fitsIn 31 fields = true ∧ fitsIn 30 fields = false ∧ ((fields[0]).clip (8 * 30)).width = 120 ∧
    encodeObj 4 true [⟨⟨0, 0, 16⟩, 0, .lsb⟩, ⟨⟨2, 0, 16⟩, 0, .msb⟩] [(32, 0xabcdef12)] = .ok 0xcdab12ef ∧
    decodeObj 4 true [⟨⟨0, 0, 16⟩, 0, .lsb⟩, ⟨⟨2, 0, 16⟩, 0, .msb⟩] [32] 0xcdab12ef = .ok [0xabcdef12] := by
  decide

/-! ## 2. PacketFIFO -/

/-- **packetfifo_atomic**.  For every input sequence (`pd` = payload depth, `qd` = depth of the param FIFO):
    * the delivered beats are a prefix of `annT accepted`: the accepted beats in order, data and last
      unchanged, each carrying the param presented with the *last* beat of its own packet;
    * the stored beats are exactly the accepted, not yet delivered ones, and the param FIFO holds one entry per
      *complete* stored packet (so `source.valid`, which is "param FIFO not empty", is raised only while a
      complete packet is stored, and never on an empty payload FIFO);
    * the occupancies never exceed the depths. -/
theorem packetfifo_atomic (pd qd : Nat) (ins : List (In PBeat)) :
    let e := packetFifo pd qd
    let s := e.runFrom e.init ins
    e.delivered e.init ins <+: annT (e.accepted e.init ins) ∧
    (e.accepted e.init ins).length = (e.delivered e.init ins).length + s.pay.length ∧
    s.par.length = (s.pay.filter (fun x => x.2)).length ∧
    s.pay.length ≤ pd ∧ s.par.length ≤ qd := by
  intro e s
  obtain ⟨h1, h2, h3⟩ := plain_sim pd qd ins
  have h := packetFifoK_atomic .fifo .fifo pd qd ins
  dsimp only at h
  rw [← h1, ← h2, ← h3] at h
  -- what a fwft queue of the generic pair stores is the FIFO content: `(pfaOfPlain s).pay.stored .fifo` is `s.pay`
  exact ⟨h.1, h.2.1, h.2.2.1, h.2.2.2.2⟩

/-- `source.valid` in any reachable state means that the payload FIFO holds a last beat (a complete packet). -/
theorem packetfifo_valid_complete (pd qd : Nat) (ins : List (In PBeat)) (i : In PBeat) :
    let e := packetFifo pd qd
    (e.out (e.runFrom e.init ins) i).valid = true →
      ∃ x ∈ (e.runFrom e.init ins).pay, x.2 = true := by
  intro e hv
  exact exists_last_of_params (packetfifo_atomic pd qd ins).2.2.1 (by simpa [e, Elem.out, packetFifo] using hv)

/-- **packetfifo_atomic** for `buffered=True` (both queues are `SyncFIFOBuffered`: inner FIFO + output register).
    Same statement; "stored" = output register followed by the inner FIFO; additionally the param register is
    never valid without the payload register being valid (no `source.valid` on stale payload data). -/
theorem packetfifo_buffered_atomic (pd qd : Nat) (ins : List (In PBeat)) :
    let e := packetFifoBuffered pd qd
    let s := e.runFrom e.init ins
    e.delivered e.init ins <+: annT (e.accepted e.init ins) ∧
    (e.accepted e.init ins).length = (e.delivered e.init ins).length + (storedPay s).length ∧
    (storedPar s).length = ((storedPay s).filter (fun x => x.2)).length ∧
    (s.parV = true → s.payV = true) ∧
    s.payQ.length ≤ pd ∧ s.parQ.length ≤ qd := by
  intro e s
  obtain ⟨h1, h2, h3⟩ := buffered_sim pd qd ins
  have h := packetFifoK_atomic .bfifo .bfifo pd qd ins
  dsimp only at h
  rw [← h1, ← h2, ← h3] at h
  -- `storedPay s` is `(pfaOfBuffered s).pay.stored .bfifo`, `s.parV` the generic `readable`, `bounded` the inner FIFO bound
  exact ⟨h.1, h.2.1, h.2.2.1, h.2.2.2.1 (Or.inr (Or.inl rfl)), h.2.2.2.2⟩

/-- **packetfifo_capacity** (documented store-and-forward limit, not a violation): once the payload FIFO is
    full without holding a complete packet, nothing is accepted or delivered ever again, whatever the
    environment does — a packet longer than `payload_depth` never completes. -/
theorem packetfifo_capacity (pd qd : Nat) (s : PFState) (hfull : s.pay.length = pd) (hnone : s.par = [])
    (ins : List (In PBeat)) :
    let e := packetFifo pd qd
    e.runFrom s ins = s ∧ e.accepted s ins = [] ∧ e.delivered s ins = [] := by
  exact run_of_stuck _ s (packetFifo_stuck_step pd qd s hfull hnone) ins

/-- Non-vacuity / reachability of the capacity limit: two non-last beats fill `PacketFIFO(2)` for good. -/
example :
    let e := packetFifo 2 3
    let b : Tok PBeat := ⟨⟨7, 1⟩, false, false⟩
    let s := e.runFrom e.init [⟨true, b, true⟩, ⟨true, b, true⟩]
    s.pay.length = 2 ∧ s.par = [] := by decide

/-- Non-vacuity of `packetfifo_atomic`: packets (1,2 | param 9) and (3 | param 5) through `PacketFIFO(2)` with a
    consumer that stalls while the payload FIFO is full exactly at a last beat (the witness of the fixed finding
    C16-packetfifo-param-dup): every beat comes out once, with the param of its own packet's last beat. -/
example :
    let e := packetFifo 2 3
    let t (d p : Nat) (l : Bool) : Tok PBeat := ⟨⟨d, p⟩, false, l⟩
    let ins : List (In PBeat) :=
      [⟨true, t 1 0 false, false⟩, ⟨true, t 2 9 true, false⟩, ⟨true, t 3 5 true, false⟩,
       ⟨true, t 3 5 true, false⟩, ⟨true, t 3 5 true, true⟩, ⟨true, t 3 5 true, true⟩,
       ⟨false, t 0 0 false, true⟩, ⟨false, t 0 0 false, true⟩]
    e.delivered e.init ins = [t 1 9 false, t 2 9 true, t 3 5 true] := by decide

/-! ### Every depth (`packetFifoAll pd qd buffered`)

  `stream.SyncFIFO` builds four different circuits: depth 0 a wire, depth 1 a `PipeValid` register (`buffered`
  ignored), depth ≥ 2 a Migen `SyncFIFO` or `SyncFIFOBuffered`; PacketFIFO combines two of them (payload: `pd`,
  params: `qd = param_depth + 1 ≥ 1`).  `packetFifoAll` models every combination over one generic queue
  (`QSt`: `stored`, `readable`, `dout`, `writable`, `next`), powers of two or not. -/

/-- **packetfifo_atomic for every payload/param depth and both `buffered` values** — full strength, no exclusion
    (the model follows the code after the fix of finding C16-packetfifo-buffered-param-depth0:
    `source.valid = param_fifo.source.valid & payload_fifo.source.valid`).  Same conclusions as
    `packetfifo_atomic`; `stored` = what the queue of that kind holds (register and/or FIFO content), capacities
    0 / 1 / depth / depth+1; `source.valid` only while both queues really show their head. -/
theorem packetfifo_atomic_all_depths (pd qd : Nat) (buffered : Bool) (ins : List (In PBeat)) :
    let e := packetFifoAll pd qd buffered
    let kp := qkind pd buffered
    let kq := qkind qd buffered
    let s := e.runFrom e.init ins
    e.delivered e.init ins <+: annT (e.accepted e.init ins) ∧
    (e.accepted e.init ins).length = (e.delivered e.init ins).length + (s.pay.stored kp).length ∧
    (s.par.stored kq).length = ((s.pay.stored kp).filter (fun x => x.2)).length ∧
    (∀ i, (e.out s i).valid = true → s.par.readable kq = true ∧ s.pay.readable kp = true) ∧
    (s.pay.stored kp).length ≤ QSt.cap kp pd ∧ (s.par.stored kq).length ≤ QSt.cap kq qd := by
  intro e kp kq s
  obtain ⟨h1, h2, h3, _, hb1, hb2⟩ := packetFifoK_atomic kp kq pd qd ins
  refine ⟨h1, h2, h3, fun i hv => ?_, QSt.stored_length_le kp pd _ hb1, QSt.stored_length_le kq qd _ hb2⟩
  have hv' : (s.par.readable kq && s.pay.readable kp) = true := hv
  simpa using hv'

/-- `source.valid` (in any reachable state, every parameterisation) shows the head of the stored payload with the
    head of the stored params, and a complete packet is stored. -/
theorem packetfifo_valid_complete_all_depths (pd qd : Nat) (buffered : Bool) (ins : List (In PBeat))
    (i : In PBeat) :
    let e := packetFifoAll pd qd buffered
    let s := e.runFrom e.init ins
    (e.out s i).valid = true →
      (∃ rest, s.pay.stored (qkind pd buffered) = ((e.out s i).tok.data.data, (e.out s i).tok.last) :: rest) ∧
      (∃ rest, s.par.stored (qkind qd buffered) = (e.out s i).tok.data.param :: rest) ∧
      ∃ x ∈ s.pay.stored (qkind pd buffered), x.2 = true :=
  packetFifoAll_valid_complete pd qd buffered ins i

/-- Outside `buffered ∧ payload_depth ≥ 2 ∧ param_depth = 0` the param queue is never readable before the payload
    queue: there the added `& payload_fifo.source.valid` changes nothing at the ports. -/
theorem packetfifo_fix_neutral_elsewhere (pd qd : Nat) (buffered : Bool)
    (hnd : ¬ (buffered = true ∧ 2 ≤ pd ∧ qd = 1)) (ins : List (In PBeat)) :
    let e := packetFifoAll pd qd buffered
    let s := e.runFrom e.init ins
    s.par.readable (qkind qd buffered) = true → s.pay.readable (qkind pd buffered) = true :=
  packetFifoAll_readable_inv pd qd buffered hnd ins

/-- The witness of the fixed finding on the fixed machine `PacketFIFO(2, param_depth=0, buffered=True)`: the
    single-beat packet `(107 | param 48)` is delivered exactly once; after the first cycle the param register is
    readable, the payload output register not yet, and `source.valid` stays low. -/
theorem packetfifo_buffered_param_depth0_fixed :
    let t (d p : Nat) (l : Bool) : Tok PBeat := ⟨⟨d, p⟩, false, l⟩
    let e := packetFifoAll 2 1 true
    let ins : List (In PBeat) := [⟨true, t 107 48 true, true⟩, ⟨false, t 0 0 false, true⟩,
      ⟨false, t 0 0 false, true⟩, ⟨false, t 0 0 false, true⟩]
    e.accepted e.init ins = [t 107 48 true] ∧ e.delivered e.init ins = [t 107 48 true] := by
  have h := packetFifoAll_fixed_witness
  exact ⟨h.1, h.2.1⟩

/-- Negative witness of the method BEFORE the fix (`packetFifoAllPre`: `source.valid` = param queue readable only):
    the same inputs deliver a beat that was never accepted (`data 0`, `last 0`) first. -/
theorem packetfifo_buffered_param_depth0_prefix_defect :
    let t (d p : Nat) (l : Bool) : Tok PBeat := ⟨⟨d, p⟩, false, l⟩
    let e := packetFifoAllPre 2 1 true
    let ins : List (In PBeat) := [⟨true, t 107 48 true, true⟩, ⟨false, t 0 0 false, true⟩,
      ⟨false, t 0 0 false, true⟩, ⟨false, t 0 0 false, true⟩]
    e.accepted e.init ins = [t 107 48 true] ∧
    e.delivered e.init ins = [t 0 48 false, t 107 48 true] ∧
    ¬ (e.delivered e.init ins <+: annT (e.accepted e.init ins)) := by decide

/-- `payload_depth = 0`: the FIFO is dead from reset — nothing is ever accepted or delivered (the degenerate case of
    `packetfifo_capacity`: no packet fits). -/
theorem packetfifo_depth0_dead (qd : Nat) (buffered : Bool) (ins : List (In PBeat)) :
    let e := packetFifoAll 0 qd buffered
    e.accepted e.init ins = [] ∧ e.delivered e.init ins = [] ∧
      ∀ i, (e.out (e.runFrom e.init ins) i).ready = false ∧ (e.out (e.runFrom e.init ins) i).valid = false :=
  packetFifoAll_depth0_dead qd buffered ins

/-- For depths ≥ 2 `packetFifoAll` and the machines of `packetfifo_atomic` / `packetfifo_buffered_atomic` (which keep
    `source.valid` = param queue non-empty: on their reachable states that implies a non-empty payload queue, so
    they are port-equivalent to the fixed code) accept and deliver the same streams from reset, for every input
    list (state maps `pfaOfPlain` / `pfaOfBuffered`, simulation under the invariant of the generic machine). -/
theorem packetfifo_all_depths_extends (pd qd : Nat) (hp : 2 ≤ pd) (hq : 2 ≤ qd) (ins : List (In PBeat)) :
    (packetFifo pd qd).accepted (packetFifo pd qd).init ins
        = (packetFifoAll pd qd false).accepted (packetFifoAll pd qd false).init ins ∧
    (packetFifo pd qd).delivered (packetFifo pd qd).init ins
        = (packetFifoAll pd qd false).delivered (packetFifoAll pd qd false).init ins ∧
    (packetFifoBuffered pd qd).accepted (packetFifoBuffered pd qd).init ins
        = (packetFifoAll pd qd true).accepted (packetFifoAll pd qd true).init ins ∧
    (packetFifoBuffered pd qd).delivered (packetFifoBuffered pd qd).init ins
        = (packetFifoAll pd qd true).delivered (packetFifoAll pd qd true).init ins := by
  have h1 := packetFifoAll_eq_plain_init pd qd hp hq ins
  have h2 := packetFifoAll_eq_buffered_init pd qd hp hq ins
  exact ⟨h1.1, h1.2, h2.1, h2.2⟩

/-- Non-vacuity: three back-to-back single-beat packets through `PacketFIFO(1)` (payload `PipeValid`: a beat is
    accepted in the cycle the previous one is popped) come out in order with their own params, also with
    `param_depth = 0` (both queues `PipeValid`). -/
example :
    let t (d p : Nat) : Tok PBeat := ⟨⟨d, p⟩, false, true⟩
    let ins : List (In PBeat) := [⟨true, t 1 7, true⟩, ⟨true, t 2 8, true⟩, ⟨true, t 3 9, true⟩,
      ⟨false, t 0 0, true⟩, ⟨false, t 0 0, true⟩]
    (packetFifoAll 1 2 false).delivered (packetFifoAll 1 2 false).init ins = [t 1 7, t 2 8, t 3 9] ∧
    (packetFifoAll 1 1 false).delivered (packetFifoAll 1 1 false).init ins = [t 1 7, t 2 8, t 3 9] ∧
    (packetFifoAll 1 1 true).delivered (packetFifoAll 1 1 true).init ins = [t 1 7, t 2 8, t 3 9] := by decide

/-! ## 3. Arbiter and Dispatcher -/

/-- **arbiter_atomic**: for `n ≥ 2` masters and every input sequence, the beats handed to the slave (each tagged
    with the master it comes from) never interleave packets: once a master's non-last beat has been
    transferred, every beat up to and including its last beat comes from the same master (the grant is frozen
    while `ongoing`), also when that master pauses `valid` in the middle of the packet and other masters
    request. -/
theorem arbiter_atomic (n : Nat) (hn : 2 ≤ n) (ins : List ArbIn) :
    atomicFrom none (arbLog n (arbiter n).init ins) :=
  arbiter_atomic_from n ins _ none ⟨by simp [arbiter]; omega, by simp⟩

/-- No loss, duplication or reordering per master: what master `k` got accepted is exactly the slave's stream
    restricted to `k`'s beats (the beats themselves are forwarded unchanged by construction of `arbXfer`). -/
theorem arbiter_lossless (n : Nat) (hn : 2 ≤ n) (k : Nat) (hk : k < n) (ins : List ArbIn) :
    arbAccepted n k (arbiter n).init ins =
      ((arbLog n (arbiter n).init ins).filter (fun x => x.1 == k)).map (fun x => x.2) :=
  arbiter_accepted_eq n k hk ins _ (by simp [arbiter]; omega)

/-- Non-vacuity: master 0 sends (1, pause, 2 last) while master 1 keeps requesting with a one-beat packet:
    the slave sees 1, 2 from master 0, then master 1's beat. -/
example :
    let b (v : Bool) (d : Nat) (l : Bool) : Beat := ⟨v, d, l⟩
    arbLog 2 (arbiter 2).init
      [⟨[b true 1 false, b true 7 true], true⟩, ⟨[b false 0 true, b true 7 true], true⟩,
       ⟨[b false 0 false, b true 7 true], true⟩, ⟨[b true 2 true, b true 7 true], true⟩,
       ⟨[b false 0 false, b true 7 true], true⟩]
      = [(0, b true 1 false), (0, b true 2 true), (1, b true 7 true)] := by decide

/-- **arbiter_fair** (round-robin bounded wait).  Take any state in which master `k` is waiting: it has
    requested (its `ongoing` register is set — `arbiter_request_sticks`: one cycle with `valid` while not
    granted sets it, and it stays set until `k`'s own last beat is transferred) and another master holds the
    grant.  Then along every run in which `k` is still not granted, every change of the grant moves the
    round-robin pointer strictly closer to `k`:
        (number of grant changes) + dist(final grant, k) ≤ dist(initial grant, k) ≤ n − 1,
    so at most `n − 2` other masters are served before `k`, whatever the other masters and the slave do. -/
theorem arbiter_fair (n : Nat) (hn : 2 ≤ n) (k : Nat) (hk : k < n) (ins : List ArbIn) (s : ArbState)
    (hg : s.grant < n) (hgk : s.grant ≠ k) (hw : s.ongoing.getD k false = true)
    (hng : arbNeverGranted n k s ins) :
    arbChanges n s ins + RoundRobin.dist n ((arbiter n).runFrom s ins).grant k ≤ RoundRobin.dist n s.grant k ∧
    RoundRobin.dist n s.grant k < n :=
  ⟨arbiter_wait_bound n k hk ins s hg hgk hw hng, Nat.mod_lt _ (by omega)⟩

/-- A request made while another master is granted is remembered (`Status.ongoing`). -/
theorem arbiter_request_remembered (n : Nat) (s : ArbState) (i : ArbIn) (k : Nat) (hk : k < n)
    (hgk : s.grant ≠ k) (hv : (i.masters.getD k Beat.idle).valid = true) :
    ((arbiter n).next s i).ongoing.getD k false = true :=
  arbiter_request_sticks n s i k hk (by rw [arbRequest_not_granted s i k hgk, hv]; rfl)

/-- Non-vacuity: three masters, master 2 waits while master 0 finishes and master 1 is served (one grant change,
    distance 2 → 1), then it gets the grant. -/
example :
    let b (v : Bool) (l : Bool) : Beat := ⟨v, 0, l⟩
    let i : ArbIn := ⟨[b true true, b true true, b true true], true⟩
    let s1 := (arbiter 3).next (arbiter 3).init i
    s1.grant = 1 ∧ s1.ongoing.getD 2 false = true ∧ arbNeverGranted 3 2 (arbiter 3).init [i] ∧
    arbChanges 3 (arbiter 3).init [i] = 1 ∧ ((arbiter 3).runFrom s1 [i]).grant = 2 := by
  refine ⟨by decide, by decide, ⟨by decide, trivial⟩, by decide, by decide⟩

/-- **dispatcher_atomic**: for every input sequence, the destination of a packet is the slave addressed by the
    `sel` input in the cycle in which its first beat is transferred (no slave if `sel` addresses none: the
    packet is drained), and every further beat up to `last` goes to that same destination whatever `sel` does
    in the meantime (the Dispatcher latches `sel` while `status.first`).
    (This is the machine the constructor builds for ≥ 2 slaves or `one_hot`; for a single slave without `one_hot`
    it builds a plain connection, modelled as `dispatcherConnect`, where there is nothing to tear.) -/
theorem dispatcher_atomic (m : Nat) (oneHot : Bool) (ins : List DispIn) :
    routedFrom m oneHot none (dispLog m oneHot (dispatcher m oneHot).init ins) :=
  dispatcher_atomic_from m oneHot ins _ none (by simp [dispInv, dispatcher])

/-- A beat is presented to at most one slave, unchanged: slave `k` sees the master's beat iff its `Case` key
    equals the effective selector, and two different slaves never have the same key. -/
theorem dispatcher_one_slave (m : Nat) (oneHot : Bool) (s : DispState) (i : DispIn) (k1 k2 : Nat)
    (h1 : k1 < m) (h2 : k2 < m)
    (v1 : (((dispatcher m oneHot).out s i).slaves.getD k1 Beat.idle).valid = true)
    (v2 : (((dispatcher m oneHot).out s i).slaves.getD k2 Beat.idle).valid = true) :
    k1 = k2 ∧ ((dispatcher m oneHot).out s i).slaves.getD k1 Beat.idle = i.master := by
  have e : ∀ k, k < m → ((dispatcher m oneHot).out s i).slaves.getD k Beat.idle =
      if dispKey oneHot k == dispSel s i then i.master else Beat.idle := by
    intro k hk; simp [dispatcher, List.getD, hk]
  rw [e k1 h1] at v1 ⊢
  rw [e k2 h2] at v2
  by_cases c1 : (dispKey oneHot k1 == dispSel s i) = true
  · by_cases c2 : (dispKey oneHot k2 == dispSel s i) = true
    · refine ⟨?_, by simp [c1]⟩
      have hk : dispKey oneHot k1 = dispKey oneHot k2 := by
        rw [beq_iff_eq] at c1 c2; rw [c1, c2]
      unfold dispKey at hk
      cases oneHot with
      | false => simpa using hk
      | true => exact Nat.pow_right_injective (Nat.le_refl 2) (by simpa using hk)
    · simp [c2, Beat.idle] at v2
  · simp [c1, Beat.idle] at v1

/-- Non-vacuity: a two-beat packet started towards slave 1 stays there although `sel` flips to 0 before the
    second beat; the next packet (sel = 5 addresses nobody) is drained. -/
example :
    let b (d : Nat) (l : Bool) : Beat := ⟨true, d, l⟩
    dispLog 2 false (dispatcher 2 false).init
      [⟨b 1 false, 1, [true, true]⟩, ⟨b 2 true, 0, [false, true]⟩, ⟨b 3 true, 5, [false, false]⟩]
      = [(some 1, 1, b 1 false), (some 1, 0, b 2 true), (none, 5, b 3 true)] := by decide

/-! ### Every port count (what the constructors build: `arbiterCtor n`, `dispatcherCtor m oneHot`)

  `Arbiter` / `Dispatcher` build the round-robin / selector logic only for ≥ 2 ports (Dispatcher: or `one_hot`);
  with one port they are a plain `Endpoint.connect`, with none nothing is connected.  The logs below are read
  off the ports of whichever machine is built (`arbLogM`: slave beat tagged with the `grant` output;
  `dispLogM`: the slave whose port shows `valid`), so one statement covers all variants. -/

/-- **arbiter_atomic, all port counts** (`n = 0, 1, 2, …`): the beats handed to the slave never interleave
    packets of different masters. -/
theorem arbiter_atomic_all_ports (n : Nat) (ins : List ArbIn) :
    atomicFrom none (arbLogM (arbiterCtor n) (arbiterCtor n).init ins) := by
  match n with
  | 0 => simp only [arbiterCtor]; rw [arbLogM_empty]; trivial
  | 1 =>
    simp only [arbiterCtor]
    rw [arbLogM_connect]
    refine atomicFrom_all_zero _ ?_ none (by simp)
    intro x hx
    simp only [List.mem_map] at hx
    obtain ⟨i, _, rfl⟩ := hx
    rfl
  | n + 2 =>
    simp only [arbiterCtor]
    rw [arbLogM_arbiter]
    exact arbiter_atomic_from (n + 2) ins _ none ⟨by simp [arbiter], by simp⟩

/-- **arbiter_lossless, all port counts**: what master `k` got accepted is the slave's stream restricted to the
    beats granted to `k`. -/
theorem arbiter_lossless_all_ports (n k : Nat) (hk : k < n) (ins : List ArbIn) :
    arbAcceptedM (arbiterCtor n) k (arbiterCtor n).init ins =
      ((arbLogM (arbiterCtor n) (arbiterCtor n).init ins).filter (fun x => x.1 == k)).map (fun x => x.2) := by
  match n with
  | 0 => omega
  | 1 =>
    have hk0 : k = 0 := by omega
    subst hk0
    simp only [arbiterCtor]
    rw [arbLogM_connect]
    generalize arbiterConnect.init = s
    induction ins generalizing s with
    | nil => rfl
    | cons i is ih =>
      simp only [arbAcceptedM, List.filter_cons]
      rw [ih]
      have e : (arbiterConnect.out s i).readys.getD 0 false = i.ready := rfl
      rw [e]
      cases ((i.masters.getD 0 Beat.idle).valid && i.ready) <;> simp
  | n + 2 =>
    simp only [arbiterCtor]
    rw [arbLogM_arbiter, arbAcceptedM_arbiter]
    exact arbiter_accepted_eq (n + 2) k hk ins _ (by simp [arbiter])

/-- For ≥ 2 masters the port-level log is the log of `arbiter_atomic` (the `grant` output is the grant register). -/
theorem arbiter_log_ports (n : Nat) (ins : List ArbIn) :
    arbLogM (arbiterCtor (n + 2)) (arbiterCtor (n + 2)).init ins = arbLog (n + 2) (arbiter (n + 2)).init ins :=
  arbLogM_arbiter (n + 2) ins _

/-- One master: the slave port is the master port, `grant` is constant 0. -/
theorem arbiter_single_master_wire (s : ArbState) (i : ArbIn) :
    ((arbiterCtor 1).out s i).slave = i.masters.getD 0 Beat.idle ∧
    ((arbiterCtor 1).out s i).readys = [i.ready] ∧ ((arbiterCtor 1).out s i).grant = 0 :=
  ⟨rfl, rfl, rfl⟩

/-- Non-vacuity: a single master's two-beat packet with a stalled cycle arrives complete, tagged 0. -/
example :
    let b (v : Bool) (d : Nat) (l : Bool) : Beat := ⟨v, d, l⟩
    arbLogM (arbiterCtor 1) (arbiterCtor 1).init
      [⟨[b true 1 false], true⟩, ⟨[b true 2 true], false⟩, ⟨[b true 2 true], true⟩, ⟨[b false 0 false], true⟩]
      = [(0, b true 1 false), (0, b true 2 true)] := by decide

/-- **dispatcher_atomic, all port counts, binary and one-hot selector**: the destination of a packet is the slave
    `ctorTarget m oneHot sel` addressed in the cycle of its first transferred beat (selector logic: the slave whose
    key equals `sel`, nobody = drained; single slave without `one_hot`: that slave whatever `sel` says) and every
    further beat up to `last` goes to the same destination.  The destination is read off the slave ports
    (`dispDest`: the slave that is shown `valid`). -/
theorem dispatcher_atomic_all_ports (m : Nat) (oneHot : Bool) (ins : List DispIn) :
    routedFromG (ctorTarget m oneHot) none
      (dispLogM (dispatcherCtor m oneHot) (dispatcherCtor m oneHot).init ins) := by
  have gen : routedFromG (dispTarget m oneHot) none
      (dispLogM (dispatcher m oneHot) (dispatcher m oneHot).init ins) := by
    rw [dispLogM_dispatcher, routedFromG_dispTarget]
    exact dispatcher_atomic_from m oneHot ins _ none (by simp [dispInv, dispatcher])
  match m, oneHot with
  | 0, oh =>
    have : dispatcherCtor 0 oh = dispatcherEmpty := by cases oh <;> rfl
    rw [this, dispLogM_empty]; trivial
  | 1, false =>
    show routedFromG (fun _ => some 0) none (dispLogM dispatcherConnect dispatcherConnect.init ins)
    exact routedFromG_const (some 0) _ (dispLogM_connect ins _) none (by simp)
  | 1, true => exact gen
  | m + 2, oh =>
    have h1 : dispatcherCtor (m + 2) oh = dispatcher (m + 2) oh := by cases oh <;> rfl
    have h2 : ctorTarget (m + 2) oh = dispTarget (m + 2) oh := by cases oh <;> rfl
    rw [h1, h2]; exact gen

/-- For the selector logic the port-level log is the log of `dispatcher_atomic`: the slave that sees `valid` is
    the one whose key equals the effective selector. -/
theorem dispatcher_log_ports (m : Nat) (oneHot : Bool) (ins : List DispIn) :
    dispLogM (dispatcher m oneHot) (dispatcher m oneHot).init ins =
      dispLog m oneHot (dispatcher m oneHot).init ins :=
  dispLogM_dispatcher m oneHot ins _

/-- `Dispatcher(master, [])`: `master.ready` is never raised, nothing is ever transferred (the code leaves the
    master undriven — a packet offered to it waits forever; not a tearing, but worth knowing). -/
theorem dispatcher_no_slave_dead (oneHot : Bool) (ins : List DispIn) (s : DispState) (i : DispIn) :
    ((dispatcherCtor 0 oneHot).out s i).ready = false ∧
    dispLogM (dispatcherCtor 0 oneHot) (dispatcherCtor 0 oneHot).init ins = [] := by
  have : dispatcherCtor 0 oneHot = dispatcherEmpty := by cases oneHot <;> rfl
  rw [this, dispLogM_empty]; exact ⟨rfl, rfl⟩

/-- One slave without `one_hot`: the slave port is the master port. -/
theorem dispatcher_single_slave_wire (s : DispState) (i : DispIn) :
    ((dispatcherCtor 1 false).out s i).slaves = [i.master] ∧
    ((dispatcherCtor 1 false).out s i).ready = i.readys.getD 0 false :=
  ⟨rfl, rfl⟩

/-- Non-vacuity: the single slave gets both beats although `sel` says 1 and then 0; with `one_hot` and one slave the
    selector logic is built: `sel = 1` addresses slave 0, `sel = 0` nobody (the packet is drained). -/
example :
    let b (d : Nat) (l : Bool) : Beat := ⟨true, d, l⟩
    dispLogM (dispatcherCtor 1 false) (dispatcherCtor 1 false).init
      [⟨b 1 false, 1, [true]⟩, ⟨b 2 true, 0, [true]⟩] = [(some 0, 1, b 1 false), (some 0, 0, b 2 true)] ∧
    dispLogM (dispatcherCtor 1 true) (dispatcherCtor 1 true).init
      [⟨b 1 false, 1, [true]⟩, ⟨b 2 true, 0, [true]⟩, ⟨b 3 true, 0, [false]⟩]
      = [(some 0, 1, b 1 false), (some 0, 0, b 2 true), (none, 0, b 3 true)] := by decide

/-! ## 4. Packetizer / Depacketizer

  `c : PkCfg` = (`B` bytes per beat, `H` header bytes).  `AlignedCfg c`: `B > 0`, `H > 0`, `H % B = 0`
  (the header is a whole number `W = H / B ≥ 1` of beats) — for **every** such data width and header length.

  `Compliant e s none ins`: the producer obeys the stream contract (a beat offered and not accepted is offered
  again unchanged); nothing is assumed about `source.ready`, about the lines while `valid = 0`, or about
  idle cycles between beats or packets.

  Full statements (all `c` with `B, H > 0`) are false on the current tree — findings
  C16-header-shorter-than-beat (`H < B`), C16-packetizer-unaligned-single-beat,
  C16-packetizer-unaligned-bubble, C16-depacketizer-residue-end — see the negative witnesses below.  Headers that
  are not a multiple of the data width (`UnalignedCfg c`: `H % B ≠ 0`, `H ≥ B`) are proved separately further
  down, under hypotheses that exclude exactly those findings. -/

/-- **packetizer_bytes** (`_partial`: aligned header).  For every contract-abiding input sequence the beats
    delivered so far are exactly `frame accepted` — per packet the `W` header words of the header presented with
    the packet's first beat (`hdrWord k` = bits `[k·dw, (k+1)·dw)` of the header signal, i.e. header bytes
    `k·B … k·B+B-1`, lane 0 first), then the payload beats unchanged with `last` on the final one — followed, if
    a first beat is on offer and not yet accepted, by a prefix of that packet's header words. -/
theorem packetizer_bytes_partial (c : PkCfg) (hc : AlignedCfg c) (ins : List (In HBeat))
    (hcomp : Compliant (packetizer c) (packetizer c).init none ins) :
    let e := packetizer c
    let a := e.accepted e.init ins
    let d := e.delivered e.init ins
    d = frame c a ∨ (endSt true a = true ∧ ∃ t k, pendRun e e.init none ins = some t ∧ k ≤ c.W ∧
      d = frame c a ++ (hdrWords c (hdrOf c t)).take k) := by
  intro e a d
  have h := rel_run_compliant e (pkRel c) (packetizer_step c hc) ins e.init none [] [] (pkRel_init c) hcomp
  simp only [List.nil_append] at h
  exact pkRel_shape c _ _ _ _ h

/-- **depacketizer_bytes** (`_partial`: aligned header).  For *every* input sequence (no contract needed) the
    delivered beats are `deframe accepted`: the first `W` beats of a packet are collected as the header
    (beat `k` at bits `[k·dw, (k+1)·dw)`), every following beat up to `last` is delivered unchanged together
    with that header — the same header on every beat of the packet (stable from first payload beat to last). -/
theorem depacketizer_bytes_partial (c : PkCfg) (hc : AlignedCfg c) (ins : List (In Nat)) :
    let e := depacketizer c
    e.delivered e.init ins = deframe c (e.accepted e.init ins) := by
  intro e
  have h := rel_run_init e (dpRel c) (dpRel_init c hc) (depacketizer_step c hc) ins
  exact h.1

/-- **pkt_depkt_roundtrip** (`_partial`: aligned header).  Packetizer → Depacketizer delivers, for every
    contract-abiding input sequence and at every moment, exactly the accepted beats (payload and `last`
    unchanged, payload length ≥ 1 beat, back-to-back packets included), each carrying the header signal
    presented with the first beat of its packet.  With `header_roundtrip_partial` this gives back the header fields. -/
theorem pkt_depkt_roundtrip_partial (c : PkCfg) (hc : AlignedCfg c) (ins : List (In HBeat))
    (hcomp : Compliant (pkdpk c) (pkdpk c).init none ins) :
    (pkdpk c).delivered (pkdpk c).init ins = annot c ((pkdpk c).accepted (pkdpk c).init ins) := by
  have h := rel_run_compliant (pkdpk c) (rtRel c) (pkdpk_step c hc) ins (pkdpk c).init none [] []
    ⟨[], pkRel_init c, dpRel_init c hc⟩ hcomp
  simp only [List.nil_append] at h
  obtain ⟨mid, h1, h2⟩ := h
  rw [h2.1]
  rcases pkRel_shape c _ _ _ _ h1 with hm | ⟨hend, t, k, _, hk, hm⟩
  · rw [hm]; exact deframe_frame c hc _
  · rw [hm]
    exact deframe_frame_ahead c hc _ _ hend (by simp [hdrWords])

/-- Non-vacuity (dw = 8, 2-byte header `a1 b2`): a contract-abiding producer, a consumer that stalls during the
    header; the delivered stream is header bytes, then the payload with `last` at the end; through the
    Depacketizer every payload beat comes back with header `0xb2a1`. -/
example :
    let c : PkCfg := ⟨1, 2⟩
    let i (d : Nat) (l rdy : Bool) : In HBeat := ⟨true, ⟨⟨d, 0xb2a1⟩, false, l⟩, rdy⟩
    let ins := [i 0x11 false true, i 0x11 false false, i 0x11 false true, i 0x11 false true, i 0x22 true true]
    AlignedCfg c ∧ Compliant (packetizer c) (packetizer c).init none ins ∧
    (packetizer c).delivered (packetizer c).init ins =
      [⟨0xa1, false, false⟩, ⟨0xb2, false, false⟩, ⟨0x11, false, false⟩, ⟨0x22, false, true⟩] ∧
    Compliant (pkdpk c) (pkdpk c).init none ins ∧
    (pkdpk c).delivered (pkdpk c).init ins =
      [⟨⟨0x11, 0xb2a1⟩, false, false⟩, ⟨⟨0x11, 0xb2a1⟩, false, false⟩, ⟨⟨0x22, 0xb2a1⟩, false, true⟩] := by
  refine ⟨⟨by decide, by decide, by decide⟩, compliant_of_B _ _ _ _ (by decide), by decide,
    compliant_of_B _ _ _ _ (by decide), by decide⟩

/-- Negative witness, finding C16-packetizer-unaligned-single-beat (dw = 16, 3-byte header `a1 b2 c3`): a
    single-beat packet `0x2211` is emitted as `b2a1, 11c3+last` again and again and is never accepted (the fix of
    C04-packetizer-flush-padding-unstable zeroes the padding lanes of genuine flush beats only, not of the first copy
    beat). -/
example :
    let c : PkCfg := ⟨2, 3⟩
    let ins : List (In HBeat) := List.replicate 4 ⟨true, ⟨⟨0x2211, 0xc3b2a1⟩, false, true⟩, true⟩
    (packetizer c).delivered (packetizer c).init ins =
      [⟨0xb2a1, false, false⟩, ⟨0x11c3, false, true⟩, ⟨0xb2a1, false, false⟩, ⟨0x11c3, false, true⟩] ∧
    (packetizer c).accepted (packetizer c).init ins = [] := by decide

/-- Negative witness, finding C16-packetizer-unaligned-bubble: one cycle with `valid = 0` (lines showing
    `0x9999`, `last = 1`) inside the packet `2211 4433 6655`: the third delivered beat carries the bubble's byte
    and `last`; the rest of the packet is sent as a new packet. -/
example :
    let c : PkCfg := ⟨2, 3⟩
    let i (v : Bool) (d : Nat) (l : Bool) : In HBeat := ⟨v, ⟨⟨d, 0xc3b2a1⟩, false, l⟩, true⟩
    (packetizer c).delivered (packetizer c).init
      [i true 0x2211 false, i true 0x2211 false, i false 0x9999 true, i true 0x4433 false, i true 0x6655 true,
       i false 0 false] =
      [⟨0xb2a1, false, false⟩, ⟨0x11c3, false, false⟩, ⟨0x0099, false, true⟩, ⟨0xb2a1, false, false⟩,
       ⟨0x00c3, false, true⟩] := by decide

/-- Negative witness, finding C16-header-shorter-than-beat (dw = 16, 1-byte header): both FSMs stay in their
    header state. -/
example :
    let c : PkCfg := ⟨2, 1⟩
    ((packetizer c).runFrom (packetizer c).init
        (List.replicate 5 ⟨true, ⟨⟨0x2211, 0xa1⟩, false, true⟩, true⟩)).st = .hdr ∧
    ((depacketizer c).runFrom (depacketizer c).init
        (List.replicate 5 ⟨true, ⟨0x2211, false, true⟩, true⟩)).st = .hdr := by decide

/-- Negative witness, finding C16-depacketizer-residue-end (dw = 16, 3-byte header): packet `b2a1, 11c3+last`
    (header `a1 b2 c3` + one payload byte) followed by packet `e2d1, 21f3, 4332, 0044+last` (header `d1 e2 f3`):
    the second packet is delivered with header `0x3221f3` and one beat short. -/
example :
    let c : PkCfg := ⟨2, 3⟩
    let i (d : Nat) (l : Bool) : In Nat := ⟨true, ⟨d, false, l⟩, true⟩
    (depacketizer c).delivered (depacketizer c).init
      [i 0xb2a1 false, i 0x11c3 true, i 0xe2d1 false, i 0x21f3 false, i 0x4332 false, i 0x0044 true] =
      [⟨⟨0xd111, 0xc3b2a1⟩, false, true⟩, ⟨⟨0x4443, 0x3221f3⟩, false, true⟩] := by decide

/-- **packetizer_bytes, header not a multiple of the data width** (`_partial`).
    `UnalignedCfg c`: `H % B = L ≠ 0` and `H ≥ B` (at least one whole header word) — every such data width and
    header length.  `UOk` (the hypotheses that exclude the three findings above, cycle by cycle): (1) the
    producer obeys the stream contract, (2) while it pauses *inside* a packet it keeps its data/last lines
    unchanged (excludes C16-packetizer-unaligned-bubble), (3) the first beat of a packet does not carry `last`
    (excludes C16-packetizer-unaligned-single-beat).  Nothing is assumed about `source.ready`.

    Then the delivered stream — with the `B − L` padding bytes of every `last` beat masked (`maskPad`; they show
    whatever the sink lines carry) — is `frameU accepted`: per packet the `W` header words, then the beat
    `header residue (L bytes) ++ low B−L bytes of payload beat 0`, then for every further payload beat `j` the beat
    `top L bytes of beat j−1 ++ low B−L bytes of beat j`, then the flush beat `top L bytes of the last beat` with
    `last` — i.e. byte for byte `header ++ payload ++ padding`; possibly followed by header words running ahead
    of a first beat on offer, or still missing the flush beat of the packet just accepted. -/
theorem packetizer_bytes_unaligned_partial (c : PkCfg) (hc : UnalignedCfg c) (ins : List (In HBeat))
    (hok : UOk (packetizer c) (packetizer c).init none ins) :
    let e := packetizer c
    let a := e.accepted e.init ins
    let d := e.delivered e.init ins
    d.map (maskPad c) = frameU c a ∨
    (∃ v k, uenvRun e e.init none ins = some v ∧ v.pend = true ∧ k ≤ c.W ∧
      d.map (maskPad c) = frameU c a ++ (hdrWords c (hdrOf c v.lines)).take k) ∨
    (∃ x, d.map (maskPad c) ++ [flushBeat c x] = frameU c a) := by
  intro e a d
  obtain ⟨hok2, hrun⟩ := uok2_of_uok c e ins e.init none envGood_none hok
  rcases packetizer_bytes_unaligned_tight c hc ins hok2 with h | ⟨w, k, hw, hp, hk, h⟩ | h
  · exact Or.inl h
  · -- the two environment records show the same pending lines
    exact Or.inr (Or.inl ⟨w.forget, k, hrun.trans (congrArg _ hw), hp, hk, h⟩)
  · exact Or.inr (Or.inr h)

/-- Non-vacuity (dw = 16, 3-byte header `a1 b2 c3`, the configuration of the negative witnesses): the two-beat
    packet `2211 4433` with a stalling consumer satisfies `UOk` and comes out as
    `a1 b2 | c3 11 | 22 33 | 44 pad`, `last` on the flush beat. -/
example :
    let c : PkCfg := ⟨2, 3⟩
    let i (v : Bool) (d : Nat) (l rdy : Bool) : In HBeat := ⟨v, ⟨⟨d, 0xc3b2a1⟩, false, l⟩, rdy⟩
    let ins := [i true 0x2211 false true, i true 0x2211 false false, i true 0x2211 false true,
                i false 0x2211 false true, i true 0x4433 true true, i false 0x4433 true true]
    UnalignedCfg c ∧ UOk (packetizer c) (packetizer c).init none ins ∧
    ((packetizer c).delivered (packetizer c).init ins).map (maskPad c) =
      [⟨0xb2a1, false, false⟩, ⟨0x11c3, false, false⟩, ⟨0x3322, false, false⟩, ⟨0x44, false, true⟩] ∧
    frameU c ((packetizer c).accepted (packetizer c).init ins) =
      [⟨0xb2a1, false, false⟩, ⟨0x11c3, false, false⟩, ⟨0x3322, false, false⟩, ⟨0x44, false, true⟩] := by
  refine ⟨⟨by decide, by decide, by decide⟩, uok_of_B _ _ _ _ (by decide), by decide, by decide⟩

/-- **depacketizer_bytes, header not a multiple of the data width** (`_partial`).  For every input sequence (no
    contract needed) such that no accepted header beat and no residue beat carries `last` — every packet has at
    least `W + 2` beats; this excludes finding C16-depacketizer-residue-end — the delivered beats are
    `deframeU accepted`: the header is the first `H` bytes of the packet (the `W` header beats and the low `L`
    bytes of the next one), every following whole beat of payload (`top B−L bytes of beat j ++ low L bytes of
    beat j+1`) is delivered with that header, `last` with the packet's last beat; the `B − L` trailing bytes of
    the last beat (the Packetizer's padding) are dropped. -/
theorem depacketizer_bytes_unaligned_partial (c : PkCfg) (hc : UnalignedCfg c) (ins : List (In Nat))
    (hwf : udWellFormed c (.hdr 0 0) ((depacketizer c).accepted (depacketizer c).init ins)) :
    (depacketizer c).delivered (depacketizer c).init ins =
      deframeU c ((depacketizer c).accepted (depacketizer c).init ins) :=
  depacketizer_bytes_unaligned_tight c hc ins (udWellFormed2_of_udWellFormed c _ _ hwf)

/-- **pkt_depkt_roundtrip, header not a multiple of the data width** (`_partial`, hypotheses `UOk` as for
    `packetizer_bytes_unaligned_partial`).  Packetizer → Depacketizer delivers exactly the accepted beats, payload
    and `last` unchanged, each with the header presented with the first beat of its packet — except that the most
    recently accepted beat may still be in flight (half of it sits in `sink_d`): `delivered ++ tail = annot accepted`
    with `tail` of length at most 1. -/
theorem pkt_depkt_roundtrip_unaligned_partial (c : PkCfg) (hc : UnalignedCfg c) (ins : List (In HBeat))
    (hok : UOk (pkdpk c) (pkdpk c).init none ins) :
    ∃ tail, (pkdpk c).delivered (pkdpk c).init ins ++ tail = annot c ((pkdpk c).accepted (pkdpk c).init ins) ∧
      tail.length ≤ 1 :=
  pkt_depkt_roundtrip_unaligned_tight c hc ins (uok2_of_uok_init c _ ins hok)

/-- Non-vacuity of the unaligned round trip (dw = 16, 3-byte header): the packet `2211 4433 6655` comes back
    complete, every beat with header `0xc3b2a1`. -/
example :
    let c : PkCfg := ⟨2, 3⟩
    let i (v : Bool) (d : Nat) (l rdy : Bool) : In HBeat := ⟨v, ⟨⟨d, 0xc3b2a1⟩, false, l⟩, rdy⟩
    let ins := [i true 0x2211 false true, i true 0x2211 false true,
                i false 0x2211 false true, i true 0x4433 false false, i true 0x4433 false true,
                i true 0x6655 true true, i false 0x6655 true true, i false 0 false true]
    UOk (pkdpk c) (pkdpk c).init none ins ∧
    (pkdpk c).delivered (pkdpk c).init ins =
      [⟨⟨0x2211, 0xc3b2a1⟩, false, false⟩, ⟨⟨0x4433, 0xc3b2a1⟩, false, false⟩, ⟨⟨0x6655, 0xc3b2a1⟩, false, true⟩] := by
  refine ⟨uok_of_B _ _ _ _ (by decide), by decide⟩

/-! ### The unaligned theorems at the exact boundary of the findings

  `UOk2` / `udWellFormed2` are implied by `UOk` / `udWellFormed` (`uok2_of_uok_init`,
  `udWellFormed2_of_udWellFormed`): the three theorems below are the property at full strength, the three above their
  corollaries under the hypotheses that are simpler to state. -/

/-- **packetizer_bytes, unaligned, tight** (`_partial`).  `UOk2`, cycle by cycle: (1) stream contract, (3) no
    single-beat packet — as in `UOk` — and instead of "all lines held in every pause inside a packet" only
    (2) in a cycle with `valid = 0` AND `source.ready = 1` strictly inside a packet, the `last` line is low and the
    TOP `L` bytes of the data line equal those of the beat accepted last.
    Nothing is required in cycles with `ready = 0`, of the low `B − L` data bytes, of the header lines, or of
    pauses during IDLE / HEADER-SEND (the code samples `sink_d` on every `source.ready`, but reads only
    `sink_d.last` and the top `L` bytes, and only in UNALIGNED-DATA-COPY).  Same conclusion as
    `packetizer_bytes_unaligned_partial`. -/
theorem packetizer_bytes_unaligned_tight_partial (c : PkCfg) (hc : UnalignedCfg c) (ins : List (In HBeat))
    (hok : UOk2 c (packetizer c) (packetizer c).init none ins) :
    let e := packetizer c
    let a := e.accepted e.init ins
    let d := e.delivered e.init ins
    d.map (maskPad c) = frameU c a ∨
    (∃ v k, uenvRun2 e e.init none ins = some v ∧ v.pend = true ∧ k ≤ c.W ∧
      d.map (maskPad c) = frameU c a ++ (hdrWords c (hdrOf c v.lines)).take k) ∨
    (∃ x, d.map (maskPad c) ++ [flushBeat c x] = frameU c a) :=
  packetizer_bytes_unaligned_tight c hc ins hok

/-- `UOk` implies `UOk2` (for any machine `e` whose `ready` defines acceptance). -/
theorem uok_implies_uok2 {β σ : Type} (c : PkCfg) (e : Elem HBeat β σ) (ins : List (In HBeat))
    (h : UOk e e.init none ins) : UOk2 c e e.init none ins := uok2_of_uok_init c e ins h

/-- **Exactness of condition (2)**, for every unaligned configuration: from UNALIGNED-DATA-COPY inside a packet
    (`p` = the beat accepted last), after ONE sampled pause cycle showing lines `t`, the next beat `x` — offered and
    taken — is the right one **iff** `t.last = 0` and the top `L` bytes of `t` equal those of `p`. -/
theorem packetizer_bubble_condition_exact (c : PkCfg) (hc : UnalignedCfg c) (sr cnt dd p : Nat) (t x : Tok HBeat)
    (hp : p < 2 ^ c.dw) :
    let e := packetizer c
    let s : PkState := { st := .ucopy, sr := sr, count := cnt, fromIdle := false, dData := dd, dLast := false }
    e.delNow s ⟨false, t, true⟩ = [] ∧ e.accNow s ⟨false, t, true⟩ = [] ∧
    (e.delNow (e.step s ⟨false, t, true⟩) ⟨true, x, true⟩ =
        [{ data := ubeat c (resid c p) (sinkData c x), first := false, last := false }] ↔
      (t.last = false ∧ resid c (sinkData c t) = resid c p)) :=
  upacketizer_bubble_exact c hc sr cnt dd p t x hp

/-- Non-vacuity, between the two hypotheses: pause cycles in which ALL lines change while `ready = 0` and the low data byte
    and the header lines change while `ready = 1`: `UOk` is false, `UOk2` holds, framing correct.
    (More boundary examples, incl. the two kernel-checked violations of condition (2), in
    `LitexProofs/Packet/UnalignedBoundary.lean`.) -/
example :
    let c : PkCfg := ⟨2, 3⟩
    let e := packetizer c
    let i (v : Bool) (d h : Nat) (l rdy : Bool) : In HBeat := ⟨v, ⟨⟨d, h⟩, false, l⟩, rdy⟩
    let ins := [i true 0x2211 0xc3b2a1 false true, i true 0x2211 0xc3b2a1 false true,
                i false 0x9999 0 true false, i false 0x2299 0 false true, i false 0x8888 0 true false,
                i true 0x4433 0xc3b2a1 false true, i true 0x6655 0xc3b2a1 true true, i false 0 0 false true]
    UOk2 c e e.init none ins ∧ uokB e e.init none ins = false ∧
    (e.delivered e.init ins).map (maskPad c) = frameU c (e.accepted e.init ins) := by
  refine ⟨uok2_of_B _ _ _ _ _ (by decide), by decide, by decide⟩

/-- **depacketizer_bytes, unaligned, tight** (`_partial`).  `udWellFormed2` forbids `last` only on the FINAL header
    beat (`W − 1`) and on the residue beat; a `last` on header beats `0 … W − 2` is ignored by the code exactly as the
    aligned Depacketizer ignores it (`sink_d` is overwritten by every accepted beat).  Both remaining exclusions
    are necessary (kernel-checked witnesses in `LitexProofs/Packet/UnalignedBoundary.lean`: `last` on header
    beat `W − 1` enters UNALIGNED-DATA-COPY with `sink_d.last = 1` and emits a spurious last beat — unless the
    consumer happens to stall in that very cycle; `last` on the residue beat is finding
    C16-depacketizer-residue-end). -/
theorem depacketizer_bytes_unaligned_tight_partial (c : PkCfg) (hc : UnalignedCfg c) (ins : List (In Nat))
    (hwf : udWellFormed2 c (.hdr 0 0) ((depacketizer c).accepted (depacketizer c).init ins)) :
    (depacketizer c).delivered (depacketizer c).init ins =
      deframeU c ((depacketizer c).accepted (depacketizer c).init ins) :=
  depacketizer_bytes_unaligned_tight c hc ins hwf

theorem udWellFormed_implies_tight (c : PkCfg) (l : List (Tok Nat)) (st : UDSt)
    (h : udWellFormed c st l) : udWellFormed2 c st l := udWellFormed2_of_udWellFormed c l st h

/-- Non-vacuity, `udWellFormed2` without `udWellFormed` (dw = 16, 5-byte header, `W = 2`): `last` on header beat 0 is ignored. -/
example :
    let c : PkCfg := ⟨2, 5⟩
    let i (d : Nat) (l : Bool) : In Nat := ⟨true, ⟨d, false, l⟩, true⟩
    let ins := [i 0xb2a1 true, i 0xd4c3 false, i 0x11e5 false, i 0x3322 false, i 0x0044 true]
    let acc := (depacketizer c).accepted (depacketizer c).init ins
    UnalignedCfg c ∧ udWellFormed2 c (.hdr 0 0) acc ∧ ¬ udWellFormed c (.hdr 0 0) acc ∧
    (depacketizer c).delivered (depacketizer c).init ins =
      [⟨⟨0x2211, 0xe5d4c3b2a1⟩, false, false⟩, ⟨⟨0x4433, 0xe5d4c3b2a1⟩, false, true⟩] := by
  refine ⟨⟨by decide, by decide, by decide⟩, udWf2_of_B _ _ _ (by decide), ?_, by decide⟩
  rw [← udWfB_iff]; decide

/-- **pkt_depkt_roundtrip, unaligned, tight** (`_partial`, hypothesis `UOk2` on the closed system: `ready` is the
    Depacketizer's `source.ready`; strictly inside a packet that is what the Packetizer sees — `urt_ready`). -/
theorem pkt_depkt_roundtrip_unaligned_tight_partial (c : PkCfg) (hc : UnalignedCfg c) (ins : List (In HBeat))
    (hok : UOk2 c (pkdpk c) (pkdpk c).init none ins) :
    ∃ tail, (pkdpk c).delivered (pkdpk c).init ins ++ tail = annot c ((pkdpk c).accepted (pkdpk c).init ins) ∧
      tail.length ≤ 1 :=
  pkt_depkt_roundtrip_unaligned_tight c hc ins hok

/-
  Not covered by any theorem (findings, see the negative witnesses above): headers shorter than one beat
  (`H < B`, `header_words = 0`), single-beat packets and producer bubbles with changing lines through an unaligned
  Packetizer, packets ending inside the residue beat at an unaligned Depacketizer.  These regions are modelled
  bit-exactly and compared with the code exhaustively in the correspondence.
-/

/-- **Byte layout** (aligned header): the `W` header beats, flattened to bytes lane 0 first, are the header bytes
    `0 … H-1` of the header signal (whose fields sit where `encode_layout` says). -/
theorem packetizer_header_bytes (c : PkCfg) (hc : AlignedCfg c) (h : Nat) :
    beatBytes c (hdrWords c h) = toBytes c.H h := hdrWords_bytes c hc h

/-- … so a framed packet reads, byte by byte: `header bytes ++ payload bytes of beat 1 ++ …`. -/
theorem frame_bytes (c : PkCfg) (hc : AlignedCfg c) (t : Tok HBeat) (r : List (Tok HBeat)) :
    beatBytes c (frame c (t :: r)) =
      toBytes c.H (hdrOf c t) ++ toBytes c.B (t.data.data % 2 ^ c.dw) ++ beatBytes c (frameAux c t.last r) := by
  simp only [frame, frameAux, ↓reduceIte]
  unfold beatBytes
  rw [List.flatMap_append, List.flatMap_cons]
  have := hdrWords_bytes c hc (hdrOf c t)
  unfold beatBytes at this
  rw [this]
  simp [payBeat, List.append_assoc]

/-- The framing functions are inverse to each other on whole packets (pure statement). -/
theorem deframe_frame_eq (c : PkCfg) (hc : AlignedCfg c) (a : List (Tok HBeat)) :
    deframe c (frame c a) = annot c a := deframe_frame c hc a

/-- **`error` pass-through** of Packetizer and Depacketizer (`source.error.eq(sink.error)` when both endpoints have
    the field): a combinational wire beside the FSM — in every cycle and every state the last output of the
    wrapped machine is the sink's `error` input of that same cycle (not delayed with the realigned data); with a
    source-only `error` field it stays 0. -/
theorem error_passthrough {σ : Type} (m : Litex.Driver.NumMachine σ) (ew : Nat) (both : Bool) (s s' : σ)
    (ins o : List Nat) (e : Nat) (h : (withError m ew both).step s (ins ++ [e]) = some (s', o)) :
    o.getLast? = some (if both then e % 2 ^ ew else 0) ∧
    ∃ o', m.step s ins = some (s', o') ∧ o = o' ++ [errorWire ew both e] := by
  simp only [withError, List.getLast?_append, List.getLast?_singleton, Option.some_or,
    List.dropLast_concat] at h
  cases hm : m.step s ins with
  | none => simp [hm] at h
  | some r =>
    obtain ⟨s1, o1⟩ := r
    simp only [hm, Option.map_some, Option.some.injEq, Prod.mk.injEq] at h
    obtain ⟨h1, h2⟩ := h
    subst h1; subst h2
    exact ⟨by simp [errorWire], o1, rfl, rfl⟩

end Litex.C16
