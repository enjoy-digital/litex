import LitexProofs.Csr.Atomic
import LitexProofs.Csr.Fields
import LitexProofs.Csr.Array
import LitexProofs.Csr.Gather
import LitexProofs.Csr.Sram
import LitexProofs.Csr.Glue
import LitexProofs.Csr.Scan
import LitexProofs.Csr.Auto
import LitexProofs.Machine
/-
  C12 — CSR banks give software exact, side-effect-free register semantics.

  What the theorems stand for in the anchor files (csr_eventmanager.py belongs to C15).  "tie" = how the model function
  is compared with the real code on every run (A/B = co-exploration / co-simulation of real netlists, C = Python-level
  differential in harness/props/c12.py).

  csr.py                                   | model (LitexModel/Csr/…)               | theorems here                      | tie
  -----------------------------------------+----------------------------------------+------------------------------------+-----------
  _CSRBase (size, name, n, fixed)          | RegSpec.size/.fixed (names: C14)       | sorted_items*                      | C sort
  CSRConstant (value, n, read)             | ObjDesc.consts, GItem, scanConstants   | scan_constants_complete, gather_*  | C scan, members
  CSR (r/re/w/we, combinational strobes)   | Kind.raw, regOut, wordVal              | raw_strobes_exact                  | A/B bank
  CSRAccess, CSRField (size/offset/reset/  | FieldDecl, FieldSpec, resolveFields,   | field_offsets, field_overlap_      | C fields,
    pulse/access; description/values are   |   fieldsSize, fieldsReset, fieldOut,   |   rejected, field_values, pulse_   |   access,
    documentation only: no behaviour)      |   Access, resolveAccess, checkNames     |   field_one_cycle, field_access_*, |   A/B bank
  CSRFieldAggregate (check_names, check_   |                                        |   field_names_unique               |
    ordering_overlap, get_size, get_reset, |                                        |                                    |
    access resolution)                     |                                        |                                    |
  CSRStatus (status, fields → status       | Kind.status, statusOfFields, wordVal,  | bank_read_next_cycle, read_strobe_ | A/B bank,
    slices, we/re, read_only=False → r,    |   regNext (.status), regOut            |   exact, status_write_exact,       |   directed
    reset)                                 |                                        |   status_fields_bits               |   status reset
  CSRStorage (storage, reset, fields,      | Kind.storage, initReg, devVal, regNext,| bank_write_exact, bank_atomic_*,   | A/B bank
    atomic_write back-store, write_from_   |   backPairs, isAtomic, fieldOut        |   strobe_*, storage_reset,         |
    dev we/dat_w, re, reset_less: sim-     |                                        |   bus_write_overrides_device_write,|
    identical)                             |                                        |   storage_in_range                 |
  do_finalize (word split, big/little)     | simpleCsrs, wordOrder, lastWord, addrOf| addresses_injective, decode_exact  | C layout
  csrprefix/memprefix, _make_gatherer,     | GItem (path/name/duid), gatherOrder,   | gather_creation_order, gather_     | C gather,
    AutoCSR.get_csrs/get_memories/         |   gatherSorted                         |   names_injective, gather_sorted_  |   members
    get_constants (nested, prefix once,    |                                        |   fixed                            |
    DUID order, autocsr_exclude)           |                                        |                                    |
  _sort_gathered_items                     | sortGathered                           | sorted_items, sorted_items_partial | C sort
  GenericBank                              | simpleCsrs                             | (layout lemmas)                    | C layout
  read()/write() simulation helpers        | — (simulation-only; directed check     | —                                  | C sim helpers
                                           |   under the real run_simulation)       |                                    |

  csr_bus.py                               |                                        |                                    |
  -----------------------------------------+----------------------------------------+------------------------------------+-----------
  Interface (data/address width), like     | IfW, IfW.like, IfW.clip                | interface_like_carries_widths      | C glue
  Interface.write/read helpers             | — (see above)                          | —                                  | C sim helpers
  Interconnect, InterconnectShared         | GlueCfg, slaveBus, viaInter, glueArray | glue_transparent*, glue_access_    | A/B glue*,
                                           |                                        |   reaches_exactly_addressed_bank,  |   socglue*
                                           |                                        |   glue_no_alias                    |
  SRAM (word/page addressing, read_only,   | SramCfg, sram, sramDatR, pageBits,     | sram_* (8), sram_paged_address,    | A/B sram*
    init, sub-word staging, _page)         |   portAdr, clampAdr                    |   sram_staging_order_any_ratio     |
  CSRBank (sel, decode, registered mux)    | BankCfg, bank                          | all "bank_*" theorems              | A/B bank*
  CSRBankArray.scan (registers + memories  | ObjDesc, MemDesc, scan, pageReg,       | scan_banks, scan_keeps_registers,  | C scan,
    + constants, address_map, get_buses)   |   objSlots, scanConstants              |   scan_page_link, scan_constants_  |   A/B via-scan
                                           |                                        |   complete                         |
  SoCCSRHandler.n_locs / SoC.do_finalize   | csrNLocs, socGlue                      | soc_locations                      | C glue, B socglue*
    (soc.py glue)                          |                                        |                                    |

  Not modelled: out-of-window SRAM accesses (simulator clamps the index: unspecified), exported names/addresses (C14),
  `description`/`values` of fields (documentation), `reset_less` (no reset pin in this simulation model).
-/
/-
  Notation.    `c : BankCfg` is an arbitrary bank: any bus width `bw`, ordering, page size `2^pbits`, bank number and ANY list
  of registers (storages with/without atomic write and device write, statuses, raw CSRs, any sizes).
  `s : BankState` is an arbitrary state (in particular every state reached by any history of bus accesses and
  device-side updates), `i : BankIn` an arbitrary cycle input: bus `adr/re/we/dat_w` plus the device-side inputs
  of every register.  `c.wordAdr k j` is the bus address of word `j` (bits `[j*bw, j*bw+wordBits)`) of
  register `k`; `c.Fits` says the bank's words fit into its page (`len(simple_csrs) ≤ paging/4`).
  Further vocabulary of the statements and where it is defined: `Quiet`, `IsWrite`, `AscWrites` (the protocol of an
  ascending multi-word write) and `wordPairsBig` in `LitexProofs/Csr/Atomic.lean`; `intended`, `DistinctLocs` below;
  `GlueCfg.Uniform` in `LitexProofs/Csr/Glue.lean`; `objBank` in `Csr/Scan.lean`; `FieldMatches`, `fieldsEnd` in
  `Csr/Fields.lean`; `somes` in `Csr/Gather.lean`; `idleBus`, `ArrayCfg.datR` in `Csr/Array.lean`.
-/
namespace Litex.C12
open Litex Litex.Csr

/-- No two words (hence no two registers) of a bank share a bus address. -/
theorem addresses_injective (c : BankCfg) (k j k' j' : Nat) (hv : c.ValidWord k j) (hv' : c.ValidWord k' j')
    (h : c.wordAdr k j = c.wordAdr k' j') : k = k' ∧ j = j' :=
  c.wordAdr_injective k j k' j' hv hv' h

/-- Words of banks with different bank numbers never share a bus address. -/
theorem addresses_injective_banks (c c' : BankCfg) (hp : c.pbits = c'.pbits) (hfit : c.Fits) (hfit' : c'.Fits)
    (hne : c.address ≠ c'.address) (k j k' j' : Nat) (hv : c.ValidWord k j) (hv' : c'.ValidWord k' j') :
    c.wordAdr k j ≠ c'.wordAdr k' j' := by
  intro h
  have h1 := (c.wordAdr_div k j hfit hv).1
  have h2 := (c'.wordAdr_div k' j' hfit' hv').1
  rw [h, hp, h2] at h1
  exact hne h1.symm

/-- The decode is exact: an access hits word `j` of register `k` iff its address is `wordAdr k j`. -/
theorem decode_exact (c : BankCfg) (hfit : c.Fits) (a k j : Nat) (hv : c.ValidWord k j) :
    c.hit a = some (c.simple k j) ↔ a = c.wordAdr k j := by
  refine ⟨fun h => ?_, fun h => h ▸ c.hit_wordAdr k j hfit hv⟩
  have := (c.hit_coords h).2.2
  rwa [c.simple_reg, c.simple_word k j hv] at this

/-- **A bus write changes exactly the addressed bits** (non-atomic storage): after a write of `dat_w` to word
    `j` of storage `k`, bits `[j*bw, j*bw+wordBits)` hold `dat_w` and every other bit of the register holds
    what it would hold without the bus write (`devVal`: the device-written value if the device writes in the
    same cycle, otherwise the old value). -/
theorem bank_write_exact (c : BankCfg) (hfit : c.Fits) (s : BankState) (i : BankIn) (k j : Nat)
    (hv : c.ValidWord k j) (hkind : (c.spec k).kind = .storage) (hna : isAtomic c.bw (c.spec k) = false)
    (hwe : i.bus.we = true) (hadr : i.bus.adr = c.wordAdr k j) :
    let v' := (((bank c).next s i).reg k).val
    let v0 := devVal (c.spec k) (s.reg k) (i.devOf k)
    let nb := wordBits c.bw (c.spec k).size j
    slice (j * c.bw) nb v' = trunc nb i.bus.datW ∧
    ∀ b, ¬ (j * c.bw ≤ b ∧ b < j * c.bw + nb) → v'.testBit b = v0.testBit b := by
  obtain ⟨hlo, hnb⟩ := simple_lo c k j (ne_raw_of_storage hkind)
  intro v' v0 nb
  have hv'eq : v' = setSlice (j * c.bw) nb v0 i.bus.datW := by
    simp only [v', next_reg_write c hfit s i k j hv hwe hadr, regNext_plain hkind hna, hlo, hnb]
    rfl
  rw [hv'eq]
  exact ⟨slice_setSlice_same _ _ _ _, fun b hb => testBit_setSlice_outside _ _ _ _ _ hb⟩

/-- **Accesses to other addresses or banks have no effect**: if the cycle is not a bus write to a word of
    register `k` (it is a read, an idle cycle, a write to another register, to an unpopulated word or to
    another bank), then a storage keeps its value (up to its own device write), its back-store is unchanged
    and no write strobe is produced. -/
theorem bank_access_elsewhere_no_effect (c : BankCfg) (s : BankState) (i : BankIn) (k : Nat)
    (hk : k < c.regs.length) (hkind : (c.spec k).kind ≠ .raw)
    (h : i.bus.we = false ∨ ∀ j, c.ValidWord k j → i.bus.adr ≠ c.wordAdr k j) :
    let r' := ((bank c).next s i).reg k
    r'.re = false ∧ r'.back = (s.reg k).back ∧
    r'.val = (if (c.spec k).kind = .storage then devVal (c.spec k) (s.reg k) (i.devOf k) else (s.reg k).val) :=
  next_reg_no_write c s i k hk hkind (c.write_hit_none i k h)

/-- Reads never change any register state: a cycle with `we = 0` leaves the registers exactly as an idle bus
    cycle with the same device inputs would. -/
theorem bank_read_side_effect_free (c : BankCfg) (s : BankState) (i : BankIn) (hwe : i.bus.we = false) :
    ((bank c).next s i).regs =
      ((bank c).next s { i with bus := { i.bus with re := false } }).regs := by
  simp only [bank, hwe]

/-- Atomic storage, upper word (`j ≠ 0`): the written bits go to the back-store; the visible register does not
    change (up to its own device write). -/
theorem bank_atomic_stage (c : BankCfg) (hfit : c.Fits) (s : BankState) (i : BankIn) (k j : Nat)
    (hv : c.ValidWord k j) (hkind : (c.spec k).kind = .storage) (hat : isAtomic c.bw (c.spec k) = true)
    (hj : j ≠ 0) (hwe : i.bus.we = true) (hadr : i.bus.adr = c.wordAdr k j) :
    let r' := ((bank c).next s i).reg k
    r'.val = devVal (c.spec k) (s.reg k) (i.devOf k) ∧
    r'.back = (s.reg k).back.set (j - 1) (trunc (wordBits c.bw (c.spec k).size j) i.bus.datW) :=
  next_reg_stage c hfit s i k j hv hkind hat hj hwe hadr

/-- **Atomic commit**: the whole register changes in the cycle word 0 is written, to `dat_w` in the low bus
    word and the staged back-store words above it. -/
theorem bank_atomic_commit (c : BankCfg) (hfit : c.Fits) (s : BankState) (i : BankIn) (k : Nat)
    (hv : c.ValidWord k 0) (hkind : (c.spec k).kind = .storage) (hat : isAtomic c.bw (c.spec k) = true)
    (hwe : i.bus.we = true) (hadr : i.bus.adr = c.wordAdr k 0) :
    let r' := ((bank c).next s i).reg k
    r'.val = trunc (c.spec k).size (cat ((c.bw, i.bus.datW) :: backPairs c.bw (c.spec k).size (s.reg k).back 1)) ∧
    r'.back = (s.reg k).back :=
  next_reg_commit c hfit s i k hv hkind hat hwe hadr

/-- The value software intends when it writes the data words `ds` to the ascending addresses of an `n`-word
    register: with ordering big the lowest address carries the most significant word, with ordering little the
    least significant one. -/
def intended (ord : WordOrdering) (bw size n : Nat) (ds : List Nat) : Nat :=
  trunc size (cat (match ord with
    | .big => wordPairsBig bw size n ds
    | .little => (List.range n).map fun j => (wordBits bw size j, ds.getD j 0)))

/-
  Atomic writes as the property states them ("all of a multi-word register at once") would be the theorem below for
  both orderings, with `intended c.ord …` as the new value.  That FAILS for ordering = little (the commit word, word 0,
  then sits at the LOWEST address and is written first): see the negative witness below.  Proved under the hypothesis
  `c.ord = .big`.
-/

/-- **Atomic multi-word write, all at once** (ordering big).  Start in any reachable state.  Software writes the
    `n` data words `ds` of atomic storage `k` to its `n` consecutive addresses in ascending order; before, between
    and after these writes any number of other cycles may happen (reads anywhere, writes to other registers or
    banks, idle cycles, device activity on other registers — `Quiet`).  Then at every moment of the sequence the
    register holds either its complete old value or the complete new value, never a mixture, and at the end it
    holds the new value. -/
theorem bank_atomic_all_at_once_partial (c : BankCfg) (hfit : c.Fits) (hbig : c.ord = .big) (k : Nat)
    (hk : k < c.regs.length) (hkind : (c.spec k).kind = .storage) (hat : isAtomic c.bw (c.spec k) = true)
    (hist : List BankIn) (ds : List Nat) (hds : ds.length = nwords c.bw (c.spec k).size) (ins : List BankIn)
    (h : AscWrites c k (c.lowAdr k) 0 ds ins) :
    let s := (bank c).run hist
    let old := (s.reg k).val
    let new := intended c.ord c.bw (c.spec k).size (nwords c.bw (c.spec k).size) ds
    (∀ pre, pre <+: ins →
        (((bank c).runFrom s pre).reg k).val = old ∨ (((bank c).runFrom s pre).reg k).val = new) ∧
    (((bank c).runFrom s ins).reg k).val = new := by
  have := atomic_seq c hfit k hk hkind hat hbig ds hds _ ((run_wf c hist k hk hkind).2 hat) ins h
  simpa only [intended, hbig] using this

/-! Non-vacuity: 16-bit atomic storage on an 8-bit bus, ordering big; software writes 0x12 to address 0, something
    reads elsewhere, software writes 0x34 to address 1.  The hypotheses hold and the register goes 0 → 0 → 0 → 0x1234. -/
def wr (a d : Nat) : BankIn := { bus := { adr := a, re := false, we := true, datW := d }, dev := [] }
def rd (a : Nat) : BankIn := { bus := { adr := a, re := true, we := false, datW := 0 }, dev := [] }
def atomic16 (ord : WordOrdering) : BankCfg :=
  { bw := 8, ord := ord, pbits := 9, address := 0, regs := [{ kind := .storage, size := 16, atomic := true }] }

example : AscWrites (atomic16 .big) 0 ((atomic16 .big).lowAdr 0) 0 [0x12, 0x34] [wr 0 0x12, rd 5, wr 1 0x34] :=
  .write 0 0x12 [0x34] _ _ ⟨rfl, rfl, rfl, rfl⟩
    (.quiet 1 [0x34] _ _ ⟨Or.inl rfl, rfl⟩ (.write 1 0x34 [] _ _ ⟨rfl, rfl, rfl, rfl⟩ (.done 2)))

example : (atomic16 .big).Fits ∧ isAtomic 8 ((atomic16 .big).spec 0) = true ∧
    ([[], [wr 0 0x12], [wr 0 0x12, rd 5], [wr 0 0x12, rd 5, wr 1 0x34]].map fun pre =>
      (((bank (atomic16 .big)).run pre).reg 0).val) = [0, 0, 0, 0x1234] ∧
    intended .big 8 16 2 [0x12, 0x34] = 0x1234 := by decide +kernel

/-- **Negative witness (known finding C12-atomic-little-ordering).**  Same register, ordering little: software
    writes 0x34 (low byte) to address 0 and 0x12 (high byte) to address 1, i.e. intends 0x1234.  The sequence
    satisfies `AscWrites`, but after the first write the register holds 0x0034 — neither the old value 0 nor the
    intended 0x1234 — and it still holds 0x0034 after the second write. -/
example : AscWrites (atomic16 .little) 0 ((atomic16 .little).lowAdr 0) 0 [0x34, 0x12] [wr 0 0x34, wr 1 0x12] :=
  .write 0 0x34 [0x12] _ _ ⟨rfl, rfl, rfl, rfl⟩ (.write 1 0x12 [] _ _ ⟨rfl, rfl, rfl, rfl⟩ (.done 2))

example :
    let c := atomic16 .little
    let new := intended .little 8 16 2 [0x34, 0x12]
    new = 0x1234 ∧
    ¬ ((((bank c).run [wr 0 0x34]).reg 0).val = 0 ∨ (((bank c).run [wr 0 0x34]).reg 0).val = new) ∧
    ¬ ((((bank c).run [wr 0 0x34, wr 1 0x12]).reg 0).val = new) := by decide +kernel

/-- **A bus read returns the current value of the addressed word one cycle later**: whatever else happens in
    the cycle, the registered `dat_r` after an access to word `j` of register `k` is that word's value in the
    access cycle (storage bits `[j*bw, j*bw+wordBits)`, resp. the status / `w` input of that cycle). -/
theorem bank_read_next_cycle (c : BankCfg) (hfit : c.Fits) (s : BankState) (i : BankIn) (k j : Nat)
    (hv : c.ValidWord k j) (hadr : i.bus.adr = c.wordAdr k j) :
    ((bank c).next s i).datR = wordVal (c.spec k) (s.reg k) (i.devOf k) (c.simple k j) := by
  rw [next_datR, hadr, c.hit_wordAdr k j hfit hv]
  simp [BankCfg.simple_reg]

/-- …for a storage this is the slice of the stored value. -/
theorem bank_read_storage (c : BankCfg) (hfit : c.Fits) (s : BankState) (i : BankIn) (k j : Nat)
    (hv : c.ValidWord k j) (hkind : (c.spec k).kind = .storage) (hadr : i.bus.adr = c.wordAdr k j) :
    ((bank c).next s i).datR = slice (j * c.bw) (wordBits c.bw (c.spec k).size j) (s.reg k).val := by
  obtain ⟨hlo, hnb⟩ := simple_lo c k j (ne_raw_of_storage hkind)
  rw [bank_read_next_cycle c hfit s i k j hv hadr]
  simp [wordVal, hkind, hlo, hnb]

/-- **A bank that is not addressed drives zero** (also for an unpopulated word of the addressed bank). -/
theorem bank_unselected_zero (c : BankCfg) (s : BankState) (i : BankIn)
    (h : i.bus.adr / 2 ^ c.pbits ≠ c.address ∨ c.simples.length ≤ i.bus.adr % 2 ^ c.pbits) :
    ((bank c).next s i).datR = 0 := by
  rw [next_datR]
  have : c.hit i.bus.adr = none := by
    cases h with
    | inl h => exact c.hit_none_of_unselected _ (beq_false_of_ne h)
    | inr h =>
      unfold BankCfg.hit
      split
      · exact List.getElem?_eq_none h
      · rfl
  rw [this]

/-- **Write strobes are single-cycle pulses caused only by writes to that register**: the registered `re` of a
    storage/status is high in a cycle iff the previous cycle was a bus write to the register's strobe word
    (`lastWord`: the word at the register's highest address). -/
theorem strobe_single_cycle (c : BankCfg) (hfit : c.Fits) (s : BankState) (i : BankIn) (k : Nat)
    (hk : k < c.regs.length) (hkind : (c.spec k).kind ≠ .raw) (hsz : 0 < nwords c.bw (c.spec k).size) :
    (((bank c).next s i).reg k).re =
      (i.bus.we && decide (i.bus.adr = c.wordAdr k (lastWord c.ord (nwords c.bw (c.spec k).size)))) := by
  rw [next_reg c s i k hk, regNext_re _ _ _ _ _ _ hkind, ← hitReg_last c hfit _ k hk hkind hsz]
  cases i.bus.we <;> rfl

theorem out_reg (c : BankCfg) (s : BankState) (i : BankIn) (k : Nat) (hk : k < c.regs.length) :
    ((bank c).out s i).regs.getD k default = regOut c k (c.spec k) (s.reg k) i.bus :=
  getD_mapIdx _ c.regs k hk default default

/-- **Read strobes are caused only by reads of that register**: the `we` strobe of a status register is high in a
    cycle iff that cycle is a bus read (`re`) of the register's strobe word; it is combinational, hence exactly as
    long as the access. -/
theorem read_strobe_exact (c : BankCfg) (hfit : c.Fits) (s : BankState) (i : BankIn) (k : Nat)
    (hk : k < c.regs.length) (hkind : (c.spec k).kind = .status) (hsz : 0 < nwords c.bw (c.spec k).size) :
    (((bank c).out s i).regs.getD k default).we =
      (i.bus.re && decide (i.bus.adr = c.wordAdr k (lastWord c.ord (nwords c.bw (c.spec k).size)))) := by
  rw [out_reg c s i k hk, ← hitReg_last c hfit _ k hk (ne_raw_of_status hkind) hsz]
  simp only [regOut, hkind]
  cases c.hitReg i.bus.adr k with
  | none => exact (Bool.and_false _).symm
  | some sc => rfl

/-- Raw `CSR`: `re`/`we` are high exactly during a bus write/read of its address and `r` carries the written data. -/
theorem raw_strobes_exact (c : BankCfg) (hfit : c.Fits) (s : BankState) (i : BankIn) (k : Nat)
    (hk : k < c.regs.length) (hkind : (c.spec k).kind = .raw) :
    let o := ((bank c).out s i).regs.getD k default
    o.re = (i.bus.we && decide (i.bus.adr = c.wordAdr k 0)) ∧
    o.we = (i.bus.re && decide (i.bus.adr = c.wordAdr k 0)) ∧
    o.r = trunc (c.spec k).size i.bus.datW := by
  have hv0 : c.ValidWord k 0 := (BankCfg.validWord_raw_iff hk hkind).mpr rfl
  intro o
  have ho : o = regOut c k (c.spec k) (s.reg k) i.bus := out_reg c s i k hk
  rw [ho]
  simp only [regOut, hkind]
  cases hh : c.hitReg i.bus.adr k with
  | none =>
    have hne : i.bus.adr ≠ c.wordAdr k 0 := by
      intro h
      rw [h, c.hitReg_wordAdr k _ hfit hv0] at hh
      cases hh
    simp [hne]
  | some sc =>
    obtain ⟨j, hv, _, ha⟩ := c.hitReg_inv _ _ _ hh
    cases (BankCfg.validWord_raw_iff hk hkind).mp hv
    simp [ha]

/-- Writable status (`read_only=False`): a bus write changes exactly the addressed bits of its `r` register. -/
theorem status_write_exact (c : BankCfg) (hfit : c.Fits) (s : BankState) (i : BankIn) (k j : Nat)
    (hv : c.ValidWord k j) (hkind : (c.spec k).kind = .status) (hwfd : (c.spec k).wfd = true)
    (hwe : i.bus.we = true) (hadr : i.bus.adr = c.wordAdr k j) :
    (((bank c).next s i).reg k).val =
      setSlice (j * c.bw) (wordBits c.bw (c.spec k).size j) (s.reg k).val i.bus.datW := by
  obtain ⟨hlo, hnb⟩ := simple_lo c k j (ne_raw_of_status hkind)
  rw [next_reg_write c hfit s i k j hv hwe hadr, regNext_status_write hkind, hlo, hnb, hwfd, if_pos rfl]

/-! ## Histories

The step theorems above hold in every state.  Stated over histories (`ins` = any sequence of bus accesses
interleaved with device-side updates, from reset): -/

/-- `re` of register `k` in the cycle after history `ins ++ [i]` is high iff cycle `i` wrote the strobe word. -/
theorem strobe_history (c : BankCfg) (hfit : c.Fits) (ins : List BankIn) (i : BankIn) (k : Nat)
    (hk : k < c.regs.length) (hkind : (c.spec k).kind ≠ .raw) (hsz : 0 < nwords c.bw (c.spec k).size) :
    (((bank c).run (ins ++ [i])).reg k).re =
      (i.bus.we && decide (i.bus.adr = c.wordAdr k (lastWord c.ord (nwords c.bw (c.spec k).size)))) := by
  rw [Machine.run_snoc]
  exact strobe_single_cycle c hfit _ i k hk hkind hsz

/-- After reset no strobe is active. -/
theorem strobe_reset (c : BankCfg) (k : Nat) (hk : k < c.regs.length) : (((bank c).run []).reg k).re = false := by
  show ((bank c).init.reg k).re = false
  rw [init_reg c k hk]
  rfl

/-- The read data seen in the cycle after `ins ++ [i]` is the word addressed in cycle `i`, as it was in cycle `i`. -/
theorem read_history (c : BankCfg) (hfit : c.Fits) (ins : List BankIn) (i : BankIn) (k j : Nat)
    (hv : c.ValidWord k j) (hadr : i.bus.adr = c.wordAdr k j) :
    ((bank c).run (ins ++ [i])).datR =
      wordVal (c.spec k) (((bank c).run ins).reg k) (i.devOf k) (c.simple k j) := by
  rw [Machine.run_snoc]
  exact bank_read_next_cycle c hfit _ i k j hv hadr

/-- **Write, then read back**: a bus write of `d` to word `j` of a non-atomic storage followed by any access to the
    same address returns `d` (truncated to the word's width) as read data, from any state, whatever the device
    does to other registers. -/
theorem write_then_read (c : BankCfg) (hfit : c.Fits) (s : BankState) (iw ir : BankIn) (k j : Nat)
    (hv : c.ValidWord k j) (hkind : (c.spec k).kind = .storage) (hna : isAtomic c.bw (c.spec k) = false)
    (hwe : iw.bus.we = true) (hadr : iw.bus.adr = c.wordAdr k j) (hadr' : ir.bus.adr = c.wordAdr k j) :
    ((bank c).next ((bank c).next s iw) ir).datR = trunc (wordBits c.bw (c.spec k).size j) iw.bus.datW := by
  rw [bank_read_storage c hfit _ ir k j hv hkind hadr']
  exact (bank_write_exact c hfit s iw k j hv hkind hna hwe hadr).1

/-- In every reachable state every storage value fits its declared size. -/
theorem storage_in_range (c : BankCfg) (ins : List BankIn) (k : Nat) (hk : k < c.regs.length)
    (hkind : (c.spec k).kind = .storage) : (((bank c).run ins).reg k).val < 2 ^ (c.spec k).size :=
  (run_wf c ins k hk hkind).1

/-- **Reset values**: after reset every storage holds its declared reset value (truncated to its size; for a storage
    with fields the OR of the fields' resets at their offsets: `fieldsReset`), no strobe is active. -/
theorem storage_reset (c : BankCfg) (k : Nat) (hk : k < c.regs.length) (hkind : (c.spec k).kind = .storage) :
    (((bank c).run []).reg k).val = trunc (c.spec k).size (c.spec k).reset ∧ (((bank c).run []).reg k).re = false := by
  show ((bank c).init.reg k).val = _ ∧ ((bank c).init.reg k).re = false
  rw [init_reg c k hk]
  simp [initReg, hkind]

/-- **Bus write beats device write**: when the device (`we`/`dat_w` of a `write_from_dev` storage) and the bus write
    the same one-word storage in the same cycle, the register takes the bus data — in any reachable state. -/
theorem bus_write_overrides_device_write (c : BankCfg) (hfit : c.Fits) (hist : List BankIn) (i : BankIn) (k : Nat)
    (hv : c.ValidWord k 0) (hkind : (c.spec k).kind = .storage) (h1 : (c.spec k).size ≤ c.bw)
    (hwe : i.bus.we = true) (hadr : i.bus.adr = c.wordAdr k 0) :
    (((bank c).run (hist ++ [i])).reg k).val = trunc (c.spec k).size i.bus.datW := by
  have hna : isAtomic c.bw (c.spec k) = false :=
    Bool.eq_false_iff.mpr fun h => Nat.not_lt.mpr h1 (size_gt_of_atomic _ _ h)
  rw [Machine.run_snoc]
  have hw := (bank_write_exact c hfit ((bank c).run hist) i k 0 hv hkind hna hwe hadr).1
  have hwf := next_wf c _ i (run_wf c hist) k hv.1 hkind
  have hnb : wordBits c.bw (c.spec k).size 0 = (c.spec k).size := by
    rw [wordBits, Nat.zero_mul, Nat.sub_zero]; exact Nat.min_eq_left h1
  simp only [Nat.zero_mul, hnb, slice_zero] at hw
  rw [← hw, trunc_of_lt hwf.1]

/-- and when only the device writes, the register takes the device data. -/
theorem device_write_alone (c : BankCfg) (s : BankState) (i : BankIn) (k : Nat) (hk : k < c.regs.length)
    (hkind : (c.spec k).kind = .storage) (hwfd : (c.spec k).wfd = true) (hdev : (i.devOf k).we = true)
    (hbus : i.bus.we = false) :
    (((bank c).next s i).reg k).val = trunc (c.spec k).size (i.devOf k).dat := by
  have := (bank_access_elsewhere_no_effect c s i k hk (ne_raw_of_storage hkind) (Or.inl hbus)).2.2
  simp only [hkind, if_true] at this
  rw [this]
  simp [devVal, hwfd, hdev]

/-! ## Fields (`CSRField`, `CSRFieldAggregate`) -/

/-- **Fields sit at their declared bit offsets**, in declaration order and without overlap
    (`CSRFieldAggregate.check_ordering_overlap`, whenever it accepts the field list). -/
theorem field_offsets (ds : List FieldDecl) (fs : List FieldSpec) (h : resolveFields ds = some fs) :
    List.Forall₂ FieldMatches ds fs ∧ List.Pairwise (fun f g => f.offset + f.size ≤ g.offset) fs :=
  resolve_spec ds 0 fs h

/-- A declared offset below the first free bit after the preceding fields is rejected. -/
theorem field_overlap_rejected (pre : List FieldDecl) (fs : List FieldSpec) (d : FieldDecl) (post : List FieldDecl)
    (o : Nat) (hpre : resolveFields pre = some fs) (ho : d.offset = some o) (hlt : o < fieldsSize fs) :
    resolveFields (pre ++ d :: post) = none := by
  rw [← fieldsEnd_eq_size] at hlt
  exact resolve_overlap_rejected pre 0 fs d post o hpre ho hlt

/-- What the device sees on the field signals of storage `k`: field `f` shows `storage[offset : offset+size]`;
    a pulse field only while the write strobe is high. -/
theorem field_values (c : BankCfg) (s : BankState) (i : BankIn) (k : Nat) (hk : k < c.regs.length)
    (hkind : (c.spec k).kind = .storage) :
    (((bank c).out s i).regs.getD k default).fields =
      (c.spec k).fields.map fun f => fieldOut f (s.reg k).val (s.reg k).re := by
  rw [out_reg c s i k hk]
  simp only [regOut, hkind]

theorem field_plain_value (f : FieldSpec) (storage : Nat) (re : Bool) (h : f.pulse = false) :
    fieldOut f storage re = slice f.offset f.size storage := by
  simp [fieldOut, h]

/-- **Pulse fields last one cycle**: in any history, a pulse field (reset 0) of storage `k` can be non-zero only in
    the cycle right after a bus write to the register's strobe word — i.e. for exactly one cycle per such write —
    and then it shows its bit(s) of the value just written. -/
theorem pulse_field_one_cycle (c : BankCfg) (hfit : c.Fits) (ins : List BankIn) (i : BankIn) (k : Nat)
    (hk : k < c.regs.length) (hkind : (c.spec k).kind = .storage) (hsz : 0 < nwords c.bw (c.spec k).size)
    (f : FieldSpec) (hp : f.pulse = true) (hr : f.reset = 0) :
    let s' := (bank c).run (ins ++ [i])
    fieldOut f (s'.reg k).val (s'.reg k).re ≠ 0 →
      (i.bus.we = true ∧ i.bus.adr = c.wordAdr k (lastWord c.ord (nwords c.bw (c.spec k).size))) ∧
      fieldOut f (s'.reg k).val (s'.reg k).re = slice f.offset f.size (s'.reg k).val := by
  intro s' hne
  obtain ⟨hre, hval⟩ := fieldOut_pulse f _ _ hp hr hne
  rw [strobe_history c hfit ins i k hk (ne_raw_of_storage hkind) hsz] at hre
  simp only [Bool.and_eq_true, decide_eq_true_eq] at hre
  exact ⟨hre, hval⟩

/-- All fields of a `CSRStatus` end up `ReadOnly`. -/
theorem field_access_status (fs : List FieldAcc) (as : List Access) (h : resolveAccess .readOnly fs = some as)
    (k : Nat) (a : Access) (hk : as[k]? = some a) : a = .readOnly := by
  obtain ⟨f, -, hf⟩ := resolveAccess_some h hk
  exact resolveAccess1_readOnly hf

/-- All fields of a `CSRStorage` end up `ReadWrite` or `WriteOnly`. -/
theorem field_access_storage (fs : List FieldAcc) (as : List Access) (h : resolveAccess .readWrite fs = some as)
    (k : Nat) (a : Access) (hk : as[k]? = some a) : a = .readWrite ∨ a = .writeOnly := by
  obtain ⟨f, -, hf⟩ := resolveAccess_some h hk
  exact (resolveAccess1_readWrite hf).1

/-
  "A pulse field of a storage is WriteOnly" (what `if field.pulse: field.access = WriteOnly` intends), i.e. the theorem
  below without `hexp`, FAILS for a pulse field declared without `access=` (the `if field.access is None` branch is taken and the `elif`
  that rewrites pulse fields is skipped): negative witness below.  Proved for fields with an explicit access.
-/
theorem field_access_pulse_partial (fs : List FieldAcc) (as : List Access) (h : resolveAccess .readWrite fs = some as)
    (k : Nat) (f : FieldAcc) (hf : fs[k]? = some f) (hp : f.pulse = true) (hexp : f.access ≠ none) :
    as[k]? = some .writeOnly := by
  have hk := resolveAccess_getElem? h k
  rw [hf] at hk
  cases ha : as[k]? with
  | none => rw [ha] at hk; cases hk
  | some a =>
    rw [ha] at hk
    rw [(resolveAccess1_readWrite (Option.some.inj hk)).2 hp hexp]

example : resolveAccess .readWrite [{ access := none, pulse := true }] = some [.readWrite] ∧
    resolveAccess .readWrite [{ access := some .readWrite, pulse := true }] = some [.writeOnly] ∧
    resolveAccess .readOnly [{ access := some .readWrite, pulse := false }] = none := by decide +kernel

/-- `check_names` accepts exactly the field lists without a repeated name. -/
theorem field_names_unique (ns : List Nat) : checkNames [] ns = true ↔ ns.Nodup := by
  rw [checkNames_iff]; simp

/-- **Status with fields**: bit `b` of the value a `CSRStatus(fields=…)` presents to the bus is the bit the field
    covering `b` drives; bits outside every field read 0 (the reset composition is 0 there). -/
theorem status_fields_bits (fs : List FieldSpec) (v b : Nat) :
    (statusOfFields fs v).testBit b =
      fs.any fun f => decide (f.offset ≤ b ∧ b < f.offset + f.size) && v.testBit b := by
  induction fs with
  | nil => simp [statusOfFields]
  | cons f fs ih =>
    simp only [statusOfFields, Nat.testBit_or, ih, List.any_cons, Nat.testBit_shiftLeft, testBit_slice]
    congr 1
    by_cases h1 : f.offset ≤ b
    · by_cases h2 : b < f.offset + f.size
      · have : b - f.offset < f.size := by omega
        simp [h1, h2, this, Nat.add_sub_cancel' h1]
      · have : ¬ (b - f.offset < f.size) := by omega
        simp [h1, h2, this]
    · simp [h1]

/-- **Reset of a register with fields** (`CSRFieldAggregate.get_reset`): bit `b` of the composed reset value is set iff
    some field has the corresponding bit of its own reset value set at its offset. -/
theorem fields_reset_bits (fs : List FieldSpec) (b : Nat) :
    (fieldsReset fs).testBit b = fs.any fun f => decide (f.offset ≤ b) && f.reset.testBit (b - f.offset) := by
  induction fs with
  | nil => simp [fieldsReset]
  | cons f fs ih => simp only [fieldsReset, Nat.testBit_or, ih, List.any_cons, Nat.testBit_shiftLeft, ge_iff_le]

/-! ## Several banks and memory windows on one bus (`CSRBankArray`, `Interconnect`, `InterconnectShared`) -/

/-- A slave that was not addressed in a cycle contributes zero to the OR-combined read data of the next cycle. -/
theorem unselected_slaves_drive_zero (c : ArrayCfg) (s : ArrayState) (i : ArrayIn) :
    (∀ j, j < c.banks.length → (c.banks.getD j default).sel (orBus i.masters).adr = false →
        (((bankArray c).next s i).banks.getD j default).datR = 0) ∧
    (∀ j, j < c.srams.length → (c.srams.getD j default).cfg.sel (orBus i.masters).adr = false →
        sramDatR (c.srams.getD j default).cfg (((bankArray c).next s i).srams.getD j default) = 0) := by
  constructor
  · intro j hj hsel
    rw [array_next_bank c s i j hj]
    exact next_datR_unselected _ _ _ hsel
  · intro j hj hsel
    rw [array_next_sram c s i j hj]
    exact sram_next_datR_unselected _ _ _ hsel

/-- **The OR-combined bus returns the addressed bank's data**: if bank `j` is the only slave addressed in a cycle,
    the read data every master sees in the next cycle is bank `j`'s read data. -/
theorem shared_or_bus (c : ArrayCfg) (s : ArrayState) (i i' : ArrayIn) (j : Nat) (hj : j < c.banks.length)
    (hothers : ∀ j', j' < c.banks.length → j' ≠ j → (c.banks.getD j' default).sel (orBus i.masters).adr = false)
    (hsrams : ∀ m, m < c.srams.length → (c.srams.getD m default).cfg.sel (orBus i.masters).adr = false) :
    ((bankArray c).out ((bankArray c).next s i) i').datR = (((bankArray c).next s i).banks.getD j default).datR := by
  exact datR_next_single c s i j hothers hsrams

/-- Banks with different bank numbers (and a common page size) are never selected together. -/
theorem bank_select_exclusive (c c' : BankCfg) (hp : c.pbits = c'.pbits) (hne : c.address ≠ c'.address) (adr : Nat)
    (h : c.sel adr = true) : c'.sel adr = false := by
  unfold BankCfg.sel at *
  rw [hp] at h
  simp only [beq_iff_eq] at h
  simp only [beq_eq_false_iff_ne]
  omega

/-- If no slave is addressed the bus reads zero. -/
theorem shared_or_bus_idle (c : ArrayCfg) (s : ArrayState) (i i' : ArrayIn)
    (hbanks : ∀ j, j < c.banks.length → (c.banks.getD j default).sel (orBus i.masters).adr = false)
    (hsrams : ∀ m, m < c.srams.length → (c.srams.getD m default).cfg.sel (orBus i.masters).adr = false) :
    ((bankArray c).out ((bankArray c).next s i) i').datR = 0 := by
  rw [array_out_datR, datR_next_single c s i c.banks.length (fun j hj _ => hbanks j hj) hsrams,
    array_next_bank_oob c s i _ (Nat.le_refl _)]
  rfl

/-- `InterconnectShared`: idle (all-zero) masters do not disturb the active one. -/
theorem shared_idle_masters_transparent (b : Bus) (n : Nat) : orBus (b :: List.replicate n idleBus) = b :=
  orBus_cons_idle b n

/-! ## Memory windows (`csr_bus.SRAM`) -/

/-- A memory window that is not addressed drives zero in the next cycle and keeps its content. -/
theorem sram_unselected (c : SramCfg) (s : SramState) (i : SramIn) (h : c.sel i.bus.adr = false) :
    sramDatR c ((sram c).next s i) = 0 ∧ ((sram c).next s i).mem = s.mem := by
  refine ⟨sram_next_datR_unselected c s i h, ?_⟩
  rw [sram_next_mem]
  simp [h]

/-- A write changes at most the addressed memory word. -/
theorem sram_write_exact (c : SramCfg) (s : SramState) (i : SramIn) (a : Nat)
    (ha : a ≠ c.clampAdr (c.portAdr i.bus.adr i.page)) :
    ((sram c).next s i).mem.getD a 0 = s.mem.getD a 0 := by
  rw [sram_next_mem]
  split
  · simp only [List.getD_eq_getElem?_getD]
    rw [List.getElem?_set_ne (Ne.symm ha)]
  · rfl

/-- Reads, and all accesses of a read-only window, leave the memory as it is. -/
theorem sram_read_side_effect_free (c : SramCfg) (s : SramState) (i : SramIn)
    (h : i.bus.we = false ∨ c.readOnly = true) : ((sram c).next s i).mem = s.mem := by
  rw [sram_next_mem]
  cases h with
  | inl h => simp [h]
  | inr h => simp [h]

/-- One-word-per-bus-word window (`mem.width ≤ bus width`): a write of `d` is read back in the next cycle
    (Migen write-first port), truncated to the memory width. -/
theorem sram_write_read (c : SramCfg) (s : SramState) (i : SramIn) (hcpm : c.cpm = 1) (hw : c.width ≤ c.bw)
    (hro : c.readOnly = false) (hsel : c.sel i.bus.adr = true) (hwe : i.bus.we = true)
    (hin : c.clampAdr (c.portAdr i.bus.adr i.page) < s.mem.length) :
    sramDatR c ((sram c).next s i) = trunc c.width i.bus.datW := by
  rw [sram_read_narrow c s i hcpm hsel, sram_commit_word_narrow c s i hcpm hw hro hsel hwe hin,
    trunc_trunc_le _ _ _ hw]

/-- **Paging**: with a page register of `pageBits` bits, the memory word addressed is selected by the page value in
    the upper address bits and by the bus address in the lower ones. -/
theorem sram_paged_address (c : SramCfg) (adr pv : Nat) (hp : c.pageBits ≠ 0) :
    c.portAdr adr pv =
      slice c.wb (c.abits - c.pageBits) adr + 2 ^ (c.abits - c.pageBits) * (pv % 2 ^ c.pageBits) := by
  simp [SramCfg.portAdr, hp, cat, Nat.mod_eq_of_lt (slice_lt _ _ _)]

/-- **Sub-word staging order for any ratio** (memory word = `cpm` bus words; 32-bit words on an 8-bit bus: 4,
    128-bit on 32-bit: 4, 64-bit on 8-bit: 8 …): when the last sub-word of a memory word is written the word becomes
    `Cat(dat_w, wregs[cpm-2], …, wregs[0])`, so a later read of sub-word `k` (which `sram_next_read` takes from bits
    `[(cpm-1-k)*bw, +bw)`) returns exactly what the write to sub-word `k` staged, and the last sub-word `dat_w`. -/
theorem sram_staging_order_any_ratio (c : SramCfg) (s : SramState) (i : SramIn)
    (hw : c.width = c.cpm * c.bw) (hcpm : 0 < c.cpm) (hlen : s.wregs.length = c.cpm - 1)
    (hro : c.readOnly = false) (hsel : c.sel i.bus.adr = true) (hwe : i.bus.we = true)
    (hsub : i.bus.adr % 2 ^ c.wb = c.cpm - 1)
    (hin : c.clampAdr (c.portAdr i.bus.adr i.page) < s.mem.length) :
    let word := ((sram c).next s i).mem.getD (c.clampAdr (c.portAdr i.bus.adr i.page)) 0
    slice 0 c.bw word = i.bus.datW % 2 ^ c.bw ∧
    ∀ k, k < c.cpm - 1 → slice ((c.cpm - 1 - k) * c.bw) c.bw word = (s.wregs.getD k 0) % 2 ^ c.bw :=
  sram_staging_order c s i hw hcpm hlen hro hsel hwe hsub hin

/-- Ratio 4 (2x32 memory on an 8-bit bus, window 1 of 16-word pages): the four bytes written to addresses 16..19
    are read back from the same addresses (big-endian sub-word order inside the memory word 0x11223344). -/
example :
    let c : SramCfg := { bw := 8, pbits := 4, address := 1, width := 32, depth := 2, readOnly := false, init := [] }
    let w := fun (a d : Nat) => ({ bus := { adr := a, re := false, we := true, datW := d }, page := 0 } : SramIn)
    let r := fun (a : Nat) => ({ bus := { adr := a, re := true, we := false, datW := 0 }, page := 0 } : SramIn)
    let fill := [w 16 0x11, w 17 0x22, w 18 0x33, w 19 0x44]
    ((sram c).run fill).mem = [0x11223344, 0] ∧
    [16, 17, 18, 19].map (fun a => sramDatR c ((sram c).run (fill ++ [r a]))) = [0x11, 0x22, 0x33, 0x44] := by
  decide +kernel

/-- **Initial contents**: after reset, word `a` of the window holds `init[a]` truncated to the memory width (0 beyond
    the initialiser). -/
theorem sram_init (c : SramCfg) (a : Nat) (ha : a < c.depth) :
    ((sram c).run []).mem.getD a 0 = trunc c.width (c.init.getD a 0) := by
  show (sram c).init.mem.getD a 0 = _
  simp [sram, List.getD_eq_getElem?_getD, ha]

/-- **A read-only window never changes**, whatever the bus does, for every history. -/
theorem sram_read_only_history (c : SramCfg) (hro : c.readOnly = true) (ins : List SramIn) :
    ((sram c).run ins).mem = ((sram c).run []).mem := by
  show ((sram c).runFrom (sram c).init ins).mem = (sram c).init.mem
  exact Machine.invariant_runFrom (sram c) (fun s => s.mem = (sram c).init.mem)
    (fun s i h => by rw [sram_read_side_effect_free c s i (Or.inr hro)]; exact h) ins _ rfl

/-- **A memory word keeps its value over any stretch of cycles that does not complete a write to it** (reads anywhere,
    accesses to other windows or banks, writes to other words, staged sub-word writes), from any state. -/
theorem sram_word_stable (c : SramCfg) (a : Nat) (quiet : List SramIn) (s : SramState)
    (hq : ∀ i ∈ quiet, ((c.sel i.bus.adr && i.bus.we && !c.readOnly) && (i.bus.adr % 2 ^ c.wb == c.cpm - 1)) = true →
      c.clampAdr (c.portAdr i.bus.adr i.page) ≠ a) :
    ((sram c).runFrom s quiet).mem.getD a 0 = s.mem.getD a 0 := by
  induction quiet generalizing s with
  | nil => rfl
  | cons i is ih =>
    show ((sram c).runFrom ((sram c).next s i) is).mem.getD a 0 = _
    rw [ih _ (fun j hj => hq j (List.mem_cons_of_mem _ hj)), sram_next_mem]
    split
    · rename_i hw
      have hne := hq i (List.mem_cons_self ..) hw
      simp only [List.getD_eq_getElem?_getD]
      rw [List.getElem?_set_ne hne]
    · rfl

/-- **Write, any quiet stretch, read back** (one bus word per memory word): the value written to a word is what a read
    of that word returns after any number of cycles that do not write it — over all such schedules. -/
theorem sram_write_quiet_read (c : SramCfg) (s : SramState) (iw ir : SramIn) (quiet : List SramIn)
    (hcpm : c.cpm = 1) (hw : c.width ≤ c.bw) (hro : c.readOnly = false)
    (hsel : c.sel iw.bus.adr = true) (hwe : iw.bus.we = true)
    (hin : c.clampAdr (c.portAdr iw.bus.adr iw.page) < s.mem.length)
    (hq : ∀ i ∈ quiet, ((c.sel i.bus.adr && i.bus.we && !c.readOnly) && (i.bus.adr % 2 ^ c.wb == c.cpm - 1)) = true →
      c.clampAdr (c.portAdr i.bus.adr i.page) ≠ c.clampAdr (c.portAdr iw.bus.adr iw.page))
    (hrsel : c.sel ir.bus.adr = true) (hrwe : ir.bus.we = false)
    (hsame : c.clampAdr (c.portAdr ir.bus.adr ir.page) = c.clampAdr (c.portAdr iw.bus.adr iw.page)) :
    sramDatR c ((sram c).next ((sram c).runFrom ((sram c).next s iw) quiet) ir) = trunc c.width iw.bus.datW := by
  -- the read returns the word at the address after the quiet stretch, which is the word the write stored
  rw [sram_read_narrow c _ ir hcpm hrsel, sram_read_side_effect_free c _ ir (Or.inl hrwe), hsame,
    sram_word_stable c _ quiet _ hq, sram_commit_word_narrow c s iw hcpm hw hro hsel hwe hin, trunc_trunc_le _ _ _ hw]

/-! ## Gathering: `_sort_gathered_items` and the `AutoCSR` gatherers -/

/-- **Fixed and automatic locations**: whenever `_sort_gathered_items` returns, the slot list is a permutation of
    the items (each exactly once; the other slots hold `reserved` fillers), every item with a fixed location `n`
    is in slot `n`, and no item is dropped.

    Totality does not hold: `sorted_items_rejects_n_eq_len` — a fixed location equal to the running length raises
    `IndexError` (the extension test is `item.n > items_length`); two items fixed at one location raise the
    documented `ValueError`.  Both are rejections, not mis-built banks. -/
theorem sorted_items (fx : List (Option Nat)) (slots : List (Option Nat)) (h : sortGathered fx = .ok slots) :
    (somes slots).Perm (List.range fx.length) ∧
    (∀ (i n : Nat), fx[i]? = some (some n) → slots[n]? = some (some i)) ∧
    fx.length ≤ slots.length :=
  sortGathered_spec fx slots h

/-- The function returns (hence the statement above applies) whenever the fixed locations are
    pairwise distinct and inside the allocated slot list; in particular whenever every fixed `n < len(items)`.
    The full "returns for every conflict-free input" is false: see `sorted_items_rejects_n_eq_len`. -/
theorem sorted_items_partial (fx : List (Option Nat)) (hd : (fx.filterMap id).Nodup)
    (hin : ∀ n : Nat, some n ∈ fx → n < fx.length) : ∃ slots, sortGathered fx = .ok slots :=
  sortGathered_ok fx (fun n hn => Nat.lt_of_lt_of_le (hin n hn) (itemsLength_ge fx fx.length)) hd

theorem sorted_items_rejects_n_eq_len : sortGathered [some 1] = .indexError := sortGathered_indexError_witness

/-- **Gathering** (`AutoCSR.get_csrs/get_memories/get_constants`): the result contains every item of every nested
    module exactly once, in creation (DUID) order. -/
theorem gather_creation_order (items : List GItem) :
    (gatherOrder items).Perm items ∧ (gatherOrder items).Pairwise (fun a b => a.duid ≤ b.duid) :=
  ⟨gatherOrder_perm items, gatherOrder_sorted items⟩

/-- The gathered name (prefix path + own name, as token lists) determines the module path and the own name.
    (As *strings* joined by "_" this is not injective — `a` → `b_c` and `a_b` → `c` collide; exported names are C14's.) -/
theorem gather_names_injective (a b : GItem) (h : a.fullName = b.fullName) : a.path = b.path ∧ a.name = b.name := by
  unfold GItem.fullName at h
  have := List.append_inj' h rfl
  exact ⟨this.1, by simpa using this.2⟩

/-- `sort=True`: in the slot list, every item with a fixed location `n` sits in slot `n`; indices refer to the
    DUID-ordered list. -/
theorem gather_sorted_fixed (items : List GItem) (slots : List (Option Nat)) (h : gatherSorted items = .ok slots)
    (i n : Nat) (hi : ((gatherOrder items)[i]?).map (·.fixed) = some (some n)) : slots[n]? = some (some i) := by
  have := (sorted_items _ slots h).2.1 i n
  apply this
  simpa [List.getElem?_map] using hi

example : (gatherOrder [{ duid := 7, path := [1], name := 0 }, { duid := 3, path := [], name := 1, fixed := some 2 },
                        { duid := 5, path := [1, 2], name := 2 }]).map (·.duid) = [3, 5, 7] ∧
    gatherSorted [{ duid := 7, path := [1], name := 0 }, { duid := 3, path := [], name := 1, fixed := some 2 },
                  { duid := 5, path := [1, 2], name := 2 }] = .ok [some 1, some 2, some 0] := by decide +kernel

/-! ## Non-vacuity

A bank with a 17-bit storage (3 words), a 9-bit device-writable status… on an 8-bit bus, bank number 1 of 8-word
pages: the hypotheses of the theorems above are satisfiable and the conclusions are non-trivial. -/

def demo (ord : WordOrdering) : BankCfg :=
  { bw := 8, ord := ord, pbits := 3, address := 1,
    regs := [{ kind := .storage, size := 17, reset := 0x1ABCD, wfd := true,
               fields := [{ size := 1, offset := 0, pulse := true }, { size := 3, offset := 9 }] },
             { kind := .status, size := 9 },
             { kind := .raw, size := 8 }] }

example : (demo .big).Fits ∧ (demo .little).Fits := by decide +kernel
/-- addresses: big → word 2 @8, word 1 @9, word 0 @10, status words @11,@12, raw @13 -/
example : ((demo .big).wordAdr 0 2, (demo .big).wordAdr 0 0, (demo .big).wordAdr 1 0, (demo .big).wordAdr 2 0) = (8, 10, 12, 13) ∧
    ((demo .little).wordAdr 0 2, (demo .little).wordAdr 0 0) = (10, 8) := by decide +kernel
example : (demo .big).ValidWord 0 2 ∧ ((demo .big).spec 0).kind = .storage ∧ isAtomic 8 ((demo .big).spec 0) = false := by
  decide +kernel
/-- a write of 0xFF to the top word (1 bit wide) changes exactly bit 16; `re` pulses only for word 0 (address 10);
    the pulse field follows `re`; the read data appears one cycle later -/
example :
    let c := demo .big
    let run := fun ins => (bank c).run ins
    ((run [wr 8 0x00]).reg 0).val = 0x0ABCD ∧ ((run [wr 8 0x00]).reg 0).re = false ∧
    ((run [wr 10 0xFF]).reg 0).val = 0x1ABFF ∧ ((run [wr 10 0xFF]).reg 0).re = true ∧
    ((run [wr 10 0xFF, rd 9]).reg 0).re = false ∧ (run [wr 10 0xFF, rd 9]).datR = 0xAB ∧
    (run [wr 10 0xFF, rd 17]).datR = 0 ∧
    fieldOut { size := 1, offset := 0, pulse := true } ((run [wr 10 0xFF]).reg 0).val ((run [wr 10 0xFF]).reg 0).re = 1 ∧
    fieldOut { size := 1, offset := 0, pulse := true } ((run [wr 10 0xFF, rd 9]).reg 0).val ((run [wr 10 0xFF, rd 9]).reg 0).re = 0 := by
  decide +kernel

example : resolveFields [{ size := 1 }, { size := 2, offset := some 4 }, { size := 3 }] =
    some [{ size := 1, offset := 0 }, { size := 2, offset := 4 }, { size := 3, offset := 6 }] ∧
    resolveFields [{ size := 4 }, { size := 2, offset := some 3 }] = none := by decide +kernel

example : sortGathered [none, some 3, none, some 0] = .ok [some 3, some 0, some 2, some 1] ∧
    sortGathered [some 5, none] = .ok [some 1, none, none, none, none, some 0] := by decide +kernel

/-- Two banks (numbers 1 and 2) and a 4x8 memory window (number 3) on one bus: a read of bank 2 returns bank 2's
    register although bank 1 holds non-zero data; an access to an unmapped page reads 0; the memory reads back. -/
def demoArray : ArrayCfg :=
  { banks := [{ bw := 8, ord := .big, pbits := 3, address := 1, regs := [{ kind := .storage, size := 8, reset := 0x11 }] },
              { bw := 8, ord := .big, pbits := 3, address := 2, regs := [{ kind := .storage, size := 8, reset := 0x22 }] }],
    srams := [{ cfg := { bw := 8, pbits := 3, address := 3, width := 8, depth := 4, readOnly := false, init := [] },
                page := none }] }

def abus (a : Nat) (we : Bool) (d : Nat) : ArrayIn :=
  { masters := [{ adr := a, re := !we, we := we, datW := d }], dev := [] }

example :
    let m := bankArray demoArray
    (m.out (m.run [abus 16 false 0]) (abus 0 false 0)).datR = 0x22 ∧
    (m.out (m.run [abus 8 false 0]) (abus 0 false 0)).datR = 0x11 ∧
    (m.out (m.run [abus 40 false 0]) (abus 0 false 0)).datR = 0 ∧
    (m.out (m.run [abus 26 true 0x5A, abus 16 false 0, abus 26 false 0]) (abus 0 false 0)).datR = 0x5A := by decide +kernel

/-! ## The bus glue: `Interface` widths, `Interface.like`, `Interconnect`, `InterconnectShared`, SoC locations

`g : GlueCfg` = master interfaces, the intermediate interface `Interface.like(masters[0])`, slave interfaces and the
bank array, each interface with its own address/data width (assignments truncate).  `g.Uniform w`: all of them have
the widths `w` (what `SoC.do_finalize` builds: every interface gets the handler's `address_width`/`data_width`). -/

/-- `Interface.like` carries BOTH widths of the interface it copies. -/
theorem interface_like_carries_widths (w : IfW) : IfW.like w = w := IfW.like_eq w

/-- **The glue is transparent** for every address and data width: whatever the masters drive (values that fit their
    interfaces), every slave sees exactly the OR of the master signals — no address bit is lost on the way. -/
theorem glue_transparent (g : GlueCfg) (w : IfW) (hu : g.Uniform w) (hk : g.kind = .shared) (ms : List Bus)
    (hl : ms.length = g.masters.length) (hb : ∀ b ∈ ms, b.adr < 2 ^ w.aw ∧ b.datW < 2 ^ w.dw) :
    g.slaveBus ms = orBus ms := g.slaveBus_shared w hu hk ms hl hb

theorem glue_transparent_direct (g : GlueCfg) (w : IfW) (hu : g.Uniform w) (hk : g.kind = .direct) (b : Bus)
    (ms : List Bus) (hl : (b :: ms).length = g.masters.length)
    (hb : ∀ x ∈ b :: ms, x.adr < 2 ^ w.aw ∧ x.datW < 2 ^ w.dw) : g.slaveBus (b :: ms) = b :=
  g.slaveBus_direct w hu hk b ms hl hb

/-- Why the intermediate interface must carry the address width (negative witness on the model's `viaInter`): with a
    15-bit CSR address space and 2 KiB pages, an intermediate interface of only 14 address bits delivers the write to
    bank 33 (address 33·512) at address 1·512, i.e. to bank 1; `Interface.like` of the 15-bit master does not. -/
example :
    let w : IfW := { aw := 15, dw := 8 }
    let b : Bus := { adr := 33 * 512, re := false, we := true, datW := 5 }
    (viaInter { aw := 14, dw := 8 } w b).adr = 1 * 512 ∧ (viaInter (IfW.like w) w b).adr = 33 * 512 := by decide +kernel

/-- The banks of an array sit at pairwise different locations (`SoCCSRHandler` hands out each location once). -/
def DistinctLocs (a : ArrayCfg) : Prop :=
  ∀ j j', j < a.banks.length → j' < a.banks.length → j ≠ j' →
    (a.banks.getD j default).address ≠ (a.banks.getD j' default).address

/-- A bank that is not selected behaves as in a bus-idle cycle: no strobe, back-store unchanged, value changed at most
    by the register's own device-side write. -/
theorem bank_unselected_no_effect (c : BankCfg) (s : BankState) (i : BankIn) (k : Nat) (hk : k < c.regs.length)
    (hkind : (c.spec k).kind ≠ .raw) (h : c.sel i.bus.adr = false) :
    let r' := ((bank c).next s i).reg k
    r'.re = false ∧ r'.back = (s.reg k).back ∧
    r'.val = (if (c.spec k).kind = .storage then devVal (c.spec k) (s.reg k) (i.devOf k) else (s.reg k).val) :=
  next_reg_no_write c s i k hk hkind (by rw [c.hitReg_none_of_unselected _ k h, ite_self])

/-- **An access through the glue reaches exactly the addressed bank's register and no other** — for every address
    width `w.aw`, page size `2^p` words and every location below `2^(w.aw-p)` (= `n_locs`, see `soc_locations`):
    master 0 accesses word `wd` of register `k` of bank `j` while the other masters idle.  Then (1) every bank sees
    exactly that access on its bus (so all single-bank theorems above apply to it), (2) bank `j` decodes it to the
    addressed word, and (3) no other bank is selected (hence keeps its registers, produces no strobe and drives 0:
    `bank_unselected_no_effect`, `bank_unselected_zero`). -/
theorem glue_access_reaches_exactly_addressed_bank (g : GlueCfg) (w : IfW) (hu : g.Uniform w) (hk : g.kind = .shared)
    (p : Nat) (hpb : ∀ j, j < g.array.banks.length → (g.array.banks.getD j default).pbits = p)
    (hdist : DistinctLocs g.array) (hp : p ≤ w.aw)
    (s : ArrayState) (i : ArrayIn) (b : Bus) (n : Nat) (hi : i.masters = b :: List.replicate n zeroBus)
    (hn : n + 1 = g.masters.length) (hdat : b.datW < 2 ^ w.dw)
    (j k wd : Nat) (hj : j < g.array.banks.length)
    (hfit : (g.array.banks.getD j default).Fits) (hv : (g.array.banks.getD j default).ValidWord k wd)
    (hloc : (g.array.banks.getD j default).address < 2 ^ (w.aw - p))
    (hadr : b.adr = (g.array.banks.getD j default).wordAdr k wd) :
    (∀ j', j' < g.array.banks.length →
        ((glueArray g).next s i).banks.getD j' default =
          (bank (g.array.banks.getD j' default)).next (s.banks.getD j' default)
            { bus := b, dev := i.dev.getD j' [] }) ∧
    (g.array.banks.getD j default).hit b.adr = some ((g.array.banks.getD j default).simple k wd) ∧
    (∀ j', j' < g.array.banks.length → j' ≠ j → (g.array.banks.getD j' default).sel b.adr = false) := by
  have hpj := hpb j hj
  have hlt : b.adr < 2 ^ w.aw := by
    rw [hadr]
    exact BankCfg.wordAdr_lt _ k wd w.aw hfit hv (by rw [hpj]; exact hp) (by rw [hpj]; exact hloc)
  have hsb : g.slaveBus i.masters = b := by
    rw [hi, g.slaveBus_shared w hu hk _ (by simp; omega) (by
      intro x hx
      rcases List.mem_cons.mp hx with rfl | hx
      · exact ⟨hlt, hdat⟩
      · rw [List.eq_of_mem_replicate hx]
        exact ⟨Nat.two_pow_pos _, Nat.two_pow_pos _⟩)]
    exact idleBus_eq_zeroBus ▸ orBus_cons_idle b n
  refine ⟨fun j' hj' => by rw [glue_next_bank g s i j' hj', hsb], ?_, ?_⟩
  · rw [hadr]; exact BankCfg.hit_wordAdr _ k wd hfit hv
  · intro j' hj' hne
    have hd := (BankCfg.wordAdr_div _ k wd hfit hv).1
    unfold BankCfg.sel
    rw [hpb j' hj', hadr, ← hpj, hd]
    simp only [beq_eq_false_iff_ne]
    exact fun h => hdist j' j hj' hj hne h.symm

/-- **No aliasing**: two accesses that reach the same word of the same register of a bank carry the same address —
    so (with `glue_transparent`) no two different master addresses below `2^aw` ever reach one register word, and
    (by `glue_access_reaches_exactly_addressed_bank`) one address never reaches two banks. -/
theorem glue_no_alias (c : BankCfg) (adr adr' : Nat) (sc sc' : Simple)
    (h : c.hit adr = some sc) (h' : c.hit adr' = some sc') (hr : sc.reg = sc'.reg) (hw : sc.word = sc'.word) :
    adr = adr' := by
  rw [(c.hit_coords h).2.2, (c.hit_coords h').2.2, hr, hw]

/-- **Locations of a SoC** (`SoCCSRHandler`: `n_locs = alignment//8 * 2**address_width // paging`, 32-bit alignment,
    `paging = 4·2^p`): there are exactly `2^(aw-p)` locations, and every word of a bank at a location `< n_locs` has a
    bus address that fits the `aw` address bits — the range in which the theorem above holds is the whole range the SoC
    hands out. -/
theorem soc_locations (aw p : Nat) (hp : p ≤ aw) :
    csrNLocs 32 aw (4 * 2 ^ p) = 2 ^ (aw - p) ∧
    ∀ loc word, loc < csrNLocs 32 aw (4 * 2 ^ p) → word < 2 ^ p → loc * 2 ^ p + word < 2 ^ aw := by
  refine ⟨csrNLocs_eq aw p hp, fun loc word hl hw => ?_⟩
  rw [csrNLocs_eq aw p hp] at hl
  exact loc_adr_lt aw p loc word hp hl hw

/-! Non-vacuity: 15 address bits, 2 KiB pages, banks at locations 1 and 33 behind `InterconnectShared`: a write to bank
    33 changes bank 33's register only; reading it back returns the value; bank 1 reads its own. -/
def demoGlue : GlueCfg :=
  { kind := .shared, masters := [{ aw := 15, dw := 8 }], slave := { aw := 15, dw := 8 },
    array := { banks := [{ bw := 8, ord := .big, pbits := 9, address := 1, regs := [{ kind := .storage, size := 8, reset := 0x11 }] },
                          { bw := 8, ord := .big, pbits := 9, address := 33, regs := [{ kind := .storage, size := 8, reset := 0x22 }] }],
               srams := [] } }

example : demoGlue.Uniform { aw := 15, dw := 8 } := ⟨by decide, by decide, rfl⟩
example : DistinctLocs demoGlue.array := by
  intro j j' hj hj' hne
  have h2 : demoGlue.array.banks.length = 2 := rfl
  rw [h2] at hj hj'
  match j, j', hj, hj' with
  | 0, 0, _, _ => exact absurd rfl hne
  | 0, 1, _, _ => decide
  | 1, 0, _, _ => decide
  | 1, 1, _, _ => exact absurd rfl hne
example :
    let m := glueArray demoGlue
    let s := m.run [abus (33 * 512) true 0x5A]
    ((s.banks.getD 0 default).reg 0).val = 0x11 ∧ ((s.banks.getD 1 default).reg 0).val = 0x5A ∧
    (m.out (m.run [abus (33 * 512) true 0x5A, abus (33 * 512) false 0]) (abus 0 false 0)).datR = 0x5A ∧
    (m.out (m.run [abus (33 * 512) true 0x5A, abus (1 * 512) false 0]) (abus 0 false 0)).datR = 0x11 := by decide +kernel

/-! ## `CSRBankArray.scan`: from objects to banks, memory windows and constants -/

/-- The banks are exactly the objects with a non-empty description (gathered registers + page registers of their
    memories), in scan order, each at its own location. -/
theorem scan_banks (bw : Nat) (ord : WordOrdering) (pbits : Nat) (objs : List ObjDesc) :
    (scan bw ord pbits objs).banks =
      (objs.filter fun o => !(objRegs bw pbits o).isEmpty).map (objBank bw ord pbits) :=
  scanFrom_banks bw ord pbits objs 0

/-- **Memories never drop or displace registers**: every object that has registers gets a bank at its location whose
    description starts with exactly those registers (register `k` of the object is register `k` of the bank), followed
    by the page registers of its memories. -/
theorem scan_keeps_registers (bw : Nat) (ord : WordOrdering) (pbits : Nat) (objs : List ObjDesc) (o : ObjDesc)
    (ho : o ∈ objs) (hr : o.regs ≠ []) :
    ∃ c ∈ (scan bw ord pbits objs).banks, c.address = o.loc ∧ c.regs = o.regs ++ pageRegs bw pbits o.mems ∧
      ∀ k, k < o.regs.length → c.regs[k]? = o.regs[k]? := by
  refine ⟨objBank bw ord pbits o, ?_, rfl, rfl, fun k hk => ?_⟩
  · rw [scan_banks]
    refine List.mem_map.mpr ⟨o, List.mem_filter.mpr ⟨ho, ?_⟩, rfl⟩
    cases h : o.regs with
    | nil => exact absurd h hr
    | cons x xs => simp [objRegs, h]
  · show (o.regs ++ _)[k]? = _
    exact List.getElem?_append_left hk

/-- **Page links**: a memory window that spans more than one page points at a storage register of exactly `pageBits`
    bits in an existing bank (the bank of its own object). -/
theorem scan_page_link (bw : Nat) (ord : WordOrdering) (pbits : Nat) (objs : List ObjDesc) (slot : SramSlot)
    (b r : Nat) (hs : slot ∈ (scan bw ord pbits objs).srams) (hp : slot.page = some (b, r)) :
    slot.cfg.pageBits ≠ 0 ∧
    ((scan bw ord pbits objs).banks[b]?).bind (fun c => c.regs[r]?) =
      some { kind := .storage, size := slot.cfg.pageBits } := by
  obtain ⟨_, hz, h⟩ := scanFrom_page bw ord pbits objs 0 slot b r hs hp
  exact ⟨hz, by simpa [scan] using h⟩

/-- Non-vacuity: an object with two registers and a 4x8 memory on 2-word pages (one page bit), then a memory-only
    object: one bank `[r0, r1, page]` at location 33, the first window paged by register 2 of bank 0. -/
example :
    let objs : List ObjDesc :=
      [{ regs := [{ kind := .storage, size := 1 }, { kind := .status, size := 1 }],
         mems := [{ width := 8, depth := 4, readOnly := false, init := [], loc := 32 }], consts := [7], loc := 33 },
       { regs := [], mems := [{ width := 8, depth := 2, readOnly := false, init := [3], loc := 63 }], consts := [], loc := 0 }]
    let a := scan 8 .big 1 objs
    a.banks.map (fun c => (c.address, c.regs.map (·.size))) = [(33, [1, 1, 1])] ∧
    a.srams.map (fun m => (m.cfg.address, m.page)) = [(32, some (0, 2)), (63, none)] ∧
    scanConstants 0 objs = [(0, 7)] := by decide +kernel

/-- Every constant of every object is collected exactly once, in scan order (`CSRBankArray.constants`). -/
theorem scan_constants_complete (objs : List ObjDesc) (t : Nat) :
    (scanConstants t objs).map (·.2) = objs.flatMap (·.consts) := by
  induction objs generalizing t with
  | nil => rfl
  | cons o os ih => simp [scanConstants, List.flatMap_cons, ih (t + 1), Function.comp_def]

end Litex.C12
