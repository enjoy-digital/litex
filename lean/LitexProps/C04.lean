import LitexProofs.Stream.HandshakeBasic
import LitexProofs.Stream.HandshakeConv
import LitexProofs.Stream.HandshakeRoute
import LitexProofs.Stream.HandshakeGearbox
import LitexModel.Stream.NumG
import LitexProofs.Stream.HandshakePacketFifo
import LitexProofs.Stream.HandshakeArbiter
import LitexProofs.Stream.HandshakePacketizer
import LitexProofs.Stream.HandshakeGlue
import LitexProofs.Stream.HandshakeFlow
import LitexProofs.Stream.HandshakePipe
/-
  Inventory — every class of `stream.py` and `packet.py`, with its C04 theorems and how the model is tied.
  stab = handshake stability (`KeepsContract`, or the trace form for routers); prog = progress / no livelock
  (`ProgressWithin` K, `DeliversWithin` K', `AcceptsWithin` K_acc); Live = member of the composition-closed class
  `Live`/`Good` (lemmas `X_live`/`X_good`, `stages_good`, `bufferize_good`, `Mirrors.good`), i.e. usable in
  `pipeline_*`/`compose_good` without a side condition.
  Tie: A = exhaustive co-exploration of (netlist, model, pending obligations), B = lock-step co-simulation with a holding
  producer; in both the model-independent monitors run: (S) stability, (P) cooperative watchdog from every visited
  state against the K of the theorem, (F) source.valid/token independent of source.ready.

  stream.py
  | class                         | Lean element                         | stab                      | prog                                  | Live | tie (driver machine)                |
  |-------------------------------|--------------------------------------|---------------------------|---------------------------------------|------|-------------------------------------|
  | Endpoint.connect              | wire                                 | wire_stable               | wire_no_livelock 1, accepts 1         | yes  | A,B `wire`, `stages w`              |
  | PipeValid                     | pipeValid                            | pipeValid_stable          | progress 1, no_livelock 2, accepts 1  | yes  | A,B `pipevalid`                     |
  | PipeReady                     | pipeReady                            | pipeReady_stable          | no_livelock 1, accepts 2              | yes  | A,B `pipeready`                     |
  | Buffer(pv, pr) (4 variants)   | stages (bufferStages pv pr)          | buffer_stable             | buffer_no_livelock_tight 1+Σlat ≤ 2   | yes  | A,B `buffer pv pr`, `buffer_vr`     |
  | _FIFOWrapper/SyncFIFO d ≥ 2   | syncFifo d / syncFifoBuffered d      | syncFifo(_Buffered)_stable| progress 1, no_livelock 2/3, acc 2    | yes  | A,B `syncfifo d`, `syncfifo_buffered d` |
  | SyncFIFO, every depth ≥ 0     | stages (syncFifoStages d buffered)   | syncFifoAny_stable        | syncFifoAny_no_livelock_tight ≤ 3     | yes  | A,B `sfifo d b` (selection in model)|
  | AsyncFIFO                     | —  (two clocks: C05)                 | C05                       | C05                                   | —    | C05                                 |
  | ClockDomainCrossing same cd   | stages (cdcSameStages b)             | cdcSame_stable            | cdcSame_no_livelock_tight ≤ 2         | yes  | A,B `cdcsame b`; other cd: C05      |
  | Delay n                       | delay n / stages (delayStages n)     | delay_stable, delayn_stable | delay(n)_no_livelock(_tight) n+1, accepts 1 | yes | A,B `delay n`, `delayn n`   |
  | Pipeline(m_1..m_n)            | stages l (any stage list) / comp     | pipeline_stable           | pipeline_no_livelock_tight 1+Σlat (tight), ∏K in class, accepts 1 (v,w) | yes | A,B `stages …`, chain3, chain_fb_pr |
  | BufferizeEndpoints            | bufferize bs bd pv pr e (any Good e) | bufferize_stable          | bufferize_no_livelock, up/down, acc 1 | yes  | A,B `bufferize …`, `bufferized_up`  |
  | _UpConverter / Pack           | upConv r                             | upConv_stable             | accepts 1, no_livelock r+1            | yes  | A,B `up …`                          |
  | _DownConverter / Unpack       | downConv r                           | downConv_stable           | no_livelock 1, accepts r              | yes  | A,B `down …`                        |
  | _IdentityConverter            | downConv 1 / wire                    | downConv_stable           | no_livelock 1                         | yes  | A `converter n n`                   |
  | Converter (class selection)   | converterKind + the class chosen     | converter_{up,down,ident}_stable_and_live (stability and windows together)  | yes  | A,B `converter nf nt …` + calls     |
  | StrideConverter               | strideUp r / downConv r (+ Cast)     | strideUp_stable, downConv | accepts 1, no_livelock r+1 / 1        | yes  | A,B `strideup`, `stridedown`        |
  | Gearbox i o                   | gearbox (ioLcm i o) i o              | gearbox_stable (all i,o>0)| progress 1, no_livelock ⌈o/i⌉+1       | yes  | A,B `gearbox i o msb`               |
  | Cast / CombinatorialActor     | mapElem f                            | cast_stable               | no_livelock 1, accepts 1              | yes  | A,B `cast …`                        |
  | Gate                          | gate srd (enable with the sink wires)| gate_stable(+_sharp)      | gate_no_livelock 1 (enabled)          | n/a (control input) | A,B `gate srd`        |
  | Shifter / PipelinedActor(2)   | shifter dw                           | shifter_stable (ShiftHeld)| accepts 1, no_livelock 3              | n/a (control input) | A,B `shifter dw`     |
  | PipelinedActor(L), BinaryActor| pipeActor L (every L ≥ 0)            | pipeActor_stable          | pipeActor_progress (acc 1), no_livelock L+1 | yes | A,B `pipeactor L`               |
  | Multiplexer / Demultiplexer   | muxOut / demuxOut                    | mux_stable, demux_stable (sel held) | mux_progress, demux_progress | n/a | R,B0 `mux n`, `demux n`, `muxw`, `demuxw` |
  | Crossbar                      | crossbar n (= demux ∘ mux)           | crossbar_stable (sels with the sink wires) | crossbar_no_livelock 1 (routed) | n/a (control) | A,B `crossbar n`        |
  | Monitor                       | monitored e (Monitor on e.source)    | monitored_stable          | monitored_no_livelock, _transparent   | yes  | A,B `monitored …`; B0 read-back of the watched endpoint |
  | EndpointDescription, Endpoint | layouts only (widths: C03 check)      | —                         | —                                     | —    | —                                   |

  packet.py
  | Status                        | status                               | —                         | status_first_last, status_outputs     | —    | A0,B0 `status`                      |
  | Arbiter                       | arbiter n                            | arbiter_stable            | arbiter_progress, _progress_subset 2, no_starvation n | — | AP,BP `arbiter n`       |
  | Dispatcher                    | dispatcher m oneHot                  | (comb: as Demultiplexer)  | dispatcher_progress 1                 | —    | AP,BP `dispatcher m oh`             |
  | Packetizer (aligned)          | packetizer c                         | packetizer_stable         | packetizer_no_livelock 1, packetizer_accepts W+1 | — | AP,BP `packetizer …`          |
  | Depacketizer (aligned)        | depacketizer c                       | depacketizer_stable       | depacketizer_no_livelock W+1          | —    | AP,BP `depacketizer …`              |
  | Packetizer, any header length | packetizer c                         | packetizer_stable_partial (FirstBeatHeld: single-beat corner only; neg. witness) | packetizer_no_livelock_any 1; sink service: neg. witness (C16 single-beat) | — | AP,BP |
  | Depacketizer unaligned        | depacketizer c                       | OPEN (monitors, UOk dom.) | OPEN (monitors; open C16 findings)    | —    | AP,BP                               |
  | PacketFIFO plain              | packetFifo pd qd                     | (FIFO outputs: syncFifo)  | packetfifo_progress 1, no_livelock pd+1 (packets ≤ pd) | — | AP,BP `packetfifo` |
  | PacketFIFO buffered           | packetFifoBuffered pd qd (pd,qd ≥ 2) | (register outputs)        | packetfifo_buffered_progress 1, no_livelock pd+2 (packets ≤ pd) | — | AP,BP `packetfifo_buffered` |
  | Header, HeaderField           | C16                                  | —                         | —                                     | —    | C16                                 |
-/
/-
  C04 — Stream elements keep the handshake contract and never stall forever.

  Vocabulary (definitions in `LitexProofs/Stream/Handshake.lean`, `LitexModel/Stream/Core.lean`):
  * `In` = what the environment drives in one cycle (sink.valid, sink token, source.ready); an input list is one
    valid/ready schedule together with one token sequence (garbage tokens allowed while valid = 0).
  * `StableIn e s ins`  — along `ins`, started in state `s`, the producer keeps the contract: a token offered and
    not accepted (the element's own `sink.ready` was low) is offered again, unchanged, in the next cycle.
  * `StableOut e s ins` — the element keeps the same contract on its source: `source.valid ∧ ¬source.ready` at
    cycle `t` implies `source.valid` and the same payload/param/first/last at `t+1` (`contract_index_form`).
  * `KeepsContract e`   — `StableIn → StableOut` from **every reachable state** and for every continuation.
  * `Coop i`            — a cooperative cycle: valid = 1 and ready = 1 (any token).
  * `ProgressWithin e K`  — from every reachable state, `n*K` cooperative cycles contain ≥ `n` handshakes.
  * `DeliversWithin e K`  — from every reachable state, `n*K` cooperative cycles deliver ≥ `n` tokens.
  * `AcceptsWithin e K`   — from every reachable state, `n*K` cooperative cycles accept ≥ `n` tokens (the sink is
    served); `…WithinC e C K` are the same with a stronger cooperation assumption `C` on each cycle (Gate: enabled).
  * `KeepsContractX e X`  — `KeepsContract` under an extra, explicit assumption `X` on each cycle boundary
    (Shifter: `shift` held while a token waits at the source).
  Names: `X_progress` states `ProgressWithin` for the basic elements, FIFOs, `bufferVR`, `chain3`, the gearbox and
  pipelines, and the stronger `AcceptsWithin … 1` (see `AcceptsWithinC.progress`) for `upConv`, `strideUp`, `shifter`,
  `delay`, `bufferized` and `pipeActor`, whose sink follows `source.ready`.
  The bounds `K` of the single elements and the additive windows of pipelines of identity stages
  (`pipeline_no_livelock_tight`: 1 + Σ stage latencies) are tight (the examples next to them attain them); monitor (P)
  reports, from every explored state of the real netlist, any cooperative run without a handshake / delivery / sink
  handshake longer than `K`.  The bounds obtained through the composition-closed class `Live` (`bufferize_*`,
  `compose_good`, `pipeline_no_livelock`) are products of the element windows: valid for every composition, tight
  for cascaded converters, generous otherwise; monitor (P) enforces them as upper bounds.
-/
namespace Litex.C04
open Litex.Stream Litex.Stream.Elem
variable {α β γ σ τ : Type}

/-- Stability lifting: a one-cycle lemma (`StepStable`: the invariant is inductive and `HoldsIn` between two
    consecutive cycles implies `HoldsOut` between them) gives the contract along every input list. -/
theorem stable_lifting {e : Elem α β σ} {Inv : σ → Prop} (h : StepStable e Inv)
    (s : σ) (hs : Inv s) (ins : List (In α)) : StableIn e s ins → StableOut e s ins :=
  stable_of_step h s hs ins

/-- What `StableOut` says cycle by cycle: if at cycle `t` the source offered (`o.valid`) and the consumer did not
    take (`x.ready = false`), then at `t+1` the source still offers the identical token. -/
theorem contract_index_form (e : Elem α β σ) (s : σ) (ins : List (In α)) (h : StableOut e s ins)
    (t : Nat) (o o' : Out β) (x : In α)
    (h1 : (e.outs s ins)[t]? = some o) (h2 : (e.outs s ins)[t + 1]? = some o') (h3 : ins[t]? = some x) :
    o.valid = true → x.ready = false → (o'.valid = true ∧ o'.tok = o.tok) :=
  match ins, h, h3 with
  | i :: is, h, h3 => stableOutFrom_index e is s i h t o o' x h1 h2 h3

/-- What suffices for `StableIn`, cycle by cycle: the producer re-offers at `t+1` the token it offered at `t`
    whenever `sink.ready` was low at `t`. -/
theorem producer_index_form (e : Elem α β σ) (s : σ) (ins : List (In α))
    (h : ∀ (t : Nat) (x x' : In α) (o : Out β),
        ins[t]? = some x → ins[t + 1]? = some x' → (e.outs s ins)[t]? = some o →
        x.valid = true → o.ready = false → (x'.valid = true ∧ x'.tok = x.tok)) : StableIn e s ins :=
  match ins, h with
  | [], _ => trivial
  | i :: is, h => stableInFrom_of_index e is s i h

/-- Composition: the contract of `a ⟫ b` (a.source wired to b.sink as `Endpoint.connect`/`Pipeline` do)
    follows from the one-cycle lemmas of `a` and `b`. -/
theorem stable_composition {a : Elem α β σ} {b : Elem β γ τ} {Ia : σ → Prop} {Ib : τ → Prop}
    (ha : StepStable a Ia) (hb : StepStable b Ib) (s : σ × τ) (hsa : Ia s.1) (hsb : Ib s.2)
    (ins : List (In α)) : StableIn (a.comp b) s ins → StableOut (a.comp b) s ins :=
  stable_of_step (ha.comp hb) s ⟨hsa, hsb⟩ ins

/-- Progress lifting: if every window of `K` cooperative cycles from an invariant state contains a
    handshake, then `n*K` cooperative cycles contain at least `n`: handshakes never stop. -/
theorem progress_lifting (e : Elem α β σ) (Inv : σ → Prop) (hstep : ∀ s i, Inv s → Inv (e.step s i)) (K : Nat)
    (hwin : ∀ s ins, Inv s → (∀ i ∈ ins, Coop i) → ins.length = K → 1 ≤ e.hsCount s ins)
    (n : Nat) (s : σ) (ins : List (In α)) (hs : Inv s) (hc : ∀ i ∈ ins, Coop i) (hlen : n * K ≤ ins.length) :
    n ≤ e.hsCount s ins := by
  rw [hsCount_eq]
  exact tally_ge_of_window e Inv (fun _ => Coop) (fun s i h _ => hstep s i h) e.hsCnt K
    (fun s ins hs hc hl => by rw [← hsCount_eq]; exact hwin s ins hs ((runC_const e Coop ins s).1 hc) hl)
    n s ins hs ((runC_const e Coop ins s).2 hc) hlen

theorem delivery_lifting (e : Elem α β σ) (Inv : σ → Prop) (hstep : ∀ s i, Inv s → Inv (e.step s i)) (K : Nat)
    (hwin : ∀ s ins, Inv s → (∀ i ∈ ins, Coop i) → ins.length = K → 1 ≤ (e.delivered s ins).length)
    (n : Nat) (s : σ) (ins : List (In α)) (hs : Inv s) (hc : ∀ i ∈ ins, Coop i) (hlen : n * K ≤ ins.length) :
    n ≤ (e.delivered s ins).length := by
  rw [delivered_length]
  exact tally_ge_of_window e Inv (fun _ => Coop) (fun s i h _ => hstep s i h) e.delCnt K
    (fun s ins hs hc hl => by rw [← delivered_length]; exact hwin s ins hs ((runC_const e Coop ins s).1 hc) hl)
    n s ins hs ((runC_const e Coop ins s).2 hc) hlen

theorem pipeValid_stable (z : Tok α) : KeepsContract (pipeValid z) :=
  keepsContract_of_stepStable (pipeValid_stepStable z) trivial

theorem pipeValid_progress (z : Tok α) : ProgressWithin (pipeValid z) 1 :=
  ((pipeValid_readyTransparent z).accepts trivial (fun _ _ _ => trivial)).progress

theorem pipeValid_no_livelock (z : Tok α) : DeliversWithin (pipeValid z) 2 :=
  (pipeValid_good z).delivers trivial

theorem pipeReady_stable (z : Tok α) : KeepsContract (pipeReady z) :=
  (pipeReady_good z).keepsContract (prInv_init z)

theorem pipeReady_no_livelock (z : Tok α) : DeliversWithin (pipeReady z) 1 :=
  (pipeReady_good z).delivers (prInv_init z)

theorem pipeReady_progress (z : Tok α) : ProgressWithin (pipeReady z) 1 :=
  (pipeReady_no_livelock z).progress

/-! ## Wire (`Endpoint.connect`, `SyncFIFO(depth=0)`, same-domain unbuffered `ClockDomainCrossing`) -/

theorem wire_stable : KeepsContract (wire (α := α)) :=
  keepsContract_of_stepStable wire_stepStable trivial

theorem wire_no_livelock : DeliversWithin (wire (α := α)) 1 :=
  wire_good.delivers trivial

theorem wire_progress : ProgressWithin (wire (α := α)) 1 := wire_no_livelock.progress

/-! ## SyncFIFO (Migen `SyncFIFO`, fwft) -/

theorem syncFifo_stable (depth : Nat) (z : Tok α) : KeepsContract (syncFifo depth z) :=
  keepsContract_of_stepStable (syncFifo_stepStable depth z) (fifoInv_init depth z)

/-- Any depth ≥ 1: a handshake in every cooperative cycle (a full FIFO is a non-empty FIFO). -/
theorem syncFifo_progress (depth : Nat) (hd : 0 < depth) (z : Tok α) : ProgressWithin (syncFifo depth z) 1 :=
  progress_of_hs_now (syncFifo_inv_step depth z) (fifoInv_init depth z) (fun q i _ hc => syncFifo_hs_now depth hd z q i hc)

theorem syncFifo_no_livelock (depth : Nat) (hd : 0 < depth) (z : Tok α) :
    DeliversWithin (syncFifo depth z) 2 :=
  (syncFifo_good depth hd z).delivers (fifoInv_init depth z)

/-- The hypothesis `0 < depth` is needed: the queue model with depth 0 never accepts (LiteX builds a wire for
    depth 0 and a `Buffer` for depth 1, and never instantiates the Migen FIFO below depth 2). -/
example : (syncFifo 0 (⟨0, false, false⟩ : Tok Nat)).hsCount []
    [⟨true, ⟨1, false, false⟩, true⟩, ⟨true, ⟨1, false, false⟩, true⟩, ⟨true, ⟨1, false, false⟩, true⟩] = 0 := by
  decide

/-! ## SyncFIFOBuffered (Migen `SyncFIFOBuffered`: non-fwft FIFO + output register) -/

theorem syncFifoBuffered_stable (depth : Nat) (hd : 1 ≤ depth) (z : Tok α) :
    KeepsContract (syncFifoBuffered depth z) :=
  keepsContract_of_stepStable (syncFifoBuffered_stepStable depth z) (fbInv_init depth z)

/-- Depth ≥ 2 (the only depths LiteX instantiates): a handshake in every cooperative cycle.  Uses the
    invariant "output register empty → inner FIFO holds ≤ 1 word". -/
theorem syncFifoBuffered_progress (depth : Nat) (hd : 2 ≤ depth) (z : Tok α) :
    ProgressWithin (syncFifoBuffered depth z) 1 :=
  progress_of_hs_now (syncFifoBuffered_inv_step depth z) (fbInv_init depth z) (syncFifoBuffered_hs_now depth hd z)

/-- At least one delivery every 3 cooperative cycles (write, inner read, output register). -/
theorem syncFifoBuffered_no_livelock (depth : Nat) (hd : 1 ≤ depth) (z : Tok α) :
    DeliversWithin (syncFifoBuffered depth z) 3 :=
  (syncFifoBuffered_good depth hd z).delivers (fbInv_init depth z)

/-! ## Buffer(pipe_valid=True, pipe_ready=True) = PipeValid ⟫ PipeReady -/

theorem bufferVR_stable (z : Tok α) : KeepsContract (bufferVR z) :=
  ((pipeValid_good z).comp (pipeReady_good z)).keepsContract ⟨trivial, prInv_init z⟩

theorem bufferVR_progress (z : Tok α) : ProgressWithin (bufferVR z) 1 :=
  progress_of_hs_now ((pipeValid_good z).comp (pipeReady_good z)).live.inv_step ⟨trivial, prInv_init z⟩ (bufferVR_hs_now z)

theorem bufferVR_no_livelock (z : Tok α) : DeliversWithin (bufferVR z) 2 :=
  ((pipeValid_good z).comp (pipeReady_good z)).delivers ⟨trivial, prInv_init z⟩

/-! ## The sink is served (`AcceptsWithin`) — basic elements -/

theorem pipeValid_accepts (z : Tok α) : AcceptsWithin (pipeValid z) 1 :=
  (pipeValid_readyTransparent z).accepts trivial (fun _ _ _ => trivial)

/-- A parked token leaves in one cycle, then the sink is ready again. -/
theorem pipeReady_accepts (z : Tok α) : AcceptsWithin (pipeReady z) 2 :=
  (pipeReady_accMeasure z).accepts (prInv_init z)

theorem wire_accepts : AcceptsWithin (wire (α := α)) 1 :=
  wire_readyTransparent.accepts trivial (fun _ _ _ => trivial)

theorem cast_accepts (f : α → β) : AcceptsWithin (mapElem f) 1 :=
  (mapElem_readyTransparent f).accepts trivial (fun _ _ _ => trivial)

/-- A full FIFO pops under a ready consumer and is writable in the next cycle. -/
theorem syncFifo_accepts (depth : Nat) (hd : 0 < depth) (z : Tok α) : AcceptsWithin (syncFifo depth z) 2 :=
  (syncFifo_accMeasure depth hd z).accepts (fifoInv_init depth z)

theorem syncFifoBuffered_accepts (depth : Nat) (hd : 2 ≤ depth) (z : Tok α) :
    AcceptsWithin (syncFifoBuffered depth z) 2 :=
  (syncFifoBuffered_accMeasure depth (by omega) z).accepts (fbInv_init depth z)

/-! ## Progress through composition

  Delivery measures (`DelMeasure`, `HandshakeComp.lean`) compose through `a ⟫ b` when `a` is a *front* element (offers one
  cycle after any cycle with sink.valid: PipeValid, PipeReady, wire, FIFO depth ≥ 2, down-converter, Cast) or `b` is a
  *back* element (PipeValid).  Used below for `Delay`, `chain3` and `bufferized`; `Buffer`, `BufferizeEndpoints` and
  `Pipeline` in general go through the closed classes `Good` (product windows) and `Drain` (additive windows). -/

theorem compose_progress_front {a : Elem α β σ} {b : Elem β γ τ} {Ia : σ → Prop} {Ib : τ → Prop}
    {hot : σ → Bool} {μ : τ → Nat} {B : Nat} (ha : Front a Ia hot) (hb : DelMeasure b Ib μ B)
    (h0a : Ia a.init) (h0b : Ib b.init) : DeliversWithin (a.comp b) (B + 2) :=
  (ha.comp hb).delivers ⟨h0a, h0b⟩

theorem compose_progress_back {a : Elem α β σ} {b : Elem β γ τ} {Ia : σ → Prop} {Ib : τ → Prop}
    {full : τ → Bool} {μ : σ → Nat} {B : Nat} (ha : DelMeasure a Ia μ B) (hb : Back b Ib full)
    (h0a : Ia a.init) (h0b : Ib b.init) : DeliversWithin (a.comp b) (B + 2) :=
  (Back.comp ha hb).delivers ⟨h0a, h0b⟩

/-- An element whose `sink.ready` follows `source.ready` accepts in every cooperative cycle; the class is closed
    under `⟫` (`ReadyTransparent.comp`). -/
theorem compose_accepts {a : Elem α β σ} {b : Elem β γ τ} {Ia : σ → Prop} {Ib : τ → Prop}
    (ha : ReadyTransparent a Ia) (hb : ReadyTransparent b Ib)
    (hsa : ∀ s i, Ia s → Ia (a.step s i)) (hsb : ∀ s i, Ib s → Ib (b.step s i))
    (h0a : Ia a.init) (h0b : Ib b.init) : AcceptsWithin (a.comp b) 1 :=
  (ha.comp hb).accepts ⟨h0a, h0b⟩ (comp_inv_step hsa hsb)

/-! ## General progress of `a ⟫ b` (beyond the front/back classes)

  Weakest sufficient condition proved (`OfferMeasure`, `IdleMono`: `HandshakeComp.lean`).  The product `(Bb + 1)·(Na + 1)`
  cannot be improved in general (two cascaded up-converters need `r₁·r₂` sub-words). -/

theorem compose_progress_general {a : Elem α β σ} {b : Elem β γ τ} {Ia : σ → Prop} {Ib : τ → Prop}
    {ν : σ → Nat} {Na : Nat} {μ : τ → Nat} {Bb : Nat}
    (ha : OfferMeasure a Ia ν Na) (hb : DelMeasure b Ib μ Bb) (hm : IdleMono b Ib μ)
    (h0a : Ia a.init) (h0b : Ib b.init) : DeliversWithin (a.comp b) (Bb * (Na + 1) + Na + 1) :=
  (ha.comp hb hm).delivers ⟨h0a, h0b⟩

/-- Instance outside both classes: a buffered FIFO (needs two cycles to offer) in front of a PipeReady — the
    driver's `chain_fb_pr d`, compared with `Pipeline(SyncFIFO(d, buffered=True), PipeReady)`. -/
theorem bufferedFifo_pipeReady_no_livelock (depth : Nat) (hd : 1 ≤ depth) (z : Tok α) :
    DeliversWithin ((syncFifoBuffered depth z).comp (pipeReady z)) 3 :=
  compose_progress_general (syncFifoBuffered_live depth hd z).offer (pipeReady_live z).measure (pipeReady_live z).idleMono
    (fbInv_init depth z) (prInv_init z)

theorem bufferedFifo_pipeReady_stable (depth : Nat) (hd : 1 ≤ depth) (z : Tok α) :
    KeepsContract ((syncFifoBuffered depth z).comp (pipeReady z)) :=
  keepsContract_of_stepStable ((syncFifoBuffered_stepStable depth z).comp (pipeReady_stepStable z))
    ⟨fbInv_init depth z, prInv_init z⟩

/-- An up-converter (offers after up to `r` sub-words) in front of a PipeReady: a word at least every `r + 1`
    cooperative cycles — the bound of the converter alone, so here the general theorem is tight. -/
theorem upConv_pipeReady_no_livelock {π : Type} (r : Nat) (hr : 0 < r) (z : α) (p0 : π) (z2 : Tok (UpWord α π)) :
    DeliversWithin ((upConv r z p0).comp (pipeReady z2)) (0 * (r + 1) + r + 1) :=
  compose_progress_general (upConv_live r hr z p0).offer (pipeReady_live z2).measure (pipeReady_live z2).idleMono
    (upInv_init r hr z p0) (prInv_init z2)

/-! ## _UpConverter / Pack (`upConv r`, `r ≥ 1`) -/

theorem upConv_stable {π : Type} (r : Nat) (z : α) (p0 : π) : KeepsContract (upConv r z p0) :=
  keepsContract_of_stepStable (upConv_stepStable r z p0) trivial

/-- `sink.ready = ~strobe_all | source.ready`: a sink handshake in every cooperative cycle. -/
theorem upConv_progress {π : Type} (r : Nat) (hr : 0 < r) (z : α) (p0 : π) : AcceptsWithin (upConv r z p0) 1 :=
  (upConv_readyTransparent r z p0).accepts (upInv_init r hr z p0) (upConv_inv_step r hr z p0)

/-- A word at least every `r + 1` cooperative cycles (`r` sub-words, then the strobe cycle). -/
theorem upConv_no_livelock {π : Type} (r : Nat) (hr : 0 < r) (z : α) (p0 : π) :
    DeliversWithin (upConv r z p0) (r + 1) :=
  (upConv_live r hr z p0).delivers (upInv_init r hr z p0)

/-! ## StrideConverter, up-converting (`strideUp r`: the param register is loaded together with a sub-word
    (see `LitexModel/Stream/Conv.lean`), so the plain contract holds; a register reloaded on every clock edge would let `source.param` follow
    the idle sink lines) -/

theorem strideUp_stable {π : Type} (r : Nat) (z : α) (p0 : π) : KeepsContract (strideUp r z p0) :=
  keepsContract_of_stepStable ((strideUp_mirrors r z p0).stepStable (upConv_stepStable r z p0)) trivial

theorem strideUp_progress {π : Type} (r : Nat) (hr : 0 < r) (z : α) (p0 : π) :
    AcceptsWithin (strideUp r z p0) 1 :=
  ((strideUp_mirrors r z p0).readyTransparent (upConv_readyTransparent r z p0)).accepts (upInv_init r hr z p0)
    ((strideUp_mirrors r z p0).live (upConv_live r hr z p0)).inv_step

theorem strideUp_no_livelock {π : Type} (r : Nat) (hr : 0 < r) (z : α) (p0 : π) :
    DeliversWithin (strideUp r z p0) (r + 1) :=
  ((strideUp_mirrors r z p0).live (upConv_live r hr z p0)).delivers (upInv_init r hr z p0)

/-! ## _DownConverter / Unpack / StrideConverter down (`downConv r`) -/

theorem downConv_stable {π : Type} (r : Nat) (z : α) : KeepsContract (downConv (π := π) r z) :=
  keepsContract_of_stepStable (downConv_stepStable r z) trivial

/-- `source.valid = sink.valid`: a delivery in every cooperative cycle. -/
theorem downConv_no_livelock {π : Type} (r : Nat) (hr : 0 < r) (z : α) :
    DeliversWithin (downConv (π := π) r z) 1 :=
  (downConv_live r hr z).delivers (downInv_init r hr z)

theorem downConv_accepts {π : Type} (r : Nat) (hr : 0 < r) (z : α) :
    AcceptsWithin (downConv (π := π) r z) (r - 1 + 1) :=
  (downConv_accMeasure r hr z).accepts (downInv_init r hr z)

/-! ## Cast (`mapElem f`, any combinational re-labelling of the data) -/

theorem cast_stable (f : α → β) : KeepsContract (mapElem f) :=
  keepsContract_of_stepStable (mapElem_stepStable f) trivial

theorem cast_no_livelock (f : α → β) : DeliversWithin (mapElem f) 1 :=
  (mapElem_live f).delivers trivial

/-! ## Gate

  The model carries `enable` with the sink-side wires: a sink token is `(payload, enable)`.  The producer contract
  `StableIn` therefore *includes* "enable is held while a token is refused" — the explicit selector hypothesis of
  this element.  Without it the gate retracts by design (negative witness below). -/

theorem gate_stable (srd : Bool) (z : α) : KeepsContract (gate srd z) :=
  keepsContract_of_stepStable (gate_stepStable srd z) trivial

/-- Sharper one-cycle form with the two roles separated: the *producer* re-offers valid/payload/first/last of a
    refused token (`GateHoldsIn`: nothing is asked of `enable`), and whoever drives `enable` holds it while a
    token waits at the *source* (`EnableHeld`). -/
theorem gate_stable_sharp (srd : Bool) (z : α) (i i' : In (α × Bool))
    (hin : GateHoldsIn i i' ((gate srd z).out () i).ready) (hen : EnableHeld i i' ((gate srd z).out () i)) :
    HoldsOut ((gate srd z).out () i) ((gate srd z).out ((gate srd z).step () i) i') i := by
  obtain ⟨iv, ⟨⟨ip, ie⟩, ifi, ila⟩, ir⟩ := i
  obtain ⟨jv, ⟨⟨jp, je⟩, jfi, jla⟩, jr⟩ := i'
  intro hv hr
  simp only [gate, Elem.out, GateHoldsIn, EnableHeld] at *
  cases ie with
  | false => simp at hv
  | true =>
    simp only [if_true] at hv hin hen ⊢
    subst hv; subst hr
    obtain ⟨h1, h2, h3, h4⟩ := hin rfl rfl
    have h5 := hen rfl rfl
    subst h1; subst h2; subst h3; subst h4; subst h5
    simp

theorem gate_no_livelock (srd : Bool) (z : α) : DeliversWithinC (gate srd z) GateCoop 1 :=
  (Measure.ofNow (Inv := fun _ => True) (fun _ _ _ _ => trivial) (fun s i _ hc => gate_del_now srd z s i hc)).deliversC
    trivial (fun _ _ _ => trivial)

/-- Negative witness: the payload is held but `enable` drops while the token waits → `source.valid` retracts. -/
example :
    let ins : List (In (Nat × Bool)) := [⟨true, ⟨(5, true), false, false⟩, false⟩, ⟨true, ⟨(5, false), false, false⟩, false⟩]
    ¬ StableOut (gate false (0 : Nat)) () ins := by
  simp [StableOut, StableOutFrom, HoldsOut, gate, Elem.out]

/-! ## Shifter (PipelinedActor, latency 2)

  `source.data` is selected combinationally by the `shift` input (sink token data = (data, shift)); the contract
  needs `ShiftHeld`: while a token waits at the source (`valid_2 ∧ ¬source.ready`) the `shift` input is held. -/

theorem shifter_stable (dw : Nat) : KeepsContractX (shifter dw) ShiftHeld :=
  keepsContractX_of_stepStable (shifter_stepStable dw) trivial

theorem shifter_progress (dw : Nat) : AcceptsWithin (shifter dw) 1 :=
  (shifter_readyTransparent dw).accepts trivial (fun _ _ _ => trivial)

/-- `pipe_ce = source.ready | ~valid`: a delivery at least every `L + 1 = 3` cooperative cycles. -/
theorem shifter_no_livelock (dw : Nat) : DeliversWithin (shifter dw) 3 :=
  (shifter_measure dw).delivers trivial

/-- Negative witness: `shift` moves (0 → 1) while the token waits → the source data changes (r = 0b1001:
    `r[0:2] = 1`, `r[1:3] = 0`). -/
example :
    let s : ShState := { v1 := false, v2 := true, f1 := false, f2 := false, l1 := false, l2 := false, rlo := 1, rhi := 2 }
    let i  : In (Nat × Nat) := ⟨false, ⟨(0, 0), false, false⟩, false⟩
    let i' : In (Nat × Nat) := ⟨false, ⟨(0, 1), false, false⟩, false⟩
    ¬ HoldsOut ((shifter 2).out s i) ((shifter 2).out ((shifter 2).step s i) i') i := by
  intro s i i' h
  have h2 := (h rfl rfl).2
  revert h2
  decide

/-! ## Delay n (n PipeValid stages in a Pipeline) -/

theorem delay_stable (z : Tok α) (n : Nat) : KeepsContract (delay z n) :=
  keepsContract_of_stepStable (delay_stepStable z n) trivial

theorem delay_progress (z : Tok α) (n : Nat) : AcceptsWithin (delay z n) 1 :=
  (delay_readyTransparent z n).accepts trivial (fun _ _ _ => trivial)

theorem delay_no_livelock (z : Tok α) (n : Nat) : DeliversWithin (delay z n) (n + 1) := by
  obtain ⟨μ, h⟩ := delay_measure z n
  exact h.delivers trivial

/-! ## BufferizeEndpoints around an _UpConverter: PipeValid ⟫ upConv ⟫ PipeValid (a 3-element composition) -/

theorem bufferized_stable {π : Type} (r : Nat) (z1 : Tok (α × π)) (z : α) (p0 : π) (z2 : Tok (UpWord α π)) :
    KeepsContract ((pipeValid z1).comp ((upConv r z p0).comp (pipeValid z2))) :=
  keepsContract_of_stepStable
    ((pipeValid_stepStable z1).comp ((upConv_stepStable r z p0).comp (pipeValid_stepStable z2)))
    ⟨trivial, trivial, trivial⟩

theorem bufferized_no_livelock {π : Type} (r : Nat) (hr : 0 < r) (z1 : Tok (α × π)) (z : α) (p0 : π)
    (z2 : Tok (UpWord α π)) :
    DeliversWithin ((pipeValid z1).comp ((upConv r z p0).comp (pipeValid z2))) (r + 3) :=
  ((pipeValid_front z1).comp (Back.comp (upConv_live r hr z p0).measure (pipeValid_back z2))).delivers
    ⟨trivial, upInv_init r hr z p0, trivial⟩

theorem bufferized_progress {π : Type} (r : Nat) (hr : 0 < r) (z1 : Tok (α × π)) (z : α) (p0 : π)
    (z2 : Tok (UpWord α π)) :
    AcceptsWithin ((pipeValid z1).comp ((upConv r z p0).comp (pipeValid z2))) 1 :=
  ((pipeValid_readyTransparent z1).comp
    ((upConv_readyTransparent r z p0).comp (pipeValid_readyTransparent z2))).accepts
    ⟨trivial, upInv_init r hr z p0, trivial⟩
    ((pipeValid_front z1).comp (Back.comp (upConv_live r hr z p0).measure (pipeValid_back z2))).inv_step

/-- The driver's `bufferized_up r` machine is this composition. -/
example (r : Nat) : bufferizedUp r =
    (pipeValid ⟨(0, 0), false, false⟩).comp ((upConv r 0 0).comp (pipeValid ⟨⟨List.replicate r 0, 0, 0⟩, false, false⟩)) := rfl

/-! ## A mixed 3-element Pipeline: PipeValid ⟫ SyncFIFO(depth) ⟫ PipeReady -/

theorem chain3_stable (depth : Nat) (z : Tok α) :
    KeepsContract ((pipeValid z).comp ((syncFifo depth z).comp (pipeReady z))) :=
  keepsContract_of_stepStable
    ((pipeValid_stepStable z).comp ((syncFifo_stepStable depth z).comp (pipeReady_stepStable z)))
    ⟨trivial, fifoInv_init depth z, prInv_init z⟩

/-- PipeReady delivers at once (B = 0), the FIFO and PipeValid in front of it are front elements: a delivery at
    least every 3 cooperative cycles from every reachable state of the chain. -/
theorem chain3_no_livelock (depth : Nat) (hd : 2 ≤ depth) (z : Tok α) :
    DeliversWithin ((pipeValid z).comp ((syncFifo depth z).comp (pipeReady z))) 3 :=
  ((pipeValid_front z).comp ((syncFifo_front depth hd z).comp (pipeReady_live z).measure)).delivers
    ⟨trivial, fifoInv_init depth z, prInv_init z⟩

/-- ... and a handshake in every cooperative cycle (parked token → delivery; FIFO non-empty → delivery through
    PipeReady; FIFO empty → writable → PipeValid accepts). -/
theorem chain3_progress (depth : Nat) (hd : 0 < depth) (z : Tok α) :
    ProgressWithin ((pipeValid z).comp ((syncFifo depth z).comp (pipeReady z))) 1 :=
  progress_of_hs_now
    ((pipeValid_stepStable z).comp ((syncFifo_stepStable depth z).comp (pipeReady_stepStable z))).inv_step
    ⟨trivial, fifoInv_init depth z, prInv_init z⟩ (fun s i hs hc => chain3_hs_now depth hd z s i hs.2.2 hc)

/-! ## Gearbox (`L = io_lcm` as computed by the constructor) -/

theorem gearbox_stable (i o : Nat) (hi : 0 < i) (ho : 0 < o) (z : α) :
    KeepsContract (gearbox (ioLcm i o) i o z) :=
  (gearbox_good i o hi ho z).keepsContract (gbInv_init i o hi ho z)

/-- `io_lcm ≥ 2·max(i, o)`: whenever the sink is not ready (`level ≥ io_lcm − i`) the source is valid
    (`level ≥ o`), so every cooperative cycle has a handshake — no deadlock. -/
theorem gearbox_progress (i o : Nat) (hi : 0 < i) (ho : 0 < o) (z : α) :
    ProgressWithin (gearbox (ioLcm i o) i o z) 1 := by
  obtain ⟨_, _, h2i, h2o⟩ := ioLcm_facts i o hi ho
  exact progress_of_hs_now (gearbox_good i o hi ho z).live.inv_step (gbInv_init i o hi ho z)
    (fun s x _ hc => gearbox_hs_now _ i o h2i h2o z s x hc)

/-- A source word at least every `⌈o / i⌉ + 1` cooperative cycles. -/
theorem gearbox_no_livelock (i o : Nat) (hi : 0 < i) (ho : 0 < o) (z : α) :
    DeliversWithin (gearbox (ioLcm i o) i o z) ((o + (i - 1)) / i + 1) :=
  (gearbox_good i o hi ho z).delivers (gbInv_init i o hi ho z)

/-! ## Multiplexer / Demultiplexer (combinational; the selector hypothesis is explicit) -/

/-- Along any input list on which (`hsel`) the selector is held while a token waits at the source and (`hprod`)
    every sink producer re-offers a refused token, the source keeps the contract at every cycle boundary. -/
theorem mux_stable (n : Nat) (z : Tok α) (ins : List (MuxIn α))
    (hsel : ∀ t i i', ins[t]? = some i → ins[t + 1]? = some i' →
      (muxOut n z i).valid = true → i.ready = false → i'.sel = i.sel)
    (hprod : ∀ t i i' k, ins[t]? = some i → ins[t + 1]? = some i' →
      (i.sinks.getD k (false, z)).1 = true → (muxOut n z i).readies.getD k false = false →
      i'.sinks.getD k (false, z) = (true, (i.sinks.getD k (false, z)).2)) :
    ∀ t i i', ins[t]? = some i → ins[t + 1]? = some i' → (muxOut n z i).valid = true → i.ready = false →
      ((muxOut n z i').valid = true ∧ (muxOut n z i').tok = (muxOut n z i).tok) :=
  fun t i i' h1 h2 => mux_hold n z i i' (hsel t i i' h1 h2) (fun k => hprod t i i' k h1 h2)

/-- The selected token moves in the very cycle in which its sink offers and the consumer is ready. -/
theorem mux_progress (n : Nat) (z : Tok α) (i : MuxIn α) (hlt : i.sel < n)
    (hv : (i.sinks.getD i.sel (false, z)).1 = true) (hr : i.ready = true) :
    muxDel n z i = [(i.sinks.getD i.sel (false, z)).2] ∧
    muxAccAt n z i.sel i = [(i.sinks.getD i.sel (false, z)).2] := by
  simp only [List.getD_eq_getElem?_getD] at hv ⊢
  exact ⟨by simp [muxDel, muxOut, hlt, hv, hr], by simp [muxAccAt, muxOut, hlt, hv, hr]⟩

theorem demux_stable (n : Nat) (z : Tok α) (ins : List (DemuxIn α))
    (hsel : ∀ t i i', ins[t]? = some i → ins[t + 1]? = some i' →
      i.valid = true → (demuxOut n z i).ready = false → i'.sel = i.sel)
    (hprod : ∀ t i i', ins[t]? = some i → ins[t + 1]? = some i' →
      i.valid = true → (demuxOut n z i).ready = false → (i'.valid = true ∧ i'.tok = i.tok)) :
    ∀ t i i' k, ins[t]? = some i → ins[t + 1]? = some i' →
      ((demuxOut n z i).sources.getD k (false, z)).1 = true → i.readies.getD k false = false →
      (((demuxOut n z i').sources.getD k (false, z)).1 = true ∧
       ((demuxOut n z i').sources.getD k (false, z)).2 = ((demuxOut n z i).sources.getD k (false, z)).2) :=
  fun t i i' k h1 h2 => demux_hold n z i i' k (hsel t i i' h1 h2) (hprod t i i' h1 h2)

theorem demux_progress (n : Nat) (z : Tok α) (i : DemuxIn α) (hlt : i.sel < n) (hv : i.valid = true)
    (hr : i.readies.getD i.sel false = true) :
    demuxAcc n z i = [i.tok] ∧ demuxDelAt n z i.sel i = [i.tok] := by
  simp only [List.getD_eq_getElem?_getD] at hr ⊢
  exact ⟨by simp [demuxAcc, demuxOut, hlt, hv, hr], by simp [demuxDelAt, demuxOut, hlt, hv, hr]⟩

/-- Negative witness for the selector hypothesis: sink 0 offers and holds, the consumer stalls, `sel` moves to the
    idle sink 1 → `source.valid` retracts. -/
example :
    let z : Tok Nat := ⟨0, false, false⟩
    let i  : MuxIn Nat := { sel := 0, sinks := [(true, ⟨7, true, false⟩), (false, z)], ready := false }
    let i' : MuxIn Nat := { sel := 1, sinks := [(true, ⟨7, true, false⟩), (false, z)], ready := false }
    (muxOut 2 z i).valid = true ∧ (muxOut 2 z i').valid = false := by decide


/-! ## The composition-closed class `Good` (= `StepStable` + `Live`): stability and progress of ANY pipeline

  `Live` (`HandshakeComp.lean`) implies the three hypotheses of `compose_progress_general` and is preserved by `⟫`, so
  the side condition is discharged once per element class (`X_live`, `X_good`) and never again. -/

theorem compose_good {a : Elem α β σ} {b : Elem β γ τ} {Ia : σ → Prop} {Ib : τ → Prop}
    {μa : σ → Nat} {Ba : Nat} {μb : τ → Nat} {Bb : Nat} (ha : Good a Ia μa Ba) (hb : Good b Ib μb Bb) :
    Good (a.comp b) (fun s => Ia s.1 ∧ Ib s.2) (fun s => μb s.2 * (Ba + 1) + μa s.1) (Bb * (Ba + 1) + Ba) :=
  Good.comp ha hb

theorem good_stable {e : Elem α β σ} {Inv : σ → Prop} {μ : σ → Nat} {B : Nat} (h : Good e Inv μ B)
    (h0 : Inv e.init) : KeepsContract e := h.keepsContract h0

theorem good_no_livelock {e : Elem α β σ} {Inv : σ → Prop} {μ : σ → Nat} {B : Nat} (h : Good e Inv μ B)
    (h0 : Inv e.init) : DeliversWithin e (B + 1) := h.delivers h0

theorem compose_progress_auto {a : Elem α β σ} {b : Elem β γ τ} {Ia : σ → Prop} {Ib : τ → Prop}
    {μa : σ → Nat} {Ba : Nat} {μb : τ → Nat} {Bb : Nat} (ha : Live a Ia μa Ba) (hb : Live b Ib μb Bb)
    (h0a : Ia a.init) (h0b : Ib b.init) : DeliversWithin (a.comp b) (Bb * (Ba + 1) + Ba + 1) :=
  compose_progress_general ha.offer hb.measure hb.idleMono h0a h0b

theorem element_classes_good (z : Tok α) {π : Type} (zp : α) (p0 : π) (d r : Nat) (hd : 1 ≤ d) (hr : 0 < r)
    (f : α → β) :
    Good (pipeValid z) (fun _ => True) (fun s => if s.valid then 0 else 1) 1 ∧
    Good (pipeReady z) prInv (fun _ => 0) 0 ∧
    Good (wire (α := α)) (fun _ => True) (fun _ => 0) 0 ∧
    Good (syncFifo d z) (fifoInv d) (fun q => if q.isEmpty then 1 else 0) 1 ∧
    Good (syncFifoBuffered d z) (fbInv d) (fun s => if s.readable then 0 else if s.q.isEmpty then 2 else 1) 2 ∧
    Good (upConv r zp p0) (upInv r) (upMu r) r ∧
    Good (downConv (π := π) r zp) (downInv r) (fun _ => 0) 0 ∧
    Good (downConvV (π := π) r zp) (downInv r) (fun _ => 0) 0 ∧
    Good (mapElem f) (fun _ => True) (fun _ => 0) 0 :=
  ⟨pipeValid_good z, pipeReady_good z, wire_good, syncFifo_good d hd z, syncFifoBuffered_good d hd z,
   upConv_good r hr zp p0, downConv_good r hr zp, downConvV_good r hr zp, mapElem_good f⟩

/-- A heterogeneous example obtained with no side condition at all: `_DownConverter(r₁) ⟫ PipeValid ⟫ _UpConverter(r₂)
    ⟫ SyncFIFOBuffered(d)` keeps the contract and delivers at least every `3·(r₂ + 1)·2·1` cooperative cycles. -/
theorem mixed_chain_good {π : Type} (r1 r2 d : Nat) (h1 : 0 < r1) (h2 : 0 < r2) (hd : 1 ≤ d) (z : α) (p0 : π)
    (z1 : Tok (α × π)) (z2 : Tok (UpWord α π)) :
    KeepsContract ((downConv r1 z).comp ((pipeValid z1).comp ((upConv r2 z p0).comp (syncFifoBuffered d z2)))) ∧
    DeliversWithin ((downConv r1 z).comp ((pipeValid z1).comp ((upConv r2 z p0).comp (syncFifoBuffered d z2))))
      (((2 * (r2 + 1) + r2) * (1 + 1) + 1) * (0 + 1) + 0 + 1) := by
  have g := compose_good (downConv_good (π := π) r1 h1 z)
    (compose_good (pipeValid_good z1) (compose_good (upConv_good r2 h2 z p0) (syncFifoBuffered_good d hd z2)))
  have h0 := And.intro (downInv_init (π := π) r1 h1 z)
    (And.intro trivial (And.intro (upInv_init r2 h2 z p0) (fbInv_init d z2)))
  exact ⟨g.keepsContract h0, g.delivers h0⟩

/-! ## Pipeline(m_1, …, m_n) over ANY list of stages (connect, PipeValid, PipeReady, SyncFIFO d, SyncFIFOBuffered d):
    by induction over the list (`stages_good`) -/

theorem pipeline_stable (z : Tok α) (l : List Stage) (hl : ∀ st ∈ l, stageOk st) : KeepsContract (stages z l) :=
  (stages_good z l hl).keepsContract (pipeInv_init z l)

/-- A delivery at least every `pipeB l + 1 = ∏ (window of stage k)` cooperative cycles, from every reachable state. -/
theorem pipeline_no_livelock (z : Tok α) (l : List Stage) (hl : ∀ st ∈ l, stageOk st) :
    DeliversWithin (stages z l) (pipeB l + 1) :=
  (stages_good z l hl).delivers (pipeInv_init z l)

theorem pipeline_progress (z : Tok α) (l : List Stage) (hl : ∀ st ∈ l, stageOk st) :
    ProgressWithin (stages z l) (pipeB l + 1) := (pipeline_no_livelock z l hl).progress

/-- Pipelines of connect / PipeValid stages (Delay, Buffer(pipe_valid)) serve their sink in every cooperative cycle. -/
theorem pipeline_accepts (z : Tok α) (l : List Stage) (hl : ∀ st ∈ l, stageRT st) (hok : ∀ st ∈ l, stageOk st) :
    AcceptsWithin (stages z l) 1 :=
  (stages_readyTransparent z l hl).accepts (pipeInv_init z l) (stages_good z l hok).live.inv_step

/-- Non-vacuity: the window of `Pipeline(PipeValid, SyncFIFO(2), PipeReady)` is 2·2·1 = 4, of
    `Pipeline(PipeReady, SyncFIFO(16, buffered), SyncFIFO(3), PipeReady, PipeValid, connect, SyncFIFO(2))` 24; four
    cooperative cycles through the former from reset deliver 2 tokens. -/
example : pipeB [.pv, .fifo 2, .pr] + 1 = 4 ∧ pipeB [.pr, .fifoB 16, .fifo 3, .pr, .pv, .wire, .fifo 2] + 1 = 24 ∧
    (let c : In Nat := ⟨true, ⟨1, false, false⟩, true⟩
     ((stages zTok [.pv, .fifo 2, .pr]).delivered (stages zTok [.pv, .fifo 2, .pr]).init [c, c, c, c]).length = 2) := by
  decide

/-! ### Tight (additive) windows for pipelines of stages

  For store-and-forward stages the windows add instead of multiplying (`Drain.comp`: once a token is in the downstream
  part it drains whatever the upstream part does): a delivery at least every `1 + Σ stageLat` cooperative cycles,
  `stageLat` = 0 (connect, PipeReady), 1 (PipeValid, SyncFIFO), 2 (SyncFIFOBuffered). -/

theorem pipeline_no_livelock_tight (z : Tok α) (l : List Stage) (hl : ∀ st ∈ l, stageOk st) :
    DeliversWithin (stages z l) (pipeLat l + 1) :=
  (stages_drain z l hl).delivers (pipeInv_init z l)

theorem pipeline_progress_tight (z : Tok α) (l : List Stage) (hl : ∀ st ∈ l, stageOk st) :
    ProgressWithin (stages z l) (pipeLat l + 1) := (pipeline_no_livelock_tight z l hl).progress

/-- The bound is attained: the 7-stage pipeline below has window 6 (the product bound is 24); five
    cooperative cycles from reset deliver nothing, six deliver one token. -/
example :
    let l : List Stage := [.pr, .fifoB 16, .fifo 3, .pr, .pv, .wire, .fifo 2]
    let c : In Nat := ⟨true, ⟨1, false, true⟩, true⟩
    pipeLat l + 1 = 6 ∧ ((stages zTok l).delivered (stages zTok l).init (List.replicate 5 c)).length = 0 ∧
    ((stages zTok l).delivered (stages zTok l).init (List.replicate 6 c)).length = 1 := by decide

theorem buffer_no_livelock_tight (z : Tok α) (pv pr : Bool) :
    DeliversWithin (stages z (bufferStages pv pr)) (pipeLat (bufferStages pv pr) + 1) :=
  pipeline_no_livelock_tight z _ (bufferStages_ok pv pr)

/-- `SyncFIFO(layout, depth, buffered)`, every depth: a delivery at least every 3 cooperative cycles. -/
theorem syncFifoAny_no_livelock_tight (z : Tok α) (depth : Nat) (buffered : Bool) :
    DeliversWithin (stages z (syncFifoStages depth buffered)) (pipeLat (syncFifoStages depth buffered) + 1) ∧
    pipeLat (syncFifoStages depth buffered) + 1 ≤ 3 :=
  ⟨pipeline_no_livelock_tight z _ (syncFifoStages_ok depth buffered),
   Nat.succ_le_succ (pipeLat_syncFifoStages_le depth buffered)⟩

/-- `Delay(layout, n)`: window exactly `n + 1`. -/
theorem delayn_no_livelock_tight (z : Tok α) (n : Nat) : DeliversWithin (stages z (delayStages n)) (n + 1) := by
  have h := pipeline_no_livelock_tight z _ (delayStages_ok n)
  rw [pipeLat_delayStages] at h
  exact h

theorem cdcSame_no_livelock_tight (z : Tok α) (b : Bool) :
    DeliversWithin (stages z (cdcSameStages b)) (pipeLat (cdcSameStages b) + 1) :=
  pipeline_no_livelock_tight z _ (cdcSameStages_ok b)

/-! ### The stage selections of stream.py: every constructor call gives a legal stage list -/

theorem buffer_stable (z : Tok α) (pv pr : Bool) : KeepsContract (stages z (bufferStages pv pr)) :=
  pipeline_stable z _ (bufferStages_ok pv pr)

theorem buffer_no_livelock (z : Tok α) (pv pr : Bool) :
    DeliversWithin (stages z (bufferStages pv pr)) (pipeB (bufferStages pv pr) + 1) :=
  pipeline_no_livelock z _ (bufferStages_ok pv pr)

/-- `SyncFIFO(layout, depth, buffered)` for EVERY depth (0: connect, 1: Buffer, ≥ 2: the Migen FIFOs). -/
theorem syncFifoAny_stable (z : Tok α) (depth : Nat) (buffered : Bool) :
    KeepsContract (stages z (syncFifoStages depth buffered)) :=
  pipeline_stable z _ (syncFifoStages_ok depth buffered)

theorem syncFifoAny_no_livelock (z : Tok α) (depth : Nat) (buffered : Bool) :
    DeliversWithin (stages z (syncFifoStages depth buffered)) (pipeB (syncFifoStages depth buffered) + 1) :=
  pipeline_no_livelock z _ (syncFifoStages_ok depth buffered)

theorem syncFifoAny_window (depth : Nat) (buffered : Bool) : pipeB (syncFifoStages depth buffered) + 1 ≤ 3 := by
  unfold syncFifoStages
  by_cases h2 : depth ≥ 2
  · cases buffered <;> simp [h2, pipeB, stageB]
  · by_cases h1 : depth = 1
    · simp [h1, bufferStages, pipeB, stageB]
    · simp [h2, h1, pipeB]

theorem delayn_stable (z : Tok α) (n : Nat) : KeepsContract (stages z (delayStages n)) :=
  pipeline_stable z _ (delayStages_ok n)

theorem delayn_no_livelock (z : Tok α) (n : Nat) :
    DeliversWithin (stages z (delayStages n)) (pipeB (delayStages n) + 1) :=
  pipeline_no_livelock z _ (delayStages_ok n)

theorem delayn_accepts (z : Tok α) (n : Nat) : AcceptsWithin (stages z (delayStages n)) 1 :=
  pipeline_accepts z _ (delayStages_rt n) (delayStages_ok n)

theorem cdcSame_stable (z : Tok α) (b : Bool) : KeepsContract (stages z (cdcSameStages b)) :=
  pipeline_stable z _ (cdcSameStages_ok b)

theorem cdcSame_no_livelock (z : Tok α) (b : Bool) :
    DeliversWithin (stages z (cdcSameStages b)) (pipeB (cdcSameStages b) + 1) :=
  pipeline_no_livelock z _ (cdcSameStages_ok b)

/-! ## BufferizeEndpoints({sink?, source?}, pipe_valid, pipe_ready) around ANY `Good` element -/

theorem bufferize_stable {ρ : Type} (bs bd pv pr : Bool) (zi : Tok α) (zo : Tok β) {e : Elem α β ρ}
    {Inv : ρ → Prop} {μ : ρ → Nat} {B : Nat} (he : Good e Inv μ B) (h0 : Inv e.init) :
    KeepsContract (bufferize bs bd pv pr zi zo e) := by
  obtain ⟨m, K, hg, _⟩ := bufferize_good bs bd pv pr zi zo he
  exact hg.keepsContract (bufferizeInv_init bs bd pv pr zi zo h0)

/-- Window = (window of the source buffer) · (window of the element) · (window of the sink buffer). -/
theorem bufferize_no_livelock {ρ : Type} (bs bd pv pr : Bool) (zi : Tok α) (zo : Tok β) {e : Elem α β ρ}
    {Inv : ρ → Prop} {μ : ρ → Nat} {B : Nat} (he : Good e Inv μ B) (h0 : Inv e.init) :
    DeliversWithin (bufferize bs bd pv pr zi zo e)
      ((pipeB (if bd then bufferStages pv pr else []) + 1) * (B + 1) *
       (pipeB (if bs then bufferStages pv pr else []) + 1)) := by
  obtain ⟨m, K, hg, hK⟩ := bufferize_good bs bd pv pr zi zo he
  rw [← hK]
  exact hg.delivers (bufferizeInv_init bs bd pv pr zi zo h0)

/-- Instances served by the driver (`bufferize … up …` / `bufferize … down …`). -/
theorem bufferize_up_stable {π : Type} (bs bd pv pr : Bool) (r : Nat) (hr : 0 < r) (zi : Tok (α × π))
    (zo : Tok (UpWord α π)) (z : α) (p0 : π) : KeepsContract (bufferize bs bd pv pr zi zo (upConv r z p0)) :=
  bufferize_stable bs bd pv pr zi zo (upConv_good r hr z p0)
    (upInv_init r hr z p0)

theorem bufferize_up_no_livelock {π : Type} (bs bd pv pr : Bool) (r : Nat) (hr : 0 < r) (zi : Tok (α × π))
    (zo : Tok (UpWord α π)) (z : α) (p0 : π) :
    DeliversWithin (bufferize bs bd pv pr zi zo (upConv r z p0))
      ((pipeB (if bd then bufferStages pv pr else []) + 1) * (r + 1) *
       (pipeB (if bs then bufferStages pv pr else []) + 1)) :=
  bufferize_no_livelock bs bd pv pr zi zo (upConv_good r hr z p0)
    (upInv_init r hr z p0)

/-- Without PipeReady the sink of a bufferized up-converter is served in every cooperative cycle. -/
theorem bufferize_up_accepts {π : Type} (bs bd pv : Bool) (r : Nat) (hr : 0 < r) (zi : Tok (α × π))
    (zo : Tok (UpWord α π)) (z : α) (p0 : π) : AcceptsWithin (bufferize bs bd pv false zi zo (upConv r z p0)) 1 :=
  have ⟨_, _, hg, _⟩ := bufferize_good bs bd pv false zi zo (upConv_good r hr z p0)
  (bufferize_readyTransparent bs bd pv zi zo (upConv_readyTransparent r z p0)).accepts
    (bufferizeInv_init bs bd pv false zi zo (upInv_init r hr z p0)) hg.live.inv_step

theorem bufferize_down_stable {π : Type} (bs bd pv pr : Bool) (r : Nat) (hr : 0 < r) (zi : Tok (List α × π))
    (zo : Tok ((α × π) × Bool)) (z : α) : KeepsContract (bufferize bs bd pv pr zi zo (downConvV r z)) :=
  bufferize_stable bs bd pv pr zi zo (downConvV_good r hr z) (downInv_init (π := π) r hr z)

theorem bufferize_down_no_livelock {π : Type} (bs bd pv pr : Bool) (r : Nat) (hr : 0 < r) (zi : Tok (List α × π))
    (zo : Tok ((α × π) × Bool)) (z : α) :
    DeliversWithin (bufferize bs bd pv pr zi zo (downConvV r z))
      ((pipeB (if bd then bufferStages pv pr else []) + 1) * (0 + 1) *
       (pipeB (if bs then bufferStages pv pr else []) + 1)) :=
  bufferize_no_livelock bs bd pv pr zi zo (downConvV_good r hr z) (downInv_init (π := π) r hr z)

/-- The driver's machines are these compositions. -/
example (bs bd pv pr : Bool) (r : Nat) :
    bufferize bs bd pv pr zUpIn (zUpOut r) (upConv r 0 0) =
      (stages zUpIn (if bs then bufferStages pv pr else [])).comp
        ((upConv r 0 0).comp (stages (zUpOut r) (if bd then bufferStages pv pr else []))) := rfl

/-! ## Converter(nbits_from, nbits_to): whatever class `_get_converter_ratio` selects, its ratio is ≥ 1, so the
    converter theorems apply to every constructor call that does not raise -/

theorem converter_up_stable_and_live {π : Type} (nf nt r : Nat) (hf : 0 < nf) (ht : 0 < nt)
    (h : converterKind nf nt = some (.up, r)) (z : α) (p0 : π) :
    nt = r * nf ∧ KeepsContract (upConv r z p0) ∧ AcceptsWithin (upConv r z p0) 1 ∧
    DeliversWithin (upConv r z p0) (r + 1) := by
  obtain ⟨hr, hup, _, _⟩ := converterKind_ratio nf nt hf ht _ _ h
  exact ⟨hup rfl, upConv_stable r z p0, upConv_progress r hr z p0, upConv_no_livelock r hr z p0⟩

theorem converter_down_stable_and_live {π : Type} (nf nt r : Nat) (hf : 0 < nf) (ht : 0 < nt)
    (h : converterKind nf nt = some (.down, r)) (z : α) :
    nf = r * nt ∧ KeepsContract (downConv (π := π) r z) ∧ DeliversWithin (downConv (π := π) r z) 1 ∧
    AcceptsWithin (downConv (π := π) r z) (r - 1 + 1) := by
  obtain ⟨hr, _, hdn, _⟩ := converterKind_ratio nf nt hf ht _ _ h
  exact ⟨hdn rfl, downConv_stable r z, downConv_no_livelock r hr z, downConv_accepts r hr z⟩

theorem converter_ident_stable_and_live {π : Type} (nf nt r : Nat) (hf : 0 < nf) (ht : 0 < nt)
    (h : converterKind nf nt = some (.ident, r)) (z : α) :
    nf = nt ∧ r = 1 ∧ KeepsContract (downConv (π := π) 1 z) ∧ DeliversWithin (downConv (π := π) 1 z) 1 := by
  obtain ⟨_, _, _, hid⟩ := converterKind_ratio nf nt hf ht _ _ h
  exact ⟨(hid rfl).1, (hid rfl).2, downConv_stable 1 z, downConv_no_livelock 1 (by omega) z⟩

/-- Non-vacuity / negative side: 8→24 selects up ×3, 24→8 down ×3, 8→8 identity, 8→12 raises. -/
example : converterKind 8 24 = some (.up, 3) ∧ converterKind 24 8 = some (.down, 3) ∧
    converterKind 8 8 = some (.ident, 1) ∧ converterKind 8 12 = none := by decide

/-! ## Monitor: watching an endpoint does not touch its handshake -/

/-- The complete output trace (sink.ready, source.valid, source token) of an element with a Monitor on its source is
    the trace of the element alone, from every pair of states and for every input list. -/
theorem monitored_transparent {ρ : Type} (e : Elem α β ρ) (w : Nat) (cfg : MonCfg) (df : Bool) (s : ρ × MonState)
    (ins : List (In α)) : (monitored e w cfg df).outs s ins = e.outs s.1 ins := by
  induction ins generalizing s with
  | nil => rfl
  | cons i is ih => simp only [outs_cons]; rw [ih]; rfl

theorem monitored_stable {ρ : Type} {e : Elem α β ρ} {Inv : ρ → Prop} {μ : ρ → Nat} {B : Nat} (h : Good e Inv μ B)
    (h0 : Inv e.init) (w : Nat) (cfg : MonCfg) (df : Bool) : KeepsContract (monitored e w cfg df) :=
  ((monitored_mirrors e w cfg df).good h).keepsContract h0

theorem monitored_no_livelock {ρ : Type} {e : Elem α β ρ} {Inv : ρ → Prop} {μ : ρ → Nat} {B : Nat}
    (h : Good e Inv μ B) (h0 : Inv e.init) (w : Nat) (cfg : MonCfg) (df : Bool) :
    DeliversWithin (monitored e w cfg df) (B + 1) :=
  ((monitored_mirrors e w cfg df).good h).delivers h0

/-- The driver's `monitored … c_1 … c_k` machines: a monitored pipeline of stages. -/
theorem monitored_pipeline (z : Tok α) (l : List Stage) (hl : ∀ st ∈ l, stageOk st) (w : Nat) (cfg : MonCfg)
    (df : Bool) :
    KeepsContract (monitored (stages z l) w cfg df) ∧ DeliversWithin (monitored (stages z l) w cfg df) (pipeB l + 1) :=
  ⟨monitored_stable (stages_good z l hl) (pipeInv_init z l) w cfg df,
   monitored_no_livelock (stages_good z l hl) (pipeInv_init z l) w cfg df⟩

/-- ... with the tight window of the pipeline (the Monitor adds no latency). -/
theorem monitored_pipeline_tight (z : Tok α) (l : List Stage) (hl : ∀ st ∈ l, stageOk st) (w : Nat) (cfg : MonCfg)
    (df : Bool) : DeliversWithin (monitored (stages z l) w cfg df) (pipeLat l + 1) :=
  ((monitored_mirrors _ w cfg df).delMeasure (stages_drain z l hl).measure).delivers (pipeInv_init z l)

/-- Non-vacuity: a PipeValid with a 4-bit token counter on its source — three cooperative cycles deliver two tokens
    and the counter has counted exactly those two source handshakes. -/
example :
    let m := monitored (stages zTok [.pv]) 4 ⟨true, false, false, false⟩ false
    let c : In Nat := ⟨true, ⟨1, false, true⟩, true⟩
    (m.delivered m.init [c, c, c]).length = 2 ∧ (m.runFrom m.init [c, c, c]).2.tokens.count = 2 := by decide

/-- Non-vacuity for BufferizeEndpoints (both endpoints, pipe_valid and pipe_ready, around `_UpConverter(ratio 2)`):
    window (1·2)·3·(1·2) = 12; seven cooperative cycles from reset deliver two words, four deliver none. -/
example :
    let e := bufferize true true true true zUpIn (zUpOut 2) (upConv 2 0 0)
    let c : In (Nat × Nat) := ⟨true, ⟨(1, 0), false, false⟩, true⟩
    (pipeB (bufferStages true true) + 1) * (2 + 1) * (pipeB (bufferStages true true) + 1) = 12 ∧
    (e.delivered e.init (List.replicate 7 c)).length = 2 ∧ (e.delivered e.init (List.replicate 4 c)).length = 0 := by
  decide

/-- What the counter shows: below saturation the token counter advances exactly on a source handshake. -/
theorem monitor_counts_handshakes (w : Nat) (cfg : MonCfg) (df : Bool) (s : MonState) (i : MonIn)
    (ht : cfg.tokens = true) (hr : i.reset = false) (hsat : s.tokens.count + 1 < 2 ^ w) :
    ((monitor w cfg df).next s i).tokens.count = s.tokens.count + (if i.valid && i.ready then 1 else 0) := by
  have h1 : s.tokens.count ≠ 2 ^ w - 1 := by omega
  have h2 : (s.tokens.count + 1) % 2 ^ w = s.tokens.count + 1 := Nat.mod_eq_of_lt hsat
  cases hv : (i.valid && i.ready) <;> simp only [monitor, monOpt, monCounterNext, ht, hr, hv] <;> simp [h1, h2]

/-! ## PipelinedActor(latency = L) / BinaryActor control path, EVERY L (`pipe_ce = source.ready | ~valid_L`) -/

theorem pipeActor_stable (L : Nat) (z : Tok α) : KeepsContract (pipeActor L z) :=
  (pipeActor_good L z).keepsContract (pipeActor_queue L z).inv_init

/-- `sink.ready = pipe_ce` follows `source.ready`: the sink is served in every cooperative cycle. -/
theorem pipeActor_progress (L : Nat) (z : Tok α) : AcceptsWithin (pipeActor L z) 1 :=
  (pipeActor_readyTransparent L z).accepts (pipeActor_queue L z).inv_init (pipeActor_inv_step L z)

/-- A token offered at the latest `L + 1` cooperative cycles after any reachable state (`trail` = number of empty
    trailing stages is the measure); `L = 0` is the combinational actor. -/
theorem pipeActor_no_livelock (L : Nat) (z : Tok α) : DeliversWithin (pipeActor L z) (L + 1) :=
  (pipeActor_good L z).delivers (pipeActor_queue L z).inv_init

/-- Non-vacuity (L = 3): from reset the first delivery needs exactly 4 cooperative cycles. -/
example :
    let e := pipeActor 3 (⟨0, false, false⟩ : Tok Nat)
    let c : In Nat := ⟨true, ⟨1, true, false⟩, true⟩
    (e.delivered e.init [c, c, c, c]).length = 1 ∧ (e.delivered e.init [c, c, c]).length = 0 := by decide

/-! ## Crossbar (Demultiplexer feeding Multiplexer): both selectors travel with the sink wires, so the producer
    contract includes "selectors held while the token is refused" (negative witnesses: `mux`/`demux` above) -/

theorem crossbar_stable (n : Nat) (z : α) : KeepsContract (crossbar n z) :=
  keepsContract_of_stepStable (crossbar_stepStable n z) trivial

/-- Cooperative and routed (`demux.sel = mux.sel < n`): a delivery in every cycle. -/
theorem crossbar_no_livelock (n : Nat) (z : α) : DeliversWithinC (crossbar n z) (XbarCoop n) 1 :=
  (Measure.ofNow (Inv := fun _ => True) (fun _ _ _ _ => trivial)
    (fun s i _ hc => crossbar_del_now n z s i hc)).deliversC trivial (fun _ _ _ => trivial)

/-- Negative witness for the routing condition: selectors that disagree deliver nothing, however cooperative. -/
example :
    let c : In (Nat × Nat × Nat) := ⟨true, ⟨(5, 0, 1), false, false⟩, true⟩
    ((crossbar 2 (0 : Nat)).delivered () [c, c, c]).length = 0 := by decide

/-! ## Gearbox and StrideConverter(up) are members of the class too: they may stand anywhere in a pipeline -/

theorem gearbox_in_class (i o : Nat) (hi : 0 < i) (ho : 0 < o) (z : α) :
    Good (gearbox (ioLcm i o) i o z) (gbInv (ioLcm i o) i o z) (gbMu i o) ((o + (i - 1)) / i) :=
  gearbox_good i o hi ho z

theorem strideUp_in_class {π : Type} (r : Nat) (hr : 0 < r) (z : α) (p0 : π) :
    Good (strideUp r z p0) (fun s => upInv r s.1) (fun s => upMu r s.1) r :=
  (strideUp_mirrors r z p0).good (upConv_good r hr z p0)

theorem pipeActor_in_class (L : Nat) (z : Tok α) : Good (pipeActor L z) (paInv L) trail L := pipeActor_good L z

/-- Example with no side condition: `PipeReady ⟫ Gearbox(i, o) ⟫ SyncFIFO(d)` for all widths and depths. -/
theorem gearbox_chain (i o d : Nat) (hi : 0 < i) (ho : 0 < o) (hd : 0 < d) (z : α) (z1 z2 : Tok (List α)) :
    KeepsContract ((pipeReady z1).comp ((gearbox (ioLcm i o) i o z).comp (syncFifo d z2))) ∧
    DeliversWithin ((pipeReady z1).comp ((gearbox (ioLcm i o) i o z).comp (syncFifo d z2)))
      ((1 * ((o + (i - 1)) / i + 1) + (o + (i - 1)) / i) * (0 + 1) + 0 + 1) := by
  have g := compose_good (pipeReady_good z1) (compose_good (gearbox_good i o hi ho z) (syncFifo_good d hd z2))
  have h0 := And.intro (prInv_init z1) (And.intro (gbInv_init i o hi ho z) (fifoInv_init d z2))
  exact ⟨g.keepsContract h0, g.delivers h0⟩

/-- Under cooperative slaves (every `slave_k.ready` high) `master.ready` is high in the same cycle, from *every*
    state and for *every* selector value — binary or one-hot, matched or not (an unmatched selector drains the
    packet through the `default` case).  Hence a master beat offered is transferred at once: K = 1. -/
theorem dispatcher_progress (m : Nat) (oneHot : Bool) (s : Litex.Packet.DispState) (i : Litex.Packet.DispIn)
    (hr : ∀ k, k < m → i.readys.getD k false = true) :
    ((Litex.Packet.dispatcher m oneHot).out s i).ready = true := by
  show Litex.Packet.dispReady m oneHot s i = true
  unfold Litex.Packet.dispReady
  cases h : Litex.Packet.dispTarget m oneHot (Litex.Packet.dispSel s i) with
  | none => rfl
  | some k => exact hr k (Litex.Packet.dispTarget_lt m oneHot _ k h)

/-- Non-vacuity incl. the unmatched selector: 3 slaves, binary `sel = 3`, all slaves ready, mid-packet state. -/
example :
    ((Litex.Packet.dispatcher 3 false).out { first := false, selOngoing := 3 }
      { master := { valid := true, data := 1, last := false }, sel := 0, readys := [true, true, true] }).ready = true ∧
    ((Litex.Packet.dispatcher 3 false).out { first := true, selOngoing := 0 }
      { master := { valid := true, data := 1, last := false }, sel := 1, readys := [true, false, true] }).ready = false := by
  decide

/-! ## packet.PacketFIFO (plain FIFOs)

  `PfLegal pd s i` is the documented store-and-forward limit as an explicit hypothesis on the producer: a non-last
  beat is offered only while the open packet, with it, still leaves room for its last beat — packets ≤
  `payload_depth`.  States are those reachable from reset by *any* valid/ready schedule within the limit (`pre`),
  then `ins` is cooperative (valid = 1, ready = 1) within the limit (`PfCoop`). -/

/-- No deadlock state is reachable: a handshake in every cooperative cycle (a full payload FIFO holds a complete
    packet, so it is offered; a full param FIFO is a non-empty one).  `param_depth` may be smaller than
    `payload_depth` (`qd = param_depth + 1 ≥ 1`). -/
theorem packetfifo_progress (pd qd : Nat) (hpd : 1 ≤ pd) (hqd : 1 ≤ qd) (pre ins : List (In Litex.Packet.PBeat))
    (hpre : RunC (Litex.Packet.packetFifo pd qd) (Litex.Packet.PfLegal pd) (Litex.Packet.packetFifo pd qd).init pre)
    (hins : RunC (Litex.Packet.packetFifo pd qd) (Litex.Packet.PfCoop pd)
      ((Litex.Packet.packetFifo pd qd).runFrom (Litex.Packet.packetFifo pd qd).init pre) ins)
    (n : Nat) (hn : n * 1 ≤ ins.length) :
    n ≤ (Litex.Packet.packetFifo pd qd).hsCount
      ((Litex.Packet.packetFifo pd qd).runFrom (Litex.Packet.packetFifo pd qd).init pre) ins :=
  have sim := Litex.Packet.plain_simUnder pd qd
  (hsCount_eq _ _ _).symm ▸ (sim.measure (fun _ h => h.hist) sim.hsCnt_eq
    (Litex.Packet.packetFifoK_hsMeasure (Or.inl rfl) pd qd hpd hqd)).tally_ge n _ ins
    (Litex.Packet.pfk_reach sim rfl (Or.inl rfl) hpd pre hpre) hins hn

/-- No livelock: a beat of a complete packet is delivered at least every `payload_depth + 1` cooperative cycles. -/
theorem packetfifo_no_livelock (pd qd : Nat) (hpd : 1 ≤ pd) (hqd : 1 ≤ qd) (pre ins : List (In Litex.Packet.PBeat))
    (hpre : RunC (Litex.Packet.packetFifo pd qd) (Litex.Packet.PfLegal pd) (Litex.Packet.packetFifo pd qd).init pre)
    (hins : RunC (Litex.Packet.packetFifo pd qd) (Litex.Packet.PfCoop pd)
      ((Litex.Packet.packetFifo pd qd).runFrom (Litex.Packet.packetFifo pd qd).init pre) ins)
    (n : Nat) (hn : n * (pd + 1) ≤ ins.length) :
    n ≤ ((Litex.Packet.packetFifo pd qd).delivered
      ((Litex.Packet.packetFifo pd qd).runFrom (Litex.Packet.packetFifo pd qd).init pre) ins).length :=
  have sim := Litex.Packet.plain_simUnder pd qd
  (delivered_length _ _ _).symm ▸ (sim.measure (fun _ h => h.hist) sim.delCnt_eq
    (Litex.Packet.packetFifoK_delMeasure (Or.inl rfl) pd qd hqd)).tally_ge n _ ins
    (Litex.Packet.pfk_reach sim rfl (Or.inl rfl) hpd pre hpre) hins hn

/-- Negative witness for the limit (payload_depth 2): two non-last beats fill the FIFO without a complete packet;
    three further cooperative cycles see no handshake at all.  And non-vacuity: a 2-beat packet goes through. -/
example :
    let e := Litex.Packet.packetFifo 2 3
    let b (l : Bool) : In Litex.Packet.PBeat := ⟨true, ⟨⟨1, 7⟩, false, l⟩, true⟩
    e.hsCount (e.runFrom e.init [b false, b false]) [b true, b true, b true] = 0 ∧
    (e.delivered e.init [b false, b true, b false, b true]).length = 2 := by decide

/-! ## packet.PacketFIFO(buffered=True) (two `SyncFIFOBuffered`; `payload_depth ≥ 2`, `param_depth + 1 ≥ 2`)

  Same statements as for the plain FIFO; `PfbLegal` is the store-and-forward limit on what is stored (output register
  + inner FIFO).  The delivery bound is one more than for the plain FIFO: a param written into an empty param FIFO
  needs a cycle to reach its output register (`source.valid = param_fifo.source.valid`). -/

theorem packetfifo_buffered_progress (pd qd : Nat) (hpd : 2 ≤ pd) (hqd : 2 ≤ qd) (pre ins : List (In Litex.Packet.PBeat))
    (hpre : RunC (Litex.Packet.packetFifoBuffered pd qd) (Litex.Packet.PfbLegal pd)
      (Litex.Packet.packetFifoBuffered pd qd).init pre)
    (hins : RunC (Litex.Packet.packetFifoBuffered pd qd) (Litex.Packet.PfbCoop pd)
      ((Litex.Packet.packetFifoBuffered pd qd).runFrom (Litex.Packet.packetFifoBuffered pd qd).init pre) ins)
    (n : Nat) (hn : n * 1 ≤ ins.length) :
    n ≤ (Litex.Packet.packetFifoBuffered pd qd).hsCount
      ((Litex.Packet.packetFifoBuffered pd qd).runFrom (Litex.Packet.packetFifoBuffered pd qd).init pre) ins :=
  have sim := Litex.Packet.buffered_simUnder pd qd
  (hsCount_eq _ _ _).symm ▸ (sim.measure (fun _ h => h.hist) sim.hsCnt_eq
    (Litex.Packet.packetFifoK_hsMeasure (Or.inr rfl) pd qd hpd hqd)).tally_ge n _ ins
    (Litex.Packet.pfk_reach sim rfl (Or.inr rfl) (by omega) pre hpre) hins hn

/-- A beat of a complete packet is delivered at least every `payload_depth + 2` cooperative cycles. -/
theorem packetfifo_buffered_no_livelock (pd qd : Nat) (hpd : 1 ≤ pd) (hqd : 1 ≤ qd)
    (pre ins : List (In Litex.Packet.PBeat))
    (hpre : RunC (Litex.Packet.packetFifoBuffered pd qd) (Litex.Packet.PfbLegal pd)
      (Litex.Packet.packetFifoBuffered pd qd).init pre)
    (hins : RunC (Litex.Packet.packetFifoBuffered pd qd) (Litex.Packet.PfbCoop pd)
      ((Litex.Packet.packetFifoBuffered pd qd).runFrom (Litex.Packet.packetFifoBuffered pd qd).init pre) ins)
    (n : Nat) (hn : n * (pd + 1 + 1) ≤ ins.length) :
    n ≤ ((Litex.Packet.packetFifoBuffered pd qd).delivered
      ((Litex.Packet.packetFifoBuffered pd qd).runFrom (Litex.Packet.packetFifoBuffered pd qd).init pre) ins).length :=
  have sim := Litex.Packet.buffered_simUnder pd qd
  (delivered_length _ _ _).symm ▸ (sim.measure (fun _ h => h.hist) sim.delCnt_eq
    (Litex.Packet.packetFifoK_delMeasure (Or.inr rfl) pd qd hqd)).tally_ge n _ ins
    (Litex.Packet.pfk_reach sim rfl (Or.inr rfl) hpd pre hpre) hins hn

/-- The code computes `source.valid = param_fifo.source.valid & payload_fifo.source.valid`; on every
    state reachable within the limit the second factor is implied by the first (invariant `parV → payV`), so the
    machine above — `source.valid = param_fifo.source.valid` — shows the same ports (checked by the correspondence). -/
theorem packetfifo_buffered_valid_agrees (pd qd : Nat) (hpd : 1 ≤ pd) (pre : List (In Litex.Packet.PBeat))
    (hpre : RunC (Litex.Packet.packetFifoBuffered pd qd) (Litex.Packet.PfbLegal pd)
      (Litex.Packet.packetFifoBuffered pd qd).init pre) :
    (((Litex.Packet.packetFifoBuffered pd qd).runFrom (Litex.Packet.packetFifoBuffered pd qd).init pre).parV &&
     ((Litex.Packet.packetFifoBuffered pd qd).runFrom (Litex.Packet.packetFifoBuffered pd qd).init pre).payV) =
    ((Litex.Packet.packetFifoBuffered pd qd).runFrom (Litex.Packet.packetFifoBuffered pd qd).init pre).parV :=
  Litex.Packet.pfaInv_sv_buffered _
    (Litex.Packet.pfk_reach (Litex.Packet.buffered_simUnder pd qd) rfl (Or.inr rfl) hpd pre hpre).hist

/-- Negative witness for the limit (payload_depth 2, buffered: capacity 3): three non-last beats fill register and
    FIFO without a complete packet; three further cooperative cycles see no handshake.  Non-vacuity: 2-beat packets
    go through, the first delivery in the 4th (= pd + 2) cooperative cycle from reset — the bound is tight. -/
example :
    let e := Litex.Packet.packetFifoBuffered 2 3
    let b (l : Bool) : In Litex.Packet.PBeat := ⟨true, ⟨⟨1, 7⟩, false, l⟩, true⟩
    e.hsCount (e.runFrom e.init [b false, b false, b false]) [b true, b true, b true] = 0 ∧
    (e.delivered e.init [b false, b true, b false]).length = 0 ∧
    (e.delivered e.init [b false, b true, b false, b true]).length = 1 := by decide

/-! ## packet.Arbiter (n ≥ 2 masters; model `LitexModel/Packet/Arbiter.lean`, round-robin lemmas of `LitexProofs/RoundRobin.lean`)

  States: everything reachable from reset (`(arbiter n).run pre`, any inputs). -/

/-- Stability of the arbiter's source: while the slave stalls an offered beat the grant stays (the granted master's
    `Status.ongoing` keeps requesting), so a master that re-offers its refused beat unchanged — its `ready` was low:
    the stream contract — is seen unchanged by the slave in the next cycle. -/
theorem arbiter_stable (n : Nat) (hn : 2 ≤ n) (pre : List Litex.Packet.ArbIn) (i i' : Litex.Packet.ArbIn)
    (hv : ((Litex.Packet.arbiter n).out ((Litex.Packet.arbiter n).run pre) i).slave.valid = true)
    (hr : i.ready = false)
    (hprod : i'.masters.getD ((Litex.Packet.arbiter n).run pre).grant Litex.Packet.Beat.idle =
             i.masters.getD ((Litex.Packet.arbiter n).run pre).grant Litex.Packet.Beat.idle) :
    ((Litex.Packet.arbiter n).out ((Litex.Packet.arbiter n).next ((Litex.Packet.arbiter n).run pre) i) i').slave =
      ((Litex.Packet.arbiter n).out ((Litex.Packet.arbiter n).run pre) i).slave :=
  (Litex.Packet.arbiter_hold n _ (Litex.Packet.arbiter_grant_lt n hn pre) i i' hv hr hprod).2

/-- Progress: whenever the granted master offers and the slave is ready — in particular whenever every master
    offers — a beat is transferred in this very cycle. -/
theorem arbiter_progress (n : Nat) (hn : 2 ≤ n) (pre : List Litex.Packet.ArbIn) (i : Litex.Packet.ArbIn)
    (hv : (i.masters.getD ((Litex.Packet.arbiter n).run pre).grant Litex.Packet.Beat.idle).valid = true)
    (hr : i.ready = true) :
    ((Litex.Packet.arbiter n).out ((Litex.Packet.arbiter n).run pre) i).slave.valid = true ∧
    ((Litex.Packet.arbiter n).out ((Litex.Packet.arbiter n).run pre) i).readys.getD
      ((Litex.Packet.arbiter n).run pre).grant false = true :=
  Litex.Packet.arbiter_moves n _ (Litex.Packet.arbiter_grant_lt n hn pre) i hv hr

/-- Progress with only SOME masters offering: if in a cycle at least one master requests (offers, or is inside a
    packet) and every requesting master offers in the following cycle (no bubbles inside packets) with the slave
    ready, a beat is transferred in that following cycle at the latest — from every reachable state: K = 2. -/
theorem arbiter_progress_subset (n : Nat) (hn : 2 ≤ n) (pre : List Litex.Packet.ArbIn) (i i' : Litex.Packet.ArbIn)
    (hr' : i'.ready = true)
    (hsome : ∃ k, k < n ∧ Litex.Packet.arbRequest ((Litex.Packet.arbiter n).run pre) i k = true)
    (hkeep : ∀ j, j < n → Litex.Packet.arbRequest ((Litex.Packet.arbiter n).run pre) i j = true →
      (i'.masters.getD j Litex.Packet.Beat.idle).valid = true) :
    ((Litex.Packet.arbiter n).out ((Litex.Packet.arbiter n).next ((Litex.Packet.arbiter n).run pre) i) i').slave.valid = true ∧
    ((Litex.Packet.arbiter n).out ((Litex.Packet.arbiter n).next ((Litex.Packet.arbiter n).run pre) i) i').readys.getD
      ((Litex.Packet.arbiter n).next ((Litex.Packet.arbiter n).run pre) i).grant false = true :=
  have ⟨hlt, hreq⟩ :=
    Litex.Packet.arbiter_next_grant_requests n _ (Litex.Packet.arbiter_grant_lt n hn pre) i hsome
  Litex.Packet.arbiter_moves n _ hlt i' (hkeep _ hlt hreq) hr'

/-- Non-vacuity and tightness (3 masters, only master 2 offers, from reset): nothing moves in the first cycle (the
    grant is at master 0), the beat is transferred in the second. -/
example :
    let i : Litex.Packet.ArbIn := { masters := [⟨false, 0, false⟩, ⟨false, 0, false⟩, ⟨true, 3, true⟩], ready := true }
    ((Litex.Packet.arbiter 3).out (Litex.Packet.arbiter 3).init i).slave.valid = false ∧
    ((Litex.Packet.arbiter 3).out ((Litex.Packet.arbiter 3).next (Litex.Packet.arbiter 3).init i) i).slave.valid = true ∧
    ((Litex.Packet.arbiter 3).out ((Litex.Packet.arbiter 3).next (Litex.Packet.arbiter 3).init i) i).readys =
      [false, false, true] := by decide

/-- No starvation: if every master offers single-beat packets and the slave is ready, master `k` owns the grant after
    exactly `dist(grant, k) ≤ n − 1` cycles and is served in the cycle that follows: every master is served within the
    round-robin bound of `n` cycles. -/
theorem arbiter_no_starvation (n : Nat) (hn : 2 ≤ n) (k : Nat) (hk : k < n) (pre ins : List Litex.Packet.ArbIn)
    (i : Litex.Packet.ArbIn)
    (hlen : ins.length = Litex.RoundRobin.dist n ((Litex.Packet.arbiter n).run pre).grant k)
    (hall : ∀ j ∈ ins, Litex.Packet.AllOfferLast n j) (hi : Litex.Packet.AllOfferLast n i) :
    ins.length ≤ n - 1 ∧
    ((Litex.Packet.arbiter n).out ((Litex.Packet.arbiter n).runFrom ((Litex.Packet.arbiter n).run pre) ins) i).readys.getD
      k false = true := by
  have hg := Litex.Packet.arbiter_grant_lt n hn pre
  have hreach := Litex.Packet.arbiter_reaches n hn k hk _ _ ins hg hlen.symm rfl hall
  have hg' : ((Litex.Packet.arbiter n).runFrom ((Litex.Packet.arbiter n).run pre) ins).grant < n := by
    rw [hreach]; exact hk
  refine ⟨by rw [hlen]; have := Litex.RoundRobin.dist_lt n ((Litex.Packet.arbiter n).run pre).grant k (by omega); omega, ?_⟩
  have := (Litex.Packet.arbiter_moves n _ hg' i (by rw [hreach]; exact (hi.2 k hk).1) hi.1).2
  rw [hreach] at this
  exact this

/-- Non-vacuity (3 masters, all offering single-beat packets from reset): master 2 is served in cycle 3. -/
example :
    let i : Litex.Packet.ArbIn := { masters := [⟨true, 1, true⟩, ⟨true, 2, true⟩, ⟨true, 3, true⟩], ready := true }
    ((Litex.Packet.arbiter 3).out ((Litex.Packet.arbiter 3).runFrom (Litex.Packet.arbiter 3).init [i, i]) i).readys =
      [false, false, true] := by decide

/-! ## packet.Packetizer, EVERY header length (aligned or not): stability

  While the residue beat of a packet is flushed (`sink_d.last`, `source.valid` high without `sink.valid`) the upper
  bytes of `source.data` must not follow the sink data lines of a producer that offers nothing; the modelled code guards
  them (`If(~sink_d.last | fsm_from_idle, source.data[leftover*8:].eq(sink.data))`, known finding
  C04-packetizer-flush-padding-unstable: without the guard, dw = 16, 3-byte header: 0x00bb → 0xffbb with valid = 1,
  ready = 0), so the flush beat shows registers only.  Full statement `KeepsContract (packetizer c)`: still refuted in
  ONE corner, inside the open finding
  C16-packetizer-unaligned-single-beat — the first copy beat of a one-beat packet is valid through `sink_d.last` too
  and carries the sink data lines (the packet's payload); from a state reached by a producer that *withdrew* that
  refused beat (it broke the contract one boundary earlier) the lanes follow idle lines.  Proved `_partial` under
  `FirstBeatHeld` (in exactly that state the sink data lines are held); negative witness below, same trace on the
  real code: 0x00c3 → 0xffc3.  Along every run from reset on which the producer keeps the contract the state
  is never met without a sink token, and every other state needs no hypothesis. -/

theorem packetizer_stable_partial (c : Litex.Packet.PkCfg) :
    KeepsContractX (Litex.Packet.packetizer c) (Litex.Packet.FirstBeatHeld c) :=
  keepsContractX_of_stepStable (Litex.Packet.packetizer_stepStableX c) trivial

/-- Negative witness for `FirstBeatHeld` (dw = 16, H = 3): a one-beat packet is offered once and withdrawn; the first
    copy beat waits (valid through `sink_d.last`), the idle producer moves its data lines 0x0000 → 0x00ff. -/
example :
    let c : Litex.Packet.PkCfg := ⟨2, 3⟩
    let e := Litex.Packet.packetizer c
    let s := e.runFrom e.init [⟨true, ⟨⟨0x2211, 0xc3b2a1⟩, false, true⟩, true⟩]
    let i  : In Litex.Packet.HBeat := ⟨false, ⟨⟨0x0000, 0xc3b2a1⟩, false, false⟩, false⟩
    let i' : In Litex.Packet.HBeat := ⟨false, ⟨⟨0x00ff, 0xc3b2a1⟩, false, false⟩, false⟩
    s.st = .ucopy ∧ s.fromIdle = true ∧ s.dLast = true ∧
    (e.out s i).valid = true ∧ (e.out s i).tok.data = 0x00c3 ∧ (e.out (e.step s i) i').tok.data = 0xffc3 ∧
    ¬ HoldsOut (e.out s i) (e.out (e.step s i) i') i := by
  refine ⟨by decide, by decide, by decide, by decide, by decide, by decide, ?_⟩
  intro h
  have h2 := (h (by decide) rfl).2
  revert h2
  decide

/-- The flush-beat witness (genuine flush beat waiting, the idle producer moves its data lines 0x0000 → 0x00ff):
    the unguarded expression `pkUDataPre` moves (0x00bb → 0xffbb), the modelled machine holds its token, and the guard
    changes nothing outside the genuine flush beat. -/
example :
    let c : Litex.Packet.PkCfg := ⟨2, 3⟩
    let s : Litex.Packet.PkState :=
      { st := .ucopy, sr := 0, count := 0, fromIdle := false, dData := 0xbbcc, dLast := true }
    let i  : In Litex.Packet.HBeat := ⟨false, ⟨⟨0x0000, 0⟩, false, false⟩, false⟩
    let i' : In Litex.Packet.HBeat := ⟨false, ⟨⟨0x00ff, 0⟩, false, false⟩, false⟩
    c.pkUDataPre s 0x0000 = 0x00bb ∧ c.pkUDataPre s 0x00ff = 0xffbb ∧
    ((Litex.Packet.packetizer c).out s i).valid = true ∧ ((Litex.Packet.packetizer c).out s i).tok.data = 0x00bb ∧
    ((Litex.Packet.packetizer c).out ((Litex.Packet.packetizer c).step s i) i').tok.data = 0x00bb ∧
    HoldsOut ((Litex.Packet.packetizer c).out s i)
      ((Litex.Packet.packetizer c).out ((Litex.Packet.packetizer c).step s i) i') i ∧
    c.pkUData { s with dLast := false } 0x00ff = c.pkUDataPre { s with dLast := false } 0x00ff := by
  refine ⟨by decide, by decide, by decide, by decide, by decide, ?_, by decide⟩
  intro _ _
  exact ⟨by decide, by decide⟩

/-- Non-vacuity: the flush state of the witness is reachable (2-beat packet through the dw16/H3 packetizer). -/
example :
    let c : Litex.Packet.PkCfg := ⟨2, 3⟩
    let e := Litex.Packet.packetizer c
    let b (d : Nat) (l : Bool) : In Litex.Packet.HBeat := ⟨true, ⟨⟨d, 0x332211⟩, false, l⟩, true⟩
    (e.runFrom e.init [b 0xaaaa false, b 0xaaaa false, b 0xaaaa false, b 0xbbcc true]).st = .ucopy ∧
    (e.runFrom e.init [b 0xaaaa false, b 0xaaaa false, b 0xaaaa false, b 0xbbcc true]).dLast = true := by decide

/-- Progress of the Packetizer for every header length, source side: every cooperative cycle delivers a beat. -/
theorem packetizer_no_livelock_any (c : Litex.Packet.PkCfg) : DeliversWithin (Litex.Packet.packetizer c) 1 :=
  (Litex.Packet.packetizer_measure_all c).delivers trivial

/-- ... but the full statement "tokens keep moving" needs the *sink* to be served, and that fails for unaligned headers
    (open finding C16-packetizer-unaligned-single-beat): dw = 16, 3-byte header, a one-beat packet offered for ever
    under a ready consumer — the header word and the truncated beat are delivered again and again and no sink
    handshake ever happens; with a two-beat-or-longer packet the sink is served (non-vacuity of the contrast). -/
example :
    let e := Litex.Packet.packetizer ⟨2, 3⟩
    let b (l : Bool) : In Litex.Packet.HBeat := ⟨true, ⟨⟨0xbbcc, 0x332211⟩, false, l⟩, true⟩
    (e.accepted e.init (List.replicate 12 (b true))).length = 0 ∧
    (e.delivered e.init (List.replicate 12 (b true))).length = 12 ∧
    (e.accepted e.init (List.replicate 12 (b false))).length = 11 := by decide

/-! ## packet.Packetizer / packet.Depacketizer, header a multiple of the beat (`c.aligned`, `W ≥ 1` header words) -/

theorem packetizer_stable (c : Litex.Packet.PkCfg) (ha : c.aligned = true) :
    KeepsContract (Litex.Packet.packetizer c) :=
  keepsContract_of_stepStable (Litex.Packet.packetizer_stepStable c ha)
    (Litex.Packet.pkInv_init c)

/-- Every cooperative cycle delivers a beat (header word or payload), from every reachable state. -/
theorem packetizer_no_livelock (c : Litex.Packet.PkCfg) (ha : c.aligned = true) :
    DeliversWithin (Litex.Packet.packetizer c) 1 :=
  (Litex.Packet.packetizer_measure c ha).delivers
    (Litex.Packet.pkInv_init c)

/-- The aligned Packetizer serves its sink: the `W` header words, then every cooperative cycle accepts a beat. -/
theorem packetizer_accepts (c : Litex.Packet.PkCfg) (ha : c.aligned = true) (hW : 1 ≤ c.W) :
    AcceptsWithin (Litex.Packet.packetizer c) (c.W + 1) :=
  (Litex.Packet.packetizer_accMeasure c ha hW).accepts (Litex.Packet.hdrInv_pk_init c)

theorem depacketizer_stable (c : Litex.Packet.PkCfg) (ha : c.aligned = true) (hW : 1 ≤ c.W) :
    KeepsContract (Litex.Packet.depacketizer c) :=
  keepsContract_of_stepStable (Litex.Packet.depacketizer_stepStable c ha hW)
    (Litex.Packet.dpInv_init c)

/-- The `W` header words are swallowed, then every cooperative cycle delivers: a delivery at least every `W + 1`
    cooperative cycles. -/
theorem depacketizer_no_livelock (c : Litex.Packet.PkCfg) (ha : c.aligned = true) (hW : 1 ≤ c.W) :
    DeliversWithin (Litex.Packet.depacketizer c) (c.W + 1) :=
  (Litex.Packet.depacketizer_measure c ha hW).delivers
    (Litex.Packet.dpInv_init c)

/-- Non-vacuity: dw = 8, 2-byte header: the instance is aligned with `W = 2`; three cooperative cycles through the
    Depacketizer from reset deliver exactly one beat. -/
example :
    let c : Litex.Packet.PkCfg := ⟨1, 2⟩
    let b : In Nat := ⟨true, ⟨5, false, false⟩, true⟩
    c.aligned = true ∧ c.W = 2 ∧
    ((Litex.Packet.depacketizer c).delivered (Litex.Packet.depacketizer c).init [b, b, b]).length = 1 := by decide

/-
  Not proved (the behaviour is validated by the correspondence and the monitors only):
  * stability of the unaligned Depacketizer — inside C16's `UOk` producer domain, with the padding bytes of a `last`
    beat masked (monitored: exhaustive dw16/H3, random dw32/H6, dw64/H11);
  * `ProgressWithin (stages z l) 1` for every legal stage list (observed K = 1 on every explored instance; needs
    cross-stage invariants such as "PipeValid empty → FIFO before it holds ≤ 1 word"; proved for `chain3` and for the
    single stages only);
  * sink service of the unaligned Packetizer outside the open C16 findings (the full statement is refuted by the
    negative witness next to `packetizer_no_livelock_any`).
-/

/-- `Status.first` is 1 exactly when the next beat is the first of a packet — no beat transferred yet, or the
    latest transferred beat carried `last` — and the `ongoing` register is 1 exactly when `valid` was seen since
    the most recent last-beat handshake; for every history of the observed endpoint. -/
theorem status_first_last (ins : List StatusIn) :
    (status.run ins).first = (((beats ins).getLast?).map (·.last)).getD true ∧
    (status.run ins).ongoing = (sinceLast ins).any (·.valid) :=
  ⟨status_first_run ins, status_ongoing_run ins⟩

/-- The combinational outputs in a cycle with inputs `i` after history `ins`: `last` flags the transfer of a last
    beat, `ongoing` = (valid now or seen since the last packet end) and not ending now. -/
theorem status_outputs (ins : List StatusIn) (i : StatusIn) :
    (status.out (status.run ins) i).last = (i.valid && i.last && i.ready) ∧
    (status.out (status.run ins) i).ongoing =
      ((i.valid || (sinceLast ins).any (·.valid)) && !(i.valid && i.last && i.ready)) ∧
    (status.out (status.run ins) i).first = (((beats ins).getLast?).map (·.last)).getD true := by
  refine ⟨rfl, ?_, status_first_run ins⟩
  show ((i.valid || (status.run ins).ongoing) && !i.lastHs) = _
  rw [status_ongoing_run]; rfl

/-- The hypotheses are satisfiable on a run in which the contract actually bites: the consumer stalls a valid
    token for two cycles, the producer (which must hold: PipeValid is full) holds, and both contracts hold. -/
example :
    let z : Tok Nat := ⟨0, false, false⟩
    let ins : List (In Nat) :=
      [⟨true, ⟨5, true, false⟩, false⟩, ⟨true, ⟨6, false, true⟩, false⟩, ⟨true, ⟨6, false, true⟩, false⟩,
       ⟨true, ⟨6, false, true⟩, true⟩, ⟨false, ⟨9, true, true⟩, true⟩]
    StableIn (pipeValid z) (pipeValid z).init ins ∧ StableOut (pipeValid z) (pipeValid z).init ins ∧
    ((pipeValid z).outs (pipeValid z).init ins).map (·.valid) = [false, true, true, true, true] := by
  simp [StableIn, StableInFrom, StableOut, StableOutFrom, HoldsIn, HoldsOut, pipeValid, Elem.out, Elem.step,
    Elem.outs, Machine.traceFrom, Elem.toMachine]

/-- The producer hypothesis is necessary: a wire driven by a producer that retracts shows a retraction. -/
example :
    let ins : List (In Nat) := [⟨true, ⟨5, false, false⟩, false⟩, ⟨false, ⟨5, false, false⟩, false⟩]
    ¬ StableOut (wire (α := Nat)) () ins := by
  simp [StableOut, StableOutFrom, HoldsOut, wire, Elem.out]

/-- Progress is not vacuous: three cooperative cycles through a depth-2 FIFO from reset give 3 sink handshakes
    and 2 deliveries. -/
example :
    let e := syncFifo 2 (⟨0, false, false⟩ : Tok Nat)
    let ins : List (In Nat) := [⟨true, ⟨1, true, false⟩, true⟩, ⟨true, ⟨2, false, false⟩, true⟩, ⟨true, ⟨3, false, true⟩, true⟩]
    (e.accepted [] ins).length = 3 ∧ (e.delivered [] ins).length = 2 := by decide

/-- Non-vacuity for a converter: `upConv 2` fed by a holding producer against a stalling consumer.  The word
    [5,6] is complete after two cycles, waits two cycles (ready = 0) while the producer — refused — holds 7, and
    both contracts hold; source.valid is high for three consecutive cycles. -/
example :
    let e := upConv (π := Unit) 2 (0 : Nat) ()
    let ins : List (In (Nat × Unit)) :=
      [⟨true, ⟨(5, ()), true, false⟩, false⟩, ⟨true, ⟨(6, ()), false, false⟩, false⟩,
       ⟨true, ⟨(7, ()), false, false⟩, false⟩, ⟨true, ⟨(7, ()), false, false⟩, false⟩,
       ⟨true, ⟨(7, ()), false, false⟩, true⟩]
    StableIn e e.init ins ∧ StableOut e e.init ins ∧
    (e.outs e.init ins).map (·.valid) = [false, false, true, true, true] ∧
    (e.delivered e.init ins).map (·.data.lanes) = [[5, 6]] := by
  simp [StableIn, StableInFrom, StableOut, StableOutFrom, HoldsIn, HoldsOut, upConv, Elem.out, Elem.step, Elem.outs,
    Machine.traceFrom, Elem.toMachine, UpState.outTok, Elem.delivered, Elem.delNow]

/-- Non-vacuity for the gearbox bound: 1 → 3 bits (`io_lcm = 6`, `⌈3/1⌉ + 1 = 4`): four cooperative cycles from
    reset deliver exactly one word, and three do not deliver any (the bound is tight). -/
example :
    let e := gearbox (ioLcm 1 3) 1 3 false
    let c : In (List Bool) := ⟨true, ⟨[true], false, false⟩, true⟩
    (e.delivered e.init [c, c, c, c]).length = 1 ∧ (e.delivered e.init [c, c, c]).length = 0 := by decide


/-- Status on a two-packet history: beats (f l) = (1 0) (0 1) | (1 1); `first` is back to 1 after each `last`. -/
example :
    let ins : List StatusIn := [⟨true, false, true⟩, ⟨true, true, false⟩, ⟨true, true, true⟩]
    (status.run ins).first = true ∧ (status.run (ins.take 1)).first = false ∧
    (status.run (ins.take 2)).ongoing = true ∧ (status.run ins).ongoing = false := by decide

end Litex.C04
