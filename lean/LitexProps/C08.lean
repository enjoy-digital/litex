import LitexProofs.Axi.LiteRun
import LitexProofs.Axi.LiteTimeout
import LitexProofs.Axi.LiteClosed
import LitexModel.Axi.LiteSoc
import LitexProofs.Wishbone.InterconnectSoc
/-
  C08 — AXI-Lite (and AXI) interconnect keeps grants and routes until every response has returned.

  Models (`LitexModel/Axi/Lite*.lean`): one *direction* (write: aw/w/b, read: ar/r) of
    `Shared.machine c rd`    = `AXILiteInterconnectShared` / `AXIInterconnectShared`  (arbiter → bus → decoder),
    `Crossbar.machine c rd`  = `AXILiteCrossbar` / `AXICrossbar`  (a decoder per master, an arbiter per slave);
  the complete fabric is `both (… false) (… true)` (`Shared.full`, `Crossbar.full`).  `c.full` selects the AXI4
  classes (read responses counted on `last`).  Masters and slaves are environment: `x : DirIn` gives, for one cycle,
  arbitrary values of every master's address/data valid, address, payloads, response ready and of every slave's
  readies, response valid/last/payload.

  Quantifiers.  Run theorems are by induction over `ins : List DirIn` — every schedule of the five channels (address
  before/with/after data, several outstanding requests, back-pressure, any slave latency and acceptance order);
  the numbers of masters and slaves `c.n`, `c.m`, the address map `c.dec`, the data width (`c.shift`) and AXI-Lite vs
  AXI4 are arbitrary.  Hypotheses are explicit and decidable cycle by cycle against the routing scoreboard
  (`EnvOK`, `LitexModel/Axi/LiteInterconnectSpec.lean`):
      slaveLegal   a slave raises a response only while it holds an unanswered request          (AXI)
      sameSlave    SameSlaveWhileLocked: a master with unanswered requests at slave j presents only addresses of j
      noOverflow   a slave holding 255 unanswered requests does not accept another one          (8-bit counters)
  and `Disjoint c` (no address belongs to two slaves; C13 provides this for SoC regions), `0 < c.n`.
  The write-data theorems (`axl_route_data_partial`, `…_crossbar_partial`) additionally assume `DEnvOK`
      dataAfterAddr  NoDataBeforeAddr: data is presented only for an accepted address still waiting for it, or for the
                     address being presented
      addrHeld       an address whose data went ahead stays presented (same slave) until accepted      (AXI)
      respAfterData  B is given only after the data                                                    (AXI)
  and cover AXI-Lite transfers and AXI4 write bursts (`c.wlast` = where `last` sits in the packed payload).  The theorems about the read direction of the AXI4 classes count responses on `last` (`c.full`).

  CLOSED SYSTEM (`axl_closed_*`, `axl_end_to_end_*`, `axl_soc_end_to_end_partial`): `EnvOK` is not an assumption of the
  final statements — it is derived, for every schedule, from rules each master / slave follows on its own port
  (`LocalOK`: a master with unanswered requests stays with the slave of its last accepted address; a slave answers only
  requests it holds and accepts at most 255), and `Disjoint` is derived from an accepted SoC region list.  What remains
  assumed: NoDataBeforeAddr (open finding), ≤ 255 requests held per slave (the counters do not guard themselves:
  saturation witnesses), a healthy bus where a finite timeout is configured.

  The property as written ("each accepted address reaches the slave chosen by its address … for all schedules") is
  FALSE on the code without `sameSlave`, and the write-data part is false without NoDataBeforeAddr: see the two
  negative witnesses at the end (both are known findings, replayed on the real code by `harness/props/c08.py`).
-/
/-
  INVENTORY of the anchored code (litex/soc/interconnect/axi/axi_lite.py, axi_full.py, axi_common.py, and the SoC glue
  that instantiates it).  tie: A = exhaustive co-exploration of the reachable product (small shapes), B = seeded lock-step
  co-simulation (32..128-bit shapes, AXI-legal and arbitrary environments), P = pure function compared on a grid,
  every instance additionally through the model-independent AxiMonitor (protocol + routing scoreboard).

  class / function (Lite | AXI4 twin)               model                               theorems                                     tie
  ------------------------------------------------- ----------------------------------- -------------------------------------------- ---------------------------
  _AXILiteRequestCounter | _AXIRequestCounter       ctrNext, ctrEmpty (8 bit, saturates  axl_counter_inv, axl_counter_bounded,        P exhaustive (256 x 2 x 2, both
                                                     at 255, `stall` unused as coded)     axl_counter_saturates, saturation            classes) + 258-deep lock-step
                                                                                          witnesses (fabric level)                     runs inside 3 fabrics
  AXILiteArbiter | AXIArbiter                       Arb / ArbFabric (+ RoundRobin .ce)   axl_grant_frozen, axl_eventually_served,     A n = 1..3 w/r (exhaustive), B 3->1
                                                                                          axl_served_within, axl_crossbar_composition  32 bit; RoundRobin P exhaustive n<=4
  AXILiteDecoder | AXIDecoder                       Dec / DecFabric                      lock part of axl_lock_held_*, negative       A m = 1..3, 2 maps, w/r; B 1->3
                                                                                          witnesses 1 + 2 (the two open findings)      regions 32 bit
  AXILiteInterconnectPointToPoint | AXI…PointToPoint P2P (wiring = connect_axi)          axl_p2p_transparent, witness `socP`          A joint (Lite + AXI4), B 32 bit
  AXILiteInterconnectShared | AXIInterconnectShared Shared (timeout None), SharedT       axl_route(_data)_partial, axl_lock_held_shared, A 1x2 2x1 2x2 (3x2 2x3 3x3 thorough,
    (adr/id width = max over masters)                (finite timeout_cycles, with         axl_counter_inv_shared, axl_id_preserved,    sampled), joint w x r; B 3x3 2x3 4x2
                                                     C11's AXI(Lite)Timeout FSM)          axl_timeout_transparent_partial,             16..128 bit, id_width 4, unequal
                                                                                          axl_closed_shared, axl_end_to_end_shared     master address widths, timeouts
  AXILiteCrossbar | AXICrossbar                     Crossbar (n decoders x m arbiters,   axl_route(_data)_crossbar_partial,           A as Shared; B 3x3 2x3 4x2 …;
    (timeout_cycles accepted and ignored)            arbitrary n, m)                      axl_lock_held_crossbar, axl_counter_inv_     3x3 walks
                                                                                          crossbar, axl_crossbar_composition,
                                                                                          axl_closed_crossbar, axl_end_to_end_crossbar
  AXILiteTimeout | AXITimeout                       C11's Timeout.Axi                    C11; here only the composition SharedT       B healthy + firing buses
  get_check_parameters (both files)                 checkParameters                      axl_check_parameters                         P (equal / unequal width lists)
  AXI(Lite)Interface.layout_flat, axi_layout_flat,  not separately: they enumerate the   —                                            every signal of every channel is
    connect_axi (axi_common.py)                      signals the models carry as aValid/                                               driven and compared at port level
                                                     aAddr/aPay/dValid/dPay/rReady, …                                                  (widths checked against the
                                                     (`*Pay` = all pass-through fields)                                                constructor arguments)
  r.last-qualified read release (AXI4), w.last      `gated` (= full && rd), `c.wlast`    axl_read_burst_holds_lock, axl_read_burst_    A (AXI4 read letters carry last),
                                                                                          beat_keeps_entry, data theorems              B bursts 1..4 beats
  id / dest / user / first / last side-bands        packed in `*Pay` at full width       axl_id_preserved(_run)                       B id_width 4 (after fix 1eff3cf); masters
                                                                                                                                       with UNEQUAL id widths: direct id check
  SoCBusHandler.do_finalize (soc.py; standard       SocAxi.fabric / SocAxi.cfg over      axl_soc_fabric_p2p_iff, axl_soc_fabric_      P fabric class vs SocAxi.fabric,
    "axi-lite" / "axi": P2P / Shared / Crossbar,     C06's busTopology (shared model      decoded, axl_soc_closed_route,               B through real SoCBusHandlers
    SoCRegion.decoder, timeout, register)            of the one do_finalize statement)    axl_soc_accepted_disjoint_partial,           (`open socaxi`, model picks the fabric)
                                                                                          axl_soc_end_to_end_partial, witness `socP`
  legal AXI master / slave (environment)            LocalOK / LocalAll (port-local)      axl_closed_* (EnvOK DERIVED, not assumed)    `open localmon`: the harness's AXI-
                                                                                                                                       legal environments satisfy LocalOK in
                                                                                                                                       every cycle; finding witnesses do not
  other classes of the three files (AXILiteSRAM, axi_lite_to_simple, Up/DownConverter, Converter, ClockDomainCrossing,
  Remapper, AXIBurst2Beat, connect_to_pads): properties C05 / C07 / C09 / C10 / C11, not C08.
-/
namespace Litex.C08
open Litex Litex.Axi.Lite


/-- The counter register equals accepted requests minus delivered responses, for every
    event sequence in which a response leaves only while a request is outstanding (or together with one) and at
    most 255 requests are outstanding. -/
theorem axl_counter_inv (evs : List (Bool × Bool)) (h : CtrLegal 0 evs) :
    ctrRun 0 evs = outstandingSpec 0 evs :=
  ctrRun_spec evs 0 h

/-- non-vacuity: request, request+response, response. -/
example : CtrLegal 0 [(true, false), (true, true), (false, true)] ∧
    ctrRun 0 [(true, false), (true, true), (false, true)] = 0 ∧ ctrRun 0 [(true, false), (true, false)] = 2 := by
  refine ⟨?_, by decide, by decide⟩
  simp [CtrLegal, maxReq]

/-- Saturation as coded (`stall` is computed and never used): from 255 the 256th unanswered request is accepted by
    the fabric but not counted — the region excluded by the second conjunct of `CtrLegal`. -/
example : ctrRun 255 [(true, false)] = 255 ∧ outstandingSpec 255 [(true, false)] = 256 := by decide

/-- In every state the shared interconnect reaches under a behaving environment,
    the arbiter's and the decoder's counter both equal the number of unanswered requests on the port-level
    scoreboard (accepted at the slaves, response not yet handed back). -/
theorem axl_counter_inv_shared (c : Cfg) (rd : Bool) (hd : Disjoint c) (hn : 0 < c.n) (ins : List DirIn)
    (henv : EnvAll (Shared.machine c rd) c rd (Shared.init c rd) Fifo.empty ins) :
    let r := runSB (Shared.machine c rd) c rd (Shared.init c rd) Fifo.empty ins
    r.1.arb.cnt = r.2.total c.m ∧ r.1.dec.cnt = r.2.total c.m :=
  Shared.counters c _ _ (Shared.inv_run c rd hd ins _ _ (Shared.inv_reset c rd hn) henv)

/-- Crossbar: the arbiter in front of slave `j` counts slave `j`'s unanswered
    requests, the decoder behind master `i` counts master `i`'s. -/
theorem axl_counter_inv_crossbar (c : Cfg) (rd : Bool) (hd : Disjoint c) (hn : 0 < c.n) (ins : List DirIn)
    (henv : EnvAll (Crossbar.machine c rd) c rd (Crossbar.init c rd) Fifo.empty ins) :
    let r := runSB (Crossbar.machine c rd) c rd (Crossbar.init c rd) Fifo.empty ins
    (∀ j, j < c.m → (Crossbar.arb r.1 j).cnt = (r.2 j).length) ∧
    (∀ i, i < c.n → (Crossbar.dcd r.1 i).cnt = r.2.ofMaster c.m i) :=
  Crossbar.counters c _ _ (Crossbar.inv_run c rd hd ins _ _ (Crossbar.inv_reset c rd hn) henv)


/-- In EVERY state and for EVERY input: the write (read) grant of an arbiter does not
    change at the clock edge while that direction's counter is non-zero or the owner drives `aw|w` (`ar`) valid or
    the target drives `b` (`r`) valid. -/
theorem axl_grant_frozen (n : Nat) (gated : Bool) (s : ArbState) (ms : Nat → DMS) (sm : DSM) (hg : s.grant < n)
    (h : s.cnt ≠ 0 ∨ (ms s.grant).aValid = true ∨ (ms s.grant).dValid = true ∨ sm.rValid = true) :
    (Arb.next n gated s ms sm).grant = s.grant :=
  Arb.grant_frozen n gated s ms sm hg h

/-- Along every run with a behaving environment: while some slave `j` holds an
    unanswered request (scoreboard entry, i.e. accepted at the slave port and not yet answered), whatever the
    masters and slaves drive next, the grant does not move, the select points at `j` and only at `j` regardless of the
    address lines, and all unanswered requests are the grant owner's. -/
theorem axl_lock_held_shared (c : Cfg) (rd : Bool) (hd : Disjoint c) (hn : 0 < c.n) (ins : List DirIn)
    (henv : EnvAll (Shared.machine c rd) c rd (Shared.init c rd) Fifo.empty ins) :
    let r := runSB (Shared.machine c rd) c rd (Shared.init c rd) Fifo.empty ins
    ∀ j, j < c.m → r.2 j ≠ [] →
      (∀ x, (Shared.next c rd r.1 x).arb.grant = r.1.arb.grant) ∧
      (∀ x k, k < c.m → Shared.selOf c rd r.1 x k = (k == j)) ∧
      (∀ a ∈ r.2 j, a = r.1.arb.grant) := by
  intro r j hj hne
  exact Shared.lock_held c rd _ _ (Shared.inv_run c rd hd ins _ _ (Shared.inv_reset c rd hn) henv) j hj hne

/-- Crossbar: while slave `j` holds an unanswered request its arbiter's grant does
    not move, the requests are all the grant owner's, and the decoder of every master with an unanswered request at
    `j` selects `j` and only `j`. -/
theorem axl_lock_held_crossbar (c : Cfg) (rd : Bool) (hd : Disjoint c) (hn : 0 < c.n) (ins : List DirIn)
    (henv : EnvAll (Crossbar.machine c rd) c rd (Crossbar.init c rd) Fifo.empty ins) :
    let r := runSB (Crossbar.machine c rd) c rd (Crossbar.init c rd) Fifo.empty ins
    ∀ j, j < c.m → r.2 j ≠ [] →
      (∀ x, (Crossbar.arb (Crossbar.next c rd r.1 x) j).grant = (Crossbar.arb r.1 j).grant) ∧
      (∀ i, i < c.n → i ∈ r.2 j → ∀ x k, k < c.m → Crossbar.selI c rd r.1 x i k = (k == j)) ∧
      (∀ a ∈ r.2 j, a = (Crossbar.arb r.1 j).grant) := by
  intro r j hj hne
  exact Crossbar.lock_held c rd _ _ (Crossbar.inv_run c rd hd ins _ _ (Crossbar.inv_reset c rd hn) henv) j hj hne


/-- A complete fabric run is the write machine on the write signals next to the read
    machine on the read signals: the registers of either direction after any run, and everything any port sees on
    the channels of that direction in any cycle, are functions of that direction's inputs alone. -/
theorem axl_rw_independent {σ : Type} (mw mr : Machine DirIn σ DirOut) (ins : List BusIn) :
    ((both mw mr).run ins).w = mw.run (ins.map wIn) ∧ ((both mw mr).run ins).r = mr.run (ins.map rIn) ∧
    ((both mw mr).trace ins).map (fun o => (fun j => (o.toS j).w, fun i => (o.toM i).w)) =
      (mw.trace (ins.map wIn)).map (fun o => (o.toS, o.toM)) ∧
    ((both mw mr).trace ins).map (fun o => (fun j => (o.toS j).r, fun i => (o.toM i).r)) =
      (mr.trace (ins.map rIn)).map (fun o => (o.toS, o.toM)) :=
  ⟨(both_run mw mr ins _).1, (both_run mw mr ins _).2, (both_trace mw mr ins _).1, (both_trace mw mr ins _).2⟩


/- Full statement (FALSE on the code, see the negative witnesses):
   the assume/guarantee statement `Holds` with the environment only required to be AXI-legal. -/

/-- (Shared interconnect) for every run from reset: in every cycle up to which the
    environment has behaved (`EnvOK`: AXI-legal slaves, SameSlaveWhileLocked, ≤ 255 outstanding)
      * every address handshake at a master is an address handshake at the slave its address decodes to, and every
        address handshake at a slave is the request of exactly one master, with that master's address and payload;
      * every response handshake at slave `j` is in the same cycle a response handshake, with the same payload, at
        the issuer of slave `j`'s oldest unanswered request, and every response handshake at a master comes from
        exactly one such slave (delivered exactly once, to the issuer, in issue order);
      * all unanswered requests of the bus belong to one master. -/
theorem axl_route_partial (c : Cfg) (rd : Bool) (hd : Disjoint c) (hn : 0 < c.n) (ins : List DirIn) :
    Holds (Shared.machine c rd) c rd true (Shared.init c rd) Fifo.empty ins :=
  Shared.holds_of_inv c rd hd ins _ _ (Shared.inv_reset c rd hn)

/-- The same for the crossbar, with one owner per slave. -/
theorem axl_route_crossbar_partial (c : Cfg) (rd : Bool) (hd : Disjoint c) (hn : 0 < c.n) (ins : List DirIn) :
    Holds (Crossbar.machine c rd) c rd false (Crossbar.init c rd) Fifo.empty ins :=
  Crossbar.holds_of_inv c rd hd ins _ _ (Crossbar.inv_reset c rd hn)

/-- IDs (and every other pass-through field: the model carries the packed payloads at full
    width, as the code does since fix 1eff3cf) are unchanged by the fabric.  For ANY field extractor `idOf` on the
    packed payload: in a cycle in which the routing guarantee holds, the request id seen by a slave at its address
    handshake is the id driven by the one master whose request it is, and the response id seen by the issuer at its
    response handshake is the id driven by the slave.  With `axl_route_partial` / `axl_route_crossbar_partial` this
    holds in every cycle of every run with a behaving environment (`axl_id_preserved_run`). -/
theorem axl_id_preserved (c : Cfg) (shared : Bool) (g : Fifo) (x : DirIn) (o : DirOut) (h : RouteOK c shared g x o)
    (idOf : Nat → Nat) :
    (∀ j, j < c.m → sReq x o j = true →
        ∃ i, i < c.n ∧ issuersTo c x o j = [i] ∧ idOf (o.toS j).aPay = idOf (x.ms i).aPay) ∧
    (∀ j, j < c.m → sRsp x o j = true →
        ∃ i, i < c.n ∧ (g j).head? = some i ∧ mRsp x o i = true ∧ idOf (o.toM i).rPay = idOf (x.ss j).rPay) := by
  constructor
  · intro j hj hs
    obtain ⟨i, hi, hiss, _, hp⟩ := h.addr_s j hj hs
    exact ⟨i, hi, hiss, by rw [hp]⟩
  · intro j hj hs
    obtain ⟨i, hi, hh, hm, hp, _⟩ := h.resp_s j hj hs
    exact ⟨i, hi, hh, hm, by rw [hp]⟩

/-- … in the first cycle after any run from reset of the shared interconnect (the crossbar is the same with
    `axl_route_crossbar_partial`). -/
theorem axl_id_preserved_run (c : Cfg) (rd : Bool) (hd : Disjoint c) (hn : 0 < c.n) (ins : List DirIn) (x : DirIn)
    (henv : EnvAll (Shared.machine c rd) c rd (Shared.init c rd) Fifo.empty ins) (idOf : Nat → Nat) :
    let r := runSB (Shared.machine c rd) c rd (Shared.init c rd) Fifo.empty ins
    EnvOK c r.2 x →
    (∀ j, j < c.m → sReq x (Shared.out c rd r.1 x) j = true →
        ∃ i, i < c.n ∧ issuersTo c x (Shared.out c rd r.1 x) j = [i] ∧
             idOf ((Shared.out c rd r.1 x).toS j).aPay = idOf (x.ms i).aPay) ∧
    (∀ j, j < c.m → sRsp x (Shared.out c rd r.1 x) j = true →
        ∃ i, i < c.n ∧ (r.2 j).head? = some i ∧ mRsp x (Shared.out c rd r.1 x) i = true ∧
             idOf ((Shared.out c rd r.1 x).toM i).rPay = idOf (x.ss j).rPay) := by
  intro r env
  have hinv := Shared.inv_run c rd hd ins _ _ (Shared.inv_reset c rd hn) henv
  exact axl_id_preserved c true r.2 x _ (Shared.step c rd hd r.1 r.2 x hinv env).1 idOf

/- Full statement of the data part (FALSE on the code, negative witness 2): every write-data handshake reaches the slave
   of its address, for every AXI-legal master (AXI allows W before AW). -/

/-- (Shared interconnect; AXI-Lite transfers and AXI4 write BURSTS: `c.wlast` reads `last`
    off the packed data payload, a burst is the beats up to and including `last`, bursts belong to addresses in
    order) address/response part and data part together, for every run from reset: in every cycle up to which the environment has behaved (`EnvOK` and
    `DEnvOK`: NoDataBeforeAddr, an address whose data went ahead stays presented, B only after the data)
      * `RouteOK` (as in `axl_route_partial`), and
      * every write-data beat handed over by a master is, in the same cycle and with the same payload (hence the same
        `last`), a data handshake at exactly the slave of that master's oldest accepted address whose burst is not
        complete — or, with no such address, at the slave of the address it is presenting — and every data handshake
        at a slave is the beat of exactly one such master; `last` closes the burst (`dgNext`): all beats of a burst
        reach the slave of its address, in order; the counters count AW/B as coded (`axl_counter_inv_*`).
    Together with `RouteOK.addr_m` the address/data pair of a write reaches one and the same slave, chosen by the
    address. -/
theorem axl_route_data_partial (c : Cfg) (rd : Bool) (hd : Disjoint c) (hn : 0 < c.n) (ins : List DirIn) :
    HoldsD (Shared.machine c rd) c rd true (Shared.init c rd) Fifo.empty DGhost.empty ins :=
  Shared.holdsD_of_inv c rd hd ins _ _ _ (Shared.inv_reset c rd hn) (Shared.dinv_reset c rd)

/-- The same for the crossbar. -/
theorem axl_route_data_crossbar_partial (c : Cfg) (rd : Bool) (hd : Disjoint c) (hn : 0 < c.n) (ins : List DirIn) :
    HoldsD (Crossbar.machine c rd) c rd false (Crossbar.init c rd) Fifo.empty DGhost.empty ins :=
  Crossbar.holdsD_of_inv c rd hd ins _ _ _ (Crossbar.inv_reset c rd hn) (dlock_reset c _)


/-- (Shared) while master `i` keeps presenting an address, every cycle in which the
    bus can be handed over (`rr.ce`: the owner drives nothing and no response is outstanding — the end of a lock
    period) and `i` is not the owner moves the grant strictly closer to `i`:
    (number of such cycles) + (distance still to go) ≤ initial distance ≤ n-1.
    With slaves that eventually answer and masters that eventually accept, every lock period ends, so `i` is
    granted after at most n-1 lock periods of other masters. -/
theorem axl_eventually_served (c : Cfg) (rd : Bool) (i : Nat) (hi : i < c.n) (s : ShDir) (hg : s.arb.grant < c.n)
    (ins : List DirIn) (hreq : ∀ x ∈ ins, (x.ms i).aValid = true) :
    Shared.handovers c rd i s ins + RoundRobin.dist c.n ((Shared.machine c rd).runFrom s ins).arb.grant i
      ≤ RoundRobin.dist c.n s.arb.grant i ∧ RoundRobin.dist c.n s.arb.grant i ≤ c.n - 1 :=
  ⟨Shared.bounded_wait c rd i hi ins s hg hreq, by have := RoundRobin.dist_lt c.n s.arb.grant i (by omega); omega⟩

/-- … hence after n-1 hand-over opportunities `i` owns the bus. -/
theorem axl_served_within (c : Cfg) (rd : Bool) (i : Nat) (hi : i < c.n) (s : ShDir) (hg : s.arb.grant < c.n)
    (ins : List DirIn) (hreq : ∀ x ∈ ins, (x.ms i).aValid = true)
    (hmany : c.n - 1 ≤ Shared.handovers c rd i s ins) :
    ((Shared.machine c rd).runFrom s ins).arb.grant = i := by
  obtain ⟨h1, h2⟩ := axl_eventually_served c rd i hi s hg ins hreq
  have hfin := (Shared.machine c rd).invariant_runFrom (fun s => s.arb.grant < c.n)
    (fun s x h => Arb.next_grant_lt _ _ _ _ _ h) ins s hg
  exact RoundRobin.dist_eq_zero hfin hi (by omega)

/-- The same for the arbiter in front of slave `j` while master `i` keeps
    presenting an address that its decoder forwards to `j`. -/
theorem axl_eventually_served_crossbar (c : Cfg) (rd : Bool) (i j : Nat) (hi : i < c.n) (hj : j < c.m)
    (s : XbDir) (hg : (Crossbar.arb s j).grant < c.n) (ins : List DirIn) (hreq : Crossbar.Requests c rd i j s ins) :
    Crossbar.handovers c rd i j s ins +
      RoundRobin.dist c.n (Crossbar.arb ((Crossbar.machine c rd).runFrom s ins) j).grant i
      ≤ RoundRobin.dist c.n (Crossbar.arb s j).grant i ∧ RoundRobin.dist c.n (Crossbar.arb s j).grant i ≤ c.n - 1 :=
  ⟨Crossbar.bounded_wait c rd i j hi hj ins s hg hreq,
   by have := RoundRobin.dist_lt c.n (Crossbar.arb s j).grant i (by omega); omega⟩

/-- … hence after n-1 hand-over opportunities `i` owns slave `j`. -/
theorem axl_served_within_crossbar (c : Cfg) (rd : Bool) (i j : Nat) (hi : i < c.n) (hj : j < c.m)
    (s : XbDir) (hg : (Crossbar.arb s j).grant < c.n) (ins : List DirIn) (hreq : Crossbar.Requests c rd i j s ins)
    (hmany : c.n - 1 ≤ Crossbar.handovers c rd i j s ins) :
    (Crossbar.arb ((Crossbar.machine c rd).runFrom s ins) j).grant = i := by
  obtain ⟨h1, h2⟩ := axl_eventually_served_crossbar c rd i j hi hj s hg ins hreq
  have hfin := (Crossbar.machine c rd).invariant_runFrom (fun s => (Crossbar.arb s j).grant < c.n)
    (fun s x h => (Crossbar.arb_next c rd s x j hj).symm ▸ Arb.next_grant_lt _ _ _ _ _ h) ins s hg
  exact RoundRobin.dist_eq_zero hfin hi (by omega)


/-- `InterconnectPointToPoint` is wiring: the slave sees exactly what the master drives
    and vice versa, in every cycle (so every handshake trivially reaches the one slave and its one master). -/
theorem axl_p2p_transparent (x : DirIn) : (P2P.machine.out () x).toS 0 = x.ms 0 ∧ (P2P.machine.out () x).toM 0 = x.ss 0 :=
  ⟨rfl, rfl⟩

/- Full statement (FALSE: a dead slave makes the watchdog answer in its place — that is its purpose, property C11):
   the shared interconnect with a timeout behaves as the one without. -/

/-- `SharedT.machine` = the shared interconnect composed with C11's
    `AXI(Lite)Timeout` FSM as the class wires it (override of the shared bus, both lock counters read the overridden
    bus).  On a HEALTHY bus — along the run no streak of consecutive cycles in which an address (write: or data)
    transfer of the bus owner is presented and not accepted grows beyond `t` (`Shared.Healthy`) — the fabric with
    `timeout_cycles = t` produces, from reset, exactly the outputs of the timeout-less fabric in every cycle, ends with
    the same arbiter/decoder registers, and its watchdog never leaves WAIT.  Hence every theorem above
    (`axl_route_partial`, `axl_route_data_partial`, `axl_lock_held_shared`, …) holds verbatim for the fabric users
    build with a finite timeout, on every healthy run. -/
theorem axl_timeout_transparent_partial (c : TCfg) (rd : Bool) (ins : List DirIn)
    (hh : Shared.Healthy c.toCfg rd c.t (Shared.init c.toCfg rd) 0 ins) :
    (SharedT.machine c rd).trace ins = (Shared.machine c.toCfg rd).trace ins ∧
    ((SharedT.machine c rd).run ins).sh = (Shared.machine c.toCfg rd).run ins ∧
    ((SharedT.machine c rd).run ins).tm.respond = false :=
  SharedT.transparent c rd ins (SharedT.init c rd) 0 rfl (by simp [SharedT.init, Timeout.Axi.fInit]) hh

/-- … in particular the routing guarantee of `axl_route_partial`. -/
theorem axl_route_timeout_partial (c : TCfg) (rd : Bool) (hd : Disjoint c.toCfg) (hn : 0 < c.n) (ins : List DirIn)
    (hh : Shared.Healthy c.toCfg rd c.t (Shared.init c.toCfg rd) 0 ins) :
    (SharedT.machine c rd).trace ins = (Shared.machine c.toCfg rd).trace ins ∧
    Holds (Shared.machine c.toCfg rd) c.toCfg rd true (Shared.init c.toCfg rd) Fifo.empty ins :=
  ⟨(axl_timeout_transparent_partial c rd ins hh).1, axl_route_partial c.toCfg rd hd hn ins⟩

/-! ## Closed system: legal masters + legal slaves + disjoint map ⇒ the guarantee, in every cycle

  The theorems above assume `EnvOK` cycle by cycle against the GLOBAL scoreboard.  Here the assumption is replaced by
  rules each master / slave can follow from what it sees on ITS OWN port (`LocalOK`, LitexModel/Axi/LiteClosed.lean):
  a master with unanswered requests (its own count) presents only addresses of the slave of its last accepted address;
  a slave answers only requests it holds (its own count) and does not accept a 256th.  `EnvOK` is then DERIVED for every
  schedule (`closed_env`: circular assume/guarantee induction, for any machine satisfying `Holds`). -/

/-- Shared interconnect, every schedule in which masters and slaves follow the local rules:
    the global assumptions hold in every cycle, hence (no assumption left) the routing guarantee `RouteOK` holds in
    EVERY cycle of the run. -/
theorem axl_closed_shared (c : Cfg) (rd : Bool) (hd : Disjoint c) (hn : 0 < c.n) (ins : List DirIn)
    (hloc : LocalAll (Shared.machine c rd) c rd (Shared.init c rd) (fun _ => {}) (fun _ => 0) ins) :
    EnvAll (Shared.machine c rd) c rd (Shared.init c rd) Fifo.empty ins ∧
    Guar (Shared.machine c rd) c rd true (Shared.init c rd) Fifo.empty ins := by
  have hh := axl_route_partial c rd hd hn ins
  have he := closed_env _ c rd true hd ins _ _ _ _ (coupled_reset c) hh hloc
  exact ⟨he, guar_of_holds _ c rd true ins _ _ hh he⟩

/-- The same for the crossbar. -/
theorem axl_closed_crossbar (c : Cfg) (rd : Bool) (hd : Disjoint c) (hn : 0 < c.n) (ins : List DirIn)
    (hloc : LocalAll (Crossbar.machine c rd) c rd (Crossbar.init c rd) (fun _ => {}) (fun _ => 0) ins) :
    EnvAll (Crossbar.machine c rd) c rd (Crossbar.init c rd) Fifo.empty ins ∧
    Guar (Crossbar.machine c rd) c rd false (Crossbar.init c rd) Fifo.empty ins := by
  have hh := axl_route_crossbar_partial c rd hd hn ins
  have he := closed_env _ c rd false hd ins _ _ _ _ (coupled_reset c) hh hloc
  exact ⟨he, guar_of_holds _ c rd false ins _ _ hh he⟩

/-- With the write-data rules as well (`DEnvOK`: NoDataBeforeAddr,
    address held, B after the data — each clause is about one master's own waiting list or one slave's own burst count):
    address, response AND data guarantee in every cycle. -/
theorem axl_closed_data_shared (c : Cfg) (rd : Bool) (hd : Disjoint c) (hn : 0 < c.n) (ins : List DirIn)
    (hloc : LocalAll (Shared.machine c rd) c rd (Shared.init c rd) (fun _ => {}) (fun _ => 0) ins)
    (hdat : DEnvAll (Shared.machine c rd) c rd (Shared.init c rd) DGhost.empty ins) :
    GuarD (Shared.machine c rd) c rd true (Shared.init c rd) Fifo.empty DGhost.empty ins :=
  guarD_of_holdsD _ c rd true ins _ _ _ (axl_route_data_partial c rd hd hn ins) (axl_closed_shared c rd hd hn ins hloc).1 hdat

theorem axl_closed_data_crossbar (c : Cfg) (rd : Bool) (hd : Disjoint c) (hn : 0 < c.n) (ins : List DirIn)
    (hloc : LocalAll (Crossbar.machine c rd) c rd (Crossbar.init c rd) (fun _ => {}) (fun _ => 0) ins)
    (hdat : DEnvAll (Crossbar.machine c rd) c rd (Crossbar.init c rd) DGhost.empty ins) :
    GuarD (Crossbar.machine c rd) c rd false (Crossbar.init c rd) Fifo.empty DGhost.empty ins :=
  guarD_of_holdsD _ c rd false ins _ _ _ (axl_route_data_crossbar_partial c rd hd hn ins)
    (axl_closed_crossbar c rd hd hn ins hloc).1 hdat

/-- The property as one statement: legal masters + legal slaves + disjoint address map ⇒
    (1) in every cycle every accepted address reaches exactly its decoded slave and every response returns exactly once
    to its issuer, in issue order (`Guar`); (2) after the run both counters equal the number of unanswered requests;
    (3) while any request is unanswered the grant cannot move whatever is driven next, the select points at that slave
    only, and all unanswered requests are the owner's. -/
theorem axl_end_to_end_shared (c : Cfg) (rd : Bool) (hd : Disjoint c) (hn : 0 < c.n) (ins : List DirIn)
    (hloc : LocalAll (Shared.machine c rd) c rd (Shared.init c rd) (fun _ => {}) (fun _ => 0) ins) :
    Guar (Shared.machine c rd) c rd true (Shared.init c rd) Fifo.empty ins ∧
    (let r := runSB (Shared.machine c rd) c rd (Shared.init c rd) Fifo.empty ins
     (r.1.arb.cnt = r.2.total c.m ∧ r.1.dec.cnt = r.2.total c.m) ∧
     ∀ j, j < c.m → r.2 j ≠ [] →
      (∀ x, (Shared.next c rd r.1 x).arb.grant = r.1.arb.grant) ∧
      (∀ x k, k < c.m → Shared.selOf c rd r.1 x k = (k == j)) ∧
      (∀ a ∈ r.2 j, a = r.1.arb.grant)) := by
  obtain ⟨he, hg⟩ := axl_closed_shared c rd hd hn ins hloc
  exact ⟨hg, axl_counter_inv_shared c rd hd hn ins he, axl_lock_held_shared c rd hd hn ins he⟩

/-- The same for the crossbar (one owner per slave). -/
theorem axl_end_to_end_crossbar (c : Cfg) (rd : Bool) (hd : Disjoint c) (hn : 0 < c.n) (ins : List DirIn)
    (hloc : LocalAll (Crossbar.machine c rd) c rd (Crossbar.init c rd) (fun _ => {}) (fun _ => 0) ins) :
    Guar (Crossbar.machine c rd) c rd false (Crossbar.init c rd) Fifo.empty ins ∧
    (let r := runSB (Crossbar.machine c rd) c rd (Crossbar.init c rd) Fifo.empty ins
     ((∀ j, j < c.m → (Crossbar.arb r.1 j).cnt = (r.2 j).length) ∧
      (∀ i, i < c.n → (Crossbar.dcd r.1 i).cnt = r.2.ofMaster c.m i)) ∧
     ∀ j, j < c.m → r.2 j ≠ [] →
      (∀ x, (Crossbar.arb (Crossbar.next c rd r.1 x) j).grant = (Crossbar.arb r.1 j).grant) ∧
      (∀ i, i < c.n → i ∈ r.2 j → ∀ x k, k < c.m → Crossbar.selI c rd r.1 x i k = (k == j)) ∧
      (∀ a ∈ r.2 j, a = (Crossbar.arb r.1 j).grant)) := by
  obtain ⟨he, hg⟩ := axl_closed_crossbar c rd hd hn ins hloc
  exact ⟨hg, axl_counter_inv_crossbar c rd hd hn ins he, axl_lock_held_crossbar c rd hd hn ins he⟩

/-- Complete fabric, both directions at once: the write machine sees only the write signals and
    the read machine only the read signals (`axl_rw_independent`), so local legality of the write traffic alone gives
    the write guarantee in every cycle whatever happens on the read channels (legal or not), and vice versa. -/
theorem axl_rw_closed (c : Cfg) (hd : Disjoint c) (hn : 0 < c.n) (ins : List BusIn) :
    (LocalAll (Shared.machine c false) c false (Shared.init c false) (fun _ => {}) (fun _ => 0) (ins.map wIn) →
       Guar (Shared.machine c false) c false true (Shared.init c false) Fifo.empty (ins.map wIn) ∧
       ((Shared.full c).run ins).w = (Shared.machine c false).run (ins.map wIn)) ∧
    (LocalAll (Shared.machine c true) c true (Shared.init c true) (fun _ => {}) (fun _ => 0) (ins.map rIn) →
       Guar (Shared.machine c true) c true true (Shared.init c true) Fifo.empty (ins.map rIn) ∧
       ((Shared.full c).run ins).r = (Shared.machine c true).run (ins.map rIn)) :=
  ⟨fun h => ⟨(axl_closed_shared c false hd hn _ h).2, (axl_rw_independent _ _ ins).1⟩,
   fun h => ⟨(axl_closed_shared c true hd hn _ h).2, (axl_rw_independent _ _ ins).2.1⟩⟩

/-- … the same for the crossbar. -/
theorem axl_rw_closed_crossbar (c : Cfg) (hd : Disjoint c) (hn : 0 < c.n) (ins : List BusIn) :
    (LocalAll (Crossbar.machine c false) c false (Crossbar.init c false) (fun _ => {}) (fun _ => 0) (ins.map wIn) →
       Guar (Crossbar.machine c false) c false false (Crossbar.init c false) Fifo.empty (ins.map wIn) ∧
       ((Crossbar.full c).run ins).w = (Crossbar.machine c false).run (ins.map wIn)) ∧
    (LocalAll (Crossbar.machine c true) c true (Crossbar.init c true) (fun _ => {}) (fun _ => 0) (ins.map rIn) →
       Guar (Crossbar.machine c true) c true false (Crossbar.init c true) Fifo.empty (ins.map rIn) ∧
       ((Crossbar.full c).run ins).r = (Crossbar.machine c true).run (ins.map rIn)) :=
  ⟨fun h => ⟨(axl_closed_crossbar c false hd hn _ h).2, (axl_rw_independent _ _ ins).1⟩,
   fun h => ⟨(axl_closed_crossbar c true hd hn _ h).2, (axl_rw_independent _ _ ins).2.1⟩⟩

/-- The shared interconnect as users build it (finite `timeout_cycles`, the SoC default
    is 10^6): on a healthy bus (`Shared.Healthy`, see `axl_timeout_transparent_partial`) with legal masters and slaves the
    fabric WITH the watchdog shows, cycle for cycle, the outputs of the timeout-less fabric, and for those the routing
    guarantee holds in every cycle.  (`_partial`: `Healthy` — a dead slave makes the watchdog answer, property C11.) -/
theorem axl_closed_timeout_partial (c : TCfg) (rd : Bool) (hd : Disjoint c.toCfg) (hn : 0 < c.n) (ins : List DirIn)
    (hh : Shared.Healthy c.toCfg rd c.t (Shared.init c.toCfg rd) 0 ins)
    (hloc : LocalAll (Shared.machine c.toCfg rd) c.toCfg rd (Shared.init c.toCfg rd) (fun _ => {}) (fun _ => 0) ins) :
    (SharedT.machine c rd).trace ins = (Shared.machine c.toCfg rd).trace ins ∧
    Guar (Shared.machine c.toCfg rd) c.toCfg rd true (Shared.init c.toCfg rd) Fifo.empty ins :=
  ⟨(axl_timeout_transparent_partial c rd ins hh).1, (axl_closed_shared c.toCfg rd hd hn ins hloc).2⟩

/-- (AXI4 read direction, `c.full`) a read beat WITHOUT `last` retires nothing: the
    scoreboard queue of the slave is unchanged by it (so, by `axl_counter_inv_*` / `axl_lock_held_*`, counters, grant and
    select stay as they are until the beat that carries `last`). -/
theorem axl_read_burst_holds_lock (c : Cfg) (hf : c.full = true) (g : Fifo) (x : DirIn) (o : DirOut) (j : Nat)
    (hl : (x.ss j).rLast = false) (hq : sReq x o j = false) : fifoNext c true g x o j = g j := by
  simp [fifoNext, sDone, Cfg.gated, hf, hl, hq]

/-- … and with an AXI-legal slave (it answers only a request it holds) the
    burst's scoreboard entry is still there, still the oldest, after every beat without `last`: the following beats of
    the burst go to the same issuer (`RouteOK.resp_s` reads the head) and the lock theorems keep applying (`g j ≠ []`)
    until the beat that carries `last`.  Multi-beat R bursts of any length. -/
theorem axl_read_burst_beat_keeps_entry (c : Cfg) (hf : c.full = true) (g : Fifo) (x : DirIn) (o : DirOut) (j : Nat)
    (hj : j < c.m) (env : EnvOK c g x) (hv : (x.ss j).rValid = true) (hl : (x.ss j).rLast = false) :
    fifoNext c true g x o j ≠ [] ∧ (fifoNext c true g x o j).head? = (g j).head? := by
  have hne := env.slaveLegal j hj hv
  have hd : sDone (c.gated true) x o j = false := by simp [sDone, Cfg.gated, hf, hl]
  simp only [fifoNext, hd]
  cases hg : g j with
  | nil => exact absurd hg hne
  | cons a t => simp

/-! ## Counter width and saturation (`Signal(max=256)`, `full = counter == 255`, `stall` computed and unused) -/

/-- The 8-bit register never wraps: from a value ≤ 255 every event sequence keeps it ≤ 255. -/
theorem axl_counter_bounded (evs : List (Bool × Bool)) (c : Nat) (h : c ≤ maxReq - 1) : ctrRun c evs ≤ maxReq - 1 := by
  induction evs generalizing c with
  | nil => exact h
  | cons e es ih => exact ih _ (ctrNext_le c e.1 e.2 h)

/-- … because it saturates: `k` requests without a response leave `min k 255`; the
    256th and later requests are accepted by the fabric (nothing reads `stall`) and NOT counted. -/
theorem axl_counter_saturates (k : Nat) : ctrRun 0 (List.replicate k (true, false)) = min k (maxReq - 1) := by
  suffices h : ∀ k c, c ≤ maxReq - 1 → ctrRun c (List.replicate k (true, false)) = min (c + k) (maxReq - 1) by
    simpa using h k 0 (by decide)
  intro k
  induction k with
  | zero => intro c hc; simp [ctrRun]; omega
  | succ k ih =>
    intro c hc
    simp only [List.replicate_succ, ctrRun]
    by_cases hlt : c < maxReq - 1
    · rw [ctrNext_req c hlt, ih (c + 1) (by omega)]; congr 1; omega
    · have e : c = maxReq - 1 := by omega
      rw [e, ctrNext_req_full, ih _ (by decide)]
      simp [maxReq]

/- Full statement (FALSE on the code): `ctrRun 0 evs = outstandingSpec 0 evs` for every sequence in which responses
   answer requests (first conjunct of `CtrLegal` only).  `axl_counter_inv` is the `_partial` form (≤ 255 outstanding). -/

/-- Negative witness at counter level: 256 requests then 255 responses — the register reads 0 ("idle, unlock") while one
    request is still unanswered. -/
example : ctrRun 0 (List.replicate 256 (true, false) ++ List.replicate 255 (false, true)) = 0 ∧
    outstandingSpec 0 (List.replicate 256 (true, false) ++ List.replicate 255 (false, true)) = 1 := by
  decide +kernel

/-- 2 masters, 1 slave owning every address. -/
def cfg21 : Cfg := { n := 2, m := 1, dec := fun _ _ => true, shift := 0, full := false }
/-- master 0 presents a read address, the slave accepts it. -/
def xq : DirIn := { ms := fun i => if i = 0 then { aValid := true } else {}, ss := fun _ => { aReady := true } }
/-- the slave answers, master 0 takes the response. -/
def xr : DirIn := { ms := fun i => if i = 0 then { rReady := true } else {}, ss := fun _ => { rValid := true, rPay := 7 } }
/-- master 1 presents an address, nothing else happens. -/
def xo : DirIn := { ms := fun i => if i = 1 then { aValid := true } else {}, ss := fun _ => {} }
/-- the slave gives its 256th response; both masters are ready for one. -/
def xl : DirIn :=
  { ms := fun i => if i = 1 then { aValid := true, rReady := true } else { rReady := true },
    ss := fun _ => { rValid := true, rPay := 9 } }

/-- Negative witness at fabric level (counter saturation): master 0 gets 256 read addresses accepted
    (a slave with acceptance capability 256: outside `slaveCap`/`noOverflow`), 255 are answered — both counters read 0
    while the scoreboard still holds master 0's 256th request; master 1 then takes the grant, and the 256th response is
    handed to master 1, not to its issuer.  (`_saturation_case` in the harness replays this run on the real netlist in
    lock step with the model.) -/
example :
    let M := Shared.machine cfg21 true
    let r := runSB M cfg21 true (Shared.init cfg21 true) Fifo.empty
               (List.replicate 256 xq ++ List.replicate 255 xr ++ [xo])
    r.1.arb.cnt = 0 ∧ r.1.dec.cnt = 0 ∧ r.1.arb.grant = 1 ∧ r.2 0 = [0] ∧
    mRsp xl (M.out r.1 xl) 1 = true ∧ mRsp xl (M.out r.1 xl) 0 = false := by
  intro M r
  -- while master 0 stays on the bus the registers are the saturating counter of the port events and the scoreboard
  -- counts them exactly (`Shared.owned_run`): 256 requests and 255 responses leave 0 and 1; then one cycle `xo`
  have hall : ∀ x ∈ List.replicate 256 xq ++ List.replicate 255 xr, Shared.OwnedIn cfg21 0 0 x := by
    intro x hx
    have hdec : ∀ a j, j < cfg21.m → routes cfg21 j a = (j == 0) := fun a j hj => by
      obtain rfl := Nat.lt_one_iff.mp hj; rfl
    rcases List.mem_append.mp hx with h | h <;> obtain rfl := (List.mem_replicate.mp h).2
    · exact ⟨hdec _, Or.inl rfl⟩
    · exact ⟨hdec _, Or.inr (Or.inr rfl)⟩
  have hrun := Shared.owned_run (c := cfg21) (i := 0) (L := 0) true Nat.two_pos Nat.one_pos _ 0 0
    (Shared.init cfg21 true) Fifo.empty ⟨rfl, rfl, rfl, fun h => absurd rfl h, rfl⟩ hall
  rw [show ctrRun 0 ((List.replicate 256 xq ++ List.replicate 255 xr).map (Shared.portEv cfg21 true 0 0)) = 0 by
      decide +kernel,
    show ((List.replicate 256 xq ++ List.replicate 255 xr).map (Shared.portEv cfg21 true 0 0)).foldl balNext 0 = 1 by
      decide +kernel] at hrun
  have hp : r = _ := runSB_append (Shared.machine cfg21 true) cfg21 true
    (List.replicate 256 xq ++ List.replicate 255 xr) [xo] (Shared.init cfg21 true) Fifo.empty
  generalize runSB (Shared.machine cfg21 true) cfg21 true (Shared.init cfg21 true) Fifo.empty
    (List.replicate 256 xq ++ List.replicate 255 xr) = p at hp hrun
  -- the last cycle `xo` only computes on literals: take the state apart and put the three known registers in
  obtain ⟨⟨⟨gr, ac⟩, ⟨dc, sr⟩⟩, g⟩ := p
  obtain ⟨h1, h2, h3, _, hg⟩ := hrun
  change gr = 0 at h1
  change ac = 0 at h2
  change dc = 0 at h3
  subst h1 h2 h3
  rw [hp]
  exact ⟨rfl, rfl, rfl, (List.append_nil (g 0)).trans hg, rfl, rfl⟩

/-- … and the local rules exclude exactly that: 255 accepted requests are inside `LocalAll`, the 256th acceptance is
    not (`slaveCap`). -/
example :
    LocalAll (Shared.machine cfg21 true) cfg21 true (Shared.init cfg21 true) (fun _ => {}) (fun _ => 0)
      (List.replicate 255 xq) ∧
    ¬ LocalAll (Shared.machine cfg21 true) cfg21 true (Shared.init cfg21 true) (fun _ => {}) (fun _ => 0)
      (List.replicate 256 xq) := by
  decide +kernel

/-- For ARBITRARY numbers of masters and slaves, every state and every input: the
    arbiter in front of slave `j` steps and drives its slave exactly as the stand-alone `AXI(Lite)Arbiter`
    (`ArbFabric`, tied exhaustively on its own) fed with column `j` of the access matrix, and the decoder behind master
    `i` steps and answers its master exactly as the stand-alone `AXI(Lite)Decoder` (`DecFabric`) fed with row `i`. -/
theorem axl_crossbar_composition (c : Cfg) (rd : Bool) (s : XbDir) (x : DirIn) :
    (∀ j, j < c.m →
      let col : DirIn := { ms := fun i => Crossbar.accMS c rd s x i j, ss := fun _ => x.ss j }
      Crossbar.arb (Crossbar.next c rd s x) j = (ArbFabric.machine c rd).next (Crossbar.arb s j) col ∧
      (Crossbar.out c rd s x).toS j = ((ArbFabric.machine c rd).out (Crossbar.arb s j) col).toS 0 ∧
      ∀ i, Crossbar.accSM s x i j = ((ArbFabric.machine c rd).out (Crossbar.arb s j) col).toM i) ∧
    (∀ i, i < c.n →
      let row : DirIn := { ms := fun _ => x.ms i, ss := fun j => Crossbar.accSM s x i j }
      Crossbar.dcd (Crossbar.next c rd s x) i = (DecFabric.machine c rd).next (Crossbar.dcd s i) row ∧
      (Crossbar.out c rd s x).toM i = ((DecFabric.machine c rd).out (Crossbar.dcd s i) row).toM 0 ∧
      ∀ j, Crossbar.accMS c rd s x i j = ((DecFabric.machine c rd).out (Crossbar.dcd s i) row).toS j) := by
  refine ⟨fun j hj => ⟨Crossbar.arb_next c rd s x j hj, rfl, fun _ => rfl⟩, fun i hi => ⟨?_, rfl, fun _ => rfl⟩⟩
  show (Crossbar.next c rd s x).decs.getD i {} = _
  exact getD_range_map_of_lt _ _ hi

/-- `get_check_parameters`: the constructor accepts exactly the port lists whose data
    widths are all equal, and uses that width. -/
theorem axl_check_parameters (w : Nat) (ws : List Nat) :
    (checkParameters (w :: ws) = some w ↔ ∀ v ∈ ws, v = w) ∧ (checkParameters (w :: ws) ≠ some w → checkParameters (w :: ws) = none) := by
  have hall : (ws.all (· == w) = true) ↔ ∀ v ∈ ws, v = w := by simp [List.all_eq_true]
  simp only [checkParameters]
  by_cases h : ws.all (· == w) = true
  · rw [if_pos h]
    exact ⟨⟨fun _ => hall.mp h, fun _ => rfl⟩, fun hne => absurd rfl hne⟩
  · rw [if_neg h]
    exact ⟨⟨fun hh => (by cases hh), fun ha => absurd (hall.mpr ha) h⟩, fun _ => rfl⟩

/-- The glue wires point-to-point exactly for one master, one slave, slave region at
    origin 0. -/
theorem axl_soc_fabric_p2p_iff (c : SocAxi) : c.fabric = .p2p ↔ c.n = 1 ∧ c.m = 1 ∧ c.origin0 = 0 := by
  have key : c.topology = .p2p ↔ c.n = 1 ∧ c.m = 1 ∧ c.origin0 = 0 := by
    unfold SocAxi.topology Wishbone.busTopology
    by_cases h0 : c.n = 0 ∨ c.m = 0
    · rw [if_pos h0]
      constructor
      · intro h; cases h
      · intro ⟨_, _, _⟩; omega
    · rw [if_neg h0]
      by_cases h1 : c.n = 1 ∧ c.m = 1 ∧ c.origin0 = 0
      · rw [if_pos h1]; exact ⟨fun _ => h1, fun _ => rfl⟩
      · rw [if_neg h1]
        constructor
        · intro h; cases hk : c.kind <;> rw [hk] at h <;> cases h
        · intro h; exact absurd h h1
  rw [← key]
  unfold SocAxi.fabric
  cases c.topology with
  | none => simp
  | p2p => simp
  | shared => cases c.timeout <;> simp
  | crossbar => simp

/-- Otherwise (some master, some slave) it builds the interconnect class named by
    `bus_interconnect` over ALL masters and ALL slave regions, with `SoCRegion.decoder` predicates on the word address
    and the bus data width; the shared interconnect gets the SoC's `timeout`, the crossbar ignores it. -/
theorem axl_soc_fabric_decoded (c : SocAxi) (hn : c.n ≠ 0) (hm : c.m ≠ 0) (hp : ¬ (c.n = 1 ∧ c.m = 1 ∧ c.origin0 = 0)) :
    (c.kind = .shared → c.timeout = none → c.fabric = .shared c.cfg) ∧
    (c.kind = .shared → ∀ t, c.timeout = some t → c.fabric = .sharedT { toCfg := c.cfg, t := t, dw := c.dw }) ∧
    (c.kind = .crossbar → c.fabric = .xbar c.cfg) ∧
    c.cfg.n = c.n ∧ c.cfg.m = c.regions.length ∧ c.cfg.full = c.full := by
  have h0 : ¬ (c.n = 0 ∨ c.m = 0) := by omega
  have ht : c.topology = match c.kind with | .shared => .shared | .crossbar => .crossbar := by
    unfold SocAxi.topology Wishbone.busTopology
    rw [if_neg h0, if_neg hp]
    cases c.kind <;> rfl
  refine ⟨fun hk hto => ?_, fun hk t hto => ?_, fun hk => ?_, rfl, rfl, rfl⟩ <;>
    (unfold SocAxi.fabric; rw [ht, hk]) <;> simp [hto]

/-- End to end through the glue: a SoC bus with at least one master whose slave regions
    decode disjointly (`Disjoint c.cfg`: discharged for every map `check_regions_overlap` accepts by C06/C13,
    `soc_accepted_disjoint_decoders_partial`), not in the point-to-point case, legal masters and slaves ⇒ the fabric
    `do_finalize` builds routes every accepted address to its region's slave and returns every response to its issuer,
    in every cycle (shared without timeout and crossbar; with a timeout: `axl_timeout_transparent_partial`). -/
theorem axl_soc_closed_route (c : SocAxi) (rd : Bool) (hn : c.n ≠ 0) (hd : Disjoint c.cfg) (ins : List DirIn) :
    (c.fabric = .shared c.cfg →
      LocalAll (Shared.machine c.cfg rd) c.cfg rd (Shared.init c.cfg rd) (fun _ => {}) (fun _ => 0) ins →
      Guar (Shared.machine c.cfg rd) c.cfg rd true (Shared.init c.cfg rd) Fifo.empty ins) ∧
    (c.fabric = .xbar c.cfg →
      LocalAll (Crossbar.machine c.cfg rd) c.cfg rd (Crossbar.init c.cfg rd) (fun _ => {}) (fun _ => 0) ins →
      Guar (Crossbar.machine c.cfg rd) c.cfg rd false (Crossbar.init c.cfg rd) Fifo.empty ins) :=
  ⟨fun _ h => (axl_closed_shared c.cfg rd hd (Nat.pos_of_ne_zero hn) ins h).2,
   fun _ h => (axl_closed_crossbar c.cfg rd hd (Nat.pos_of_ne_zero hn) ins h).2⟩

/- Full statement (does not hold, witnesses in LitexProps/C06.lean / C13.lean): every region list accepted by
   `check_regions_overlap` gives disjoint decoders.  `_partial`: `RegionsDecodable` (C06 / C13: no slave on a linker
   region — the check skips those —, `decode=True`, origin aligned on `size_pow2`, window of at least one bus word). -/

/-- The `Disjoint` hypothesis of every routing theorem above is DISCHARGED for
    the decoders `do_finalize` hands to the AXI(-Lite) interconnect, for every slave-region list that
    `SoCBusHandler.check_regions_overlap` accepts (C06's `checkRegionsOverlap` = the check as computed, C13's
    `accepted_regions_pairwise_disjoint_decoders`). -/
theorem axl_soc_accepted_disjoint_partial (c : SocAxi) (rs : List Soc.Region) (sh : Nat)
    (hr : c.regions = Wishbone.pairsOf rs) (hdw : c.dw / 8 = 2 ^ sh) (hsh : sh ≤ c.aw)
    (hacc : Wishbone.checkRegionsOverlap false rs = none) (hall : Wishbone.RegionsDecodable c.dw rs) :
    Disjoint c.cfg := by
  intro a j k hj hk h1 h2
  have hm : c.cfg.m = rs.length := by simp [SocAxi.cfg, SocAxi.m, hr, Wishbone.pairsOf]
  have hlog : Nat.log2 (c.dw / 8) = sh := by rw [hdw]; exact Nat.log2_two_pow
  have key : ∀ j (hj : j < rs.length),
      Wishbone.decOfSpecs c.dw c.aw (c.regions.map fun p => Wishbone.DecSpec.region p.1 p.2) j a =
        Soc.decoderAccepts c.aw c.dw rs[j] a := by
    -- the decoder list is the one C06's `SocCfg` builds for the same regions
    intro j hj
    refine Eq.trans ?_ (Wishbone.socDec_eq ⟨c.n, c.regions, c.kind, false, c.timeout, c.dw, c.aw⟩ rs hr j hj
      (hall _ (List.getElem_mem hj)).2.1 a)
    unfold Wishbone.decOfSpecs Wishbone.SocCfg.dec
    rw [List.getElem?_map]
    cases c.regions[j]? <;> rfl
  rw [hm] at hj hk
  simp only [SocAxi.cfg, Bool.and_eq_true, decide_eq_true_eq] at h1 h2
  rw [key j hj] at h1
  rw [key k hk] at h2
  exact Wishbone.accepted_index_disjoint c.aw c.dw sh rs hdw hsh hacc hall a (by rw [← hlog]; exact h1.1) j k hj hk
    h1.2 h2.2

/-- The whole chain: masters and slaves registered on a `SoCBusHandler` of standard
    axi-lite / axi, slave regions accepted by `check_regions_overlap`, not the one-master-one-slave-at-0 case, legal
    masters and slaves (local rules) ⇒ the interconnect `do_finalize` instantiates (`SocAxi.fabric`: shared without
    timeout, crossbar, or — the SoC default — shared with the bus watchdog on a healthy bus) delivers every accepted address to the
    slave of the region it lies in and every response exactly once to its issuer, in every cycle of every schedule. -/
theorem axl_soc_end_to_end_partial (c : SocAxi) (rd : Bool) (rs : List Soc.Region) (sh : Nat) (hn : c.n ≠ 0)
    (hr : c.regions = Wishbone.pairsOf rs) (hdw : c.dw / 8 = 2 ^ sh) (hsh : sh ≤ c.aw)
    (hacc : Wishbone.checkRegionsOverlap false rs = none) (hall : Wishbone.RegionsDecodable c.dw rs)
    (ins : List DirIn) :
    (c.fabric = .shared c.cfg →
      LocalAll (Shared.machine c.cfg rd) c.cfg rd (Shared.init c.cfg rd) (fun _ => {}) (fun _ => 0) ins →
      Guar (Shared.machine c.cfg rd) c.cfg rd true (Shared.init c.cfg rd) Fifo.empty ins) ∧
    (c.fabric = .xbar c.cfg →
      LocalAll (Crossbar.machine c.cfg rd) c.cfg rd (Crossbar.init c.cfg rd) (fun _ => {}) (fun _ => 0) ins →
      Guar (Crossbar.machine c.cfg rd) c.cfg rd false (Crossbar.init c.cfg rd) Fifo.empty ins) ∧
    -- the SoC default (`timeout = 10^6`): shared interconnect with the bus watchdog, on a healthy bus
    (∀ t, c.fabric = .sharedT { toCfg := c.cfg, t := t, dw := c.dw } →
      Shared.Healthy c.cfg rd t (Shared.init c.cfg rd) 0 ins →
      LocalAll (Shared.machine c.cfg rd) c.cfg rd (Shared.init c.cfg rd) (fun _ => {}) (fun _ => 0) ins →
      (SharedT.machine { toCfg := c.cfg, t := t, dw := c.dw } rd).trace ins = (Shared.machine c.cfg rd).trace ins ∧
      Guar (Shared.machine c.cfg rd) c.cfg rd true (Shared.init c.cfg rd) Fifo.empty ins) := by
  have hd := axl_soc_accepted_disjoint_partial c rs sh hr hdw hsh hacc hall
  refine ⟨(axl_soc_closed_route c rd hn hd ins).1, (axl_soc_closed_route c rd hn hd ins).2, ?_⟩
  intro t _ hh hloc
  exact axl_closed_timeout_partial { toCfg := c.cfg, t := t, dw := c.dw } rd hd (Nat.pos_of_ne_zero hn) ins hh hloc

/- Full statement for the point-to-point case (FALSE): "an address reaches the slave only if it lies in the slave's
   region".  `InterconnectPointToPoint` has no decoder (C06's open finding C06-p2p-partial-region-origin0; the statement
   in `do_finalize` is shared by all three bus standards). -/

/-- 1 master, 1 slave with a 4 KiB region at origin 0 on a 32-bit axi-lite bus. -/
def socP : SocAxi := { n := 1, regions := [(0, 0x1000)], kind := .shared, full := false, timeout := some 1000000,
                       dw := 32, aw := 32 }

/-- Negative witness (point-to-point ignores the region): the glue wires `socP` point-to-point; address 0x2000 does not
    belong to the slave's region (`SocAxi.cfg` decoder) and is presented to the slave all the same. -/
example :
    socP.fabricName = "p2p" ∧ routes socP.cfg 0 0x2000 = false ∧ routes socP.cfg 0 0xffc = true ∧
    ((P2P.machine.out () { ms := fun _ => { aValid := true, aAddr := 0x2000 }, ss := fun _ => {} }).toS 0).aValid = true := by
  refine ⟨by decide, by decide, by decide, rfl⟩

/-- Non-vacuity of `axl_soc_fabric_decoded` / `axl_soc_closed_route`: 2 masters, regions at 0x1000_0000 and 0x4000_0000. -/
def socS : SocAxi := { n := 2, regions := [(0x10000000, 0x1000), (0x40000000, 0x10000)], kind := .crossbar, full := true,
                       timeout := some 1000000, dw := 32, aw := 32 }

/-- Non-vacuity of `axl_soc_accepted_disjoint_partial`: `socS`'s two regions are accepted and decodable. -/
example :
    let rs : List Soc.Region := [{ origin := 0x10000000, size := 0x1000 }, { origin := 0x40000000, size := 0x10000 }]
    socS.regions = Wishbone.pairsOf rs ∧ socS.dw / 8 = 2 ^ 2 ∧ Wishbone.checkRegionsOverlap false rs = none ∧
    Wishbone.RegionsDecodable socS.dw rs := by
  refine ⟨rfl, by decide, by decide, ?_⟩
  intro r hr
  simp only [List.mem_cons, List.not_mem_nil, or_false] at hr
  rcases hr with rfl | rfl <;> decide

example : socS.fabricName = "xbar" ∧ routes socS.cfg 0 0x10000ffc = true ∧ routes socS.cfg 1 0x10000ffc = false ∧
    routes socS.cfg 1 0x4000fff0 = true ∧ routes socS.cfg 0 0x20000000 = false ∧ routes socS.cfg 1 0x20000000 = false := by
  decide

/-- 2 masters, 2 slaves, 8-bit data, slave `j` owns the byte addresses with `a >> 1 = j` (harness map "cover"). -/
def cfg22 : Cfg := { n := 2, m := 2, dec := fun j a => (a >>> 1) == j, shift := 0, full := false }

theorem cfg22_disjoint : Disjoint cfg22 := by
  intro a j k _ _ h1 h2
  simp only [cfg22, beq_iff_eq] at h1 h2
  omega

/-- cycle 0: master 0 presents address 2 (slave 1), slave 1 accepts. -/
def xa : DirIn :=
  { ms := fun i => if i = 0 then { aValid := true, aAddr := 2, aPay := 5, rReady := true } else {},
    ss := fun j => if j = 1 then { aReady := true } else {} }
/-- cycle 1: slave 1 answers, master 0 takes the response. -/
def xb : DirIn :=
  { ms := fun i => if i = 0 then { rReady := true } else {},
    ss := fun j => if j = 1 then { rValid := true, rPay := 3 } else {} }

/-- Non-vacuity of `axl_route_partial` / `axl_lock_held_shared`: a run inside the hypotheses with an accepted address
    (master 0 → slave 1), a held lock and a delivered response. -/
example :
    let M := Shared.machine cfg22 false
    let s0 := Shared.init cfg22 false
    let o0 := M.out s0 xa
    let s1 := M.next s0 xa
    let g1 := fifoNext cfg22 false Fifo.empty xa o0
    let o1 := M.out s1 xb
    mReq xa o0 0 = true ∧ sReq xa o0 1 = true ∧ sReq xa o0 0 = false ∧ g1 1 = [0] ∧ g1 0 = [] ∧
    s1.arb.cnt = 1 ∧ s1.dec.cnt = 1 ∧
    sRsp xb o1 1 = true ∧ mRsp xb o1 0 = true ∧ mRsp xb o1 1 = false ∧ (o1.toM 0).rPay = 3 ∧
    (M.next s1 xb).arb.cnt = 0 := by
  decide

example : EnvAll (Shared.machine cfg22 false) cfg22 false (Shared.init cfg22 false) Fifo.empty [xa, xb] := by
  have hg1 : fifoNext cfg22 false Fifo.empty xa ((Shared.machine cfg22 false).out (Shared.init cfg22 false) xa) 1 = [0] := by
    decide
  refine ⟨⟨?_, ?_, ?_⟩, ⟨?_, ?_, ?_⟩, trivial⟩
  · intro j _ h
    by_cases e : j = 1 <;> simp [xa, e] at h
  · intro i j _ _ _ hm; cases hm
  · intro j _ _; simp [Fifo.empty, maxReq]
  · intro j hj h
    have e : j = 1 := by
      by_cases e : j = 1
      · exact e
      · simp [xb, e] at h
    subst e
    rw [hg1]; simp
  · intro i j _ _ h
    by_cases e : i = 0 <;> simp [xb, e] at h
  · intro j hj h
    by_cases e : j = 1 <;> simp [xb, e] at h

/-- The same run on the crossbar (non-vacuity of `axl_route_crossbar_partial` / `axl_lock_held_crossbar`). -/
example :
    let M := Crossbar.machine cfg22 false
    let s0 := Crossbar.init cfg22 false
    let o0 := M.out s0 xa
    let s1 := M.next s0 xa
    let g1 := fifoNext cfg22 false Fifo.empty xa o0
    let o1 := M.out s1 xb
    mReq xa o0 0 = true ∧ sReq xa o0 1 = true ∧ sReq xa o0 0 = false ∧ g1 1 = [0] ∧ g1 0 = [] ∧
    (Crossbar.arb s1 1).cnt = 1 ∧ (Crossbar.dcd s1 0).cnt = 1 ∧ (Crossbar.arb s1 0).cnt = 0 ∧
    sRsp xb o1 1 = true ∧ mRsp xb o1 0 = true ∧ mRsp xb o1 1 = false ∧ (o1.toM 0).rPay = 3 := by
  decide

/-- Non-vacuity of `axl_eventually_served` / `axl_served_within`: master 1 presents an address while master 0
    owns the idle bus — one hand-over opportunity (n-1 = 1), after which master 1 owns the bus. -/
def xh : DirIn :=
  { ms := fun i => if i = 1 then { aValid := true, aAddr := 0 } else {}, ss := fun _ => {} }

example :
    Shared.handovers cfg22 false 1 (Shared.init cfg22 false) [xh] = 1 ∧
    ((Shared.machine cfg22 false).runFrom (Shared.init cfg22 false) [xh]).arb.grant = 1 ∧
    (∀ x ∈ [xh], (x.ms 1).aValid = true) := by
  refine ⟨by decide, by decide, ?_⟩
  intro x hx
  simp only [List.mem_singleton] at hx
  subst hx; rfl

/-! ### Negative witness 1 — known finding `C08-decoder-second-addr-other-slave`

  Master 0 has an unanswered request at slave 0 and presents an address of slave 1 (outside `sameSlave`): the
  decoder's select is the locked register, so slave 0 sees and accepts it, slave 1 sees nothing. -/

/-- cycle 0: address 0 (slave 0) accepted. -/
def xc : DirIn :=
  { ms := fun i => if i = 0 then { aValid := true, aAddr := 0 } else {},
    ss := fun _ => { aReady := true } }
/-- cycle 1: address 2 (slave 1) presented while the response of the first is outstanding; both slaves ready. -/
def xd : DirIn :=
  { ms := fun i => if i = 0 then { aValid := true, aAddr := 2 } else {},
    ss := fun _ => { aReady := true } }

example :
    let M := Shared.machine cfg22 false
    let s1 := M.next (Shared.init cfg22 false) xc
    let o1 := M.out s1 xd
    mReq xd o1 0 = true ∧ routes cfg22 1 (xd.ms 0).aAddr = true ∧ routes cfg22 0 (xd.ms 0).aAddr = false ∧
    sReq xd o1 0 = true ∧ (o1.toS 0).aAddr = 2 ∧ sReq xd o1 1 = false := by
  decide

/-- … so the guarantee `RouteOK.addr_m` fails in that cycle (the same on the crossbar and for `rd = true`). -/
example :
    let M := Shared.machine cfg22 false
    let s1 := M.next (Shared.init cfg22 false) xc
    let g1 := fifoNext cfg22 false Fifo.empty xc (M.out (Shared.init cfg22 false) xc)
    ¬ RouteOK cfg22 true g1 xd (M.out s1 xd) := by
  intro M s1 g1 h
  obtain ⟨j, hj, hr, hs⟩ := h.addr_m 0 (by decide) (by decide)
  have : j = 0 ∨ j = 1 := by
    have : j < 2 := hj
    omega
  rcases this with e | e <;> subst e
  · revert hr; decide
  · revert hs; decide

example :
    let M := Crossbar.machine { cfg22 with full := true } true
    let s1 := M.next (Crossbar.init { cfg22 with full := true } true) xc
    let o1 := M.out s1 xd
    mReq xd o1 0 = true ∧ sReq xd o1 0 = true ∧ sReq xd o1 1 = false := by
  decide

/-! ### Negative witness 2 — known finding `C08-decoder-w-before-aw`

  Write data handed over before its address is presented (outside NoDataBeforeAddr): with the counter at zero the
  select is decoded from the idle `aw.addr` lines (0 → slave 0), so slave 0 takes the data; the address (slave 1)
  presented in the next cycle goes to slave 1. -/

/-- cycle 0: data valid, address idle (lines at 0); both slaves ready for data. -/
def xe : DirIn :=
  { ms := fun i => if i = 0 then { dValid := true, dPay := 0x155, aAddr := 0 } else {},
    ss := fun _ => { dReady := true } }

example :
    let M := Shared.machine cfg22 false
    let o0 := M.out (Shared.init cfg22 false) xe
    let s1 := M.next (Shared.init cfg22 false) xe
    let o1 := M.out s1 xd
    mDat xe o0 0 = true ∧ sDat xe o0 0 = true ∧ sDat xe o0 1 = false ∧ (o0.toS 0).dPay = 0x155 ∧
    mReq xd o1 0 = true ∧ sReq xd o1 1 = true ∧ sReq xd o1 0 = false := by
  decide

/-- The environment assumption that excludes it: `DEnvOK.dataAfterAddr` fails in cycle 0. -/
example : ¬ DEnvOK cfg22 DGhost.empty xe := by
  intro h
  rcases h.dataAfterAddr 0 (by decide) (by decide) with h1 | h1
  · exact h1 rfl
  · exact absurd h1.1 (by decide)

/-- Non-vacuity of `axl_route_data_partial`: data presented together with its address, taken by the slave one cycle
    before the address (inside NoDataBeforeAddr), the address then accepted by the same slave. -/
def xf : DirIn :=
  { ms := fun i => if i = 0 then { aValid := true, aAddr := 2, dValid := true, dPay := 0x155 } else {},
    ss := fun j => if j = 1 then { dReady := true } else {} }
def xg : DirIn :=
  { ms := fun i => if i = 0 then { aValid := true, aAddr := 2 } else {},
    ss := fun j => if j = 1 then { aReady := true } else {} }

example :
    let M := Shared.machine cfg22 false
    let s0 := Shared.init cfg22 false
    let o0 := M.out s0 xf
    let dg1 := dgNext cfg22 false DGhost.empty xf o0
    let o1 := M.out (M.next s0 xf) xg
    mDat xf o0 0 = true ∧ sDat xf o0 1 = true ∧ sDat xf o0 0 = false ∧ mReq xf o0 0 = false ∧
    dg1.ahead 0 = some (1, true) ∧ dg1.sd 1 = 1 ∧
    mReq xg o1 0 = true ∧ sReq xg o1 1 = true ∧ (dgNext cfg22 false dg1 xg o1).ahead 0 = none ∧
    (dgNext cfg22 false dg1 xg o1).wq 0 = [] := by
  decide

example : DEnvOK cfg22 DGhost.empty xf := by
  refine ⟨?_, ?_, ?_⟩
  · intro i _ h
    by_cases e : i = 0
    · subst e; right; exact ⟨rfl, fun k h => by cases h⟩
    · simp [xf, e] at h
  · intro i k b _ h; cases h
  · intro j _ h
    by_cases e : j = 1 <;> simp [xf, e] at h

/-- Non-vacuity of the burst reading (`c.wlast`): an AXI4 configuration whose packed `w` payload carries `last` in
    bit 8.  A two-beat burst whose first beat goes ahead of the address acceptance: the address joins the waiting list
    (the burst is not complete), the second beat (`last`) retires it and completes the burst at the slave. -/
def cfgB : Cfg := { cfg22 with full := true, wlast := fun p => p.testBit 8 }
def xb1 : DirIn :=   -- beat 1 (not last) with the address presented, slave 1 takes the data only
  { ms := fun i => if i = 0 then { aValid := true, aAddr := 2, dValid := true, dPay := 0x011 } else {},
    ss := fun j => if j = 1 then { dReady := true } else {} }
def xb2 : DirIn :=   -- address accepted, beat 2 stalled
  { ms := fun i => if i = 0 then { aValid := true, aAddr := 2, dValid := true, dPay := 0x122 } else {},
    ss := fun j => if j = 1 then { aReady := true } else {} }
def xb3 : DirIn :=   -- beat 2 (last) accepted
  { ms := fun i => if i = 0 then { dValid := true, dPay := 0x122 } else {},
    ss := fun j => if j = 1 then { dReady := true } else {} }

example :
    let M := Crossbar.machine cfgB false
    let s0 := Crossbar.init cfgB false
    let o0 := M.out s0 xb1
    let dg1 := dgNext cfgB false DGhost.empty xb1 o0
    let s1 := M.next s0 xb1
    let o1 := M.out s1 xb2
    let dg2 := dgNext cfgB false dg1 xb2 o1
    let s2 := M.next s1 xb2
    let o2 := M.out s2 xb3
    let dg3 := dgNext cfgB false dg2 xb3 o2
    sDat xb1 o0 1 = true ∧ dg1.ahead 0 = some (1, false) ∧ dg1.sd 1 = 0 ∧
    sReq xb2 o1 1 = true ∧ dg2.ahead 0 = none ∧ dg2.wq 0 = [1] ∧
    sDat xb3 o2 1 = true ∧ (o2.toS 1).dPay = 0x122 ∧ dg3.wq 0 = [] ∧ dg3.sd 1 = 1 := by
  decide

def cfgT : TCfg := { toCfg := cfg22, t := 1, dw := 8 }
/-- master 0 presents read address 0, slave 0 does not accept it. -/
def xs0 : DirIn := { ms := fun i => if i = 0 then { aValid := true, aAddr := 0, rReady := true } else {}, ss := fun _ => {} }
/-- … slave 0 accepts it. -/
def xs1 : DirIn :=
  { ms := fun i => if i = 0 then { aValid := true, aAddr := 0, rReady := true } else {},
    ss := fun j => if j = 0 then { aReady := true } else {} }

/-- healthy for t = 1: one stalled cycle, then the handshake. -/
example : Shared.Healthy cfg22 true 1 (Shared.init cfg22 true) 0 [xs0, xs1] := by
  refine ⟨fun _ => by decide, ?_, trivial⟩
  intro h
  exact absurd h (by decide)

example :
    (((SharedT.machine cfgT true).trace [xs0, xs1]).map fun o => ((o.toM 0).aReady, (o.toS 0).aValid))
      = [(false, true), (true, true)] := by decide

/-- Outside `Healthy` (two stalled cycles with t = 1): the watchdog fires, and in the third cycle the fabric accepts
    the address itself — the master sees `ar.ready`, no slave is ready — unlike the timeout-less fabric. -/
example :
    ¬ Shared.Healthy cfg22 true 1 (Shared.init cfg22 true) 0 [xs0, xs0, xs0] ∧
    (((SharedT.machine cfgT true).trace [xs0, xs0, xs0]).map fun o => (o.toM 0).aReady) = [false, false, true] ∧
    (((Shared.machine cfg22 true).trace [xs0, xs0, xs0]).map fun o => (o.toM 0).aReady) = [false, false, false] := by
  refine ⟨?_, by decide, by decide⟩
  intro h
  have := h.2.1
  revert this
  decide


/-- Non-vacuity of `axl_closed_shared` / `axl_closed_crossbar` / `axl_end_to_end_*`: the request/response run `[xa, xb]`
    follows the local rules (and so does the early-data write `[xf, xg]`). -/
example :
    LocalAll (Shared.machine cfg22 false) cfg22 false (Shared.init cfg22 false) (fun _ => {}) (fun _ => 0) [xa, xb] ∧
    LocalAll (Crossbar.machine cfg22 true) cfg22 true (Crossbar.init cfg22 true) (fun _ => {}) (fun _ => 0) [xa, xb] ∧
    LocalAll (Shared.machine cfg22 false) cfg22 false (Shared.init cfg22 false) (fun _ => {}) (fun _ => 0) [xf, xg] := by
  decide

/-- The run of negative witness 1 (second address to another slave while the first is unanswered) breaks the MASTER's
    local rule in its second cycle — the master itself can tell (its own `pend = 1`, `last = 0`). -/
example :
    ¬ LocalAll (Shared.machine cfg22 false) cfg22 false (Shared.init cfg22 false) (fun _ => {}) (fun _ => 0) [xc, xd] ∧
    LocalAll (Shared.machine cfg22 false) cfg22 false (Shared.init cfg22 false) (fun _ => {}) (fun _ => 0) [xc] := by
  decide

/-- Non-vacuity: an AXI4 read burst of two beats on the 2×2 fabric — the first beat (no `last`) leaves both counters at
    1 and the entry on the scoreboard, the second (`last`) releases; both beats reach master 0. -/
example :
    let cF : Cfg := { cfg22 with full := true }
    let M := Shared.machine cF true
    let b1 : DirIn := { ms := fun i => if i = 0 then { rReady := true } else {},
                        ss := fun j => if j = 1 then { rValid := true, rLast := false, rPay := 5 } else {} }
    let b2 : DirIn := { ms := fun i => if i = 0 then { rReady := true } else {},
                        ss := fun j => if j = 1 then { rValid := true, rLast := true, rPay := 6 } else {} }
    let r1 := runSB M cF true (Shared.init cF true) Fifo.empty [xa]
    let r2 := runSB M cF true (Shared.init cF true) Fifo.empty [xa, b1]
    let r3 := runSB M cF true (Shared.init cF true) Fifo.empty [xa, b1, b2]
    r1.1.arb.cnt = 1 ∧ r1.2 1 = [0] ∧ mRsp b1 (M.out r1.1 b1) 0 = true ∧
    r2.1.arb.cnt = 1 ∧ r2.1.dec.cnt = 1 ∧ r2.2 1 = [0] ∧ mRsp b2 (M.out r2.1 b2) 0 = true ∧
    r3.1.arb.cnt = 0 ∧ r3.1.dec.cnt = 0 ∧ r3.2 1 = [] := by
  decide

end Litex.C08
