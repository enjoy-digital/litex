import LitexProofs.Axi.Burst2BeatSys
import LitexProofs.Axi.WidthConv
import LitexProofs.Axi.WidthConvData
import LitexProofs.Axi.WidthConvSide
import LitexProofs.Axi.WidthConvMem
/-
  C10 — AXI bursts are expanded and resized according to the AXI address rules.

  Model: `Litex.Axi.b2b` is `AXIBurst2Beat` with every register truncation explicit (8-bit beat_count, 12-bit
  beat_size/beat_wrap, 13-bit signed beat_offset, the mask test `(addr & wrap) == wrap`, the override order of the
  two beat_offset assignments); `Litex.Axi.sys` is the module driven by a protocol-legal AXI master (a request that
  was offered and not accepted is held unchanged).  A run is a list `ins : List SysIn`: per cycle the environment
  chooses whether the idle master starts to offer, the request (garbage on the lines when it does not), and
  `ax_beat.ready` — every request sequence, every idle gap and every stall pattern on the beat stream.
  `axiSpecAddr` / `Legal` are written from AMBA AXI A3.4.1 and never mention the hardware model.
-/
/-
  INVENTORY of the code C10 is anchored in (litex/soc/interconnect/axi/axi_full.py unless noted).
  "tie": A = exhaustive product co-exploration with the Lean driver, B = random lock-step co-simulation,
         C = differential of a pure function (call), E = whole bursts through the real converter, P = probe.
  ------------------------------------------------------------------------------------------------------------------
  code                                   | Lean model                         | theorems here                  | tie
  ---------------------------------------+------------------------------------+--------------------------------+-----
  AXIBurst2Beat (regs, comb, sync, caps) | Axi.b2b / Axi.sys (Burst2Beat.lean)| b2b_beats, b2b_invariant,      | A all
    incl. 4 KB page, WRAP 2/4/8/16,      |  every truncation explicit; no     | b2b_consumed_with_last_beat,   | 32768 requests
    all sizes 0..7, FIXED, reduced caps  |  data-width parameter exists in    | offset_fits, wrap_detect_iff,  | of the box, B
    (the module has NO data-width        |  the code: theorems are for all    | b2b_fixed, b2b_no_bubble,      | aw 13..64,
    parameter: size < 8 covers all bus   |  aw >= 12, all len/size/burst      | b2b_addr_exact,                | axi3 ports,
    widths up to 1024 bit)               |                                    | b2b_incr_stays_in_page         | open loop
  A3.4.1 (spec side)                     | axiSpecAddr/Legal/burstBytes       | (definitions the theorems are  | C vs Python
                                         |  (BurstSpec.lean)                  |  stated against)               | transcription
  AXIUpConverter AW/AR (len>>k, size+k)  | upAx (WidthConv.lean)              | upconv_arith_partial,          | C 15 instances
                                         |                                    | upconv_wrap_partial, UpRegion, | aw/ar, garbage
                                         |                                    | upconv_len_not_multiple_neg    | on idle channel
  AXIDownConverter convert_addr/len/     | downAx (WidthConv.lean)            | downconv_arith_partial/_aligned| C (same), P x4
    size/burst                           |                                    | downconv_wrap_partial,         |
                                         |                                    | downconv_single_partial,       |
                                         |                                    | downconv_len_overflow_neg      |
  W/R StrideConverters of both           | laneUp/laneDown = Stream.upConv/   | w_beats_up, w_up_burst,        | A 8<->16(32),
    converters (stream._UpConverter/     |  downConv (shared with C03)        | w_beats_down, w_down_last      | B 8 widths
    _DownConverter)                      |                                    |                                |
  byte-lane placement, strobes, data     | BWord, beatWrites/burstWrites/     | incr_burst_byte_stream,        | E: Lean
    end to end (AW/AR + W/R together)    |  burstReads, memApply, upWords/    | upconv_lane_placement,         | burstWrites vs
                                         |  downWords (WidthConvMem.lean)     | downconv_lane_placement,       | Python oracle on
                                         |                                    | upconv_write_e2e_partial,      | both sides and
                                         |                                    | downconv_write_e2e_partial,    | upWords/downWords
                                         |                                    | upconv_read_e2e_partial        | vs real W/R beats
  side-bands resp/id/user/dest of W/R    | sideReg (down R: always-loading    | downR_sideband_unstalled_      | A 8<->16 x4,
    (comb in AXIUpConverter and down W,  |  register), sideCombUp (up W),     |  partial, sideIdeal_words,     | B 5(9) widths,
    self.sync every edge in down R)      |  sideCombDown (down W, up R)       | sideband_comb_down, negative   | first-cycle
                                         |  (WidthConvSide.lean)              | witnesses (stall, up W, resp   | alignment
                                         |                                    | merging)                       | monitor
  B channel, AW/AR valid/ready and       | - (wires)                          | -                              | C passthrough
    id/lock/prot/cache/qos/region        |                                    |                                | differential
  AXIConverter (selection glue)          | - (elaboration-time choice)        | -                              | instances built
                                         |                                    |                                | via AXIConverter
  axi_common BURST_* encodings           | BURST_* (Burst2Beat.lean)          | -                              | constants_check
  axi_common AXSIZE table (32 -> 0b110,  | not modelled: unused by the code   | -                              | -
    64 -> 0b111: wrong, but unused)      |                                    |                                |
  AXI2AXILite / AXI2Wishbone: the only   | userCaps (capability set passed),  | effBurst_eq_iff,               | E: caps read at
    in-tree instantiation of             |  Caps.serves (BurstSpec.lean); the | user_b2b_beats (+ reduced-caps | elaboration vs
    AXIBurst2Beat (default capabilities) |  bridge FSM itself belongs to C09  | witness); C09:                 | userCaps; FIXED/
                                         |                                    | axi2axl_bursts_partial         | INCR/WRAP bursts
                                         |                                    |                                | into real SRAMs
  AXIRemapper/Timeout/Arbiter/Decoder/…  | other properties (C08/C11)         |                                |
  ------------------------------------------------------------------------------------------------------------------
-/
namespace Litex.C10
open Litex Litex.Axi Litex.Stream Litex.Stream.Elem

/-- For every capability set, every address width ≥ 12 and every run in which all requests
    the master offers are legal (A3.4.1: INCR inside one 4 KB page; WRAP of 2/4/8/16 transfers with a size-aligned
    start; FIXED), in every prefix of the run:
    * the beats handed over on `ax_beat`, with addresses taken at transfer-size granularity, are exactly the
      concatenation, over the accepted requests in order, of the `len+1` beats A3.4.1 prescribes (address of
      transfer k, `first` on beat 0, `last` on beat `len`, id copied), followed by the first `beat_count` beats of
      the request still being held;
    * the requests offered are exactly the requests accepted plus the one still held — none lost, none accepted
      twice. -/
theorem b2b_beats (caps : Caps) (aw : Nat) (haw : 12 ≤ aw) (ins : List SysIn)
    (hlegal : ∀ r ∈ sysOffered caps aw sysInit ins, Legal aw r (effBurst caps r.burst)) :
    sysBeats caps aw sysInit ins
      = (sysConsumed caps aw sysInit ins).flatMap (specBeatsC caps) ++ sysPending caps ((sys caps aw).run ins) ∧
    sysOffered caps aw sysInit ins
      = sysConsumed caps aw sysInit ins ++ ((sys caps aw).run ins).held.toList := by
  have h := sys_run caps aw haw ins sysInit (by simp [SysInv, sysInit]) hlegal
  obtain ⟨_, h2, h3⟩ := h
  have hrun : (sys caps aw).run ins = (sys caps aw).runFrom sysInit ins := rfl
  rw [hrun]
  exact ⟨by simpa [sysPending, sysInit] using h2, by simpa [sysInit] using h3⟩

/-- Every state reached in such a run satisfies the closed-form invariant (`SysInv`): idle ⇒ both registers at
    reset; otherwise `beat_count = k ≤ len` and `beat_offset` is the closed form `specOff` for `k` beats. -/
theorem b2b_invariant (caps : Caps) (aw : Nat) (haw : 12 ≤ aw) (ins : List SysIn)
    (hlegal : ∀ r ∈ sysOffered caps aw sysInit ins, Legal aw r (effBurst caps r.burst)) :
    SysInv caps aw ((sys caps aw).run ins) :=
  (sys_run caps aw haw ins sysInit (by simp [SysInv, sysInit]) hlegal).1

/-- In the cycle following any such run, the
    request is accepted on `ax_burst` iff a beat is handed over on `ax_beat` in that same cycle and it carries
    `last`. -/
theorem b2b_consumed_with_last_beat (caps : Caps) (aw : Nat) (haw : 12 ≤ aw) (ins : List SysIn) (i : SysIn)
    (hlegal : ∀ r ∈ sysOffered caps aw sysInit (ins ++ [i]), Legal aw r (effBurst caps r.burst)) :
    let s := (sys caps aw).run ins
    sysConsNow aw s i ≠ [] ↔ ∃ b, sysBeatNow aw s i = [b] ∧ b.last = true := by
  intro s
  obtain ⟨hl1, hl2⟩ := legal_of_snoc hlegal
  exact (sys_step caps aw haw s i (b2b_invariant caps aw haw ins hl1) hl2).2.2.2

/-- Under legality the running offset stays strictly inside (−4096, 4096), so the 13-bit signed
    register never wraps; and it is 0 whenever the master holds nothing. -/
theorem offset_fits (caps : Caps) (aw : Nat) (haw : 12 ≤ aw) (ins : List SysIn)
    (hlegal : ∀ r ∈ sysOffered caps aw sysInit ins, Legal aw r (effBurst caps r.burst)) :
    let s := (sys caps aw).run ins
    ((-4096 : Int) < s.b.offset ∧ s.b.offset < 4096 ∧ (s.held = none → s.b.offset = 0 ∧ s.b.count = 0)) := by
  intro s
  have hinv := b2b_invariant caps aw haw ins hlegal
  cases hh : s.held with
  | none => rw [hinv.of_idle hh]; simp [b2bInit]
  | some r =>
    obtain ⟨hleg, hk, hb⟩ := hinv.of_held hh
    have hf := (beat_step caps aw haw r s.b.count hleg hk).fits
    rw [hb]
    exact ⟨hf.1, hf.2, by simp⟩

/-- For the WRAP lengths 2/4/8/16 the mask test of the code fires exactly on the last
    `2^size`-byte slot of the `(len+1)·2^size`-byte window. -/
theorem wrap_detect_iff (len size x : Nat) (hL : len = 1 ∨ len = 3 ∨ len = 7 ∨ len = 15) :
    (x &&& (len * 2 ^ size) = len * 2 ^ size) ↔ (x / 2 ^ size) % (len + 1) = len :=
  wrap_detect_len hL size x

/-- While a request whose effective type is FIXED (FIXED itself, the reserved encoding, or INCR/WRAP
    on a module built without that capability) is being served, the offset stays 0 — every beat carries the start
    address. -/
theorem b2b_fixed (caps : Caps) (aw : Nat) (haw : 12 ≤ aw) (ins : List SysIn)
    (hlegal : ∀ r ∈ sysOffered caps aw sysInit ins, Legal aw r (effBurst caps r.burst)) (r : Req)
    (hheld : ((sys caps aw).run ins).held = some r) (hfixed : effBurst caps r.burst = BURST_FIXED) :
    ((sys caps aw).run ins).b.offset = 0 := by
  obtain ⟨_, _, hb⟩ := (b2b_invariant caps aw haw ins hlegal).of_held hheld
  rw [hb, hfixed]
  exact specOff_fixed r ((sys caps aw).run ins).b.count

/-- In every cycle of such a run a beat is handed over iff a request is being driven and
    `ax_beat.ready` is high — the module inserts no idle cycles, so a burst needs exactly `len+1` ready cycles. -/
theorem b2b_no_bubble (caps : Caps) (aw : Nat) (haw : 12 ≤ aw) (ins : List SysIn) (i : SysIn)
    (hlegal : ∀ r ∈ sysOffered caps aw sysInit ins, Legal aw r (effBurst caps r.burst)) :
    let s := (sys caps aw).run ins
    sysBeatNow aw s i ≠ [] ↔ ((s.drive i).valid = true ∧ i.ready = true) := by
  intro s
  have hbv := beatValid_eq_valid caps aw s i (b2b_invariant caps aw haw ins hlegal)
  unfold sysBeatNow
  simp only [hbv]
  cases (s.drive i).valid <;> cases i.ready <;> simp

/-- When the start address is aligned to the transfer size (always the case for a legal WRAP
    burst) or the effective type is FIXED, the beat address equals the A3.4.1 address bit for bit, not only at
    transfer-size granularity.  (For an unaligned INCR start the module keeps the low address bits on every beat,
    where A3.4.1 aligns beats 2…: same container, see the example below.) -/
theorem b2b_addr_exact (caps : Caps) (aw : Nat) (haw : 12 ≤ aw) (ins : List SysIn) (i : SysIn)
    (hlegal : ∀ r ∈ sysOffered caps aw sysInit (ins ++ [i]), Legal aw r (effBurst caps r.burst)) :
    let s := (sys caps aw).run ins
    let r := (s.drive i).req
    (s.drive i).valid = true →
    (r.addr % numBytes r.size = 0 ∨ effBurst caps r.burst = BURST_FIXED) →
    (sysOut aw s i).beat.addr = axiSpecAddr r.addr r.len r.size (effBurst caps r.burst) s.b.count := by
  intro s r hv hal
  obtain ⟨hl1, hl2⟩ := legal_of_snoc hlegal
  obtain ⟨hleg, hk, hb, _⟩ := drive_inv caps aw s i (b2b_invariant caps aw haw ins hl1) hl2 hv
  have hx := (beat_step caps aw haw r s.b.count hleg hk).addr_exact hal
  show beatAddr aw r s.b = _
  rw [← hx]
  conv => lhs; rw [hb]

/-- Unaligned INCR start: beat 1 of INCR(addr 0x15, len 1, size 2) is presented at 0x19; A3.4.1 says 0x18 — the
    same 4-byte container (index 6), which is all the property (and `b2b_beats`) demands. -/
example :
    let n : Req := ⟨0x15, 1, 2, BURST_INCR, 0⟩
    let s := (sys Caps.all 12).run [⟨true, n, true⟩]
    (sysOut 12 s ⟨false, n, true⟩).beat.addr = 0x19 ∧ axiSpecAddr 0x15 1 2 BURST_INCR 1 = 0x18 ∧
    0x19 / numBytes 2 = 0x18 / numBytes 2 := by decide

/-! Non-vacuity: a WRAP burst of 4 × 4 bytes starting at 0x8 (not the window base) under a stalling consumer,
    followed by an INCR burst with an unaligned start; the model delivers 0x8, 0xC, 0x0, 0x4 and then containers
    5, 6 (addresses 0x15, 0x19 at 4-byte granularity). -/
example :
    let w : Req := ⟨0x8, 3, 2, BURST_WRAP, 1⟩
    let n : Req := ⟨0x15, 1, 2, BURST_INCR, 2⟩
    let ins : List SysIn := [⟨true, w, false⟩, ⟨false, n, true⟩, ⟨false, n, true⟩, ⟨true, n, false⟩, ⟨false, n, true⟩,
                             ⟨true, n, true⟩, ⟨true, n, true⟩, ⟨false, w, true⟩]
    (∀ r ∈ sysOffered Caps.all 12 sysInit ins, Legal 12 r (effBurst Caps.all r.burst)) ∧
    (sysBeats Caps.all 12 sysInit ins).map (·.addr) = [2, 3, 0, 1, 5, 6] ∧
    sysConsumed Caps.all 12 sysInit ins = [w, n] ∧
    (sysBeats Caps.all 12 sysInit ins).map (·.last) = [false, false, false, true, false, true] := by
  decide

/-! Why legality is a hypothesis: an *illegal* WRAP burst (3 transfers, start 0x3) ends with the mask test firing
    on its last beat, the later assignment overrides `beat_offset := 0`, and the stale offset −3 corrupts the next,
    perfectly legal, single-beat INCR burst at 0x10 (delivered at 0xD). -/
example :
    let bad : Req := ⟨0x3, 2, 0, BURST_WRAP, 0⟩
    let ok : Req := ⟨0x10, 0, 0, BURST_INCR, 0⟩
    let ins : List SysIn := [⟨true, bad, true⟩, ⟨false, bad, true⟩, ⟨false, bad, true⟩, ⟨true, ok, true⟩]
    ((sys Caps.all 12).run (ins.take 3)).b.offset = -3 ∧
    (sysBeats Caps.all 12 sysInit ins).getLast? = some ⟨0xD, true, true, 0⟩ ∧
    ¬ (sysBeats Caps.all 12 sysInit ins).getLast? = some ((specBeat ok BURST_INCR 0).atSize 0) := by
  decide


/-! ### Width converters: address channels (the forwarded request touches the same bytes) -/

/-- Full statement (false on the code): *for every legal burst the forwarded burst
    `(len >> k, size + k)` touches the same bytes in the same order.*  Proved under the code's own stated
    assumption: INCR, start aligned to the wide word, `len+1` a multiple of the ratio (and `size + k` representable).
    With `size = log2(dw_from/8)` this is exactly "full-width, wide-aligned, multiple of the ratio". -/
theorem upconv_arith_partial (k : Nat) (r : Req) (hb : r.burst = BURST_INCR) (hs : r.size + k < 8)
    (hal : r.addr % numBytes (r.size + k) = 0) (hmul : (r.len + 1) % 2 ^ k = 0) :
    burstBytes (upAx k r).addr (upAx k r).len (upAx k r).size (upAx k r).burst
      = burstBytes r.addr r.len r.size r.burst := by
  have hal2 := Nat.mod_eq_zero_of_dvd (numBytes_dvd_of_add (Nat.dvd_of_mod_eq_zero hal))
  simp only [upAx, hb, Nat.mod_eq_of_lt hs]
  rw [incr_bytes_aligned _ _ _ hal, incr_bytes_aligned _ _ _ hal2]
  congr 1
  unfold numBytes
  rw [Nat.pow_add, ← Nat.mul_assoc, Nat.mul_right_comm, len_div_mul hmul]

/-- hypotheses satisfiable: 32 → 64, four beats at 0x20 become two. -/
example : burstBytes (upAx 1 ⟨0x20, 3, 2, BURST_INCR, 0⟩).addr (upAx 1 ⟨0x20, 3, 2, BURST_INCR, 0⟩).len
    (upAx 1 ⟨0x20, 3, 2, BURST_INCR, 0⟩).size BURST_INCR = List.range' 0x20 16 := by decide

/-- Negative witness (known finding C10-upconv-unaligned-single-beat): 32 → 64, one 4-byte beat at 0x4 is
    forwarded as `AW(0x4, len 0, size 3)`.  (The data path packs the beat into lane 0: see the
    lane-0 witness after `w_up_burst`.) -/
example : upAx 1 ⟨0x4, 0, 2, BURST_INCR, 0⟩ = ⟨0x4, 0, 3, BURST_INCR, 0⟩ := by decide

/-- Negative witness, length not a multiple of the ratio: 32 → 64, three beats at 0x0 (12 bytes) are forwarded as
    two 8-byte beats (16 bytes). -/
example : ¬ burstBytes (upAx 1 ⟨0, 2, 2, BURST_INCR, 0⟩).addr (upAx 1 ⟨0, 2, 2, BURST_INCR, 0⟩).len
    (upAx 1 ⟨0, 2, 2, BURST_INCR, 0⟩).size BURST_INCR = burstBytes 0 2 2 BURST_INCR := by decide

/-- Full statement (false on the code): *for every legal burst the forwarded burst
    touches the same bytes in the same order.*  Proved for full-width INCR bursts whose multiplied length still
    fits the 8-bit port: the narrow burst sweeps exactly the wide burst's containers (equal to the wide burst's own
    bytes when its start is aligned, `downconv_arith_aligned`). -/
theorem downconv_arith_partial (sf st : Nat) (r : Req) (hst : st ≤ sf) (hb : r.burst = BURST_INCR)
    (hs : r.size = sf) (hfit : (r.len + 1) * 2 ^ (sf - st) ≤ 256) :
    burstBytes (downAx sf st r).addr (downAx sf st r).len (downAx sf st r).size (downAx sf st r).burst
      = List.range' (alignedAddr r.addr sf) ((r.len + 1) * numBytes sf) := by
  have hburst : (downAx sf st r).burst = BURST_INCR := by show (if _ then _ else _) = _; rw [hb]; rfl
  rw [hburst, downAx_size (hs ▸ hst),
    incr_bytes_aligned _ _ _ (Nat.mod_eq_zero_of_dvd (downAx_addr_dvd r hst)), downAx_len hfit]
  show List.range' (alignedAddr r.addr sf) _ = _
  unfold numBytes
  rw [Nat.mul_assoc, two_pow_sub_mul_two_pow hst]

theorem downconv_arith_aligned (sf st : Nat) (r : Req) (hst : st ≤ sf) (hb : r.burst = BURST_INCR)
    (hs : r.size = sf) (hfit : (r.len + 1) * 2 ^ (sf - st) ≤ 256) (hal : r.addr % numBytes sf = 0) :
    burstBytes (downAx sf st r).addr (downAx sf st r).len (downAx sf st r).size (downAx sf st r).burst
      = burstBytes r.addr r.len r.size r.burst := by
  rw [downconv_arith_partial sf st r hst hb hs hfit, hb, hs, incr_bytes_aligned _ _ _ hal,
    alignedAddr_of_dvd (Nat.dvd_of_mod_eq_zero hal)]

/-- hypotheses satisfiable: 64 → 32, two 8-byte beats at 0x100 become four 4-byte beats. -/
example : downAx 3 2 ⟨0x100, 1, 3, BURST_INCR, 0⟩ = ⟨0x100, 3, 2, BURST_INCR, 0⟩ := by decide

/-- Negative witness (known finding C10-downconv-narrow-burst): 64 → 32, `len = 1, size = 2` (8 bytes) becomes
    `len = 3, size = 2` (16 bytes). -/
example : downAx 3 2 ⟨0x100, 1, 2, BURST_INCR, 0⟩ = ⟨0x100, 3, 2, BURST_INCR, 0⟩ ∧
    (burstBytes 0x100 1 2 BURST_INCR).length = 8 ∧ (burstBytes 0x100 3 2 BURST_INCR).length = 16 := by decide

/-- Negative witness (known finding C10-downconv-fixed-burst): a FIXED burst of two 8-byte beats (the same 8 bytes
    twice) becomes an INCR burst over 16 different bytes. -/
example : downAx 3 2 ⟨0x100, 1, 3, BURST_FIXED, 0⟩ = ⟨0x100, 3, 2, BURST_INCR, 0⟩ ∧
    burstBytes 0x100 1 3 BURST_FIXED = List.range' 0x100 8 ++ List.range' 0x100 8 ∧
    burstBytes 0x100 3 2 BURST_INCR = List.range' 0x100 16 := by decide

/-- Negative witness (known finding C10-downconv-len-overflow): 129 × 8 bytes need 258 narrow beats; the 8-bit
    length wraps to `len = 1`. -/
example : downAx 3 2 ⟨0, 128, 3, BURST_INCR, 0⟩ = ⟨0, 1, 2, BURST_INCR, 0⟩ := by decide

/-- A WRAP burst whose start is aligned to the wide word and whose length is a multiple of
    the ratio is forwarded as a WRAP burst over the same bytes in the same order (same window, same start).
    (For `(len+1) = ratio` the forwarded "WRAP" has a single beat — the whole window.) -/
theorem upconv_wrap_partial (k : Nat) (r : Req) (hb : r.burst = BURST_WRAP) (hs : r.size + k < 8)
    (hal : r.addr % numBytes (r.size + k) = 0) (hmul : (r.len + 1) % 2 ^ k = 0) :
    burstBytes (upAx k r).addr (upAx k r).len (upAx k r).size (upAx k r).burst
      = burstBytes r.addr r.len r.size r.burst := by
  have hd2 : numBytes (r.size + k) ∣ r.addr := Nat.dvd_of_mod_eq_zero hal
  have hd1 := numBytes_dvd_of_add hd2
  simp only [upAx, hb, Nat.mod_eq_of_lt hs]
  apply wrap_bytes_same_window _ _ _ _ _ hd2 hd1
  unfold numBytes
  rw [Nat.pow_add, Nat.mul_assoc, Nat.mul_comm (2 ^ k), len_div_mul hmul]

/-- A full-width WRAP burst (start aligned to the wide word, as WRAP legality demands) is
    forwarded as a WRAP burst of `(len+1)·ratio` narrow transfers over the same bytes in the same order, from any
    start inside the window.  The forwarded burst is a *legal* AXI WRAP only while `(len+1)·ratio ≤ 16`
    (known finding C10-downconv-len-overflow covers the rest, negative witness below). -/
theorem downconv_wrap_partial (sf st : Nat) (r : Req) (hst : st ≤ sf) (hb : r.burst = BURST_WRAP) (hs : r.size = sf)
    (hal : r.addr % numBytes sf = 0) (hfit : (r.len + 1) * 2 ^ (sf - st) ≤ 256) :
    burstBytes (downAx sf st r).addr (downAx sf st r).len (downAx sf st r).size (downAx sf st r).burst
      = burstBytes r.addr r.len r.size r.burst ∧
    (downAx sf st r).len + 1 = (r.len + 1) * 2 ^ (sf - st) := by
  have hd1 : numBytes sf ∣ r.addr := Nat.dvd_of_mod_eq_zero hal
  have hd2 : numBytes st ∣ r.addr := Nat.dvd_trans (by unfold numBytes; exact Nat.pow_dvd_pow 2 hst) hd1
  have hburst : (downAx sf st r).burst = BURST_WRAP := by show (if _ then _ else _) = _; rw [hb]; rfl
  have haddr : (downAx sf st r).addr = r.addr := Nat.div_mul_cancel (hs ▸ hd1)
  refine ⟨?_, downAx_len hfit⟩
  rw [hburst, haddr, downAx_size (hs ▸ hst), hb, hs]
  apply wrap_bytes_same_window _ _ _ _ _ hd2 hd1
  rw [downAx_len hfit]
  unfold numBytes
  rw [Nat.mul_comm (r.len + 1), ← Nat.mul_assoc, Nat.mul_comm (2 ^ st), two_pow_sub_mul_two_pow hst]

/-- hypotheses satisfiable, start above the window base: 64 → 32, WRAP 4 × 8 bytes from 0x1110 (window
    0x1100..0x111f) becomes WRAP 8 × 4 bytes: 0x1110..0x111f then 0x1100..0x110f. -/
example : downAx 3 2 ⟨0x1110, 3, 3, BURST_WRAP, 0⟩ = ⟨0x1110, 7, 2, BURST_WRAP, 0⟩ ∧
    burstBytes 0x1110 7 2 BURST_WRAP = List.range' 0x1110 16 ++ List.range' 0x1100 16 := by decide

/-- Negative witness for WRAP (region of C10-downconv-len-overflow): 16 × 8 bytes become a WRAP of 32 transfers,
    which AXI does not allow (2, 4, 8 or 16). -/
example : downAx 3 2 ⟨0x1108, 15, 3, BURST_WRAP, 0⟩ = ⟨0x1108, 31, 2, BURST_WRAP, 0⟩ ∧
    ¬ Legal 32 ⟨0x1108, 31, 2, BURST_WRAP, 0⟩ BURST_WRAP := by decide

/-- A single transfer (INCR or FIXED, `len = 0`) at least as wide as the narrow bus —
    in particular every size strictly between the two bus widths — is forwarded as the `ratio` full-width narrow
    transfers of the wide word that contains it (the data path emits exactly these beats; strobes select the
    bytes). -/
theorem downconv_single_partial (sf st : Nat) (r : Req) (hst : st ≤ sf) (hk : sf - st ≤ 8)
    (hb : r.burst = BURST_INCR ∨ r.burst = BURST_FIXED) (hlen0 : r.len = 0) (hs1 : st ≤ r.size) :
    burstBytes (downAx sf st r).addr (downAx sf st r).len (downAx sf st r).size (downAx sf st r).burst
      = List.range' (alignedAddr r.addr sf) (numBytes sf) := by
  have hpow : 2 ^ (sf - st) ≤ 256 := by
    calc 2 ^ (sf - st) ≤ 2 ^ 8 := Nat.pow_le_pow_right (by decide) hk
      _ = 256 := by decide
  have hburst : (downAx sf st r).burst = BURST_INCR := by
    show (if _ then _ else _) = _
    rcases hb with hb | hb <;> rw [hb] <;> rfl
  rw [hburst, downAx_size hs1, incr_bytes_aligned _ _ _ (Nat.mod_eq_zero_of_dvd (downAx_addr_dvd r hst)),
    downAx_len (by rw [hlen0]; omega), hlen0]
  show List.range' (alignedAddr r.addr sf) _ = _
  unfold numBytes
  rw [Nat.zero_add, Nat.one_mul, two_pow_sub_mul_two_pow hst]

/-- hypotheses satisfiable: 128 → 32, one 8-byte transfer at 0x48 (size strictly between the bus widths). -/
example : downAx 4 2 ⟨0x48, 0, 3, BURST_INCR, 0⟩ = ⟨0x40, 3, 2, BURST_INCR, 0⟩ := by decide

/-- Negative witness (region of C10-downconv-narrow-burst, size below the narrow bus width): 64 → 32, one byte at
    0xec is forwarded as two 1-byte transfers at 0xe8, 0xe9 — byte 0xec is never addressed. -/
example : downAx 3 2 ⟨0xec, 0, 0, BURST_INCR, 0⟩ = ⟨0xe8, 1, 0, BURST_INCR, 0⟩ ∧
    burstBytes 0xe8 1 0 BURST_INCR = [0xe8, 0xe9] := by decide

/-! ### Width converters: data channels

  The W and R paths are `stream.StrideConverter`s; their model is the shared stream-converter model
  (`laneUp r = Stream.upConv r 0 ()`, `laneDown r = Stream.downConv r 0`, compared with the real W/R channels of
  `AXIUpConverter`/`AXIDownConverter` on every run).  A run is any `ins : List (In _)`: every valid/ready schedule. -/

/-- W path of the up-converter, R path of the down-converter.  For every schedule and every narrow
    beat sequence: the words specified by greedy chunking of the accepted narrow beats (cut after `r` beats or
    after a beat with `last`; lanes = the beats in order, `last` = the closing beat's `last`) are exactly the wide
    beats delivered so far followed by the one waiting in the output register — none lost, duplicated or
    reordered.  (Same relation as C03's `upConv_token_rel`, instantiated at the AXI lane model.) -/
theorem w_beats_up (r : Nat) (hr : 0 < r) (ins : List (In (Nat × Unit))) :
    let e := laneUp r
    (chunks r (e.accepted e.init ins)).map (wordOf ()) =
      (e.delivered e.init ins).map upView ++ (e.runFrom e.init ins).inflight :=
  (upConv_run r hr 0 () ins).1

/-- What that chunking does to an AXI burst in the converter's supported region — `n·r` narrow beats
    whose only `last` is on the final one: only full words of `r` lanes, nothing left over, order kept, `n` wide
    beats, `last` on the final wide beat and on no other. -/
theorem w_up_burst (r n : Nat) (hr : 0 < r) (ts : List (Tok (Nat × Unit))) (t : Tok (Nat × Unit))
    (hno : ∀ x ∈ ts, x.last = false) (ht : t.last = true) (hlen : ts.length + 1 = n * r) :
    chunkRest r (ts ++ [t]) = [] ∧
    (chunks r (ts ++ [t])).flatten = ts ++ [t] ∧
    (∀ c ∈ chunks r (ts ++ [t]), c.length = r) ∧
    (chunks r (ts ++ [t])).length = n ∧
    ((chunks r (ts ++ [t])).map (wordOf ())).map (·.last) = List.replicate (n - 1) false ++ [true] := by
  obtain ⟨h1, h2, h3, h4, h5⟩ := burst_chunks r n hr ts t hno ht hlen
  refine ⟨h1, h2, h3, h4, ?_⟩
  rw [List.map_map]
  exact h5

/-- non-vacuity of `w_up_burst` and `w_beats_up`: ratio 2, a burst of four beats through a stalling consumer. -/
example :
    let e := laneUp 2
    let b (d : Nat) (l : Bool) : Tok (Nat × Unit) := ⟨(d, ()), false, l⟩
    let ins : List (In (Nat × Unit)) := [⟨true, b 1 false, true⟩, ⟨true, b 2 false, false⟩, ⟨true, b 3 false, false⟩,
      ⟨true, b 3 false, true⟩, ⟨true, b 4 true, true⟩, ⟨false, b 0 false, true⟩]
    e.accepted e.init ins = [b 1 false, b 2 false, b 3 false, b 4 true] ∧
    (e.delivered e.init ins).map upView = [⟨([1, 2], ()), false, false⟩, ⟨([3, 4], ()), false, true⟩] := by
  decide

/-- Negative witness for bursts outside the supported region (known finding
    C10-upconv-unaligned-single-beat): the data path never sees the address; a single beat (with `last`) is
    flushed in lane 0 — also when its address (0x4 on a 32 → 64 converter) names lane 1 — and the other lane keeps
    stale content. -/
example :
    let e := laneUp 2
    let ins : List (In (Nat × Unit)) := [⟨true, ⟨(0xdeadbeef, ()), false, true⟩, true⟩, ⟨false, ⟨(0, ()), false, false⟩, true⟩]
    (e.delivered e.init ins).map (·.data.lanes) = [[0xdeadbeef, 0]] := by
  decide

/-- W path of the down-converter, R path of the up-converter.  Under the AXI/stream producer
    contract (a beat offered and not accepted is offered again unchanged — `Held`), for every schedule: the narrow
    beats delivered are all `r` lanes of every accepted wide beat, lane 0 first, in order, followed by the first
    `mux` lanes of the wide beat currently offered. -/
theorem w_beats_down (r : Nat) (hr : 0 < r) (ins : List (In (List Nat × Unit)))
    (hheld : (laneDown r).Held (laneDown r).init none ins) :
    let e := laneDown r
    e.delivered e.init ins =
      (e.accepted e.init ins).flatMap (splitTok r 0) ++
        downPart r 0 (e.runFrom e.init ins) (e.oblAfter e.init none ins) ∧
    e.runFrom e.init ins < r :=
  let h := rel_run_held_init (laneDown r) (downRel r 0)
    ⟨by simpa [Stream.downConv] using hr, by simp [Stream.downConv], by simp [downPart]⟩
    (fun s p a d i h hm => downConv_step r 0 s p a d i h hm) ins hheld
  ⟨h.2.2, h.1⟩

/-- A wide beat becomes exactly `r` narrow beats and `last` appears on the final one iff the wide
    beat carried `last` — so a burst of `n` wide beats with `last` on the final one is delivered as `n·r` narrow
    beats with `last` on the final one. -/
theorem w_down_last (r : Nat) (hr : 0 < r) (t : Tok (List Nat × Unit)) :
    (splitTok r 0 t).length = r ∧
    (splitTok r 0 t).map (·.last) = List.replicate (r - 1) false ++ [t.last] :=
  splitTok_last r hr 0 t

/-- non-vacuity of `w_beats_down`: ratio 2, two wide beats, consumer stalls once; the producer holds. -/
example :
    let e := laneDown 2
    let w (a b : Nat) (l : Bool) : Tok (List Nat × Unit) := ⟨([a, b], ()), false, l⟩
    let ins : List (In (List Nat × Unit)) := [⟨true, w 1 2 false, true⟩, ⟨true, w 1 2 false, false⟩,
      ⟨true, w 1 2 false, true⟩, ⟨true, w 3 4 true, true⟩, ⟨true, w 3 4 true, true⟩]
    e.Held e.init none ins ∧
    (e.delivered e.init ins).map (fun t => (t.data.1, t.last)) = [(1, false), (2, false), (3, false), (4, true)] := by
  refine ⟨?_, by decide⟩
  simp [Elem.Held, Elem.Meets, Elem.obl, Elem.out, Elem.step, Stream.downConv]


/-! ### Burst2Beat: the 4 KB page, reduced capabilities, the users of the module -/

/-- Every transfer address A3.4.1 prescribes for a legal INCR burst lies in the 4 KB page
    of the start address - together with `b2b_beats` (beats = the prescribed ones at size granularity) the module
    never leaves the page.  All sizes 0..7, i.e. every data width the AXI4 size field can express. -/
theorem b2b_incr_stays_in_page (aw : Nat) (r : Req) (hleg : Legal aw r BURST_INCR) (k : Nat) (hk : k ≤ r.len) :
    axiSpecAddr r.addr r.len r.size BURST_INCR k / 4096 = r.addr / 4096 := by
  obtain ⟨_, _, _, h4⟩ := hleg
  rw [if_pos rfl] at h4
  unfold alignedAddr numBytes at h4
  obtain ⟨h1, h2⟩ := incr_page (Nat.two_pow_pos r.size) h4 hk
  unfold axiSpecAddr alignedAddr numBytes
  rw [if_pos rfl]
  split
  · rfl
  · have := Nat.two_pow_pos r.size
    omega

/-- Beyond legality (a burst that would cross the page: 33 × 128 bytes): when the running offset reaches 4096 the
    13-bit signed register wraps to −4096 and the beat is presented 8 KB below where it belongs (0x1000 instead of
    0x3000) - the reason `Legal` (no 4 KB crossing) is a hypothesis of the b2b theorems. -/
example :
    let r : Req := ⟨0x2000, 32, 7, BURST_INCR, 0⟩
    (b2bNext Caps.all 16 ⟨31, 3968⟩ ⟨true, r, true⟩) = ⟨32, -4096⟩ ∧ beatAddr 16 r ⟨32, -4096⟩ = 0x1000 ∧
    axiSpecAddr 0x2000 32 7 BURST_INCR 32 = 0x3000 ∧ ¬ Legal 16 r BURST_INCR := by decide

/-- The module expands a burst of type FIXED/INCR/WRAP as that type **iff** the type is in the
    capability set it was built with (otherwise: as FIXED) - the dependence every user of the module inherits. -/
theorem effBurst_eq_iff (caps : Caps) (b : Nat) (hb : b = BURST_FIXED ∨ b = BURST_INCR ∨ b = BURST_WRAP) :
    effBurst caps b = b ↔ caps.serves b = true := by
  obtain ⟨i, w⟩ := caps
  rcases hb with rfl | rfl | rfl <;> cases i <;> cases w <;> decide

/-- For an in-tree user of the module (`AXI2AXILite`, and `AXI2Wishbone` through it) with the
    capability set it passes (`userCaps`, compared with the real module on every run), every run in which the offered
    bursts are FIXED, INCR or WRAP and legal **for their own type** yields exactly the A3.4.1 beats of that type -
    `b2b_beats` with `effBurst` eliminated.  Full statement for ANY capability set is false: see the witness below;
    the hypothesis that makes it true is `caps.serves r.burst`, which `userCaps` satisfies for all three types. -/
theorem user_b2b_beats (user : String) (caps : Caps) (hu : userCaps user = some caps) (aw : Nat) (haw : 12 ≤ aw)
    (ins : List SysIn)
    (hlegal : ∀ r ∈ sysOffered caps aw sysInit ins,
      (r.burst = BURST_FIXED ∨ r.burst = BURST_INCR ∨ r.burst = BURST_WRAP) ∧ Legal aw r r.burst) :
    (∀ b, b = BURST_FIXED ∨ b = BURST_INCR ∨ b = BURST_WRAP → caps.serves b = true) ∧
    sysBeats caps aw sysInit ins
      = (sysConsumed caps aw sysInit ins).flatMap
          (fun r => (List.range (r.len + 1)).map fun j => (specBeat r r.burst j).atSize r.size)
        ++ sysPending caps ((sys caps aw).run ins) := by
  have hc : caps = Caps.all := by
    unfold userCaps at hu
    split at hu
    · exact (Option.some.inj hu).symm
    · cases hu
  subst hc
  have heff : ∀ b, b = BURST_FIXED ∨ b = BURST_INCR ∨ b = BURST_WRAP → effBurst Caps.all b = b := by
    intro b hb; rcases hb with rfl | rfl | rfl <;> decide
  refine ⟨by intro b hb; rcases hb with rfl | rfl | rfl <;> decide, ?_⟩
  have hl : ∀ r ∈ sysOffered Caps.all aw sysInit ins, Legal aw r (effBurst Caps.all r.burst) := by
    intro r hr
    obtain ⟨h1, h2⟩ := hlegal r hr
    rw [heff _ h1]; exact h2
  obtain ⟨h1, h2⟩ := b2b_beats Caps.all aw haw ins hl
  rw [h1]
  congr 1
  apply flatMap_congr'
  intro r hr
  have hro : r ∈ sysOffered Caps.all aw sysInit ins := by rw [h2]; exact List.mem_append_left _ hr
  unfold specBeatsC specPrefixC
  rw [heff _ (hlegal r hro).1]

/-- non-vacuity: the known users exist and serve all three types. -/
example : userCaps "axi2axilite" = some Caps.all ∧ userCaps "axi2wishbone" = some Caps.all ∧
    Caps.all.serves BURST_WRAP = true := by decide

/-- Negative witness for a reduced capability set (what a user built with `{FIXED, INCR}` would do): the legal WRAP
    burst of 4 × 4 bytes from 0x8 is expanded as FIXED - four beats at container 2 instead of 2, 3, 0, 1. -/
example :
    let caps : Caps := ⟨true, false⟩
    let w : Req := ⟨0x8, 3, 2, BURST_WRAP, 1⟩
    let ins : List SysIn := [⟨true, w, true⟩, ⟨false, w, true⟩, ⟨false, w, true⟩, ⟨false, w, true⟩]
    caps.serves BURST_WRAP = false ∧ Legal 12 w BURST_WRAP ∧
    (sysBeats caps 12 sysInit ins).map (·.addr) = [2, 2, 2, 2] ∧
    (List.range 4).map (fun j => ((specBeat w BURST_WRAP j).atSize 2).addr) = [2, 3, 0, 1] := by decide

/-- The region in which `AXIUpConverter` is correct for INCR bursts, as a decidable predicate. -/
def UpRegion (k : Nat) (r : Req) : Prop :=
  r.burst = BURST_INCR ∧ r.size + k < 8 ∧ r.addr % numBytes (r.size + k) = 0 ∧ (r.len + 1) % 2 ^ k = 0

instance (k : Nat) (r : Req) : Decidable (UpRegion k r) := by unfold UpRegion; infer_instance

/-! ### Width converters: outside the regions of the `_partial` theorems -/

/-- Outside, along the length axis (witness FAMILY, every ratio, every such burst): an aligned INCR burst whose
    length is not a multiple of the ratio is forwarded as a burst over strictly more bytes. -/
theorem upconv_len_not_multiple_neg (k : Nat) (r : Req) (hb : r.burst = BURST_INCR) (hs : r.size + k < 8)
    (hal : r.addr % numBytes (r.size + k) = 0) (hmul : (r.len + 1) % 2 ^ k ≠ 0) :
    (burstBytes r.addr r.len r.size r.burst).length
      < (burstBytes (upAx k r).addr (upAx k r).len (upAx k r).size (upAx k r).burst).length := by
  have hal2 := Nat.mod_eq_zero_of_dvd (numBytes_dvd_of_add (Nat.dvd_of_mod_eq_zero hal))
  simp only [upAx, hb, Nat.mod_eq_of_lt hs]
  rw [incr_bytes_aligned _ _ _ hal, incr_bytes_aligned _ _ _ hal2, List.length_range', List.length_range']
  unfold numBytes
  rw [Nat.pow_add, ← Nat.mul_assoc, Nat.mul_right_comm]
  apply Nat.mul_lt_mul_of_pos_right _ (Nat.two_pow_pos _)
  rw [Nat.mul_comm _ (2 ^ k)]
  exact Nat.lt_of_le_of_ne (Nat.lt_mul_div_succ r.len (Nat.two_pow_pos k))
    (fun e => hmul (by rw [e]; exact Nat.mul_mod_right _ _))

/-- Outside, along the alignment axis: concrete witness at byte level (known finding
    C10-upconv-unaligned-single-beat; address channel + data path together): the single strobed beat at 0x4 reaches
    no byte 4..7 on the wide side. -/
example :
    let w : BWord := [(0xef, true), (0xbe, true), (0xad, true), (0xde, true)]
    let r : Req := ⟨0x4, 0, 2, BURST_INCR, 0⟩
    ¬ UpRegion 1 r ∧
    burstWrites 4 r [w] = [(4, 0xef), (5, 0xbe), (6, 0xad), (7, 0xde)] ∧
    burstWrites 8 (upAx 1 r) (upWords 2 [w]) = [] := by decide

/-- Outside, along the size axis (narrow-size burst; region of the same known finding, "not full-width"): 32 → 64,
    two 2-byte beats at 0x0 (bytes 0-1 on lanes 0-1, bytes 2-3 on lanes 2-3 of the 32-bit bus).  The address channel
    is translated correctly (`AW(0x0, len 0, size 2)`: the same 4 bytes), but the data path packs whole 32-bit words:
    bytes 2-3 land in lanes 6-7 of the wide word, outside the forwarded transfer - they are never written. -/
example :
    let w0 : BWord := [(0xa, true), (0xb, true), (0, false), (0, false)]
    let w1 : BWord := [(0, false), (0, false), (0xc, true), (0xd, true)]
    let r : Req := ⟨0x0, 1, 1, BURST_INCR, 0⟩
    UpRegion 1 r ∧ burstBytes 0 0 2 BURST_INCR = burstBytes 0 1 1 BURST_INCR ∧
    burstWrites 4 r [w0, w1] = [(0, 0xa), (1, 0xb), (2, 0xc), (3, 0xd)] ∧
    burstWrites 8 (upAx 1 r) (upWords 2 [w0, w1]) = [(0, 0xa), (1, 0xb)] := by decide

/-- Down-converter, outside along the length axis (witness FAMILY; known finding C10-downconv-len-overflow): whenever
    `(len+1)·ratio` exceeds 256 the forwarded burst has fewer beats than the `ratio` narrow beats per wide beat the
    data path emits. -/
theorem downconv_len_overflow_neg (sf st : Nat) (r : Req) (hover : 256 < (r.len + 1) * 2 ^ (sf - st)) :
    (downAx sf st r).len + 1 < (r.len + 1) * 2 ^ (sf - st) := by
  have : ((r.len + 1) * 2 ^ (sf - st) - 1) % 256 < 256 := Nat.mod_lt _ (by decide)
  simp only [downAx]
  omega


/-! ### Width converters: bytes written and read, end to end -/

/-- On a `2^size`-byte bus the ordered byte writes of a full-width INCR burst (any start
    address) are the bytes of all its data words, laid out consecutively from the start address, beginning with lane
    `addr mod bus` of the first word; strobed-off lanes are skipped.  (Cutting the byte stream into beats
    differently cannot change it - the reason both converters are byte-preserving.) -/
theorem incr_burst_byte_stream (r : Req) (words : List BWord) (hb : r.burst = BURST_INCR)
    (hlen : words.length = r.len + 1) (hw : ∀ w ∈ words, w.length = numBytes r.size) :
    burstWrites (numBytes r.size) r words = laneWrites r.addr (words.flatten.drop (r.addr % numBytes r.size)) :=
  incr_burstWrites (numBytes r.size) r words hb rfl hlen hw

/-- Every ratio `R > 0`: a burst of `n·R` narrow beats,
    written as `W.flatten` with `W` the beats grouped `R` at a time, leaves the `_UpConverter` as the `n` wide
    words `W.map flatten`: narrow beat `m·R + q` sits in byte lanes `q·nb … q·nb + nb − 1` of wide word `m`, data
    and strobes alike, nothing left over. -/
theorem upconv_lane_placement (R : Nat) (hR : 0 < R) (W : List (List BWord)) (hne : W ≠ [])
    (hg : ∀ g ∈ W, g.length = R) : upWords R W.flatten = W.map List.flatten :=
  upWords_groups R hR W hne hg

/-- The `_DownConverter` emits lane groups `0 … R−1` of every wide word in order. -/
theorem downconv_lane_placement (nb R : Nat) (W : List (List BWord)) (hg : ∀ g ∈ W, g.length = R)
    (hw : ∀ g ∈ W, ∀ w ∈ g, w.length = nb) : downWords nb R (W.map List.flatten) = W.flatten :=
  downWords_groups nb R W hg hw

/-- Full statement (false on the code, see the witnesses above): *every legal write
    burst through AXIUpConverter commits the same bytes in the same order.*  Proved inside `UpRegion` for every
    ratio `2^k`, every size, every data and strobe pattern: the forwarded address channel `upAx k r` together with
    the wide words the data path produces commits exactly the ordered byte writes of the original burst - hence any
    reference memory ends in the same state (refinement). -/
theorem upconv_write_e2e_partial (k : Nat) (r : Req) (W : List (List BWord)) (hreg : UpRegion k r)
    (hW : W.length * 2 ^ k = r.len + 1) (hg : ∀ g ∈ W, g.length = 2 ^ k)
    (hw : ∀ g ∈ W, ∀ w ∈ g, w.length = numBytes r.size) :
    burstWrites (numBytes (r.size + k)) (upAx k r) (upWords (2 ^ k) W.flatten)
      = burstWrites (numBytes r.size) r W.flatten ∧
    ∀ mem, memApply mem (burstWrites (numBytes (r.size + k)) (upAx k r) (upWords (2 ^ k) W.flatten))
      = memApply mem (burstWrites (numBytes r.size) r W.flatten) := by
  obtain ⟨hb, hs, hal, _⟩ := hreg
  have hne : W ≠ [] := by
    intro h; subst h; simp at hW
  have h := up_burstWrites k r W hb hs hal hW hg hw
  rw [upWords_groups (2 ^ k) (Nat.two_pow_pos k) W hne hg]
  exact ⟨h, fun mem => by rw [h]⟩

/-- non-vacuity: 16 → 32 bit, two strobed-partially beats at 0x10 become one wide word; bytes in order. -/
example :
    let W : List (List BWord) := [[[(1, true), (2, false)], [(3, true), (4, true)]]]
    let r : Req := ⟨0x10, 1, 1, BURST_INCR, 0⟩
    UpRegion 1 r ∧ upWords 2 W.flatten = [[(1, true), (2, false), (3, true), (4, true)]] ∧
    burstWrites 4 (upAx 1 r) (upWords 2 W.flatten) = [(0x10, 1), (0x12, 3), (0x13, 4)] := by decide

/-- Full-width INCR bursts with `(len+1)·ratio ≤ 256`, ANY start address inside the
    first wide word (the forwarded burst starts at the aligned address; the master's strobes below the start address
    are low, A3.4.3): the forwarded burst with the narrow beats the data path emits commits the same ordered byte
    writes; any reference memory ends in the same state. -/
theorem downconv_write_e2e_partial (sf st : Nat) (r : Req) (W : List (List BWord)) (hst : st ≤ sf)
    (hb : r.burst = BURST_INCR) (hs : r.size = sf) (hfit : (r.len + 1) * 2 ^ (sf - st) ≤ 256)
    (hW : W.length = r.len + 1) (hg : ∀ g ∈ W, g.length = 2 ^ (sf - st))
    (hw : ∀ g ∈ W, ∀ w ∈ g, w.length = numBytes st)
    (hstrb : ∀ x ∈ W.flatten.flatten.take (r.addr % numBytes sf), x.2 = false) :
    burstWrites (numBytes st) (downAx sf st r) (downWords (numBytes st) (2 ^ (sf - st)) (W.map List.flatten))
      = burstWrites (numBytes sf) r (W.map List.flatten) ∧
    ∀ mem, memApply mem (burstWrites (numBytes st) (downAx sf st r)
        (downWords (numBytes st) (2 ^ (sf - st)) (W.map List.flatten)))
      = memApply mem (burstWrites (numBytes sf) r (W.map List.flatten)) := by
  have h := down_burstWrites sf st r W hst hb hs hfit hW hg hw hstrb
  rw [downWords_groups (numBytes st) (2 ^ (sf - st)) W hg hw]
  exact ⟨h, fun mem => by rw [h]⟩

/-- non-vacuity, unaligned start: 32 → 16 bit, one 4-byte beat at 0x11 (lane 0 not strobed). -/
example :
    let W : List (List BWord) := [[[(9, false), (2, true)], [(3, true), (4, true)]]]
    let r : Req := ⟨0x11, 0, 2, BURST_INCR, 0⟩
    downAx 2 1 r = ⟨0x10, 1, 1, BURST_INCR, 0⟩ ∧
    burstWrites 2 (downAx 2 1 r) (downWords 2 2 (W.map List.flatten)) = [(0x11, 2), (0x12, 3), (0x13, 4)] ∧
    burstWrites 4 r (W.map List.flatten) = [(0x11, 2), (0x12, 3), (0x13, 4)] := by decide

/-- Why the strobe hypothesis: a master that (illegally) strobes a lane below the start address gets that byte
    written by the forwarded burst although its own burst does not cover it. -/
example :
    let W : List (List BWord) := [[[(9, true), (2, true)], [(3, true), (4, true)]]]
    let r : Req := ⟨0x11, 0, 2, BURST_INCR, 0⟩
    burstWrites 2 (downAx 2 1 r) (downWords 2 2 (W.map List.flatten)) = [(0x10, 9), (0x11, 2), (0x12, 3), (0x13, 4)] ∧
    burstWrites 4 r (W.map List.flatten) = [(0x11, 2), (0x12, 3), (0x13, 4)] := by decide

/-- Read data through AXIUpConverter inside `UpRegion`: the narrow R beats the master
    receives (the `_DownConverter`'s output for the wide R beats of the forwarded burst) deliver, byte address by
    byte address and in order, what the wide beats carry for the forwarded burst. -/
theorem upconv_read_e2e_partial (k : Nat) (r : Req) (W : List (List BWord)) (hreg : UpRegion k r)
    (hW : W.length * 2 ^ k = r.len + 1) (hg : ∀ g ∈ W, g.length = 2 ^ k)
    (hw : ∀ g ∈ W, ∀ w ∈ g, w.length = numBytes r.size) :
    burstReads (numBytes r.size) r (downWords (numBytes r.size) (2 ^ k) (W.map List.flatten))
      = burstReads (numBytes (r.size + k)) (upAx k r) (W.map List.flatten) := by
  obtain ⟨hb, hs, hal, _⟩ := hreg
  rw [downWords_groups (numBytes r.size) (2 ^ k) W hg hw]
  exact up_burstReads k r W hb hs hal hW hg hw


/-! ### The side band (id, resp, user, dest) of the down-converter's R channel and the up-converter's W channel -/

/-- Full statement (false on the code): *every wide R beat of AXIDownConverter
    carries resp/id/user/dest of the narrow beat that completed it.*  Proved for every run in which the master
    takes each wide beat in the first cycle it is offered (`NoStall`): in every cycle the ports of the code's model
    (side-band register loaded on EVERY clock edge) equal those of the ideal converter that latches the side-band
    together with the sub-word (`Stream.upConv` with the side-band as `param`). -/
theorem downR_sideband_unstalled_partial (ratio : Nat) (xs : List (SideIn (Nat × Unit))) (x : SideIn (Nat × Unit))
    (hns : NoStall ratio (sideRegInit ratio) (xs ++ [x])) :
    let o := sideRegOut ratio ((sideReg ratio).run xs) x
    let o' := (sideIdeal ratio).out ((sideIdeal ratio).runFrom (sideIdeal ratio).init (xs.map SideIn.ideal)) x.ideal
    o.1.ready = o'.ready ∧ o.1.valid = o'.valid ∧ o.1.tok.first = o'.tok.first ∧ o.1.tok.last = o'.tok.last ∧
    o.1.tok.data.lanes = o'.tok.data.lanes ∧ o.1.tok.data.count = o'.tok.data.count ∧
    (o.1.valid = true → o.2 = o'.tok.data.param) := by
  obtain ⟨h1, _⟩ := noStall_append ratio xs [x] (sideRegInit ratio) hns
  exact sideSim_out ratio _ _ x (sideSim_run ratio xs _ _ (sideSim_init ratio) h1)

/-- What that ideal delivers (every schedule): the greedy chunks of the accepted narrow beats, each
    word with the side-band of its LAST sub-word (`wordOf`: `param` of the closing beat). -/
theorem sideIdeal_words (ratio : Nat) (hr : 0 < ratio) (ins : List (In (Nat × SB))) :
    let e := sideIdeal ratio
    (chunks ratio (e.accepted e.init ins)).map (wordOf SB.zero) =
      (e.delivered e.init ins).map upView ++ (e.runFrom e.init ins).inflight :=
  (upConv_run ratio hr 0 SB.zero ins).1

/-- Response merging: the word takes the resp of the closing beat - NOT the worst one: SLVERR (2) on the first of two
    narrow beats is dropped, the wide beat reports OKAY.  (Behaviour of the code even without any stall; C10 says
    nothing about resp.) -/
example :
    wordOf SB.zero [⟨(0xaa, (⟨2, 1, 0, 0⟩ : SB)), false, false⟩, ⟨(0xbb, ⟨0, 1, 0, 0⟩), false, true⟩]
      = ⟨([0xaa, 0xbb], ⟨0, 1, 0, 0⟩), false, true⟩ := by decide

/-- non-vacuity of `downR_sideband_unstalled_partial`: ratio 2, two bursts with ids 1 and 2, never stalled. -/
example :
    let b (v : Bool) (d id : Nat) (l r : Bool) : SideIn (Nat × Unit) := ⟨⟨v, ⟨(d, ()), false, l⟩, r⟩, ⟨0, id, 0, 0⟩⟩
    let xs := [b true 1 1 false true, b true 2 1 true true, b true 3 2 false true, b true 4 2 true true,
               b false 0 3 false true]
    NoStall 2 (sideRegInit 2) xs ∧
    ((sideReg 2).trace xs).map (fun o => (o.1.valid, o.2.id)) = [(false, 0), (false, 1), (true, 1), (false, 2), (true, 2)] := by
  decide

/-- Negative witness (stall): ratio 2, the wide beat completed by a beat with id 1 is offered in cycle 2 and stalled;
    the narrow side already presents the next burst (id 2, not accepted: `sink.ready = 0`); in cycle 3 the SAME
    wide beat (same lanes, still valid) is offered - and taken - with id 2.  resp/user/dest behave alike. -/
example :
    let b (v : Bool) (d id : Nat) (l r : Bool) : SideIn (Nat × Unit) := ⟨⟨v, ⟨(d, ()), false, l⟩, r⟩, ⟨0, id, 0, 0⟩⟩
    let xs := [b true 1 1 false true, b true 2 1 true true, b true 3 2 false false, b true 3 2 false true]
    ¬ NoStall 2 (sideRegInit 2) xs ∧
    ((sideReg 2).trace xs).map (fun o => (o.1.ready, o.1.valid, o.1.tok.data.lanes, o.2.id))
      = [(true, false, [0, 0], 0), (true, false, [1, 0], 1), (false, true, [1, 2], 1), (true, true, [1, 2], 2)] := by
  decide

/-- W path of AXIDownConverter, R path of AXIUpConverter: data and side-band are both
    combinational - every narrow beat offered carries the side-band of the wide beat on the sink, in every state
    and cycle. -/
theorem sideband_comb_down (ratio : Nat) (mux : Nat) (x : SideIn (List Nat × Unit)) :
    (sideCombDownOut ratio mux x).2 = x.sb ∧ (sideCombDownOut ratio mux x).1 = (laneDown ratio).out mux x.i :=
  ⟨rfl, rfl⟩

/-- W path of AXIUpConverter: id/dest/user are wires while the data goes through the 1-cycle `_UpConverter`: the wide
    W beat is offered with whatever the narrow side drives in THAT cycle, not with the side-band of its own beats
    (here: beats sent with user 1, wide beat offered with user 0).  AXI4 has no WID; WUSER is optional: C10 says
    nothing about them. -/
example :
    let b (v : Bool) (d user : Nat) (l : Bool) : SideIn (Nat × Unit) := ⟨⟨v, ⟨(d, ()), false, l⟩, true⟩, ⟨0, 0, user, 0⟩⟩
    let xs := [b true 1 1 false, b true 2 1 true, b false 0 0 false]
    ((sideCombUp 2).trace xs).map (fun o => (o.1.valid, o.1.tok.data.lanes, o.2.user))
      = [(false, [0, 0], 1), (false, [1, 0], 1), (true, [1, 2], 0)] := by
  decide

end Litex.C10
