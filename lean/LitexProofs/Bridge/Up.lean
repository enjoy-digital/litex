import LitexModel.Bridge.Closed
import LitexProofs.Bridge.Ghost
/-
  Proofs for the AXI-Lite up-converter: the lane latch holds the lane of the open transaction (serial masters).
-/
namespace Litex.Bridge.Up
open Litex Litex.Bridge

variable (c : UpCfg)

def OInv (s : OSys) : Prop :=
  (∀ a, s.g.pendAW = some a → s.g.pendW = none → s.br.wrWordR = c.laneOf a) ∧
  (∀ a, s.g.pendAR = some a → s.br.rdWordR = c.laneOf a)

/-- Write data sits in the lane group of its own address; read data is taken from the lane group of the pending
    read's address. -/
def OGood (s : OSys) (i : AxlM × AxlS) : Prop :=
  (i.1.wvalid = true → ∀ a, curWrite s.g i.1 = some a →
     (toSlave c s.br i.1).wstrb = i.1.wstrb * 2 ^ (c.laneOf a * c.nbFrom) ∧
     (toSlave c s.br i.1).wdata = i.1.wdata * 256 ^ (c.laneOf a * c.nbFrom)) ∧
  (∀ a, s.g.pendAR = some a →
     (toMaster c s.br i.1 i.2).rdata = i.2.rdata / 256 ^ (c.laneOf a * c.nbFrom) % 256 ^ c.nbFrom)

theorem ostep (s : OSys) (i : AxlM × AxlS) (hinv : OInv c s) (hok : serial s.g i.1) :
    OGood c s i ∧ OInv c ((osys c).next s i) := by
  obtain ⟨hw, hr⟩ := hinv
  obtain ⟨h1, h2, h3⟩ := hok
  simp only [OInv, OGood, osys, curWrite, toSlave, toMaster, next, wrWord, rdWord, AxlGhost.next_pendAW,
    AxlGhost.next_pendW, AxlGhost.next_pendAR]
  -- with `aw.valid` / `ar.valid` the lane comes from the address lines and nothing is pending (serial master);
  -- without, the pending address is the one the latch was loaded from
  refine ⟨⟨fun hwv a ha => ?_, fun a ha => ?_⟩, fun a ha hn => ?_, fun a ha => ?_⟩
  · cases hv : i.1.awvalid
    · rw [hv] at ha
      simp [hw a ha (h3 hwv).1]
    · simp_all
  · cases hv : i.1.arvalid
    · simp [hr a ha]
    · simp [h2 hv] at ha
  · cases hv : i.1.awvalid
    · cases hb : i.2.bvalid && i.1.bready <;> cases hx : i.1.wvalid && i.2.wready <;> simp_all
    · cases hy : i.2.awready <;> simp_all
  · cases hv : i.1.arvalid
    · cases hb : i.2.rvalid && i.1.rready <;> simp_all
    · cases hy : i.2.arready <;> simp_all

end Litex.Bridge.Up
