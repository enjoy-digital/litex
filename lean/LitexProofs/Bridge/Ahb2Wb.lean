import LitexModel.Bridge.Closed
/-
  Proofs for AHB2Wishbone: byte-lane decoding table and the invariant of the closed system.
-/
namespace Litex.Bridge.Ahb2Wb
open Litex Litex.Bridge

/-- The lanes an AHB transfer of `2^size` bytes at address `a` occupies on a bus of `2^lg` byte lanes:
    `2^size` consecutive lanes starting at `a mod 2^lg` rounded down to a multiple of `2^size`. -/
def laneMask (lg size a : Nat) : Nat := (2 ^ 2 ^ size - 1) * 2 ^ (a % 2 ^ lg / 2 ^ size * 2 ^ size)

theorem sel64_table : ∀ size, size < 4 → ∀ a, a < 8 → ahbSel64 size a = laneMask 3 size a := by decide
theorem sel32_table : ∀ size, size < 3 → ∀ a, a < 4 → ahbSel32 size a = laneMask 2 size a := by decide

variable (c : AhbCfg)

def Inv (s : Sys) : Prop :=
  match s.br.st with
  | .data =>
    s.mem = s.g.ref ∧ ∃ t, s.g.cur = some t ∧ s.br.adr = t.addr / 2 ^ c.shift ∧ s.br.we = t.write ∧
      s.br.sel = ahbSel c t.size t.addr
  | .addr =>
    (s.g.cur = none ∧ s.mem = s.g.ref) ∨
    (∃ t d, s.g.cur = some t ∧ s.g.wdata = some d ∧ t.write = true ∧
       s.mem = s.g.ref.writeWord (nb c) (t.addr / 2 ^ c.shift) (ahbSel c t.size t.addr) d) ∨
    (∃ t, s.g.cur = some t ∧ t.write = false ∧ s.mem = s.g.ref ∧
       s.br.rdata = s.g.ref.readWord (nb c) (t.addr / 2 ^ c.shift))

def Good (s : Sys) (i : AhbM × WbOracle) : Prop :=
  memOk c s.g (sysOut c s i).1 ∧ (s.g.cur = none → s.mem = s.g.ref)

theorem step (s : Sys) (i : AhbM × WbOracle) (hinv : Inv c s) (hok : masterOk s.g i.1) :
    Good c s i ∧ Inv c ((sys c s.g.ref).next s i) := by
  simp only [Good, sys, sysOut, memOk, masterOk] at hok ⊢
  rcases hst : s.br.st <;> simp only [Inv, hst] at hinv <;>
    simp only [Inv, toSlave, toMaster, next, hst, wbMemRsp, wbMemNext, ghostNext, WbM.active]
  · -- ADDRESS phase: no transfer open, or a write just completed (its data is in the memory, the reference takes it
    -- now), or a read just completed (its data is in `rdata`)
    rcases hinv with ⟨hcur, hmem⟩ | ⟨t, d, hcur, hwd, htw, hmem⟩ | ⟨t, hcur, htw, hmem, hrd⟩ <;>
      cases ha : accepts c i.1 <;> simp_all
  · -- DATA phase: the bridge drives the Wishbone cycle of the open transfer until its `ack`
    obtain ⟨hmem, t, hcur, hadr, hwe, hsel⟩ := hinv
    cases hk : i.2.ack <;> cases htw : t.write <;> cases hgw : s.g.wdata <;> simp_all

end Litex.Bridge.Ahb2Wb
