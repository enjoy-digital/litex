import LitexModel.Bridge.Closed
import LitexProofs.Axi.Burst2Beat
/-
  Proofs for AXI2AXILite: bursts are answered beat for beat when the AXI-Lite partner answers reads one at a time
  and takes W beats after their AW.  One step lemma per FSM state over the bridge and the beat counters; the
  systems with read counters only (`rsys`) and with all four counters (`bsys`) both assemble theirs from these.
  READ and WRITE hand the requests of the burst over in the same way; that half is `CmdInv` / `cmd_step`, and the two
  step lemmas add only what the R beats and the W beats do.
-/
namespace Litex.Bridge.Axi2Axl
open Litex Litex.Bridge Litex.Axi

variable (aw : Nat)

def IdleInv (s : X2LState) : Prop := s.bufValid = false ∧ s.b2b.count = 0

/-- READ / WRITE: `n` requests (ARs, AWs) of the buffered burst have been handed over: `count` of them through
    Burst2Beat, the last one recorded by `cmdDone` instead. -/
def CmdInv (s : X2LState) (n : Nat) : Prop :=
  s.bufReq.len < 256 ∧ s.bufValid = true ∧ s.b2b.count ≤ s.bufReq.len ∧
  n = s.b2b.count + (if s.cmdDone then 1 else 0) ∧ (s.cmdDone = true → s.b2b.count = s.bufReq.len)

/-- READ: at most one AR is ahead of the R beats. -/
def RdInv (s : X2LState) (arCnt rCnt : Nat) : Prop := CmdInv s arCnt ∧ rCnt ≤ arCnt ∧ arCnt ≤ rCnt + 1

/-- WRITE: no W beat is ahead of its AW. -/
def WrInv (s : X2LState) (awCnt wCnt : Nat) : Prop := CmdInv s awCnt ∧ wCnt ≤ awCnt ∧ wCnt ≤ s.bufReq.len

def WrespInv (s : X2LState) (awCnt wCnt : Nat) : Prop :=
  s.bufReq.len < 256 ∧ s.bufValid = true ∧ s.b2b.count = s.bufReq.len ∧
  awCnt = s.bufReq.len + 1 ∧ wCnt = s.bufReq.len + 1

theorem idle_step (s : X2LState) (m : AxiM) (r : AxlS) (hst : s.st = .idle) (h : IdleInv s)
    (p5 : m.ar.len < 256) (p6 : m.aw.len < 256) :
    (next aw s m r).st = .idle ∧ IdleInv (next aw s m r) ∨
    (next aw s m r).st = .read ∧ RdInv (next aw s m r) 0 0 ∨
    (next aw s m r).st = .write ∧ m.awvalid = true ∧ WrInv (next aw s m r) 0 0 := by
  obtain ⟨hb, hc⟩ := h
  simp only [IdleInv, RdInv, WrInv, CmdInv, next, hst, chooseR, chooseW, bufSinkReady, beatReady, b2bIn, hb]
  cases hr : m.arvalid <;> cases hw : m.awvalid <;> cases hl : s.last <;> simp [p5, p6, b2bNext_count, b2bFirst, hc]

/-- Beat count after a cycle in which Burst2Beat is given `ready = rdy` (request buffer full).  `% 256`: its beat counter
    has 8 bits (`b2bNext_count`); `CmdInv`'s `len < 256` is there to make it vanish. -/
def cntNext (s : X2LState) (rdy : Bool) : Nat :=
  if rdy then (if s.b2b.count == s.bufReq.len then 0 else (s.b2b.count + 1) % 256) else s.b2b.count

/-- `ax_beat.ready` as far as the request channel decides it. -/
def issueRdy (s : X2LState) (xr : Bool) : Bool := if (s.b2b.count == s.bufReq.len && xr) then false else xr && !s.cmdDone

/-- One cycle of the request half, `xr` the partner's ready: the beat count stays within the burst; every accepted request is
    counted once, by the beat count or, the last one, by `cmdDone`; `cmdDone` means all `len` earlier beats are out; a request
    handshake never pops the last beat of Burst2Beat (that is left to the response side). -/
theorem cmd_step (s : X2LState) (n : Nat) (xr : Bool) (h : CmdInv s n) :
    cntNext s (issueRdy s xr) ≤ s.bufReq.len ∧
    n + (if !s.cmdDone && xr then 1 else 0) =
      cntNext s (issueRdy s xr) + (if s.cmdDone || (s.b2b.count == s.bufReq.len && xr) then 1 else 0) ∧
    ((s.cmdDone || (s.b2b.count == s.bufReq.len && xr)) = true → cntNext s (issueRdy s xr) = s.bufReq.len) ∧
    (issueRdy s xr && s.b2b.count == s.bufReq.len) = false := by
  obtain ⟨hlen, -, hk, hn, hcd⟩ := h
  simp only [cntNext, issueRdy]
  by_cases hl : s.b2b.count = s.bufReq.len
  · rcases Bool.eq_false_or_eq_true s.cmdDone with hd | hd <;> cases xr <;> simp [hl, hd] at hn ⊢ <;> omega
  · have hmod : (s.b2b.count + 1) % 256 = s.b2b.count + 1 := Nat.mod_eq_of_lt (by omega)
    have hd : s.cmdDone = false := by
      rcases Bool.eq_false_or_eq_true s.cmdDone with hd | hd
      · exact absurd (hcd hd) hl
      · exact hd
    cases xr <;> simp [hl, hd, hmod] at hn ⊢ <;> omega

/-- `ax_beat.ready` in READ: the last R beat being taken pops Burst2Beat, otherwise the request channel decides. -/
def readRdy (s : X2LState) (m : AxiM) (r : AxlS) : Bool :=
  if r.rvalid && s.cmdDone && m.rready then true else issueRdy s r.arready

theorem next_read (s : X2LState) (m : AxiM) (r : AxlS) (hst : s.st = .read) (hb : s.bufValid = true) :
    (next aw s m r).st = (if r.rvalid && s.cmdDone && m.rready then .idle else .read) ∧
    (next aw s m r).cmdDone = (s.cmdDone || (s.b2b.count == s.bufReq.len && r.arready)) ∧
    (next aw s m r).b2b.count = cntNext s (readRdy s m r) ∧
    (next aw s m r).bufValid = !(readRdy s m r && s.b2b.count == s.bufReq.len) ∧
    (next aw s m r).bufReq = if readRdy s m r && s.b2b.count == s.bufReq.len then zeroReq else s.bufReq := by
  have hne : (X2LSt.read == X2LSt.idle) = false := rfl
  simp only [next, hst, chooseR, chooseW, bufSinkReady, beatReady, beatValid, beat, b2bIn, b2bOut, b2bNext_count, b2bFirst,
    b2bLast, hb, cntNext, issueRdy, readRdy, hne]
  by_cases hl : s.b2b.count = s.bufReq.len <;> simp [hl]

theorem next_write (s : X2LState) (m : AxiM) (r : AxlS) (hst : s.st = .write) (hb : s.bufValid = true) :
    (next aw s m r).st = (if m.wvalid && m.wlast && r.wready then .writeResp else .write) ∧
    (next aw s m r).cmdDone = (s.cmdDone || (s.b2b.count == s.bufReq.len && r.awready)) ∧
    (next aw s m r).b2b.count = cntNext s (issueRdy s r.awready) ∧
    (next aw s m r).bufValid = true ∧ (next aw s m r).bufReq = s.bufReq := by
  have hne : (X2LSt.write == X2LSt.idle) = false := rfl
  simp only [next, hst, chooseR, chooseW, bufSinkReady, beatReady, beatValid, beat, b2bIn, b2bOut, b2bNext_count, b2bFirst,
    b2bLast, hb, cntNext, issueRdy, hne]
  by_cases hl : s.b2b.count = s.bufReq.len <;> rcases Bool.eq_false_or_eq_true r.awready with hy | hy <;> simp [hl, hy]

theorem read_step (s : X2LState) (m : AxiM) (r : AxlS) (arCnt rCnt : Nat) (hst : s.st = .read)
    (h : RdInv s arCnt rCnt) (p1 : r.rvalid = true → rCnt < arCnt) (p2 : r.arready = true → arCnt = rCnt) :
    ((toMaster aw s m r).rvalid = true →
      ((toMaster aw s m r).rlast = true ↔ rCnt = s.bufReq.len) ∧ rCnt ≤ s.bufReq.len ∧
      (toMaster aw s m r).rid = s.bufReq.id) ∧
    ((next aw s m r).st = .idle ∧ IdleInv (next aw s m r) ∨
     (next aw s m r).st = .read ∧
       RdInv (next aw s m r) (arCnt + (if (toSlave aw s m).arvalid && r.arready then 1 else 0))
         (rCnt + (if (toMaster aw s m r).rvalid && m.rready then 1 else 0))) := by
  obtain ⟨hc, hra, har⟩ := h
  obtain ⟨hk, hn, hd, hnl⟩ := cmd_step s arCnt r.arready hc
  obtain ⟨hlen, hb, hcl, hac, hcd⟩ := hc
  obtain ⟨e1, e2, e3, e4, e5⟩ := next_read aw s m r hst hb
  simp only [IdleInv, RdInv, CmdInv, e1, e2, e3, e4, e5, readRdy]
  simp only [toMaster, toSlave, hst, beatValid, beat, b2bOut, hb, AxiS.idle, AxlM.idle, respOkay, Bool.true_or, Bool.true_and]
  -- a beat is presented only behind its AR: before the last AR the beat count is below `len`, after it exactly `len`
  have hg : r.rvalid = true → (s.cmdDone = true ↔ rCnt = s.bufReq.len) ∧ rCnt ≤ s.bufReq.len := fun hv => by
    have := p1 hv
    rcases Bool.eq_false_or_eq_true s.cmdDone with hx | hx
    · have := hcd hx
      simp [hx] at hac ⊢
      omega
    · simp [hx] at hac ⊢
      omega
  refine ⟨fun hv => ⟨(hg hv).1, (hg hv).2, trivial⟩, ?_⟩
  rcases Bool.eq_false_or_eq_true (r.rvalid && s.cmdDone && m.rready) with hp | hp
  · -- the last beat is taken: Burst2Beat is popped and the buffer emptied
    simp only [hp, if_true]
    have hx : s.cmdDone = true := by simp at hp; exact hp.1.2
    exact Or.inl ⟨trivial, by simp [hcd hx], by simp [cntNext, hcd hx]⟩
  · simp only [hp, Bool.false_eq_true, if_false, hnl]
    refine Or.inr ⟨trivial, ⟨hlen, rfl, hk, hn, hd⟩, ?_⟩
    have a1 : (r.rvalid && m.rready) = true → rCnt < arCnt := fun h => p1 (by simp at h; exact h.1)
    have a2 : (!s.cmdDone && r.arready) = true → arCnt = rCnt := fun h => p2 (by simp at h; exact h.2)
    rcases Bool.eq_false_or_eq_true (r.rvalid && m.rready) with h1 | h1 <;>
      rcases Bool.eq_false_or_eq_true (!s.cmdDone && r.arready) with h2 | h2 <;>
      simp only [h1, h2, Bool.false_eq_true, if_true, if_false, true_imp_iff, false_imp_iff] at a1 a2 ⊢ <;> omega

theorem write_step (s : X2LState) (m : AxiM) (r : AxlS) (awCnt wCnt : Nat) (hst : s.st = .write)
    (h : WrInv s awCnt wCnt) (p3 : r.wready = true → wCnt < awCnt)
    (p4 : m.wvalid = true → (m.wlast = true ↔ wCnt = s.bufReq.len)) :
    (wCnt ≤ awCnt ∧ awCnt ≤ s.bufReq.len + 1 ∧ (toMaster aw s m r).bvalid = false) ∧
    ((next aw s m r).st = .write ∧
       WrInv (next aw s m r) (awCnt + (if (toSlave aw s m).awvalid && r.awready then 1 else 0))
         (wCnt + (if (toSlave aw s m).wvalid && r.wready then 1 else 0)) ∨
     (next aw s m r).st = .writeResp ∧
       WrespInv (next aw s m r) (awCnt + (if (toSlave aw s m).awvalid && r.awready then 1 else 0))
         (wCnt + (if (toSlave aw s m).wvalid && r.wready then 1 else 0))) := by
  obtain ⟨hc, hwa, hwl⟩ := h
  obtain ⟨hk, hn, hd, -⟩ := cmd_step s awCnt r.awready hc
  obtain ⟨hlen, hb, hcl, hac, hcd⟩ := hc
  obtain ⟨e1, e2, e3, e4, e5⟩ := next_write aw s m r hst hb
  simp only [WrInv, WrespInv, CmdInv, e1, e2, e3, e4, e5]
  simp only [toMaster, toSlave, hst, beatValid, hb, AxiS.idle, AxlM.idle, Bool.true_or, Bool.true_and]
  generalize cntNext s (issueRdy s r.awready) = k' at *
  have hle : awCnt ≤ s.bufReq.len + 1 := by rw [hac]; split <;> omega
  refine ⟨⟨hwa, hle, trivial⟩, ?_⟩
  rcases Bool.eq_false_or_eq_true (m.wvalid && m.wlast && r.wready) with ht | ht
  · -- the last W beat is taken: by `p3` its AW has gone before, so all `len + 1` AWs are out
    simp only [Bool.and_eq_true] at ht
    obtain ⟨⟨hv, hx⟩, hy⟩ := ht
    have h3 := p3 hy
    have h4 := (p4 hv).mp hx
    have hx' : s.cmdDone = true := by
      rcases Bool.eq_false_or_eq_true s.cmdDone with h | h
      · exact h
      · simp [h] at hac; omega
    simp only [hv, hx, hy, hx', Bool.and_self, if_true, Bool.true_or, Bool.not_true, Bool.false_and, Bool.false_eq_true,
      if_false] at hn hd ⊢
    exact Or.inr ⟨trivial, hlen, trivial, hd trivial, by omega, by omega⟩
  · simp only [ht, Bool.false_eq_true, if_false]
    refine Or.inl ⟨trivial, ⟨hlen, trivial, hk, hn, hd⟩, ?_⟩
    -- a W beat that is taken and not marked last is not beat `len` (`p4`) and has its AW behind it (`p3`)
    rcases Bool.eq_false_or_eq_true (m.wvalid && r.wready) with hw | hw
    · simp only [Bool.and_eq_true] at hw
      have h3 := p3 hw.2
      have h4 := p4 hw.1
      have hx : m.wlast = false := by
        rcases Bool.eq_false_or_eq_true m.wlast with h | h
        · simp [hw.1, hw.2, h] at ht
        · exact h
      simp only [hx, Bool.false_eq_true, false_iff] at h4
      simp only [hw.1, hw.2, Bool.and_self, if_true]
      constructor <;> omega
    · simp only [hw, Bool.false_eq_true, if_false]
      constructor <;> omega

theorem wresp_step (s : X2LState) (m : AxiM) (r : AxlS) (awCnt wCnt : Nat) (hst : s.st = .writeResp)
    (h : WrespInv s awCnt wCnt) :
    (awCnt = s.bufReq.len + 1 ∧ wCnt = s.bufReq.len + 1 ∧ (toMaster aw s m r).bid = s.bufReq.id) ∧
    ((next aw s m r).st = .idle ∧ IdleInv (next aw s m r) ∨
     (next aw s m r).st = .writeResp ∧
       WrespInv (next aw s m r) (awCnt + (if (toSlave aw s m).awvalid && r.awready then 1 else 0))
         (wCnt + (if (toSlave aw s m).wvalid && r.wready then 1 else 0))) := by
  obtain ⟨hlen, hb, hc, haw, hw⟩ := h
  simp only [IdleInv, WrespInv, next, toMaster, toSlave, hst, chooseR, chooseW, bufSinkReady, beatReady, beat, b2bIn,
    b2bOut, b2bNext_count, b2bFirst, b2bLast, hb, hc, AxiS.idle, AxlM.idle]
  cases hr : m.bready <;> simp [haw, hw, hlen]

def RInv (s : RSys) : Prop :=
  s.br.st = .idle ∧ IdleInv s.br ∨ s.br.st = .read ∧ RdInv s.br s.arCnt s.rCnt

/-- In READ, a beat presented to the AXI master is marked `last` exactly when it is beat number `len + 1`, and
    it carries the id of the burst. -/
def RGood (s : RSys) (i : AxiM × AxlS) : Prop :=
  s.br.st = .read → (toMaster aw s.br i.1 i.2).rvalid = true →
    ((toMaster aw s.br i.1 i.2).rlast = true ↔ s.rCnt = s.br.bufReq.len) ∧
    s.rCnt ≤ s.br.bufReq.len ∧ (toMaster aw s.br i.1 i.2).rid = s.br.bufReq.id

theorem rstep (s : RSys) (i : AxiM × AxlS) (hinv : RInv s) (hok : singleOutstanding s i)
    (hnw : i.1.awvalid = false) : RGood aw s i ∧ RInv ((rsys aw).next s i) := by
  obtain ⟨p1, p2, p3, p4⟩ := hok
  rcases hinv with ⟨hst, h⟩ | ⟨hst, h⟩
  · refine ⟨fun hr => by simp [hst] at hr, ?_⟩
    simp only [RInv, rsys, hst, beq_self_eq_true, if_true]
    rcases idle_step aw s.br i.1 i.2 hst h p3 p4 with h | h | ⟨_, hw, _⟩
    · exact Or.inl h
    · exact Or.inr h
    · rw [hnw] at hw; cases hw
  · obtain ⟨hg, hn⟩ := read_step aw s.br i.1 i.2 s.arCnt s.rCnt hst h p1 p2
    refine ⟨fun _ => hg, ?_⟩
    simpa only [RInv, rsys, hst, reduceCtorEq, beq_iff_eq, if_false] using hn

def BInv (s : BSys) : Prop :=
  s.br.st = .idle ∧ IdleInv s.br ∨ s.br.st = .read ∧ RdInv s.br s.arCnt s.rCnt ∨
  s.br.st = .write ∧ WrInv s.br s.awCnt s.wCnt ∨ s.br.st = .writeResp ∧ WrespInv s.br s.awCnt s.wCnt

/-- Read beats: `last` exactly on beat `len + 1`, id of the burst.  Write bursts: in WRITE never more W beats than
    AWs and never more AWs than `len + 1`; B (WRITE-RESP) only after exactly `len + 1` AWs and `len + 1` W beats,
    with the id of the burst. -/
def BGood (s : BSys) (i : AxiM × AxlS) : Prop :=
  (s.br.st = .read → (toMaster aw s.br i.1 i.2).rvalid = true →
    ((toMaster aw s.br i.1 i.2).rlast = true ↔ s.rCnt = s.br.bufReq.len) ∧
    s.rCnt ≤ s.br.bufReq.len ∧ (toMaster aw s.br i.1 i.2).rid = s.br.bufReq.id) ∧
  (s.br.st = .write → s.wCnt ≤ s.awCnt ∧ s.awCnt ≤ s.br.bufReq.len + 1 ∧ (toMaster aw s.br i.1 i.2).bvalid = false) ∧
  ((toMaster aw s.br i.1 i.2).bvalid = true →
    s.awCnt = s.br.bufReq.len + 1 ∧ s.wCnt = s.br.bufReq.len + 1 ∧ (toMaster aw s.br i.1 i.2).bid = s.br.bufReq.id)

theorem bstep (s : BSys) (i : AxiM × AxlS) (hinv : BInv s) (hok : wellBehaved s i) :
    BGood aw s i ∧ BInv ((bsys aw).next s i) := by
  obtain ⟨p1, p2, p3, p4, p5, p6⟩ := hok
  rcases hinv with ⟨hst, h⟩ | ⟨hst, h⟩ | ⟨hst, h⟩ | ⟨hst, h⟩
  · refine ⟨by simp [BGood, hst, toMaster, AxiS.idle], ?_⟩
    simp only [BInv, bsys, hst, beq_self_eq_true, if_true]
    rcases idle_step aw s.br i.1 i.2 hst h p5 p6 with h | h | ⟨h, _, h'⟩
    · exact Or.inl h
    · exact Or.inr (Or.inl h)
    · exact Or.inr (Or.inr (Or.inl ⟨h, h'⟩))
  · obtain ⟨hg, hn⟩ := read_step aw s.br i.1 i.2 s.arCnt s.rCnt hst h p1 p2
    refine ⟨⟨fun _ => hg, by simp [hst], by simp [hst, toMaster, AxiS.idle]⟩, ?_⟩
    simp only [BInv, bsys, hst, reduceCtorEq, beq_iff_eq, if_false]
    rcases hn with hn | hn
    · exact Or.inl hn
    · exact Or.inr (Or.inl hn)
  · obtain ⟨hg, hn⟩ := write_step aw s.br i.1 i.2 s.awCnt s.wCnt hst h p3 (p4 hst)
    refine ⟨⟨by simp [hst], fun _ => hg, by simp [hg.2.2]⟩, ?_⟩
    simp only [BInv, bsys, hst, reduceCtorEq, beq_iff_eq, if_false]
    exact Or.inr (Or.inr hn)
  · obtain ⟨hg, hn⟩ := wresp_step aw s.br i.1 i.2 s.awCnt s.wCnt hst h
    refine ⟨⟨by simp [hst], by simp [hst], fun _ => hg⟩, ?_⟩
    simp only [BInv, bsys, hst, reduceCtorEq, beq_iff_eq, if_false]
    rcases hn with hn | hn
    · exact Or.inl hn
    · exact Or.inr (Or.inr (Or.inr hn))

end Litex.Bridge.Axi2Axl
