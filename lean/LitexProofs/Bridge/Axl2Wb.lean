import LitexModel.Bridge.Closed
import LitexProofs.Bridge.Ghost
/-
  Proofs for AXILite2Wishbone: invariant of the closed system (bridge ∥ Wishbone byte memory ∥ port observer), stability
  of everything the bridge drives for an arbitrary Wishbone partner (over FSM state and the two observers, so that the
  chain behind the down-converter can use it), and the read/write alternation.
-/
namespace Litex.Bridge.Axl2Wb
open Litex Litex.Bridge

variable (c : A2WCfg)

def Inv (s : Sys) : Prop :=
  match s.br.st with
  | .idle    => s.g.pendAW = none ∧ s.g.pendW = none ∧ s.g.pendAR = none ∧ s.g.heldB = none ∧ s.g.heldR = none ∧
                s.mem = s.g.ref
  | .doRead  => s.g.pendAW = none ∧ s.g.pendW = none ∧ s.g.pendAR = none ∧ s.g.heldB = none ∧ s.g.heldR = none ∧
                s.mem = s.g.ref ∧ s.g.heldAR.isSome
  | .doWrite => s.g.pendAW = none ∧ s.g.pendW = none ∧ s.g.pendAR = none ∧ s.g.heldB = none ∧ s.g.heldR = none ∧
                s.mem = s.g.ref ∧ s.g.heldAW.isSome
  | .sendR   => s.g.pendAW = none ∧ s.g.pendW = none ∧ s.g.heldB = none ∧ s.mem = s.g.ref ∧
                (s.g.heldR = none ∨ s.g.heldR = some (respOkay, s.br.data)) ∧
                ∃ a, s.g.pendAR = some a ∧ s.br.data = s.g.ref.readWord c.nb (wbAdr c a)
  | .sendB   => s.g.pendAR = none ∧ s.g.heldR = none ∧ (s.g.heldB = none ∨ s.g.heldB = some respOkay) ∧
                ∃ a w, s.g.pendAW = some a ∧ s.g.pendW = some w ∧
                  s.mem = s.g.ref.writeWord c.nb (wbAdr c a) w.2 w.1

def Good (s : Sys) (i : AxlM × WbOracle) : Prop :=
  s.g.rspHeld (sysOut c s i).1 ∧ s.g.memOk (byteRd c.nb (wbAdr c)) i.1 (sysOut c s i).1 ∧
  (s.br.st ≠ .sendB → s.mem = s.g.ref)

/- `sys c m0` depends on `m0` only in `init`, so `(sys c _).next` is the same for every `m0`; the step lemmas of the closed
   systems (here and for the other bridges) pass `s.g.ref`. -/
theorem step (s : Sys) (i : AxlM × WbOracle) (hinv : Inv c s) (hok : s.g.reqHeld i.1) :
    Good c s i ∧ Inv c ((sys c s.g.ref).next s i) := by
  obtain ⟨hAW, hW, hAR⟩ := hok
  simp only [Inv, Good, sys, sysOut, AxlGhost.rspHeld, AxlGhost.memOk, AxlGhost.next_heldB, AxlGhost.next_heldR,
    AxlGhost.next_heldAW, AxlGhost.next_heldAR,
    AxlGhost.next_pendAW, AxlGhost.next_pendW, AxlGhost.next_pendAR, AxlGhost.next_ref, byteRd, byteWr]
  rcases hst : s.br.st <;> simp only [Inv, hst] at hinv <;>
    simp only [toSlave, toMaster, next, hst, wbMemRsp, wbMemNext, AxlS.idle, WbM.idle, WbM.active]
  · -- IDLE: nothing pending; nothing is accepted here, the arbitration only picks the next state
    obtain ⟨h1, h2, h3, h4, h5, h6⟩ := hinv
    cases hv : i.1.awvalid <;> cases hr : i.1.arvalid <;> cases hl : s.br.last <;>
      simp [h1, h2, h3, h4, h5, h6, hst]
  · -- DO-READ: the master holds its AR (`h7`), so `ar.ready = ack` accepts it with the word the memory returns now
    obtain ⟨h1, h2, h3, h4, h5, h6, h7⟩ := hinv
    obtain ⟨a, ha⟩ := Option.isSome_iff_exists.mp h7
    obtain ⟨hv, rfl⟩ := hAR a ha
    cases hk : i.2.ack <;> simp [h1, h2, h3, h4, h5, h6, hv, hst]
  · -- SEND-READ-RESPONSE: R carries `data`, the reference content of the pending read; memory and reference agree
    obtain ⟨h1, h2, h3, h4, h5, a, h6, h7⟩ := hinv
    rcases h5 with h5 | h5 <;> cases hr : i.1.rready <;> simp [h1, h2, h3, h4, h5, h6, h7, hst, respOkay]
  · -- DO-WRITE: the master holds its AW; the memory acknowledges only a strobe, i.e. with `w.valid`, so AW and W are
    -- accepted together and the memory is one write ahead of the reference
    obtain ⟨h1, h2, h3, h4, h5, h6, h7⟩ := hinv
    obtain ⟨a, ha⟩ := Option.isSome_iff_exists.mp h7
    obtain ⟨hv, rfl⟩ := hAW a ha
    cases hk : i.2.ack <;> cases hw : i.1.wvalid <;> simp [h1, h2, h3, h4, h5, h6, hv, hst]
  · -- SEND-WRITE-RESPONSE: the reference takes the pending write when B is taken and catches up with the memory
    obtain ⟨h1, h2, h3, a, w, h4, h5, h6⟩ := hinv
    rcases h3 with h3 | h3 <;> cases hb : i.1.bready <;> simp [h1, h2, h3, h4, h5, h6, hst, respOkay]

def OInv (br : A2WState) (g : AxlGhost Unit) (h : WbGhost) : Prop :=
  match br.st with
  | .idle    => g.heldB = none ∧ g.heldR = none ∧ h.held = none
  | .doRead  => g.heldB = none ∧ g.heldR = none ∧
                ∃ a, g.heldAR = some a ∧
                  (h.held = none ∨ h.held = some { cyc := true, stb := true, we := false, adr := wbAdr c a,
                                                        sel := 2 ^ c.nb - 1, datw := 0 })
  | .doWrite => g.heldB = none ∧ g.heldR = none ∧
                ∃ a, g.heldAW = some a ∧
                  (h.held = none ∨ ∃ w, g.heldW = some w ∧
                     h.held = some { cyc := true, stb := true, we := true, adr := wbAdr c a, sel := w.2, datw := w.1 })
  | .sendR   => g.heldB = none ∧ h.held = none ∧ (g.heldR = none ∨ g.heldR = some (respOkay, br.data))
  | .sendB   => g.heldR = none ∧ h.held = none ∧ (g.heldB = none ∨ g.heldB = some respOkay)

theorem oinv_init (m : Mem) : OInv c init (AxlGhost.init ()) (WbGhost.init m) := by
  simp [OInv, init, AxlGhost.init, WbGhost.init]

theorem ostep (br : A2WState) (g : AxlGhost Unit) (h : WbGhost) (m : AxlM) (r : WbS) (hinv : OInv c br g h)
    (hok : g.reqHeld m) :
    (h.reqHeld (toSlave c br m) ∧ g.rspHeld (toMaster br m r)) ∧
    OInv c (next br m r) (g.next (fun _ _ _ _ => ()) m (toMaster br m r)) (h.next 0 id (toSlave c br m) r) := by
  obtain ⟨hAW, hW, hAR⟩ := hok
  simp only [OInv, AxlGhost.rspHeld, WbGhost.reqHeld, AxlGhost.next_heldB, AxlGhost.next_heldR,
    AxlGhost.next_heldAW, AxlGhost.next_heldW, AxlGhost.next_heldAR, WbGhost.next_held]
  rcases hst : br.st <;> simp only [OInv, hst] at hinv <;>
    simp only [toSlave, toMaster, next, hst, AxlS.idle, WbM.idle, WbM.active]
  · -- IDLE: nothing is driven on either port
    obtain ⟨h1, h2, h3⟩ := hinv
    cases hv : m.awvalid <;> cases hr : m.arvalid <;> cases hl : br.last <;> simp [h1, h2, h3, hst]
  · -- DO-READ: the Wishbone read is built from the AR lines the master holds, so it is repeated unchanged until `ack`
    obtain ⟨h1, h2, a, h3, h4⟩ := hinv
    obtain ⟨hv, rfl⟩ := hAR a h3
    rcases h4 with h4 | h4 <;> cases hk : r.ack <;> simp [h1, h2, h4, hv, hst]
  · -- SEND-READ-RESPONSE: R with the registered `data` until taken
    obtain ⟨h1, h2, h3⟩ := hinv
    rcases h3 with h3 | h3 <;> cases hr : m.rready <;> simp [h1, h2, h3, hst, respOkay]
  · -- DO-WRITE: `cyc ∧ stb` follow `w.valid`; once the strobe was shown the master holds W too (`hW`), so the Wishbone
    -- write built from its AW and W lines is repeated unchanged until `ack`
    obtain ⟨h1, h2, a, h3, h4⟩ := hinv
    obtain ⟨hv, rfl⟩ := hAW a h3
    rcases h4 with h4 | ⟨w, h4, h5⟩
    · cases hk : r.ack <;> cases hw : m.wvalid <;> simp [h1, h2, h4, hv, hst]
    · obtain ⟨hw, rfl⟩ := hW w h4
      cases hk : r.ack <;> simp [h1, h2, h5, hv, hw, hst]
  · -- SEND-WRITE-RESPONSE: B OKAY until taken
    obtain ⟨h1, h2, h3⟩ := hinv
    rcases h3 with h3 | h3 <;> cases hb : m.bready <;> simp [h1, h2, h3, hst, respOkay]

theorem toMaster_indep (s : A2WState) (q q' : AxlM) (wb : WbS) : toMaster s q wb = toMaster s q' wb := by
  cases h : s.st <;> simp [toMaster, h]

/-- A counter at 1 means the other direction has overtaken the waiting request once: the arbitration flag `last` then stands
    against that direction (except while it is being served), the request is still held, and it is not the one being
    answered; so the next arbitration in IDLE goes to the waiting request. -/
def FInv (s : FSys) : Prop :=
  s.wOver ≤ 1 ∧ s.rOver ≤ 1 ∧
  (s.wOver = 1 → (s.br.st ≠ .doRead → s.br.last = false) ∧ s.g.heldAR.isSome ∧ s.br.st ≠ .sendR) ∧
  (s.rOver = 1 → (s.br.st ≠ .doWrite → s.br.last = true) ∧ s.g.heldAW.isSome ∧ s.br.st ≠ .sendB) ∧
  (s.br.st = .doRead → s.g.heldAR.isSome) ∧ (s.br.st = .doWrite → s.g.heldAW.isSome)

theorem fstep (s : FSys) (i : AxlM × WbS) (hinv : FInv s) (hok : s.g.reqHeld i.1) :
    FInv ((fsys c).next s i) := by
  obtain ⟨hw1, hr1, hwOver, hrOver, hRd, hWr⟩ := hinv
  obtain ⟨hAW, -, hAR⟩ := hok
  have hw : s.wOver = 0 ∨ s.wOver = 1 := by omega
  have hr : s.rOver = 0 ∨ s.rOver = 1 := by omega
  -- a request the observer saw waiting is still shown
  have kAR : s.g.heldAR.isSome = true → i.1.arvalid = true := fun h => (hAR _ (Option.get_mem h)).1
  have kAW : s.g.heldAW.isSome = true → i.1.awvalid = true := fun h => (hAW _ (Option.get_mem h)).1
  clear hw1 hr1 hAW hAR
  simp only [FInv, fsys, AxlGhost.next_heldAW, AxlGhost.next_heldAR]
  rcases hst : s.br.st <;>
    simp only [hst, reduceCtorEq, ne_eq, not_true_eq_false, not_false_eq_true, false_imp_iff, true_imp_iff]
      at hwOver hrOver hRd hWr <;>
    simp only [toMaster, next, hst, AxlS.idle]
  · -- IDLE: the arbitration flag `last` decides; a counter at 1 has set it against its own direction
    cases hv : i.1.awvalid <;> cases hx : i.1.arvalid <;> cases hl : s.br.last <;> simp_all <;> omega
  · -- DO-READ: the read address is held, so no write can start; the counters only move on leaving IDLE
    have := kAR hRd
    cases hk : i.2.ack <;> rcases hw with hw | hw <;> rcases hr with hr | hr <;> simp_all
  · cases hk : i.1.rready <;> rcases hw with hw | hw <;> rcases hr with hr | hr <;> simp_all
  · -- DO-WRITE: symmetric to DO-READ
    have := kAW hWr
    cases hk : i.2.ack <;> rcases hw with hw | hw <;> rcases hr with hr | hr <;> simp_all
  · cases hk : i.1.bready <;> rcases hw with hw | hw <;> rcases hr with hr | hr <;> simp_all

end Litex.Bridge.Axl2Wb
