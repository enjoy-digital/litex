import LitexModel.Bridge.Closed
import LitexProofs.Mem
/-
  Byte-level meaning of the down-converter's sub-word reference semantics: `DownW.wideWr` is the masked write of
  the wide word and `DownR.wideRd` the read of the wide word on the flat byte memory (`Mem.writeWord/readWord`).
-/
namespace Litex.Bridge.Bytes
open Litex Litex.Bridge

variable (c : DownCfg)

/-- No address wrap-around inside the wide word that contains `a`. -/
def NoWrap (a : Nat) : Prop := a / c.nbFrom * c.nbFrom + c.nbFrom ≤ 2 ^ c.abits

theorem subAddr_eq (a k : Nat) (hn : 0 < c.nbTo) (hw : NoWrap c a) (hk : k < c.ratio) :
    c.subAddr a k = a / c.nbFrom * c.nbFrom + k * c.nbTo := by
  unfold DownCfg.subAddr
  apply Nat.mod_eq_of_lt
  unfold NoWrap at hw
  have : k * c.nbTo + c.nbTo ≤ c.ratio * c.nbTo := by
    rw [← Nat.succ_mul]; exact Nat.mul_le_mul_right _ hk
  unfold DownCfg.nbFrom at hw ⊢
  omega

theorem subIdx_eq (a k : Nat) (hn : 0 < c.nbTo) (hw : NoWrap c a) (hk : k < c.ratio) :
    c.subAddr a k / c.nbTo * c.nbTo = a / c.nbFrom * c.nbFrom + k * c.nbTo := by
  rw [subAddr_eq c a k hn hw hk]
  have : a / c.nbFrom * c.nbFrom + k * c.nbTo = (a / c.nbFrom * c.ratio + k) * c.nbTo := by
    unfold DownCfg.nbFrom; rw [Nat.add_mul, Nat.mul_assoc]
  rw [this, Nat.mul_div_cancel _ hn]

/-- An all-zero strobe writes nothing either way, so the sub-words the converter skips need no case of their own. -/
theorem subWrite_eq (a d st k : Nat) (m : Mem) (hn : 0 < c.nbTo) (hw : NoWrap c a) (hk : k < c.ratio) :
    DownW.subWrite c a d st k m =
      m.writeMasked (a / c.nbFrom * c.nbFrom + k * c.nbTo) (selBits c.nbTo (st / 2 ^ (k * c.nbTo)))
        (wordBytes c.nbTo (d / 256 ^ (k * c.nbTo))) := by
  rw [← selBits_mod, ← wordBytes_mod, ← subIdx_eq c a k hn hw hk]
  unfold DownW.subWrite
  split
  · rename_i hz
    exact (beq_iff_eq.mp hz ▸ Mem.writeWord_zero m c.nbTo _ _).symm
  · rfl

/-- The wide word is the concatenation of its sub-words (`selBits_add`, `wordBytes_add`) and a masked write of a
    concatenation is the two writes in sequence (`Mem.writeMasked_append`); the read side (`pack_eq`) is the same argument. -/
theorem subWrites_eq (a d st : Nat) (m : Mem) (hn : 0 < c.nbTo) (hw : NoWrap c a) :
    ∀ k, k ≤ c.ratio →
      DownW.subWrites c a d st k m =
        m.writeMasked (a / c.nbFrom * c.nbFrom) (selBits (k * c.nbTo) st) (wordBytes (k * c.nbTo) d) := by
  intro k
  induction k with
  | zero => intro _; funext x; simp [DownW.subWrites, selBits, Mem.writeMasked_apply]
  | succ k ih =>
    intro hk
    rw [DownW.subWrites, subWrite_eq c a d st k _ hn hw (by omega), ih (by omega), Nat.succ_mul, selBits_add, wordBytes_add,
      Mem.writeMasked_append _ _ _ _ _ _ (by simp), selBits_length]

theorem wideWr_eq_writeWord (m : Mem) (a st d : Nat) (hn : 0 < c.nbTo) (hw : NoWrap c a) :
    DownW.wideWr c m a st d = m.writeWord c.nbFrom (a / c.nbFrom) st d :=
  subWrites_eq c a d st m hn hw c.ratio (Nat.le_refl _)

theorem pack_eq (m : Mem) (a : Nat) (hn : 0 < c.nbTo) (hw : NoWrap c a) :
    ∀ k, k ≤ c.ratio →
      DownR.pack c (DownR.subWord c m a) k = bytesWord (m.readBytes (a / c.nbFrom * c.nbFrom) (k * c.nbTo)) := by
  intro k
  induction k with
  | zero => intro _; simp [DownR.pack, Mem.readBytes, bytesWord]
  | succ k ih =>
    intro hk
    rw [DownR.pack, ih (by omega), Nat.succ_mul, Mem.readBytes_add, bytesWord_append, Mem.readBytes_length]
    have hsub : DownR.subWord c m a k =
        bytesWord (m.readBytes (a / c.nbFrom * c.nbFrom + k * c.nbTo) c.nbTo) := by
      unfold DownR.subWord Mem.readWord
      rw [subIdx_eq c a k hn hw (by omega)]
    have hlt : DownR.subWord c m a k < 256 ^ c.nbTo := by
      rw [hsub]
      have := bytesWord_lt (m.readBytes (a / c.nbFrom * c.nbFrom + k * c.nbTo) c.nbTo)
      rwa [Mem.readBytes_length] at this
    rw [Nat.mod_eq_of_lt hlt, hsub, ← Nat.pow_mul, Nat.mul_comm c.nbTo k, Nat.mul_comm (bytesWord _) _]

theorem wideRd_eq_readWord (m : Mem) (a : Nat) (hn : 0 < c.nbTo) (hw : NoWrap c a) :
    DownR.wideRd c m a = m.readWord c.nbFrom (a / c.nbFrom) := by
  unfold DownR.wideRd Mem.readWord
  rw [pack_eq c m a hn hw c.ratio (Nat.le_refl _)]
  rfl

end Litex.Bridge.Bytes
