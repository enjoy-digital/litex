import LitexModel.Bridge.Closed
import LitexProofs.Bridge.Ghost
/-
  Proofs for Wishbone2AXILite: invariant of the closed system (bridge ∥ AXI-Lite byte memory ∥ port observer)
  and of the open system with observers on both ports; the address subtraction on word addresses.
-/
namespace Litex.Bridge.Wb2Axl
open Litex Litex.Bridge

variable (c : W2ACfg) (nb : Nat)

/- The memory partner of the closed system never answers non-OKAY, so ERROR is unreachable there (`False`); the open
   system's `OInv` is the invariant that covers ERROR. -/
def Inv (s : Sys) : Prop :=
  match s.br.st with
  | .idle  => s.p.awq = [] ∧ s.p.wq = [] ∧ s.p.bq = [] ∧ s.p.arq = [] ∧ s.p.rq = [] ∧ s.p.mem = s.g.ref
  | .error => False
  | .write =>
    s.p.arq = [] ∧ s.p.rq = [] ∧
    ∃ r, s.g.held = some r ∧ r.cyc = true ∧ r.stb = true ∧ r.we = true ∧
      ((s.p.bq = [] ∧ s.p.awq = (if s.br.cmdDone then [axAddr c r.adr] else []) ∧
          s.p.wq = (if s.br.dataDone then [(r.datw, r.sel)] else []) ∧ s.p.mem = s.g.ref) ∨
       (s.br.cmdDone = true ∧ s.br.dataDone = true ∧ s.p.awq = [] ∧ s.p.wq = [] ∧ s.p.bq = [respOkay] ∧
          s.p.mem = s.g.ref.writeWord nb (amap c nb r.adr) r.sel r.datw))
  | .read =>
    s.p.awq = [] ∧ s.p.wq = [] ∧ s.p.bq = [] ∧ s.p.mem = s.g.ref ∧
    ∃ r, s.g.held = some r ∧ r.cyc = true ∧ r.stb = true ∧ r.we = false ∧
      ((s.p.rq = [] ∧ s.p.arq = (if s.br.cmdDone then [axAddr c r.adr] else [])) ∨
       (s.br.cmdDone = true ∧ s.p.arq = [] ∧ s.p.rq = [(respOkay, s.g.ref.readWord nb (amap c nb r.adr))]))

def Good (s : Sys) (i : WbM × AxlOracle) : Prop :=
  s.g.memOk nb (amap c nb) i.1 (sysOut c s i).1 ∧ (s.br.st = .idle → s.p.mem = s.g.ref)

theorem step (s : Sys) (i : WbM × AxlOracle) (hinv : Inv c nb s) (hok : s.g.reqHeld i.1) :
    Good c nb s i ∧ Inv c nb ((sys c nb s.g.ref).next s i) := by
  simp only [Inv, Good, sys, sysOut, WbGhost.memOk, WbGhost.reqHeld, WbGhost.next_held, WbGhost.next_ref] at hok ⊢
  rcases hst : s.br.st <;> simp only [Inv, hst] at hinv <;>
    simp only [toSlave, toMaster, next, hst, AxlMem.out, AxlMem.next, AxlM.idle, WbS.idle, WbM.active]
  · obtain ⟨h1, h2, h3, h4, h5, h6⟩ := hinv
    cases hc : i.1.cyc <;> cases hs : i.1.stb <;> cases hw : i.1.we <;> simp [hc, hs, hw, h1, h2, h3, h4, h5, h6]
  · -- WRITE: the master holds `i.1`; AW / W are still on their way (queued as the two flags say) or the write has
    -- been executed and its B is waiting
    obtain ⟨harq, hrq, r, hheld, hcyc, hstb, hwe, hq⟩ := hinv
    obtain rfl := hok r hheld
    simp only [harq, hrq, hcyc, hstb, hwe]
    rcases hq with ⟨hbq, hawq, hwq, hmem⟩ | ⟨hcd, hdd, hawq, hwq, hbq, hmem⟩
    · -- a ready matters only for the request still to be handed over, `wexec` only once both are queued
      simp only [hbq, hawq, hwq, hmem]
      cases hcd : s.br.cmdDone <;> cases hdd : s.br.dataDone
      case false.false => cases hy : i.2.awready <;> cases hz : i.2.wready <;> simp [amap, hcyc, hstb, hwe]
      case false.true => cases hy : i.2.awready <;> simp [amap, hcyc, hstb, hwe]
      case true.false => cases hz : i.2.wready <;> simp [amap, hcyc, hstb, hwe]
      case true.true => cases hx : i.2.wexec <;> simp [amap, hcyc, hstb, hwe]
    · simp only [hcd, hdd, hawq, hwq, hbq, hmem]
      rcases Bool.eq_false_or_eq_true s.p.bheld with hh | hh <;> rcases Bool.eq_false_or_eq_true i.2.bgo with hg | hg <;>
        simp [amap, respOkay, hh, hg, hcyc, hstb, hwe]
  · -- READ: likewise with the one AR, and the data of the executed read waiting in the R queue
    obtain ⟨hawq, hwq, hbq, hmem, r, hheld, hcyc, hstb, hwe, hq⟩ := hinv
    obtain rfl := hok r hheld
    simp only [hawq, hwq, hbq, hmem, hcyc, hstb, hwe]
    rcases hq with ⟨hrq, harq⟩ | ⟨hcd, harq, hrq⟩
    · simp only [hrq, harq]
      cases hcd : s.br.cmdDone
      case false => cases hy : i.2.arready <;> simp [amap, hcyc, hstb, hwe]
      case true => cases hx : i.2.rexec <;> simp [amap, hcyc, hstb, hwe]
    · simp only [hcd, harq, hrq]
      rcases Bool.eq_false_or_eq_true s.p.rheld with hh | hh <;> rcases Bool.eq_false_or_eq_true i.2.rgo with hg | hg <;>
        simp [amap, respOkay, hh, hg, hcyc, hstb, hwe]

theorem toSlave_awvalid (s : W2AState) (m : WbM) :
    (toSlave c s m).awvalid = true ↔ s.st = .write ∧ s.cmdDone = false := by
  cases h : s.st <;> simp [toSlave, h, AxlM.idle]
theorem toSlave_wvalid (s : W2AState) (m : WbM) :
    (toSlave c s m).wvalid = true ↔ s.st = .write ∧ s.dataDone = false := by
  cases h : s.st <;> simp [toSlave, h, AxlM.idle]
theorem toSlave_arvalid (s : W2AState) (m : WbM) :
    (toSlave c s m).arvalid = true ↔ s.st = .read ∧ s.cmdDone = false := by
  cases h : s.st <;> simp [toSlave, h, AxlM.idle]

/-- A request pending on the AXI-Lite port is the bridge's current one: the FSM is in the matching state with the
    request not yet handed over, and it carries the address / data the Wishbone master holds. -/
def OInv (s : OSys) : Prop :=
  ((s.br.st = .write ∨ s.br.st = .read) → ∃ r, s.g.held = some r ∧ r.active = true) ∧
  (∀ x, s.h.heldAW = some x → s.br.st = .write ∧ s.br.cmdDone = false ∧ ∀ r, s.g.held = some r → x = axAddr c r.adr) ∧
  (∀ x, s.h.heldW = some x → s.br.st = .write ∧ s.br.dataDone = false ∧ ∀ r, s.g.held = some r → x = (r.datw, r.sel)) ∧
  (∀ x, s.h.heldAR = some x → s.br.st = .read ∧ s.br.cmdDone = false ∧ ∀ r, s.g.held = some r → x = axAddr c r.adr)

theorem ostep (s : OSys) (i : WbM × AxlS) (hinv : OInv c s) (hok : s.g.reqHeld i.1) :
    s.h.reqHeld (toSlave c s.br i.1) ∧ OInv c ((osys c).next s i) := by
  obtain ⟨hact, hAW, hW, hAR⟩ := hinv
  -- in WRITE / READ the Wishbone master is mid-cycle and shows what it held
  have hcur : (s.br.st = .write ∨ s.br.st = .read) → s.g.held = some i.1 ∧ i.1.active = true := fun h => by
    obtain ⟨r, hr, ha⟩ := hact h
    obtain rfl := hok r hr
    exact ⟨hr, ha⟩
  refine ⟨⟨fun a ha => ?_, fun d hd => ?_, fun a ha => ?_⟩, ?_, ?_, ?_, ?_⟩
  · obtain ⟨h1, h2, h3⟩ := hAW a ha
    simp [toSlave, h1, h2, h3 _ (hcur (Or.inl h1)).1]
  · obtain ⟨h1, h2, h3⟩ := hW d hd
    simp [toSlave, h1, h2, h3 _ (hcur (Or.inl h1)).1]
  · obtain ⟨h1, h2, h3⟩ := hAR a ha
    simp [toSlave, h1, h2, h3 _ (hcur (Or.inr h1)).1]
  all_goals
    simp only [osys, WbGhost.next_held, AxlGhost.next_heldAW, AxlGhost.next_heldW, AxlGhost.next_heldAR, forall_held,
      toSlave_awvalid, toSlave_wvalid, toSlave_arvalid]
  · rcases hst : s.br.st
    · cases hc : i.1.cyc <;> cases hs : i.1.stb <;> cases hw : i.1.we <;>
        simp [next, toMaster, hst, hc, hs, hw, WbM.active, WbS.idle]
    · obtain ⟨-, hac⟩ := hcur (Or.inl hst)
      cases hb : i.2.bvalid && (s.br.cmdDone && s.br.dataDone) <;> cases hb' : i.2.bresp == respOkay <;>
        simp [next, toMaster, hst, hac, hb, hb']
    · obtain ⟨-, hac⟩ := hcur (Or.inr hst)
      cases hb : i.2.rvalid && s.br.cmdDone <;> cases hb' : i.2.rresp == respOkay <;>
        simp [next, toMaster, hst, hac, hb, hb']
    · simp [next, hst]
  · rintro ⟨hst, hcd⟩ hrdy
    obtain ⟨-, hac⟩ := hcur (Or.inl hst)
    simp [next, toMaster, toSlave, hst, hcd, hrdy, hac]
  · rintro ⟨hst, hcd⟩ hrdy
    obtain ⟨-, hac⟩ := hcur (Or.inl hst)
    simp [next, toMaster, toSlave, hst, hcd, hrdy, hac]
  · rintro ⟨hst, hcd⟩ hrdy
    obtain ⟨-, hac⟩ := hcur (Or.inr hst)
    simp [next, toMaster, toSlave, hst, hcd, hrdy, hac]

/-- On `w + z` bits the low `z` bits of both operands are zero. -/
theorem subTrunc_scale (w z a b : Nat) : subTrunc w a b * 2 ^ z = subTrunc (w + z) (a * 2 ^ z) (b * 2 ^ z) := by
  unfold subTrunc
  rw [Nat.pow_add]
  generalize 2 ^ w = k
  generalize 2 ^ z = y
  rw [Nat.mul_comm a y, Nat.mul_comm b y, Nat.mul_comm k y, Nat.mul_mod_mul_left, Nat.mul_mod_mul_left,
    ← Nat.mul_sub, ← Nat.mul_add, Nat.mul_mod_mul_left, Nat.mul_comm]

end Litex.Bridge.Wb2Axl
