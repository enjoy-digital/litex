import LitexModel.Bridge.Adapter
import LitexProofs.Lists
/-
  Proofs about the `add_adapter` chain model: every element carries each master-side byte on the slave-side byte
  with the same flat byte address, within the slave port's range; chains compose; what each helper of `add_adapter`
  contributes, and that it is well formed.
-/
namespace Litex.Bridge.Adapter
open Litex Litex.Bridge

/-- Number of address bits of the port (word-addressed Wishbone: `len(adr)`). -/
def IfDesc.portBits (d : IfDesc) : Nat := if d.wordAddr then d.aw - lg d.dw else d.aw

/-- A transfer the port can express: address within the address signal, lane within the word. -/
def InRange (d : IfDesc) (p : Nat × Nat) : Prop := p.1 < 2 ^ d.portBits ∧ p.2 < d.nb

/-- Shape of an element as `add_adapter` builds it (all conditions decidable): equal address widths, word sizes that
    are powers of two (bridges, addressing glue) or multiples of each other (converters; for the AXI-Lite/AXI
    down-converter the wide word divides the address space), and the addressing each side has. -/
def Elem.WF (e : Elem) : Prop :=
  0 < e.master.nb ∧ 0 < e.slave.nb ∧ e.master.aw = e.slave.aw ∧
  match e.kind with
  | .axl2wb | .axi2wb | .ahb2wb =>
    e.master.wordAddr = false ∧ e.slave.std = .wishbone ∧ e.master.nb = e.slave.nb ∧ e.slave.nb = 2 ^ lg e.slave.dw ∧
    lg e.slave.dw ≤ e.slave.aw
  | .wb2axl | .wb2axi =>
    e.master.std = .wishbone ∧ e.slave.wordAddr = false ∧ e.master.nb = e.slave.nb ∧ e.master.nb = 2 ^ lg e.master.dw ∧
    lg e.master.dw ≤ e.master.aw
  | .axl2axi | .axi2axl => e.master.wordAddr = false ∧ e.slave.wordAddr = false ∧ e.master.nb = e.slave.nb
  | .wbAddressing =>
    e.master.std = .wishbone ∧ e.slave.std = .wishbone ∧ e.master.byteAddr = !e.slave.byteAddr ∧
    e.master.nb = e.slave.nb ∧ e.master.nb = 2 ^ lg e.master.dw ∧ lg e.master.dw ≤ e.master.aw
  | .axlConverter | .axiConverter =>
    e.master.wordAddr = false ∧ e.slave.wordAddr = false ∧
    (e.master.nb % e.slave.nb = 0 ∧ 2 ^ e.master.aw % e.master.nb = 0 ∨ e.slave.nb % e.master.nb = 0)
  | .wbConverter =>
    e.master.wordAddr = true ∧ e.slave.wordAddr = true ∧ (e.master.nb % e.slave.nb = 0 ∨ e.slave.nb % e.master.nb = 0) ∧
    e.master.nb = 2 ^ lg e.master.dw ∧ e.slave.nb = 2 ^ lg e.slave.dw ∧ lg e.master.dw ≤ e.master.aw ∧
    lg e.slave.dw ≤ e.slave.aw

theorem subTrunc_zero (w a : Nat) (h : a < 2 ^ w) : subTrunc w a 0 = a := by
  have hp : 0 < 2 ^ w := Nat.pow_pos (by decide)
  simp [subTrunc, Nat.mod_eq_of_lt h, Nat.mod_eq_of_lt hp, Nat.add_mod_right]

/-! The arithmetic of `elemByte` at the width converters (`elem_conv`): byte-addressed down (sub-word `lane / nbS` at
`subAddr`) and up (lane group `laneOf`), then the same on word addresses for `wishbone.Converter`. -/

theorem down_byte (r nbS x lane : Nat) (hS : 0 < nbS) :
    ((x / (r * nbS) * (r * nbS) + lane / nbS * nbS) / nbS * nbS) + lane % nbS = x / (r * nbS) * (r * nbS) + lane := by
  have h1 : x / (r * nbS) * (r * nbS) + lane / nbS * nbS = (x / (r * nbS) * r + lane / nbS) * nbS := by
    rw [Nat.add_mul, Nat.mul_assoc]
  rw [h1, Nat.mul_div_cancel _ hS, ← h1, Nat.add_assoc, Nat.div_add_mod']

theorem up_byte (r nbM x lane : Nat) :
    x / (r * nbM) * (r * nbM) + (x / nbM % r * nbM + lane) = x / nbM * nbM + lane := by
  have h1 : x / (r * nbM) = x / nbM / r := by rw [Nat.mul_comm, Nat.div_div_eq_div_mul]
  have h2 : x / nbM / r * (r * nbM) + x / nbM % r * nbM = (x / nbM / r * r + x / nbM % r) * nbM := by
    rw [Nat.add_mul, Nat.mul_assoc]
  rw [← Nat.add_assoc, h1, h2, Nat.div_add_mod']

theorem wb_down_byte (r nbS x lane : Nat) :
    (x * r + lane / nbS) * nbS + lane % nbS = x * (r * nbS) + lane := by
  rw [Nat.add_mul, Nat.mul_assoc, Nat.add_assoc, Nat.div_add_mod']

theorem wb_up_byte (r nbM x lane : Nat) :
    x / r * (r * nbM) + (x % r * nbM + lane) = x * nbM + lane := by
  rw [← Nat.add_assoc, ← Nat.mul_assoc, ← Nat.add_mul, Nat.div_add_mod']

theorem down_in_space (nbM aw x k nbS : Nat) (hM : 0 < nbM) (hd : 2 ^ aw % nbM = 0) (hx : x < 2 ^ aw)
    (hk : k * nbS < nbM) : x / nbM * nbM + k * nbS < 2 ^ aw := by
  obtain ⟨q, hq⟩ := Nat.dvd_of_mod_eq_zero hd
  have h1 : x / nbM < q := by
    rw [Nat.div_lt_iff_lt_mul hM, Nat.mul_comm, ← hq]; exact hx
  have h2 : (x / nbM + 1) * nbM ≤ q * nbM := Nat.mul_le_mul_right _ h1
  rw [Nat.add_mul, Nat.one_mul] at h2
  rw [hq, Nat.mul_comm nbM q]
  omega

theorem conv_cases (M S : Nat) (hm : 0 < M) (hs : 0 < S) (h : M % S = 0 ∨ S % M = 0) :
    (M > S ∧ ∃ r, M = r * S ∧ M / S = r) ∨ (¬ M > S ∧ M < S ∧ ∃ r, S = r * M ∧ S / M = r) ∨ (¬ M > S ∧ ¬ M < S ∧ M = S) := by
  have key : ∀ A B : Nat, 0 < B → B < A → (A % B = 0 ∨ B % A = 0) → ∃ r, A = r * B ∧ A / B = r := by
    intro A B hB hlt h
    have hd : A % B = 0 := by
      rcases h with h | h
      · exact h
      · rw [Nat.mod_eq_of_lt hlt] at h; omega
    have hr := (Nat.div_mul_cancel (Nat.dvd_of_mod_eq_zero hd)).symm
    exact ⟨A / B, hr, rfl⟩
  rcases Nat.lt_trichotomy S M with hlt | he | hgt
  · exact Or.inl ⟨hlt, key M S hs hlt h⟩
  · exact Or.inr (Or.inr ⟨by omega, by omega, he.symm⟩)
  · exact Or.inr (Or.inl ⟨by omega, hgt, key S M hm hgt h.symm⟩)

/-- Base address 0, as `add_adapter` constructs the bridges; the truncations of `Axl2Wb.wbAdr` / `Wb2Axl.axAddr` do
    nothing within the range of the port. -/
theorem elemByte_sameWidth (e : Elem) (hwf : e.WF) (p : Nat × Nat) (hr : InRange e.master p)
    (hk : ¬ (e.kind = .axlConverter ∨ e.kind = .axiConverter ∨ e.kind = .wbConverter)) :
    e.master.nb = e.slave.nb ∧
    ((e.slave.wordAddr = e.master.wordAddr ∧ elemByte e p = p) ∨
     (e.master.wordAddr = false ∧ e.slave.wordAddr = true ∧ e.slave.nb = 2 ^ lg e.slave.dw ∧ lg e.slave.dw ≤ e.slave.aw ∧
        elemByte e p = (p.1 / e.slave.nb, p.2)) ∨
     (e.master.wordAddr = true ∧ e.slave.wordAddr = false ∧ e.master.nb = 2 ^ lg e.master.dw ∧ lg e.master.dw ≤ e.master.aw ∧
        elemByte e p = (p.1 * e.master.nb, p.2))) := by
  obtain ⟨kind, m, s⟩ := e
  obtain ⟨x, lane⟩ := p
  obtain ⟨hm, hs, haw, hwf⟩ := hwf
  obtain ⟨hx, -⟩ := hr
  simp only [IfDesc.portBits] at hx
  simp only at hm hs haw hx hk ⊢
  cases kind <;> simp only at hwf
  case axlConverter | axiConverter | wbConverter => simp at hk
  case axl2wb | axi2wb | ahb2wb =>
    -- `(addr - 0)[shift:]` / `haddr >> shift`, the shift being the word shift of a word-addressed Wishbone side
    obtain ⟨h1, h2, h3, h4, h5⟩ := hwf
    rw [h1] at hx
    simp only [Bool.false_eq_true, if_false] at hx
    have hsw : s.wordAddr = !s.byteAddr := by simp [IfDesc.wordAddr, h2]
    refine ⟨h3, ?_⟩
    cases hb : s.byteAddr <;> rw [hb] at hsw
    · exact Or.inr (Or.inl ⟨h1, hsw, h4, h5, by simp [elemByte, Axl2Wb.wbAdr, subTrunc_zero _ _ hx, hb, h4]⟩)
    · exact Or.inl ⟨by rw [hsw, h1]; rfl, by simp [elemByte, Axl2Wb.wbAdr, subTrunc_zero _ _ hx, hb]⟩
  case wb2axl | wb2axi =>
    -- `(adr - 0) << shift`
    obtain ⟨h1, h2, h3, h4, h5⟩ := hwf
    have hmw : m.wordAddr = !m.byteAddr := by simp [IfDesc.wordAddr, h1]
    rw [hmw] at hx
    refine ⟨h3, ?_⟩
    cases hb : m.byteAddr <;> rw [hb] at hmw <;> simp only [hb, Bool.not_false, Bool.not_true, Bool.false_eq_true, if_true, if_false] at hx
    · have hz : (0 : Nat) / 2 ^ lg m.dw = 0 := Nat.zero_div _
      exact Or.inr (Or.inr ⟨hmw, h2, h4, h5, by simp [elemByte, Wb2Axl.axAddr, hz, subTrunc_zero _ _ hx, hb, h4]⟩)
    · exact Or.inl ⟨by rw [hmw, h2]; rfl, by simp [elemByte, Wb2Axl.axAddr, subTrunc_zero _ _ hx, hb]⟩
  case axl2axi | axi2axl =>
    obtain ⟨h1, h2, h3⟩ := hwf
    exact ⟨h3, Or.inl ⟨by rw [h1, h2], by simp [elemByte]⟩⟩
  case wbAddressing =>
    obtain ⟨h1, h2, h3, h4, h5, h6⟩ := hwf
    have hmw : m.wordAddr = !m.byteAddr := by simp [IfDesc.wordAddr, h1]
    have hsw : s.wordAddr = !s.byteAddr := by simp [IfDesc.wordAddr, h2]
    have hlg : lg s.dw = lg m.dw := congrArg Nat.log2 h4.symm
    refine ⟨h4, ?_⟩
    cases hb : s.byteAddr <;> simp [hb] at h3 hsw <;> simp [h3] at hmw
    · exact Or.inr (Or.inl ⟨hmw, hsw, by rw [hlg, ← h4, h5], by rw [hlg, ← haw]; exact h6,
        by simp [elemByte, h3, ← h4, h5]⟩)
    · exact Or.inr (Or.inr ⟨hmw, hsw, h5, h6, by simp [elemByte, h3, h5]⟩)

/-! A port names the bytes below `2 ^ aw`: for a word-addressed port `InRange` IS "lane within the word and flat byte
address below `2 ^ aw`", for a byte-addressed port whose word size divides the address space it implies it.  Once
the flat byte is known to be preserved, the range of the slave side of every element that ends on a word-addressed port is
"same flat byte, same address space" plus the lane bound. -/

theorem inRange_word_iff (d : IfDesc) (p : Nat × Nat) (hw : d.wordAddr = true) (hn : d.nb = 2 ^ lg d.dw)
    (hl : lg d.dw ≤ d.aw) : InRange d p ↔ p.2 < d.nb ∧ flat d p < 2 ^ d.aw := by
  obtain ⟨x, lane⟩ := p
  simp only [InRange, IfDesc.portBits, flat, hw, if_true, hn]
  have hp : 2 ^ d.aw = 2 ^ (d.aw - lg d.dw) * 2 ^ lg d.dw := by rw [← Nat.pow_add, Nat.sub_add_cancel hl]
  rw [hp]
  constructor
  · rintro ⟨hx, hlane⟩
    have : (x + 1) * 2 ^ lg d.dw ≤ 2 ^ (d.aw - lg d.dw) * 2 ^ lg d.dw := Nat.mul_le_mul_right _ hx
    rw [Nat.add_mul, Nat.one_mul] at this
    exact ⟨hlane, by omega⟩
  · rintro ⟨hlane, hf⟩
    exact ⟨Nat.lt_of_mul_lt_mul_right (Nat.lt_of_le_of_lt (Nat.le_add_right _ _) hf), hlane⟩

theorem flat_lt_of_inRange_byte (d : IfDesc) (p : Nat × Nat) (hw : d.wordAddr = false) (hn : 0 < d.nb)
    (hd : 2 ^ d.aw % d.nb = 0) (h : InRange d p) : flat d p < 2 ^ d.aw := by
  obtain ⟨x, lane⟩ := p
  simp only [InRange, IfDesc.portBits, flat, hw, Bool.false_eq_true, if_false] at h ⊢
  have := down_in_space d.nb d.aw x lane 1 hn hd h.1 (by rw [Nat.mul_one]; exact h.2)
  rwa [Nat.mul_one] at this

/-- The width converters: sub-word `lane / S` of the aligned wide word going down, the lane group of the address moving
    into the lane going up (`down_byte`, `up_byte`; on word addresses `wb_down_byte`, `wb_up_byte`); addresses are
    truncated to the address width, which changes nothing in range. -/
theorem elem_conv (e : Elem) (hwf : e.WF) (p : Nat × Nat) (hr : InRange e.master p)
    (hk : e.kind = .axlConverter ∨ e.kind = .axiConverter ∨ e.kind = .wbConverter) :
    flat e.slave (elemByte e p) = flat e.master p ∧ InRange e.slave (elemByte e p) := by
  obtain ⟨kind, m, s⟩ := e
  obtain ⟨x, lane⟩ := p
  obtain ⟨hm, hs, haw, hwf⟩ := hwf
  simp only at hm hs haw hk
  cases kind <;> simp only at hwf <;> simp only [reduceCtorEq, or_self, or_false, false_or] at hk
  case wbConverter =>
    obtain ⟨h1, h2, h3, h4, h5, h6, h7⟩ := hwf
    obtain ⟨hl, hf⟩ := (inRange_word_iff m _ h1 h4 h6).mp hr
    -- same flat byte (below), hence same address space; the lane is a remainder or lane group and lane
    suffices h : flat s (elemByte ⟨.wbConverter, m, s⟩ (x, lane)) = flat m (x, lane) ∧
        (elemByte ⟨.wbConverter, m, s⟩ (x, lane)).2 < s.nb by
      refine ⟨h.1, ?_⟩
      rw [inRange_word_iff s _ h2 h5 h7, h.1, ← haw]
      exact ⟨h.2, hf⟩
    simp only [elemByte, flat, h1, h2, if_true] at hl ⊢
    generalize m.nb = M at *
    generalize s.nb = S at *
    rcases conv_cases M S hm hs h3 with ⟨hgt, r, hr', hrS⟩ | ⟨hgt, hlt, r, hr', hrS⟩ | ⟨hgt, hlt, he⟩
    · simp only [hgt, if_true, hrS]
      exact ⟨by rw [hr']; exact wb_down_byte r S x lane, Nat.mod_lt _ hs⟩
    · have hrpos : 0 < r := Nat.pos_of_ne_zero (fun h => by rw [h, Nat.zero_mul] at hr'; omega)
      have h1 : (x % r + 1) * M ≤ r * M := Nat.mul_le_mul_right _ (Nat.mod_lt _ hrpos)
      rw [Nat.add_mul, Nat.one_mul] at h1
      simp only [hgt, hlt, if_true, if_false, hrS]
      exact ⟨by rw [hr']; exact wb_up_byte r M x lane, by omega⟩
    · simp only [hgt, hlt, if_false]
      exact ⟨by rw [he], by omega⟩
  case axlConverter | axiConverter =>
    obtain ⟨h1, h2, h3⟩ := hwf
    obtain ⟨hx, hl⟩ := hr
    simp only [IfDesc.portBits, h1, Bool.false_eq_true, if_false] at hx
    simp only [InRange, IfDesc.portBits, elemByte, flat, h1, h2, Bool.false_eq_true, if_false, DownCfg.subAddr,
      DownCfg.nbFrom, UpCfg.nbTo, UpCfg.laneOf]
    have hp : 0 < 2 ^ s.aw := Nat.pow_pos (by decide)
    rw [haw] at hx h3
    generalize m.nb = M at *
    generalize s.nb = S at *
    rcases conv_cases M S hm hs (h3.imp And.left id) with ⟨hgt, r, hr', hrS⟩ | ⟨hgt, hlt, r, hr', hrS⟩ | ⟨hgt, hlt, he⟩
    · have hd : 2 ^ s.aw % M = 0 := by
        rcases h3 with h | h
        · exact h.2
        · rw [Nat.mod_eq_of_lt hgt] at h; omega
      have hk : lane / S * S < M := by
        have := Nat.div_mul_le_self lane S
        omega
      have hsp := down_in_space M s.aw x (lane / S) S hm hd hx hk
      simp only [hgt, if_true, hrS, haw]
      refine ⟨?_, Nat.mod_lt _ hp, Nat.mod_lt _ hs⟩
      rw [← hr', Nat.mod_eq_of_lt hsp, hr']
      exact down_byte r S x lane hs
    · have hle : x / (r * M) * (r * M) < 2 ^ s.aw := Nat.lt_of_le_of_lt (Nat.div_mul_le_self _ _) hx
      have hpos : 0 < r * M := by rw [← hr']; exact hs
      have hrpos : 0 < r := Nat.pos_of_mul_pos_right hpos
      have h2 : (x / M % r + 1) * M ≤ r * M := Nat.mul_le_mul_right _ (Nat.mod_lt _ hrpos)
      rw [Nat.add_mul, Nat.one_mul] at h2
      simp only [hgt, hlt, if_true, if_false, hrS]
      refine ⟨?_, Nat.mod_lt _ hp, by omega⟩
      rw [Nat.mod_eq_of_lt hle, hr', Nat.mul_div_cancel _ hpos]
      exact up_byte r M x lane
    · simp only [hgt, hlt, if_false]
      exact ⟨by rw [he], hx, by rw [← he]; exact hl⟩

theorem elem_spec (e : Elem) (hwf : e.WF) (p : Nat × Nat) (hr : InRange e.master p) :
    flat e.slave (elemByte e p) = flat e.master p ∧ InRange e.slave (elemByte e p) := by
  by_cases hk : e.kind = .axlConverter ∨ e.kind = .axiConverter ∨ e.kind = .wbConverter
  · exact elem_conv e hwf p hr hk
  have haw := hwf.2.2.1
  obtain ⟨hnb, h⟩ := elemByte_sameWidth e hwf p hr hk
  rcases h with ⟨hw, he⟩ | ⟨hm, hs, h4, h5, he⟩ | ⟨hm, hs, h4, h5, he⟩
  · have hlg : lg e.slave.dw = lg e.master.dw := congrArg Nat.log2 hnb.symm
    rw [he]
    exact ⟨by simp [flat, hw, hnb], by simpa [InRange, IfDesc.portBits, hw, ← haw, hlg, ← hnb] using hr⟩
  · -- onto a word-addressed port: `flat` undoes the shift; same flat byte, same address space, same lane
    have hflat : flat e.slave (elemByte e p) = flat e.master p := by rw [he]; simp [flat, hm, hs, hnb]
    refine ⟨hflat, ?_⟩
    rw [inRange_word_iff _ _ hs h4 h5, hflat, ← haw]
    exact ⟨by rw [he, ← hnb]; exact hr.2,
      flat_lt_of_inRange_byte _ _ hm hwf.1 (by rw [haw, hnb, h4]; exact two_pow_mod_two_pow h5) hr⟩
  · -- off a word-addressed port: the byte address of the word is below the flat byte address
    obtain ⟨hl, hf⟩ := (inRange_word_iff _ _ hm h4 h5).mp hr
    rw [he]
    refine ⟨by simp [flat, hm, hs, ← hnb, Nat.mul_div_cancel _ hwf.1], ?_⟩
    simp only [flat, hm, if_true] at hf
    simp only [InRange, IfDesc.portBits, hs, Bool.false_eq_true, if_false, ← hnb, ← haw]
    exact ⟨by omega, hl⟩

/-- Consecutive elements share an interface; the chain leads from interface `a` (master end) to `b` (slave end). -/
def Linked : List Elem → IfDesc → IfDesc → Prop
  | [], a, b => a = b
  | e :: l, a, b => e.master = a ∧ Linked l e.slave b

/-- Every element is well formed and the transfer stays within the address range of every port it crosses. -/
def ChainOk : List Elem → Nat × Nat → Prop
  | [], _ => True
  | e :: l, p => e.WF ∧ InRange e.master p ∧ ChainOk l (elemByte e p)

theorem chainByte_cons (e : Elem) (l : List Elem) (p : Nat × Nat) : chainByte (e :: l) p = chainByte l (elemByte e p) := rfl

theorem chain_preserves_byte (l : List Elem) : ∀ (a b : IfDesc) (p : Nat × Nat), Linked l a b → ChainOk l p →
    flat b (chainByte l p) = flat a p := by
  induction l with
  | nil => intro a b p h _; simp only [Linked] at h; subst h; rfl
  | cons e l ih =>
    intro a b p h hok
    obtain ⟨h1, h2⟩ := h
    obtain ⟨hwf, hr, hrest⟩ := hok
    rw [chainByte_cons, ih e.slave b _ h2 hrest, (elem_spec e hwf p hr).1, h1]

theorem linked_append (l1 l2 : List Elem) : ∀ (a b c : IfDesc), Linked l1 a b → Linked l2 b c → Linked (l1 ++ l2) a c := by
  induction l1 with
  | nil => intro a b c h1 h2; simp only [Linked] at h1; subst h1; exact h2
  | cons e l ih => intro a b c h1 h2; exact ⟨h1.1, ih _ _ _ h1.2 h2⟩

/-- What one helper of `add_adapter` contributes: nothing (interface unchanged) or one element between the interface
    and the adapted interface, oriented by the direction. -/
def StepShape (m2s : Bool) (i : IfDesc) (l : List Elem) (o : IfDesc) : Prop :=
  (l = [] ∧ o = i) ∨ ∃ k, l = [{ kind := k, master := (orient m2s i o).1, slave := (orient m2s i o).2 }]

theorem widthStep_ok (b : BusDesc) (m2s : Bool) (i : IfDesc) (l : List Elem) (o : IfDesc)
    (h : widthStep b m2s i = .ok (l, o)) :
    (i.dw = b.dw ∧ l = [] ∧ o = i) ∨
    (o = { std := i.std, dw := b.dw, aw := b.aw, byteAddr := i.byteAddr } ∧
      ∃ k, l = [{ kind := k, master := (orient m2s i o).1, slave := (orient m2s i o).2 }] ∧
        (i.std = .wishbone ∧ k = .wbConverter ∧ (orient m2s i o).1.byteAddr = false ∨
         i.std = .axiLite ∧ k = .axlConverter ∨ i.std = .axi ∧ k = .axiConverter)) := by
  unfold widthStep at h
  split at h
  · rename_i hd
    injection h with h; injection h with h1 h2; exact Or.inl ⟨hd, h1.symm, h2.symm⟩
  · cases hs : i.std <;> simp only [hs] at h
    · split at h
      · cases h
      · rename_i hba
        injection h with h; injection h with h1 h2; subst h1 h2
        exact Or.inr ⟨rfl, _, rfl, Or.inl ⟨rfl, rfl, by simpa using hba⟩⟩
    · injection h with h; injection h with h1 h2; subst h1 h2
      exact Or.inr ⟨rfl, _, rfl, Or.inr (Or.inl ⟨rfl, rfl⟩)⟩
    · injection h with h; injection h with h1 h2; subst h1 h2
      exact Or.inr ⟨rfl, _, rfl, Or.inr (Or.inr ⟨rfl, rfl⟩)⟩
    · cases h

theorem addrStep_ok (b : BusDesc) (m2s : Bool) (i : IfDesc) (l : List Elem) (o : IfDesc)
    (h : addrStep b m2s i = .ok (l, o)) :
    (l = [] ∧ o = i) ∨
    (i.byteAddr ≠ busByteAddr b.std ∧ i.std = .wishbone ∧
      o = { std := .wishbone, dw := b.dw, aw := b.aw, byteAddr := busByteAddr b.std } ∧
      l = [{ kind := .wbAddressing, master := (orient m2s i o).1, slave := (orient m2s i o).2 }]) := by
  unfold addrStep at h
  split at h
  · injection h with h; injection h with h1 h2; exact Or.inl ⟨h1.symm, h2.symm⟩
  · split at h
    · injection h with h; injection h with h1 h2; exact Or.inl ⟨h1.symm, h2.symm⟩
    · rename_i hne hstd
      injection h with h; injection h with h1 h2; subst h1 h2
      exact Or.inr ⟨hne, by simpa using hstd, rfl, rfl⟩

theorem stdStep_ok (b : BusDesc) (m2s : Bool) (i : IfDesc) (l : List Elem) (o : IfDesc)
    (h : stdStep b m2s i = .ok (l, o)) :
    (i.std = b.std ∧ l = [] ∧ o = i) ∨
    (o = { std := b.std, dw := b.dw, aw := b.aw, byteAddr := busByteAddr b.std } ∧
      ∃ k, bridgeOf (orient m2s i o).1.std (orient m2s i o).2.std = some k ∧
        l = [{ kind := k, master := (orient m2s i o).1, slave := (orient m2s i o).2 }]) := by
  unfold stdStep at h
  split at h
  · rename_i hs
    injection h with h; injection h with h1 h2; exact Or.inl ⟨hs, h1.symm, h2.symm⟩
  · simp only at h
    split at h
    · cases h
    · rename_i k hk
      split at h
      · cases h
      · split at h
        · cases h
        · injection h with h; injection h with h1 h2; subst h1 h2; exact Or.inr ⟨rfl, k, hk, rfl⟩

theorem widthStep_shape (b : BusDesc) (m2s : Bool) (i : IfDesc) (l : List Elem) (o : IfDesc)
    (h : widthStep b m2s i = .ok (l, o)) : StepShape m2s i l o ∧ o.dw = b.dw := by
  rcases widthStep_ok b m2s i l o h with ⟨hd, hl, rfl⟩ | ⟨rfl, k, hl, -⟩
  · exact ⟨Or.inl ⟨hl, rfl⟩, hd⟩
  · exact ⟨Or.inr ⟨k, hl⟩, rfl⟩

theorem addrStep_shape (b : BusDesc) (m2s : Bool) (i : IfDesc) (l : List Elem) (o : IfDesc)
    (h : addrStep b m2s i = .ok (l, o)) : StepShape m2s i l o ∧ (o.dw = i.dw ∨ o.dw = b.dw) := by
  rcases addrStep_ok b m2s i l o h with ⟨hl, rfl⟩ | ⟨-, -, rfl, hl⟩
  · exact ⟨Or.inl ⟨hl, rfl⟩, Or.inl rfl⟩
  · exact ⟨Or.inr ⟨_, hl⟩, Or.inr rfl⟩

theorem stdStep_shape (b : BusDesc) (m2s : Bool) (i : IfDesc) (l : List Elem) (o : IfDesc)
    (h : stdStep b m2s i = .ok (l, o)) : StepShape m2s i l o ∧ o.std = b.std ∧ (o.dw = i.dw ∨ o.dw = b.dw) := by
  rcases stdStep_ok b m2s i l o h with ⟨hs, hl, rfl⟩ | ⟨rfl, k, -, hl⟩
  · exact ⟨Or.inl ⟨hl, rfl⟩, hs, Or.inl rfl⟩
  · exact ⟨Or.inr ⟨k, hl⟩, rfl, Or.inr rfl⟩

theorem shape_linked_m2s (i o : IfDesc) (l : List Elem) (h : StepShape true i l o) : Linked l i o := by
  rcases h with ⟨rfl, rfl⟩ | ⟨k, rfl⟩
  · rfl
  · exact ⟨rfl, rfl⟩

theorem shape_linked_s2m (i o : IfDesc) (l : List Elem) (h : StepShape false i l o) : Linked l.reverse o i := by
  rcases h with ⟨rfl, rfl⟩ | ⟨k, rfl⟩
  · rfl
  · exact ⟨rfl, rfl⟩

theorem adapterChain_steps (b : BusDesc) (m2s : Bool) (i : IfDesc) (l : List Elem) (o : IfDesc)
    (h : adapterChain b m2s i = .ok (l, o)) :
    ∃ l1 i1 l2 i2 l3, widthStep b m2s i = .ok (l1, i1) ∧ addrStep b m2s i1 = .ok (l2, i2) ∧
      stdStep b m2s i2 = .ok (l3, o) ∧ l = l1 ++ l2 ++ l3 := by
  unfold adapterChain at h
  cases h1 : widthStep b m2s i with
  | error e => simp [h1, bind, Except.bind] at h
  | ok r1 =>
    obtain ⟨l1, i1⟩ := r1
    cases h2 : addrStep b m2s i1 with
    | error e => simp [h1, h2, bind, Except.bind] at h
    | ok r2 =>
      obtain ⟨l2, i2⟩ := r2
      cases h3 : stdStep b m2s i2 with
      | error e => simp [h1, h2, h3, bind, Except.bind] at h
      | ok r3 =>
        obtain ⟨l3, i3⟩ := r3
        simp [h1, h2, h3, bind, Except.bind, pure, Except.pure] at h
        exact ⟨l1, i1, l2, i2, l3, rfl, h2, by rw [h3, h.2], by rw [← h.1, List.append_assoc]⟩

theorem adapterChain_linked (b : BusDesc) (m2s : Bool) (i : IfDesc) (l : List Elem) (o : IfDesc)
    (h : adapterChain b m2s i = .ok (l, o)) :
    Linked (masterToSlave m2s l) (if m2s then i else o) (if m2s then o else i) := by
  obtain ⟨l1, i1, l2, i2, l3, h1, h2, h3, rfl⟩ := adapterChain_steps b m2s i l o h
  have s1 := (widthStep_shape b m2s i l1 i1 h1).1
  have s2 := (addrStep_shape b m2s i1 l2 i2 h2).1
  have s3 := (stdStep_shape b m2s i2 l3 o h3).1
  cases m2s
  · simp only [masterToSlave, Bool.false_eq_true, if_false, List.reverse_append]
    rw [← List.append_assoc]
    exact linked_append _ _ _ _ _ (linked_append _ _ _ _ _ (shape_linked_s2m _ _ _ s3) (shape_linked_s2m _ _ _ s2))
      (shape_linked_s2m _ _ _ s1)
  · simp only [masterToSlave, if_true]
    exact linked_append _ _ _ _ _ (linked_append _ _ _ _ _ (shape_linked_m2s _ _ _ s1) (shape_linked_m2s _ _ _ s2))
      (shape_linked_m2s _ _ _ s3)

/-- The data width is `8 · 2^k`. -/
def PowOk (dw : Nat) : Prop := dw / 8 = 2 ^ lg dw

theorem conv_div' (a c : Nat) : 2 ^ a % 2 ^ c = 0 ∨ 2 ^ c % 2 ^ a = 0 :=
  (Nat.le_total c a).imp two_pow_mod_two_pow two_pow_mod_two_pow

theorem conv_div (a c aw : Nat) (ha : a ≤ aw) : (2 ^ a % 2 ^ c = 0 ∧ 2 ^ aw % 2 ^ a = 0) ∨ 2 ^ c % 2 ^ a = 0 :=
  (conv_div' a c).imp (fun h => ⟨h, two_pow_mod_two_pow ha⟩) id

theorem widthStep_wf (b : BusDesc) (m2s : Bool) (i : IfDesc) (l : List Elem) (o : IfDesc)
    (h : widthStep b m2s i = .ok (l, o)) (hi : PowOk i.dw) (hb : PowOk b.dw) (haw : i.aw = b.aw)
    (hli : lg i.dw ≤ b.aw) (hlb : lg b.dw ≤ b.aw) :
    (∀ e ∈ l, e.WF) ∧ o.std = i.std ∧ o.byteAddr = i.byteAddr ∧ o.dw = b.dw ∧ o.aw = b.aw := by
  have pi : 0 < 2 ^ lg i.dw := Nat.pow_pos (by decide)
  have pb : 0 < 2 ^ lg b.dw := Nat.pow_pos (by decide)
  unfold PowOk at hi hb
  rcases widthStep_ok b m2s i l o h with ⟨hd, rfl, rfl⟩ | ⟨rfl, k, rfl, hk⟩
  · exact ⟨by simp, rfl, rfl, hd, haw⟩
  · refine ⟨?_, rfl, rfl, rfl, rfl⟩
    simp only [List.mem_singleton, forall_eq]
    -- both word sizes are powers of two, so one divides the other; the wide one divides the address space
    rcases hk with ⟨hs, rfl, hba⟩ | ⟨hs, rfl⟩ | ⟨hs, rfl⟩
    · cases m2s <;> simp [orient] at hba <;>
        simp [Elem.WF, orient, IfDesc.nb, IfDesc.wordAddr, hs, hi, hb, haw, pi, pb, hba, conv_div', hli, hlb]
    · cases m2s <;> simp [Elem.WF, orient, IfDesc.nb, IfDesc.wordAddr, hs, hi, hb, haw, pi, pb]
      · exact conv_div _ _ _ hlb
      · exact conv_div _ _ _ hli
    · cases m2s <;> simp [Elem.WF, orient, IfDesc.nb, IfDesc.wordAddr, hs, hi, hb, haw, pi, pb]
      · exact conv_div _ _ _ hlb
      · exact conv_div _ _ _ hli

theorem addrStep_wf (b : BusDesc) (m2s : Bool) (i : IfDesc) (l : List Elem) (o : IfDesc)
    (h : addrStep b m2s i = .ok (l, o)) (hb : PowOk b.dw) (hlb : lg b.dw ≤ b.aw) (hdw : i.dw = b.dw) (haw : i.aw = b.aw) :
    (∀ e ∈ l, e.WF) ∧ o.dw = b.dw ∧ o.aw = b.aw := by
  have pb : 0 < 2 ^ lg b.dw := Nat.pow_pos (by decide)
  unfold PowOk at hb
  rcases addrStep_ok b m2s i l o h with ⟨rfl, rfl⟩ | ⟨hne, hs, rfl, rfl⟩
  · exact ⟨by simp, hdw, haw⟩
  · refine ⟨?_, rfl, rfl⟩
    simp only [List.mem_singleton, forall_eq]
    cases m2s <;> cases hba : i.byteAddr <;> cases hbb : busByteAddr b.std <;> simp [hba, hbb] at hne <;>
      simp [Elem.WF, orient, IfDesc.nb, hs, hb, hdw, haw, pb, hba, hlb]

theorem stdStep_wf (b : BusDesc) (m2s : Bool) (i : IfDesc) (l : List Elem) (o : IfDesc)
    (h : stdStep b m2s i = .ok (l, o)) (hb : PowOk b.dw) (hlb : lg b.dw ≤ b.aw) (hdw : i.dw = b.dw) (haw : i.aw = b.aw) :
    ∀ e ∈ l, e.WF := by
  have pb : 0 < 2 ^ lg b.dw := Nat.pow_pos (by decide)
  unfold PowOk at hb
  rcases stdStep_ok b m2s i l o h with ⟨-, rfl, rfl⟩ | ⟨rfl, k, hk, rfl⟩
  · simp
  · simp only [List.mem_singleton, forall_eq]
    -- the table entry fixes the kind from the two standards; widths are the bus's on both sides
    cases m2s <;> simp only [orient, Bool.false_eq_true, if_false, if_true] at hk ⊢ <;>
      cases hs : b.std <;> cases hi : i.std <;> simp [hs, hi, bridgeOf] at hk <;> subst hk <;>
      simp [Elem.WF, IfDesc.nb, IfDesc.wordAddr, hi, hb, hdw, haw, pb, hlb]

theorem adapterChain_wf (b : BusDesc) (m2s : Bool) (i : IfDesc) (l : List Elem) (o : IfDesc)
    (h : adapterChain b m2s i = .ok (l, o)) (hi : PowOk i.dw) (hb : PowOk b.dw) (haw : i.aw = b.aw)
    (hli : lg i.dw ≤ b.aw) (hlb : lg b.dw ≤ b.aw) : ∀ e ∈ l, e.WF := by
  obtain ⟨l1, i1, l2, i2, l3, h1, h2, h3, rfl⟩ := adapterChain_steps b m2s i l o h
  obtain ⟨w1, _, _, d1, a1⟩ := widthStep_wf b m2s i l1 i1 h1 hi hb haw hli hlb
  obtain ⟨w2, d2, a2⟩ := addrStep_wf b m2s i1 l2 i2 h2 hb hlb d1 a1
  have w3 := stdStep_wf b m2s i2 l3 o h3 hb hlb d2 a2
  intro e he
  simp only [List.mem_append] at he
  rcases he with (he | he) | he
  · exact w1 e he
  · exact w2 e he
  · exact w3 e he

/- `chain_preserves_byte` assumes the range at every port it crosses (`ChainOk`); here it is derived from the range at the
   master end. -/
theorem chain_preserves_byte_wf (l : List Elem) : ∀ (a b : IfDesc) (p : Nat × Nat), Linked l a b → (∀ e ∈ l, e.WF) →
    InRange a p → flat b (chainByte l p) = flat a p ∧ InRange b (chainByte l p) := by
  induction l with
  | nil => intro a b p h _ hr; simp only [Linked] at h; subst h; exact ⟨rfl, hr⟩
  | cons e l ih =>
    intro a b p h hwf hr
    obtain ⟨h1, h2⟩ := h
    have hw : e.WF := hwf e (by simp)
    rw [← h1] at hr
    have hr' := (elem_spec e hw p hr).2
    obtain ⟨g1, g2⟩ := ih e.slave b (elemByte e p) h2 (fun e' he' => hwf e' (by simp [he'])) hr'
    rw [chainByte_cons]
    exact ⟨by rw [g1, (elem_spec e hw p hr).1, h1], g2⟩

end Litex.Bridge.Adapter
