import LitexModel.Bridge.Closed
import LitexProofs.Bridge.Down
/-
  Down-converter against an ARBITRARY narrow partner: stability of everything it raises towards the slave and
  the sticky first error.  As in `Down.lean`, one lemma per path over its components (FSM state, the observers of the
  two ports, the response log), with the other path's signals on the shared ports as variables: each path guarantees
  its own channels of the narrow port, and whatever contains the path (alone, or the chain with AXILite2Wishbone)
  instantiates the lemma.
-/
namespace Litex.Bridge

theorem firstErr_append (l : List Nat) (x : Nat) :
    firstErr (l ++ [x]) = if firstErr l == respOkay && x != respOkay then x else firstErr l := by
  unfold firstErr
  rw [List.find?_append]
  cases h : l.find? (fun r => r != respOkay) with
  | some y =>
    have hy := List.find?_some h
    simp only [bne_iff_ne, ne_eq] at hy
    simp [hy]
  | none =>
    by_cases hx : x = 0 <;> simp [hx, respOkay]

theorem firstErr_nil : firstErr [] = respOkay := rfl

namespace DownW
variable (c : DownCfg)

/-- A narrow AW / W still pending is sub-word `counter` of the wide write the master holds; per state: what is
    known of the wide port and of the response log. -/
def OInv (br : DownWState) (g h : AxlGhost Unit) (log : List Nat) : Prop :=
  (∀ x, h.heldAW = some x → br.st = .convert ∧ br.awReady = false ∧
    ∀ a w, g.heldAW = some a → g.heldW = some w →
      ss c w.2 br.counter ≠ 0 ∧ x = c.subAddr a br.counter) ∧
  (∀ x, h.heldW = some x → br.st = .convert ∧ br.wReady = false ∧
    ∀ w, g.heldW = some w →
      ss c w.2 br.counter ≠ 0 ∧ x = (sd c w.1 br.counter, ss c w.2 br.counter)) ∧
  match br.st with
  | .idle => g.heldB = none ∧ br.awReady = false ∧ br.wReady = false ∧ log = []
  | .convert | .respSlave =>
    g.heldB = none ∧ br.resp = firstErr log ∧ ∃ a w, g.heldAW = some a ∧ g.heldW = some w
  | .respMaster => br.resp = firstErr log ∧ (g.heldB = none ∨ g.heldB = some br.resp)

theorem oinv_init : OInv c init (AxlGhost.init ()) (AxlGhost.init ()) [] := by
  simp [OInv, init, AxlGhost.init]

/-- Narrow AW / W are repeated unchanged until accepted; the wide B is repeated until taken and carries the first
    non-OKAY narrow response of this write (OKAY if there was none). -/
def OGood (g h : AxlGhost Unit) (log : List Nat) (o : AxlS) (q : AxlM) : Prop :=
  (∀ a, h.heldAW = some a → q.awvalid = true ∧ q.awaddr = a) ∧
  (∀ d, h.heldW = some d → q.wvalid = true ∧ (q.wdata, q.wstrb) = d) ∧
  (∀ r, g.heldB = some r → o.bvalid = true ∧ o.bresp = r) ∧
  (o.bvalid = true → o.bresp = firstErr log)

theorem toSlave_awvalid (s : DownWState) (m : AxlM) (r : AxlS) :
    (toSlave c s m r).awvalid = true ↔ s.st = .convert ∧ skip c s m = false ∧ s.awReady = false := by
  cases h : s.st <;> simp [toSlave, h, AxlM.idle]
theorem toSlave_wvalid (s : DownWState) (m : AxlM) (r : AxlS) :
    (toSlave c s m r).wvalid = true ↔ s.st = .convert ∧ skip c s m = false ∧ s.wReady = false := by
  cases h : s.st <;> simp [toSlave, h, AxlM.idle]

theorem ostep (br : DownWState) (g h : AxlGhost Unit) (log : List Nat) (m : AxlM) (r x : AxlS) (y : AxlM)
    (hinv : OInv c br g h log)
    (hAW : ∀ a, g.heldAW = some a → m.awvalid = true ∧ m.awaddr = a)
    (hW : ∀ d, g.heldW = some d → m.wvalid = true ∧ (m.wdata, m.wstrb) = d) :
    OGood g h log (toMaster c br m r) (toSlave c br m r) ∧
    OInv c (next c br m r) (g.next (fun _ _ _ _ => ()) m ((toMaster c br m r).merge x))
      (h.next (fun _ _ _ _ => ()) ((toSlave c br m r).merge y) r)
      (if (next c br m r).st == .idle then [] else if r.bvalid && (toSlave c br m r).bready then log ++ [r.bresp]
       else log) := by
  obtain ⟨hcAW, hcW, hinv⟩ := hinv
  -- while a wide write is being converted the master shows the AW and W it holds
  have hcur : br.st = .convert ∨ br.st = .respSlave →
      g.heldB = none ∧ br.resp = firstErr log ∧
      m.awvalid = true ∧ m.wvalid = true ∧ g.heldAW = some m.awaddr ∧ g.heldW = some (m.wdata, m.wstrb) := by
    intro h
    have : g.heldB = none ∧ br.resp = firstErr log ∧ ∃ a w, g.heldAW = some a ∧ g.heldW = some w := by
      rcases h with h | h <;> simpa only [h] using hinv
    obtain ⟨h1, h2, a, w, h3, h4⟩ := this
    obtain ⟨hv, rfl⟩ := hAW a h3
    obtain ⟨hw, rfl⟩ := hW w h4
    exact ⟨h1, h2, hv, hw, h3, h4⟩
  refine ⟨⟨fun a ha => ?_, fun d hd => ?_, ?_, ?_⟩, ?_, ?_, ?_⟩
  · obtain ⟨h1, h2, h3⟩ := hcAW a ha
    obtain ⟨-, -, -, -, k1, k2⟩ := hcur (Or.inl h1)
    obtain ⟨h4, rfl⟩ := h3 _ _ k1 k2
    simp [toSlave, skip, subStrb_eq, h1, h2, h4]
  · obtain ⟨h1, h2, h3⟩ := hcW d hd
    obtain ⟨-, -, -, -, k1, k2⟩ := hcur (Or.inl h1)
    obtain ⟨h4, rfl⟩ := h3 _ k2
    simp [toSlave, skip, subStrb_eq, subData_eq, h1, h2, h4]
  · intro r hr
    rcases hst : br.st <;> simp only [hst] at hinv
    · simp [hinv.1] at hr
    · simp [hinv.1] at hr
    · simp [hinv.1] at hr
    · rcases hinv.2 with h | h <;> rw [h] at hr
      · cases hr
      · simpa [toMaster, hst] using hr
  · rcases hst : br.st <;> simp only [hst] at hinv <;> simp [toMaster, hst, hinv.1, AxlS.idle]
  · simp only [AxlS.merge_fields, AxlM.merge_fields, AxlGhost.next_heldAW, AxlGhost.next_heldW, forall_held, toSlave_awvalid]
    rintro ⟨hst, hsk, har⟩ hrdy
    obtain ⟨-, -, hv, hw, -, -⟩ := hcur (Or.inl hst)
    have hne : ss c m.wstrb br.counter ≠ 0 := by simpa [skip, subStrb_eq] using hsk
    simp [next, nextFsm, reset, toSlave, toMaster, hst, hsk, hne, har, hrdy, hv, hw]
  · simp only [AxlS.merge_fields, AxlM.merge_fields, AxlGhost.next_heldW, forall_held, toSlave_wvalid]
    rintro ⟨hst, hsk, hwr⟩ hrdy
    obtain ⟨-, -, hv, hw, -, -⟩ := hcur (Or.inl hst)
    have hne : ss c m.wstrb br.counter ≠ 0 := by simpa [skip, subStrb_eq] using hsk
    simp [next, nextFsm, reset, toSlave, toMaster, subStrb_eq, subData_eq, hst, hsk, hne, hwr, hrdy, hv, hw]
  · simp only [AxlS.merge_fields, AxlGhost.next_heldAW, AxlGhost.next_heldW, AxlGhost.next_heldB]
    rcases hst : br.st <;> simp only [hst] at hinv
    · obtain ⟨h1, h2, h3, h4⟩ := hinv
      cases hv : m.awvalid <;> cases hw : m.wvalid <;>
        simp [next, nextFsm, reset, init, toSlave, toMaster, hst, hv, hw, h2, h3, h4, AxlS.idle, AxlM.idle, firstErr_nil]
    · obtain ⟨h1, h2, hv, hw, -, -⟩ := hcur (Or.inl hst)
      cases hsk : skip c br m <;> cases hl : lastWord c br <;>
        cases hb : (r.awready || br.awReady) && (r.wready || br.wReady) <;>
        simp [next, nextFsm, reset, toSlave, toMaster, hst, hv, hw, hsk, hl, hb, h2, AxlS.idle, AxlM.idle]
    · obtain ⟨h1, h2, hv, hw, -, -⟩ := hcur (Or.inr hst)
      cases hb : r.bvalid <;> cases hl : lastWord c br <;>
        simp [next, nextFsm, reset, toSlave, toMaster, hst, hv, hw, hb, hl, h2, AxlS.idle, AxlM.idle, firstErr_append]
    · obtain ⟨h1, h2⟩ := hinv
      rcases h2 with h2 | h2 <;> cases hb : m.bready <;>
        simp [next, nextFsm, reset, toSlave, toMaster, hst, hb, h1, AxlS.idle, AxlM.idle]

/-- Alone on the narrow port, the write path adds only that no AR is ever raised. -/
def OAlone (s : OSys) : Prop := OInv c s.br s.g s.h s.log ∧ s.h.heldAR = none

theorem oalone_init : OAlone c (osys c).init := ⟨oinv_init c, rfl⟩

theorem oalone_step (s : OSys) (i : AxlM × AxlS) (hinv : OAlone c s) (hok : s.g.reqHeld i.1) :
    OGood s.g s.h s.log (toMaster c s.br i.1 i.2) (toSlave c s.br i.1 i.2) ∧ OAlone c ((osys c).next s i) := by
  obtain ⟨wG, wI⟩ :=
    ostep c s.br s.g s.h s.log i.1 i.2 (toMaster c s.br i.1 i.2) (toSlave c s.br i.1 i.2) hinv.1 hok.1 hok.2.1
  rw [AxlS.merge_self, AxlM.merge_self] at wI
  exact ⟨wG, wI, by simp [osys, AxlGhost.next_heldAR, toSlave_arvalid]⟩

end DownW

namespace DownR
variable (c : DownCfg)

def OInv (br : DownRState) (g h : AxlGhost Unit) (log : List Nat) : Prop :=
  match br.st with
  | .idle => h.heldAR = none ∧ log = []
  | .convert =>
    br.resp = firstErr log ∧
    ∃ a, g.heldAR = some a ∧ (h.heldAR = none ∨ h.heldAR = some (c.subAddr a br.counter))
  | .respSlave => h.heldAR = none ∧ br.resp = firstErr log ∧ ∃ a, g.heldAR = some a
  | .respMaster => h.heldAR = none ∧ br.resp = firstErr log

theorem oinv_init : OInv c init (AxlGhost.init ()) (AxlGhost.init ()) [] := by
  simp [OInv, init, AxlGhost.init]

/-- The narrow AR is repeated unchanged until accepted; the wide R carries the first non-OKAY narrow response of
    this read (OKAY if there was none). -/
def OGood (h : AxlGhost Unit) (log : List Nat) (o : AxlS) (q : AxlM) : Prop :=
  (∀ a, h.heldAR = some a → q.arvalid = true ∧ q.araddr = a) ∧ (o.rvalid = true → o.rresp = firstErr log)

theorem ostep (br : DownRState) (g h : AxlGhost Unit) (log : List Nat) (m : AxlM) (r x : AxlS) (y : AxlM)
    (hinv : OInv c br g h log) (hAR : ∀ a, g.heldAR = some a → m.arvalid = true ∧ m.araddr = a) :
    OGood h log (toMaster c br m r) (toSlave c br m r) ∧
    OInv c (next c br m r) (g.next (fun _ _ _ _ => ()) m (x.merge (toMaster c br m r)))
      (h.next (fun _ _ _ _ => ()) (y.merge (toSlave c br m r)) r)
      (if (next c br m r).st == .idle then [] else if br.st == .respSlave && r.rvalid then log ++ [r.rresp] else log) := by
  simp only [OGood, OInv, AxlS.merge_fields, AxlM.merge_fields, AxlGhost.next_heldAR]
  rcases hst : br.st <;> simp only [OInv, hst] at hinv
  · obtain ⟨h1, h2⟩ := hinv
    cases hv : m.arvalid <;>
      simp [toSlave, toMaster, next, nextFsm, reset, init, hst, hv, h1, h2, AxlM.idle, AxlS.idle, firstErr_nil]
  · obtain ⟨h1, a, h2, h3⟩ := hinv
    obtain ⟨hv, ha⟩ := hAR a h2
    rcases h3 with h3 | h3 <;> cases hr : r.arready <;>
      simp [toSlave, toMaster, next, nextFsm, reset, hst, hv, ha, h1, h3, hr, AxlM.idle, AxlS.idle]
  · obtain ⟨h1, h2, a, h3⟩ := hinv
    obtain ⟨hv, ha⟩ := hAR a h3
    cases hr : r.rvalid <;> cases hl : lastWord c br <;>
      simp [toSlave, toMaster, next, nextFsm, reset, hst, hv, ha, h1, h2, hr, hl, AxlM.idle, AxlS.idle,
        firstErr_append]
  · obtain ⟨h1, h2⟩ := hinv
    cases hr : m.rready <;>
      simp [toSlave, toMaster, next, nextFsm, reset, hst, h1, h2, hr, AxlM.idle, AxlS.idle]

/-- Alone on the narrow port, the read path adds only that no AW or W is ever raised. -/
def OAlone (s : OSys) : Prop := OInv c s.br s.g s.h s.log ∧ s.h.heldAW = none ∧ s.h.heldW = none

theorem oalone_init : OAlone c (osys c).init := ⟨oinv_init c, rfl, rfl⟩

theorem oalone_step (s : OSys) (i : AxlM × AxlS) (hinv : OAlone c s) (hok : s.g.reqHeld i.1) :
    OGood s.h s.log (toMaster c s.br i.1 i.2) (toSlave c s.br i.1 i.2) ∧ OAlone c ((osys c).next s i) := by
  obtain ⟨rG, rI⟩ :=
    ostep c s.br s.g s.h s.log i.1 i.2 (toMaster c s.br i.1 i.2) (toSlave c s.br i.1 i.2) hinv.1 hok.2.2
  rw [AxlS.merge_self, AxlM.merge_self] at rI
  obtain ⟨q1, q2⟩ := toSlave_wside c s.br i.1 i.2
  exact ⟨rG, rI, by simp [osys, AxlGhost.next_heldAW, AxlGhost.next_heldW, q1, q2]⟩

end DownR
end Litex.Bridge
