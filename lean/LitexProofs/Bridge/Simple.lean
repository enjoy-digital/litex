import LitexModel.Bridge.Closed
import LitexProofs.Bridge.Ghost
/-
  Proofs for `axi_lite_to_simple` (AXILiteSRAM, AXILite2CSR): the invariant of front end ∥ observer, once, over what sits
  behind the simple port.  The back end enters through its store (`bw`: what a write strobe does to it, `br`: the word
  at a port address) and two facts about one cycle; the byte memory read through a registered address and the register
  file read into a data register both satisfy them.
-/
namespace Litex.Bridge
open Litex Litex.Bridge

namespace Simple
variable (c : SimpleCfg) {ρ : Type} (br : ρ → Nat → Nat) (bw : ρ → Nat → Nat → Nat → ρ)

def rdOf : RdFn ρ := fun r a => br r (portAdrOf c a)
def wrOf : WrFn ρ := fun r a st d => bw r (portAdrOf c a) st d

/-- `store`: content behind the port; `datr`: what the port's `dat_r` shows in this cycle. -/
def FeInv (fe : SimpleState) (g : AxlGhost ρ) (store : ρ) (datr : Nat) : Prop :=
  match fe.st with
  | .start  => g.pendAW = none ∧ g.pendW = none ∧ g.pendAR = none ∧ g.heldB = none ∧ g.heldR = none ∧ store = g.ref
  | .waitW  => g.pendW = none ∧ g.pendAR = none ∧ g.heldB = none ∧ g.heldR = none ∧ store = g.ref ∧
               ∃ a, g.pendAW = some a ∧ fe.adrReg = portAdrOf c a
  | .latchR => g.pendAW = none ∧ g.pendW = none ∧ g.heldB = none ∧ g.heldR = none ∧ store = g.ref ∧
               ∃ a, g.pendAR = some a ∧ datr = br g.ref (portAdrOf c a)
  | .sendR  => g.pendAW = none ∧ g.pendW = none ∧ g.heldB = none ∧ store = g.ref ∧
               (g.heldR = none ∨ g.heldR = some (respOkay, fe.latched)) ∧
               ∃ a, g.pendAR = some a ∧ fe.latched = br g.ref (portAdrOf c a)
  | .sendB  => g.pendAR = none ∧ g.heldR = none ∧ (g.heldB = none ∨ g.heldB = some respOkay) ∧
               ∃ a w, g.pendAW = some a ∧ g.pendW = some w ∧ store = bw g.ref (portAdrOf c a) w.2 w.1

theorem feInv_init (r : ρ) (datr : Nat) : FeInv c br bw init (AxlGhost.init r) r datr := by
  simp [FeInv, init, AxlGhost.init]

def FeGood (fe : SimpleState) (g : AxlGhost ρ) (store : ρ) (m : AxlM) : Prop :=
  g.rspHeld (toMaster fe m) ∧ g.memOk (rdOf c br) m (toMaster fe m) ∧ (fe.st ≠ .sendB → store = g.ref)

/-- `store'` / `datr'`: the back end's content and read data in the next cycle.  Nothing is assumed of the master: the
    front end accepts or latches in the cycle of the valid. -/
theorem fe_step (fe : SimpleState) (g : AxlGhost ρ) (store store' : ρ) (datr datr' : Nat) (m : AxlM)
    (hinv : FeInv c br bw fe g store datr)
    (hs : store' = if (port c fe m).wr then bw store (port c fe m).adr (port c fe m).strb (port c fe m).datw else store)
    (hd : (port c fe m).wr = false → datr' = br store (port c fe m).adr) :
    FeGood c br fe g store m ∧
      FeInv c br bw (next c fe m datr) (g.next (wrOf c bw) m (toMaster fe m)) store' datr' := by
  subst hs
  simp only [FeInv, FeGood, rdOf, wrOf, AxlGhost.rspHeld, AxlGhost.memOk, AxlGhost.next_heldB, AxlGhost.next_heldR,
    AxlGhost.next_pendAW, AxlGhost.next_pendW, AxlGhost.next_pendAR, AxlGhost.next_ref]
  rcases hst : fe.st <;> simp only [FeInv, hst] at hinv <;>
    simp only [toMaster, port, next, doWrite, doRead, hst, AxlS.idle] at hd ⊢
  · -- START-TRANSACTION: the arbiter accepts one of AW (with W if it is shown: the store is written now) and AR (the back
    -- end is given the address now: `hd`)
    obtain ⟨h1, h2, h3, h4, h5, h6⟩ := hinv
    rcases Bool.eq_false_or_eq_true m.awvalid with hv | hv <;> rcases Bool.eq_false_or_eq_true m.arvalid with hr | hr <;>
      rcases Bool.eq_false_or_eq_true fe.lastRd with hl | hl <;> rcases Bool.eq_false_or_eq_true m.wvalid with hw | hw <;>
      simp [hst, hv, hr, hl, hw, h1, h2, h3, h4, h5, h6] at hd ⊢ <;> exact hd
  · -- WAIT-FOR-WRITE-DATA: AW is pending, its port address in `adrReg`; W is accepted, and written, when shown
    obtain ⟨h1, h2, h3, h4, h5, a, h6, h7⟩ := hinv
    cases hw : m.wvalid <;> simp [hst, h1, h2, h3, h4, h5, h6, h7]
  · -- LATCH-READ-RESPONSE: `dat_r` shows the word of the pending AR in this cycle and is latched
    obtain ⟨h1, h2, h3, h4, h5, a, h6, h7⟩ := hinv
    simp [h1, h2, h3, h4, h5, h6, h7]
  · -- SEND-READ-RESPONSE: R carries the latched word until taken
    obtain ⟨h1, h2, h3, h4, h5, a, h6, h7⟩ := hinv
    rcases h5 with h5 | h5 <;> cases hr : m.rready <;> simp [h1, h2, h3, h4, h5, h6, h7, respOkay]
  · -- SEND-WRITE-RESPONSE: the store is one write ahead; the reference takes the write when B is taken
    obtain ⟨h1, h2, h3, a, w, h4, h5, h6⟩ := hinv
    rcases h3 with h3 | h3 <;> cases hb : m.bready <;> simp [h1, h2, h3, h4, h5, h6, respOkay]

end Simple

namespace AxlSramM
variable (c : SimpleCfg)

def Inv (s : Sys) : Prop :=
  Simple.FeInv c (Mem.readWord · c.nb) (Mem.writeWord · c.nb) s.fe s.g s.mem (s.mem.readWord c.nb s.radr)

theorem step (s : Sys) (m : AxlM) (hinv : Inv c s) :
    Simple.FeGood c (Mem.readWord · c.nb) s.fe s.g s.mem m ∧ Inv c ((sys c s.g.ref).next s m) :=
  Simple.fe_step c _ _ s.fe s.g s.mem _ _ _ m hinv rfl (fun h => by simp only [sys, h, Bool.false_eq_true, if_false])

end AxlSramM

namespace Axl2Csr
variable (c : SimpleCfg)

/-- The register file behind the CSR port: a write with any strobe bit replaces the register.  The model's `regWr c` /
    `regRd c` are `Simple.wrOf c regBw` / `Simple.rdOf c (fun r k => r k)` by unfolding, as `byteWr` / `byteRd` at
    `portAdrOf c` are those of `Mem.writeWord · c.nb` / `Mem.readWord · c.nb`; `step` below relies on it. -/
def regBw (r : Regs) (k st d : Nat) : Regs := if st != 0 then (fun j => if j = k then d else r j) else r

def Inv (s : Sys) : Prop := Simple.FeInv c (fun r k => r k) regBw s.fe s.g s.regs s.rword

theorem step (s : Sys) (m : AxlM) (hinv : Inv c s) :
    Simple.FeGood c (fun r k => r k) s.fe s.g s.regs m ∧ Inv c ((sys c s.g.ref).next s m) :=
  Simple.fe_step c _ _ s.fe s.g s.regs _ _ _ m hinv
    (by rcases Bool.eq_false_or_eq_true (Simple.port c s.fe m).wr with h | h <;> simp only [sys, toSlave, h] <;> rfl)
    (fun _ => rfl)

end Axl2Csr

end Litex.Bridge
