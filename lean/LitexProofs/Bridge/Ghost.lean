import LitexModel.Bridge.Spec
/-
  What one cycle does to each field of the port observers.  The step lemmas of the bridges rewrite with these
  instead of unfolding `AxlGhost.next` / `WbGhost.next` into a nine-field record.
-/
namespace Litex.Bridge

/-- With this, an invariant clause about a held valid is re-established without splitting on the handshake: the
    open-system lemmas of the bridges with several request channels (`Wb2Axl.ostep`, `DownW.ostep`) say once when a valid
    is raised (`toSlave_awvalid` …: `valid ↔ state ∧ flag`). -/
theorem forall_held {α : Type} (v rdy : Bool) (p : α) (Q : α → Prop) :
    (∀ x, (if v && !rdy then some p else none) = some x → Q x) ↔ (v = true → rdy = false → Q p) := by
  cases v <;> cases rdy <;> simp

namespace AxlGhost
variable {ρ : Type} (wr : WrFn ρ) (g : AxlGhost ρ) (m : AxlM) (s : AxlS)

theorem next_heldAW : (g.next wr m s).heldAW = if m.awvalid && !s.awready then some m.awaddr else none := rfl
theorem next_heldW :
    (g.next wr m s).heldW = if m.wvalid && !s.wready then some (m.wdata, m.wstrb) else none := rfl
theorem next_heldAR : (g.next wr m s).heldAR = if m.arvalid && !s.arready then some m.araddr else none := rfl
theorem next_heldB : (g.next wr m s).heldB = if s.bvalid && !m.bready then some s.bresp else none := rfl
theorem next_heldR :
    (g.next wr m s).heldR = if s.rvalid && !m.rready then some (s.rresp, s.rdata) else none := rfl
theorem next_pendAW :
    (g.next wr m s).pendAW =
      if m.awvalid && s.awready then some m.awaddr else if s.bvalid && m.bready then none else g.pendAW := rfl
theorem next_pendW :
    (g.next wr m s).pendW =
      if m.wvalid && s.wready then some (m.wdata, m.wstrb) else if s.bvalid && m.bready then none else g.pendW := rfl
theorem next_pendAR :
    (g.next wr m s).pendAR =
      if m.arvalid && s.arready then some m.araddr else if s.rvalid && m.rready then none else g.pendAR := rfl
theorem next_ref :
    (g.next wr m s).ref =
      if s.bvalid && m.bready && s.bresp == respOkay then
        (match g.pendAW, g.pendW with
         | some a, some (d, st) => wr g.ref a st d
         | _, _ => g.ref)
      else g.ref := rfl

end AxlGhost

namespace WbGhost
variable (nb : Nat) (amap : Nat → Nat) (g : WbGhost) (m : WbM) (s : WbS)

theorem next_held : (g.next nb amap m s).held = if m.active && !s.ack then some m else none := rfl
theorem next_ref :
    (g.next nb amap m s).ref =
      if m.active && s.ack && !s.err && m.we then g.ref.writeWord nb (amap m.adr) m.sel m.datw else g.ref := rfl

end WbGhost
end Litex.Bridge
