import LitexModel.Bridge.ClosedRW
import LitexProofs.Bridge.Ghost
/-
  The two paths of the AXI-Lite down-converter in front of a narrow AXI-Lite byte memory of arbitrary timing, each as a
  lemma over its components (FSM state, partner, observer of the wide port) with the signals the OTHER path drives on the
  two shared ports left as variables (`x`, `y`, merged in as `Down.toMaster` / `Down.toSlave` wire them).  The invariants
  read only their own side of partner and observer, so every system that contains a path instantiates its lemma: both
  paths in front of ONE memory need nothing beyond the conjunction of the two invariants (the memory window
  `Down.Window` is a consequence of the write path's: `window_of_inv`); the write path alone (`DownW.Alone`) only adds that no R is
  ever presented; the read path alone (`DownR.alone_step`) is the case of a snapshot that never changes, because nobody
  writes.
  Write path (`DownW`): every sub-word write reaches the memory, in order.  Read path (`DownR`): the shift register is
  flushed by `ratio` narrow reads, each taken from the memory as it is when the partner executes it (`snap`).
-/
namespace Litex.Bridge
open Litex Litex.Bridge

/-- Write-side signals of `w`, read-side signals of `r`: how `AXILiteDownConverter` wires its two paths to one port. -/
def AxlS.merge (w r : AxlS) : AxlS :=
  { w with arready := r.arready, rvalid := r.rvalid, rresp := r.rresp, rdata := r.rdata }
def AxlM.merge (w r : AxlM) : AxlM := { w with arvalid := r.arvalid, araddr := r.araddr, rready := r.rready }

/- `simp` takes these conjunctions of equations as so many rewrite rules. -/
theorem AxlS.merge_fields (w r : AxlS) :
    (w.merge r).awready = w.awready ∧ (w.merge r).wready = w.wready ∧ (w.merge r).bvalid = w.bvalid ∧
    (w.merge r).bresp = w.bresp ∧ (w.merge r).arready = r.arready ∧ (w.merge r).rvalid = r.rvalid ∧
    (w.merge r).rresp = r.rresp ∧ (w.merge r).rdata = r.rdata := ⟨rfl, rfl, rfl, rfl, rfl, rfl, rfl, rfl⟩

theorem AxlM.merge_fields (w r : AxlM) :
    (w.merge r).awvalid = w.awvalid ∧ (w.merge r).awaddr = w.awaddr ∧ (w.merge r).wvalid = w.wvalid ∧
    (w.merge r).wdata = w.wdata ∧ (w.merge r).wstrb = w.wstrb ∧ (w.merge r).bready = w.bready ∧
    (w.merge r).arvalid = r.arvalid ∧ (w.merge r).araddr = r.araddr ∧ (w.merge r).rready = r.rready :=
  ⟨rfl, rfl, rfl, rfl, rfl, rfl, rfl, rfl, rfl⟩

theorem Down.toMaster_eq_merge (c : DownCfg) (w : DownWState) (r : DownRState) (m : AxlM) (a : AxlS) :
    Down.toMaster c (w, r) m a = (DownW.toMaster c w m a).merge (DownR.toMaster c r m a) := rfl
theorem Down.toSlave_eq_merge (c : DownCfg) (w : DownWState) (r : DownRState) (m : AxlM) (a : AxlS) :
    Down.toSlave c (w, r) m a = (DownW.toSlave c w m a).merge (DownR.toSlave c r m a) := rfl
theorem AxlS.merge_self (w : AxlS) : w.merge w = w := rfl
theorem AxlM.merge_self (w : AxlM) : w.merge w = w := rfl

namespace DownW
variable (c : DownCfg)

/-- CONVERT: `awReady` / `wReady` say which of the narrow AW / W of sub-word `counter` the partner already has; never both
    (the FSM then is in RESP-SLAVE), and neither for a sub-word with an all-zero strobe, which is skipped without being
    issued (the acceptance latch as repaired in f8f7de0, see the model's header). -/
def WInv (br : DownWState) (p : AxlMemState) (g : AxlGhost Mem) : Prop :=
  br.resp = respOkay ∧
  match br.st with
  | .idle =>
    br.awReady = false ∧ br.wReady = false ∧ p.awq = [] ∧ p.wq = [] ∧ p.bq = [] ∧ p.mem = g.ref ∧
    g.pendAW = none ∧ g.pendW = none ∧ g.heldB = none
  | .convert =>
    br.counter < c.ratio ∧ p.bq = [] ∧ g.pendAW = none ∧ g.pendW = none ∧ g.heldB = none ∧
    ∃ a w, g.heldAW = some a ∧ g.heldW = some w ∧
      p.mem = subWrites c a w.1 w.2 br.counter g.ref ∧
      p.awq = (if br.awReady then [c.subAddr a br.counter] else []) ∧
      p.wq = (if br.wReady then [(sd c w.1 br.counter, ss c w.2 br.counter)] else []) ∧
      (br.awReady && br.wReady) = false ∧
      ((ss c w.2 br.counter == 0) = true → br.awReady = false ∧ br.wReady = false)
  | .respSlave =>
    br.counter < c.ratio ∧ g.pendAW = none ∧ g.pendW = none ∧ g.heldB = none ∧
    ∃ a w, g.heldAW = some a ∧ g.heldW = some w ∧ (ss c w.2 br.counter == 0) = false ∧
      ((p.awq = [c.subAddr a br.counter] ∧ p.wq = [(sd c w.1 br.counter, ss c w.2 br.counter)] ∧
          p.bq = [] ∧ p.mem = subWrites c a w.1 w.2 br.counter g.ref) ∨
       (p.awq = [] ∧ p.wq = [] ∧ p.bq = [respOkay] ∧
          p.mem = subWrites c a w.1 w.2 (br.counter + 1) g.ref))
  | .respMaster =>
    p.awq = [] ∧ p.wq = [] ∧ p.bq = [] ∧ (g.heldB = none ∨ g.heldB = some respOkay) ∧
    ∃ a w, g.pendAW = some a ∧ g.pendW = some w ∧ p.mem = wideWr c g.ref a w.2 w.1

theorem winv_init (m : Mem) : WInv c init (AxlMem.init m) (AxlGhost.init m) := by
  simp [WInv, init, AxlMem.init, AxlGhost.init]

/-- What the write path owes the observer of the wide port, in terms of its own outputs `o`: the B clause of `rspHeld`,
    clauses 1, 3 and 4 of `memOk`, and that B is OKAY. -/
def WGood (br : DownWState) (p : AxlMemState) (g : AxlGhost Mem) (m : AxlM) (o : AxlS) : Prop :=
  (∀ r, g.heldB = some r → o.bvalid = true ∧ o.bresp = r) ∧
  (o.bvalid = true → g.pendAW.isSome ∧ g.pendW.isSome ∧ o.bresp = respOkay) ∧
  (m.awvalid = true → o.awready = true → g.pendAW = none) ∧
  (m.wvalid = true → o.wready = true → g.pendW = none) ∧
  (br.st = .idle → p.mem = g.ref)

theorem subStrb_eq (s : DownWState) (m : AxlM) : subStrb c s m = ss c m.wstrb s.counter := rfl
theorem subData_eq (s : DownWState) (m : AxlM) : subData c s m = sd c m.wdata s.counter := rfl
theorem subStrb_eq' (s : DownWState) (m : AxlM) : subStrb c s m = ss c m.wstrb s.counter := rfl
theorem subData_eq' (s : DownWState) (m : AxlM) : subData c s m = sd c m.wdata s.counter := rfl

theorem subWrites_skip (a d st k : Nat) (m : Mem) (h : (ss c st k == 0) = true) :
    subWrites c a d st (k + 1) m = subWrites c a d st k m := by
  simp [subWrites, subWrite, h]

/-- One cycle of the write path.  `x`, `y`: the read-side signals on the two ports, driven by whoever shares them: the
    read path's own outputs in the whole converter (`Down.toMaster_eq_merge`), the write path's own when it is alone
    (`merge_self`).  `hr` is needed only on entering CONVERT (`counter = 0 < ratio`).  The `ResetInserter` (`reset`) is off
    in every state but IDLE: the master holds AW and W, or B is being presented. -/
theorem wstep (hr : 0 < c.ratio) (br : DownWState) (p : AxlMemState) (g : AxlGhost Mem) (m : AxlM) (o : AxlOracle)
    (x : AxlS) (y : AxlM) (hinv : WInv c br p g)
    (hAW : ∀ a, g.heldAW = some a → m.awvalid = true ∧ m.awaddr = a)
    (hW : ∀ d, g.heldW = some d → m.wvalid = true ∧ (m.wdata, m.wstrb) = d) :
    WGood br p g m (toMaster c br m (AxlMem.out p o)) ∧
    WInv c (next c br m (AxlMem.out p o)) (AxlMem.next c.nbTo p o ((toSlave c br m (AxlMem.out p o)).merge y))
      (g.next (wideWr c) m ((toMaster c br m (AxlMem.out p o)).merge x)) := by
  obtain ⟨hresp, hinv⟩ := hinv
  simp only [WInv, WGood, AxlS.merge, AxlM.merge, AxlGhost.next_heldB, AxlGhost.next_heldAW,
    AxlGhost.next_heldW, AxlGhost.next_pendAW, AxlGhost.next_pendW, AxlGhost.next_ref]
  rcases hst : br.st <;> simp only [hst] at hinv <;>
    simp only [toSlave, toMaster, next, nextFsm, reset, hst, AxlMem.out, AxlMem.next, AxlS.idle, AxlM.idle, hresp]
  · -- IDLE: everything is empty; a write starts when AW and W are both shown
    obtain ⟨har, hwr, hawq, hwq, hbq, hmem, hpa, hpw, hhb⟩ := hinv
    simp only [har, hwr, hawq, hwq, hbq, hmem, hpa, hpw, hhb]
    cases hv : m.awvalid <;> cases hw : m.wvalid <;> simp [init, subWrites, hr]
  · -- CONVERT: the master shows the AW / W it holds; the narrow AW / W of sub-word `counter` are queued as the two
    -- flags say and the sub-words below `counter` are in the memory
    obtain ⟨hc, hbq, hpa, hpw, hhb, a, w, hA, hWd, hmem, hawq, hwq, hnot, hskf⟩ := hinv
    obtain ⟨hv, rfl⟩ := hAW a hA
    obtain ⟨hw, rfl⟩ := hW w hWd
    simp only [hv, hw, Bool.true_or, Bool.not_true, if_false, Bool.false_eq_true, hbq, hpa, hpw, hhb, hmem, hawq, hwq]
    cases hsk : skip c br m
    · have hne : ss c m.wstrb br.counter ≠ 0 := by simpa [skip, subStrb_eq] using hsk
      -- a ready matters only for the request not yet accepted; both accepted is excluded by `hnot`
      cases har : br.awReady <;> cases hwr : br.wReady
      case false.false =>
        cases hra : o.awready <;> cases hrw : o.wready <;> simp [hne, hc, subStrb_eq, subData_eq]
      case false.true => cases hra : o.awready <;> simp [hne, hc]
      case true.false => cases hrw : o.wready <;> simp [hne, hc, subStrb_eq, subData_eq]
      case true.true => simp [har, hwr] at hnot
    · -- a skipped sub-word writes nothing: the counter moves on with the memory unchanged
      have hsk' : (ss c m.wstrb br.counter == 0) = true := hsk
      obtain ⟨har, hwr⟩ := hskf hsk'
      have hsub := subWrites_skip c m.awaddr m.wdata m.wstrb br.counter g.ref hsk'
      cases hl : lastWord c br
      · have hlt : br.counter + 1 < c.ratio := by simp [lastWord] at hl; omega
        simp [har, hwr, Nat.mod_eq_of_lt hlt, hlt, hsub]
      · have hlast : c.ratio = br.counter + 1 := by simp [lastWord] at hl; omega
        simp [har, hwr, wideWr, hlast, hsub]
  · -- RESP-SLAVE: sub-word `counter` is queued, or executed with its B waiting
    obtain ⟨hc, hpa, hpw, hhb, a, w, hA, hWd, hsk, hp⟩ := hinv
    obtain ⟨hv, rfl⟩ := hAW a hA
    obtain ⟨hw, rfl⟩ := hW w hWd
    have hne : ss c m.wstrb br.counter ≠ 0 := by simpa using hsk
    simp only [hv, hw, Bool.true_or, Bool.not_true, if_false, Bool.false_eq_true, hpa, hpw, hhb]
    rcases hp with ⟨hawq, hwq, hbq, hmem⟩ | ⟨hawq, hwq, hbq, hmem⟩ <;> simp only [hawq, hwq, hbq, hmem]
    · cases hx : o.wexec <;> simp [hc, hne, subWrites, subWrite]
    · cases hl : lastWord c br
      · have hlt : br.counter + 1 < c.ratio := by simp [lastWord] at hl; omega
        cases hh : p.bheld <;> cases hg : o.bgo <;> simp [hc, hne, Nat.mod_eq_of_lt hlt, hlt, respOkay]
      · have hlast : c.ratio = br.counter + 1 := by simp [lastWord] at hl; omega
        cases hh : p.bheld <;> cases hg : o.bgo <;> simp [hne, wideWr, hlast, respOkay]
  · -- RESP-MASTER: all `ratio` sub-words are in the memory; the reference takes them when B is taken
    obtain ⟨hawq, hwq, hbq, hhb, a, w, hpa, hpw, hmem⟩ := hinv
    simp only [hawq, hwq, hbq, hpa, hpw, hmem]
    rcases hhb with hhb | hhb <;> cases hb : m.bready <;> simp [respOkay, hhb]

theorem toMaster_rvalid (s : DownWState) (m : AxlM) (r : AxlS) : (toMaster c s m r).rvalid = false := by
  cases h : s.st <;> simp [toMaster, h, AxlS.idle]

theorem toSlave_arvalid (s : DownWState) (m : AxlM) (r : AxlS) : (toSlave c s m r).arvalid = false := by
  cases h : s.st <;> simp [toSlave, h, AxlM.idle]

/-- Alone on the two ports, the write path adds only that no R is ever presented. -/
def Alone (s : Sys) : Prop := WInv c s.br s.p s.g ∧ s.g.heldR = none

theorem alone_init (m : Mem) : Alone c (sys c m).init := ⟨winv_init c m, rfl⟩

theorem alone_step (hr : 0 < c.ratio) (s : Sys) (i : AxlM × AxlOracle) (hinv : Alone c s) (hok : s.g.reqHeld i.1) :
    WGood s.br s.p s.g i.1 (sysOut c s i).1 ∧ Alone c ((sys c s.g.ref).next s i) := by
  obtain ⟨wG, wI⟩ := wstep c hr s.br s.p s.g i.1 i.2 (toMaster c s.br i.1 (AxlMem.out s.p i.2))
    (toSlave c s.br i.1 (AxlMem.out s.p i.2)) hinv.1 hok.1 hok.2.1
  rw [AxlS.merge_self, AxlM.merge_self] at wI
  exact ⟨wG, wI, by simp [sys, sysOut, AxlGhost.next_heldR, toMaster_rvalid]⟩

end DownW

namespace Down
variable (c : DownCfg)

/-- The partner memory is the reference memory with the first `j` sub-word writes of the wide write in flight
    applied (`j = 0`: equal to the reference memory). -/
def Window (mem : Mem) (g : AxlGhost Mem) : Prop :=
  ∃ j a d st, j ≤ c.ratio ∧ mem = DownW.subWrites c a d st j g.ref ∧
    (0 < j → (g.heldAW = some a ∧ g.heldW = some (d, st)) ∨ (g.pendAW = some a ∧ g.pendW = some (d, st)))

theorem window_of_inv (br : DownWState) (p : AxlMemState) (g : AxlGhost Mem) (h : DownW.WInv c br p g) :
    Window c p.mem g := by
  obtain ⟨_, h⟩ := h
  cases hst : br.st <;> simp only [hst] at h
  · obtain ⟨_, _, _, _, _, hm, _⟩ := h
    exact ⟨0, 0, 0, 0, Nat.zero_le _, hm, fun hj => absurd hj (Nat.lt_irrefl 0)⟩
  · obtain ⟨hc, _, _, _, _, a, w, hA, hW, hm, _⟩ := h
    exact ⟨br.counter, a, w.1, w.2, Nat.le_of_lt hc, hm, fun _ => Or.inl ⟨hA, hW⟩⟩
  · obtain ⟨hc, _, _, _, a, w, hA, hW, _, hp⟩ := h
    rcases hp with ⟨_, _, _, hm⟩ | ⟨_, _, _, hm⟩
    · exact ⟨br.counter, a, w.1, w.2, Nat.le_of_lt hc, hm, fun _ => Or.inl ⟨hA, hW⟩⟩
    · exact ⟨br.counter + 1, a, w.1, w.2, hc, hm, fun _ => Or.inl ⟨hA, hW⟩⟩
  · obtain ⟨_, _, _, _, a, w, hA, hW, hm⟩ := h
    exact ⟨c.ratio, a, w.1, w.2, Nat.le_refl _, hm, fun _ => Or.inr ⟨hA, hW⟩⟩

end Down
end Litex.Bridge

namespace Litex.Bridge.DownR
open Litex Litex.Bridge

variable (c : DownCfg)

theorem pack_congr (f g : Nat → Nat) : ∀ k, (∀ j, j < k → f j = g j) → pack c f k = pack c g k := by
  intro k
  induction k with
  | zero => intro _; rfl
  | succ k ih =>
    intro h
    simp only [pack]
    rw [ih (fun j hj => h j (Nat.lt_succ_of_lt hj)), h k (Nat.lt_succ_self k)]

theorem pack_snap_update (snap : Nat → Mem) (a n j : Nat) (v : Mem) (hj : j ≤ n) :
    pack c (Down.snapWord c (fun k => if k = n then v else snap k) a) j = pack c (Down.snapWord c snap a) j := by
  apply pack_congr
  intro i hi
  have : i ≠ n := by omega
  simp [Down.snapWord, this]

theorem snapWord_update_self (snap : Nat → Mem) (a n : Nat) (v : Mem) :
    Down.snapWord c (fun k => if k = n then v else snap k) a n = v.readWord c.nbTo (c.subAddr a n / c.nbTo) := by
  simp [Down.snapWord, subWord]

/-- `r_data` after the narrow words `wd 0 … wd (k-1)` have been shifted in on top of its content `old`. -/
def Shifted (rData old : Nat) (wd : Nat → Nat) (k : Nat) : Prop :=
  rData = old / (256 ^ c.nbTo) ^ k + pack c wd k * (256 ^ c.nbTo) ^ (c.ratio - k)

/-! The arithmetic of the shift register, in base `B = 256 ^ nbTo`: `r` the ratio, `old` the register before the read,
`P` the packed words `0 … k-1` (`pack`), `w < B` the incoming word `k`.  `Shifted` says the register is
`old / B^k + P · B^(r-k)`; one shift divides by `B` and puts `w` on top (`shift_step`), keeps it below `B^r`
(`shift_bound`), and after `r` shifts nothing of `old` is left (`final_eq`). -/

theorem shift_step (B old P w r k : Nat) (hB : 0 < B) (hk : k < r) :
    (old / B ^ k + P * B ^ (r - k)) / B + w * B ^ (r - 1) =
      old / B ^ (k + 1) + (P + w * B ^ k) * B ^ (r - (k + 1)) := by
  obtain ⟨e, rfl⟩ : ∃ e, r = k + 1 + e := ⟨r - (k + 1), by omega⟩
  have h1 : k + 1 + e - k = e + 1 := by omega
  have h2 : k + 1 + e - 1 = k + e := by omega
  have h3 : k + 1 + e - (k + 1) = e := by omega
  rw [h1, h2, h3, Nat.pow_succ, ← Nat.mul_assoc, Nat.add_mul_div_right _ _ hB, Nat.div_div_eq_div_mul, ← Nat.pow_succ,
    Nat.add_mul, Nat.pow_add, Nat.mul_assoc, Nat.add_assoc]

theorem shift_bound (B x w r : Nat) (hr : 0 < r) (hx : x < B ^ r) (hw : w < B) :
    x / B + w * B ^ (r - 1) < B ^ r := by
  obtain ⟨e, rfl⟩ : ∃ e, r = e + 1 := ⟨r - 1, by omega⟩
  have hB : 0 < B := by omega
  simp only [Nat.add_sub_cancel]
  rw [Nat.pow_succ] at hx ⊢
  have h1 : x / B < B ^ e := by
    rw [Nat.div_lt_iff_lt_mul hB]; exact hx
  have h2 : (w + 1) * B ^ e ≤ B * B ^ e := Nat.mul_le_mul_right _ hw
  rw [Nat.add_mul, Nat.one_mul] at h2
  rw [Nat.mul_comm (B ^ e) B]
  omega

theorem final_eq (B old P w r k rd : Nat) (hB : 0 < B) (hk : k + 1 = r) (ho : old < B ^ r)
    (h : rd = old / B ^ k + P * B ^ (r - k)) : rd / B + w * B ^ (r - 1) = P + w * B ^ k := by
  subst h
  rw [shift_step B old P w r k hB (by omega), hk, Nat.sub_self, Nat.pow_zero, Nat.mul_one, Nat.div_eq_of_lt ho,
    Nat.zero_add]

/-- The register expression is `rdataOut`: `Cat(r_data[dw_to:], word)`. -/
theorem shifted_push (hr : 0 < c.ratio) {rData old k : Nat} {wd : Nat → Nat} (hk : k < c.ratio)
    (hrd : rData < (256 ^ c.nbTo) ^ c.ratio) (h : Shifted c rData old wd k) :
    Shifted c (rData / 256 ^ c.nbTo + wd k % 256 ^ c.nbTo * 256 ^ ((c.ratio - 1) * c.nbTo)) old wd (k + 1) ∧
    rData / 256 ^ c.nbTo + wd k % 256 ^ c.nbTo * 256 ^ ((c.ratio - 1) * c.nbTo) < (256 ^ c.nbTo) ^ c.ratio := by
  have hB : 0 < 256 ^ c.nbTo := Nat.pow_pos (by decide)
  rw [Nat.pow_mul' 256 (c.ratio - 1) c.nbTo]
  refine ⟨?_, shift_bound _ _ _ _ hr hrd (Nat.mod_lt _ hB)⟩
  unfold Shifted at h ⊢
  rw [h, pack]
  exact shift_step _ _ _ _ _ _ hB hk

theorem shifted_full {rData old k : Nat} {wd : Nat → Nat} (hk : k + 1 = c.ratio) (hold : old < (256 ^ c.nbTo) ^ c.ratio)
    (h : Shifted c rData old wd k) :
    rData / 256 ^ c.nbTo + wd k % 256 ^ c.nbTo * 256 ^ ((c.ratio - 1) * c.nbTo) = pack c wd c.ratio := by
  rw [Nat.pow_mul' 256 (c.ratio - 1) c.nbTo, ← hk, pack, hk]
  exact final_eq _ _ _ _ _ _ _ (Nat.pow_pos (by decide)) hk hold h

/-- `Shifted` with the narrow words as the partner memory held them when they were read: word `k` from `snap k`. -/
def partial_ (rData old : Nat) (snap : Nat → Mem) (a k : Nat) : Prop := Shifted c rData old (Down.snapWord c snap a) k

/-- `old`: content of `r_data` when the current read started; `snap k`: partner memory at the execution of narrow
    read `k`.  RESP-MASTER: the LAST narrow word is not in the register yet but still presented by the partner
    (`rheld`, head of `rq`): the wide R data is combinational in it (`rdataOut`), and `r.ready` towards the partner is the
    master's. -/
def RInv (br : DownRState) (p : AxlMemState) (g : AxlGhost Mem) (old : Nat) (snap : Nat → Mem) : Prop :=
  br.resp = respOkay ∧ br.rData < (256 ^ c.nbTo) ^ c.ratio ∧
  match br.st with
  | .idle => p.arq = [] ∧ p.rq = [] ∧ g.pendAR = none ∧ g.heldR = none
  | .convert =>
    br.counter < c.ratio ∧ p.arq = [] ∧ p.rq = [] ∧ g.pendAR = none ∧ g.heldR = none ∧
    old < (256 ^ c.nbTo) ^ c.ratio ∧ ∃ a, g.heldAR = some a ∧ partial_ c br.rData old snap a br.counter
  | .respSlave =>
    br.counter < c.ratio ∧ g.pendAR = none ∧ g.heldR = none ∧ old < (256 ^ c.nbTo) ^ c.ratio ∧
    ∃ a, g.heldAR = some a ∧ partial_ c br.rData old snap a br.counter ∧
      ((p.arq = [c.subAddr a br.counter] ∧ p.rq = []) ∨
       (p.arq = [] ∧ p.rq = [(respOkay, Down.snapWord c snap a br.counter)]))
  | .respMaster =>
    br.counter + 1 = c.ratio ∧ p.arq = [] ∧ p.rheld = true ∧ old < (256 ^ c.nbTo) ^ c.ratio ∧
    ∃ a, g.pendAR = some a ∧ partial_ c br.rData old snap a br.counter ∧
      p.rq = [(respOkay, Down.snapWord c snap a br.counter)] ∧
      (g.heldR = none ∨ g.heldR = some (respOkay, pack c (Down.snapWord c snap a) c.ratio))

theorem rinv_init (m : Mem) (old : Nat) (snap : Nat → Mem) : RInv c init (AxlMem.init m) (AxlGhost.init m) old snap := by
  have : 0 < (256 ^ c.nbTo) ^ c.ratio := Nat.pow_pos (Nat.pow_pos (by decide))
  simp [RInv, init, AxlMem.init, AxlGhost.init, this]

/-- What the read path owes the observer of the wide port, in terms of its own outputs `o`: the R clause of `rspHeld`,
    clauses 2 and 5 of `memOk`, and that R is OKAY. -/
def RGood (g : AxlGhost Mem) (snap : Nat → Mem) (m : AxlM) (o : AxlS) : Prop :=
  (∀ r, g.heldR = some r → o.rvalid = true ∧ (o.rresp, o.rdata) = r) ∧
  (o.rvalid = true →
     ∃ a, g.pendAR = some a ∧ o.rresp = respOkay ∧ o.rdata = pack c (Down.snapWord c snap a) c.ratio) ∧
  (m.arvalid = true → o.arready = true → g.pendAR = none)

/-- One cycle of the read path.  `x`, `y`: the write-side signals on the two ports, driven by whoever shares them.  As for
    the write path, `reset` is off outside IDLE (the master holds its AR, or R is being presented) and `hr` serves the entry
    into CONVERT only. -/
theorem rstep (hr : 0 < c.ratio) (br : DownRState) (p : AxlMemState) (g : AxlGhost Mem) (old : Nat) (snap : Nat → Mem)
    (wr : WrFn Mem) (m : AxlM) (o : AxlOracle) (x : AxlS) (y : AxlM) (hinv : RInv c br p g old snap)
    (hAR : ∀ a, g.heldAR = some a → m.arvalid = true ∧ m.araddr = a) :
    RGood c g snap m (toMaster c br m (AxlMem.out p o)) ∧
    RInv c (next c br m (AxlMem.out p o)) (AxlMem.next c.nbTo p o (y.merge (toSlave c br m (AxlMem.out p o))))
      (g.next wr m (x.merge (toMaster c br m (AxlMem.out p o)))) (if br.st == .idle then br.rData else old)
      (if o.rexec && !p.arq.isEmpty then (fun k => if k = br.counter then p.mem else snap k) else snap) := by
  obtain ⟨hresp, hrd, hinv⟩ := hinv
  simp only [RInv, RGood, partial_, Shifted, AxlS.merge, AxlM.merge, AxlGhost.next_heldR, AxlGhost.next_heldAR,
    AxlGhost.next_pendAR]
  rcases hst : br.st <;> simp only [hst, partial_, Shifted] at hinv <;>
    simp only [toSlave, toMaster, next, nextFsm, reset, hst, AxlMem.out, AxlMem.next, AxlS.idle, AxlM.idle, hresp]
  · -- IDLE: nothing queued or pending; a read starts with `ar.valid`
    obtain ⟨harq, hrq, hpend, hheld⟩ := hinv
    cases hv : m.arvalid <;> simp [init, pack, hr, hrd, harq, hrq, hpend, hheld]
  · -- CONVERT: the master holds its AR; narrow AR number `counter` is raised until taken
    obtain ⟨hc, harq, hrq, hpend, hheld, hold, a, hA, hsh⟩ := hinv
    obtain ⟨hv, ha⟩ := hAR a hA
    subst ha
    rcases Bool.eq_false_or_eq_true o.arready with hy | hy <;> simp [hy, hv, hc, harq, hrq, hpend, hheld, hold, hrd, hsh.symm]
  · -- RESP-SLAVE: narrow read `counter` is queued, or executed with its word waiting; a taken word is shifted in
    obtain ⟨hc, hpend, hheld, hold, a, hA, hsh, hq⟩ := hinv
    obtain ⟨hv, ha⟩ := hAR a hA
    subst ha
    rcases hq with ⟨harq, hrq⟩ | ⟨harq, hrq⟩
    · have hpu := pack_snap_update c snap m.araddr br.counter br.counter p.mem (Nat.le_refl _)
      have hsu := snapWord_update_self c snap m.araddr br.counter p.mem
      cases hx : o.rexec <;> simp [hst, hresp, hv, harq, hrq, hc, hpend, hheld, hold, hrd, hsh.symm, respOkay, hpu, hsu]
    · cases hl : lastWord c br
      · have hk : br.counter + 1 < c.ratio := by simp [lastWord] at hl; omega
        obtain ⟨hpush, hfit⟩ := shifted_push c hr hc hrd hsh
        unfold Shifted at hpush
        rw [hpush] at hfit
        cases hh : p.rheld <;> cases hg : o.rgo <;>
          simp [rdataOut, hst, hresp, hv, harq, hrq, hc, hpend, hheld, hold, hrd, hsh.symm, respOkay, hk,
            Nat.mod_eq_of_lt hk, hfit, hpush]
      · have hk : br.counter + 1 = c.ratio := by simp [lastWord] at hl; omega
        cases hh : p.rheld <;> cases hg : o.rgo <;>
          simp [hst, hresp, hv, harq, hrq, hc, hpend, hheld, hold, hrd, hsh.symm, respOkay, hk]
  · -- RESP-MASTER: the last word is presented with the register, together the wide word
    obtain ⟨hlast, harq, hrheld, hold, a, hP, hsh, hrq, hheld⟩ := hinv
    have hfull := shifted_full c hlast hold hsh
    have hfit := (shifted_push c hr (by omega) hrd hsh).2
    rw [hfull] at hfit
    rcases hheld with hheld | hheld <;> cases hy : m.rready <;>
      simp [rdataOut, respOkay, hfull, hfit, hrd, hlast, harq, hrheld, hold, hP, hrq, hheld, hsh.symm]

theorem toSlave_wside (s : DownRState) (m : AxlM) (r : AxlS) :
    (toSlave c s m r).awvalid = false ∧ (toSlave c s m r).wvalid = false := by
  cases h : s.st <;> simp [toSlave, h, AxlM.idle]

theorem toMaster_wside (s : DownRState) (m : AxlM) (r : AxlS) :
    (toMaster c s m r).awready = false ∧ (toMaster c s m r).wready = false ∧ (toMaster c s m r).bvalid = false := by
  cases h : s.st <;> simp [toMaster, h, AxlS.idle]

/-- Alone on the two ports, the read path leaves the write side of partner and observer empty and the memory untouched:
    every snapshot is the reference memory. -/
def Alone (s : Sys) : Prop :=
  RInv c s.br s.p s.g s.old (fun _ => s.g.ref) ∧ s.g.heldB = none ∧
  s.p.mem = s.g.ref ∧ s.p.awq = [] ∧ s.p.wq = [] ∧ s.p.bq = [] ∧ s.g.pendAW = none ∧ s.g.pendW = none

theorem alone_init (m : Mem) : Alone c (sys c m).init :=
  ⟨rinv_init c m _ _, rfl, rfl, rfl, rfl, rfl, rfl, rfl⟩

theorem alone_step (hr : 0 < c.ratio) (s : Sys) (i : AxlM × AxlOracle) (hinv : Alone c s) (hok : s.g.reqHeld i.1) :
    RGood c s.g (fun _ => s.g.ref) i.1 (sysOut c s i).1 ∧ Alone c ((sys c s.g.ref).next s i) := by
  obtain ⟨hR, hhb, hmem, hawq, hwq, hbq, hpa, hpw⟩ := hinv
  obtain ⟨rG, rI⟩ := rstep c hr s.br s.p s.g s.old _ (fun m _ _ _ => m) i.1 i.2
    (toMaster c s.br i.1 (AxlMem.out s.p i.2)) (toSlave c s.br i.1 (AxlMem.out s.p i.2)) hR hok.2.2
  rw [AxlS.merge_self, AxlM.merge_self] at rI
  refine ⟨rG, ?_, ?_⟩
  · have href : ((sys c s.g.ref).next s i).g.ref = s.g.ref := by simp [sys, AxlGhost.next_ref, hpa]
    have hsnap : (if (i.2.rexec && !s.p.arq.isEmpty) = true then fun k => if k = s.br.counter then s.p.mem else s.g.ref
        else fun _ => s.g.ref) = fun _ => s.g.ref := by
      rw [hmem]; split
      · funext k; split <;> rfl
      · rfl
    rw [hsnap] at rI
    rw [href]
    exact rI
  · obtain ⟨q1, q2⟩ := toSlave_wside c s.br i.1 (AxlMem.out s.p i.2)
    obtain ⟨o1, o2, o3⟩ := toMaster_wside c s.br i.1 (AxlMem.out s.p i.2)
    simp [sys, sysOut, AxlMem.next, AxlGhost.next_pendAW, AxlGhost.next_pendW, AxlGhost.next_heldB, AxlGhost.next_ref,
      q1, q2, o1, o2, o3, hmem, hawq, hwq, hbq, hpa, hpw]

end Litex.Bridge.DownR

namespace Litex.Bridge.Down

def partial_ (c : DownCfg) (s : Sys) (a k : Nat) : Prop := DownR.partial_ c s.r.rData s.old s.snap a k

end Litex.Bridge.Down
