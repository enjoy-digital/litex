import LitexModel.Bridge.Spec
import LitexProofs.Machine
/-
  The executable form of `AxlGhost.reqHeld` with which (through `Machine.legal_of_legalB`) the concrete runs of C09 are shown
  legal by evaluation; and the transfer of `LegalFrom` / `AlwaysFrom` along a simulation, which the bridge proofs do not
  use (they instantiate step lemmas over components instead).
-/
namespace Litex.Machine
variable {ι σ ο ι' σ' ο' : Type}

theorem legal_map (M : Machine ι σ ο) (N : Machine ι' σ' ο') (f : σ → σ') (gi : ι → ι')
    (okM : σ → ι → Prop) (okN : σ' → ι' → Prop)
    (hnext : ∀ s i, f (M.next s i) = N.next (f s) (gi i)) (hok : ∀ s i, okM s i → okN (f s) (gi i)) :
    ∀ (ins : List ι) (s : σ), M.LegalFrom okM s ins → N.LegalFrom okN (f s) (ins.map gi) := by
  intro ins
  induction ins with
  | nil => intro s _; trivial
  | cons i is ih => intro s hl; exact ⟨hok s i hl.1, by rw [← hnext]; exact ih _ hl.2⟩

theorem always_map (M : Machine ι σ ο) (N : Machine ι' σ' ο') (f : σ → σ') (gi : ι → ι')
    (goodM : σ → ι → Prop) (goodN : σ' → ι' → Prop)
    (hnext : ∀ s i, f (M.next s i) = N.next (f s) (gi i)) (hgood : ∀ s i, goodN (f s) (gi i) → goodM s i) :
    ∀ (ins : List ι) (s : σ), N.AlwaysFrom goodN (f s) (ins.map gi) → M.AlwaysFrom goodM s ins := by
  intro ins
  induction ins with
  | nil => intro s _; trivial
  | cons i is ih => intro s ha; exact ⟨hgood s i ha.1, ih _ (by rw [hnext]; exact ha.2)⟩

end Litex.Machine

namespace Litex.Bridge.Down

def reqHeldB {ρ : Type} (g : AxlGhost ρ) (m : AxlM) : Bool :=
  (match g.heldAW with | some a => m.awvalid && m.awaddr == a | none => true) &&
  (match g.heldW with | some d => m.wvalid && (m.wdata, m.wstrb) == d | none => true) &&
  (match g.heldAR with | some a => m.arvalid && m.araddr == a | none => true)

theorem reqHeld_of_B {ρ : Type} (g : AxlGhost ρ) (m : AxlM) (h : reqHeldB g m = true) : g.reqHeld m := by
  obtain ⟨heldAW, heldW, heldAR, heldB, heldR, pendAW, pendW, pendAR, ref⟩ := g
  simp only [reqHeldB, Bool.and_eq_true] at h
  obtain ⟨⟨h1, h2⟩, h3⟩ := h
  refine ⟨fun a ha => ?_, fun d hd => ?_, fun a ha => ?_⟩
  · simp only at ha; subst ha; simpa using h1
  · simp only at hd; subst hd; simpa using h2
  · simp only at ha; subst ha; simpa using h3

end Litex.Bridge.Down
