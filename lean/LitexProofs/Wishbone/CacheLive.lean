import LitexProofs.Wishbone.Cache
import LitexProofs.Wishbone.ConvLive
/-
  Bounded liveness of `wishbone.Cache` in front of the arbitrary-latency byte memory: hit in 2 cycles, any miss
  within `3 + 2·2^wordbits·(L+1)` cycles (eviction and refill of `2^wordbits` slave words each answered within
  `L`), by a rank function on the FSM state that decreases in every cycle without acknowledge.
-/
namespace Litex.WbMem
open Litex

namespace Cache
variable (c : CacheCfg)

/-- What the progress argument needs to know about the state while the master holds `r`. -/
def Tracks (s : CacheState) (r : Req) : Prop :=
  s.tags.length = 2 ^ c.linebits ∧
  match s.fsm with
  | .idle => True
  | .testHit => s.lineReg = adrLine c r.adr
  | .evict => s.lineReg = adrLine c r.adr ∧ s.word < 2 ^ c.wordbits
  | .refill => s.lineReg = adrLine c r.adr ∧ s.word < 2 ^ c.wordbits ∧ (T s.tags (adrLine c r.adr)).1 = adrTag c r.adr

/-- Cycles still needed at most (`w`: cycles the slave has already been silent), in the form `rk`: a miss costs
    `2^wordbits` evicted and `2^wordbits` refilled words and up to three cycles of the cache's own (IDLE, TEST_HIT, and the
    TEST_HIT that hits after the refill: 3 from IDLE, 2 from TEST_HIT, 1 while a word is in flight). -/
def rank (L : Nat) (s : CacheState) (r : Req) (w : Nat) : Nat :=
  match s.fsm with
  | .idle => rk L (2 ^ c.wordbits + 2 ^ c.wordbits) 3 0
  | .testHit => if hit c s r then rk L 0 1 0 else rk L (2 ^ c.wordbits + 2 ^ c.wordbits) 2 0
  | .evict => rk L (2 ^ c.wordbits + (2 ^ c.wordbits - s.word)) 1 w
  | .refill => rk L (2 ^ c.wordbits - s.word) 1 w

theorem lat_ack (M0 : Mem) (s : CacheState) (mem : Mem) (r : Req) (o : Lat) :
    ((latMem c.nbs M0).out mem (toSlave c s r, o)).ack = ((s.fsm == .evict || s.fsm == .refill) && o.ack) := by
  show ((toSlave c s r).active && o.ack) = _
  rw [toSlave_active]

theorem rank_pos (L : Nat) (s : CacheState) (r : Req) (w : Nat) (hJ : Tracks c s r) (hw : w ≤ L) : 0 < rank c L s r w := by
  obtain ⟨_, hJf⟩ := hJ
  have hX := Nat.two_pow_pos c.wordbits
  simp only [rank]
  cases hf : s.fsm <;> simp only [hf] at hJf ⊢
  · exact rk_pos (Nat.add_pos_left hX _) (Nat.zero_le _)
  · split
    · rw [rk_zero]; exact Nat.succ_pos _
    · exact rk_pos (Nat.add_pos_left hX _) (Nat.zero_le _)
  · exact rk_pos (Nat.add_pos_left hX _) hw
  · exact rk_pos (Nat.sub_pos_of_lt hJf.2.1) hw

/-- IDLE and TEST_HIT take one cycle each; in EVICT/REFILL either the slave stays silent one more cycle (`w` grows) or a
    word is done. -/
theorem rank_step (L : Nat) (M0 : Mem) (r : Req) (hact : r.active = true) (t : CacheState) (mem' : Mem) (v : Nat)
    (o : Lat) (hJ : Tracks c t r) (hv : v ≤ L) (hv' : (if o.ack then 0 else v + 1) ≤ L)
    (hm : (((cache c).over (latMem c.nbs M0)).out (t, mem') (r, o)).ack = false) :
    Tracks c (((cache c).over (latMem c.nbs M0)).next (t, mem') (r, o)).1 r ∧
    rank c L (((cache c).over (latMem c.nbs M0)).next (t, mem') (r, o)).1 r (if o.ack then 0 else v + 1) <
      rank c L t r v := by
  have hline : adrLine c r.adr < 2 ^ c.linebits := Nat.mod_lt _ (Nat.two_pow_pos _)
  have hWpos : 0 < 2 ^ c.wordbits := Nat.two_pow_pos _
  obtain ⟨htl, hJf⟩ := hJ
  have hnext : (((cache c).over (latMem c.nbs M0)).next (t, mem') (r, o)).1 =
      Cache.next c t r ((latMem c.nbs M0).out mem' (toSlave c t r, o)) := rfl
  have hmack : mack c t r = false := hm
  have hsa := lat_ack c M0 t mem' r o
  have htagset : T (t.tags.set (adrLine c r.adr) (adrTag c r.adr, false)) (adrLine c r.adr) = (adrTag c r.adr, false) := by
    exact T_set_self _ _ (by rw [htl]; exact hline)
  clear hm
  rw [hnext]
  cases hf : t.fsm with
  | idle =>
    rw [next_idle c t r _ hf, hact, if_pos rfl]
    refine ⟨⟨htl, rfl⟩, ?_⟩
    simp only [rank, hf]
    split
    · exact rk_own (Nat.zero_le _) (by decide)
    · exact rk_own (Nat.le_refl _) (by decide)
  | testHit =>
    simp only [hf] at hJf
    have hh : hit c t r = false := by simpa [mack, hf] using hmack
    have htd := tagDo_eq hJf
    rw [next_testHit c t r _ hf, htd, hh]
    cases hdirty : (T t.tags (adrLine c r.adr)).2
    · simp only [Bool.not_false, Bool.false_eq_true, if_true, if_false, Bool.false_and]
      refine ⟨⟨by rw [List.length_set]; exact htl, rfl, hWpos, by rw [htagset]⟩, ?_⟩
      simp only [rank, hf, hh, Bool.false_eq_true, if_false, Nat.sub_zero]
      exact rk_own (Nat.le_add_right _ _) (by decide)
    · simp only [Bool.not_true, Bool.false_eq_true, if_true, if_false]
      refine ⟨⟨htl, rfl, hWpos⟩, ?_⟩
      simp only [rank, hf, hh, Bool.false_eq_true, if_false, Nat.sub_zero]
      exact rk_own (Nat.le_refl _) (by decide)
  | evict =>
    simp only [hf] at hJf
    obtain ⟨hlr, hword⟩ := hJf
    have hra : ((latMem c.nbs M0).out mem' (toSlave c t r, o)).ack = o.ack := by rw [hsa, hf]; rfl
    rw [next_evict c t r _ hf, hra]
    cases hoa : o.ack
    · simp only [hoa, Bool.false_eq_true, if_false] at hv'
      simp only [Bool.false_and, Bool.false_eq_true, if_false]
      exact ⟨⟨htl, rfl, hword⟩, by simp only [rank, hf]; exact rk_wait (Nat.add_pos_left hWpos _) hv'⟩
    · cases hlast : lastWord c t
      · have hnl := word_succ_lt hword hlast
        simp only [Bool.and_false, Bool.false_eq_true, if_false, if_true, Nat.mod_eq_of_lt hnl]
        refine ⟨⟨htl, rfl, hnl⟩, ?_⟩
        simp only [rank, hf]
        rw [sub_succ_left hword, ← Nat.add_assoc]
        exact rk_word (Nat.le_refl _) hv (Nat.le_refl _)
      · simp only [Bool.and_self, if_true]
        refine ⟨⟨by rw [List.length_set]; exact htl, rfl, hWpos, by rw [htagset]⟩, ?_⟩
        simp only [rank, hf, Nat.sub_zero]
        rw [sub_succ_left hword, ← Nat.add_assoc]
        exact rk_word (Nat.le_add_right _ _) hv (Nat.le_refl _)
  | refill =>
    simp only [hf] at hJf
    obtain ⟨hlr, hword, htag⟩ := hJf
    have hra : ((latMem c.nbs M0).out mem' (toSlave c t r, o)).ack = o.ack := by rw [hsa, hf]; rfl
    rw [next_refill c t r _ hf, hra]
    cases hoa : o.ack
    · simp only [hoa, Bool.false_eq_true, if_false] at hv'
      simp only [Bool.false_and, Bool.false_eq_true, if_false]
      exact ⟨⟨htl, rfl, hword, htag⟩, by simp only [rank, hf]; exact rk_wait (Nat.sub_pos_of_lt hword) hv'⟩
    · cases hlast : lastWord c t
      · have hnl := word_succ_lt hword hlast
        simp only [Bool.and_false, Bool.false_eq_true, if_false, if_true, Nat.mod_eq_of_lt hnl]
        refine ⟨⟨htl, rfl, hnl, htag⟩, ?_⟩
        simp only [rank, hf]
        rw [sub_succ_left hword]
        exact rk_word (Nat.le_refl _) hv (Nat.le_refl _)
      · -- the refilled line hits in the coming TEST_HIT cycle
        simp only [Bool.and_self, if_true]
        refine ⟨⟨htl, rfl⟩, ?_⟩
        simp only [rank, hf]
        rw [if_pos (by show ((T t.tags (adrLine c r.adr)).1 == adrTag c r.adr) = true; rw [htag]; simp),
          sub_succ_left hword]
        exact rk_word (Nat.zero_le _) hv (Nat.le_refl _)

theorem ack_within (L : Nat) (M0 : Mem) (r : Req) (hact : r.active = true) (os : List Lat) (s : CacheState)
    (mem : Mem) (w : Nat) (hJ : Tracks c s r) (hw : w ≤ L) (hW : Within L w os) (hlen : rank c L s r w ≤ os.length) :
    ackedIn ((cache c).over (latMem c.nbs M0)) r (s, mem) os = true :=
  ackedIn_of_rank _ r L (fun st => Tracks c st.1 r) (fun st v => rank c L st.1 r v)
    (fun st v hJ hv => rank_pos c L st.1 r v hJ hv)
    (fun st v o hJ hv hv' hm => rank_step c L M0 r hact st.1 st.2 v o hJ hv hv' hm) os (s, mem) w hJ hw hW hlen

theorem idle_bound (L : Nat) (s : CacheState) (r : Req) (w : Nat) (h : s.fsm = .idle) :
    rank c L s r w = 3 + 2 * (2 ^ c.wordbits * (L + 1)) := by
  simp only [rank, h, rk_zero, Nat.add_mul]; omega

end Cache
end Litex.WbMem
