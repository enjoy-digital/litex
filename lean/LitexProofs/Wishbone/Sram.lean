import LitexModel.Wishbone.Sram
import LitexProofs.Wishbone.SramBus
/-
  `wishbone.SRAM`, classic cycles: the refinement relation to the byte memory and its preservation by every
  clock cycle.  (An incrementing-burst cycle `cti = 2` on a bursting bus is excluded here by `NoBurst`; bursts
  are treated in `SramBurst.lean`.)
-/
namespace Litex.WbMem
open Litex

namespace Sram
variable (c : SramCfg)

/-- The cycle is served as a classic cycle: the bus has no burst support, or `cti ≠ 2`. -/
def NoBurst (i : Req × Unit) : Prop := adrBurst c i.1 = false

def opOf (r : Req) : Op := { adr := c.idx r.adr, we := r.we, sel := r.sel, dat := r.dat }

/-- Operations that count for the byte-memory history: everything, except writes to a read-only memory. -/
def keep (op : Op) : Bool := !(op.we && c.readOnly)

/-- Refinement relation.  No request outstanding: `ack` is low and the store *is* the abstract memory.
    Request `r` outstanding (presented last cycle, acknowledged in this one): `ack` is high, the read port is
    addressed at `r`, and the store already contains `r`'s write (it is written in every strobe cycle: the second
    write, in the acknowledge cycle, changes nothing, `Mem.writeMasked_idem`; on a read-only memory nothing is written and
    `keep` takes the write out of the history). -/
def Inv (s : SramState) (p : Option Req) (M : Mem) : Prop :=
  s.mem.length = c.depth * c.nb ∧
  match p with
  | none => s.ack = false ∧ Mem.ofList s.mem = M
  | some r => r.active = true ∧ s.ack = true ∧ s.adrReg = c.idx r.adr ∧
      Mem.ofList s.mem = if r.we && !c.readOnly then M.apply ((opOf c r).write c.nb) else M

theorem next_idle (init : List Byte) (s : SramState) (r : Req) (u : Unit) (h : r.active = false) :
    (sram c init).next s (r, u) =
      { mem := s.mem, adrReg := portAdr c s r, ack := false, latched := false, counter := 0, offset := 0 } := by
  simp [sram, Sram.next, h]

theorem next_active (init : List Byte) (s : SramState) (r : Req) (u : Unit) (h : r.active = true) :
    (sram c init).next s (r, u) =
      { mem := if (!c.readOnly && r.we) = true then writeLanes s.mem (portAdr c s r * c.nb) r.sel r.dat c.nb else s.mem
        adrReg := portAdr c s r
        ack := !s.ack || adrBurst c r
        latched := adrBurst c r
        counter := if adrBurst c r = true then
                     (if s.latched = true then (s.counter + 1) % 2 ^ c.aw
                      else (r.adr % 2 ^ c.aw / 2 ^ wrapBits r.bte * 2 ^ wrapBits r.bte + (if r.we = true then 0 else 1)) % 2 ^ c.aw)
                   else 0
        offset := if adrBurst c r = true then (if s.latched = true then s.offset else r.adr % 2 ^ c.aw % 2 ^ wrapBits r.bte)
                  else 0 } := by
  simp [sram, Sram.next, h]
theorem idx_lt (hd : 0 < c.depth) (a : Nat) : c.idx a < c.depth := by
  unfold SramCfg.idx; omega

theorem word_in_store (hd : 0 < c.depth) (a : Nat) : c.idx a * c.nb + c.nb ≤ c.depth * c.nb := by
  have h := idx_lt c hd a
  calc c.idx a * c.nb + c.nb = (c.idx a + 1) * c.nb := by rw [Nat.add_mul, Nat.one_mul]
    _ ≤ c.depth * c.nb := Nat.mul_le_mul_right _ h

theorem inv_init (init : List Byte) : Inv c (Sram.init c init) none (Mem.ofList (initMem c init)) := by
  simp [Inv, Sram.init, initMem]

/-- Cases: request pending or not; then strobe or not, resp. read or write × read-only or not.  A pending request is in
    its acknowledge cycle and its write is already in the store (see `Inv`). -/
theorem step_ok (hd : 0 < c.depth) (init : List Byte) (s : SramState) (p : Option Req) (M : Mem) (i : Req × Unit)
    (hinv : Inv c s p M) (hhold : ∀ r, p = some r → i.1 = r) (hP : NoBurst c i) :
    StepOk (sram c init) c.idx c.nb (keep c) (Inv c) s i M := by
  obtain ⟨r, u⟩ := i
  obtain ⟨hlen, hrest⟩ := hinv
  have hnb : adrBurst c r = false := hP
  have hpa : portAdr c s r = c.idx r.adr := by simp [portAdr, hnb]
  cases p with
  | none =>
    obtain ⟨hack, hmem⟩ := hrest
    have hop : opNow (sram c init) c.idx s (r, u) = [] := by simp [opNow, sram, Sram.out, hack]
    refine ⟨by simp [sram, Sram.out, hack], by simp [hop, Consistent], ?_⟩
    rw [hop]
    simp only [List.filter_nil, applyOps, pendingAfter, sram, Sram.out, hack]
    cases hact : r.active with
    | false => simp [Inv, Sram.next, hact, hlen, hmem]
    | true =>
      simp only [Bool.not_false, Bool.and_true, if_true, Inv, Sram.next, hact, hpa, hack, Bool.true_and,
        Bool.true_or, true_and]
      refine ⟨?_, ?_⟩
      · split <;> simp [hlen]
      · cases hwe : r.we <;> cases hro : c.readOnly <;> simp [hmem]
        rw [ofList_writeLanes _ _ _ _ _ (by rw [hlen]; exact word_in_store c hd r.adr), hmem]
        rfl
  | some r0 =>
    have hr : r = r0 := hhold r0 rfl
    subst hr
    obtain ⟨hact, hack, hadr, hmem⟩ := hrest
    have hop : opNow (sram c init) c.idx s (r, u) =
        [{ adr := c.idx r.adr, we := r.we, sel := r.sel,
           dat := if r.we then r.dat else readLanes s.mem s.adrReg c.nb }] := by
      simp [opNow, sram, Sram.out, hack, hact]
    refine ⟨fun _ => hact, ?_, ?_⟩
    · rw [hop]
      cases hwe : r.we with
      | true =>
        cases hro : c.readOnly <;> simp [keep, hro, Consistent]
      | false =>
        simp only [keep, Bool.false_and, Bool.not_false, List.filter_cons_of_pos, List.filter_nil]
        rw [consistent_single]
        intro _ k hk _
        simp only [Bool.false_eq_true, if_false]
        rw [readLanes_getD _ _ _ _ hk, hadr]
        simp only [hwe, Bool.false_and, Bool.false_eq_true, if_false] at hmem
        rw [hmem]
    · rw [hop]
      have hpend : pendingAfter (sram c init) s (r, u) = none := by simp [pendingAfter, sram, Sram.out, hack]
      rw [hpend]
      simp only [Inv, sram, Sram.next, hact, hpa, hack, hnb, Bool.not_true, Bool.or_false, Bool.and_false, true_and]
      cases hwe : r.we with
      | false =>
        simp only [hwe, Bool.false_and, Bool.false_eq_true, if_false] at hmem
        simp [keep, applyOps, hlen, hmem]
      | true =>
        cases hro : c.readOnly with
        | true =>
          simp only [hwe, hro, Bool.not_true, Bool.and_false, Bool.false_eq_true, if_false] at hmem
          simp [keep, hro, applyOps, hlen, hmem]
        | false =>
          simp only [hwe, hro, Bool.not_false, Bool.and_true, if_true] at hmem
          simp only [keep, hro, Bool.and_false, Bool.not_false, List.filter_cons_of_pos, List.filter_nil,
            applyOps, if_true, Bool.and_true, writeLanes_length, hlen, true_and]
          rw [ofList_writeLanes _ _ _ _ _ (by rw [hlen]; exact word_in_store c hd r.adr), hmem]
          exact Mem.writeMasked_idem _ _ _ _

theorem run_keep (hd : 0 < c.depth) (init : List Byte) (ins : List (Req × Unit)) (hm : Classic (sram c init) ins)
    (hc : ∀ i ∈ ins, NoBurst c i) :
    Consistent c.nb (Mem.ofList (initMem c init)) ((ops (sram c init) c.idx ins).filter (keep c)) ∧
    AckOnlyStrobed (sram c init) ins :=
  refines_of_inv (sram c init) c.idx c.nb (keep c) (NoBurst c) (Inv c)
    (fun s p M i hi hh hp => step_ok c hd init s p M i hi hh hp) ins (sram c init).init none _ (inv_init c init) hm hc

theorem refines (hd : 0 < c.depth) (hrw : c.readOnly = false) (init : List Byte) :
    Refines (sram c init) c.idx c.nb (NoBurst c) (Inv c) := by
  intro s p M i hinv hhold hP
  have h := step_ok c hd init s p M i hinv hhold hP
  have hk : keep c = fun _ => true := by funext op; simp [keep, hrw]
  rw [hk] at h
  exact h

theorem bitsFor_pow2 (n : Nat) (hn : 0 < n) : bitsFor (2 ^ n - 1) = n := by
  have h1 : 2 ^ n - 1 ≠ 0 := by
    have : 2 ≤ 2 ^ n := by
      calc 2 = 2 ^ 1 := rfl
        _ ≤ 2 ^ n := Nat.pow_le_pow_right (by omega) hn
    omega
  simp only [bitsFor, h1, if_false]
  have hlt : (2 ^ n - 1).log2 < n := (Nat.log2_lt h1).mpr (by have := Nat.two_pow_pos n; omega)
  have hge : ¬ (2 ^ n - 1).log2 < n - 1 := by
    rw [Nat.log2_lt h1]
    have : 2 ^ n = 2 * 2 ^ (n - 1) := by
      rw [← Nat.pow_succ']; congr 1; omega
    have := Nat.two_pow_pos (n - 1)
    omega
  omega

theorem idx_pow2 (n : Nat) (hdepth : c.depth = 2 ^ n) (haw : n ≤ c.aw) (a : Nat) : c.idx a = a % c.depth := by
  unfold SramCfg.idx SramCfg.abits
  rw [hdepth]
  cases n with
  | zero =>
    simp [bitsFor, Nat.mod_one]
  | succ n =>
    rw [bitsFor_pow2 _ (Nat.succ_pos n), Nat.min_eq_left haw]
    have := Nat.mod_lt a (Nat.two_pow_pos (n + 1))
    omega

end Sram
end Litex.WbMem
