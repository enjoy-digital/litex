import LitexModel.Wishbone.SramBus
import LitexProofs.Mem
import LitexProofs.Lists
/-
  Generic facts for the C07 refinement proofs: byte lanes and histories; `CycleOk` (what one clock cycle owes the
  abstract byte memory) and `run_of_cycles` (from such cycles to whole runs); their instance for the classic hold
  rule (`StepOk`; `refines_of_inv` for a history filtered by `keep`, as the read-only SRAM needs, `Refines` with its
  rules for the unfiltered one; the burst instance is in `SramBurst.lean`); `Decidable` instances for concrete runs.
-/
namespace Litex.WbMem
open Litex

theorem getD_eq_getElem {α : Type} (l : List α) (i : Nat) (d : α) (h : i < l.length) : l.getD i d = l[i] := by
  simp [List.getD_eq_getElem?_getD, List.getElem?_eq_getElem h]

@[simp] theorem window_length {α : Type} (l : List α) (d : α) (off n : Nat) : (window l d off n).length = n := by
  simp [window]

theorem window_getD {α : Type} (l : List α) (d : α) (off n k : Nat) (h : k < n) :
    (window l d off n).getD k d = l.getD (off + k) d :=
  getD_range_map_of_lt _ d h

theorem window_getD_ge {α : Type} (l : List α) (d : α) (off n k : Nat) (h : n ≤ k) :
    (window l d off n).getD k d = d := by
  rw [window, getD_range_map, if_neg (Nat.not_lt.mpr h)]

theorem replicate_true_getD (n k : Nat) : (List.replicate n true).getD k false = decide (k < n) := by
  by_cases h : k < n <;> simp [List.getD_eq_getElem?_getD, h]

theorem selNone_iff (sel : List Bool) (n : Nat) : selNone sel n = true ↔ ∀ k, k < n → sel.getD k false = false := by
  simp [selNone, List.all_eq_true]

@[simp] theorem writeLanes_length (st : List Byte) (base : Nat) (sel : List Bool) (dat : List Byte) (n : Nat) :
    (writeLanes st base sel dat n).length = st.length := by
  induction n with
  | zero => rfl
  | succ n ih => simp only [writeLanes]; split <;> simp [ih]

theorem writeLanes_getD (st : List Byte) (base : Nat) (sel : List Bool) (dat : List Byte) (n a : Nat) :
    (writeLanes st base sel dat n).getD a 0 =
      if base ≤ a ∧ a < base + n ∧ sel.getD (a - base) false = true ∧ a < st.length then dat.getD (a - base) 0
      else st.getD a 0 := by
  induction n with
  | zero => rw [if_neg (fun h => by omega)]; rfl
  | succ n ih =>
    -- lane `n` goes to position `base + n`; every other position is as after `n` lanes
    by_cases ha : a = base + n
    · subst ha
      have hlow : (writeLanes st base sel dat n).getD (base + n) 0 = st.getD (base + n) 0 := by
        rw [ih, if_neg (fun h => by omega)]
      simp only [writeLanes, Nat.add_sub_cancel_left, Nat.le_add_right, Nat.lt_succ_self, Nat.add_lt_add_iff_left, true_and]
      by_cases hs : sel.getD n false = true
      · rw [if_pos hs, List.getD_eq_getElem?_getD, List.getElem?_set, if_pos rfl, writeLanes_length]
        by_cases hl : base + n < st.length
        · rw [if_pos hl, if_pos ⟨hs, hl⟩]; rfl
        · rw [if_neg hl, if_neg (fun h => hl h.2), getD_of_length_le st _ 0 (Nat.le_of_not_lt hl)]; rfl
      · rw [if_neg hs, hlow, if_neg (fun h => hs h.1)]
    · have hset : ∀ v, ((writeLanes st base sel dat n).set (base + n) v).getD a 0 =
          (writeLanes st base sel dat n).getD a 0 := fun v => by
        simp only [List.getD_eq_getElem?_getD, List.getElem?_set_ne (Ne.symm ha)]
      have hcond : (base ≤ a ∧ a < base + (n + 1) ∧ sel.getD (a - base) false = true ∧ a < st.length) ↔
          (base ≤ a ∧ a < base + n ∧ sel.getD (a - base) false = true ∧ a < st.length) :=
        ⟨fun ⟨x, y, z⟩ => ⟨x, by omega, z⟩, fun ⟨x, y, z⟩ => ⟨x, by omega, z⟩⟩
      simp only [writeLanes, hcond]
      split
      · rw [hset, ih]
      · rw [ih]
theorem ofList_writeLanes (st : List Byte) (base : Nat) (sel : List Bool) (dat : List Byte) (n : Nat)
    (h : base + n ≤ st.length) :
    Mem.ofList (writeLanes st base sel dat n) = (Mem.ofList st).writeMasked base (sel.take n) dat := by
  funext a
  simp only [Mem.ofList, writeLanes_getD, Mem.writeMasked_apply, getD_take]
  by_cases h1 : base ≤ a ∧ a < base + n ∧ sel.getD (a - base) false = true ∧ a < st.length
  · obtain ⟨x, y, z, w⟩ := h1
    have : a - base < n := by omega
    simp [x, y, z, w, this]
  · rw [if_neg h1]
    by_cases h2 : a - base < n
    · have : ¬ (base ≤ a ∧ sel.getD (a - base) false = true) := by
        intro ⟨x, z⟩; exact h1 ⟨x, by omega, z, by omega⟩
      simp only [h2, if_true]; rw [if_neg this]
    · simp [h2]

theorem readLanes_getD (st : List Byte) (idx nb k : Nat) (h : k < nb) :
    (readLanes st idx nb).getD k 0 = Mem.ofList st (idx * nb + k) := by
  unfold readLanes Mem.ofList; rw [window_getD _ _ _ _ _ h]

theorem fullSel_getD (n i : Nat) (h : i < n) : ((List.replicate n true).take n).getD i false = true := by
  rw [getD_take, if_pos h, replicate_true_getD]; exact decide_eq_true h

theorem applyOps_append (nb : Nat) (m : Mem) (a b : List Op) :
    applyOps nb m (a ++ b) = applyOps nb (applyOps nb m a) b := by
  induction a generalizing m with
  | nil => rfl
  | cons op rest ih => simp [applyOps, ih]

theorem consistent_append (nb : Nat) (m : Mem) (a b : List Op) :
    Consistent nb m (a ++ b) ↔ Consistent nb m a ∧ Consistent nb (applyOps nb m a) b := by
  induction a generalizing m with
  | nil => simp [Consistent, applyOps]
  | cons op rest ih =>
    simp only [List.cons_append, Consistent, applyOps]
    split
    · exact ih _
    · rw [ih]; exact and_assoc.symm

theorem consistent_single (nb : Nat) (m : Mem) (op : Op) :
    Consistent nb m [op] ↔ (op.we = false → op.readOk nb m) := by
  simp only [Consistent]
  cases h : op.we <;> simp

theorem consistent_reads (nb : Nat) (m : Mem) (l : List Op) (h : ∀ op ∈ l, op.we = false) :
    Consistent nb m l ↔ ∀ op ∈ l, op.readOk nb m := by
  induction l with
  | nil => simp [Consistent]
  | cons op rest ih =>
    have h1 : op.we = false := h op (List.mem_cons_self ..)
    have h2 := ih (fun o ho => h o (List.mem_cons_of_mem _ ho))
    simp only [Consistent, h1, Bool.false_eq_true, if_false, h2, List.mem_cons, forall_eq_or_imp]

/-- One cycle of a slave against the abstract memory `M`: an acknowledge only goes to a presented strobe, the bus
    cycle completing now (if any, and if `keep` counts it) is consistent with `M`, and `Post` holds of the
    acknowledge bit and the memory afterwards.  The refinement relations below are instances: `Post` re-establishes
    the relation for the next state and what the master owes next. -/
def CycleOk {ω τ : Type} (m : Slave ω τ) (f : Nat → Nat) (nb : Nat) (keep : Op → Bool) (s : τ) (i : Req × ω)
    (M : Mem) (Post : Bool → Mem → Prop) : Prop :=
  ((m.out s i).ack = true → i.1.active = true) ∧
  Consistent nb M ((opNow m f s i).filter keep) ∧
  Post (m.out s i).ack (applyOps nb M ((opNow m f s i).filter keep))

/-- From cycles to runs.  `Inv` relates machine state, an obligation `e` of the master (advanced by `step` on the request
    and the acknowledge bit) and the abstract memory; `Follows` says that a run honours the obligations (it is about the
    whole remaining run: the only reason why `hcyc` mentions the tail `is`). -/
theorem run_of_cycles {ω τ ε : Type} (m : Slave ω τ) (f : Nat → Nat) (nb : Nat) (keep : Op → Bool)
    (Inv : τ → ε → Mem → Prop) (step : ε → Req → Bool → ε) (Follows : τ → ε → List (Req × ω) → Prop)
    (P : Req × ω → Prop)
    (hfol : ∀ s e i is, Follows s e (i :: is) → Follows (m.next s i) (step e i.1 (m.out s i).ack) is)
    (hcyc : ∀ s e M i is, Inv s e M → Follows s e (i :: is) → P i →
      CycleOk m f nb keep s i M (fun b M' => Inv (m.next s i) (step e i.1 b) M')) :
    ∀ (ins : List (Req × ω)) (s : τ) (e : ε) (M : Mem), Inv s e M → Follows s e ins → (∀ i ∈ ins, P i) →
      Consistent nb M ((opsFrom m f s ins).filter keep) ∧ AckOnlyStrobedFrom m s ins := by
  intro ins
  induction ins with
  | nil => intro s e M _ _ _; exact ⟨trivial, trivial⟩
  | cons i is ih =>
    intro s e M hinv hf hP
    obtain ⟨hack, hcons, hnext⟩ := hcyc s e M i is hinv hf (hP i List.mem_cons_self)
    obtain ⟨h1, h2⟩ := ih _ _ _ hnext (hfol s e i is hf) (fun j hj => hP j (List.mem_cons_of_mem _ hj))
    refine ⟨?_, hack, h2⟩
    simp only [opsFrom, List.filter_append]
    exact (consistent_append ..).mpr ⟨hcons, h1⟩

section
variable {ω τ : Type} {sl : Slave ω τ} {f : Nat → Nat} {nb : Nat} {s : τ} {i : Req × ω} {M : Mem}
  {Post : Bool → Mem → Prop}

theorem opNow_of_no_ack (hn : (sl.out s i).ack = false) : opNow sl f s i = [] := by simp [opNow, hn]

theorem opNow_of_ack (ha : (sl.out s i).ack = true) (hact : i.1.active = true) : opNow sl f s i =
    [{ adr := f i.1.adr, we := i.1.we, sel := i.1.sel, dat := if i.1.we then i.1.dat else (sl.out s i).dat }] := by
  simp [opNow, ha, hact]

theorem CycleOk.no_ack (h : CycleOk sl f nb (fun _ => true) s i M Post) (hn : (sl.out s i).ack = false) :
    Post false M := by
  have h3 := h.2.2
  rwa [opNow_of_no_ack hn, hn] at h3

theorem CycleOk.inactive (h : CycleOk sl f nb (fun _ => true) s i M Post) (hi : i.1.active = false) :
    (sl.out s i).ack = false ∧ Post false M := by
  have hn : (sl.out s i).ack = false := by
    cases ha : (sl.out s i).ack
    · rfl
    · rw [h.1 ha] at hi; cases hi
  exact ⟨hn, h.no_ack hn⟩

theorem CycleOk.ack (h : CycleOk sl f nb (fun _ => true) s i M Post) (ha : (sl.out s i).ack = true) :
    (i.1.we = false → ∀ k, k < nb → i.1.sel.getD k false = true →
        (sl.out s i).dat.getD k 0 = M (f i.1.adr * nb + k)) ∧
    Post true (if i.1.we then M.writeMasked (f i.1.adr * nb) (i.1.sel.take nb) i.1.dat else M) := by
  obtain ⟨h1, h2, h3⟩ := h
  rw [opNow_of_ack ha (h1 ha)] at h2 h3
  simp only [List.filter_cons_of_pos, List.filter_nil] at h2 h3
  rw [consistent_single] at h2
  refine ⟨fun hwe k hk hsel => ?_, ?_⟩
  · have := h2 hwe k hk hsel
    simpa [hwe] using this
  · rw [ha] at h3
    cases hwe : i.1.we
    · simpa [applyOps, hwe] using h3
    · simp only [applyOps, hwe, if_true] at h3 ⊢; exact h3

theorem CycleOk.mk_no_ack (hn : (sl.out s i).ack = false) (hpost : Post false M) :
    CycleOk sl f nb (fun _ => true) s i M Post := by
  refine ⟨(by rw [hn]; intro h; cases h), ?_, ?_⟩ <;> rw [opNow_of_no_ack hn]
  · trivial
  · rw [hn]; exact hpost

theorem CycleOk.mk_ack (ha : (sl.out s i).ack = true) (hact : i.1.active = true)
    (hread : i.1.we = false → ∀ k, k < nb → i.1.sel.getD k false = true →
        (sl.out s i).dat.getD k 0 = M (f i.1.adr * nb + k))
    (hpost : Post true (if i.1.we then M.writeMasked (f i.1.adr * nb) (i.1.sel.take nb) i.1.dat else M)) :
    CycleOk sl f nb (fun _ => true) s i M Post := by
  refine ⟨fun _ => hact, ?_, ?_⟩ <;> rw [opNow_of_ack ha hact] <;>
    simp only [List.filter_cons_of_pos, List.filter_nil]
  · rw [consistent_single]
    intro hwe k hk hsel
    simp only at hwe
    have := hread hwe k hk hsel
    simpa [hwe] using this
  · rw [ha]
    cases hwe : i.1.we
    · simpa [applyOps, hwe] using hpost
    · simp only [applyOps, hwe, if_true] at hpost ⊢; exact hpost

end

/-- What one cycle must establish for the refinement argument: acknowledges only go to presented strobes, a
    completing read returns the abstract memory's bytes, and the relation is re-established for the memory
    updated by the completing cycle (`keep` filters the operations that count: everything for a read/write
    memory, reads only for a read-only one). -/
def StepOk {ω τ : Type} (m : Slave ω τ) (f : Nat → Nat) (nb : Nat) (keep : Op → Bool)
    (Inv : τ → Option Req → Mem → Prop) (s : τ) (i : Req × ω) (M : Mem) : Prop :=
  ((m.out s i).ack = true → i.1.active = true) ∧
  Consistent nb M ((opNow m f s i).filter keep) ∧
  Inv (m.next s i) (pendingAfter m s i) (applyOps nb M ((opNow m f s i).filter keep))

theorem refines_of_inv {ω τ : Type} (m : Slave ω τ) (f : Nat → Nat) (nb : Nat) (keep : Op → Bool)
    (P : Req × ω → Prop) (Inv : τ → Option Req → Mem → Prop)
    (hstep : ∀ s p M i, Inv s p M → (∀ r, p = some r → i.1 = r) → P i → StepOk m f nb keep Inv s i M) :
    ∀ (ins : List (Req × ω)) (s : τ) (p : Option Req) (M : Mem), Inv s p M → ClassicFrom m s p ins →
      (∀ i ∈ ins, P i) →
      Consistent nb M ((opsFrom m f s ins).filter keep) ∧ AckOnlyStrobedFrom m s ins :=
  run_of_cycles m f nb keep Inv (fun _ r b => if r.active && !b then some r else none) (ClassicFrom m) P
    (fun _ _ _ _ h => h.2) (fun s p M i _ hinv h hP => hstep s p M i hinv h.1 hP)

/-! ### The refinement interface: what it means for a slave to implement a byte memory

  `Refines sl f nb P Inv`: every cycle of `sl` (for inputs allowed by `P`, master honouring the hold rule)
  preserves `Inv` and completes bus cycles consistently with the abstract byte memory.  Adapters are proved
  against this interface (`Refines slave → Refines (adapter.over slave)`), so refinements compose along any
  chain master → adapter → … → memory. -/
def Refines {ω τ : Type} (sl : Slave ω τ) (f : Nat → Nat) (nb : Nat) (P : Req × ω → Prop)
    (Inv : τ → Option Req → Mem → Prop) : Prop :=
  ∀ s p M i, Inv s p M → (∀ r, p = some r → i.1 = r) → P i → StepOk sl f nb (fun _ => true) Inv s i M

section
variable {ω τ : Type} {sl : Slave ω τ} {f : Nat → Nat} {nb : Nat} {s : τ} {i : Req × ω} {M : Mem}

variable {Inv : τ → Option Req → Mem → Prop}

theorem StepOk.cycle (h : StepOk sl f nb (fun _ => true) Inv s i M) :
    CycleOk sl f nb (fun _ => true) s i M
      (fun b M' => Inv (sl.next s i) (if i.1.active && !b then some i.1 else none) M') := h

theorem StepOk.ack_active (h : StepOk sl f nb (fun _ => true) Inv s i M) (ha : (sl.out s i).ack = true) :
    i.1.active = true := h.1 ha

theorem StepOk.no_ack (h : StepOk sl f nb (fun _ => true) Inv s i M) (hn : (sl.out s i).ack = false) :
    Inv (sl.next s i) (if i.1.active then some i.1 else none) M := by
  simpa using h.cycle.no_ack hn

theorem StepOk.inactive (h : StepOk sl f nb (fun _ => true) Inv s i M) (hi : i.1.active = false) :
    (sl.out s i).ack = false ∧ Inv (sl.next s i) none M := by
  simpa [hi] using h.cycle.inactive hi

theorem StepOk.ack (h : StepOk sl f nb (fun _ => true) Inv s i M) (ha : (sl.out s i).ack = true) :
    (i.1.we = false → ∀ k, k < nb → i.1.sel.getD k false = true →
        (sl.out s i).dat.getD k 0 = M (f i.1.adr * nb + k)) ∧
    Inv (sl.next s i) none (if i.1.we then M.writeMasked (f i.1.adr * nb) (i.1.sel.take nb) i.1.dat else M) := by
  simpa using h.cycle.ack ha

end

theorem StepOk.mk_no_ack {ω τ : Type} {sl : Slave ω τ} {f : Nat → Nat} {nb : Nat} {Inv : τ → Option Req → Mem → Prop}
    {s : τ} {i : Req × ω} {M : Mem} (hn : (sl.out s i).ack = false)
    (hinv : Inv (sl.next s i) (if i.1.active then some i.1 else none) M) :
    StepOk sl f nb (fun _ => true) Inv s i M :=
  CycleOk.mk_no_ack (Post := fun b M' => Inv (sl.next s i) (if i.1.active && !b then some i.1 else none) M') hn
    (by simpa using hinv)

theorem StepOk.mk_ack {ω τ : Type} {sl : Slave ω τ} {f : Nat → Nat} {nb : Nat} {Inv : τ → Option Req → Mem → Prop}
    {s : τ} {i : Req × ω} {M : Mem} (ha : (sl.out s i).ack = true) (hact : i.1.active = true)
    (hread : i.1.we = false → ∀ k, k < nb → i.1.sel.getD k false = true →
        (sl.out s i).dat.getD k 0 = M (f i.1.adr * nb + k))
    (hinv : Inv (sl.next s i) none (if i.1.we then M.writeMasked (f i.1.adr * nb) (i.1.sel.take nb) i.1.dat else M)) :
    StepOk sl f nb (fun _ => true) Inv s i M :=
  CycleOk.mk_ack (Post := fun b M' => Inv (sl.next s i) (if i.1.active && !b then some i.1 else none) M') ha hact
    hread (by simpa using hinv)

theorem latMem_refines (nb : Nat) (M0 : Mem) :
    Refines (latMem nb M0) id nb (fun _ => True) (fun t _ M => t = M) := by
  intro t p M i hinv _ _
  subst hinv
  obtain ⟨r, o⟩ := i
  have hackEq : ((latMem nb M0).out t (r, o)).ack = (r.active && o.ack) := rfl
  cases hack : (r.active && o.ack) with
  | false =>
    apply StepOk.mk_no_ack (by rw [hackEq, hack])
    show (if (r.active && o.ack && r.we) = true then _ else t) = t
    rw [hack]; rfl
  | true =>
    have hact : r.active = true := by cases h1 : r.active <;> simp_all
    apply StepOk.mk_ack (by rw [hackEq, hack]) hact
    · intro _ k hk hsel
      show ((List.range nb).map fun k => if r.sel.getD k false then t (r.adr * nb + k) else o.junk.getD k 0).getD k 0 = _
      rw [List.getD_eq_getElem?_getD, List.getElem?_map, List.getElem?_range hk]
      simp only [Option.map_some, Option.getD_some]
      simp only at hsel
      rw [hsel]; rfl
    · show (if (r.active && o.ack && r.we) = true then _ else t) = _
      rw [hack]
      cases r.we <;> rfl

theorem Refines.runFrom {ω τ : Type} {sl : Slave ω τ} {f : Nat → Nat} {nb : Nat} {P : Req × ω → Prop}
    {Inv : τ → Option Req → Mem → Prop} (h : Refines sl f nb P Inv) (s : τ) (p : Option Req) (M : Mem)
    (h0 : Inv s p M) (ins : List (Req × ω)) (hm : ClassicFrom sl s p ins) (hP : ∀ i ∈ ins, P i) :
    Consistent nb M (opsFrom sl f s ins) ∧ AckOnlyStrobedFrom sl s ins := by
  have := refines_of_inv sl f nb (fun _ => true) P Inv h ins s p M h0 hm hP
  rwa [List.filter_eq_self.mpr (fun _ _ => rfl)] at this

theorem Refines.run {ω τ : Type} {sl : Slave ω τ} {f : Nat → Nat} {nb : Nat} {P : Req × ω → Prop}
    {Inv : τ → Option Req → Mem → Prop} (h : Refines sl f nb P Inv) (M0 : Mem) (h0 : Inv sl.init none M0)
    (ins : List (Req × ω)) (hm : Classic sl ins) (hP : ∀ i ∈ ins, P i) :
    Consistent nb M0 (ops sl f ins) ∧ AckOnlyStrobed sl ins :=
  h.runFrom sl.init none M0 h0 ins hm hP

theorem Refines.restrict {ω τ : Type} {sl : Slave ω τ} {f : Nat → Nat} {nb : Nat} {P : Req × ω → Prop}
    {Inv : τ → Option Req → Mem → Prop} (h : Refines sl f nb P Inv) (P' : Req × ω → Prop) (f' : Nat → Nat)
    (hPf : ∀ i, P' i → P i ∧ f' i.1.adr = f i.1.adr) : Refines sl f' nb P' Inv := by
  intro s p M i hinv hhold hP'
  obtain ⟨hPi, hf⟩ := hPf i hP'
  have hs := h s p M i hinv hhold hPi
  have hop : opNow sl f' s i = opNow sl f s i := by simp [opNow, hf]
  unfold StepOk at hs ⊢
  rw [hop]; exact hs

/-! The protocol and history predicates are decidable on concrete runs: the non-vacuity examples are evaluated. -/

instance decHold (p : Option Req) (x : Req) : Decidable (∀ r, p = some r → x = r) :=
  match p with
  | none => isTrue (by intro r h; cases h)
  | some r0 =>
    if h : x = r0 then isTrue (by intro r hr; cases hr; exact h)
    else isFalse (fun hh => h (hh r0 rfl))

instance decClassicFrom {ω τ : Type} (m : Slave ω τ) : (s : τ) → (p : Option Req) → (ins : List (Req × ω)) →
    Decidable (ClassicFrom m s p ins)
  | _, _, [] => isTrue trivial
  | s, p, i :: is =>
    match decHold p i.1, decClassicFrom m (m.next s i) (pendingAfter m s i) is with
    | isTrue h1, isTrue h2 => isTrue ⟨h1, h2⟩
    | isFalse h1, _ => isFalse (fun h => h1 h.1)
    | _, isFalse h2 => isFalse (fun h => h2 h.2)

instance decClassic {ω τ : Type} (m : Slave ω τ) (ins : List (Req × ω)) : Decidable (Classic m ins) :=
  decClassicFrom m m.init none ins

instance decAckOnlyFrom {ω τ : Type} (m : Slave ω τ) : (s : τ) → (ins : List (Req × ω)) →
    Decidable (AckOnlyStrobedFrom m s ins)
  | _, [] => isTrue trivial
  | s, i :: is =>
    match (inferInstance : Decidable ((m.out s i).ack = true → i.1.active = true)), decAckOnlyFrom m (m.next s i) is with
    | isTrue h1, isTrue h2 => isTrue ⟨h1, h2⟩
    | isFalse h1, _ => isFalse (fun h => h1 h.1)
    | _, isFalse h2 => isFalse (fun h => h2 h.2)

instance decAckOnly {ω τ : Type} (m : Slave ω τ) (ins : List (Req × ω)) : Decidable (AckOnlyStrobed m ins) :=
  decAckOnlyFrom m m.init ins

instance decReadOk (nb : Nat) (m : Mem) (op : Op) : Decidable (op.readOk nb m) := by
  unfold Op.readOk; exact inferInstance

instance decConsistent (nb : Nat) : (m : Mem) → (l : List Op) → Decidable (Consistent nb m l)
  | _, [] => isTrue trivial
  | m, op :: rest =>
    if h : op.we = true then
      match decConsistent nb (m.apply (op.write nb)) rest with
      | isTrue h1 => isTrue (by simp only [Consistent, h, if_true]; exact h1)
      | isFalse h1 => isFalse (by simp only [Consistent, h, if_true]; exact h1)
    else
      match decReadOk nb m op, decConsistent nb m rest with
      | isTrue h1, isTrue h2 => isTrue (by simp only [Consistent, h, if_false]; exact ⟨h1, h2⟩)
      | isFalse h1, _ => isFalse (by simp only [Consistent, h, if_false]; exact fun x => h1 x.1)
      | _, isFalse h2 => isFalse (by simp only [Consistent, h, if_false]; exact fun x => h2 x.2)

end Litex.WbMem
