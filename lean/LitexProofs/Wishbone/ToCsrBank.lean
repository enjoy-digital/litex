import LitexModel.Wishbone.ToCsrBank
import LitexProofs.Wishbone.ToCsr
import LitexProofs.Csr.Bank
/-
  `wishbone.Wishbone2CSR` over a CSR side: refinement to the byte memory formed by the register contents, proved
  once (`refinesOf`) and instantiated for a side that behaves like a register file on its mapped addresses
  (`CsrSideOk`; `csr_bus.CSRBank` with one-word `CSRStorage` registers is one, `ToCsrBankSide.lean`) and for the
  register file `csrFile`.
-/
namespace Litex.WbMem
open Litex

/-- The CSR side is a register file on the addresses `Mapped`: `V` reads the register contents as a byte memory
    (CSR word `a` at bytes `a*nb ..`); a cycle without `we` changes nothing (no read side effects), a `we` cycle
    on a mapped address replaces exactly that word, and `dat_r` shows one cycle later the word addressed.  `write` asks
    for `nb` data bytes below 256 because a side may compute on naturals (the bank does: `wordBytes_bytesWord`); hence
    the third conjunct of `PB`. -/
structure CsrSideOk {ω κ : Type} (side : CsrSide ω κ) (nb : Nat) (V : κ → Mem) (Mapped : Nat → Prop) : Prop where
  quiet : ∀ s q o, q.we = false → V (side.next s q o) = V s
  write : ∀ s q o, q.we = true → Mapped q.adr → q.dat.length = nb → (∀ b ∈ q.dat, b < 256) →
    V (side.next s q o) = (V s).writeMasked (q.adr * nb) (List.replicate nb true) q.dat
  read : ∀ s q o, Mapped q.adr → side.datR (side.next s q o) = (V s).readBytes (q.adr * nb) nb

namespace ToCsr
variable (c : ToCsrCfg) {ω κ : Type} (side : CsrSide ω κ) (V : κ → Mem) (Mapped : Nat → Prop)

/-- Inputs of the theorem: all-or-nothing write selects (the CSR bus has no byte enables), a mapped CSR address,
    data lines carrying bytes. -/
def PB (i : Req × ω) : Prop :=
  (i.1.we = true → (selNone i.1.sel c.nb = true ∨ ∀ k, k < c.nb → i.1.sel.getD k false = true)) ∧
  Mapped (csrAdr c i.1) ∧ ∀ b ∈ i.1.dat, b < 256

theorem window_bytes (l : List Byte) (n : Nat) (h : ∀ b ∈ l, b < 256) : ∀ b ∈ window l 0 0 n, b < 256 := by
  intro b hb
  simp only [window, List.mem_map, List.mem_range] at hb
  obtain ⟨i, _, rfl⟩ := hb
  simp only [Nat.zero_add, List.getD_eq_getElem?_getD]
  cases hi : l[i]? with
  | none => simp
  | some x => simp only [Option.getD_some]; exact h x (List.mem_of_getElem? hi)

def InvOn (st : ToCsrState × κ) (p : Option Req) (M : Mem) : Prop :=
  match st.1.fsm with
  | .idle => c.register = true ∧ p = none ∧ st.1.csr.we = false ∧ V st.2 = M
  | .writeRead =>
    if c.register then ∃ r, p = some r ∧ r.active = true ∧ st.1.csr = latch c r ∧ V st.2 = M
    else p = none ∧ V st.2 = M
  | .ack => ∃ r, p = some r ∧ r.active = true ∧ (c.register = true → st.1.csr.we = false) ∧
      V st.2 = after c r M ∧ side.datR st.2 = M.readBytes (csrAdr c r * c.nb) c.nb

theorem access (h : CsrSideOk side c.nb V Mapped) (t : κ) (o : ω) (r : Req) (M : Mem) (hV : V t = M)
    (hm : Mapped (csrAdr c r)) (hb : ∀ b ∈ r.dat, b < 256) :
    V (side.next t (latch c r) o) = after c r M ∧
    side.datR (side.next t (latch c r) o) = M.readBytes (csrAdr c r * c.nb) c.nb := by
  refine ⟨?_, by rw [← hV]; exact h.read t (latch c r) o hm⟩
  unfold after
  cases hw : (r.we && anySel c r) with
  | false =>
    simp only [Bool.false_eq_true, if_false]
    rw [← hV]; exact h.quiet t _ o hw
  | true =>
    simp only [if_true]
    rw [← hV]
    exact h.write t (latch c r) o hw hm (by simp [latch]) (window_bytes _ _ hb)

/-- All the bridge needs of its CSR side: `hquiet` (a cycle without `we` leaves the contents alone) and `hacc`, used in the
    one cycle in which the bridge drives `latch c r` (WRITE-READ).  During ACK the access has already been made (`after`):
    the contents run ahead of the abstract memory, as the SRAM's store does. -/
theorem refinesOf (P : Req × ω → Prop)
    (hselP : ∀ i, P i → AllOrNoSel c i.1)
    (hquiet : ∀ t q o, q.we = false → V (side.next t q o) = V t)
    (hacc : ∀ t o r M, P (r, o) → V t = M → V (side.next t (latch c r) o) = after c r M ∧
      side.datR (side.next t (latch c r) o) = M.readBytes (csrAdr c r * c.nb) c.nb) :
    Refines (wb2csrOn c side) (adrMap c) c.nb P (InvOn c side V) := by
  intro st p M i hinv hhold hP
  obtain ⟨r, u⟩ := i
  obtain ⟨s, t⟩ := st
  have hsel := hselP _ hP
  dsimp only at hsel
  have hout : (wb2csrOn c side).out (s, t) (r, u) = rsp c s (side.datR t) := rfl
  have hnext : (wb2csrOn c side).next (s, t) (r, u) = (next c s r, side.next t (csrOut c s r) u) := rfl
  cases hf : s.fsm with
  | idle =>
    simp only [InvOn, hf] at hinv
    obtain ⟨hreg, hp, hwe, hregs⟩ := hinv
    subst hp
    have hack : ((wb2csrOn c side).out (s, t) (r, u)).ack = false := by simp [hout, rsp, hf]
    apply StepOk.mk_no_ack hack
    rw [hnext]
    have hq : csrOut c s r = s.csr := by simp [csrOut, hreg]
    have hV' : V (side.next t (csrOut c s r) u) = M := by rw [hq, hquiet t _ u hwe, hregs]
    cases hact : r.active with
    | false =>
      simp only [hact, Bool.false_eq_true, if_false, InvOn, next, hreg, hf, if_true]
      exact ⟨trivial, trivial, hwe, hV'⟩
    | true =>
      simp only [hact, if_true, InvOn, next, hreg, hf]
      exact ⟨r, rfl, hact, rfl, hV'⟩
  | writeRead =>
    simp only [InvOn, hf] at hinv
    have hack : ((wb2csrOn c side).out (s, t) (r, u)).ack = false := by simp [hout, rsp, hf]
    apply StepOk.mk_no_ack hack
    rw [hnext]
    cases hreg : c.register with
    | true =>
      simp only [hreg, if_true] at hinv
      obtain ⟨r0, hp, hact, hcsr, hregs⟩ := hinv
      have := hhold r0 hp; simp only at this; subst this
      have hq : csrOut c s r = latch c r := by simp [csrOut, hreg, hcsr]
      obtain ⟨ha1, ha2⟩ := hacc t u r M hP hregs
      simp only [hact, if_true, InvOn, next, hreg, hf, hq]
      exact ⟨r, rfl, hact, fun _ => trivial, ha1, ha2⟩
    | false =>
      simp only [hreg, Bool.false_eq_true, if_false] at hinv
      obtain ⟨hp, hregs⟩ := hinv
      subst hp
      cases hact : r.active with
      | false =>
        have hq : (csrOut c s r).we = false := by simp [csrOut, hreg, hf, hact]
        simp only [hact, Bool.false_eq_true, if_false, InvOn, next, hreg, hf]
        exact ⟨trivial, by rw [hquiet t _ u hq, hregs]⟩
      | true =>
        have hq : csrOut c s r = latch c r := by simp [csrOut, hreg, hf, hact, latch]
        obtain ⟨ha1, ha2⟩ := hacc t u r M hP hregs
        simp only [hact, if_true, InvOn, next, hreg, hf, hq, Bool.false_eq_true, if_false]
        exact ⟨r, rfl, hact, nofun, ha1, ha2⟩
  | ack =>
    simp only [InvOn, hf] at hinv
    obtain ⟨r0, hp, hact, hcw, hregs, hdatR⟩ := hinv
    have := hhold r0 hp; simp only at this; subst this
    have hack : ((wb2csrOn c side).out (s, t) (r, u)).ack = true := by simp [hout, rsp, hf]
    apply StepOk.mk_ack hack hact
    · intro _ k hk _
      rw [hout]
      simp only [rsp, hf]
      rw [window_getD _ _ _ _ _ hk, Nat.zero_add, hdatR, Mem.readBytes_getD _ _ _ _ hk]
      rfl
    · rw [hnext]
      have hqwe : (csrOut c s r).we = false := by
        cases hreg : c.register with
        | true => simp [csrOut, hreg, hcw hreg]
        | false => simp [csrOut, hreg, hf, zeroCsr]
      have hafter := after_eq c r M hsel
      have hV' : V (side.next t (csrOut c s r) u) =
          (if r.we then M.writeMasked (adrMap c r.adr * c.nb) (r.sel.take c.nb) r.dat else M) := by
        rw [hquiet t _ u hqwe, hregs, hafter]
      cases hreg : c.register with
      | true =>
        simp only [InvOn, next, hreg, hf]
        exact ⟨trivial, trivial, hcw hreg, hV'⟩
      | false =>
        simp only [InvOn, next, hreg, hf, Bool.false_eq_true, if_false]
        exact ⟨trivial, hV'⟩

theorem invOn_init (M : Mem) (hV : V side.init = M) : InvOn c side V (wb2csrOn c side).init none M := by
  cases hreg : c.register <;> simp [InvOn, wb2csrOn, ToCsr.init, hreg, zeroCsr, hV]

theorem refinesOn (h : CsrSideOk side c.nb V Mapped) :
    Refines (wb2csrOn c side) (adrMap c) c.nb (PB c Mapped) (InvOn c side V) :=
  refinesOf c side V (PB c Mapped) (fun _ hP => hP.1) h.quiet
    (fun t o r M hP hV => access c side V Mapped h t o r M hV hP.2.1 hP.2.2)

def fileSide (nb : Nat) (init : Mem) : CsrSide Unit CsrFileState where
  init := (csrFile nb init).init
  datR s := s.datR
  next s q _ := (csrFile nb init).next s q

theorem inv_eq_invOn (init : Mem) : Inv c = InvOn c (fileSide c.nb init) (fun s => s.regs) := rfl

theorem wb2csrOver_eq (init : Mem) : wb2csrOver c init = wb2csrOn c (fileSide c.nb init) := rfl

theorem inv_init (init : Mem) : Inv c (wb2csrOver c init).init none init := by
  rw [inv_eq_invOn c init, wb2csrOver_eq]
  exact invOn_init c (fileSide c.nb init) (fun s => s.regs) init rfl

theorem refines (init : Mem) :
    Refines (wb2csrOver c init) (adrMap c) c.nb (FullSelWrites c) (Inv c) := by
  rw [inv_eq_invOn c init, wb2csrOver_eq]
  exact refinesOf c (fileSide c.nb init) (fun s => s.regs) (FullSelWrites c) (fun _ hP => hP)
    (fun t q _ hq => by show (if q.we = true then _ else t.regs) = t.regs; rw [hq]; rfl)
    (fun t _ r M _ hV => by subst hV; exact ⟨rfl, rfl⟩)

end ToCsr
end Litex.WbMem
