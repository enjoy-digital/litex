import LitexModel.Wishbone.Interconnect
import LitexProofs.RoundRobin
import LitexProofs.Lists
import LitexProofs.Machine
/-
  The Wishbone interconnect models as C06 (and C11, for the same fabrics under a timeout) speaks of them: the
  OR-reductions `orAll`/`orDat` characterised (`orAll_true`, `orDat_unique`, the read mux `orDat_gate_select`); the
  vocabulary of the properties (`DisjointDec`, `sTerm`/`mTerm`, `SlavesBehaved`); the shared bus's address width; per
  fabric the grant invariant (`grant_lt_*`, `GrantsOk`), and the registered select `selR_next`.
-/
namespace Litex.Wishbone
open Litex

theorem orAll_true {m : Nat} {f : Nat → Bool} : orAll m f = true ↔ ∃ j, j < m ∧ f j = true := by
  induction m with
  | zero => simp [orAll]
  | succ k ih =>
    simp only [orAll, Bool.or_eq_true, ih]
    constructor
    · rintro (⟨j, hj, h⟩ | h)
      · exact ⟨j, by omega, h⟩
      · exact ⟨k, by omega, h⟩
    · rintro ⟨j, hj, h⟩
      by_cases hjk : j = k
      · subst hjk; exact Or.inr h
      · exact Or.inl ⟨j, by omega, h⟩

theorem orAll_false {m : Nat} {f : Nat → Bool} : orAll m f = false ↔ ∀ j, j < m → f j = false := by
  rw [← Bool.not_eq_true, orAll_true]
  constructor
  · intro h j hj
    cases hf : f j
    · rfl
    · exact absurd ⟨j, hj, hf⟩ h
  · rintro h ⟨j, hj, hf⟩
    rw [h j hj] at hf
    exact absurd hf (by simp)

theorem orAll_unique {m k : Nat} {f : Nat → Bool} (hk : k < m) (h : ∀ j, j < m → j ≠ k → f j = false) :
    orAll m f = f k := by
  cases hf : f k
  · rw [orAll_false]
    intro j hj
    by_cases hjk : j = k
    · subst hjk; exact hf
    · exact h j hj hjk
  · rw [orAll_true]; exact ⟨k, hk, hf⟩

theorem orDat_zero {m : Nat} {f : Nat → Nat} (h : ∀ j, j < m → f j = 0) : orDat m f = 0 := by
  induction m with
  | zero => rfl
  | succ k ih =>
    simp only [orDat]
    rw [ih (fun j hj => h j (by omega)), h k (by omega)]
    rfl

theorem orDat_unique {m k : Nat} {f : Nat → Nat} (hk : k < m) (h : ∀ j, j < m → j ≠ k → f j = 0) :
    orDat m f = f k := by
  induction m with
  | zero => omega
  | succ n ih =>
    simp only [orDat]
    by_cases hkn : k = n
    · subst hkn
      rw [orDat_zero (fun j hj => h j (by omega) (by omega))]
      exact Nat.zero_or _
    · rw [ih (by omega) (fun j hj hne => h j (by omega) hne), h n (by omega) (fun h => hkn h.symm)]
      exact Nat.or_zero _

/-- The read-data mux: a select that is one-hot on the range picks its slave's word. -/
theorem orDat_gate_select {m j : Nat} {sel : Nat → Bool} {d : Nat → Nat} (hj : j < m)
    (huniq : ∀ k, k < m → sel k = true → k = j) (hsel : sel j = true) :
    orDat m (fun k => gate (sel k) (d k)) = d j := by
  rw [orDat_unique hj (fun k hk hne => by
    cases hs : sel k
    · rfl
    · exact absurd (huniq k hk hs) hne)]
  simp [gate, hsel]

/-- The address predicates of the `m` slaves are pairwise disjoint (what `SoCBusHandler` guarantees for
    non-overlapping regions, see C13). -/
def DisjointDec (m : Nat) (dec : Nat → Nat → Bool) : Prop :=
  ∀ a j k, j < m → k < m → dec j a = true → dec k a = true → j = k

def sTerm (x : BusIn) (j : Nat) : Bool := (x.ss j).ack || (x.ss j).err
def mTerm (o : BusOut) (i : Nat) : Bool := (o.toM i).ack || (o.toM i).err

/-- Environment assumption on the slaves in one cycle: a slave answers only a strobe presented to it. -/
def SlavesBehaved (m : Nat) (o : BusOut) (x : BusIn) : Prop :=
  ∀ j, j < m → sTerm x j = true → (o.toS j).cyc = true ∧ (o.toS j).stb = true

/-- The shared bus is at least as wide as every master (`max([m.adr_width …])`): an address that fits its
    master's `adr_width` travels unchanged. -/
theorem ShCfg.busAdr_of_fits (c : ShCfg) (w a : Nat) (hw : w ∈ c.aws) (ha : a < 2 ^ w) : c.busAdr a = a := by
  unfold ShCfg.busAdr ShCfg.busWidth
  have hne : c.aws.isEmpty = false := by
    cases h : c.aws with
    | nil => rw [h] at hw; simp at hw
    | cons _ _ => rfl
  simp only [hne, Bool.false_eq_true, if_false]
  apply Nat.mod_eq_of_lt
  have := (foldl_max_bounds c.aws 0).2 w hw
  exact Nat.lt_of_lt_of_le ha (Nat.pow_le_pow_right (by omega) this)

theorem ShCfg.busAdr_unbounded (c : ShCfg) (a : Nat) (h : c.aws = []) : c.busAdr a = a := by
  simp [ShCfg.busAdr, ShCfg.busWidth, h]

namespace Shared
variable (c : ShCfg)

theorem grant_lt_next (s : ShState) (x : BusIn) (h : s.grant < c.n) : (next c s x).grant < c.n :=
  RoundRobin.next_lt .withdraw (fun i => (x.ms i).cyc) true h

theorem grant_lt_runFrom (s : ShState) (h : s.grant < c.n) (ins : List BusIn) :
    ((machine c).runFrom s ins).grant < c.n :=
  Machine.invariant_runFrom (machine c) (fun s => s.grant < c.n) (fun s x h => grant_lt_next c s x h) ins s h

theorem selR_next (hreg : c.reg = true) (s : ShState) (x : BusIn) (j : Nat) (hj : j < c.m) :
    (next c s x).selR.getD j false = sel c s x j := by
  simp [next, hreg, hj]

theorem grant_lt_run (hn : 0 < c.n) (ins : List BusIn) : ((machine c).run ins).grant < c.n :=
  grant_lt_runFrom c (init c) hn ins

end Shared

namespace Crossbar
variable (c : XbCfg)

theorem grant_next (s : XbState) (x : BusIn) (j : Nat) (hj : j < c.m) :
    grant (next c s x) j = RoundRobin.next .withdraw c.n (grant s j) (colReq c x j) := by
  simp [grant, next, hj]

/-- Every column's owner is one of the masters (holds in every reachable state). -/
def GrantsOk (s : XbState) : Prop := ∀ j, j < c.m → grant s j < c.n

theorem grantsOk_next (s : XbState) (x : BusIn) (h : GrantsOk c s) : GrantsOk c (next c s x) := by
  intro j hj
  rw [grant_next c s x j hj]
  exact RoundRobin.next_lt .withdraw (colReq c x j) true (h j hj)

theorem grantsOk_init (hn : 0 < c.n) : GrantsOk c (init c) := by
  intro j hj
  simp [grant, init, hj, hn]

theorem grantsOk_runFrom (s : XbState) (h : GrantsOk c s) (ins : List BusIn) :
    GrantsOk c ((machine c).runFrom s ins) :=
  Machine.invariant_runFrom (machine c) (GrantsOk c) (fun s x h => grantsOk_next c s x h) ins s h

theorem selR_next (hreg : c.reg = true) (s : XbState) (x : BusIn) (i j : Nat) (hi : i < c.n) (hj : j < c.m) :
    ((next c s x).selR.getD i []).getD j false = sel c x i j := by
  simp [next, hreg, hi, hj]

end Crossbar

end Litex.Wishbone
