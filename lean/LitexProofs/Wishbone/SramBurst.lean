import LitexModel.Wishbone.SramBurst
import LitexProofs.Wishbone.Sram
/-
  Burst masters.  First the burst form of the refinement interface, for any slave: the relation is indexed by what
  the master owes next (`Expect`) instead of the request it holds.  Then `wishbone.SRAM` on a bursting bus:
  incrementing / wrapping bursts of a registered-feedback master, served by the burst address counter.
-/
namespace Litex.WbMem
open Litex

theorem Expect.next_inactive (e : Expect) (r : Req) (ack : Bool) (h : r.active = false) : e.next r ack = .free := by
  simp [Expect.next, h]

theorem Expect.next_noack (e : Expect) (r : Req) (h : r.active = true) : e.next r false = .hold r := by
  simp [Expect.next, h]

theorem Expect.next_ack_end (e : Expect) (r : Req) (h : r.active = true) (hc : r.cti ≠ 2) : e.next r true = .free := by
  simp [Expect.next, h, hc]

/-- One cycle of a burst master: `CycleOk`, re-establishing the relation for the master's next obligation. -/
abbrev BStepOk {ω τ : Type} (sl : Slave ω τ) (f : Nat → Nat) (nb : Nat) (InvB : τ → Expect → Mem → Prop)
    (s : τ) (e : Expect) (i : Req × ω) (M : Mem) : Prop :=
  CycleOk sl f nb (fun _ => true) s i M (fun b M' => InvB (sl.next s i) (e.next i.1 b) M')

theorem BStepOk.inactive {ω τ : Type} {sl : Slave ω τ} {f : Nat → Nat} {nb : Nat} {InvB : τ → Expect → Mem → Prop}
    {s : τ} {e : Expect} {i : Req × ω} {M : Mem} (h : BStepOk sl f nb InvB s e i M) (hi : i.1.active = false) :
    (sl.out s i).ack = false ∧ InvB (sl.next s i) .free M := by
  have := CycleOk.inactive h hi
  rwa [Expect.next_inactive _ _ _ hi] at this

/-- `BRefines sl f nb mw P InvB`: every cycle in which the master honours its burst obligation (`Expect.allows mw`)
    preserves `InvB` and completes bus cycles consistently with the abstract byte memory. -/
def BRefines {ω τ : Type} (sl : Slave ω τ) (f : Nat → Nat) (nb : Nat) (mw : Bool) (P : Req × ω → Prop)
    (InvB : τ → Expect → Mem → Prop) : Prop :=
  ∀ s e M i, InvB s e M → e.allows mw i.1 → P i → BStepOk sl f nb InvB s e i M

theorem BRefines.run {ω τ : Type} {sl : Slave ω τ} {f : Nat → Nat} {nb : Nat} {mw : Bool} {P : Req × ω → Prop}
    {InvB : τ → Expect → Mem → Prop} (h : BRefines sl f nb mw P InvB)
    (s : τ) (e : Expect) (M : Mem) (hinv : InvB s e M) (ins : List (Req × ω)) (hb : BurstFrom sl mw s e ins)
    (hP : ∀ i ∈ ins, P i) : Consistent nb M (opsFrom sl f s ins) ∧ AckOnlyStrobedFrom sl s ins := by
  have := run_of_cycles sl f nb (fun _ => true) InvB Expect.next (BurstFrom sl mw) P (fun _ _ _ _ hb => hb.2)
    (fun s e M i _ hinv hb hP => h s e M i hinv hb.1 hP) ins s e M hinv hb hP
  rwa [List.filter_eq_self.mpr (fun _ _ => rfl)] at this

namespace Sram
variable (c : SramCfg)

theorem wrapBits_le (bte : Nat) : wrapBits bte ≤ 4 := by
  unfold wrapBits; split <;> omega

theorem idx_mod_aw (x : Nat) : c.idx (x % 2 ^ c.aw) = c.idx x := by
  unfold SramCfg.idx
  rw [Nat.mod_mod_of_dvd _ (Nat.pow_dvd_pow 2 (Nat.min_le_right _ _))]

theorem block_le (a0 K aw : Nat) (hK : K ≤ aw) (ha : a0 < 2 ^ aw) : a0 / 2 ^ K * 2 ^ K + 2 ^ K ≤ 2 ^ aw := by
  have h1 : a0 / 2 ^ K < 2 ^ (aw - K) := by
    rw [Nat.div_lt_iff_lt_mul (Nat.two_pow_pos K), ← Nat.pow_add, Nat.sub_add_cancel hK]; exact ha
  calc a0 / 2 ^ K * 2 ^ K + 2 ^ K = (a0 / 2 ^ K + 1) * 2 ^ K := by rw [Nat.add_mul, Nat.one_mul]
    _ ≤ 2 ^ (aw - K) * 2 ^ K := Nat.mul_le_mul_right _ h1
    _ = 2 ^ aw := by rw [← Nat.pow_add, Nat.sub_add_cancel hK]

/-- The burst address counter computes the burst address: with `offset = a0 mod 2^K` and `counter = block(a0) + j`,
    `adr_next` addresses the word of beat `j` of the burst from `a0` (inside the wrap block).  `4 ≤ aw`: the largest wrap block, `2^4` words (`wrapBits_le`), must
    fit the address counter.  In `BInv`, `j` is `k` for a write burst and `k + 1` for a read burst: the read port is
    registered, so the counter is loaded one beat ahead for reads and the word of beat `k` is already at the port. -/
theorem adrNext_eq (haw : 4 ≤ c.aw) (s : SramState) (r : Req) (a0 j : Nat) (ha : a0 < 2 ^ c.aw)
    (hoff : s.offset = a0 % 2 ^ wrapBits r.bte)
    (hcnt : s.counter = (a0 / 2 ^ wrapBits r.bte * 2 ^ wrapBits r.bte + j) % 2 ^ c.aw)
    (hj : wrapBits r.bte ≠ 0 → j < 2 ^ wrapBits r.bte) :
    c.idx (adrNext c s r) = c.idx (burstAdr a0 r.bte j) := by
  unfold adrNext burstAdr
  simp only
  generalize hK : wrapBits r.bte = K at *
  by_cases hK0 : K = 0
  · subst hK0
    simp only [Nat.pow_zero, Nat.div_one, Nat.mul_one, Nat.mod_one, Nat.add_zero, if_true] at *
    rw [hcnt, Nat.mod_mod, idx_mod_aw]
  · have hKle : K ≤ c.aw := by have := wrapBits_le r.bte; omega
    have hjK := hj hK0
    have hblk := block_le a0 K c.aw hKle ha
    have hpos := Nat.two_pow_pos K
    have hB : a0 / 2 ^ K * 2 ^ K + j < 2 ^ c.aw := by omega
    rw [hcnt, hoff, Nat.mod_eq_of_lt hB]
    simp only [hK0, if_false]
    have e1 : (a0 / 2 ^ K * 2 ^ K + j) / 2 ^ K = a0 / 2 ^ K := by
      rw [Nat.mul_comm, Nat.mul_add_div hpos, Nat.div_eq_of_lt hjK, Nat.add_zero]
    have e2 : (a0 / 2 ^ K * 2 ^ K + j + a0 % 2 ^ K) % 2 ^ K = (a0 + j) % 2 ^ K := by
      have : a0 / 2 ^ K * 2 ^ K + j + a0 % 2 ^ K = a0 + j := by
        have := Nat.div_add_mod a0 (2 ^ K); rw [Nat.mul_comm] at this; omega
      rw [this]
    rw [e1, e2]
    have hlt : a0 / 2 ^ K * 2 ^ K + (a0 + j) % 2 ^ K < 2 ^ c.aw := by
      have := Nat.mod_lt (a0 + j) hpos; omega
    rw [Nat.mod_eq_of_lt hlt]

theorem burstAdr_zero (a0 bte : Nat) : burstAdr a0 bte 0 = a0 := by
  unfold burstAdr
  split
  · rfl
  · rw [Nat.add_zero, Nat.mul_comm]; exact Nat.div_add_mod a0 _

/-- The SRAM against what the burst protocol expects, `M` the abstract memory before the request in flight.
    `.hold r`: `ack` is up and `r`'s write is already in the store (the SRAM writes in the first strobe cycle); in a burst
    the counter has been loaded from `r.adr`, one beat ahead for reads, whose data must be at the port a cycle early.
    `.cont … k`: before beat `k`, counter at block + `k` (+ 1 for reads).  `adrReg` is held to the beat's word for reads
    only: a write goes to the port address of its own cycle and never reads `adrReg`. -/
def BInv (s : SramState) (e : Expect) (M : Mem) : Prop :=
  s.mem.length = c.depth * c.nb ∧
  match e with
  | .free => s.ack = false ∧ s.latched = false ∧ Mem.ofList s.mem = M
  | .hold r => r.active = true ∧ r.adr < 2 ^ c.aw ∧ s.ack = true ∧ s.adrReg = c.idx r.adr ∧
      Mem.ofList s.mem = (if r.we then M.apply ((opOf c r).write c.nb) else M) ∧
      (if r.cti = 2 then
         s.latched = true ∧ s.offset = r.adr % 2 ^ wrapBits r.bte ∧
         s.counter = (r.adr / 2 ^ wrapBits r.bte * 2 ^ wrapBits r.bte + (if r.we then 0 else 1)) % 2 ^ c.aw
       else s.latched = false)
  | .cont a0 we bte k => a0 < 2 ^ c.aw ∧ 1 ≤ k ∧ s.ack = true ∧ s.latched = true ∧
      s.offset = a0 % 2 ^ wrapBits bte ∧
      s.counter = (a0 / 2 ^ wrapBits bte * 2 ^ wrapBits bte + (k + (if we then 0 else 1))) % 2 ^ c.aw ∧
      (we = false → s.adrReg = c.idx (burstAdr a0 bte k)) ∧ Mem.ofList s.mem = M

theorem BInv.of_cont {c : SramCfg} {s : SramState} {a0 : Nat} {we : Bool} {bte k : Nat} {M : Mem}
    (h : BInv c s (.cont a0 we bte k) M) : s.mem.length = c.depth * c.nb ∧ Mem.ofList s.mem = M :=
  ⟨h.1, h.2.2.2.2.2.2.2.2⟩

/-- The store after a strobe cycle served at `r`'s word: `r`'s write on top of `M`, whether the store was `M` (first
    cycle of the request) or already contained the write (acknowledge cycle: the SRAM writes in both). -/
theorem store_after (hd : 0 < c.depth) (s : SramState) (hlen : s.mem.length = c.depth * c.nb) (r : Req) (a : Nat)
    (ha : r.we = true → c.idx a = c.idx r.adr) (M : Mem)
    (h : Mem.ofList s.mem = M ∨ Mem.ofList s.mem = if r.we then M.apply ((opOf c r).write c.nb) else M) :
    Mem.ofList (if r.we then writeLanes s.mem (c.idx a * c.nb) r.sel r.dat c.nb else s.mem) =
      if r.we then M.apply ((opOf c r).write c.nb) else M := by
  cases hwe : r.we
  · simpa [hwe] using h
  · simp only [hwe, if_true] at h ⊢
    rw [ofList_writeLanes _ _ _ _ _ (by rw [hlen]; exact word_in_store c hd a), ha hwe]
    rcases h with h | h <;> rw [h]
    · rfl
    · exact Mem.writeMasked_idem _ _ _ _

/-- `mw = true`: wrapping bursts up to the wrap length only (beyond it the counter leaves the wrap block, finding
    C07-sram-wrap-burst-overrun). -/
theorem brefines (hd : 0 < c.depth) (hrw : c.readOnly = false) (hb : c.burst = true) (haw : 4 ≤ c.aw)
    (init : List Byte) :
    BRefines (sram c init) c.idx c.nb true (fun i => i.1.adr < 2 ^ c.aw) (BInv c) := by
  intro s e M i hinv hall hadr
  obtain ⟨r, u⟩ := i
  obtain ⟨hlen, hrest⟩ := hinv
  dsimp only at hall hadr
  have hab : adrBurst c r = (r.cti == 2) := by simp [adrBurst, hb]
  have hout : ((sram c init).out s (r, u)).ack = s.ack := rfl
  have hamod : r.adr % 2 ^ c.aw = r.adr := Nat.mod_eq_of_lt hadr
  cases e with
  | free =>
    obtain ⟨hack, hlat, hmem⟩ := hrest
    have hpa : portAdr c s r = c.idx r.adr := by simp [portAdr, hlat]
    apply CycleOk.mk_no_ack (by rw [hout, hack])
    simp only [Expect.next]
    cases hact : r.active with
    | false =>
      have hnx := next_idle c init s r u hact
      simp only [Bool.not_false, if_true, BInv, hnx, hlen, hmem, and_self]
    | true =>
      have hnx := next_active c init s r u hact
      simp only [Bool.not_true, Bool.false_eq_true, if_false, Bool.not_false, if_true, BInv, hnx,
        hrw, Bool.true_and, hpa, hack, Bool.true_or, hlat, hamod, hab]
      refine ⟨by split <;> simp [hlen], hact, hadr, trivial, trivial, ?_, ?_⟩
      · exact store_after c hd s hlen r r.adr (fun _ => rfl) M (Or.inl hmem)
      · by_cases hcti : r.cti = 2
        · simp [hcti]
        · simp [hcti]
  | hold r0 =>
    have hr : r = r0 := hall
    subst hr
    obtain ⟨hact, _, hack, hadrReg, hmem, hbst⟩ := hrest
    have hnx := next_active c init s r u hact
    apply CycleOk.mk_ack (by rw [hout, hack]) hact
    · intro hwe k hk _
      simp only at hwe
      simp only [hwe, Bool.false_eq_true, if_false] at hmem
      show (readLanes s.mem s.adrReg c.nb).getD k 0 = _
      rw [readLanes_getD _ _ _ _ hk, hadrReg, hmem]
    · show BInv c _ _ (if r.we then M.apply ((opOf c r).write c.nb) else M)
      simp only [Expect.next, hact, Bool.not_true, Bool.false_eq_true, if_false]
      by_cases hcti : r.cti = 2
      · -- first beat of a burst acknowledged: the counter takes over
        simp only [hcti, if_true] at hbst
        obtain ⟨hlat, hoff, hcnt⟩ := hbst
        have hab' : adrBurst c r = true := by rw [hab, hcti]; rfl
        have hnext := adrNext_eq c haw s r r.adr (if r.we then 0 else 1) hadr hoff hcnt (by
          intro hK
          have : 2 ≤ wrapBits r.bte := by unfold wrapBits at hK ⊢; split at hK <;> simp_all
          have : 2 ^ 2 ≤ 2 ^ wrapBits r.bte := Nat.pow_le_pow_right (by omega) this
          split <;> omega)
        have hpa : portAdr c s r = c.idx (burstAdr r.adr r.bte (if r.we then 0 else 1)) := by
          simp [portAdr, hab', hlat, hnext]
        simp only [hcti, beq_self_eq_true, if_true, BInv, hnx, hrw, Bool.not_false, Bool.true_and,
          hpa, hack, hab', Bool.or_true, hlat, if_true, hoff, hcnt]
        refine ⟨by split <;> simp [hlen], hadr, Nat.le_refl 1, trivial, trivial, trivial, ?_, ?_, ?_⟩
        · cases hwe : r.we
          · simp only [Bool.false_eq_true, if_false]
            rw [Nat.add_mod, Nat.mod_mod, ← Nat.add_mod]
          · simp only [if_true, Nat.add_zero]
            rw [Nat.add_mod, Nat.mod_mod, ← Nat.add_mod]
        · intro hwe; simp [hwe]
        · exact store_after c hd s hlen r _ (fun hwe => by rw [hwe, if_pos rfl, burstAdr_zero]) M (Or.inr hmem)
      · -- a single-beat cycle (classic, constant address, lone end of burst)
        simp only [hcti, if_false] at hbst
        have hab' : adrBurst c r = false := by rw [hab]; simpa using hcti
        have hpa : portAdr c s r = c.idx r.adr := by simp [portAdr, hab']
        have hne : (r.cti == 2) = false := by simpa using hcti
        simp only [hne, Bool.false_eq_true, if_false, BInv, hnx, hrw, Bool.not_false, Bool.true_and,
          hpa, hack, hab', Bool.not_true, Bool.or_false]
        refine ⟨by split <;> simp [hlen], trivial, trivial, ?_⟩
        exact store_after c hd s hlen r r.adr (fun _ => rfl) M (Or.inr hmem)
  | cont a0 we bte k =>
    obtain ⟨ha0, hk1, hack, hlat, hoff, hcnt, hrd, hmem⟩ := hrest
    obtain ⟨hact, hradr, hrwe, hrbte, hcti, hwrap⟩ := hall
    have hnx := next_active c init s r u hact
    subst hrwe hrbte
    apply CycleOk.mk_ack (by rw [hout, hack]) hact
    · intro hwe j hj _
      simp only at hwe
      show (readLanes s.mem s.adrReg c.nb).getD j 0 = _
      rw [readLanes_getD _ _ _ _ hj, hrd hwe, hmem, hradr]
    · show BInv c _ _ (if r.we then M.apply ((opOf c r).write c.nb) else M)
      simp only [Expect.next, hact, Bool.not_true, Bool.false_eq_true, if_false]
      rcases hcti with hcti | hcti
      · -- the burst goes on
        have hab' : adrBurst c r = true := by rw [hab, hcti]; rfl
        have hw := hwrap rfl hcti
        have hnextW := adrNext_eq c haw s r a0 (k + (if r.we then 0 else 1)) ha0 hoff hcnt (by
          intro hK; have := hw hK; split <;> omega)
        have hpa : portAdr c s r = c.idx (burstAdr a0 r.bte (k + (if r.we then 0 else 1))) := by
          simp [portAdr, hab', hlat, hnextW]
        simp only [hcti, beq_self_eq_true, if_true, BInv, hnx, hrw, Bool.not_false, Bool.true_and,
          hpa, hack, hab', Bool.or_true, hlat, hoff, hcnt]
        refine ⟨by split <;> simp [hlen], ha0, by omega, trivial, trivial, trivial, ?_, ?_, ?_⟩
        · rw [Nat.add_mod, Nat.mod_mod, ← Nat.add_mod]
          congr 1; omega
        · intro hwe; simp [hwe]
        · exact store_after c hd s hlen r _ (fun hwe => by rw [hwe, if_pos rfl, Nat.add_zero, hradr]) M (Or.inl hmem)
      · -- last beat (cti = 7): served at the presented address, then the bus is free
        have hab' : adrBurst c r = false := by rw [hab, hcti]; rfl
        have hpa : portAdr c s r = c.idx r.adr := by simp [portAdr, hab']
        have hne : (r.cti == 2) = false := by rw [hcti]; rfl
        simp only [hne, Bool.false_eq_true, if_false, BInv, hnx, hrw, Bool.not_false, Bool.true_and,
          hpa, hack, hab', Bool.not_true, Bool.or_false]
        refine ⟨by split <;> simp [hlen], trivial, trivial, ?_⟩
        exact store_after c hd s hlen r r.adr (fun _ => rfl) M (Or.inl hmem)

theorem binv_init (init : List Byte) : BInv c (Sram.init c init) .free (Mem.ofList (initMem c init)) := by
  simp [BInv, Sram.init, initMem]

end Sram

instance decAllows (mw : Bool) (e : Expect) (i : Req) : Decidable (e.allows mw i) := by
  cases e <;> unfold Expect.allows <;> exact inferInstance

instance decBurstFrom {ω τ : Type} (m : Slave ω τ) (mw : Bool) : (s : τ) → (e : Expect) → (ins : List (Req × ω)) →
    Decidable (BurstFrom m mw s e ins)
  | _, _, [] => isTrue trivial
  | s, e, i :: is =>
    match decAllows mw e i.1, decBurstFrom m mw (m.next s i) (e.next i.1 (m.out s i).ack) is with
    | isTrue h1, isTrue h2 => isTrue ⟨h1, h2⟩
    | isFalse h1, _ => isFalse (fun h => h1 h.1)
    | _, isFalse h2 => isFalse (fun h => h2 h.2)

instance decBurstMaster {ω τ : Type} (m : Slave ω τ) (mw : Bool) (ins : List (Req × ω)) :
    Decidable (BurstMaster m mw ins) := decBurstFrom m mw m.init .free ins

end Litex.WbMem

