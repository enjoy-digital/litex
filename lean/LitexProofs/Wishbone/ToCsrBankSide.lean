import LitexProofs.Wishbone.ToCsrBank
/-
  `csr_bus.CSRBank` (C12's model `Csr.bank`) with one-word `CSRStorage` registers is a register file on its mapped
  addresses: `bank_sideOk : CsrSideOk (bankSide nb b) …`, the hypothesis of `ToCsr.refinesOn`.  The bank computes
  on naturals and the bridge on byte vectors, hence the `wordBytes`/`bytesWord` round trips first.
-/
namespace Litex.WbMem
open Litex Litex.Csr

theorem wordBytes_mod_two_pow (n v : Nat) : wordBytes n (v % 2 ^ (8 * n)) = wordBytes n v := by
  rw [Nat.pow_mul]; exact Litex.wordBytes_mod n v

theorem bytes_setSlice (nb v x : Nat) : wordBytes nb (setSlice 0 (8 * nb) v x) = wordBytes nb x := by
  rw [← wordBytes_mod_two_pow nb (setSlice 0 (8 * nb) v x), ← wordBytes_mod_two_pow nb x]
  have := slice_setSlice_same 0 (8 * nb) v x
  rw [slice_zero] at this
  unfold trunc at this
  rw [this]

/-- Every register of the bank is a `CSRStorage` exactly one bus word wide, without `write_from_dev`; the
    simple CSRs fit the page. -/
def PlainBank (nb : Nat) (b : BankCfg) : Prop :=
  b.bw = 8 * nb ∧ 0 < nb ∧ b.Fits ∧ ∀ r ∈ b.regs, r.kind = .storage ∧ r.size = b.bw ∧ r.wfd = false

/-- Register contents as a byte memory: CSR word `a` at bytes `a*nb ..`, 0 where the bank has no register. -/
def bankV (nb : Nat) (b : BankCfg) (s : BankState) : Mem := fun x =>
  match b.hit (x / nb) with
  | some sc => (wordBytes nb (s.reg sc.reg).val).getD (x % nb) 0
  | none => 0

def bankMapped (b : BankCfg) (a : Nat) : Prop := (b.hit a).isSome = true

instance (b : BankCfg) (a : Nat) : Decidable (bankMapped b a) := by unfold bankMapped; infer_instance

section
variable (nb : Nat) (b : BankCfg) (hp : PlainBank nb b)
include hp

theorem plain_spec (k : Nat) (hk : k < b.regs.length) :
    (b.spec k).kind = .storage ∧ (b.spec k).size = b.bw ∧ (b.spec k).wfd = false := by
  apply hp.2.2.2
  simp only [BankCfg.spec, List.getD_eq_getElem?_getD, List.getElem?_eq_getElem hk, Option.getD_some]
  exact List.getElem_mem hk

theorem plain_bw_pos : 0 < b.bw := by have := hp.1; have := hp.2.1; omega

theorem plain_nwords : nwords b.bw b.bw = 1 := by
  have h := plain_bw_pos nb b hp
  unfold nwords
  rw [show b.bw + b.bw - 1 = (b.bw - 1) + 1 * b.bw by omega, Nat.add_mul_div_right _ _ h,
    Nat.div_eq_of_lt (by omega)]

/-- What a hit is in a plain bank: word 0 of register `k`, bits `[0, bw)`. -/
theorem plain_hit (a : Nat) (sc : Simple) (h : b.hit a = some sc) :
    ∃ k, k < b.regs.length ∧ sc = b.simple k 0 ∧ a = b.wordAdr k 0 ∧ sc.reg = k ∧ sc.lo = 0 ∧ sc.nbits = b.bw ∧
      b.ValidWord k 0 := by
  obtain ⟨k, j, hv, hsc, ha⟩ := BankCfg.hit_inv b a sc h
  obtain ⟨hkind, hsize, _⟩ := plain_spec nb b hp k hv.1
  have hne : (b.spec k).kind ≠ .raw := by rw [hkind]; decide
  have hj : j = 0 := by
    have := hv.2
    rw [show b.regs.getD k default = b.spec k from rfl, regWords_of_not_raw _ _ hne, hsize,
      plain_nwords nb b hp] at this
    omega
  subst hj
  obtain ⟨hlo, hnb⟩ := simple_lo b k 0 hne
  refine ⟨k, hv.1, hsc, ha, by rw [hsc, BankCfg.simple_reg], by rw [hsc, hlo, Nat.zero_mul], ?_, hv⟩
  rw [hsc, hnb, hsize]; simp [wordBits]

theorem plain_next_val (s : BankState) (i : BankIn) (k : Nat) (hk : k < b.regs.length) :
    (((bank b).next s i).reg k).val =
      match (if i.bus.we then b.hitReg i.bus.adr k else none) with
      | none => (s.reg k).val
      | some sc => setSlice sc.lo sc.nbits (s.reg k).val i.bus.datW := by
  obtain ⟨hkind, hsize, hwfd⟩ := plain_spec nb b hp k hk
  rw [next_reg b s i k hk]
  have hat : isAtomic b.bw (b.spec k) = false := by
    simp [isAtomic, hsize, plain_nwords nb b hp]
  generalize (if i.bus.we then b.hitReg i.bus.adr k else none) = w
  cases w <;> simp [regNext, hkind, devVal, hwfd, hat]

theorem bank_sideOk : CsrSideOk (bankSide nb b) nb (bankV nb b) (bankMapped b) := by
  have hnb := hp.2.1
  have hbw := hp.1
  have hfit := hp.2.2.1
  refine ⟨?_, ?_, ?_⟩
  · -- no `we`: the registers keep their contents (no read side effects)
    intro s q dev hwe
    funext x
    simp only [bankV, bankSide]
    cases hh : b.hit (x / nb) with
    | none => rfl
    | some sc =>
      obtain ⟨k, hk, _, _, hreg, _, _, _⟩ := plain_hit nb b hp _ sc hh
      simp only [hreg]
      rw [plain_next_val nb b hp s _ k hk]
      simp [busOfCsrReq, hwe]
  · -- `we` on a mapped address: exactly that word is replaced
    intro s q dev hwe hmap hlen hbytes
    obtain ⟨sc0, hh0⟩ := Option.isSome_iff_exists.mp hmap
    obtain ⟨k0, hk0, hsc0, ha0, hreg0, hlo0, hnb0, hv0⟩ := plain_hit nb b hp _ sc0 hh0
    funext x
    rw [Mem.writeMasked_apply, replicate_true_getD]
    simp only [bankV, bankSide]
    by_cases hx : x / nb = q.adr
    · have hle : q.adr * nb ≤ x := by rw [← hx]; exact Nat.div_mul_le_self x nb
      have hsub : x - q.adr * nb = x % nb := by
        have := Nat.div_add_mod x nb; rw [hx, Nat.mul_comm] at this; omega
      have hlt : x % nb < nb := Nat.mod_lt _ hnb
      simp only [hle, hsub, hlt, decide_true, and_self, if_true, hx, hh0, hreg0]
      rw [plain_next_val nb b hp s _ k0 hk0]
      have hq : b.hitReg q.adr k0 = some sc0 := by
        rw [ha0, BankCfg.hitReg_wordAdr b k0 0 hfit hv0, hsc0]
      simp only [busOfCsrReq, hwe, if_true, hq, hlo0, hnb0, hbw]
      have hwb := wordBytes_bytesWord q.dat hbytes
      rw [hlen] at hwb
      rw [bytes_setSlice nb, hwb]
    · have hcond : ¬ (q.adr * nb ≤ x ∧ decide (x - q.adr * nb < nb) = true) := by
        intro ⟨h1, h2⟩
        have h2' : x - q.adr * nb < nb := of_decide_eq_true h2
        apply hx
        have : x = (x - q.adr * nb) + q.adr * nb := by omega
        rw [this, Nat.add_mul_div_right _ _ hnb, Nat.div_eq_of_lt h2', Nat.zero_add]
      simp only [hcond, if_false]
      cases hh : b.hit (x / nb) with
      | none => rfl
      | some sc =>
        obtain ⟨k, hk, _, ha, hreg, _, _, _⟩ := plain_hit nb b hp _ sc hh
        simp only [hreg]
        rw [plain_next_val nb b hp s _ k hk]
        have hne : k ≠ k0 := by
          intro he; apply hx; rw [ha, ha0, he]
        have hq : b.hitReg q.adr k = none := by
          rw [ha0]; exact BankCfg.hitReg_wordAdr_other b k0 0 k hfit hv0 hne
        simp [busOfCsrReq, hq]
  · -- `dat_r` one cycle after addressing a mapped word: its bytes
    intro s q dev hmap
    obtain ⟨sc0, hh0⟩ := Option.isSome_iff_exists.mp hmap
    obtain ⟨k0, hk0, _, _, hreg0, hlo0, hnb0, _⟩ := plain_hit nb b hp _ sc0 hh0
    obtain ⟨hkind, _, _⟩ := plain_spec nb b hp k0 hk0
    have hd : ((bank b).next s { bus := busOfCsrReq q, dev := dev }).datR = slice 0 (8 * nb) (s.reg k0).val := by
      rw [next_datR]
      simp only [busOfCsrReq, hh0, hreg0, wordVal, hkind, hlo0, hnb0, hbw]
    simp only [bankSide, hd]
    rw [slice_zero]
    unfold trunc
    rw [wordBytes_mod_two_pow]
    rw [list_eq_map_getD (wordBytes nb (s.reg k0).val) 0, wordBytes_length]
    unfold Mem.readBytes
    apply List.map_congr_left
    intro i hi
    have hi' : i < nb := List.mem_range.mp hi
    simp only [bankV, mul_add_div_of_lt _ hi', hh0, hreg0, mul_add_mod_of_lt _ hi']

end

end Litex.WbMem
