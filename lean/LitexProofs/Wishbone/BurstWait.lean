import LitexProofs.Wishbone.ConvBurst
/-
  Burst masters that insert wait states (`stb` low between two beats, `cyc` held or dropped, anything on the other
  lines): the burst refinement interface `BRefines` extended by one obligation per slave — a cycle without strobe
  between two beats leaves the slave in a state from which any new cycle is served (`WaitOk`).
-/
namespace Litex.WbMem
open Litex

theorem Expect.isCont_next (e : Expect) (i : Req) (ack : Bool) :
    (e.next i ack).isCont = (i.active && ack && i.cti == 2) := by
  unfold Expect.next
  cases i.active <;> cases ack <;> cases (i.cti == 2) <;> cases e <;> rfl

theorem BurstFrom.toW {ω τ : Type} (m : Slave ω τ) (mw : Bool) :
    ∀ (ins : List (Req × ω)) (s : τ) (e : Expect), BurstFrom m mw s e ins → BurstFromW m mw s e ins := by
  intro ins
  induction ins with
  | nil => intro _ _ _; trivial
  | cons i is ih => intro s e h; exact ⟨Or.inl h.1, ih _ _ h.2⟩

/-- A cycle without strobe between two beats of a burst: nothing completes, and the slave is ready for any new
    cycle afterwards. -/
def WaitOk {ω τ : Type} (sl : Slave ω τ) (P : Req × ω → Prop) (InvB : τ → Expect → Mem → Prop) : Prop :=
  ∀ s e M i, InvB s e M → e.isCont = true → i.1.active = false → P i → InvB (sl.next s i) .free M

/-- Not an instance of `run_of_cycles`: in a wait state the slave may acknowledge without strobe, which the first
    conjunct of `CycleOk` excludes. -/
theorem BRefines.runW {ω τ : Type} {sl : Slave ω τ} {f : Nat → Nat} {nb : Nat} {mw : Bool} {P : Req × ω → Prop}
    {InvB : τ → Expect → Mem → Prop} (h : BRefines sl f nb mw P InvB) (hw : WaitOk sl P InvB) :
    ∀ (ins : List (Req × ω)) (s : τ) (e : Expect) (M : Mem), InvB s e M → BurstFromW sl mw s e ins →
      (∀ i ∈ ins, P i) → Consistent nb M (opsFrom sl f s ins) ∧ AckStrobedOrPreFrom sl s e.isCont ins := by
  intro ins
  induction ins with
  | nil => intro s e M _ _ _; simp [opsFrom, Consistent, AckStrobedOrPreFrom]
  | cons i is ih =>
    intro s e M hinv hb hP
    obtain ⟨hall, hrest⟩ := hb
    rcases hall with hall | ⟨hc, hina⟩
    · obtain ⟨hack, hcons, hnext⟩ := h s e M i hinv hall (hP i (List.mem_cons_self ..))
      rw [List.filter_eq_self.mpr (fun _ _ => rfl)] at hcons hnext
      obtain ⟨h1, h2⟩ := ih _ _ _ hnext hrest (fun j hj => hP j (List.mem_cons_of_mem _ hj))
      rw [Expect.isCont_next] at h2
      refine ⟨?_, fun ha => Or.inl (hack ha), h2⟩
      simp only [opsFrom]
      rw [consistent_append]
      exact ⟨hcons, h1⟩
    · have hop : opNow sl f s i = [] := by simp [opNow, hina]
      have hnext := hw s e M i hinv hc hina (hP i (List.mem_cons_self ..))
      rw [Expect.next_inactive _ _ _ hina] at hrest
      obtain ⟨h1, h2⟩ := ih _ _ _ hnext hrest (fun j hj => hP j (List.mem_cons_of_mem _ hj))
      refine ⟨?_, fun _ => Or.inr hc, ?_⟩
      · simp only [opsFrom, hop, List.nil_append]; exact h1
      · simpa [hina, Expect.isCont] using h2

/-- The bursting SRAM: a wait state resets the burst address counter and the acknowledge; the next beat is served
    at the address the master presents (the counter is latched again from it). -/
theorem Sram.waitOk (c : SramCfg) (init : List Byte) :
    WaitOk (sram c init) (fun i => i.1.adr < 2 ^ c.aw) (Sram.BInv c) := by
  intro s e M i hinv hc hina _
  obtain ⟨r, u⟩ := i
  dsimp only at hina
  cases e with
  | free => simp [Expect.isCont] at hc
  | hold r0 => simp [Expect.isCont] at hc
  | cont a0 we bte k =>
    obtain ⟨hlen, hmem⟩ := hinv.of_cont
    simp [Sram.BInv, Sram.next_idle c init s r u hina, hlen, hmem]

namespace Down
variable (c : DownCfg) {ω τ : Type} (sl : Slave ω τ) (f g : Nat → Nat) (InvS : τ → Expect → Mem → Prop)

theorem waitOk (P : Req × ω → Prop) (PS : Req × ω → Prop)
    (hP : ∀ s r o, s.count < c.ratio → P (r, o) → PS (toSlave c s r, o))
    (hS : BRefines sl f c.nbs true PS InvS) (hSw : WaitOk sl PS InvS) :
    WaitOk ((downConv c).over sl) P (BInvD c g InvS) := by
  intro st e M i hinv hc hina hPi
  obtain ⟨r, o⟩ := i
  obtain ⟨s, t⟩ := st
  dsimp only at hina
  cases e with
  | free => simp [Expect.isCont] at hc
  | hold r0 => simp [Expect.isCont] at hc
  | cont a0 we bte k =>
    obtain ⟨hcnt, Ms, eS, hSinv, hlink⟩ := hinv
    obtain ⟨hc0, hMs, hes⟩ := hlink.of_cont
    dsimp only at hcnt hSinv hc0
    subst hMs
    let sr := toSlave c s r
    let rsp := sl.out t (sr, o)
    have hnext : ((downConv c).over sl).next (s, t) (r, o) = (next c s r rsp, sl.next t (sr, o)) := rfl
    have hsr : sr.active = false := by rw [toSlave_active, hina]; rfl
    have hPS := hP s r o hcnt hPi
    have hSnext : InvS (sl.next t (sr, o)) .free Ms := by
      by_cases hb : bte = 0
      · simp only [hb, if_true] at hes
        obtain ⟨aS, j, he, _⟩ := hes
        subst he
        exact hSw t _ Ms (sr, o) hSinv rfl hsr hPS
      · simp only [hb, if_false] at hes
        subst hes
        exact ((hS t .free Ms (sr, o) hSinv trivial hPS).inactive hsr).2
    have hcount := next_count_idle c s r rsp hina hc0
    rw [hnext]
    exact ⟨by rw [hcount]; exact ratio_pos c, Ms, .free, hSnext, hcount, rfl, rfl⟩

end Down

instance decAllowsW (mw : Bool) (e : Expect) (i : Req) : Decidable (e.allowsW mw i) := by
  unfold Expect.allowsW; exact inferInstance

instance decBurstFromW {ω τ : Type} (m : Slave ω τ) (mw : Bool) : (s : τ) → (e : Expect) → (ins : List (Req × ω)) →
    Decidable (BurstFromW m mw s e ins)
  | _, _, [] => isTrue trivial
  | s, e, i :: is =>
    match decAllowsW mw e i.1, decBurstFromW m mw (m.next s i) (e.next i.1 (m.out s i).ack) is with
    | isTrue h1, isTrue h2 => isTrue ⟨h1, h2⟩
    | isFalse h1, _ => isFalse (fun h => h1 h.1)
    | _, isFalse h2 => isFalse (fun h => h2 h.2)

instance decBurstMasterW {ω τ : Type} (m : Slave ω τ) (mw : Bool) (ins : List (Req × ω)) :
    Decidable (BurstMasterW m mw ins) := decBurstFromW m mw m.init .free ins

instance decAckPreFrom {ω τ : Type} (m : Slave ω τ) : (s : τ) → (pre : Bool) → (ins : List (Req × ω)) →
    Decidable (AckStrobedOrPreFrom m s pre ins)
  | _, _, [] => isTrue trivial
  | s, pre, i :: is =>
    match (inferInstance : Decidable ((m.out s i).ack = true → i.1.active = true ∨ pre = true)),
          decAckPreFrom m (m.next s i) (i.1.active && (m.out s i).ack && i.1.cti == 2) is with
    | isTrue h1, isTrue h2 => isTrue ⟨h1, h2⟩
    | isFalse h1, _ => isFalse (fun h => h1 h.1)
    | _, isFalse h2 => isFalse (fun h => h2 h.2)

instance decAckPre {ω τ : Type} (m : Slave ω τ) (ins : List (Req × ω)) : Decidable (AckStrobedOrPre m ins) :=
  decAckPreFrom m m.init false ins

end Litex.WbMem
