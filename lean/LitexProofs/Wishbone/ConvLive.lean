import LitexProofs.Wishbone.Conv
/-
  Bounded liveness in front of the arbitrary-latency byte memory: if the slave never stays silent for more than `L`
  consecutive cycles, a request the master keeps presenting is acknowledged within an explicit number of cycles.
  `Within`, `ackedIn`, the argument by a rank function (`ackedIn_of_rank`), the form `rk` the ranks of sequential adapters
  have, and the instance for the DownConverter.
-/
namespace Litex.WbMem
open Litex

/-- "The slave answers within `L`": `w` consecutive cycles without acknowledge so far, never more than `L`. -/
def Within (L : Nat) : Nat → List Lat → Prop
  | w, [] => w ≤ L
  | w, o :: os => if o.ack then Within L 0 os else w < L ∧ Within L (w + 1) os

instance decWithin (L : Nat) : (w : Nat) → (os : List Lat) → Decidable (Within L w os)
  | w, [] => inferInstanceAs (Decidable (w ≤ L))
  | w, o :: os =>
    if h : o.ack = true then
      match decWithin L 0 os with
      | isTrue h1 => isTrue (by simp only [Within, h, if_true]; exact h1)
      | isFalse h1 => isFalse (by simp only [Within, h, if_true]; exact h1)
    else
      match (inferInstance : Decidable (w < L)), decWithin L (w + 1) os with
      | isTrue h1, isTrue h2 => isTrue (by simp only [Within, h, if_false]; exact ⟨h1, h2⟩)
      | isFalse h1, _ => isFalse (by simp only [Within, h, if_false]; exact fun x => h1 x.1)
      | _, isFalse h2 => isFalse (by simp only [Within, h, if_false]; exact fun x => h2 x.2)

/-- Some cycle of the run in which the master keeps presenting `r` carries an acknowledge. -/
def ackedIn {ω τ : Type} (m : Slave ω τ) (r : Req) : τ → List ω → Bool
  | _, [] => false
  | s, o :: os => (m.out s (r, o)).ack || ackedIn m r (m.next s (r, o)) os

theorem Within.tail {L w : Nat} {o : Lat} {os : List Lat} (h : Within L w (o :: os)) :
    (if o.ack then 0 else w + 1) ≤ L ∧ Within L (if o.ack then 0 else w + 1) os := by
  cases hoa : o.ack
  · simp only [Within, hoa, Bool.false_eq_true, if_false] at h ⊢; exact h
  · simp only [Within, hoa, if_true] at h ⊢; exact ⟨Nat.zero_le _, h⟩

/-- `rank s w` bounds the cycles still needed from state `s` after `w` cycles of slave silence. -/
theorem ackedIn_of_rank {τ : Type} (m : Slave Lat τ) (r : Req) (L : Nat) (J : τ → Prop) (rank : τ → Nat → Nat)
    (hpos : ∀ s w, J s → w ≤ L → 0 < rank s w)
    (hstep : ∀ s w o, J s → w ≤ L → (if o.ack then 0 else w + 1) ≤ L → (m.out s (r, o)).ack = false →
      J (m.next s (r, o)) ∧ rank (m.next s (r, o)) (if o.ack then 0 else w + 1) < rank s w) :
    ∀ (os : List Lat) (s : τ) (w : Nat), J s → w ≤ L → Within L w os → rank s w ≤ os.length →
      ackedIn m r s os = true := by
  intro os
  induction os with
  | nil => intro s w hJ hw _ hlen; exact absurd (hpos s w hJ hw) (by simpa using hlen)
  | cons o os ih =>
    intro s w hJ hw hW hlen
    obtain ⟨hw', hW'⟩ := hW.tail
    simp only [ackedIn]
    cases hm : (m.out s (r, o)).ack with
    | true => rfl
    | false =>
      obtain ⟨hJ', hr⟩ := hstep s w o hJ hw hw' hm
      exact ih _ _ hJ' hw' hW' (by simp only [List.length_cons] at hlen; omega)

/-- The rank of an adapter that serves a request by a sequence of slave words: `a` words still to do, of at most `L + 1`
    cycles each, plus `b` cycles of the adapter's own, less the `w` cycles the current word has already waited. -/
def rk (L a b w : Nat) : Nat := a * (L + 1) + b - w

theorem rk_zero (L a b : Nat) : rk L a b 0 = a * (L + 1) + b := rfl

theorem rk_pos {L a b w : Nat} (ha : 0 < a) (hw : w ≤ L) : 0 < rk L a b w := by
  have : L + 1 ≤ a * (L + 1) := Nat.le_mul_of_pos_left _ ha
  unfold rk; omega

/-- One more cycle of slave silence. -/
theorem rk_wait {L a b w : Nat} (ha : 0 < a) (hw : w + 1 ≤ L) : rk L a b (w + 1) < rk L a b w := by
  have : L + 1 ≤ a * (L + 1) := Nat.le_mul_of_pos_left _ ha
  unfold rk; omega

/-- One slave word done (whatever the wait counter becomes). -/
theorem rk_word {L a a' b b' w w' : Nat} (ha : a' ≤ a) (hw : w ≤ L) (hb : b' ≤ b) : rk L a' b' w' < rk L (a + 1) b w := by
  have : a' * (L + 1) ≤ a * (L + 1) := Nat.mul_le_mul_right _ ha
  unfold rk; rw [Nat.add_mul, Nat.one_mul]; omega

/-- One cycle of the adapter's own, no word in flight. -/
theorem rk_own {L a a' b b' w' : Nat} (ha : a' ≤ a) (hb : b' < b) : rk L a' b' w' < rk L a b 0 := by
  have : a' * (L + 1) ≤ a * (L + 1) := Nat.mul_le_mul_right _ ha
  unfold rk; omega

theorem sub_succ_left {X k : Nat} (h : k < X) : X - k = X - (k + 1) + 1 := by omega

namespace Down
variable (c : DownCfg)

theorem lat_ack (M0 : Mem) (s : DownState) (mem : Mem) (r : Req) (o : Lat) :
    ((latMem c.nbs M0).out mem (toSlave c s r, o)).ack = (r.active && !skip c s r && o.ack) := by
  show ((toSlave c s r).active && o.ack) = _
  rw [toSlave_active]

/-- `ratio·(L+1)` cycles from the start of a request; `ratio` over a zero-latency slave; a skipped sub-word takes one
    cycle. -/
theorem ack_within (L : Nat) (M0 : Mem) (r : Req) (hact : r.active = true) (os : List Lat) (s : DownState)
    (mem : Mem) (w : Nat) (hcnt : s.count < c.ratio) (hw : w ≤ L) (hW : Within L w os)
    (hlen : rk L (c.ratio - s.count) 0 w ≤ os.length) :
    ackedIn ((downConv c).over (latMem c.nbs M0)) r (s, mem) os = true := by
  refine ackedIn_of_rank _ r L (fun st => st.1.count < c.ratio) (fun st w => rk L (c.ratio - st.1.count) 0 w)
    (fun st v hc hv => rk_pos (Nat.sub_pos_of_lt hc) hv) ?_ os (s, mem) w hcnt hw hW hlen
  intro st v o hc hv hv' hm
  obtain ⟨t, mem'⟩ := st
  dsimp only at hc ⊢
  have hsa := lat_ack c M0 t mem' r o
  rw [hact, Bool.true_and] at hsa
  have hnext : (((downConv c).over (latMem c.nbs M0)).next (t, mem') (r, o)).1 =
      next c t r ((latMem c.nbs M0).out mem' (toSlave c t r, o)) := rfl
  have hmack : mack c t r ((latMem c.nbs M0).out mem' (toSlave c t r, o)) = false := hm
  rw [mack_active c t r _ hact, hsa] at hmack
  simp only [hnext, next_active c t r _ hact hc, hsa]
  have hadv : (!skip c t r && o.ack || skip c t r) = (o.ack || skip c t r) := by
    cases skip c t r <;> cases o.ack <;> rfl
  rw [hadv] at hmack ⊢
  cases hev : (o.ack || skip c t r) with
  | false =>
    -- waiting for the slave: one more cycle of silence
    have hoa : o.ack = false := by cases h : o.ack <;> simp_all
    simp only [Bool.false_eq_true, if_false, hoa] at hv' ⊢
    exact ⟨hc, rk_wait (Nat.sub_pos_of_lt hc) hv'⟩
  | true =>
    -- one sub-word done (not the last one, the master is not acknowledged)
    have hdn : done c t = false := by rw [hev, Bool.true_and] at hmack; exact hmack
    have hlt := succ_lt_of_not_done c hc hdn
    simp only [if_true, hdn, Bool.false_eq_true, if_false]
    rw [sub_succ_left hc]
    exact ⟨hlt, rk_word (Nat.le_refl _) hv (Nat.le_refl _)⟩

end Down
end Litex.WbMem
