import LitexModel.Wishbone.AddrGlue
import LitexProofs.Wishbone.Remap
/-
  `SoCBusHandler.add_adapter` on a word-addressed Wishbone interface in front of a byte-addressed bus:
  `wishbone.Converter` (width) followed by the addressing re-wiring with the shift of the CONVERTED width.
-/
namespace Litex.WbMem
open Litex Litex.Bridge.Adapter

theorem lg_bus (sh : Nat) : lg (8 * 2 ^ sh) = sh := by
  unfold lg
  rw [Nat.mul_div_cancel_left _ (by decide : 0 < 8), Nat.log2_two_pow]

theorem glueSubAddr_eq (c : DownCfg) (sh count a : Nat) :
    glueSubAddr c sh count a = wordToByte sh (count + c.ratio * a) := by
  simp [glueSubAddr, elemByte, glueElem, lg_bus, Down.toSlave, wordToByte]

theorem byteToWord_wordToByte (sh a : Nat) : byteToWord sh (wordToByte sh a) = a := by
  simp [byteToWord, wordToByte, Nat.mul_div_cancel _ (Nat.two_pow_pos sh)]

/-- A byte-addressed Wishbone slave of `nb` lanes: a byte memory behind the `adr[sh:]` wiring every byte-addressed
    LiteX slave/bridge applies. -/
def byteMem (nb sh : Nat) (M0 : Mem) : Slave Lat (Unit × Mem) := (adrAdapter (byteToWord sh)).over (latMem nb M0)

/-- The byte-addressed bus seen through the word->byte re-wiring of `add_adapter`. -/
def gluedMem (nb sh : Nat) (M0 : Mem) : Slave Lat (Unit × (Unit × Mem)) :=
  (adrAdapter (wordToByte sh)).over (byteMem nb sh M0)

theorem gluedMem_refines (nb sh : Nat) (M0 : Mem) :
    Refines (gluedMem nb sh M0) (fun a => byteToWord sh (wordToByte sh a)) nb (fun _ => True)
      (AdrAdapter.Inv (wordToByte sh) (AdrAdapter.Inv (byteToWord sh) (fun t _ M => t = M))) := by
  have hB := AdrAdapter.refines (byteToWord sh) (latMem nb M0) id nb _ (fun _ => True)
    _ (fun _ _ _ => trivial) (latMem_refines nb M0)
  exact AdrAdapter.refines (wordToByte sh) (byteMem nb sh M0) (fun a => id (byteToWord sh a)) nb _ (fun _ => True)
    _ (fun _ _ _ => trivial) hB

end Litex.WbMem
