import LitexModel.Wishbone.Remap
import LitexProofs.Wishbone.SramBus
/-
  `wishbone.Remapper` (and any other adapter that only rewrites the address combinationally) preserves
  byte-memory refinement: the master sees the slave's memory through the address map.
-/
namespace Litex.WbMem
open Litex

def adrAdapter (h : Nat → Nat) : Adapter Unit where
  init := ()
  toSlave _ r := { r with adr := h r.adr }
  toMaster _ _ rsp := rsp
  next _ _ _ := ()

theorem remapper_eq (c : RemapCfg) : remapper c = adrAdapter (Remap.mapAdr c) := rfl

namespace AdrAdapter
variable {ω τ : Type} (h : Nat → Nat) (sl : Slave ω τ) (f : Nat → Nat) (nb : Nat)
  (InvS : τ → Option Req → Mem → Prop)

def tr (r : Req) : Req := { r with adr := h r.adr }

def Inv (st : Unit × τ) (p : Option Req) (M : Mem) : Prop := InvS st.2 (p.map (tr h)) M

theorem refines (P : Req × ω → Prop) (PS : Req × ω → Prop) (hP : ∀ r o, P (r, o) → PS (tr h r, o))
    (hS : Refines sl f nb PS InvS) :
    Refines ((adrAdapter h).over sl) (fun a => f (h a)) nb P (Inv h InvS) := by
  intro st p M i hinv hhold hPi
  obtain ⟨r, o⟩ := i
  obtain ⟨u, t⟩ := st
  let sr := tr h r
  let rsp := sl.out t (sr, o)
  have hout : ((adrAdapter h).over sl).out (u, t) (r, o) = rsp := rfl
  have hnext : ((adrAdapter h).over sl).next (u, t) (r, o) = ((), sl.next t (sr, o)) := rfl
  have hsact : sr.active = r.active := rfl
  have hso := hS t (p.map (tr h)) M (sr, o) hinv (by
    intro r' hr'
    cases p with
    | none => cases hr'
    | some r0 => have := hhold r0 rfl; simp only at this; subst this; simpa using hr') (hP r o hPi)
  cases hsa : rsp.ack with
  | false =>
    have hSnext := hso.no_ack hsa
    apply StepOk.mk_no_ack (by rw [hout]; exact hsa)
    rw [hnext]
    show InvS (sl.next t (sr, o)) (Option.map (tr h) (if r.active then some r else none)) M
    simp only [hsact] at hSnext
    cases hact : r.active <;> simpa [hact] using hSnext
  | true =>
    have hact : r.active = true := by rw [← hsact]; exact hso.ack_active hsa
    obtain ⟨hread, hSnext⟩ := hso.ack hsa
    apply StepOk.mk_ack (by rw [hout]; exact hsa) hact
    · intro hwe k hk hsel
      rw [hout]; exact hread hwe k hk hsel
    · rw [hnext]
      exact hSnext

end AdrAdapter

namespace Remap
variable (c : RemapCfg)

theorem applyRegions_none (a : Nat) (l : List RemapRegion) (cur : Nat)
    (h : ∀ g ∈ l, regionActive c g a = false) : applyRegions c a l cur = cur := by
  induction l generalizing cur with
  | nil => rfl
  | cons g rest ih =>
    simp only [applyRegions, h g (List.mem_cons_self ..), Bool.false_eq_true, if_false]
    exact ih cur (fun g' hg' => h g' (List.mem_cons_of_mem _ hg'))

theorem applyRegions_last (a : Nat) (l1 l2 : List RemapRegion) (g : RemapRegion) (cur : Nat)
    (hg : regionActive c g a = true) (h2 : ∀ g' ∈ l2, regionActive c g' a = false) :
    applyRegions c a (l1 ++ g :: l2) cur = regionAdr c g a := by
  induction l1 generalizing cur with
  | nil => simp only [List.nil_append, applyRegions, hg, if_true]; exact applyRegions_none c a l2 _ h2
  | cons g0 rest ih => simp only [List.cons_append, applyRegions]; exact ih _

theorem adrRemap_lt (ho : c.origin >>> c.shift < 2 ^ c.aw) (a : Nat) : adrRemap c a < 2 ^ c.aw := by
  unfold adrRemap
  apply Nat.or_lt_two_pow ho
  exact Nat.lt_of_le_of_lt (Nat.mod_le _ _) (Nat.mod_lt _ (Nat.two_pow_pos _))

/-- The byte-address temporary (`len(adr) + shift + 1` bits) truncates nothing, on any bus width, as soon as the origin
    lies inside the bus's address space. -/
theorem srcAdr_exact (ho : c.origin >>> c.shift < 2 ^ c.aw) (a : Nat) : srcAdr c a = adrRemap c a * 2 ^ c.shift := by
  unfold srcAdr tmpBits
  apply Nat.mod_eq_of_lt
  have h := adrRemap_lt c ho a
  calc adrRemap c a * 2 ^ c.shift < 2 ^ c.aw * 2 ^ c.shift := Nat.mul_lt_mul_of_pos_right h (Nat.two_pow_pos _)
    _ = 2 ^ (c.aw + c.shift) := (Nat.pow_add 2 c.aw c.shift).symm
    _ ≤ 2 ^ (c.aw + c.shift + 1) := Nat.pow_le_pow_right (by omega) (by omega)

end Remap
end Litex.WbMem
