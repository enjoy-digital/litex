import LitexModel.Wishbone.Conv
import LitexProofs.Wishbone.SramBus
import Mathlib.Tactic.Ring
/-
  `wishbone.DownConverter` and `wishbone.UpConverter` in front of any slave that implements a byte memory
  (`Refines`): refinement relations and their preservation by every clock cycle.
-/
namespace Litex.WbMem
open Litex

/-- Writing sub-word `[a, a+n)` of a master word on top of its first `a` lanes gives its first `a+n` lanes. -/
theorem writeMasked_extend (M : Mem) (base a n : Nat) (sel : List Bool) (dat : List Byte) :
    (M.writeMasked base (sel.take a) dat).writeMasked (base + a) ((window sel false a n).take n) (window dat 0 a n) =
      M.writeMasked base (sel.take (a + n)) dat := by
  funext x
  simp only [Mem.writeMasked_apply, getD_take]
  by_cases h1 : base + a ≤ x
  · by_cases h2 : x - (base + a) < n
    · have e1 : a + (x - (base + a)) = x - base := by omega
      have h3 : x - base < a + n := by omega
      have h4 : ¬ x - base < a := by omega
      have h5 : base ≤ x := by omega
      simp only [h1, h2, h3, h4, h5, if_true, true_and, window_getD _ _ _ _ _ h2, e1, if_false, Bool.false_eq_true,
        and_false]
    · have h3 : ¬ x - base < a + n := by omega
      have h4 : ¬ x - base < a := by omega
      simp only [h2, h3, h4, if_false, Bool.false_eq_true, and_false]
  · have h3 : ¬ (base + a ≤ x ∧ (if x - (base + a) < n then (window sel false a n).getD (x - (base + a)) false else false) = true) :=
      fun h => h1 h.1
    rw [if_neg h3]
    by_cases h5 : base ≤ x
    · have h4 : x - base < a := by omega
      have h6 : x - base < a + n := by omega
      simp only [h4, h6, if_true]
    · simp only [h5, false_and, if_false]

theorem writeMasked_skip (M : Mem) (base a n : Nat) (sel : List Bool) (dat : List Byte)
    (h : selNone (window sel false a n) n = true) :
    M.writeMasked base (sel.take a) dat = M.writeMasked base (sel.take (a + n)) dat := by
  rw [← writeMasked_extend M base a n sel dat]
  refine (Mem.writeMasked_none _ _ _ _ fun i => ?_).symm
  rw [getD_take]
  split
  · exact (selNone_iff _ _).mp h i ‹_›
  · rfl

/-- A shift register of `X` lanes: the top `ld` lanes of `old` hold the values `V j` (on the lanes `P` selects); shifting
    in `n` lanes `new` that hold `V (ld + ·)` makes the top `ld + n` lanes hold `V`. -/
theorem shift_prefix (old new : List Byte) (X n ld : Nat) (P : Nat → Prop) (V : Nat → Byte) (hfit : ld + n ≤ X)
    (hold : ∀ j, j < ld → P j → old.getD (X - ld + j) 0 = V j)
    (hnew : ∀ k, k < n → P (ld + k) → new.getD k 0 = V (ld + k)) (j : Nat) (hj : j < ld + n) (hP : P j) :
    (window old 0 n (X - n) ++ window new 0 0 n).getD (X - (ld + n) + j) 0 = V j := by
  rw [List.getD_eq_getElem?_getD]
  by_cases hlo : j < ld
  · rw [List.getElem?_append_left (by rw [window_length]; omega), ← List.getD_eq_getElem?_getD,
      window_getD _ _ _ _ _ (by omega), ← hold j hlo hP]
    congr 1; omega
  · obtain ⟨k, rfl⟩ : ∃ k, j = ld + k := ⟨j - ld, by omega⟩
    rw [List.getElem?_append_right (by rw [window_length]; omega), ← List.getD_eq_getElem?_getD, window_length,
      show X - (ld + n) + (ld + k) - (X - n) = k by omega, window_getD _ _ _ _ _ (by omega), Nat.zero_add]
    exact hnew k (by omega) hP

namespace Down
variable (c : DownCfg)

theorem ratio_pos : 0 < c.ratio := Nat.two_pow_pos _

theorem active_split (r : Req) (h : r.active = true) : r.cyc = true ∧ r.stb = true := by
  simpa [Req.active] using h

theorem toSlave_active (s : DownState) (r : Req) : (toSlave c s r).active = (r.active && !skip c s r) := by
  simp only [toSlave, Req.active]; cases r.cyc <;> cases r.stb <;> cases skip c s r <;> rfl

theorem done_iff (s : DownState) (hcnt : s.count < c.ratio) : done c s = true ↔ s.count + 1 = c.ratio := by
  simp only [done, beq_iff_eq]; omega

theorem succ_lt_of_not_done {s : DownState} (hcnt : s.count < c.ratio) (h : done c s = false) : s.count + 1 < c.ratio := by
  have := (done_iff c s hcnt).not.mp (by rw [h]; simp); omega

theorem mack_active (s : DownState) (r : Req) (rsp : Rsp) (hact : r.active = true) :
    mack c s r rsp = ((rsp.ack || skip c s r) && done c s) := by
  simp only [mack, hact, Bool.true_and]

theorem next_active (s : DownState) (r : Req) (rsp : Rsp) (hact : r.active = true) (hcnt : s.count < c.ratio) :
    next c s r rsp = if (rsp.ack || skip c s r) = true then
      { count := if done c s = true then 0 else s.count + 1, datR := mdat c s rsp } else s := by
  have hcyc := (active_split r hact).1
  have hsc : ((toSlave c s r).stb && (toSlave c s r).cyc && rsp.ack || skip c s r) = (rsp.ack || skip c s r) := by
    simp only [toSlave, hact, Bool.true_and]; cases skip c s r <;> cases rsp.ack <;> rfl
  simp only [next, mack_active c s r rsp hact, hcyc, hsc, Bool.not_true, Bool.or_false]
  cases hadv : (rsp.ack || skip c s r)
  · simp
  · cases hdn : done c s
    · simp [Nat.mod_eq_of_lt (succ_lt_of_not_done c hcnt hdn)]
    · simp

theorem next_count_idle (s : DownState) (r : Req) (rsp : Rsp) (hact : r.active = false) (h0 : s.count = 0) :
    (next c s r rsp).count = 0 := by
  have hm : mack c s r rsp = false := by simp only [mack, hact, Bool.false_and]
  have hsk : skip c s r = false := by simp only [skip, hact, Bool.false_and]
  have hstb : (toSlave c s r).stb = false := by simp only [toSlave, hact, Bool.false_and]
  simp only [next, hm, hsk, hstb, Bool.false_and, Bool.or_false, Bool.false_or, h0]
  split <;> rfl

def lanesDone (s : DownState) : Nat := s.count * c.nbs

/-- What holds while request `r` is being served with `s.count` sub-words done: the slave's abstract memory
    `Ms` is the master-level abstract memory plus the first `count` sub-words of a write; the top of the read
    shift register holds the selected bytes of the first `count` sub-words of a read.  `g` is the address
    decoding seen by the master. -/
def Serving (g : Nat → Nat) (s : DownState) (Ms : Mem) (r : Req) (M : Mem) : Prop :=
  Ms = (if r.we then M.writeMasked (g r.adr * c.nbm) (r.sel.take (lanesDone c s)) r.dat else M) ∧
  (r.we = false → ∀ j, j < lanesDone c s → r.sel.getD j false = true →
      s.datR.getD ((c.ratio - s.count) * c.nbs + j) 0 = M (g r.adr * c.nbm + j))

theorem serving_of_idle (g : Nat → Nat) (s : DownState) (M : Mem) (r : Req) (h : s.count = 0) :
    Serving c g s M r M := by
  refine ⟨?_, ?_⟩
  · have : (M.writeMasked (g r.adr * c.nbm) (r.sel.take (lanesDone c s)) r.dat) = M := by
      apply Mem.writeMasked_none; intro i; simp [lanesDone, h]
    rw [this]; split <;> rfl
  · intro _ j hj; simp [lanesDone, h] at hj

/-- `hadv`: the sub-word was skipped (no lane selected, slave memory untouched) or acknowledged by the slave.  `hfg` is
    what every composition has to discharge: sub-word `k` of wide word `a` is decoded by the slave (`f`) to sub-word `k` of
    the wide word the master's decoding `g` means (`sram_decode` for an SRAM of `ratio · dm` words, `g = (· % dm)`). -/
theorem serving_advance (f g : Nat → Nat) (hfg : ∀ a k, k < c.ratio → f (k + c.ratio * a) = k + c.ratio * g a)
    (s : DownState) (Ms Ms' : Mem) (r : Req) (M : Mem) (rsp : Rsp)
    (hcnt : s.count < c.ratio) (hs : Serving c g s Ms r M)
    (hadv : (skip c s r = true ∧ Ms' = Ms) ∨
            (skip c s r = false ∧
             Ms' = (if r.we then Ms.writeMasked (f (toSlave c s r).adr * c.nbs) ((toSlave c s r).sel.take c.nbs)
                                  (toSlave c s r).dat else Ms) ∧
             (r.we = false → ∀ k, k < c.nbs → (toSlave c s r).sel.getD k false = true →
                 rsp.dat.getD k 0 = Ms (f (toSlave c s r).adr * c.nbs + k)))) :
    Serving c g { count := s.count + 1, datR := mdat c s rsp } Ms' r M := by
  obtain ⟨hmem, hrd⟩ := hs
  obtain ⟨hA, hB, hC⟩ : (c.ratio - s.count) * c.nbs = c.nbm - lanesDone c s ∧
      (c.ratio - (s.count + 1)) * c.nbs = c.nbm - (lanesDone c s + c.nbs) ∧ lanesDone c s + c.nbs ≤ c.nbm :=
    ⟨Nat.sub_mul _ _ _, by rw [Nat.sub_mul, Nat.succ_mul]; rfl, Nat.succ_mul _ _ ▸ Nat.mul_le_mul_right _ hcnt⟩
  have hadr : f (toSlave c s r).adr * c.nbs = g r.adr * c.nbm + lanesDone c s := by
    rw [show (toSlave c s r).adr = s.count + c.ratio * r.adr from rfl, hfg _ _ hcnt]
    simp only [lanesDone, DownCfg.nbm]; ring
  have hld' : lanesDone c { count := s.count + 1, datR := mdat c s rsp } = lanesDone c s + c.nbs := Nat.succ_mul _ _
  have hsel : ∀ k, k < c.nbs → (toSlave c s r).sel.getD k false = r.sel.getD (lanesDone c s + k) false :=
    fun k hk => window_getD _ _ _ _ _ hk
  -- the read side: `hnew` says what the sub-word shifted in carries
  have hread : (r.we = false → ∀ k, k < c.nbs → r.sel.getD (lanesDone c s + k) false = true →
      rsp.dat.getD k 0 = M (g r.adr * c.nbm + (lanesDone c s + k))) →
      r.we = false → ∀ j, j < lanesDone c s + c.nbs → r.sel.getD j false = true →
      (mdat c s rsp).getD ((c.ratio - (s.count + 1)) * c.nbs + j) 0 = M (g r.adr * c.nbm + j) := fun hnew hwe j hj hP => by
    rw [hB]
    exact shift_prefix s.datR rsp.dat c.nbm c.nbs (lanesDone c s) (fun j => r.sel.getD j false = true)
      (fun j => M (g r.adr * c.nbm + j)) hC (fun j hj hP => by rw [← hA]; exact hrd hwe j hj hP) (hnew hwe) j hj hP
  rw [Serving, hld']
  rcases hadv with ⟨hsk, rfl⟩ | ⟨hsk, rfl, hrsp⟩
  · -- skipped sub-word: all its lanes are unselected
    have hsn : selNone (window r.sel false (lanesDone c s) c.nbs) c.nbs = true := by
      simp only [skip, Bool.and_eq_true] at hsk; exact hsk.1.2
    refine ⟨?_, hread fun _ k hk hP => ?_⟩
    · rw [hmem]; cases r.we
      · rfl
      · exact writeMasked_skip M _ _ _ _ _ hsn
    · have := (selNone_iff _ _).mp hsn k hk
      rw [window_getD _ _ _ _ _ hk, hP] at this; cases this
  · refine ⟨?_, hread fun hwe k hk hP => ?_⟩
    · rw [hmem]; cases r.we
      · rfl
      · simp only [if_true]; rw [hadr]; exact writeMasked_extend M _ _ _ _ _
    · rw [hrsp hwe k hk (by rw [hsel k hk]; exact hP), hmem, hwe, hadr, Nat.add_assoc]; rfl

theorem Serving.complete {c : DownCfg} {g : Nat → Nat} {s : DownState} {Ms : Mem} {r : Req} {M : Mem}
    (h : Serving c g s Ms r M) (hlast : s.count = c.ratio) :
    Ms = (if r.we then M.writeMasked (g r.adr * c.nbm) (r.sel.take c.nbm) r.dat else M) ∧
    (r.we = false → ∀ k, k < c.nbm → r.sel.getD k false = true → s.datR.getD k 0 = M (g r.adr * c.nbm + k)) := by
  obtain ⟨hm, hr⟩ := h
  have hld : lanesDone c s = c.nbm := by simp only [lanesDone, hlast]; rfl
  rw [hld] at hm hr
  refine ⟨hm, fun hwe k hk hsel => ?_⟩
  have := hr hwe k hk hsel
  rwa [hlast, Nat.sub_self, Nat.zero_mul, Nat.zero_add] at this

/-- Address decoding of a narrow memory of `ratio·dm` words seen through the converter. -/
theorem mod_split (ratio dm a k : Nat) (hk : k < ratio) (hdm : 0 < dm) :
    (k + ratio * a) % (ratio * dm) = k + ratio * (a % dm) := by
  have h1 : k + ratio * a = k + ratio * (a % dm) + ratio * dm * (a / dm) := by
    have := Nat.div_add_mod a dm
    calc k + ratio * a = k + ratio * (dm * (a / dm) + a % dm) := by rw [this]
      _ = k + ratio * (a % dm) + ratio * dm * (a / dm) := by
        rw [Nat.mul_add, Nat.mul_assoc]; omega
  have h2 : k + ratio * (a % dm) < ratio * dm := by
    have := Nat.mod_lt a hdm
    calc k + ratio * (a % dm) < ratio + ratio * (a % dm) := by omega
      _ = ratio * (a % dm + 1) := by rw [Nat.mul_add, Nat.mul_one, Nat.add_comm]
      _ ≤ ratio * dm := Nat.mul_le_mul_left _ this
  rw [h1, Nat.add_mul_mod_self_left, Nat.mod_eq_of_lt h2]

section Over
variable {ω τ : Type} (sl : Slave ω τ) (f g : Nat → Nat) (InvS : τ → Option Req → Mem → Prop)

/-- Refinement relation of the converter over a slave with relation `InvS`: nothing outstanding — counter at
    0 and the slave's abstract memory is the master's; request `r` outstanding — `Serving`, and the slave's
    outstanding request (if any) is the sub-word request currently presented. -/
def Inv (st : DownState × τ) (p : Option Req) (M : Mem) : Prop :=
  st.1.count < c.ratio ∧
  match p with
  | none => st.1.count = 0 ∧ InvS st.2 none M
  | some r => r.active = true ∧ ∃ Ms ps, InvS st.2 ps Ms ∧ (∀ r', ps = some r' → toSlave c st.1 r = r') ∧
      Serving c g st.1 Ms r M

theorem refines (hfg : ∀ a k, k < c.ratio → f (k + c.ratio * a) = k + c.ratio * g a)
    (P : Req × ω → Prop) (PS : Req × ω → Prop) (hP : ∀ s r o, P (r, o) → PS (toSlave c s r, o))
    (hS : Refines sl f c.nbs PS InvS) :
    Refines ((downConv c).over sl) g c.nbm P (Inv c g InvS) := by
  intro st p M i hinv hhold hPi
  obtain ⟨r, o⟩ := i
  obtain ⟨s, t⟩ := st
  obtain ⟨hcnt, hrest⟩ := hinv
  dsimp only at hcnt hrest hhold
  let sr := toSlave c s r
  let rsp := sl.out t (sr, o)
  have hout : (((downConv c).over sl).out (s, t) (r, o)).ack = mack c s r rsp := rfl
  have hdat : (((downConv c).over sl).out (s, t) (r, o)).dat = mdat c s rsp := rfl
  have hnext : ((downConv c).over sl).next (s, t) (r, o) = (next c s r rsp, sl.next t (sr, o)) := rfl
  have hsact : sr.active = (r.active && !skip c s r) := toSlave_active c s r
  cases hact : r.active with
  | false =>
    have hp : p = none := by
      cases p with
      | none => rfl
      | some r0 => have := hhold r0 rfl; subst this; rw [hrest.1] at hact; cases hact
    subst hp
    obtain ⟨hc0, hSinv⟩ := hrest
    obtain ⟨_, hSnext⟩ := (hS t none M (sr, o) hSinv (by intro r' h; cases h) (hP s r o hPi)).inactive
      (by rw [hsact, hact]; rfl)
    apply StepOk.mk_no_ack (by rw [hout]; simp only [mack, hact, Bool.false_and])
    simp only [hact, Bool.false_eq_true, if_false]
    rw [hnext]
    have hcount := next_count_idle c s r rsp hact hc0
    exact ⟨by rw [hcount]; exact ratio_pos c, hcount, hSnext⟩
  | true =>
    -- unify the two shapes of the invariant
    obtain ⟨Ms, ps, hSinv, hps, hServ⟩ :
        ∃ Ms ps, InvS t ps Ms ∧ (∀ r', ps = some r' → sr = r') ∧ Serving c g s Ms r M := by
      cases p with
      | none => exact ⟨M, none, hrest.2, (by intro r' h; cases h), serving_of_idle c g s M r hrest.1⟩
      | some r0 => have := hhold r0 rfl; subst this; exact hrest.2
    have hso := hS t ps Ms (sr, o) hSinv hps (hP s r o hPi)
    have hmack := mack_active c s r rsp hact
    rw [next_active c s r rsp hact hcnt] at hnext
    cases hadv : (rsp.ack || skip c s r) with
    | false =>
      -- waiting for the slave
      obtain ⟨hsa, hsk⟩ : rsp.ack = false ∧ skip c s r = false := Bool.or_eq_false_iff.mp hadv
      have hSnext := hso.no_ack hsa
      rw [hsact, hact, hsk] at hSnext
      apply StepOk.mk_no_ack (by rw [hout, hmack, hadv]; rfl)
      simp only [hact, if_true]
      rw [hnext, hadv, if_neg (by simp)]
      exact ⟨hcnt, hact, Ms, some sr, hSnext, (by intro r' h; cases h; rfl), hServ⟩
    | true =>
      -- the sub-word is done: skipped (no slave cycle) or acknowledged by the slave
      obtain ⟨Ms', hSnext, hS'⟩ : ∃ Ms', InvS (sl.next t (sr, o)) none Ms' ∧
          Serving c g { count := s.count + 1, datR := mdat c s rsp } Ms' r M := by
        cases hsk : skip c s r with
        | true =>
          obtain ⟨_, hSn⟩ := hso.inactive (by rw [hsact, hsk, Bool.not_true, Bool.and_false])
          exact ⟨Ms, hSn, serving_advance c f g hfg s Ms Ms r M rsp hcnt hServ (Or.inl ⟨hsk, rfl⟩)⟩
        | false =>
          have hsa : rsp.ack = true := by rw [hsk, Bool.or_false] at hadv; exact hadv
          have hswe : sr.we = r.we := by simp [sr, toSlave, hact]
          obtain ⟨hread, hSn⟩ := hso.ack hsa
          rw [hswe] at hread hSn
          exact ⟨_, hSn, serving_advance c f g hfg s Ms _ r M rsp hcnt hServ (Or.inr ⟨hsk, rfl, hread⟩)⟩
      rw [hadv, if_pos rfl] at hnext
      cases hdn : done c s with
      | false =>
        have hlt := succ_lt_of_not_done c hcnt hdn
        apply StepOk.mk_no_ack (by rw [hout, hmack, hdn, Bool.and_false])
        simp only [hact, if_true]
        rw [hnext, hdn, if_neg (by simp)]
        exact ⟨hlt, hact, Ms', none, hSnext, (by intro r' h; cases h), hS'⟩
      | true =>
        obtain ⟨hmem', hrd'⟩ := hS'.complete ((done_iff c s hcnt).mp hdn)
        apply StepOk.mk_ack (by rw [hout, hmack, hadv, hdn]; rfl) hact
        · rw [hdat]; exact hrd'
        · rw [hnext, hdn, if_pos rfl, ← hmem']
          exact ⟨ratio_pos c, rfl, hSnext⟩

/-- The converter gates its acknowledge with the master's strobe, whatever the slave does. -/
theorem ack_only_strobed : ∀ (ins : List (Req × ω)) (st : DownState × τ),
    AckOnlyStrobedFrom ((downConv c).over sl) st ins := by
  intro ins
  induction ins with
  | nil => intro _; trivial
  | cons i is ih =>
    intro st
    refine ⟨?_, ih _⟩
    intro ha
    have : mack c st.1 i.1 (sl.out st.2 (toSlave c st.1 i.1, i.2)) = true := ha
    simp only [mack, Bool.and_eq_true] at this
    exact this.1.1

end Over

end Down

namespace Up
variable (c : UpCfg)

theorem place_getD {α : Type} (l : List α) (d : α) (g j : Nat) (hj : j < c.nbs) :
    (place c l d g).getD j d = if j / c.nbm = g then l.getD (j % c.nbm) d else d :=
  getD_range_map_of_lt _ d hj

theorem place_getD_ge {α : Type} (l : List α) (d : α) (g j : Nat) (hj : c.nbs ≤ j) :
    (place c l d g).getD j d = d := by
  rw [place, getD_range_map, if_neg (Nat.not_lt.mpr hj)]

theorem lane_lt (r : Req) : lane c r < c.ratio := Nat.mod_lt _ (Nat.two_pow_pos _)

theorem adr_split (r : Req) : (r.adr / c.ratio) * c.nbs + lane c r * c.nbm = r.adr * c.nbm := by
  have h := Nat.div_add_mod r.adr c.ratio
  have hnbs : c.nbs = c.ratio * c.nbm := rfl
  simp only [lane, hnbs]
  calc r.adr / c.ratio * (c.ratio * c.nbm) + r.adr % c.ratio * c.nbm
      = (c.ratio * (r.adr / c.ratio) + r.adr % c.ratio) * c.nbm := by ring
    _ = r.adr * c.nbm := by rw [h]

theorem place_getD_window {α : Type} (hpos : 0 < c.nbm) (l : List α) (d : α) (g y : Nat) (hg : g < c.ratio) :
    (place c l d g).getD y d =
      if g * c.nbm ≤ y ∧ y < g * c.nbm + c.nbm then l.getD (y - g * c.nbm) d else d := by
  have hgl : g * c.nbm + c.nbm ≤ c.nbs := by
    rw [← Nat.succ_mul]; exact Nat.mul_le_mul_right _ hg
  by_cases hy : y < c.nbs
  · rw [place_getD c _ _ _ _ hy]
    by_cases h : g * c.nbm ≤ y ∧ y < g * c.nbm + c.nbm
    · have hdiv : y / c.nbm = g := Nat.div_eq_of_lt_le h.1 (by rw [Nat.succ_mul]; exact h.2)
      have hmod : y % c.nbm = y - g * c.nbm := by
        have := Nat.div_add_mod y c.nbm
        rw [hdiv, Nat.mul_comm] at this; omega
      rw [if_pos hdiv, if_pos h, hmod]
    · have hdiv : ¬ y / c.nbm = g := fun e =>
        h ⟨e ▸ Nat.div_mul_le_self y c.nbm, by
          have := Nat.lt_mul_of_div_lt (Nat.lt_succ_self (y / c.nbm)) hpos
          rw [Nat.succ_mul, e] at this; exact this⟩
      rw [if_neg hdiv, if_neg h]
  · rw [place_getD_ge c _ _ _ _ (Nat.le_of_not_lt hy), if_neg (fun h => by omega)]

/-- The wide masked write made by the converter (at slave byte base `B`) is the narrow write of the master
    (at byte base `T = B + lane·nbm`). -/
theorem write_eq (hpos : 0 < c.nbm) (M : Mem) (r : Req) (B T : Nat) (hsplit : B + lane c r * c.nbm = T) :
    M.writeMasked B ((place c r.sel false (lane c r)).take c.nbs) (place c r.dat 0 (lane c r)) =
      M.writeMasked T (r.sel.take c.nbm) r.dat := by
  funext x
  have hl := lane_lt c r
  have hgl : lane c r * c.nbm + c.nbm ≤ c.nbs := by
    rw [← Nat.succ_mul]; exact Nat.mul_le_mul_right _ hl
  simp only [Mem.writeMasked_apply, getD_take, place_getD_window c hpos _ _ _ _ hl]
  generalize lane c r * c.nbm = L at *
  subst hsplit
  -- `x` lies in the master's window `[B + L, B + L + nbm)` or is written by neither side
  by_cases hx : B + L ≤ x ∧ x - (B + L) < c.nbm
  · have e : x - B - L = x - (B + L) := by omega
    have h1 : B ≤ x := by omega
    have h2 : x - B < c.nbs := by omega
    have h3 : L ≤ x - B ∧ x - B < L + c.nbm := by omega
    simp only [h1, h2, h3, hx.1, hx.2, e, and_self, if_true, true_and]
  · have hR : ¬ (B + L ≤ x ∧ (if x - (B + L) < c.nbm then r.sel.getD (x - (B + L)) false else false) = true) := by
      intro ⟨ha, hb⟩; split at hb
      · exact hx ⟨ha, ‹_›⟩
      · cases hb
    have hLw : ¬ (B ≤ x ∧ (if x - B < c.nbs then
        (if L ≤ x - B ∧ x - B < L + c.nbm then r.sel.getD (x - B - L) false else false) else false) = true) := by
      intro ⟨ha, hb⟩; split at hb
      · split at hb
        · exact hx (by omega)
        · cases hb
      · cases hb
    rw [if_neg hLw, if_neg hR]

section Over
variable {ω τ : Type} (sl : Slave ω τ) (f g : Nat → Nat) (InvS : τ → Option Req → Mem → Prop)

/-- Refinement relation of the (combinational) converter: the slave's relation, with the master's outstanding
    request translated to the wide port. -/
def Inv (st : Unit × τ) (p : Option Req) (M : Mem) : Prop := InvS st.2 (p.map (toSlave c ())) M

theorem refines (hpos : 0 < c.nbm) (hfg : ∀ a, g a = f (a / c.ratio) * c.ratio + a % c.ratio)
    (P : Req × ω → Prop) (PS : Req × ω → Prop) (hP : ∀ r o, P (r, o) → PS (toSlave c () r, o))
    (hS : Refines sl f c.nbs PS InvS) :
    Refines ((upConv c).over sl) g c.nbm P (Inv c InvS) := by
  intro st p M i hinv hhold hPi
  obtain ⟨r, o⟩ := i
  obtain ⟨u, t⟩ := st
  have hu : u = () := rfl
  subst hu
  let sr := toSlave c () r
  let rsp := sl.out t (sr, o)
  have hout : ((upConv c).over sl).out ((), t) (r, o) = toMaster c () r rsp := rfl
  have hnext : ((upConv c).over sl).next ((), t) (r, o) = ((), sl.next t (sr, o)) := rfl
  have hsact : sr.active = r.active := rfl
  have hso := hS t (p.map (toSlave c ())) M (sr, o) hinv (by
    intro r' h
    cases p with
    | none => cases h
    | some r0 => have := hhold r0 rfl; simp only at this; subst this; simpa using h) (hP r o hPi)
  have hnbs : c.nbs = c.ratio * c.nbm := rfl
  have hbase : f sr.adr * c.nbs + lane c r * c.nbm = g r.adr * c.nbm := by
    have : sr.adr = r.adr / c.ratio := rfl
    rw [this, hfg, hnbs]; simp only [lane]; ring
  cases hsa : rsp.ack with
  | false =>
    have hSnext := hso.no_ack hsa
    apply StepOk.mk_no_ack (by rw [hout]; exact hsa)
    rw [hnext]
    show InvS (sl.next t (sr, o)) (Option.map (toSlave c ()) (if r.active then some r else none)) M
    simp only [hsact] at hSnext
    cases hact : r.active <;> simpa [hact] using hSnext
  | true =>
    have hact : r.active = true := by rw [← hsact]; exact hso.ack_active hsa
    obtain ⟨hread, hSnext⟩ := hso.ack hsa
    apply StepOk.mk_ack (by rw [hout]; exact hsa) hact
    · intro hwe k hk hsel
      rw [hout]
      show (window rsp.dat 0 (lane c r * c.nbm) c.nbm).getD k 0 = _
      rw [window_getD _ _ _ _ _ hk]
      have hl := lane_lt c r
      have hj : lane c r * c.nbm + k < c.nbs := by
        calc lane c r * c.nbm + k < lane c r * c.nbm + c.nbm := by omega
          _ = (lane c r + 1) * c.nbm := by ring
          _ ≤ c.nbs := by rw [hnbs]; exact Nat.mul_le_mul_right _ hl
      have hs : sr.sel.getD (lane c r * c.nbm + k) false = true := by
        show (place c r.sel false (lane c r)).getD _ false = true
        rw [place_getD_window c hpos _ _ _ _ hl, if_pos ⟨Nat.le_add_right _ _, by omega⟩, Nat.add_sub_cancel_left]
        exact hsel
      have := hread hwe _ hj hs
      rw [this, ← Nat.add_assoc, hbase]
    · rw [hnext]
      show InvS (sl.next t (sr, o)) (Option.map (toSlave c ()) none) _
      simp only [Option.map_none]
      have hswe : sr.we = r.we := rfl
      simp only [hswe] at hSnext
      cases hwe : r.we
      · simpa [hwe] using hSnext
      · simp only [hwe, if_true] at hSnext ⊢
        have := write_eq c hpos M r (f sr.adr * c.nbs) (g r.adr * c.nbm) hbase
        show InvS _ none (M.writeMasked (g r.adr * c.nbm) (r.sel.take c.nbm) r.dat)
        rw [← this]; exact hSnext

end Over

end Up
end Litex.WbMem
