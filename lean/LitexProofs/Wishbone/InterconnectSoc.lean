import LitexModel.Wishbone.InterconnectSoc
import LitexProofs.Wishbone.Interconnect
import LitexProofs.Soc.AcceptedDisjoint
import LitexProofs.Soc.Finalize
import LitexProofs.Export.Adapt
/-
  Helper lemmas for the address-map glue of `SoCBusHandler` (C06): `check_regions_overlap` as computed
  (`checkRegionsOverlap`) against C13's `anyOverlap`, and the C06 region predicate `regionDec` against C13's
  `decoderAccepts`, so that C13's interface theorems (`LitexProofs/Soc/AcceptedDisjoint.lean`) discharge the
  `DisjointDec` hypothesis of the routing theorems.  Then the glue around the ports: a remapped master stays inside
  its region (`remapAdr_confined`), the addressing adapters (`masterAdr_*`, `slaveAdr_*`, `inWindow_word_base`), and what
  whole build scripts preserve (`glueRun_preserves`, `slaveRegions_accepted`).  Two definitions here are vocabulary of
  C06 statements: `pairsOf` (regions as C13's origin/size pairs) and `RegionsDecodable` (the side conditions under which
  a region's decoder is its window).
-/
namespace Litex.Wishbone
open Litex Litex.Soc

theorem ovPair_false_eq (r0 r1 : Region) : ovPair false r0 r1 = overlapPair r0 r1 := by
  unfold ovPair overlapPair
  cases r0.linker <;> cases r1.linker <;> simp

theorem ovPair_true_iff (cl : Bool) (r0 r1 : Region) : ovPair cl r0 r1 = true ↔
    (cl = true ∨ (r0.linker = false ∧ r1.linker = false)) ∧
    r0.origin < r1.origin + r1.p2 ∧ r1.origin < r0.origin + r0.p2 := by
  have hlink : ∀ a b : Bool, ((a || b) && !cl) = true ↔ ¬ (cl = true ∨ (a = false ∧ b = false)) := by
    intro a b; cases cl <;> cases a <;> cases b <;> simp
  unfold ovPair
  by_cases hl : ((r0.linker || r1.linker) && !cl) = true
  · rw [if_pos hl]
    exact ⟨fun h => (by cases h), fun h => absurd h.1 ((hlink _ _).mp hl)⟩
  · rw [if_neg hl]
    have hl' := Decidable.not_not.mp (mt (hlink _ _).mpr hl)
    split
    · exact ⟨fun h => (by cases h), fun h => (by omega)⟩
    · split
      · exact ⟨fun h => (by cases h), fun h => (by omega)⟩
      · exact ⟨fun _ => ⟨hl', by omega, by omega⟩, fun _ => rfl⟩

theorem findOverlapWith_eq (cl : Bool) (r0 : Region) : ∀ (l : List Region) (k : Nat),
    findOverlapWith cl r0 l k = (l.findIdx? (ovPair cl r0)).map (· + k) := by
  intro l
  induction l with
  | nil => intro k; rfl
  | cons r1 rs ih =>
    intro k
    rw [findOverlapWith, List.findIdx?_cons]
    split
    · simp
    · rw [ih, Option.map_map]; congr 1; funext p; simp only [Function.comp]; omega

theorem findOverlapWith_none (cl : Bool) (r0 : Region) (l : List Region) (k : Nat) :
    findOverlapWith cl r0 l k = none ↔ l.any (ovPair cl r0) = false := by
  rw [findOverlapWith_eq, Option.map_eq_none_iff, List.findIdx?_eq_none_iff, List.any_eq_false]
  simp

theorem findOverlapWith_some (cl : Bool) (r0 : Region) (l : List Region) (k p : Nat)
    (h : findOverlapWith cl r0 l k = some p) :
    k ≤ p ∧ ∃ r1, l[p - k]? = some r1 ∧ ovPair cl r0 r1 = true := by
  rw [findOverlapWith_eq, Option.map_eq_some_iff] at h
  obtain ⟨q, hq, rfl⟩ := h
  obtain ⟨hlt, hp, _⟩ := List.findIdx?_eq_some_iff_getElem.mp hq
  exact ⟨Nat.le_add_left _ _, l[q], by rw [Nat.add_sub_cancel, List.getElem?_eq_getElem hlt], hp⟩

theorem firstOverlapFrom_none_iff (l : List Region) :
    ∀ i, firstOverlapFrom false i l = none ↔ anyOverlap l = false := by
  induction l with
  | nil => intro i; simp [firstOverlapFrom, anyOverlap]
  | cons r0 rs ih =>
    intro i
    unfold firstOverlapFrom
    have hfun : ovPair false r0 = overlapPair r0 := funext (ovPair_false_eq r0)
    cases h : findOverlapWith false r0 rs (i + 1) with
    | none =>
      have h' := (findOverlapWith_none false r0 rs (i + 1)).1 h
      rw [hfun] at h'
      simp only [anyOverlap, h', Bool.false_or]
      exact ih (i + 1)
    | some k =>
      have hne : ¬ (rs.any (overlapPair r0) = false) := by
        intro hf
        rw [← hfun] at hf
        have := (findOverlapWith_none false r0 rs (i + 1)).2 hf
        rw [h] at this
        exact absurd this (by simp)
      have : rs.any (overlapPair r0) = true := by
        cases hh : rs.any (overlapPair r0)
        · exact absurd hh hne
        · rfl
      simp [anyOverlap, this]

theorem checkRegionsOverlap_none_iff (l : List Region) :
    checkRegionsOverlap false l = none ↔ anyOverlap l = false :=
  firstOverlapFrom_none_iff l 0

theorem firstOverlapFrom_some (cl : Bool) (l : List Region) :
    ∀ (b i k : Nat), firstOverlapFrom cl b l = some (i, k) →
      b ≤ i ∧ i < k ∧ ∃ r0 r1, l[i - b]? = some r0 ∧ l[k - b]? = some r1 ∧ ovPair cl r0 r1 = true := by
  induction l with
  | nil => intro b i k h; simp [firstOverlapFrom] at h
  | cons r0 rs ih =>
    intro b i k h
    unfold firstOverlapFrom at h
    cases hf : findOverlapWith cl r0 rs (b + 1) with
    | some p =>
      rw [hf] at h
      simp only [Option.some.injEq, Prod.mk.injEq] at h
      obtain ⟨rfl, rfl⟩ := h
      obtain ⟨hle, r1, hr1, hov⟩ := findOverlapWith_some cl r0 rs (b + 1) p hf
      refine ⟨Nat.le_refl _, by omega, r0, r1, by simp, ?_, hov⟩
      have : p - b = (p - (b + 1)) + 1 := by omega
      rw [this, List.getElem?_cons_succ]; exact hr1
    | none =>
      rw [hf] at h
      obtain ⟨hle, hlt, r, r', hr, hr', hov⟩ := ih (b + 1) i k h
      refine ⟨by omega, hlt, r, r', ?_, ?_, hov⟩
      · have : i - b = (i - (b + 1)) + 1 := by omega
        rw [this, List.getElem?_cons_succ]; exact hr
      · have : k - b = (k - (b + 1)) + 1 := by omega
        rw [this, List.getElem?_cons_succ]; exact hr'

/-- C06's `regionDec` (the predicate `SoCRegion(origin, size).decoder(bus)` returns) is C13's `decoderAccepts`
    for a decoded region, whatever its `cached`/`linker` flags. -/
theorem regionDec_eq_decoderAccepts (o sz dw aw a : Nat) (c l : Bool) :
    regionDec o sz dw aw a = decoderAccepts aw dw ⟨o, sz, c, l, true⟩ a := by
  rfl

/-- The `(origin, size)` list a `SocCfg` carries for a list of region records. -/
def pairsOf (rs : List Region) : List (Nat × Nat) := rs.map fun r => (r.origin, r.size)

theorem socDec_eq (c : SocCfg) (rs : List Region) (hr : c.regions = pairsOf rs) (j : Nat) (hj : j < rs.length)
    (hd : rs[j].decode = true) (a : Nat) : c.dec j a = decoderAccepts c.aw c.dw rs[j] a := by
  have : c.regions[j]? = some (rs[j].origin, rs[j].size) := by
    rw [hr, pairsOf, List.getElem?_map, List.getElem?_eq_getElem hj]; rfl
  unfold SocCfg.dec
  rw [this]
  show regionDec _ _ _ _ _ = _
  rw [regionDec_eq_decoderAccepts _ _ _ _ _ rs[j].cached rs[j].linker]
  have : (⟨rs[j].origin, rs[j].size, rs[j].cached, rs[j].linker, true⟩ : Region) = rs[j] := by
    cases hrj : rs[j] with
    | mk o s c l d => rw [hrj] at hd; simp at hd; subst hd; rfl
  rw [this]

/-- Per-region side conditions under which `SoCRegion.decoder` is exact (C13): not a linker region, decoded,
    origin aligned on `size_pow2` (checked by `decoder()` itself), window of at least one bus word. -/
def RegionsDecodable (dw : Nat) (rs : List Region) : Prop :=
  ∀ r ∈ rs, r.linker = false ∧ r.decode = true ∧ r.aligned = true ∧ dw / 8 ≤ r.p2

theorem accepted_index_disjoint (aw dw sh : Nat) (rs : List Region) (hdw : dw / 8 = 2 ^ sh) (hsh : sh ≤ aw)
    (hacc : checkRegionsOverlap false rs = none) (hall : RegionsDecodable dw rs)
    (a : Nat) (ha : a < 2 ^ (aw - sh)) (j k : Nat) (hj : j < rs.length) (hk : k < rs.length)
    (h1 : decoderAccepts aw dw rs[j] a = true) (h2 : decoderAccepts aw dw rs[k] a = true) : j = k := by
  have hp := accepted_regions_pairwise_disjoint_decoders aw dw sh rs hdw hsh
    ((checkRegionsOverlap_none_iff rs).1 hacc) hall
  rw [List.pairwise_iff_getElem] at hp
  rcases Nat.lt_trichotomy j k with hlt | heq | hgt
  · exact absurd ⟨h1, h2⟩ (hp j k hj hk hlt a ha)
  · exact heq
  · exact absurd ⟨h2, h1⟩ (hp k j hk hj hgt a ha)

theorem remapAdr_confined (origin k sh aw a : Nat) (hk : sh ≤ k) (hal : origin % 2 ^ k = 0)
    (hfit : origin + 2 ^ k ≤ 2 ^ aw) :
    origin ≤ remapAdr origin (2 ^ k) sh aw a * 2 ^ sh ∧ remapAdr origin (2 ^ k) sh aw a * 2 ^ sh < origin + 2 ^ k := by
  obtain ⟨q, hq⟩ := Nat.dvd_of_mod_eq_zero hal
  have hka : k ≤ aw := by
    have : 2 ^ k ≤ 2 ^ aw := by omega
    exact (Nat.pow_le_pow_iff_right (by decide)).1 this
  have hsplit : (2 : Nat) ^ k = 2 ^ (k - sh) * 2 ^ sh := by rw [← Nat.pow_add]; congr 1; omega
  have hsplitA : (2 : Nat) ^ aw = 2 ^ (aw - sh) * 2 ^ sh := by rw [← Nat.pow_add]; congr 1; omega
  have hpos : 0 < 2 ^ sh := Nat.two_pow_pos sh
  -- origin >>> sh = q * 2^(k-sh)
  have horg : origin >>> sh = q * 2 ^ (k - sh) := by
    rw [Nat.shiftRight_eq_div_pow, hq, hsplit, Nat.mul_comm (2 ^ (k - sh) * 2 ^ sh) q, ← Nat.mul_assoc,
      Nat.mul_div_cancel _ hpos]
  unfold remapAdr
  rw [Nat.log2_two_pow, horg]
  generalize hr : a % 2 ^ (aw - sh) % 2 ^ (k - sh) = r
  have hrlt : r < 2 ^ (k - sh) := by rw [← hr]; exact Nat.mod_lt _ (Nat.two_pow_pos _)
  have hor : q * 2 ^ (k - sh) ||| r = q * 2 ^ (k - sh) + r := by
    rw [← Nat.shiftLeft_eq, ← Nat.shiftLeft_add_eq_or_of_lt hrlt]
  rw [hor]
  -- the sum fits the address signal
  have hq1 : (q + 1) * 2 ^ (k - sh) ≤ 2 ^ (aw - sh) := by
    have h1 : (q + 1) * 2 ^ (k - sh) * 2 ^ sh ≤ 2 ^ (aw - sh) * 2 ^ sh := by
      rw [Nat.mul_assoc, ← hsplit, ← hsplitA, Nat.add_mul, Nat.one_mul, Nat.mul_comm q]
      omega
    exact Nat.le_of_mul_le_mul_right h1 hpos
  have hlt : q * 2 ^ (k - sh) + r < 2 ^ (aw - sh) := by
    rw [Nat.add_mul, Nat.one_mul] at hq1
    omega
  rw [Nat.mod_eq_of_lt hlt, Nat.add_mul, Nat.mul_assoc, ← hsplit, hq, Nat.mul_comm q]
  have hr2 : r * 2 ^ sh < 2 ^ k := by
    rw [hsplit]; exact Nat.mul_lt_mul_of_pos_right hrlt hpos
  omega

theorem portAdr_none (c : SocRCfg) (i a : Nat) (h : c.remaps[i]? = none ∨ c.remaps[i]? = some none) :
    c.portAdr i a = a := by
  unfold SocRCfg.portAdr
  rcases h with h | h <;> rw [h]

/-- A byte-addressed master port driving byte address `a` puts the bus word `a / 2^sh` on the bus
    (C14 `Export.masterBus_spec`: the SoC bus sees the access's own bus word). -/
theorem masterAdr_byte (c : SocRCfg) (i a : Nat) (hb : c.mByte.getD i false = true)
    (ha : a < 2 ^ c.soc.aw) (hs : c.sh ≤ c.soc.aw) : c.masterAdr i a = a / 2 ^ c.sh := by
  have h := (Export.masterBus_spec .wbbyte false c.sh c.soc.aw a ha hs).1
  have e : Export.masterBus .wbbyte false c.sh c.soc.aw a =
      Export.convM2S false true c.sh (c.soc.aw - c.sh) (a % 2 ^ c.soc.aw) * 2 ^ c.sh := rfl
  rw [e, Nat.mul_div_cancel _ (Nat.two_pow_pos _), Nat.mod_eq_of_lt ha] at h
  unfold SocRCfg.masterAdr
  rw [if_pos hb]; exact h

theorem masterAdr_word (c : SocRCfg) (i a : Nat) (hb : c.mByte.getD i false = false) : c.masterAdr i a = a := by
  unfold SocRCfg.masterAdr
  rw [if_neg (by rw [hb]; simp)]

/-- A byte-addressed slave port sees the base byte address of the bus word (`Export.convS2M` unfolded: the word
    index at the slave is the bus word). -/
theorem slaveAdr_byte (c : SocRCfg) (j w : Nat) (hb : c.sByte.getD j false = true)
    (hw : w < 2 ^ (c.soc.aw - c.sh)) : c.slaveAdr j w = w * 2 ^ c.sh ∧ c.slaveAdr j w / 2 ^ c.sh = w := by
  have e : c.slaveAdr j w = w * 2 ^ c.sh := by
    unfold SocRCfg.slaveAdr
    rw [if_pos hb]
    simp [Export.convS2M, Nat.mod_eq_of_lt hw]
  exact ⟨e, by rw [e, Nat.mul_div_cancel _ (Nat.two_pow_pos _)]⟩

theorem slaveAdr_word (c : SocRCfg) (j w : Nat) (hb : c.sByte.getD j false = false) : c.slaveAdr j w = w := by
  unfold SocRCfg.slaveAdr
  rw [if_neg (by rw [hb]; simp)]

theorem inWindow_word_base (r : Region) (sh a : Nat) (hal : r.origin % r.p2 = 0) (hw : 2 ^ sh ≤ r.p2) :
    r.InWindow (a / 2 ^ sh * 2 ^ sh) ↔ r.InWindow a := by
  have hp2 : r.p2 = 2 ^ Soc.clog2 r.size := rfl
  have hsh : sh ≤ Soc.clog2 r.size := by
    rw [hp2] at hw; exact (Nat.pow_le_pow_iff_right (by decide)).1 hw
  have hsplit : r.p2 = 2 ^ (Soc.clog2 r.size - sh) * 2 ^ sh := by
    rw [hp2, ← Nat.pow_add]; congr 1; omega
  obtain ⟨q, hq⟩ := Nat.dvd_of_mod_eq_zero hal
  have hW : 0 < 2 ^ sh := Nat.two_pow_pos sh
  generalize hu : 2 ^ (Soc.clog2 r.size - sh) = P at hsplit
  have ho : r.origin = (P * q) * 2 ^ sh := by
    rw [hq, hsplit, Nat.mul_assoc, Nat.mul_assoc, Nat.mul_comm (2 ^ sh) q]
  have he : r.origin + r.p2 = (P * q + P) * 2 ^ sh := by rw [ho, hsplit, Nat.add_mul]
  have hdm := Nat.div_mul_le_self a (2 ^ sh)
  unfold Region.InWindow
  rw [he, ho]
  constructor
  · rintro ⟨h1, h2⟩
    refine ⟨Nat.le_trans h1 hdm, ?_⟩
    have : a / 2 ^ sh < P * q + P := Nat.lt_of_mul_lt_mul_right h2
    exact (Nat.div_lt_iff_lt_mul hW).1 this
  · rintro ⟨h1, h2⟩
    refine ⟨Nat.mul_le_mul_right _ ((Nat.le_div_iff_mul_le hW).2 h1), Nat.lt_of_le_of_lt hdm h2⟩

/-- Used for C13's handler invariant (`BusH.apply_inv`) and for the bus widths (`BusH.apply_widths`). -/
theorem glueRun_preserves (Q : BusH Nat → Prop)
    (h : ∀ (s : BusH Nat) (op : GlueOp) (k : Nat) (s' : BusH Nat), Q s → s.apply (op.toBusOp k) = .ok s' → Q s') :
    ∀ (ops : List GlueOp) (s : BusH Nat) (k : Nat) (s' : BusH Nat), Q s → glueRun s k ops = .inr s' → Q s' := by
  intro ops
  induction ops with
  | nil => intro s k s' hq hr; simp [glueRun] at hr; subst hr; exact hq
  | cons op ops ih =>
    intro s k s' hq hr
    unfold glueRun at hr
    cases ha : s.apply (op.toBusOp k) with
    | error e => rw [ha] at hr; cases hr
    | ok s1 => rw [ha] at hr; exact ih s1 (k + 1) s' (h s op k s1 hq ha) hr

theorem slaveRegions_pairwise_ok {s : BusH Nat} (hi : BusH.Inv s) :
    s.slaveRegions.Pairwise (fun p q => overlapPair p.2 q.2 = false) := by
  unfold BusH.slaveRegions
  have hnd : s.slaves.Pairwise (· ≠ ·) := hi.slaves_nodup
  refine List.Pairwise.filterMap _ ?_ hnd
  intro a a' hne b hb b' hb'
  cases hra : s.regionOf a with
  | none => simp [hra] at hb
  | some r =>
    cases hra' : s.regionOf a' with
    | none => simp [hra'] at hb'
    | some r' =>
      simp [hra] at hb
      simp [hra'] at hb'
      subst hb hb'
      exact BusH.regions_pair_ok hi (BusH.regionOf_some hra) (BusH.regionOf_some hra') hne

theorem slaveRegions_accepted {s : BusH Nat} (hi : BusH.Inv s) :
    checkRegionsOverlap false (s.slaveRegions.map (·.2)) = none := by
  rw [checkRegionsOverlap_none_iff, anyOverlap_eq_false_iff, List.pairwise_map]
  exact slaveRegions_pairwise_ok hi

end Litex.Wishbone
