import LitexModel.Wishbone.ToCsr
import LitexProofs.Wishbone.SramBus
/-
  `wishbone.Wishbone2CSR`: the CSR access it makes for a request (`latch`, `after`) and the refinement relation
  over the register file `csrFile`.  The CSR bus has no byte enables, so every write must select all lanes or none
  (`AllOrNoSel`, used in `after_eq`; `FullSelWrites` says it of an input).  The refinement theorem, over any CSR side, is
  in `ToCsrBank.lean`.
-/
namespace Litex.WbMem
open Litex

namespace ToCsr
variable (c : ToCsrCfg)

/-- Address decoding: `wishbone.adr[shift:]` truncated to the CSR address width. -/
def adrMap (a : Nat) : Nat := (a >>> c.shift) % 2 ^ c.caw

theorem csrAdr_eq (r : Req) : csrAdr c r = adrMap c r.adr := rfl

/-- A write request selects all byte lanes or none; reads are unconstrained.  (`FullSelWrites` and the first
    component of `PB` say this of the request of an input.) -/
def AllOrNoSel (r : Req) : Prop :=
  r.we = true → (selNone r.sel c.nb = true ∨ ∀ k, k < c.nb → r.sel.getD k false = true)

/-- Writes select all byte lanes or none (the CSR bus cannot express anything else). -/
def FullSelWrites (i : Req × Unit) : Prop :=
  i.1.we = true → (selNone i.1.sel c.nb = true ∨ ∀ k, k < c.nb → i.1.sel.getD k false = true)

/-- The CSR request latched (registered mode) / driven (un-registered mode) for request `r`. -/
def latch (r : Req) : CsrReq :=
  { adr := csrAdr c r, we := r.we && anySel c r, re := !r.we && anySel c r, dat := window r.dat 0 0 c.nb }

/-- Register file content after the CSR access made for `r`. -/
def after (r : Req) (M : Mem) : Mem :=
  if r.we && anySel c r then M.writeMasked (csrAdr c r * c.nb) (List.replicate c.nb true) (window r.dat 0 0 c.nb) else M

theorem after_eq (r : Req) (M : Mem) (hP : AllOrNoSel c r) :
    after c r M = if r.we then M.writeMasked (adrMap c r.adr * c.nb) (r.sel.take c.nb) r.dat else M := by
  unfold after
  cases hwe : r.we with
  | false => rfl
  | true =>
    simp only [Bool.true_and, if_true, anySel]
    cases hn : selNone r.sel c.nb with
    | true =>
      simp only [Bool.not_true, Bool.false_eq_true, if_false]
      refine (Mem.writeMasked_none _ _ _ _ fun i => ?_).symm
      rw [getD_take]; split
      · exact (selNone_iff _ _).mp hn _ ‹_›
      · rfl
    | false =>
      have hall : ∀ k, k < c.nb → r.sel.getD k false = true := (hP hwe).resolve_left (by rw [hn]; simp)
      simp only [Bool.not_false, if_true]
      exact Mem.writeMasked_congr M _
        (fun k => by
          rw [getD_take, replicate_true_getD]
          by_cases h : k < c.nb
          · rw [if_pos h, hall k h]; exact decide_eq_true h
          · rw [if_neg h]; exact decide_eq_false h)
        (fun k hk => by
          rw [replicate_true_getD] at hk
          rw [window_getD _ _ _ _ _ (of_decide_eq_true hk), Nat.zero_add])

/-- Refinement relation, by FSM state.  IDLE / WRITE-READ before the access: the registers are the abstract memory.
    ACK: the access for the held request `r` has been made (`after`) and `dat_r` shows the word it addressed. -/
def Inv (st : ToCsrState × CsrFileState) (p : Option Req) (M : Mem) : Prop :=
  match st.1.fsm with
  | .idle => c.register = true ∧ p = none ∧ st.1.csr.we = false ∧ st.2.regs = M
  | .writeRead =>
    if c.register then ∃ r, p = some r ∧ r.active = true ∧ st.1.csr = latch c r ∧ st.2.regs = M
    else p = none ∧ st.2.regs = M
  | .ack => ∃ r, p = some r ∧ r.active = true ∧ (c.register = true → st.1.csr.we = false) ∧
      st.2.regs = after c r M ∧ st.2.datR = M.readBytes (csrAdr c r * c.nb) c.nb

end ToCsr

end Litex.WbMem
