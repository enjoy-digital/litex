import LitexProofs.Wishbone.Conv
import LitexProofs.Wishbone.SramBurst
/-
  `wishbone.DownConverter` in front of a burst-capable slave, driven by a burst master:
  linear bursts (`bte = 0`) are forwarded as one long linear burst of sub-words (`cti = 2` on every sub-word,
  `cti = 7` on the last sub-word of the last beat); wrapping bursts are degraded to classic sub-word cycles by
  the guard `If(master.bte != 0, slave.cti.eq(CTI_BURST_NONE))`.  Refinement relation indexed by the burst
  obligations (`Expect`) on both ports.
-/
namespace Litex.WbMem
open Litex

theorem burstAdr_linear (a0 k : Nat) : burstAdr a0 0 k = a0 + k := by simp [burstAdr, wrapBits]

theorem Expect.next_ack_burst (mw : Bool) (e : Expect) (r : Req) (h : r.active = true) (hc : r.cti = 2)
    (hall : e.allows mw r) :
    ∃ a0 k, e.next r true = .cont a0 r.we r.bte k ∧ (r.bte = 0 → a0 + k = r.adr + 1) := by
  cases e with
  | free => exact ⟨r.adr, 1, by simp [Expect.next, h, hc], fun _ => rfl⟩
  | hold r0 => exact ⟨r.adr, 1, by simp [Expect.next, h, hc], fun _ => rfl⟩
  | cont a0 we bte k =>
    obtain ⟨_, hadr, hwe, hbte, _, _⟩ := hall
    refine ⟨a0, k + 1, by simp [Expect.next, h, hc, hwe, hbte], ?_⟩
    intro hb
    rw [hadr, ← hbte, hb, burstAdr_linear]; omega

namespace Down
variable (c : DownCfg)

/-- What the slave port is owed while the master holds `r` with `s.count` sub-words done: nothing, the
    sub-word request presented last cycle, or the continuation of the linear sub-word burst. -/
def SlaveExp (s : DownState) (r : Req) (eS : Expect) : Prop :=
  eS = .free ∨ eS = .hold (toSlave c s r) ∨
  ∃ a0 j, eS = .cont a0 r.we 0 j ∧ a0 + j = s.count + c.ratio * r.adr ∧ r.bte = 0 ∧ (r.cti = 2 ∨ r.cti = 7)

/-- Link between the master's obligation, the converter state and the slave's obligation.  Between two beats of a
    linear burst (`bte = 0`) the slave is in the middle of one long sub-word burst, at sub-word `ratio·(a0 + k)`; a
    wrapping burst reaches the slave as classic cycles, so it is owed nothing. -/
def Link (g : Nat → Nat) (s : DownState) (eM eS : Expect) (Ms M : Mem) : Prop :=
  match eM with
  | .free => s.count = 0 ∧ eS = .free ∧ Ms = M
  | .hold r => r.active = true ∧ Serving c g s Ms r M ∧ SlaveExp c s r eS
  | .cont a0 we bte k => s.count = 0 ∧ Ms = M ∧
      (if bte = 0 then ∃ aS j, eS = .cont aS we 0 j ∧ aS + j = c.ratio * (a0 + k) else eS = .free)

theorem Link.of_free {g : Nat → Nat} {s : DownState} {eS : Expect} {Ms M : Mem} (h : Link c g s .free eS Ms M) :
    s.count = 0 ∧ eS = .free ∧ Ms = M := h

theorem Link.of_hold {g : Nat → Nat} {s : DownState} {r : Req} {eS : Expect} {Ms M : Mem}
    (h : Link c g s (.hold r) eS Ms M) : r.active = true ∧ Serving c g s Ms r M ∧ SlaveExp c s r eS := h

theorem Link.of_cont {g : Nat → Nat} {s : DownState} {a0 : Nat} {we : Bool} {bte k : Nat} {eS : Expect} {Ms M : Mem}
    (h : Link c g s (.cont a0 we bte k) eS Ms M) : s.count = 0 ∧ Ms = M ∧
      (if bte = 0 then ∃ aS j, eS = .cont aS we 0 j ∧ aS + j = c.ratio * (a0 + k) else eS = .free) := h

theorem scti_cases (s : DownState) (r : Req) :
    scti c s r = if r.bte ≠ 0 then 0 else if r.cti = 2 then 2 else if r.cti = 7 then (if done c s then 7 else 2) else 0 := rfl

/-- The `cti` translation, read backwards: the converter asks its slave to go on exactly for a linear burst beat that is
    not the last sub-word of a last beat. -/
theorem scti_eq_two_iff (s : DownState) (r : Req) :
    scti c s r = 2 ↔ r.bte = 0 ∧ (r.cti = 2 ∨ (r.cti = 7 ∧ done c s = false)) := by
  rw [scti_cases]
  by_cases hb : r.bte = 0
  · by_cases h2 : r.cti = 2
    · simp [hb, h2]
    · by_cases h7 : r.cti = 7
      · cases hd : done c s
        · simp [hb, h7]
        · simp [hb, h7]
      · simp [hb, h2, h7]
  · simp [hb]

theorem scti_burst (s : DownState) (r : Req) (hb : r.bte = 0) (hc : r.cti = 2 ∨ r.cti = 7) :
    scti c s r = 2 ∨ (scti c s r = 7 ∧ done c s = true ∧ r.cti = 7) := by
  rw [scti_cases]
  rcases hc with h | h
  · left; simp [hb, h]
  · cases hd : done c s
    · left; simp [hb, h]
    · right; simp [hb, h]

theorem slave_allows (s : DownState) (r : Req) (eS : Expect) (hact : r.active = true) (h : SlaveExp c s r eS) :
    eS.allows true (toSlave c s r) := by
  rcases h with h | h | ⟨a0, j, h, hsum, hb, hc⟩
  · subst h; trivial
  · subst h; rfl
  · subst h
    have hs := scti_burst c s r hb hc
    have hne : scti c s r ≠ 0 := by rcases hs with h | h <;> omega
    have hskip : skip c s r = false := by
      simp only [skip, Bool.and_eq_false_iff, beq_eq_false_iff_ne]; right; exact hne
    refine ⟨?_, ?_, ?_, rfl, ?_, ?_⟩
    · rw [toSlave_active, hact, hskip]; rfl
    · rw [burstAdr_linear, hsum]; rfl
    · simp [toSlave, hact]
    · show scti c s r = 2 ∨ scti c s r = 7
      rcases hs with h | h
      · left; exact h
      · right; exact h.1
    · intro _ _ hw; simp [wrapBits] at hw

section Over
variable {ω τ : Type} (sl : Slave ω τ) (f g : Nat → Nat) (InvS : τ → Expect → Mem → Prop)

/-- The converter's counter is in range, and some slave-side expectation and memory are `Link`ed to the master's. -/
def BInvD (st : DownState × τ) (eM : Expect) (M : Mem) : Prop :=
  st.1.count < c.ratio ∧ ∃ Ms eS, InvS st.2 eS Ms ∧ Link c g st.1 eM eS Ms M

theorem slave_next_ack (s : DownState) (r : Req) (eS : Expect) (hact : r.active = true)
    (hsa : (toSlave c s r).active = true) (hall : eS.allows true (toSlave c s r)) :
    (scti c s r = 2 → ∃ a0 j, eS.next (toSlave c s r) true = .cont a0 r.we 0 j ∧
        a0 + j = s.count + c.ratio * r.adr + 1) ∧
    (scti c s r ≠ 2 → eS.next (toSlave c s r) true = .free) := by
  refine ⟨?_, ?_⟩
  · intro h2
    obtain ⟨a0, j, hn, hsum⟩ := Expect.next_ack_burst true eS (toSlave c s r) hsa h2 hall
    have hwe : (toSlave c s r).we = r.we := by simp [toSlave, hact]
    have hbte : (toSlave c s r).bte = 0 := rfl
    rw [hwe, hbte] at hn
    exact ⟨a0, j, hn, hsum rfl⟩
  · intro h2
    exact Expect.next_ack_end eS _ hsa h2

/-- Any `mw`: wrapping bursts of any length are included, because the narrow slave only ever sees linear bursts and
    classic cycles (hence `true` on its side). -/
theorem brefines (hfg : ∀ a k, k < c.ratio → f (k + c.ratio * a) = k + c.ratio * g a)
    (mw : Bool) (P : Req × ω → Prop) (PS : Req × ω → Prop)
    (hP : ∀ s r o, s.count < c.ratio → P (r, o) → PS (toSlave c s r, o))
    (hS : BRefines sl f c.nbs true PS InvS) :
    BRefines ((downConv c).over sl) g c.nbm mw P (BInvD c g InvS) := by
  intro st eM M i hinv hallM hPi
  obtain ⟨r, o⟩ := i
  obtain ⟨s, t⟩ := st
  obtain ⟨hcnt, Ms, eS, hSinv, hlink⟩ := hinv
  dsimp only at hcnt hSinv hlink hallM
  let sr := toSlave c s r
  let rsp := sl.out t (sr, o)
  have hout : (((downConv c).over sl).out (s, t) (r, o)).ack = mack c s r rsp := rfl
  have hdat : (((downConv c).over sl).out (s, t) (r, o)).dat = mdat c s rsp := rfl
  have hnext : ((downConv c).over sl).next (s, t) (r, o) = (next c s r rsp, sl.next t (sr, o)) := rfl
  have hsact : sr.active = (r.active && !skip c s r) := toSlave_active c s r
  cases hact : r.active with
  | false =>
    -- the master presents nothing: it owed nothing
    have hfree : eM = .free := by
      cases eM with
      | free => rfl
      | hold r0 => have : r = r0 := hallM; subst this; rw [hlink.of_hold.1] at hact; cases hact
      | cont a0 we bte k => rw [hallM.1] at hact; cases hact
    subst hfree
    obtain ⟨hc0, heS, hMs⟩ := hlink.of_free
    subst heS hMs
    obtain ⟨_, hSnext⟩ := (hS t .free Ms (sr, o) hSinv trivial (hP s r o hcnt hPi)).inactive
      (by rw [hsact, hact]; rfl)
    apply CycleOk.mk_no_ack (by rw [hout]; simp only [mack, hact, Bool.false_and])
    rw [hnext, Expect.next_inactive _ _ _ hact]
    have hcount := next_count_idle c s r rsp hact hc0
    exact ⟨by rw [hcount]; exact ratio_pos c, Ms, .free, hSnext, hcount, rfl, rfl⟩
  | true =>
    -- unify the three shapes: `r` is being served with `count` sub-words done
    have hcur : Serving c g s Ms r M ∧ SlaveExp c s r eS := by
      cases eM with
      | free =>
        obtain ⟨hc0, heS, hMs⟩ := hlink.of_free
        subst heS hMs
        exact ⟨serving_of_idle c g s Ms r hc0, Or.inl rfl⟩
      | hold r0 => have : r = r0 := hallM; subst this; exact hlink.of_hold.2
      | cont a0 we bte k =>
        obtain ⟨hc0, hMs, hes⟩ := hlink.of_cont
        obtain ⟨_, hadr, hwe, hbte, hcti, _⟩ := hallM
        subst hMs
        refine ⟨serving_of_idle c g s Ms r hc0, ?_⟩
        by_cases hb : bte = 0
        · simp only [hb, if_true] at hes
          obtain ⟨aS, j, he, hsum⟩ := hes
          right; right
          refine ⟨aS, j, by rw [he, hwe], ?_, by rw [hbte, hb], hcti⟩
          rw [hsum, hc0, hadr, hb, burstAdr_linear]; omega
        · simp only [hb, if_false] at hes
          exact Or.inl hes
    obtain ⟨hServ, hSE⟩ := hcur
    have hallS := slave_allows c s r eS hact hSE
    have hso := hS t eS Ms (sr, o) hSinv hallS (hP s r o hcnt hPi)
    have hmack := mack_active c s r rsp hact
    rw [next_active c s r rsp hact hcnt] at hnext
    cases hadv : (rsp.ack || skip c s r) with
    | false =>
      -- waiting for the slave
      obtain ⟨hsa, hsk⟩ : rsp.ack = false ∧ skip c s r = false := Bool.or_eq_false_iff.mp hadv
      have hsr_act : sr.active = true := by rw [hsact, hact, hsk]; rfl
      have hSnext := hso.no_ack hsa
      rw [Expect.next_noack _ _ hsr_act] at hSnext
      apply CycleOk.mk_no_ack (by rw [hout, hmack, hadv]; rfl)
      rw [hnext, hadv, if_neg (by simp), Expect.next_noack _ _ hact]
      exact ⟨hcnt, Ms, .hold sr, hSnext, hact, hServ, Or.inr (Or.inl rfl)⟩
    | true =>
      -- the sub-word is done (skipped, or acknowledged by the slave); the slave's new obligation `eS'`
      obtain ⟨Ms', eS', hSnext, hS', hn2, hnn2⟩ : ∃ Ms' eS', InvS (sl.next t (sr, o)) eS' Ms' ∧
          Serving c g { count := s.count + 1, datR := mdat c s rsp } Ms' r M ∧
          (scti c s r = 2 → ∃ a0 j, eS' = .cont a0 r.we 0 j ∧ a0 + j = s.count + c.ratio * r.adr + 1) ∧
          (scti c s r ≠ 2 → eS' = .free) := by
        cases hsk : skip c s r with
        | true =>
          obtain ⟨_, hSn⟩ := hso.inactive (by rw [hsact, hsk, Bool.not_true, Bool.and_false])
          have hs0 : scti c s r = 0 := by simp only [skip, Bool.and_eq_true, beq_iff_eq] at hsk; exact hsk.2
          exact ⟨Ms, .free, hSn, serving_advance c f g hfg s Ms Ms r M rsp hcnt hServ (Or.inl ⟨hsk, rfl⟩),
            by intro h; omega, fun _ => rfl⟩
        | false =>
          have hsa : rsp.ack = true := by rw [hsk, Bool.or_false] at hadv; exact hadv
          have hsr_act : sr.active = true := by rw [hsact, hact, hsk]; rfl
          have hswe : sr.we = r.we := by simp [sr, toSlave, hact]
          obtain ⟨hread, hSn⟩ := hso.ack hsa
          rw [hswe] at hread hSn
          obtain ⟨hn2, hnn2⟩ := slave_next_ack c s r eS hact hsr_act hallS
          exact ⟨_, _, hSn, serving_advance c f g hfg s Ms _ r M rsp hcnt hServ (Or.inr ⟨hsk, rfl, hread⟩), hn2, hnn2⟩
      rw [hadv, if_pos rfl] at hnext
      cases hdn : done c s with
      | false =>
        have hlt := succ_lt_of_not_done c hcnt hdn
        apply CycleOk.mk_no_ack (by rw [hout, hmack, hdn, Bool.and_false])
        rw [hnext, hdn, if_neg (by simp), Expect.next_noack _ _ hact]
        refine ⟨hlt, Ms', eS', hSnext, hact, hS', ?_⟩
        by_cases h2 : scti c s r = 2
        · obtain ⟨a0, j, he, hsum⟩ := hn2 h2
          right; right
          have hbc := (scti_eq_two_iff c s r).mp h2
          exact ⟨a0, j, he, by rw [hsum]; show _ = s.count + 1 + c.ratio * r.adr; omega, hbc.1, hbc.2.imp_right And.left⟩
        · left; exact hnn2 h2
      | true =>
        -- the master is acknowledged: its new obligation and the slave's matching one
        obtain ⟨hmem', hrd'⟩ := hS'.complete ((done_iff c s hcnt).mp hdn)
        have hlast : s.count + 1 = c.ratio := (done_iff c s hcnt).mp hdn
        apply CycleOk.mk_ack (by rw [hout, hmack, hadv, hdn]; rfl) hact
        · rw [hdat]; exact hrd'
        · rw [hnext, hdn, if_pos rfl, ← hmem']
          refine ⟨ratio_pos c, Ms', eS', hSnext, ?_⟩
          by_cases hc2 : r.cti = 2
          · obtain ⟨a0', k', hn, hsum⟩ := Expect.next_ack_burst mw eM r hact hc2 hallM
            rw [hn]
            refine ⟨rfl, rfl, ?_⟩
            by_cases hb : r.bte = 0
            · simp only [hb, if_true]
              obtain ⟨a0, j, he, hsj⟩ := hn2 ((scti_eq_two_iff c s r).mpr ⟨hb, Or.inl hc2⟩)
              refine ⟨a0, j, he, ?_⟩
              rw [hsj, hsum hb]
              have : s.count + c.ratio * r.adr + 1 = c.ratio * r.adr + (s.count + 1) := by omega
              rw [this, hlast]; ring
            · simp only [hb, if_false]
              exact hnn2 fun h => hb ((scti_eq_two_iff c s r).mp h).1
          · rw [Expect.next_ack_end _ _ hact hc2]
            refine ⟨rfl, ?_, rfl⟩
            exact hnn2 fun h => ((scti_eq_two_iff c s r).mp h).2.elim hc2 fun h7 => by rw [hdn] at h7; cases h7.2

end Over

theorem sram_decode (sc : SramCfg) (n dm : Nat) (hdepth : sc.depth = 2 ^ n) (haw : n ≤ sc.aw)
    (hdm : sc.depth = c.ratio * dm) (a k : Nat) (hk : k < c.ratio) :
    sc.idx (k + c.ratio * a) = k + c.ratio * (a % dm) := by
  have hdmpos : 0 < dm := by
    rcases Nat.eq_zero_or_pos dm with h | h
    · have := Nat.two_pow_pos n; rw [h, Nat.mul_zero] at hdm; omega
    · exact h
  rw [Sram.idx_pow2 sc n hdepth haw, hdm]
  exact mod_split c.ratio dm a k hk hdmpos

theorem toSlave_adr_lt (aw awm : Nat) (hfit : c.ratio * 2 ^ awm ≤ 2 ^ aw) (s : DownState) (r : Req)
    (hcnt : s.count < c.ratio) (hr : r.adr < 2 ^ awm) : (toSlave c s r).adr < 2 ^ aw :=
  calc s.count + c.ratio * r.adr < c.ratio + c.ratio * r.adr := by omega
    _ = c.ratio * (r.adr + 1) := by rw [Nat.mul_add, Nat.mul_one, Nat.add_comm]
    _ ≤ c.ratio * 2 ^ awm := Nat.mul_le_mul_left _ hr
    _ ≤ 2 ^ aw := hfit

end Down
end Litex.WbMem
