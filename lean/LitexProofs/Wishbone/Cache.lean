import LitexModel.Wishbone.Cache
import LitexProofs.Wishbone.SramBus
import Mathlib.Tactic.Ring
/-
  `wishbone.Cache` in front of a slave that implements a byte memory: abstraction function, coherence invariant,
  what a write confined to one line does to them, the refinement step.  Geometry: a line has
  `LB = nbs·2^wordbits = nbm·2^offsetbits` bytes; master word `a` lies in global line `G = a / 2^offsetbits` (cache line
  `G mod 2^linebits`, tag `G / 2^linebits`) at position `chunk (a mod 2^offsetbits)`; byte `x` of the backing memory lies
  in global line `x / LB`.
-/
namespace Litex.WbMem
open Litex

namespace Cache
variable (c : CacheCfg)

abbrev LB : Nat := lineBytes c

def T (tags : List (Nat × Bool)) (l : Nat) : Nat × Bool := tags.getD l (0, false)

/-- Global line number of a master word address. -/
def gline (a : Nat) : Nat := a / 2 ^ c.offsetbits

/-- Word-address map seen by the master: the words of a line are stored at `chunk` positions
    (`reverse = true`: most significant position first; identity otherwise). -/
def fmap (a : Nat) : Nat := gline c a * 2 ^ c.offsetbits + chunk c (a % 2 ^ c.offsetbits)

/-- Abstraction function: the memory the master sees — a byte whose line is cached with the matching tag
    comes from the data memory, every other byte from the backing memory. -/
def absMem (data : List Byte) (tags : List (Nat × Bool)) (Ms : Mem) : Mem := fun x =>
  if (T tags (x / LB c % 2 ^ c.linebits)).1 = x / LB c / 2 ^ c.linebits
  then data.getD (x / LB c % 2 ^ c.linebits * LB c + x % LB c) 0 else Ms x

/-- Coherence: a clean line holds exactly the backing bytes of the line its tag names. -/
def Coherent (data : List Byte) (tags : List (Nat × Bool)) (Ms : Mem) : Prop :=
  ∀ l, l < 2 ^ c.linebits → (T tags l).2 = false → ∀ j, j < LB c →
    data.getD (l * LB c + j) 0 = Ms ((l + 2 ^ c.linebits * (T tags l).1) * LB c + j)

/-- Geometry side conditions (they mirror what `Cache.__init__` computes from the two interfaces);
    `NG` bounds the global line numbers the master can address. -/
structure Geo (NG : Nat) : Prop where
  nbm_pos : 0 < c.nbm
  nbs_pos : 0 < c.nbs
  line    : c.nbm * 2 ^ c.offsetbits = c.nbs * 2 ^ c.wordbits
  saw     : NG * 2 ^ c.wordbits ≤ 2 ^ c.saw
  tag     : NG ≤ 2 ^ c.linebits * 2 ^ c.tagbits
  lines   : 2 ^ c.linebits ≤ NG

def WF (NG : Nat) (data : List Byte) (tags : List (Nat × Bool)) : Prop :=
  tags.length = 2 ^ c.linebits ∧ data.length = 2 ^ c.linebits * LB c ∧
  ∀ l, l < 2 ^ c.linebits → l + 2 ^ c.linebits * (T tags l).1 < NG

variable {c}

theorem Geo.LB_pos {NG : Nat} (g : Geo c NG) : 0 < LB c := Nat.mul_pos g.nbs_pos (Nat.two_pow_pos _)

theorem Geo.LB_eq {NG : Nat} (g : Geo c NG) : LB c = c.nbm * 2 ^ c.offsetbits := g.line.symm

theorem gsplit_mod (n l t : Nat) (hl : l < n) : (l + n * t) % n = l := by
  rw [Nat.add_mul_mod_self_left, Nat.mod_eq_of_lt hl]

theorem gsplit_div (n l t : Nat) (hl : l < n) : (l + n * t) / n = t := by
  have hn : 0 < n := by omega
  rw [Nat.add_mul_div_left _ _ hn, Nat.div_eq_of_lt hl, Nat.zero_add]

theorem gsplit_inj {n l t l' t' : Nat} (hl : l < n) (hl' : l' < n) : l + n * t = l' + n * t' ↔ l = l' ∧ t = t' :=
  ⟨fun h => ⟨by rw [← gsplit_mod n l t hl, h, gsplit_mod n l' t' hl'], by rw [← gsplit_div n l t hl, h, gsplit_div n l' t' hl']⟩,
   fun ⟨h1, h2⟩ => by rw [h1, h2]⟩

theorem adrLine_lt (a : Nat) : adrLine c a < 2 ^ c.linebits := Nat.mod_lt _ (Nat.two_pow_pos _)

theorem chunk_window {NG : Nat} (g : Geo c NG) (a : Nat) : chunk c (adrOffset c a) * c.nbm + c.nbm ≤ LB c := by
  have ho : chunk c (adrOffset c a) < 2 ^ c.offsetbits := by
    have : adrOffset c a < 2 ^ c.offsetbits := Nat.mod_lt _ (Nat.two_pow_pos _)
    unfold chunk noff; split <;> omega
  calc chunk c (adrOffset c a) * c.nbm + c.nbm = (chunk c (adrOffset c a) + 1) * c.nbm := by rw [Nat.add_mul, Nat.one_mul]
    _ ≤ 2 ^ c.offsetbits * c.nbm := Nat.mul_le_mul_right _ ho
    _ = LB c := by rw [g.LB_eq, Nat.mul_comm]

theorem adrLine_eq (a : Nat) : adrLine c a = gline c a % 2 ^ c.linebits := rfl

theorem adrTag_eq {NG : Nat} (g : Geo c NG) (a : Nat) (ha : gline c a < NG) :
    adrTag c a = gline c a / 2 ^ c.linebits := by
  unfold adrTag gline
  rw [Nat.pow_add, ← Nat.div_div_eq_div_mul]
  apply Nat.mod_eq_of_lt
  rw [Nat.div_lt_iff_lt_mul (Nat.two_pow_pos _), Nat.mul_comm]
  exact Nat.lt_of_lt_of_le ha g.tag

theorem gline_split (a : Nat) :
    gline c a = adrLine c a + 2 ^ c.linebits * (gline c a / 2 ^ c.linebits) := by
  rw [adrLine_eq, Nat.add_comm]; exact (Nat.div_add_mod _ _).symm

theorem gnum {NG : Nat} (g : Geo c NG) (a : Nat) (ha : gline c a < NG) :
    adrLine c a + 2 ^ c.linebits * adrTag c a = gline c a := by
  rw [adrTag_eq g a ha]; exact (gline_split a).symm

/-- Byte address of master word `a` (through `fmap`): its window in the global line `adrLine a + n·adrTag a`. -/
theorem fmap_base {NG : Nat} (g : Geo c NG) (a : Nat) (ha : gline c a < NG) :
    fmap c a * c.nbm = (adrLine c a + 2 ^ c.linebits * adrTag c a) * LB c + chunk c (adrOffset c a) * c.nbm := by
  rw [gnum g a ha, g.LB_eq]; unfold fmap adrOffset; ring

/-- The model's `tag_do` in the proofs' vocabulary. -/
theorem tagDo_eq {s : CacheState} {l : Nat} (h : s.lineReg = l) : tagDo s = T s.tags l := h ▸ rfl

theorem T_set_self (tags : List (Nat × Bool)) {l : Nat} (v : Nat × Bool) (hl : l < tags.length) : T (tags.set l v) l = v := by
  unfold T; rw [List.getD_eq_getElem?_getD, List.getElem?_set_self hl]; rfl

theorem T_set_ne (tags : List (Nat × Bool)) {l l' : Nat} (v : Nat × Bool) (h : l' ≠ l) : T (tags.set l v) l' = T tags l' := by
  unfold T; rw [List.getD_eq_getElem?_getD, List.getElem?_set_ne (Ne.symm h), ← List.getD_eq_getElem?_getD]

variable (c)

theorem next_idle (s : CacheState) (r : Req) (rsp : Rsp) (hf : s.fsm = .idle) :
    Cache.next c s r rsp =
      { s with lineReg := adrLine c r.adr, offR := adrOffset c r.adr,
               fsm := if r.active then .testHit else .idle } := by
  simp [Cache.next, mack, hf]

theorem next_testHit (s : CacheState) (r : Req) (rsp : Rsp) (hf : s.fsm = .testHit) :
    Cache.next c s r rsp =
      { data := if (r.active && r.we && hit c s r) = true then
                  writeLanes s.data (adrLine c r.adr * lineBytes c + chunk c (adrOffset c r.adr) * c.nbm) r.sel r.dat c.nbm
                else s.data
        tags := if (if hit c s r then r.we else !(tagDo s).2) = true then
                  s.tags.set (adrLine c r.adr) (adrTag c r.adr, hit c s r && r.we)
                else s.tags
        lineReg := adrLine c r.adr, offR := adrOffset c r.adr, word := 0
        fsm := if hit c s r then .idle else if (tagDo s).2 then .evict else .refill } := by
  simp [Cache.next, mack, hf]

theorem next_evict (s : CacheState) (r : Req) (rsp : Rsp) (hf : s.fsm = .evict) :
    Cache.next c s r rsp =
      { s with tags := if (rsp.ack && lastWord c s) = true then s.tags.set (adrLine c r.adr) (adrTag c r.adr, false) else s.tags
               lineReg := adrLine c r.adr, offR := adrOffset c r.adr
               word := if (rsp.ack && lastWord c s) = true then 0
                       else if rsp.ack = true then (s.word + 1) % 2 ^ c.wordbits else s.word
               fsm := if (rsp.ack && lastWord c s) = true then .refill else .evict } := by
  have hne : (CacheFsm.evict == CacheFsm.testHit) = false := by decide
  simp [Cache.next, mack, hf, hne]

theorem next_refill (s : CacheState) (r : Req) (rsp : Rsp) (hf : s.fsm = .refill) :
    Cache.next c s r rsp =
      { s with data := if rsp.ack = true then
                         writeLanes s.data (adrLine c r.adr * lineBytes c + s.word * c.nbs) (List.replicate c.nbs true) rsp.dat c.nbs
                       else s.data
               lineReg := adrLine c r.adr, offR := adrOffset c r.adr
               word := if rsp.ack = true then (s.word + 1) % 2 ^ c.wordbits else s.word
               fsm := if (rsp.ack && lastWord c s) = true then .testHit else .refill } := by
  simp [Cache.next, mack, hf]
variable {c}

theorem readLanes_at (data : List Byte) (l j : Nat) (hj : j < LB c) :
    (readLanes data l (LB c)).getD j 0 = data.getD (l * LB c + j) 0 := by
  unfold readLanes; rw [window_getD _ _ _ _ _ hj]

/-! ### The cache line by line

  Byte address `x` is byte `j` of the global line `l + n·t` (cache line `l < n = 2^linebits`, tag `t`), and what
  `absMem`, `Coherent`, `CohOther`, `HoleAbs` say about such an address involves line `l` of the cache state only.
  Every write the cache makes — to its data memory or to the backing memory — stays inside one global line. -/

theorem coords (hL : 0 < LB c) (x : Nat) :
    ∃ l t j, l < 2 ^ c.linebits ∧ j < LB c ∧ x = (l + 2 ^ c.linebits * t) * LB c + j :=
  ⟨x / LB c % 2 ^ c.linebits, x / LB c / 2 ^ c.linebits, x % LB c, Nat.mod_lt _ (Nat.two_pow_pos _), Nat.mod_lt _ hL, by
    rw [Nat.mod_add_div, Nat.mul_comm]; exact (Nat.div_add_mod _ _).symm⟩

theorem absMem_coords (data : List Byte) (tags : List (Nat × Bool)) (Ms : Mem) {l j : Nat} (t : Nat)
    (hl : l < 2 ^ c.linebits) (hj : j < LB c) :
    absMem c data tags Ms ((l + 2 ^ c.linebits * t) * LB c + j) =
      if (T tags l).1 = t then data.getD (l * LB c + j) 0 else Ms ((l + 2 ^ c.linebits * t) * LB c + j) := by
  unfold absMem
  rw [mul_add_div_of_lt _ hj, mul_add_mod_of_lt _ hj, gsplit_mod _ _ _ hl, gsplit_div _ _ _ hl]

/-- `writeMasked_block` in the coordinates `(l, t)`. -/
theorem write_coords (m : Mem) {l line j off w : Nat} (t tag : Nat) (hl : l < 2 ^ c.linebits) (hline : line < 2 ^ c.linebits)
    (hj : j < LB c) (hoff : off + w ≤ LB c) (s : List Bool) (hs : s.length ≤ w) (d : List Byte) :
    m.writeMasked ((line + 2 ^ c.linebits * tag) * LB c + off) s d ((l + 2 ^ c.linebits * t) * LB c + j) =
      if (l = line ∧ t = tag) ∧ off ≤ j ∧ s.getD (j - off) false = true then d.getD (j - off) 0
      else m ((l + 2 ^ c.linebits * t) * LB c + j) := by
  rw [Mem.writeMasked_block _ _ _ _ _ _ _ _ _ hj hoff hs]; simp only [gsplit_inj hl hline]

theorem writeLanes_other_line (data : List Byte) (line off n : Nat) (sel : List Bool) (dat : List Byte) (l j : Nat)
    (hoff : off + n ≤ LB c) (hne : l ≠ line) (hj : j < LB c) :
    (writeLanes data (line * LB c + off) sel dat n).getD (l * LB c + j) 0 = data.getD (l * LB c + j) 0 := by
  rw [writeLanes_getD, if_neg]
  intro ⟨a, b, _, _⟩
  rcases window_disjoint _ _ _ j off n hne hj hoff with h | h <;> omega

/-- Coherence of every line but `line`. -/
def CohOther (data : List Byte) (tags : List (Nat × Bool)) (Ms : Mem) (line : Nat) : Prop :=
  ∀ l, l < 2 ^ c.linebits → l ≠ line → (T tags l).2 = false → ∀ j, j < LB c →
    data.getD (l * LB c + j) 0 = Ms ((l + 2 ^ c.linebits * (T tags l).1) * LB c + j)

/-- The abstract memory while `line` is being replaced: its bytes come from the backing memory. -/
def HoleAbs (data : List Byte) (tags : List (Nat × Bool)) (Ms : Mem) (line : Nat) (M : Mem) : Prop :=
  ∀ x, M x = if x / LB c % 2 ^ c.linebits = line then Ms x else absMem c data tags Ms x

theorem Coherent.other {data : List Byte} {tags : List (Nat × Bool)} {Ms : Mem} (h : Coherent c data tags Ms) (line : Nat) :
    CohOther (c := c) data tags Ms line := fun l hl _ hc j hj => h l hl hc j hj

section
variable {NG : Nat} {data data' : List Byte} {tags tags' : List (Nat × Bool)} {Ms M : Mem} {line off w : Nat}

theorem data_write (hwf : WF c NG data tags) (hline : line < 2 ^ c.linebits) (hoff : off + w ≤ LB c)
    (sel : List Bool) (dat : List Byte) :
    Mem.ofList (writeLanes data (line * LB c + off) sel dat w) =
      (Mem.ofList data).writeMasked (line * LB c + off) (sel.take w) dat :=
  ofList_writeLanes _ _ _ _ _ (by
    rw [hwf.2.1]
    calc line * LB c + off + w ≤ line * LB c + LB c := by omega
      _ = (line + 1) * LB c := by rw [Nat.add_mul, Nat.one_mul]
      _ ≤ 2 ^ c.linebits * LB c := Nat.mul_le_mul_right _ hline)

/-- The write hit: a write into a cached line is the same write on the abstract memory (any window of the line, any
    dirty flag). -/
theorem absMem_write_line (hL : 0 < LB c) (hwf : WF c NG data tags) (hline : line < 2 ^ c.linebits)
    (hoff : off + w ≤ LB c) (d : Bool) (sel : List Bool) (dat : List Byte) :
    absMem c (writeLanes data (line * LB c + off) sel dat w) (tags.set line ((T tags line).1, d)) Ms =
      (absMem c data tags Ms).writeMasked ((line + 2 ^ c.linebits * (T tags line).1) * LB c + off) (sel.take w) dat := by
  funext x
  obtain ⟨l, t, j, hl, hj, rfl⟩ := coords hL x
  have hlen : (sel.take w).length ≤ w := List.length_take_le _ _
  rw [absMem_coords _ _ _ t hl hj, write_coords _ _ _ hl hline hj hoff _ hlen, absMem_coords _ _ _ t hl hj]
  show (if _ then Mem.ofList _ _ else _) = _
  rw [data_write hwf hline hoff, Mem.writeMasked_block _ _ _ _ _ _ _ _ _ hj hoff hlen]
  by_cases hl' : l = line
  · subst hl'
    rw [T_set_self _ _ (by rw [hwf.1]; exact hline)]
    by_cases ht : (T tags l).1 = t
    · simp only [ht, if_true, true_and]; rfl
    · rw [if_neg ht, if_neg ht, if_neg (fun h => ht h.1.2.symm)]
  · rw [T_set_ne _ _ hl']
    simp only [hl', false_and, if_false]; rfl

/-- A write to the backing memory under the line that caches it is invisible: a word of a dirty line written back. -/
theorem absMem_write_under (hL : 0 < LB c) (hline : line < 2 ^ c.linebits) (hoff : off + w ≤ LB c)
    (s : List Bool) (hs : s.length ≤ w) (dat : List Byte) :
    absMem c data tags (Ms.writeMasked ((line + 2 ^ c.linebits * (T tags line).1) * LB c + off) s dat) =
      absMem c data tags Ms := by
  funext x
  obtain ⟨l, t, j, hl, hj, rfl⟩ := coords hL x
  rw [absMem_coords _ _ _ t hl hj, absMem_coords _ _ _ t hl hj]
  split
  · rfl
  · next ht => rw [write_coords _ _ _ hl hline hj hoff _ hs, if_neg (fun h => ht (by rw [h.1.1, h.1.2]))]

/-- … and, that line being dirty, keeps the clean lines coherent. -/
theorem Coherent.write_under (hcoh : Coherent c data tags Ms) (hline : line < 2 ^ c.linebits) (hoff : off + w ≤ LB c)
    (hdirty : (T tags line).2 = true) (s : List Bool) (hs : s.length ≤ w) (dat : List Byte) :
    Coherent c data tags (Ms.writeMasked ((line + 2 ^ c.linebits * (T tags line).1) * LB c + off) s dat) := by
  intro l hl hclean j hj
  rw [write_coords _ _ _ hl hline hj hoff _ hs, if_neg (fun h => by rw [h.1.1, hdirty] at hclean; cases hclean)]
  exact hcoh l hl hclean j hj

/-- `CohOther line` and `HoleAbs line` do not look at line `line` of the cache state. -/
theorem CohOther.congr (h : CohOther (c := c) data tags Ms line) (ht : ∀ l, l ≠ line → T tags' l = T tags l)
    (hd : ∀ l j, l ≠ line → j < LB c → data'.getD (l * LB c + j) 0 = data.getD (l * LB c + j) 0) :
    CohOther (c := c) data' tags' Ms line := by
  intro l hl hne hc j hj
  rw [ht l hne] at hc ⊢; rw [hd l j hne hj]; exact h l hl hne hc j hj

theorem HoleAbs.congr (hL : 0 < LB c) (h : HoleAbs (c := c) data tags Ms line M) (ht : ∀ l, l ≠ line → T tags' l = T tags l)
    (hd : ∀ l j, l ≠ line → j < LB c → data'.getD (l * LB c + j) 0 = data.getD (l * LB c + j) 0) :
    HoleAbs (c := c) data' tags' Ms line M := by
  intro x
  rw [h x]
  obtain ⟨l, t, j, hl, hj, rfl⟩ := coords hL x
  rw [mul_add_div_of_lt _ hj, gsplit_mod _ _ _ hl]
  split
  · rfl
  · next hne => rw [absMem_coords _ _ _ t hl hj, absMem_coords _ _ _ t hl hj, ht l hne, hd l j hne hj]

theorem Coherent.of_other (h : CohOther (c := c) data tags Ms line)
    (hl : (T tags line).2 = false → ∀ j, j < LB c →
      data.getD (line * LB c + j) 0 = Ms ((line + 2 ^ c.linebits * (T tags line).1) * LB c + j)) :
    Coherent c data tags Ms := fun l hl' hc j hj => by
  by_cases hne : l = line
  · subst hne; exact hl hc j hj
  · exact h l hl' hne hc j hj

/-- A line that agrees with the backing memory is as good as absent: the abstract memory with a hole at it is the
    abstract memory (so its tag may be replaced, and a completely refilled line closes the hole). -/
theorem holeAbs_iff (hL : 0 < LB c) (hline : line < 2 ^ c.linebits)
    (hagree : ∀ j, j < LB c → data.getD (line * LB c + j) 0 = Ms ((line + 2 ^ c.linebits * (T tags line).1) * LB c + j)) :
    HoleAbs (c := c) data tags Ms line M ↔ M = absMem c data tags Ms := by
  have key : ∀ x, (if x / LB c % 2 ^ c.linebits = line then Ms x else absMem c data tags Ms x) = absMem c data tags Ms x := by
    intro x
    obtain ⟨l, t, j, hl, hj, rfl⟩ := coords hL x
    rw [mul_add_div_of_lt _ hj, gsplit_mod _ _ _ hl]
    split
    · next h =>
      subst h
      rw [absMem_coords _ _ _ t hl hj]
      split
      · next ht => rw [← ht, hagree j hj]
      · rfl
    · rfl
  exact ⟨fun h => funext fun x => (h x).trans (key x), fun h x => by rw [key x, h]⟩

/-- Replacing the tag of such a line leaves a hole in its place. -/
theorem retag (hL : 0 < LB c) (hline : line < 2 ^ c.linebits) (hcoh : Coherent c data tags Ms)
    (hagree : ∀ j, j < LB c → data.getD (line * LB c + j) 0 = Ms ((line + 2 ^ c.linebits * (T tags line).1) * LB c + j))
    (v : Nat × Bool) :
    HoleAbs (c := c) data (tags.set line v) Ms line (absMem c data tags Ms) ∧ CohOther (c := c) data (tags.set line v) Ms line :=
  ⟨((holeAbs_iff hL hline hagree).mpr rfl).congr hL (fun _ h => T_set_ne _ _ h) (fun _ _ _ _ => rfl),
   (hcoh.other _).congr (fun _ h => T_set_ne _ _ h) (fun _ _ _ _ => rfl)⟩

end

theorem hit_read {NG : Nat} (g : Geo c NG) (data : List Byte) (tags : List (Nat × Bool)) (Ms : Mem) (a k : Nat)
    (ha : gline c a < NG) (hk : k < c.nbm) (hhit : (T tags (adrLine c a)).1 = adrTag c a) :
    (window (readLanes data (adrLine c a) (LB c)) 0 (chunk c (adrOffset c a) * c.nbm) c.nbm).getD k 0 =
      absMem c data tags Ms (fmap c a * c.nbm + k) := by
  have hlt : chunk c (adrOffset c a) * c.nbm + k < LB c := by have := chunk_window g a; omega
  rw [fmap_base g a ha, Nat.add_assoc, absMem_coords _ _ _ _ (adrLine_lt a) hlt, if_pos hhit, window_getD _ _ _ _ _ hk]
  exact readLanes_at data _ _ hlt

theorem wf_set_tag {NG : Nat} (g : Geo c NG) (data : List Byte) (tags : List (Nat × Bool)) (hwf : WF c NG data tags)
    (a : Nat) (ha : gline c a < NG) (d : Bool) :
    WF c NG data (tags.set (adrLine c a) (adrTag c a, d)) := by
  refine ⟨by simp [hwf.1], hwf.2.1, ?_⟩
  intro l hl
  by_cases h : l = adrLine c a
  · subst h; rw [T_set_self _ _ (by rw [hwf.1]; exact hl), gnum g a ha]; exact ha
  · rw [T_set_ne _ _ h]; exact hwf.2.2 l hl

theorem wf_data (NG : Nat) (data data' : List Byte) (tags : List (Nat × Bool)) (hwf : WF c NG data tags)
    (hlen : data'.length = data.length) : WF c NG data' tags :=
  ⟨hwf.1, by rw [hlen]; exact hwf.2.1, hwf.2.2⟩

variable (c)

theorem toSlave_active (s : CacheState) (r : Req) :
    (toSlave c s r).active = (s.fsm == .evict || s.fsm == .refill) := by
  simp [toSlave, Req.active]

theorem word_block (word : Nat) (hw : word < 2 ^ c.wordbits) : word * c.nbs + c.nbs ≤ LB c := by
  calc word * c.nbs + c.nbs = (word + 1) * c.nbs := by ring
    _ ≤ 2 ^ c.wordbits * c.nbs := Nat.mul_le_mul_right _ hw
    _ = LB c := Nat.mul_comm _ _

variable {c}

/-- No truncation of the slave address: it is `word + 2^wordbits · G'` for the global line
    `G' = line + 2^linebits · tag_do.tag`. -/
theorem slave_adr {NG : Nat} (g : Geo c NG) (s : CacheState) (r : Req) (hw : s.word < 2 ^ c.wordbits)
    (hl : s.lineReg = adrLine c r.adr)
    (hG : adrLine c r.adr + 2 ^ c.linebits * (T s.tags (adrLine c r.adr)).1 < NG) :
    (toSlave c s r).adr * c.nbs =
      (adrLine c r.adr + 2 ^ c.linebits * (T s.tags (adrLine c r.adr)).1) * LB c + s.word * c.nbs := by
  have hadr : (toSlave c s r).adr =
      (s.word % 2 ^ c.wordbits + 2 ^ c.wordbits * (adrLine c r.adr + 2 ^ c.linebits * (T s.tags s.lineReg).1)) % 2 ^ c.saw := rfl
  rw [hadr, hl, Nat.mod_eq_of_lt hw]
  generalize adrLine c r.adr + 2 ^ c.linebits * (T s.tags (adrLine c r.adr)).1 = G at *
  have hlt : s.word + 2 ^ c.wordbits * G < 2 ^ c.saw := by
    calc s.word + 2 ^ c.wordbits * G < 2 ^ c.wordbits + 2 ^ c.wordbits * G := by omega
      _ = (G + 1) * 2 ^ c.wordbits := by ring
      _ ≤ NG * 2 ^ c.wordbits := Nat.mul_le_mul_right _ hG
      _ ≤ 2 ^ c.saw := g.saw
  rw [Nat.mod_eq_of_lt hlt]
  show _ = G * (c.nbs * 2 ^ c.wordbits) + s.word * c.nbs
  ring

theorem slave_dat (s : CacheState) (r : Req) (hw : s.word < 2 ^ c.wordbits) (d : Nat) (hd : d < c.nbs) :
    (toSlave c s r).dat.getD d 0 = s.data.getD (s.lineReg * LB c + s.word * c.nbs + d) 0 := by
  show (window (dataDo c s) 0 (s.word * c.nbs) c.nbs).getD d 0 = _
  rw [window_getD _ _ _ _ _ hd]
  have := word_block c s.word hw
  show (readLanes s.data s.lineReg (LB c)).getD _ 0 = _
  rw [readLanes_at _ _ _ (by omega), Nat.add_assoc]

section Over
variable {ω τ : Type} (sl : Slave ω τ) (InvS : τ → Option Req → Mem → Prop) (NG : Nat)
variable (c)

/-- The master holds `r` and the registered address fields follow it. -/
def Held (s : CacheState) (r : Req) : Prop :=
  r.active = true ∧ gline c r.adr < NG ∧ s.lineReg = adrLine c r.adr ∧ s.offR = adrOffset c r.adr

/-- Refinement relation, by FSM state.  The last clause of EVICT says that the first `word` slave words of the dirty line
    are already in the backing memory, that of REFILL that the first `word` slave words of the line have already been
    fetched. -/
def Inv (st : CacheState × τ) (p : Option Req) (M : Mem) : Prop :=
  WF c NG st.1.data st.1.tags ∧ ∃ Ms ps, InvS st.2 ps Ms ∧
  match st.1.fsm with
  | .idle => p = none ∧ ps = none ∧ M = absMem c st.1.data st.1.tags Ms ∧ Coherent c st.1.data st.1.tags Ms
  | .testHit => ∃ r, p = some r ∧ Held c NG st.1 r ∧ ps = none ∧
      M = absMem c st.1.data st.1.tags Ms ∧ Coherent c st.1.data st.1.tags Ms
  | .evict => ∃ r, p = some r ∧ Held c NG st.1 r ∧ (∀ r', ps = some r' → toSlave c st.1 r = r') ∧
      st.1.word < 2 ^ c.wordbits ∧ (T st.1.tags (adrLine c r.adr)).2 = true ∧
      M = absMem c st.1.data st.1.tags Ms ∧ Coherent c st.1.data st.1.tags Ms ∧
      ∀ j, j < st.1.word * c.nbs →
        Ms ((adrLine c r.adr + 2 ^ c.linebits * (T st.1.tags (adrLine c r.adr)).1) * LB c + j) =
          st.1.data.getD (adrLine c r.adr * LB c + j) 0
  | .refill => ∃ r, p = some r ∧ Held c NG st.1 r ∧ (∀ r', ps = some r' → toSlave c st.1 r = r') ∧
      st.1.word < 2 ^ c.wordbits ∧ T st.1.tags (adrLine c r.adr) = (adrTag c r.adr, false) ∧
      HoleAbs (c := c) st.1.data st.1.tags Ms (adrLine c r.adr) M ∧
      CohOther (c := c) st.1.data st.1.tags Ms (adrLine c r.adr) ∧
      ∀ j, j < st.1.word * c.nbs → st.1.data.getD (adrLine c r.adr * LB c + j) 0 = Ms (gline c r.adr * LB c + j)

variable {c}

section Intro
variable {InvS NG}
variable {s : CacheState} {t : τ} {M Ms : Mem} {ps : Option Req} {r : Req}

theorem Inv.mk_idle (hf : s.fsm = .idle) (hwf : WF c NG s.data s.tags) (hS : InvS t none Ms)
    (hM : M = absMem c s.data s.tags Ms) (hcoh : Coherent c s.data s.tags Ms) : Inv c InvS NG (s, t) none M := by
  refine ⟨hwf, Ms, none, hS, ?_⟩
  rw [show (s, t).1.fsm = CacheFsm.idle from hf]
  exact ⟨rfl, rfl, hM, hcoh⟩

theorem Inv.mk_testHit (hf : s.fsm = .testHit) (hwf : WF c NG s.data s.tags) (hS : InvS t none Ms)
    (hh : Held c NG s r) (hM : M = absMem c s.data s.tags Ms) (hcoh : Coherent c s.data s.tags Ms) :
    Inv c InvS NG (s, t) (some r) M := by
  refine ⟨hwf, Ms, none, hS, ?_⟩
  rw [show (s, t).1.fsm = CacheFsm.testHit from hf]
  exact ⟨r, rfl, hh, rfl, hM, hcoh⟩

theorem Inv.mk_evict (hf : s.fsm = .evict) (hwf : WF c NG s.data s.tags) (hS : InvS t ps Ms)
    (hh : Held c NG s r) (hps : ∀ r', ps = some r' → toSlave c s r = r') (hw : s.word < 2 ^ c.wordbits)
    (hd : (T s.tags (adrLine c r.adr)).2 = true) (hM : M = absMem c s.data s.tags Ms)
    (hcoh : Coherent c s.data s.tags Ms)
    (hdone : ∀ j, j < s.word * c.nbs →
        Ms ((adrLine c r.adr + 2 ^ c.linebits * (T s.tags (adrLine c r.adr)).1) * LB c + j) =
          s.data.getD (adrLine c r.adr * LB c + j) 0) :
    Inv c InvS NG (s, t) (some r) M := by
  refine ⟨hwf, Ms, ps, hS, ?_⟩
  rw [show (s, t).1.fsm = CacheFsm.evict from hf]
  exact ⟨r, rfl, hh, hps, hw, hd, hM, hcoh, hdone⟩

theorem Inv.mk_refill (hf : s.fsm = .refill) (hwf : WF c NG s.data s.tags) (hS : InvS t ps Ms)
    (hh : Held c NG s r) (hps : ∀ r', ps = some r' → toSlave c s r = r') (hw : s.word < 2 ^ c.wordbits)
    (ht : T s.tags (adrLine c r.adr) = (adrTag c r.adr, false))
    (hhole : HoleAbs (c := c) s.data s.tags Ms (adrLine c r.adr) M)
    (hoth : CohOther (c := c) s.data s.tags Ms (adrLine c r.adr))
    (hdone : ∀ j, j < s.word * c.nbs → s.data.getD (adrLine c r.adr * LB c + j) 0 = Ms (gline c r.adr * LB c + j)) :
    Inv c InvS NG (s, t) (some r) M := by
  refine ⟨hwf, Ms, ps, hS, ?_⟩
  rw [show (s, t).1.fsm = CacheFsm.refill from hf]
  exact ⟨r, rfl, hh, hps, hw, ht, hhole, hoth, hdone⟩

end Intro

theorem toSlave_congr (s s' : CacheState) (r : Req) (h1 : s'.fsm = s.fsm) (h2 : s'.word = s.word)
    (h3 : s'.lineReg = s.lineReg) (h4 : s'.tags = s.tags) (h5 : s'.data = s.data) : toSlave c s' r = toSlave c s r := by
  simp [toSlave, tagDo, dataDo, h1, h2, h3, h4, h5]

theorem lastWord_iff (s : CacheState) : lastWord c s = true ↔ s.word + 1 = 2 ^ c.wordbits := by
  have := Nat.two_pow_pos c.wordbits
  simp only [lastWord, beq_iff_eq]; omega

theorem word_succ_lt {s : CacheState} (hw : s.word < 2 ^ c.wordbits) (h : lastWord c s = false) :
    s.word + 1 < 2 ^ c.wordbits := by
  have : ¬ s.word + 1 = 2 ^ c.wordbits := by rw [← lastWord_iff s, h]; simp
  omega

/-- `fmap` is the identity unless `reverse`; `hPa`: the master addresses at most `NG` global lines. -/
theorem refines (g : Geo c NG) (P : Req × ω → Prop) (PS : Req × ω → Prop)
    (hP : ∀ s r o, P (r, o) → PS (toSlave c s r, o)) (hPa : ∀ r o, P (r, o) → gline c r.adr < NG)
    (hS : Refines sl id c.nbs PS InvS) :
    Refines ((cache c).over sl) (fmap c) c.nbm P (Inv c InvS NG) := by
  intro st p M i hinv hhold hPi
  obtain ⟨r, o⟩ := i
  obtain ⟨s, t⟩ := st
  obtain ⟨hwf, Ms, ps, hSinv, hfsm⟩ := hinv
  dsimp only at hwf hSinv hfsm hhold
  let sr := toSlave c s r
  let rsp := sl.out t (sr, o)
  have hout : ((cache c).over sl).out (s, t) (r, o) = toMaster c s r rsp := rfl
  have hnext : ((cache c).over sl).next (s, t) (r, o) = (Cache.next c s r rsp, sl.next t (sr, o)) := rfl
  have hga : gline c r.adr < NG := hPa r o hPi
  have hlineLt := adrLine_lt (c := c) r.adr
  have hso := fun hps => hS t ps Ms (sr, o) hSinv hps (hP s r o hPi)
  have hsract : sr.active = (s.fsm == .evict || s.fsm == .refill) := toSlave_active c s r
  have htagset : ∀ d, T (s.tags.set (adrLine c r.adr) (adrTag c r.adr, d)) (adrLine c r.adr) = (adrTag c r.adr, d) := by
    intro d; exact T_set_self _ _ (by rw [hwf.1]; exact hlineLt)
  have hLB := g.LB_pos
  have hfull : ((List.replicate c.nbs true).take c.nbs).length ≤ c.nbs := List.length_take_le _ _
  cases hf : s.fsm with
  | idle =>
    simp only [hf] at hfsm
    obtain ⟨hp, hps, hM, hcoh⟩ := hfsm
    subst hp hps
    obtain ⟨hsa, hSnext⟩ := (hso (by intro r' h; cases h)).inactive (by rw [hsract, hf]; rfl)
    apply StepOk.mk_no_ack (by rw [hout]; simp [toMaster, mack, hf])
    rw [hnext, next_idle c s r rsp hf]
    cases hact : r.active with
    | false => exact Inv.mk_idle rfl hwf hSnext hM hcoh
    | true => exact Inv.mk_testHit rfl hwf hSnext ⟨hact, hga, rfl, rfl⟩ hM hcoh
  | testHit =>
    simp only [hf] at hfsm
    obtain ⟨r0, hp, hheld, hps, hM, hcoh⟩ := hfsm
    have := hhold r0 hp; subst this
    subst hps
    obtain ⟨hact, _, hlr, hor⟩ := hheld
    obtain ⟨hsa, hSnext⟩ := (hso (by intro r' h; cases h)).inactive (by rw [hsract, hf]; rfl)
    have htd := tagDo_eq hlr
    rw [next_testHit c s r rsp hf, htd] at hnext
    cases hh : hit c s r with
    | true =>
      have hhit : (T s.tags (adrLine c r.adr)).1 = adrTag c r.adr := by
        simpa [hit, htd] using hh
      apply StepOk.mk_ack (by rw [hout]; simp [toMaster, mack, hf, hh]) hact
      · intro _ k hk _
        rw [hout]
        show (window (dataDo c s) 0 (chunk c s.offR * c.nbm) c.nbm).getD k 0 = _
        have : dataDo c s = readLanes s.data (adrLine c r.adr) (LB c) := by rw [← hlr]; rfl
        rw [this, hor, hM]
        exact hit_read g s.data s.tags Ms r.adr k hga hk hhit
      · rw [hnext, hh]
        cases hwe : r.we with
        | false =>
          simp only [Bool.and_false, Bool.false_and, Bool.false_eq_true, if_false, if_true]
          exact Inv.mk_idle rfl hwf hSnext hM hcoh
        | true =>
          simp only [hact, Bool.and_self, if_true]
          have hwin := chunk_window g r.adr
          exact Inv.mk_idle rfl (wf_data NG _ _ _ (wf_set_tag g _ _ hwf _ hga true) (by simp)) hSnext
            (by rw [hM, fmap_base g _ hga, ← hhit, ← absMem_write_line hLB hwf hlineLt hwin])
            (.of_other ((hcoh.other _).congr (fun _ h => T_set_ne _ _ h)
                (fun l j h hj => writeLanes_other_line _ _ _ _ _ _ l j hwin h hj))
              (fun h => by rw [htagset true] at h; cases h))
    | false =>
      apply StepOk.mk_no_ack (by rw [hout]; simp [toMaster, mack, hf, hh])
      rw [hnext, hh]
      simp only [hact, Bool.and_false, Bool.false_eq_true, if_false, if_true]
      cases hdirty : (T s.tags (adrLine c r.adr)).2 with
      | true =>
        simp only [Bool.not_true, Bool.false_eq_true, if_false, if_true]
        exact Inv.mk_evict (ps := none) rfl hwf hSnext ⟨hact, hga, rfl, rfl⟩ (by intro r' h; cases h)
          (Nat.two_pow_pos _) hdirty hM hcoh (by intro j hj; simp at hj)
      | false =>
        simp only [Bool.not_false, Bool.false_eq_true, if_false, if_true]
        obtain ⟨hhole, hoth⟩ := retag hLB hlineLt hcoh (hcoh _ hlineLt hdirty) (adrTag c r.adr, false)
        exact Inv.mk_refill (ps := none) rfl (wf_set_tag g _ _ hwf _ hga false) hSnext ⟨hact, hga, rfl, rfl⟩
          (by intro r' h; cases h) (Nat.two_pow_pos _) (htagset false) (by rw [hM]; exact hhole) hoth
          (by intro j hj; simp at hj)
  | evict =>
    simp only [hf] at hfsm
    obtain ⟨r0, hp, hheld, hpsc, hword, hdirty, hM, hcoh, hdone⟩ := hfsm
    have := hhold r0 hp; subst this
    obtain ⟨hact, _, hlr, hor⟩ := hheld
    have hso := hso hpsc
    have hsr : sr.active = true := by rw [hsract, hf]; rfl
    have hG := hwf.2.2 _ hlineLt
    apply StepOk.mk_no_ack (by rw [hout]; simp [toMaster, mack, hf])
    rw [hnext, next_evict c s r rsp hf]
    simp only [hact, if_true]
    cases hsa : rsp.ack with
    | false =>
      have hSnext := hso.no_ack hsa
      simp only [hsr, if_true] at hSnext
      simp only [Bool.false_and, Bool.false_eq_true, if_false]
      exact Inv.mk_evict (ps := some sr) rfl hwf hSnext ⟨hact, hga, rfl, rfl⟩
        (by intro r' h; cases h; exact toSlave_congr _ _ _ hf.symm rfl hlr.symm rfl rfl)
        hword hdirty hM hcoh hdone
    | true =>
      obtain ⟨_, hSnext⟩ := hso.ack hsa
      have hswe : sr.we = true := by simp [sr, toSlave, hf]
      simp only [hswe, if_true, id] at hSnext
      have hwb := word_block c s.word hword
      rw [slave_adr g s r hword hlr hG, show sr.sel = List.replicate c.nbs true from rfl] at hSnext
      have habs := absMem_write_under (data := s.data) (tags := s.tags) (Ms := Ms) hLB hlineLt hwb _ hfull sr.dat
      have hcoh' := hcoh.write_under hlineLt hwb hdirty _ hfull sr.dat
      have hdone' := Mem.copy_word (Mem.ofList s.data) Ms _ _ _ _ _ sr.dat (fullSel_getD c.nbs)
        (fun i hi => by rw [slave_dat s r hword i hi, hlr]; rfl) hdone
      cases hlast : lastWord c s with
      | false =>
        have hnl := word_succ_lt hword hlast
        simp only [Bool.and_false, Bool.false_eq_true, if_false, if_true, Nat.mod_eq_of_lt hnl]
        exact Inv.mk_evict (ps := none) rfl hwf hSnext ⟨hact, hga, rfl, rfl⟩ (by intro r' h; cases h) hnl hdirty
          (by rw [habs]; exact hM) hcoh' (by rw [Nat.add_mul, Nat.one_mul]; exact hdone')
      | true =>
        have hl1 : s.word + 1 = 2 ^ c.wordbits := (lastWord_iff s).mp hlast
        simp only [Bool.and_self, if_true]
        obtain ⟨hhole, hoth⟩ := retag hLB hlineLt hcoh' (fun j hj => (hdone' j (by
          rw [← Nat.add_one_mul, hl1]; show j < 2 ^ c.wordbits * c.nbs; rw [Nat.mul_comm]; exact hj)).symm)
          (adrTag c r.adr, false)
        exact Inv.mk_refill (ps := none) rfl (wf_set_tag g _ _ hwf _ hga false) hSnext ⟨hact, hga, rfl, rfl⟩
          (by intro r' h; cases h) (Nat.two_pow_pos _) (htagset false) (by rw [hM, ← habs]; exact hhole) hoth
          (by intro j hj; simp at hj)
  | refill =>
    simp only [hf] at hfsm
    obtain ⟨r0, hp, hheld, hpsc, hword, htag, hhole, hoth, hdone⟩ := hfsm
    have := hhold r0 hp; subst this
    obtain ⟨hact, _, hlr, hor⟩ := hheld
    have hso := hso hpsc
    have hsr : sr.active = true := by rw [hsract, hf]; rfl
    have hswe : sr.we = false := by simp [sr, toSlave, hf]
    have hG := hwf.2.2 _ hlineLt
    have hGnew : adrLine c r.adr + 2 ^ c.linebits * (T s.tags (adrLine c r.adr)).1 = gline c r.adr := by
      rw [htag]; exact gnum g r.adr hga
    apply StepOk.mk_no_ack (by rw [hout]; simp [toMaster, mack, hf])
    rw [hnext, next_refill c s r rsp hf]
    simp only [hact, if_true]
    cases hsa : rsp.ack with
    | false =>
      have hSnext := hso.no_ack hsa
      simp only [hsr, if_true] at hSnext
      simp only [Bool.false_and, Bool.false_eq_true, if_false]
      exact Inv.mk_refill (ps := some sr) rfl hwf hSnext ⟨hact, hga, rfl, rfl⟩
        (by intro r' h; cases h; exact toSlave_congr _ _ _ hf.symm rfl hlr.symm rfl rfl)
        hword htag hhole hoth hdone
    | true =>
      obtain ⟨hread, hSnext⟩ := hso.ack hsa
      simp only [hswe, Bool.false_eq_true, if_false] at hSnext
      have hr : ∀ k, k < c.nbs → rsp.dat.getD k 0 = Ms (gline c r.adr * LB c + s.word * c.nbs + k) := by
        intro k hk
        have hsel : sr.sel.getD k false = true := by
          show (List.replicate c.nbs true).getD k false = true
          rw [replicate_true_getD]; simpa using hk
        rw [hread hswe k hk hsel]
        show Ms (sr.adr * c.nbs + k) = _
        rw [slave_adr g s r hword hlr hG, hGnew]
      have hwb := word_block c s.word hword
      have hd : ∀ l j, l ≠ adrLine c r.adr → j < LB c →
          (writeLanes s.data (adrLine c r.adr * LB c + s.word * c.nbs) (List.replicate c.nbs true) rsp.dat c.nbs).getD
            (l * LB c + j) 0 = s.data.getD (l * LB c + j) 0 :=
        fun l j h hj => writeLanes_other_line _ _ _ _ _ _ l j hwb h hj
      have hhole' := hhole.congr hLB (fun _ _ => rfl) hd
      have hoth' := hoth.congr (fun _ _ => rfl) hd
      have hdone' : ∀ j, j < s.word * c.nbs + c.nbs →
          (writeLanes s.data (adrLine c r.adr * LB c + s.word * c.nbs) (List.replicate c.nbs true) rsp.dat c.nbs).getD
            (adrLine c r.adr * LB c + j) 0 = Ms (gline c r.adr * LB c + j) := fun j hj => by
        show Mem.ofList _ _ = _
        rw [data_write hwf hlineLt hwb]
        exact Mem.copy_word Ms (Mem.ofList s.data) _ _ _ _ _ _ (fullSel_getD c.nbs) hr hdone j hj
      have hwf' : WF c NG (writeLanes s.data (adrLine c r.adr * LB c + s.word * c.nbs) (List.replicate c.nbs true) rsp.dat c.nbs) s.tags :=
        wf_data NG _ _ _ hwf (by simp)
      simp only [if_true, Bool.true_and]
      cases hlast : lastWord c s with
      | false =>
        have hnl := word_succ_lt hword hlast
        simp only [Bool.false_eq_true, if_false, Nat.mod_eq_of_lt hnl]
        exact Inv.mk_refill (ps := none) rfl hwf' hSnext ⟨hact, hga, rfl, rfl⟩ (by intro r' h; cases h) hnl htag
          hhole' hoth' (by rw [Nat.add_mul, Nat.one_mul]; exact hdone')
      | true =>
        have hl1 : s.word + 1 = 2 ^ c.wordbits := (lastWord_iff s).mp hlast
        simp only [if_true]
        have hall : ∀ j, j < LB c →
            (writeLanes s.data (adrLine c r.adr * LB c + s.word * c.nbs) (List.replicate c.nbs true) rsp.dat c.nbs).getD
              (adrLine c r.adr * LB c + j) 0 =
            Ms ((adrLine c r.adr + 2 ^ c.linebits * (T s.tags (adrLine c r.adr)).1) * LB c + j) := fun j hj => by
          rw [hGnew]; apply hdone'
          rw [← Nat.add_one_mul, hl1]; show j < 2 ^ c.wordbits * c.nbs; rw [Nat.mul_comm]; exact hj
        exact Inv.mk_testHit rfl hwf' hSnext ⟨hact, hga, rfl, rfl⟩ ((holeAbs_iff hLB hlineLt hall).mp hhole')
          (.of_other hoth' fun _ => hall)

end Over

theorem T_replicate (n l : Nat) : T (List.replicate n (0, false)) l = (0, false) := getD_replicate_self _ _ _

/-- The power-up state (tags 0/clean, data 0) is in the relation when the backing memory is 0 on the tag-0 lines
    (the cache has no valid bit: without that hypothesis the first tag-0 read hits on zeros, witness in C07). -/
theorem inv_init {ω τ : Type} (sl : Slave ω τ) (InvS : τ → Option Req → Mem → Prop) (NG : Nat) (g : Geo c NG)
    (M0 : Mem) (hS : InvS sl.init none M0) (hzero : ∀ x, x < 2 ^ c.linebits * LB c → M0 x = 0) :
    Inv c InvS NG ((cache c).over sl).init none M0 := by
  have hfs : ((cache c).init).fsm = .idle := rfl
  refine Inv.mk_idle (s := (cache c).init) (t := sl.init) hfs ?_ hS ?_ ?_
  · refine ⟨by simp [cache, Cache.init, nlines], by simp [cache, Cache.init, nlines], ?_⟩
    intro l hl
    show l + 2 ^ c.linebits * (T (List.replicate (nlines c) (0, false)) l).1 < NG
    rw [T_replicate]; simp only [Nat.mul_zero, Nat.add_zero]
    exact Nat.lt_of_lt_of_le hl g.lines
  · funext x
    show M0 x = absMem c (List.replicate (nlines c * lineBytes c) 0) (List.replicate (nlines c) (0, false)) M0 x
    unfold absMem
    rw [T_replicate, getD_replicate_self]
    simp only
    by_cases h : 0 = x / LB c / 2 ^ c.linebits
    · rw [if_pos h]
      apply hzero
      have h1 : x / LB c < 2 ^ c.linebits := by
        rcases Nat.lt_or_ge (x / LB c) (2 ^ c.linebits) with h2 | h2
        · exact h2
        · have := Nat.div_pos h2 (Nat.two_pow_pos _); omega
      exact (Nat.div_lt_iff_lt_mul g.LB_pos).mp h1
    · rw [if_neg h]
  · intro l hl _ j hj
    show (List.replicate (nlines c * lineBytes c) (0 : Byte)).getD _ 0 =
      M0 ((l + 2 ^ c.linebits * (T (List.replicate (nlines c) (0, false)) l).1) * LB c + j)
    rw [getD_replicate_self, T_replicate]
    simp only [Nat.mul_zero, Nat.add_zero]
    symm; apply hzero
    calc l * LB c + j < l * LB c + LB c := by omega
      _ = (l + 1) * LB c := by ring
      _ ≤ 2 ^ c.linebits * LB c := Nat.mul_le_mul_right _ hl

end Cache
end Litex.WbMem
