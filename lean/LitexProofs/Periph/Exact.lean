import LitexProofs.Periph.Timers
import LitexModel.Periph.Glue
import LitexProofs.Periph.Below
/-
  The counters of C19 beyond single steps.  PWM: single steps for every input; the number of high cycles (`pwmHighs`;
  counted by `below`, `Below.lean`) for every (width, period), every start value and any number of cycles.  Timer: the
  value as a closed formula of the cycle number, and the cycles of the zero event.  `Timer.add_uptime`: the free-running
  counter and its latch.
-/
namespace Litex.Periph
open Litex

/-- Number of cycles of a run in which the PWM register is loaded with 1. -/
def pwmHighs (s : PwmSt) : List PwmIn → Nat
  | [] => 0
  | i :: is => (if (pwmNext s i).pwm then 1 else 0) + pwmHighs (pwmNext s i) is

theorem pwm_off_step (s : PwmSt) (i : PwmIn) (h : i.enable = false) : pwmNext s i = ⟨0, false⟩ := by
  simp [pwmNext, h]

/-- Reset while enabled: the counter is cleared, the output register still follows the old counter (the assignment
    `pwm.eq(enable & (counter < width))` is outside the reset guard). -/
theorem pwm_reset_step (s : PwmSt) (i : PwmIn) (he : i.enable = true) (hr : i.reset = true) :
    pwmNext s i = ⟨0, decide (s.counter < i.width)⟩ := by
  simp [pwmNext, he, hr]

theorem pwm_counter_in_range (s : PwmSt) (i : PwmIn) :
    (pwmNext s i).counter = 0 ∨ (pwmNext s i).counter < i.period := by
  simp only [pwmNext]
  split
  · split
    · right; assumption
    · left; rfl
  · left; rfl

/-- The hypothesis is met when `period` was lowered at run time, or `period ≤ 1`. -/
theorem pwm_wrap_step (s : PwmSt) (i : PwmIn) (h : i.period ≤ s.counter + 1) : (pwmNext s i).counter = 0 := by
  have : ¬ s.counter + 1 < i.period := by omega
  simp [pwmNext, this]

theorem pwm_zero_width_step (s : PwmSt) (i : PwmIn) (h : i.width = 0) : (pwmNext s i).pwm = false := by
  simp [pwmNext, h]

theorem pwm_deg_period_counter (ins : List PwmIn) (h : ∀ i ∈ ins, i.period ≤ 1) (s : PwmSt) (hs : s.counter = 0) :
    (pwm.runFrom s ins).counter = 0 :=
  Machine.invariant_of_legal pwm (fun _ i => i.period ≤ 1) (fun t => t.counter = 0)
    (fun t i ht hi => pwm_wrap_step t i (by omega)) ins s hs (Machine.LegalFrom.of_forall _ h s)

theorem pwm_zero_width_highs (ins : List PwmIn) (h : ∀ i ∈ ins, i.width = 0) (s : PwmSt) : pwmHighs s ins = 0 := by
  induction ins generalizing s with
  | nil => rfl
  | cons i is ih =>
    simp only [pwmHighs, pwm_zero_width_step s i (h i (by simp)), ih (fun j hj => h j (by simp [hj]))]
    simp

theorem pwm_full_width_highs (P : Nat) (ins : List PwmIn)
    (h : ∀ i ∈ ins, i.enable = true ∧ i.reset = false ∧ i.period = P ∧ P ≤ i.width) (s : PwmSt) (hs : s.counter < P) :
    pwmHighs s ins = ins.length := by
  induction ins generalizing s with
  | nil => rfl
  | cons i is ih =>
    have hi := h i (by simp)
    have hp : (pwmNext s i).pwm = true := by
      have : s.counter < i.width := by omega
      simp [pwmNext, hi.1, this]
    have hc : (pwmNext s i).counter < P := by
      rcases pwm_counter_in_range s i with h0 | h1
      · omega
      · rw [hi.2.2.1] at h1; exact h1
    simp only [pwmHighs, hp, if_true, List.length_cons, ih (fun j hj => h j (by simp [hj])) _ hc]
    omega

def PwmConst (P W : Nat) (ins : List PwmIn) : Prop :=
  ∀ i ∈ ins, i.enable = true ∧ i.reset = false ∧ i.period = P ∧ i.width = W

theorem PwmConst.counter {P W : Nat} {ins : List PwmIn} (h : PwmConst P W ins) (s : PwmSt) (hs : s.counter < P) :
    (pwm.runFrom s ins).counter = (s.counter + ins.length) % P :=
  pwm_counter P ins (fun i hi => ⟨(h i hi).1, (h i hi).2.1, (h i hi).2.2.1⟩) s hs

/-- `c` is the counter left unreduced, so that the recursion of `below` (on `c + 1`) follows the run. -/
theorem pwmHighs_below {P W : Nat} : ∀ {ins : List PwmIn}, PwmConst P W ins → ∀ (s : PwmSt) (c : Nat), 0 < P →
    c % P = s.counter → pwmHighs s ins = below P W c ins.length
  | [], _, _, _, _, _ => rfl
  | i :: is, h, s, c, hP, hc => by
    obtain ⟨he, hr, hp, hw⟩ := h i List.mem_cons_self
    have hn : (pwmNext s i).counter = (c + 1) % P := by
      rw [← Nat.mod_add_mod, hc, succ_mod_eq_ite (hc ▸ Nat.mod_lt c hP)]
      simp [pwmNext, he, hr, hp]
    rw [pwmHighs, List.length_cons, below_succ, pwmHighs_below (fun x hx => h x (List.mem_cons_of_mem _ hx)) _ (c + 1) hP hn.symm, hc]
    simp [pwmNext, he, hw]

theorem pwm_highs_partial (P W : Nat) (ins : List PwmIn) (h : PwmConst P W ins) (s : PwmSt) (hs : s.counter = 0)
    (hlen : ins.length ≤ P) : pwmHighs s ins = min W ins.length := by
  cases ins with
  | nil => exact (Nat.min_zero W).symm
  | cons i is =>
    have hP : 0 < P := Nat.lt_of_lt_of_le (Nat.succ_pos _) hlen
    have := below_window P W (i :: is).length 0 (by rwa [Nat.zero_mod, Nat.zero_add])
    rwa [Nat.zero_mod, Nat.min_zero, Nat.add_zero, Nat.zero_add, ← pwmHighs_below h s 0 hP (by rw [hs, Nat.zero_mod])] at this

theorem pwm_highs_any (P W : Nat) (hP : 1 ≤ P) (ins : List PwmIn) (h : PwmConst P W ins) (s : PwmSt)
    (hs : s.counter = 0) :
    pwmHighs s ins = (ins.length / P) * min W P + min W (ins.length % P) := by
  rw [pwmHighs_below h s 0 hP (by rw [hs, Nat.zero_mod]), below_zero P W _ hP]

theorem pwm_highs_periods (P W : Nat) (hP : 1 ≤ P) (n : Nat) (ins : List PwmIn) (h : PwmConst P W ins) (s : PwmSt)
    (hs : s.counter = 0) (hlen : ins.length = n * P) : pwmHighs s ins = n * min W P := by
  rw [pwmHighs_below h s 0 hP (by rw [hs, Nat.zero_mod]), hlen, below_mul]

/-- Enabled with constant `reload = R`, from any value `v`: the counter goes `v, v-1, …, 0, R, R-1, …, 0, R, …`. -/
theorem timer_value_closed (R : Nat) (ins : List TimerIn) (h : ∀ i ∈ ins, i.en = true ∧ i.reload = R) (s : TimerSt) :
    (timer.runFrom s ins).value =
      if ins.length ≤ s.value then s.value - ins.length else R - (ins.length - s.value - 1) % (R + 1) := by
  induction ins generalizing s with
  | nil => simp
  | cons i is ih =>
    have hi := h i (by simp)
    rw [timer_runFrom_cons, ih (fun j hj => h j (by simp [hj]))]
    simp only [List.length_cons]
    by_cases h0 : s.value = 0
    · have hn : (timerNext s i).value = R := by simp [timerNext, hi.1, hi.2, h0]
      rw [hn, h0]
      have e : is.length + 1 - 0 - 1 = is.length := by omega
      rw [if_neg (show ¬ is.length + 1 ≤ 0 by omega), e]
      by_cases hle : is.length ≤ R
      · rw [if_pos hle, Nat.mod_eq_of_lt (by omega)]
      · rw [if_neg hle]
        have e2 : is.length - R - 1 = is.length - (R + 1) := by omega
        rw [e2, ← Nat.mod_eq_sub_mod (by omega)]
    · have hb : (s.value == 0) = false := by simp [h0]
      have hn : (timerNext s i).value = s.value - 1 := by simp [timerNext, hi.1, hb]
      rw [hn]
      by_cases hle : is.length + 1 ≤ s.value
      · rw [if_pos (show is.length ≤ s.value - 1 by omega), if_pos hle]; omega
      · rw [if_neg (show ¬ is.length ≤ s.value - 1 by omega), if_neg hle]
        have e : is.length - (s.value - 1) - 1 = is.length + 1 - s.value - 1 := by omega
        rw [e]

theorem sub_mod_eq_zero_iff (R m : Nat) : R - m % (R + 1) = 0 ↔ (R + 1) ∣ (m + 1) := by
  have hlt : m % (R + 1) < R + 1 := Nat.mod_lt _ (by omega)
  have e : (m + 1) % (R + 1) = if m % (R + 1) + 1 < R + 1 then m % (R + 1) + 1 else 0 := by
    rw [← Nat.mod_add_mod]; exact succ_mod_eq_ite hlt
  rw [Nat.dvd_iff_mod_eq_zero, e]
  split <;> omega

theorem timer_zero_closed (R : Nat) (ins : List TimerIn) (h : ∀ i ∈ ins, i.en = true ∧ i.reload = R) (s : TimerSt) :
    (timer.runFrom s ins).value = 0 ↔ s.value ≤ ins.length ∧ (R + 1) ∣ (ins.length - s.value) := by
  rw [timer_value_closed R ins h s]
  by_cases hle : ins.length ≤ s.value
  · rw [if_pos hle]
    constructor
    · intro h0
      have : ins.length - s.value = 0 := by omega
      exact ⟨by omega, by rw [this]; exact Nat.dvd_zero _⟩
    · intro h1; omega
  · rw [if_neg hle, sub_mod_eq_zero_iff]
    have e : ins.length - s.value - 1 + 1 = ins.length - s.value := by omega
    rw [e]
    exact ⟨fun hd => ⟨by omega, hd⟩, fun hd => hd.2⟩

theorem timer_status_step (s : TimerSt) (i : TimerIn) :
    (timerNext s i).status = if i.upd then s.value else s.status := rfl

/-- `Timer.add_uptime` (input: `uptime_latch` written in this cycle; output: `uptime_cycles`). -/
def uptimeM : Machine Bool UptimeSt Nat where
  init := { cycles := 0, latched := 0 }
  out s _ := s.latched
  next := uptimeNext

theorem uptime_cycles (ls : List Bool) (s : UptimeSt) (hs : s.cycles < 2 ^ 64) :
    (uptimeM.runFrom s ls).cycles = (s.cycles + ls.length) % 2 ^ 64 :=
  uptimeM.runFrom_countup_zero (Inv := fun k t => t.cycles = (s.cycles + k) % 2 ^ 64) (A := fun _ => True)
    (fun k t _ hk _ => by
      show (t.cycles + 1) % 2 ^ 64 = _
      rw [hk, Nat.mod_add_mod, Nat.add_assoc]) ls s (Nat.mod_eq_of_lt hs).symm (fun _ _ => trivial)

theorem uptime_hold (ls : List Bool) (h : ∀ l ∈ ls, l = false) (s : UptimeSt) :
    (uptimeM.runFrom s ls).latched = s.latched :=
  Machine.invariant_of_legal uptimeM (fun _ l => l = false) (fun t => t.latched = s.latched)
    (fun t l ht hl => by rw [← ht, hl]; rfl) ls s rfl (Machine.LegalFrom.of_forall _ h s)

end Litex.Periph
