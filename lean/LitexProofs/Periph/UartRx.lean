import LitexProofs.Periph.Uart
/-
  `RS232PHYRX`: the accumulator invariant (`AccInv`), the sample points (`rxSampleCycle`), the invariant of the RUN phase
  (`RxInv`, `rx_step`, `rx_run`), the received byte (`rxData`, `rxData_testBit`, `rxData_frame`), start-edge entry
  (`rx_entry`) and the frame as a whole (`rx_frame`).
-/
namespace Litex.Periph
open Litex

/-! ### `Cat(phase, tick).eq(x)` for `x < 2^33` -/

theorem acc_ofNat_phase_lt (x : Nat) : (Acc.ofNat x).phase < M32 := Nat.mod_lt _ (by unfold M32; omega)

theorem acc_ofNat_lin (x : Nat) (hx : x < 2 * M32) :
    (Acc.ofNat x).phase + M32 * (if (Acc.ofNat x).tick then 1 else 0) = x := by
  simp only [Acc.ofNat]
  unfold M32 at *
  have h : x / 4294967296 = 0 ∨ x / 4294967296 = 1 := by omega
  rcases h with h | h <;> simp [h] <;> omega

theorem acc_ofNat_tick (x : Nat) (hx : x < 2 * M32) : (Acc.ofNat x).tick = true ↔ M32 ≤ x := by
  simp only [Acc.ofNat, beq_iff_eq]
  unfold M32 at *
  omega

/-- The accumulator `r` enabled cycles after a preload `x` (RX: `2^31`), the bit counter having consumed `n` ticks:
    the accumulator has added `tw` `r` times and no carry is lost — each carry out of the 32-bit phase is the pending
    `tick` or already counted in `n` (`lin`) — and right after a carry the phase is below `tw` (`tk`), which pins the
    cycle in which the carry happened. -/
structure AccInv (x tw r : Nat) (a : Acc) (n : Nat) : Prop where
  ph  : a.phase < M32
  lin : a.phase + M32 * (n + (if a.tick then 1 else 0)) = x + r * tw
  tk  : a.tick = true → a.phase < tw

/-- One enabled cycle: the counter consumes the tick, the accumulator adds `tw`. -/
theorem AccInv.step {x tw r n : Nat} {a : Acc} (h : AccInv x tw r a n) (htw : tw < M32) :
    AccInv x tw (r + 1) (Acc.ofNat (a.phase + tw)) (n + (if a.tick then 1 else 0)) := by
  have hl := h.lin; have hp := h.ph
  have hx : a.phase + tw < 2 * M32 := by unfold M32 at *; omega
  have hlin := acc_ofNat_lin _ hx
  refine ⟨acc_ofNat_phase_lt _, ?_, fun hc1 => ?_⟩
  · rw [Nat.succ_mul, Nat.mul_add, ← Nat.add_assoc, Nat.add_right_comm, hlin]; omega
  · have := (acc_ofNat_tick _ hx).mp hc1
    rw [hc1, if_pos rfl] at hlin
    omega

/-- Cycle (counted from the first RUN cycle) in which sample `n` (`n = 1` start bit, `2 … 9` data, `10` stop bit) is
    taken: `⌈(n - ½)·2^32 / tw⌉`. -/
def rxSampleCycle (tw n : Nat) : Nat := ((2 * n - 1) * HALF32 + tw - 1) / tw

theorem rxSampleCycle_bounds (tw b : Nat) (h0 : 0 < tw) :
    (2 * b + 1) * M32 ≤ 2 * (rxSampleCycle tw (b + 1) * tw) ∧
    2 * (rxSampleCycle tw (b + 1) * tw) < (2 * b + 1) * M32 + 2 * tw := by
  have e : 2 * (b + 1) - 1 = 2 * b + 1 := by omega
  unfold rxSampleCycle
  rw [e, Nat.mul_comm _ tw]
  have hdm := Nat.div_add_mod ((2 * b + 1) * HALF32 + tw - 1) tw
  have hml := Nat.mod_lt ((2 * b + 1) * HALF32 + tw - 1) h0
  unfold M32 HALF32 at *
  omega

/-- Shift register after the first `n` samples of the line `ln` (`ln k` = synchronised line in RUN cycle `k`). -/
def rxData (ln : Nat → Bool) (tw init : Nat) : Nat → Nat
  | 0 => init
  | n + 1 => rxData ln tw init n / 2 + (if ln (rxSampleCycle tw (n + 1)) then 128 else 0)

theorem rxNext_tick (tw : Nat) (s : RxSt) (p : Bool) (hr : s.run = true) (ht : s.acc.tick = true) :
    rxNext tw s p = { r0 := p, rx := s.r0, rxD := s.rx, run := !(s.count == 9),
                      data := s.data / 2 + (if s.rx then 128 else 0), count := (s.count + 1) % 16,
                      acc := Acc.ofNat (s.acc.phase + tw) } := by
  simp [rxNext, hr, ht, accNext]

theorem rxNext_notick (tw : Nat) (s : RxSt) (p : Bool) (hr : s.run = true) (ht : s.acc.tick = false) :
    rxNext tw s p = { r0 := p, rx := s.r0, rxD := s.rx, run := true, data := s.data, count := s.count,
                      acc := Acc.ofNat (s.acc.phase + tw) } := by
  simp [rxNext, hr, ht, accNext]

/-- Invariant of the receiver `r` cycles into RUN.  `ln k` is the synchronised line (`rx`) in RUN cycle `k`; the first
    synchroniser register is one cycle ahead, so the pad input of RUN cycle `k` is `ln (k + 2)`. -/
structure RxInv (tw : Nat) (ln : Nat → Bool) (init r : Nat) (s : RxSt) : Prop where
  run  : s.run = true
  rx   : s.rx = ln r
  r0   : s.r0 = ln (r + 1)
  acc  : AccInv HALF32 tw r s.acc s.count
  cnt  : s.count ≤ 9
  data : s.data = rxData ln tw init s.count

theorem rx_done_iff (tw : Nat) (ln : Nat → Bool) (init r : Nat) (s : RxSt) (h : RxInv tw ln init r s) :
    rxDone s = true ↔ 10 * M32 ≤ HALF32 + r * tw := by
  have hl := h.acc.lin; have hp := h.acc.ph; have hc := h.cnt
  simp only [rxDone, h.run, Bool.true_and, Bool.and_eq_true, beq_iff_eq]
  generalize r * tw = a at *
  unfold M32 HALF32 at *
  constructor
  · rintro ⟨ht, hc9⟩
    simp only [ht, hc9, if_true] at hl
    omega
  · intro hge
    by_cases ht : s.acc.tick = true
    · simp only [ht, if_true] at hl
      exact ⟨ht, by omega⟩
    · have htf : s.acc.tick = false := by simpa using ht
      simp only [htf] at hl
      simp at hl
      omega

theorem rx_not_done (tw : Nat) (ln : Nat → Bool) (init r : Nat) (s : RxSt) (h : RxInv tw ln init r s)
    (hlt : HALF32 + r * tw < 10 * M32) : rxDone s = false :=
  Bool.eq_false_iff.mpr fun hd => Nat.not_le_of_lt hlt ((rx_done_iff tw ln init r s h).mp hd)

theorem rx_tick_cycle (tw : Nat) (ln : Nat → Bool) (init r : Nat) (s : RxSt) (h : RxInv tw ln init r s)
    (ht : s.acc.tick = true) : r = rxSampleCycle tw (s.count + 1) := by
  have hl := h.acc.lin; have hp := h.acc.tk ht
  simp only [ht, if_true] at hl
  unfold rxSampleCycle
  symm
  have e : (r + 1) * tw = r * tw + tw := Nat.succ_mul r tw
  apply Nat.div_eq_of_lt_le
  · generalize r * tw = a at *
    unfold M32 HALF32 at *
    omega
  · rw [e]
    generalize r * tw = a at *
    unfold M32 HALF32 at *
    omega

theorem rx_step (tw : Nat) (htw : tw < M32) (ln : Nat → Bool) (init r : Nat) (s : RxSt)
    (h : RxInv tw ln init r s) (hnd : rxDone s = false) :
    RxInv tw ln init (r + 1) (rxNext tw s (ln (r + 2))) := by
  have hc := h.cnt
  -- the accumulator part does not depend on whether this cycle ticks
  have hacc := h.acc.step htw
  by_cases ht : s.acc.tick = true
  · have hr := rx_tick_cycle tw ln init r s h ht
    have h9 : s.count ≠ 9 := by
      intro h9; simp [rxDone, h.run, ht, h9] at hnd
    have hb : (s.count == 9) = false := by simp [h9]
    have hcm : (s.count + 1) % 16 = s.count + 1 := by omega
    rw [rxNext_tick tw s _ h.run ht]
    rw [ht, if_pos rfl] at hacc
    exact ⟨by simp [hb], h.r0, rfl, by rw [hcm]; exact hacc,
      by show (s.count + 1) % 16 ≤ 9; rw [hcm]; exact Nat.lt_of_le_of_ne hc h9,
      by show s.data / 2 + _ = rxData ln tw init ((s.count + 1) % 16); rw [hcm, rxData, ← hr, h.data, h.rx]⟩
  · have htf : s.acc.tick = false := by simpa using ht
    rw [rxNext_notick tw s _ h.run htf]
    rw [htf, if_neg (by simp), Nat.add_zero] at hacc
    exact ⟨rfl, h.r0, rfl, hacc, hc, h.data⟩

/-- The bound `… < 10·2^32 + tw` (not `< 10·2^32`) admits the cycle in which `rxDone` holds: `rx_frame` needs the
    invariant there. -/
theorem rx_run (tw : Nat) (htw : tw < M32) (ln : Nat → Bool) (init : Nat) (s0 : RxSt)
    (h0 : RxInv tw ln init 0 s0) (r : Nat) (hr : HALF32 + r * tw < 10 * M32 + tw) :
    RxInv tw ln init r (runFn (uartRx tw) s0 (fun k => ln (k + 2)) r) :=
  runFn_inv (uartRx tw) _ (Inv := RxInv tw ln init) (N := r) h0
    (fun t s' ht h => rx_step tw htw ln init t s' h (rx_not_done tw ln init t s' h (by
      have := Nat.mul_le_mul_right tw ht
      rw [Nat.succ_mul] at this
      omega))) r (Nat.le_refl r)

theorem rxData_lt (ln : Nat → Bool) (tw init : Nat) (hi : init < 256) (n : Nat) : rxData ln tw init n < 256 := by
  induction n with
  | zero => exact hi
  | succ n ih => simp only [rxData]; split <;> omega

/-- The shift register holds the last eight samples, oldest in bit 0. -/
theorem rxData_testBit (ln : Nat → Bool) (tw init : Nat) (hi : init < 256) (n k : Nat) (hk : k < 8)
    (hn : 8 ≤ n + k) : (rxData ln tw init n).testBit k = ln (rxSampleCycle tw (n + k - 7)) := by
  induction n generalizing k with
  | zero => omega
  | succ n ih =>
    simp only [rxData]
    rw [shift_testBit _ (rxData_lt ln tw init hi n) _ k hk]
    by_cases h7 : k = 7
    · subst h7; simp
    · simp only [h7, if_false]
      rw [ih (k + 1) (by omega) (by omega)]
      congr 2; omega

theorem rx_entry (tw : Nat) (s : RxSt) (p : Bool) (hrun : s.run = false) (hrx : s.rx = false) (hd : s.rxD = true) :
    (rxNext tw s p).run = true ∧ (rxNext tw s p).count = 0 ∧ (rxNext tw s p).acc = ⟨HALF32, false⟩ ∧
    (rxNext tw s p).rx = s.r0 ∧ (rxNext tw s p).r0 = p ∧ (rxNext tw s p).data = s.data := by
  simp [rxNext, hrun, hrx, hd, accNext, accLoad, Acc.ofNat, HALF32, M32]

theorem rx_inv_entry (tw : Nat) (ln : Nat → Bool) (s0 : RxSt) (hrun : s0.run = true) (hc : s0.count = 0)
    (hacc : s0.acc = ⟨HALF32, false⟩) (hrx : s0.rx = ln 0) (hr0 : s0.r0 = ln 1) :
    RxInv tw ln s0.data 0 s0 :=
  ⟨hrun, hrx, hr0, ⟨by rw [hacc]; show HALF32 < M32; unfold HALF32 M32; omega, by rw [hacc, hc]; simp, by rw [hacc]; simp⟩,
   by omega, by rw [hc]; rfl⟩

theorem rx_last_cycle (tw : Nat) (h0 : 0 < tw) :
    10 * M32 ≤ HALF32 + rxSampleCycle tw 10 * tw ∧ HALF32 + rxSampleCycle tw 10 * tw < 10 * M32 + tw := by
  have := rxSampleCycle_bounds tw 9 h0
  simp only [Nat.reduceAdd] at this
  unfold M32 HALF32 at *
  omega

theorem rxData_frame (ln : Nat → Bool) (tw init d : Nat) (hi : init < 256) (hd : d < 256)
    (hline : ∀ b, b ≤ 9 → ln (rxSampleCycle tw (b + 1)) = frameBit d b) : rxData ln tw init 9 = d := by
  apply Nat.eq_of_testBit_eq
  intro k
  by_cases hk : k < 8
  · rw [rxData_testBit ln tw init hi 9 k hk (by omega), show 9 + k - 7 = k + 1 + 1 by omega, hline (k + 1) (by omega)]
    simp [frameBit]; omega
  · have p1 : (2 : Nat) ^ 8 ≤ 2 ^ k := Nat.pow_le_pow_right (by omega) (by omega)
    rw [Nat.testBit_lt_two_pow (Nat.lt_of_lt_of_le (rxData_lt ln tw init hi 9) p1),
      Nat.testBit_lt_two_pow (Nat.lt_of_lt_of_le hd p1)]

theorem rx_frame (tw : Nat) (h0 : 0 < tw) (htw : tw < M32) (ln : Nat → Bool) (init : Nat) (s0 : RxSt)
    (hinv : RxInv tw ln init 0 s0) (p : Bool) :
    let st := fun r => runFn (uartRx tw) s0 (fun k => ln (k + 2)) r
    let R := rxSampleCycle tw 10
    rxDone (st R) = true ∧ (st R).rx = ln R ∧ (st R).data = rxData ln tw init 9 ∧
    (rxNext tw (st R) p).run = false ∧ ∀ r, r < R → rxDone (st r) = false := by
  intro st R
  have hl := rx_last_cycle tw h0
  have hR := rx_run tw htw ln init s0 hinv R hl.2
  have hd : rxDone (st R) = true := (rx_done_iff tw ln init R _ hR).mpr hl.1
  have hd' := hd
  simp only [rxDone, Bool.and_eq_true, beq_iff_eq] at hd'
  obtain ⟨⟨_, htick⟩, hc9⟩ := hd'
  refine ⟨hd, hR.rx, by rw [hR.data, hc9], ?_, fun r hr => ?_⟩
  · rw [rxNext_tick tw (st R) _ hR.run htick]; simp [hc9]
  · have hmul : (r + 1) * tw ≤ rxSampleCycle tw 10 * tw := Nat.mul_le_mul_right tw hr
    rw [Nat.succ_mul] at hmul
    exact rx_not_done tw ln init r _ (rx_run tw htw ln init s0 hinv r (by omega)) (by omega)

end Litex.Periph
