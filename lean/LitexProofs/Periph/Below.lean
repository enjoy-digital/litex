/-
  `below P W c n`: among `n` consecutive values `c, c+1, …` of a free-running counter, how many are below `W` modulo `P`.
  The cycles in which a PWM output is high (`W = width`, `Exact.lean`) and the cycles in which the auto-flush logic of the
  UART pops a character (`flush_count = 0`, i.e. `W = 1`, `Glue2.lean`) are both counted by it.  Core Lean only.
-/
namespace Litex.Periph

def below (P W c : Nat) : Nat → Nat
  | 0 => 0
  | n + 1 => (if c % P < W then 1 else 0) + below P W (c + 1) n

theorem below_succ (P W c n : Nat) :
    below P W c (n + 1) = (if c % P < W then 1 else 0) + below P W (c + 1) n := rfl

theorem below_add (P W : Nat) : ∀ (a c b : Nat), below P W c (a + b) = below P W c a + below P W (c + a) b
  | 0, c, b => by rw [Nat.zero_add, below, Nat.zero_add, Nat.add_zero]
  | a + 1, c, b => by
    rw [Nat.add_right_comm, below, below, below_add P W a (c + 1) b, Nat.add_assoc c 1 a, Nat.add_comm 1 a, Nat.add_assoc]

theorem min_succ_step (W a : Nat) : (if a < W then 1 else 0) + min W a = min W (a + 1) := by split <;> omega

/-- No wrap inside the window: the values below `W` are an initial piece. -/
theorem below_window (P W : Nat) : ∀ (n c : Nat), c % P + n ≤ P → below P W c n + min W (c % P) = min W (c % P + n)
  | 0, _, _ => by rw [below, Nat.zero_add, Nat.add_zero]
  | n + 1, c, h => by
    rw [below, Nat.add_right_comm, min_succ_step, Nat.add_comm, Nat.add_left_comm, Nat.add_comm n]
    cases n with
    | zero => rw [below, Nat.zero_add]
    | succ n =>
      have e : (c + 1) % P = c % P + 1 := by rw [← Nat.mod_add_mod, Nat.mod_eq_of_lt (by omega)]
      rw [← e]
      exact below_window P W (n + 1) (c + 1) (by omega)

/-- Shifting the window by one drops the first value and appends the one `P` later, which is the same modulo `P`. -/
theorem below_period_shift (P W c : Nat) : below P W (c + 1) P = below P W c P := by
  cases P with
  | zero => rfl
  | succ p =>
    rw [below_add (p + 1) W p (c + 1) 1, Nat.add_comm p 1, below_add (1 + p) W 1 c p]
    simp only [below, Nat.add_zero]
    rw [Nat.add_assoc, Nat.add_mod_right, Nat.add_comm]

theorem below_period (P W : Nat) : ∀ c, below P W c P = min W P
  | 0 => by simpa using below_window P W P 0 (by simp)
  | c + 1 => by rw [below_period_shift, below_period P W c]

theorem below_mul (P W c : Nat) : ∀ n, below P W c (n * P) = n * min W P
  | 0 => by rw [Nat.zero_mul, Nat.zero_mul, below]
  | n + 1 => by rw [Nat.succ_mul, below_add, below_mul P W c n, below_period, Nat.succ_mul]

theorem below_zero (P W k : Nat) (hP : 0 < P) : below P W 0 k = (k / P) * min W P + min W (k % P) := by
  have h := below_window P W (k % P) (k / P * P)
    (by rw [Nat.mul_mod_left, Nat.zero_add]; exact Nat.le_of_lt (Nat.mod_lt _ hP))
  rw [Nat.mul_mod_left, Nat.min_zero, Nat.add_zero, Nat.zero_add] at h
  conv => lhs; rw [← Nat.div_add_mod' k P]
  rw [below_add, below_mul, Nat.zero_add, h]

theorem exists_add_mod_eq_zero (P c : Nat) (hP : 0 < P) : ∃ j, j < P ∧ (c + j) % P = 0 := by
  refine ⟨(P - c % P) % P, Nat.mod_lt _ hP, ?_⟩
  have hr := Nat.mod_lt c hP
  rw [Nat.add_mod, Nat.mod_mod]
  rcases Nat.eq_zero_or_pos (c % P) with h0 | h0
  · rw [h0, Nat.sub_zero, Nat.mod_self, Nat.zero_add, Nat.zero_mod]
  · rw [Nat.mod_eq_of_lt (Nat.sub_lt hP h0), Nat.add_sub_cancel' (Nat.le_of_lt hr), Nat.mod_self]

end Litex.Periph
