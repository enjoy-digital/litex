import LitexModel.Periph.Glue2
import LitexProofs.Periph.UartTop
import LitexProofs.Periph.Below
import LitexProofs.WaitTimer
import LitexProofs.Lists
/-
  C19 — lemmas for the UART glue of `LitexModel/Periph/Glue2.lean`: `UART.add_auto_tx_flush` (transparent while
  `source.ready` comes often enough; the drop rate with a silent PHY; a dead PHY; every character delivered once or
  flushed) and `UARTCrossover` (no loss in both directions).  (`misc.py`'s helpers: `Misc.lean`.)
-/
namespace Litex.Periph
open Litex Litex.Stream

/-- `source.ready` arrives often enough: before every cycle of the history the number of consecutive cycles without
    `source.ready` (`n` at the start, then `WaitTimer.streakStep n (!rdy)`) is below the timeout `T`; the timer count is
    `T - n` throughout. -/
def rdyWithin (T : Nat) : Nat → List UartTopIn → Bool
  | _, [] => true
  | n, i :: is => decide (n < T) && rdyWithin T (if i.srcRdy then 0 else n + 1) is

theorem flush_transparent_from (dtx drx : Nat) (rxWe : Bool) (T k : Nat) (ins : List UartTopIn) (s : UartFlushSt) (n : Nat)
    (hc : s.cnt = T - n) (h : rdyWithin T n ins = true) :
    ((uartFlush dtx drx rxWe T k).runFrom s ins).top = (uartTopM dtx drx rxWe).runFrom s.top ins ∧
    (uartFlush dtx drx rxWe T k).traceFrom s ins = (uartTopM dtx drx rxWe).traceFrom s.top ins := by
  induction ins generalizing s n with
  | nil => exact ⟨rfl, rfl⟩
  | cons i is ih =>
    simp only [rdyWithin, Bool.and_eq_true, decide_eq_true_eq] at h
    obtain ⟨hn, hrest⟩ := h
    have hpop : flushPop s i.srcRdy = i.srcRdy := by
      rw [flushPop, WaitTimer.done_eq, decide_eq_false (by omega : ¬ s.cnt = 0)]; rfl
    have htop : ((uartFlush dtx drx rxWe T k).next s i).top = (uartTopM dtx drx rxWe).next s.top i := by
      show uartTopNext dtx drx rxWe s.top { i with srcRdy := flushPop s i.srcRdy } = uartTopNext dtx drx rxWe s.top i
      rw [hpop]
    have hcnt : ((uartFlush dtx drx rxWe T k).next s i).cnt = T - (if i.srcRdy then 0 else n + 1) := by
      show WaitTimer.next T s.cnt (!i.srcRdy) = _
      rw [hc, WaitTimer.next_sub]
      cases i.srcRdy <;> rfl
    have := ih ((uartFlush dtx drx rxWe T k).next s i) _ hcnt hrest
    simp only [Machine.runFrom, Machine.traceFrom]
    rw [this.1, this.2, htop]
    exact ⟨rfl, rfl⟩

/-- A cycle in which the PHY is not ready and software does not write. -/
def Quiet (i : UartTopIn) : Prop := i.srcRdy = false ∧ i.re = false

/-- The buffered FIFO is settled: a queued character implies a loaded output register (true one cycle after any cycle
    without an accepted write). -/
def FbSettled (t : FBState Nat) : Prop := t.q ≠ [] → t.readable = true

theorem fb_quiet (d : Nat) (t : FBState Nat) (tok : Tok Nat) (r : Bool) (h : FbSettled t) :
    fbInflight ((syncFifoBuffered d zTokN).next t false tok r) = (fbInflight t).drop (if r then 1 else 0) ∧
    FbSettled ((syncFifoBuffered d zTokN).next t false tok r) := by
  obtain ⟨q, rd, dout⟩ := t
  cases q with
  | nil => cases rd <;> cases r <;> simp [syncFifoBuffered, fbInflight, FbSettled]
  | cons x xs =>
    obtain rfl : rd = true := h (by simp)
    cases r <;> simp [syncFifoBuffered, fbInflight, FbSettled]

theorem flush_quiet_step (dtx drx : Nat) (rxWe : Bool) (T k : Nat) (s : UartFlushSt) (i : UartTopIn)
    (hq : Quiet i) (hc : s.cnt = 0) (hs : FbSettled s.top.tx) :
    let s' := (uartFlush dtx drx rxWe T k).next s i
    s'.cnt = 0 ∧ s'.fc = (s.fc + 1) % 2 ^ k ∧ FbSettled s'.top.tx ∧
    fbInflight s'.top.tx = (fbInflight s.top.tx).drop (if s.fc = 0 then 1 else 0) := by
  obtain ⟨hr, hre⟩ := hq
  have hcnt : WaitTimer.next T s.cnt (!i.srcRdy) = 0 := by rw [hr, Bool.not_false, WaitTimer.next_true, hc]
  have htx : ((uartFlush dtx drx rxWe T k).next s i).top.tx =
      (syncFifoBuffered dtx zTokN).next s.top.tx false (tokN i.r) (s.fc == 0) := by
    show (syncFifoBuffered dtx zTokN).next s.top.tx i.re (tokN i.r) (flushPop s i.srcRdy) = _
    rw [hre, hr, flushPop, hc]; rfl
  obtain ⟨h1, h2⟩ := fb_quiet dtx s.top.tx (tokN i.r) (s.fc == 0) hs
  refine ⟨hcnt, rfl, by rw [htx]; exact h2, ?_⟩
  rw [htx, h1]
  simp only [beq_iff_eq]

/-- `c` is `flush_count` left unreduced, so that the recursion of `below` (on `c + 1`) follows the run. -/
theorem flush_quiet_run (dtx drx : Nat) (rxWe : Bool) (T k : Nat) : ∀ (ins : List UartTopIn) (s : UartFlushSt) (c : Nat),
    (∀ i ∈ ins, Quiet i) → s.cnt = 0 → FbSettled s.top.tx → c % 2 ^ k = s.fc →
    let s' := (uartFlush dtx drx rxWe T k).runFrom s ins
    s'.cnt = 0 ∧ FbSettled s'.top.tx ∧
    fbInflight s'.top.tx = (fbInflight s.top.tx).drop (below (2 ^ k) 1 c ins.length)
  | [], _, _, _, hc, hs, _ => ⟨hc, hs, rfl⟩
  | i :: is, s, c, hq, hc, hs, hf => by
    obtain ⟨h1, h2, h3, h4⟩ := flush_quiet_step dtx drx rxWe T k s i (hq i List.mem_cons_self) hc hs
    obtain ⟨a, b, e⟩ := flush_quiet_run dtx drx rxWe T k is _ (c + 1) (fun j hj => hq j (List.mem_cons_of_mem _ hj)) h1 h3
      (by rw [h2, ← hf, Nat.mod_add_mod])
    refine ⟨a, b, e.trans ?_⟩
    rw [h4, List.drop_drop, List.length_cons, below_succ, hf]
    simp only [Nat.lt_one_iff]

theorem fb_nowrite (d : Nat) (t : FBState Nat) (tok : Tok Nat) (r : Bool) :
    ((syncFifoBuffered d zTokN).next t false tok r).q.length ≤ t.q.length ∧
    FbSettled ((syncFifoBuffered d zTokN).next t false tok r) := by
  simp only [syncFifoBuffered, FbSettled, Bool.false_and, Bool.false_eq_true, if_false]
  -- either the inner FIFO is read, which loads the output register, or a queued character means it was loaded and kept
  by_cases hf : (!t.q.isEmpty && (!t.readable || r)) = true
  · simp only [hf, if_true]
    exact ⟨by rw [List.length_tail]; omega, fun _ => trivial⟩
  · simp only [hf]
    refine ⟨Nat.le_refl _, fun hq => ?_⟩
    cases hr : t.readable <;> cases r <;> simp_all

theorem flush_quiet_any (dtx drx : Nat) (rxWe : Bool) (T k : Nat) (ins : List UartTopIn) (s : UartFlushSt)
    (hq : ∀ i ∈ ins, Quiet i) :
    let s' := (uartFlush dtx drx rxWe T k).runFrom s ins
    s'.cnt = s.cnt - ins.length ∧ s'.top.tx.q.length ≤ s.top.tx.q.length ∧
    (ins ≠ [] → FbSettled s'.top.tx ∧ s'.fc < 2 ^ k) := by
  have := (uartFlush dtx drx rxWe T k).runFrom_countup_zero (A := Quiet)
    (Inv := fun n t => t.cnt = s.cnt - n ∧ t.top.tx.q.length ≤ s.top.tx.q.length ∧
      (n ≠ 0 → FbSettled t.top.tx ∧ t.fc < 2 ^ k))
    (fun n t i ⟨h1, h2, _⟩ ⟨hr, hre⟩ => by
      -- no write in this cycle: the queue does not grow and the FIFO is settled afterwards
      have hfb := fb_nowrite dtx t.top.tx (tokN i.r) (flushPop t i.srcRdy)
      rw [show (syncFifoBuffered dtx zTokN).next t.top.tx false (tokN i.r) (flushPop t i.srcRdy) =
        ((uartFlush dtx drx rxWe T k).next t i).top.tx from by
          show _ = (syncFifoBuffered dtx zTokN).next t.top.tx i.re (tokN i.r) (flushPop t i.srcRdy); rw [hre]] at hfb
      refine ⟨?_, Nat.le_trans hfb.1 h2, fun _ => ⟨hfb.2, Nat.mod_lt _ (Nat.two_pow_pos k)⟩⟩
      show WaitTimer.next T t.cnt (!i.srcRdy) = _
      rw [hr, Bool.not_false, WaitTimer.next_true, h1, Nat.sub_sub]) ins s ⟨rfl, Nat.le_refl _, fun h => absurd rfl h⟩ hq
  exact ⟨this.1, this.2.1, fun hne => this.2.2 (mt List.length_eq_zero_iff.mp hne)⟩

theorem fbInflight_length_le (t : FBState Nat) : (fbInflight t).length ≤ t.q.length + 1 := by
  unfold fbInflight; cases t.readable <;> simp

theorem fbInflight_nil (t : FBState Nat) (h : fbInflight t = []) : t.q = [] ∧ t.readable = false := by
  unfold fbInflight at h
  cases hr : t.readable <;> simp [hr] at h ⊢
  exact h

theorem flush_drains (dtx drx : Nat) (rxWe : Bool) (T k : Nat) (s : UartFlushSt) (ins : List UartTopIn)
    (hq : ∀ i ∈ ins, Quiet i) (hc : s.cnt ≤ T) (hl : s.top.tx.q.length ≤ dtx)
    (hlen : T + 1 + (dtx + 1) * 2 ^ k ≤ ins.length) :
    let s' := (uartFlush dtx drx rxWe T k).runFrom s ins
    fbInflight s'.top.tx = [] ∧ s'.cnt = 0 := by
  obtain ⟨a, b, rfl, hl1⟩ : ∃ a b, ins = a ++ b ∧ a.length = T + 1 :=
    ⟨ins.take (T + 1), ins.drop (T + 1), (List.take_append_drop _ _).symm, by rw [List.length_take]; omega⟩
  rw [List.length_append, hl1] at hlen
  obtain ⟨e, he⟩ : ∃ e, b.length = (dtx + 1) * 2 ^ k + e := ⟨b.length - (dtx + 1) * 2 ^ k, by omega⟩
  -- the timer expires during `a`, leaving the FIFO settled; `b` then holds `dtx + 1` flush periods
  obtain ⟨a1, a2, a3⟩ := flush_quiet_any dtx drx rxWe T k a s (fun i hi => hq i (List.mem_append_left _ hi))
  obtain ⟨a4, a5⟩ := a3 (by intro h; rw [h] at hl1; exact absurd hl1 (by simp))
  obtain ⟨b1, _, b3⟩ := flush_quiet_run dtx drx rxWe T k b _ _ (fun i hi => hq i (List.mem_append_right _ hi))
    (by rw [a1, hl1]; omega) a4 (Nat.mod_eq_of_lt a5)
  rw [he, below_add, below_mul, Nat.min_eq_left (show 1 ≤ 2 ^ k from Nat.two_pow_pos k), Nat.mul_one] at b3
  have hlen1 := fbInflight_length_le ((uartFlush dtx drx rxWe T k).runFrom s a).top.tx
  show fbInflight ((uartFlush dtx drx rxWe T k).runFrom s (a ++ b)).top.tx = [] ∧
    ((uartFlush dtx drx rxWe T k).runFrom s (a ++ b)).cnt = 0
  rw [Machine.runFrom_append]
  exact ⟨by rw [b3]; exact List.drop_eq_nil_of_le (by omega), b1⟩

theorem flush_dead_run (dtx drx : Nat) (rxWe : Bool) (T k : Nat) (s : UartFlushSt) (f : Nat → UartTopIn)
    (hf : ∀ t, (f t).srcRdy = false) (hfc : s.fc < 2 ^ k) (n : Nat) :
    (runFn (uartFlush dtx drx rxWe T k) s f n).cnt = s.cnt - n ∧
    (runFn (uartFlush dtx drx rxWe T k) s f n).fc = (s.fc + n) % 2 ^ k :=
  runFn_inv_all (uartFlush dtx drx rxWe T k) f (Inv := fun n s' => s'.cnt = s.cnt - n ∧ s'.fc = (s.fc + n) % 2 ^ k)
    ⟨rfl, (Nat.mod_eq_of_lt hfc).symm⟩
    (fun n s' ⟨h1, h2⟩ =>
      ⟨by show WaitTimer.next T s'.cnt (!(f n).srcRdy) = _
          rw [h1, hf n, Bool.not_false, WaitTimer.next_true, Nat.sub_sub],
       by show (s'.fc + 1) % 2 ^ k = _
          rw [h2, Nat.mod_add_mod, Nat.add_assoc]⟩) n

/-- A pop of a full queue makes room: the write of that cycle is refused (the queue is full), the pop is not. -/
theorem flush_pop_unfull (dtx drx : Nat) (rxWe : Bool) (T k : Nat) (hd : 0 < dtx) (s : UartFlushSt) (i : UartTopIn)
    (hc : s.cnt = 0) (h0 : s.fc = 0) (hfull : s.top.tx.q.length = dtx) :
    ((uartFlush dtx drx rxWe T k).next s i).top.tx.q.length = dtx - 1 := by
  show ((syncFifoBuffered dtx zTokN).next s.top.tx i.re (tokN i.r) (flushPop s i.srcRdy)).q.length = _
  have hp : flushPop s i.srcRdy = true := by rw [flushPop, hc, h0]; exact Bool.or_true _
  rw [hp]
  revert hfull
  generalize s.top.tx = t
  intro hfull
  obtain ⟨q, rd, dout⟩ := t
  cases q with
  | nil => simp at hfull; omega
  | cons x xs =>
    simp at hfull
    simp [syncFifoBuffered, hfull]; omega

theorem flush_pop_not_full (dtx drx : Nat) (rxWe : Bool) (T k : Nat) (hd : 0 < dtx) (s : UartFlushSt) (i j : UartTopIn)
    (hc : s.cnt = 0) (h0 : s.fc = 0) :
    ((uartFlush dtx drx rxWe T k).out s i).txfull = false ∨
    ((uartFlush dtx drx rxWe T k).out ((uartFlush dtx drx rxWe T k).next s i) j).txfull = false := by
  by_cases hfull : s.top.tx.q.length = dtx
  · refine Or.inr (((uartTop_flags dtx drx _ j).1).trans ?_)
    rw [flush_pop_unfull dtx drx rxWe T k hd s i hc h0 hfull]
    exact beq_eq_false_iff_ne.mpr (by omega)
  · exact Or.inl (((uartTop_flags dtx drx s.top i).1).trans (beq_eq_false_iff_ne.mpr hfull))

/-- Characters accepted from `rxtx` (`re ∧ ¬txfull`). -/
def flWritten (dtx drx : Nat) (rxWe : Bool) (T k : Nat) (s : UartFlushSt) : List UartTopIn → List Nat
  | [] => []
  | i :: is => (if i.re && !(uartTopOut dtx drx s.top i).txfull then [i.r % 256] else []) ++
               flWritten dtx drx rxWe T k (uartFlushNext dtx drx rxWe T k s i) is

/-- Characters handed to the PHY (`source.valid ∧ source.ready`). -/
def flPhy (dtx drx : Nat) (rxWe : Bool) (T k : Nat) (s : UartFlushSt) : List UartTopIn → List Nat
  | [] => []
  | i :: is => (if (uartTopOut dtx drx s.top i).srcV && i.srcRdy then [(uartTopOut dtx drx s.top i).srcD] else []) ++
               flPhy dtx drx rxWe T k (uartFlushNext dtx drx rxWe T k s i) is

/-- Characters popped from the TX FIFO while `source.ready = 0` (flushed). -/
def flFlushed (dtx drx : Nat) (rxWe : Bool) (T k : Nat) (s : UartFlushSt) : List UartTopIn → List Nat
  | [] => []
  | i :: is => (if (uartTopOut dtx drx s.top i).srcV && flushPop s i.srcRdy && !i.srcRdy then
                  [(uartTopOut dtx drx s.top i).srcD] else []) ++
               flFlushed dtx drx rxWe T k (uartFlushNext dtx drx rxWe T k s i) is

/-- The pop log of the TX FIFO: (character, taken by the PHY?) for every cycle with `source.valid ∧ tx_fifo.source.ready`. -/
def flPops (dtx drx : Nat) (rxWe : Bool) (T k : Nat) (s : UartFlushSt) : List UartTopIn → List (Nat × Bool)
  | [] => []
  | i :: is => (if (uartTopOut dtx drx s.top i).srcV && flushPop s i.srcRdy then
                  [((uartTopOut dtx drx s.top i).srcD, i.srcRdy)] else []) ++
               flPops dtx drx rxWe T k (uartFlushNext dtx drx rxWe T k s i) is

theorem flushPop_of_ready (s : UartFlushSt) : flushPop s true = true := by
  unfold flushPop; split <;> simp

theorem flushPop_flush (s : UartFlushSt) (h : flushPop s false = true) : s.cnt = 0 ∧ s.fc = 0 := by
  rw [flushPop, WaitTimer.done_eq] at h
  by_cases hc : s.cnt = 0
  · rw [decide_eq_true hc, if_pos rfl, Bool.false_or, beq_iff_eq] at h
    exact ⟨hc, h⟩
  · rw [decide_eq_false hc] at h
    exact Bool.noConfusion h

theorem flush_pops_run (dtx drx : Nat) (rxWe : Bool) (T k : Nat) (ins : List UartTopIn) (s : UartFlushSt)
    (h : s.top.tx.q.length ≤ dtx) :
    let s' := (uartFlush dtx drx rxWe T k).runFrom s ins
    dataOf (fbInflight s.top.tx) ++ flWritten dtx drx rxWe T k s ins =
      (flPops dtx drx rxWe T k s ins).map (·.1) ++ dataOf (fbInflight s'.top.tx) ∧
    s'.top.tx.q.length ≤ dtx :=
  -- the TX FIFO of the plain `UART`, popped by `flushPop`
  Machine.balance_run (uartFlush dtx drx rxWe T k) (fun s => dataOf (fbInflight s.top.tx)) (fun s => s.top.tx.q.length ≤ dtx)
    _ _ (flWritten dtx drx rxWe T k) (fun s ins => (flPops dtx drx rxWe T k s ins).map (·.1)) (fun _ => rfl)
    (fun _ _ _ => rfl) (fun _ => rfl) (fun _ _ _ => List.map_append)
    (fun s i h => by rw [map_fst_ite]; exact top_tx_step dtx drx s.top i i.re i.r (flushPop s i.srcRdy) h) ins s h

theorem flush_pops_split (dtx drx : Nat) (rxWe : Bool) (T k : Nat) (ins : List UartTopIn) (s : UartFlushSt) :
    flPhy dtx drx rxWe T k s ins = ((flPops dtx drx rxWe T k s ins).filter (·.2)).map (·.1) ∧
    flFlushed dtx drx rxWe T k s ins = ((flPops dtx drx rxWe T k s ins).filter (!·.2)).map (·.1) := by
  induction ins generalizing s with
  | nil => simp [flPhy, flFlushed, flPops]
  | cons i is ih =>
    obtain ⟨e1, e2⟩ := ih (uartFlushNext dtx drx rxWe T k s i)
    simp only [flPhy, flFlushed, flPops, List.filter_append, List.map_append, e1, e2]
    -- this cycle's entry of the pop log is (character, `source.ready`), present iff `source.valid` and the strobe
    cases hr : i.srcRdy
    · -- PHY not ready: no handshake; a pop, if any, is a flush
      cases hp : ((uartTopOut dtx drx s.top i).srcV && flushPop s false) <;> simp [hp]
    · -- PHY ready: the strobe is high whatever the timer says, so the pop is the handshake and nothing is flushed
      cases hv : (uartTopOut dtx drx s.top i).srcV <;> simp [flushPop_of_ready, hv]

/-- Characters written to the main UART's `rxtx` in cycles with `txfull = 0`. -/
def xoWritten (dtx drx : Nat) (rxWe : Bool) (s : XoverSt) : List (CsrIn × CsrIn) → List Nat
  | [] => []
  | i :: is => (if i.1.re && !(xoverOut dtx drx s i.1 i.2).1.txfull then [i.1.r % 256] else []) ++
               xoWritten dtx drx rxWe (xoverNext dtx drx rxWe s i.1 i.2) is

/-- Characters taken from the xover UART's `rxtx` (`rxempty = 0` and the event cleared or `rxtx` read). -/
def xoRead (dtx drx : Nat) (rxWe : Bool) (s : XoverSt) : List (CsrIn × CsrIn) → List Nat
  | [] => []
  | i :: is => (if !(xoverOut dtx drx s i.1 i.2).2.rxempty && (i.2.clr || i.2.we) then [(xoverOut dtx drx s i.1 i.2).2.w]
                else []) ++ xoRead dtx drx rxWe (xoverNext dtx drx rxWe s i.1 i.2) is

theorem xover_step (dtx drx : Nat) (rxWe : Bool) (s : XoverSt) (m x : CsrIn)
    (h1 : s.main.tx.q.length ≤ dtx) (h2 : s.xrx.q.length ≤ xoverRxDepth) :
    let s' := xoverNext dtx drx rxWe s m x
    dataOf (fbInflight s.xrx) ++ dataOf (fbInflight s.main.tx) ++
        (if m.re && !(xoverOut dtx drx s m x).1.txfull then [m.r % 256] else []) =
      (if !(xoverOut dtx drx s m x).2.rxempty && (x.clr || x.we) then [(xoverOut dtx drx s m x).2.w] else []) ++
        (dataOf (fbInflight s'.xrx) ++ dataOf (fbInflight s'.main.tx)) ∧
    s'.main.tx.q.length ≤ dtx ∧ s'.xrx.q.length ≤ xoverRxDepth := by
  intro s'
  -- the main TX FIFO is popped by the xover RX FIFO's `sink.ready`; what it hands over is what that FIFO accepts
  obtain ⟨a1, a2⟩ := top_tx_step dtx drx s.main (xoverMainIn s m) m.re m.r (xoverSinkRdy s) h1
  obtain ⟨b1, b2⟩ := fb_data_step xoverRxDepth s.xrx s.main.tx.readable
    ⟨s.main.tx.dout.data, false, false⟩ (x.clr || x.we) h2
  refine ⟨?_, a2, b2⟩
  show _ = (if !!s.xrx.readable && _ then _ else _) ++ _
  rw [Bool.not_not]
  exact Machine.balance_chain a1 b1

theorem xover_run (dtx drx : Nat) (rxWe : Bool) (ins : List (CsrIn × CsrIn)) (s : XoverSt)
    (h1 : s.main.tx.q.length ≤ dtx) (h2 : s.xrx.q.length ≤ xoverRxDepth) :
    let s' := (uartCrossover dtx drx rxWe).runFrom s ins
    dataOf (fbInflight s.xrx) ++ dataOf (fbInflight s.main.tx) ++ xoWritten dtx drx rxWe s ins =
      xoRead dtx drx rxWe s ins ++ dataOf (fbInflight s'.xrx) ++ dataOf (fbInflight s'.main.tx) ∧
    s'.main.tx.q.length ≤ dtx ∧ s'.xrx.q.length ≤ xoverRxDepth := by
  have h := Machine.balance_run (uartCrossover dtx drx rxWe) (fun s => dataOf (fbInflight s.xrx) ++ dataOf (fbInflight s.main.tx))
    (fun s => s.main.tx.q.length ≤ dtx ∧ s.xrx.q.length ≤ xoverRxDepth) _ _ (xoWritten dtx drx rxWe)
    (xoRead dtx drx rxWe) (fun _ => rfl) (fun _ _ _ => rfl) (fun _ => rfl) (fun _ _ _ => rfl)
    (fun s i h => xover_step dtx drx rxWe s i.1 i.2 h.1 h.2) ins s ⟨h1, h2⟩
  exact ⟨h.1.trans (List.append_assoc _ _ _).symm, h.2⟩

/-! In the direction xover → main the xover TX "FIFO" (`SyncFIFO(depth=1)`) is a `PipeValid` register. -/

def pvInflight (s : PVState Nat) : List (Tok Nat) := if s.valid then [s.tok] else []

/-- The C19 statements speak of `pvInflight`; the C03 lemmas about the same register of `PVState.inflight`. -/
theorem pvInflight_eq (s : PVState Nat) : pvInflight s = s.inflight := rfl

theorem pv_step_inflight (s : PVState Nat) (i : In Nat) :
    pvInflight s ++ (pipeValid zTokN).accNow s i =
      (pipeValid zTokN).delNow s i ++ pvInflight ((pipeValid zTokN).step s i) := by
  rw [pvInflight_eq, pvInflight_eq]
  exact (pipeValid_queue zTokN).balance s i trivial

/-- Characters written to the xover UART's `rxtx` in cycles with its `txfull = 0`. -/
def xoWrittenX (dtx drx : Nat) (rxWe : Bool) (s : XoverSt) : List (CsrIn × CsrIn) → List Nat
  | [] => []
  | i :: is => (if i.2.re && !(xoverOut dtx drx s i.1 i.2).2.txfull then [i.2.r % 256] else []) ++
               xoWrittenX dtx drx rxWe (xoverNext dtx drx rxWe s i.1 i.2) is

/-- Characters software took from the main UART's `rxtx`. -/
def xoReadM (dtx drx : Nat) (rxWe : Bool) (s : XoverSt) : List (CsrIn × CsrIn) → List Nat
  | [] => []
  | i :: is => (if !(xoverOut dtx drx s i.1 i.2).1.rxempty && (i.1.clr || (rxWe && i.1.we)) then
                  [(xoverOut dtx drx s i.1 i.2).1.w] else []) ++
               xoReadM dtx drx rxWe (xoverNext dtx drx rxWe s i.1 i.2) is

/-- The ports of the xover TX register as a `pipeValid`: written by the xover CSR side, popped by the main RX FIFO's
    `sink.ready` (the register's own `sink.ready` depends combinationally on it). -/
def xoPvIn (drx : Nat) (s : XoverSt) (x : CsrIn) : In Nat :=
  { valid := x.re, tok := tokN x.r, ready := s.main.rx.q.length != drx }

theorem xover_step_back (dtx drx : Nat) (rxWe : Bool) (s : XoverSt) (m x : CsrIn)
    (h1 : s.main.rx.q.length ≤ drx) (h3 : s.xtx.tok.data < 256) :
    let s' := xoverNext dtx drx rxWe s m x
    dataOf (fbInflight s.main.rx) ++ dataOf (pvInflight s.xtx) ++
        (if x.re && !(xoverOut dtx drx s m x).2.txfull then [x.r % 256] else []) =
      (if !(xoverOut dtx drx s m x).1.rxempty && (m.clr || (rxWe && m.we)) then [(xoverOut dtx drx s m x).1.w] else []) ++
        (dataOf (fbInflight s'.main.rx) ++ dataOf (pvInflight s'.xtx)) ∧
    s'.main.rx.q.length ≤ drx ∧ s'.xtx.tok.data < 256 := by
  intro s'
  -- the xover TX register is popped by the main RX FIFO's `sink.ready`; what it hands over is what that FIFO accepts
  have a1 := congrArg dataOf (pv_step_inflight s.xtx (xoPvIn drx s x))
  rw [dataOf_append, dataOf_append, Elem.accNow, Elem.delNow, dataOf_ite, dataOf_ite] at a1
  obtain ⟨b1, b2⟩ := top_rx_step dtx drx s.main (xoverMainIn s m) s.xtx.valid s.xtx.tok.data (m.clr || (rxWe && m.we)) h1
  rw [Nat.mod_eq_of_lt h3] at b1
  refine ⟨?_, b2, ?_⟩
  · show _ ++ _ ++ (if x.re && !!_ then _ else _) = _
    rw [Bool.not_not]
    exact Machine.balance_chain a1 b1
  · show ((pipeValid zTokN).step s.xtx (xoPvIn drx s x)).tok.data < 256
    simp only [Elem.step, pipeValid, xoPvIn, tokN]
    split
    · exact Nat.mod_lt _ (by omega)
    · exact h3

theorem xover_run_back (dtx drx : Nat) (rxWe : Bool) (ins : List (CsrIn × CsrIn)) (s : XoverSt)
    (h1 : s.main.rx.q.length ≤ drx) (h3 : s.xtx.tok.data < 256) :
    let s' := (uartCrossover dtx drx rxWe).runFrom s ins
    dataOf (fbInflight s.main.rx) ++ dataOf (pvInflight s.xtx) ++ xoWrittenX dtx drx rxWe s ins =
      xoReadM dtx drx rxWe s ins ++ dataOf (fbInflight s'.main.rx) ++ dataOf (pvInflight s'.xtx) ∧
    s'.main.rx.q.length ≤ drx ∧ s'.xtx.tok.data < 256 := by
  have h := Machine.balance_run (uartCrossover dtx drx rxWe) (fun s => dataOf (fbInflight s.main.rx) ++ dataOf (pvInflight s.xtx))
    (fun s => s.main.rx.q.length ≤ drx ∧ s.xtx.tok.data < 256) _ _ (xoWrittenX dtx drx rxWe)
    (xoReadM dtx drx rxWe) (fun _ => rfl) (fun _ _ _ => rfl) (fun _ => rfl) (fun _ _ _ => rfl)
    (fun s i h => xover_step_back dtx drx rxWe s i.1 i.2 h.1 h.2) ins s ⟨h1, h3⟩
  exact ⟨h.1.trans (List.append_assoc _ _ _).symm, h.2⟩

end Litex.Periph
