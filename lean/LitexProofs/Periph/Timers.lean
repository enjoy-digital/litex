import LitexModel.Periph.Timers
import LitexProofs.WaitTimer
import LitexProofs.Lists
/-
  The counters of C19 (Timer, Watchdog, PWM, timeline), single steps and runs; the watchdog's whole timeout waveform after a feed.
-/
namespace Litex.Periph
open Litex

@[simp] theorem timer_runFrom_nil (s : TimerSt) : timer.runFrom s [] = s := rfl
@[simp] theorem timer_runFrom_cons (s : TimerSt) (i : TimerIn) (is : List TimerIn) :
    timer.runFrom s (i :: is) = timer.runFrom (timerNext s i) is := rfl

theorem timer_disabled_loads (s : TimerSt) (d : TimerIn) (hd : d.en = false) :
    (timerNext s d).value = d.load := by simp [timerNext, hd]

theorem timer_status_hold (ins : List TimerIn) (h : ∀ i ∈ ins, i.upd = false) (s : TimerSt) :
    (timer.runFrom s ins).status = s.status :=
  Machine.invariant_of_legal timer (fun _ i => i.upd = false) (fun t => t.status = s.status)
    (fun t i ht hi => by rw [← ht]; simp [timer, timerNext, hi]) ins s rfl (Machine.LegalFrom.of_forall _ h s)

@[simp] theorem wd_runFrom_nil (d : Nat) (s : WdSt) : (watchdog d).runFrom s [] = s := rfl

theorem wdNext_enabled (d : Nat) (s : WdSt) (i : WdIn) (he : i.enable = true) (hf : i.feed = false) :
    (wdNext d s i).remaining = s.remaining - 1 ∧ (wdNext d s i).execute = (s.remaining == 0) := by
  refine ⟨?_, by simp [wdNext, he, hf]⟩
  simp only [wdNext, he, hf]
  by_cases h0 : s.remaining = 0 <;> simp [h0]

/-- The `wait` input of the reset timer in every cycle of a run. -/
def wdWaits (d : Nat) (s : WdSt) : List WdIn → List Bool
  | [] => []
  | i :: is => wdWait s i :: wdWaits d (wdNext d s i) is

theorem wd_rcount (d : Nat) (ins : List WdIn) (s : WdSt) (k : Nat) (hk : s.rcount = d - k) :
    ((watchdog d).runFrom s ins).rcount = d - WaitTimer.streakFrom k (wdWaits d s ins) :=
  WaitTimer.embedded_runFrom (watchdog d) (cnt := (·.rcount)) (w := wdWait) (ws := wdWaits d) (fun _ => rfl)
    (fun _ _ _ => rfl) (fun _ _ => rfl) ins s k hk

@[simp] theorem pwm_runFrom_nil (s : PwmSt) : pwm.runFrom s [] = s := rfl

theorem pwm_counter (P : Nat) (ins : List PwmIn)
    (h : ∀ i ∈ ins, i.enable = true ∧ i.reset = false ∧ i.period = P) (s : PwmSt) (hs : s.counter < P) :
    (pwm.runFrom s ins).counter = (s.counter + ins.length) % P :=
  pwm.runFrom_countup_zero (Inv := fun k t => t.counter = (s.counter + k) % P)
    (fun k t i hk hi => by
      have hlt : t.counter < P := hk ▸ Nat.mod_lt _ (Nat.lt_of_le_of_lt (Nat.zero_le _) hs)
      show (pwmNext t i).counter = _
      rw [← Nat.add_assoc, ← Nat.mod_add_mod, ← hk, succ_mod_eq_ite hlt]
      simp [pwmNext, hi.1, hi.2.1, hi.2.2]) ins s (Nat.mod_eq_of_lt hs).symm h

theorem timeline_next_running (last c : Nat) (t : Bool) (hl : 1 ≤ last) (h0 : 0 < c) (hc : c ≤ last) :
    timelineNext last c t = if c = last then 0 else c + 1 := by
  have hne : (c != 0) = true := by simp; omega
  have hl0 : (last == 0) = false := by simp; omega
  unfold timelineNext
  simp only [hne, if_true, hl0, Bool.false_eq_true, if_false]
  by_cases hp : isPow2 (last + 1) = true
  · simp only [hp, if_true]
    by_cases he : c = last
    · simp [he]
    · simp only [he, if_false]; exact Nat.mod_eq_of_lt (by omega)
  · simp only [hp, Bool.false_eq_true, if_false]
    by_cases he : c = last <;> simp [he]

theorem timeline_next_idle (last : Nat) (t : Bool) (hl : 1 ≤ last) :
    timelineNext last 0 t = if t then 1 else 0 := by
  have hl0 : (last == 0) = false := by simp; omega
  have hl1 : (0 == last) = false := by simp; omega
  have h1 : 1 % (last + 1) = 1 := Nat.mod_eq_of_lt (by omega)
  unfold timelineNext
  by_cases hp : isPow2 (last + 1) = true
  · cases t <;> simp [hp, hl0, h1]
  · cases t <;> simp [hp, hl1]

theorem timeline_counts (last : Nat) (hl : 1 ≤ last) (ts : List Bool) (c : Nat) (h0 : 0 < c)
    (hlen : c + ts.length ≤ last) : (timelineM last).runFrom c ts = c + ts.length := by
  induction ts generalizing c with
  | nil => rfl
  | cons t ts ih =>
    simp only [List.length_cons] at hlen
    show (timelineM last).runFrom (timelineNext last c t) ts = _
    rw [timeline_next_running last c t hl h0 (by omega)]
    have : ¬ (c = last) := by omega
    simp only [this, if_false]
    rw [ih (c + 1) (by omega) (by omega)]
    simp only [List.length_cons]; omega

/-- State `j` enabled, unfed, reset-mode cycles after a feed with `cycles = C` (no timeout pending at the feed).
    `execute` rises after `C + 1` cycles; from then on the reset timer waits, so `j - (C + 1)` is the length of its
    current `wait` streak. -/
structure WdAfterFeed (d C j : Nat) (t : WdSt) : Prop where
  rem : t.remaining = C - j
  exe : t.execute = decide (C < j)
  rc  : t.rcount = d - (j - (C + 1))

theorem wd_after_feed_step (d C j : Nat) (t : WdSt) (i : WdIn) (h : WdAfterFeed d C j t)
    (he : i.enable = true) (hf : i.feed = false) (hr : i.resetF = true) : WdAfterFeed d C (j + 1) (wdNext d t i) := by
  obtain ⟨h1, h2, h3⟩ := h
  obtain ⟨hn, hx⟩ := wdNext_enabled d t i he hf
  refine ⟨by rw [hn, h1]; omega, ?_, ?_⟩
  · rw [hx, h1, Bool.beq_eq_decide_eq, decide_eq_decide]; omega
  · show WaitTimer.next d t.rcount (wdWait t i) = _
    have hk : WaitTimer.streakStep (j - (C + 1)) (decide (C < j)) = j + 1 - (C + 1) := by
      by_cases hc : C < j <;> simp only [WaitTimer.streakStep, hc, decide_true, decide_false, if_true, Bool.false_eq_true, if_false] <;> omega
    rw [h3, WaitTimer.next_sub, wdWait, he, hr, h2, Bool.true_and, Bool.and_true, hk]

theorem wd_after_feed_run (d C : Nat) (ins : List WdIn)
    (h : ∀ i ∈ ins, i.enable = true ∧ i.feed = false ∧ i.resetF = true) (j : Nat) (t : WdSt)
    (ht : WdAfterFeed d C j t) : WdAfterFeed d C (j + ins.length) ((watchdog d).runFrom t ins) :=
  (watchdog d).runFrom_countup (Inv := WdAfterFeed d C)
    (fun j t i ht hi => wd_after_feed_step d C j t i ht hi.1 hi.2.1 hi.2.2) ins j t ht h

theorem wd_feed_entry (d : Nat) (s : WdSt) (fd : WdIn) (hfd : fd.feed = true) (he : s.execute = false) :
    WdAfterFeed d fd.cycles 0 (wdNext d s fd) := by
  refine ⟨by simp [wdNext, hfd], by simp [wdNext, hfd, he], ?_⟩
  -- no timeout pending, so the reset timer is reloaded
  show WaitTimer.next d s.rcount (fd.enable && s.execute && fd.resetF) = _
  rw [he, Bool.and_false, Bool.false_and, WaitTimer.next_false, Nat.zero_sub, Nat.sub_zero]

end Litex.Periph
