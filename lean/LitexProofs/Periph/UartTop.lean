import LitexModel.Periph.Glue
import LitexProofs.Stream.Basic
/-
  UART top level (CSR side + the two `SyncFIFO(buffered=True)`): the model's two FIFOs are instances of the C03 stream
  element `syncFifoBuffered` (shared model, `LitexModel/Stream/Basic.lean`), so the C03 balance of one cycle
  (`syncFifoBuffered_balance`) applies to every software / PHY schedule.

  One cycle of such a FIFO in terms of the characters at its ports, whatever drives its two strobes (`fb_data_step`; at the
  ports of `UART`: `top_tx_step`, `top_rx_step`), summed over a run by `Machine.balance_run` (`LitexProofs/Machine.lean`): this is what every no-loss statement
  of the UART glue (plain `UART`, auto flush, crossover; `Glue2.lean`) consists of.
-/
namespace Litex.Periph
open Litex Litex.Stream

/-- `uartTopNext`/`uartTopOut` (`LitexModel/Periph/Glue.lean`) packaged as a `Machine`; the driver serves the two
    functions directly, only the statements need the record (likewise `uartSysM`, `uptimeM`). -/
def uartTopM (dtx drx : Nat) (rxWe : Bool) : Machine UartTopIn UartTopSt UartTopOut where
  init := { tx := (syncFifoBuffered dtx zTokN).init, rx := (syncFifoBuffered drx zTokN).init }
  out := uartTopOut dtx drx
  next := uartTopNext dtx drx rxWe

theorem uartTop_flags (dtx drx : Nat) (s : UartTopSt) (i : UartTopIn) :
    let o := uartTopOut dtx drx s i
    o.txfull = (s.tx.q.length == dtx) ∧ o.txempty = !s.tx.readable ∧
    o.rxfull = (s.rx.q.length == drx) ∧ o.rxempty = !s.rx.readable ∧
    o.trigTx = !o.txfull ∧ o.trigRx = !o.rxempty ∧ o.sinkRdy = !o.rxfull ∧ o.srcV = !o.txempty ∧
    o.srcD = s.tx.dout.data ∧ o.w = s.rx.dout.data := by
  simp [uartTopOut, syncFifoBuffered, bne]

/-- Tokens waiting in a buffered FIFO: output register, then queue. -/
def fbInflight (s : FBState Nat) : List (Tok Nat) := (if s.readable then [s.dout] else []) ++ s.q

/-- The C19 statements speak of `fbInflight`; the C03 lemmas about the same FIFO of `FBState.inflight`. -/
theorem fbInflight_eq (s : FBState Nat) : fbInflight s = s.inflight := rfl

theorem fb_step_inflight (depth : Nat) (s : FBState Nat) (i : In Nat) (h : s.q.length ≤ depth) :
    fbInflight s ++ (syncFifoBuffered depth zTokN).accNow s i =
      (syncFifoBuffered depth zTokN).delNow s i ++ fbInflight ((syncFifoBuffered depth zTokN).step s i) ∧
    ((syncFifoBuffered depth zTokN).step s i).q.length ≤ depth := by
  rw [fbInflight_eq, fbInflight_eq]
  exact ⟨syncFifoBuffered_balance depth zTokN s i, syncFifoBuffered_q_le depth zTokN s i h⟩

def dataOf (l : List (Tok Nat)) : List Nat := l.map (·.data)

theorem dataOf_ite (c : Bool) (t : Tok Nat) : dataOf (if c then [t] else []) = if c then [t.data] else [] := by
  cases c <;> rfl

theorem dataOf_append (a b : List (Tok Nat)) : dataOf (a ++ b) = dataOf a ++ dataOf b := List.map_append

/-- One cycle of a buffered FIFO of characters, whatever drives its two ports: what waited, plus the character accepted
    = the character handed over, plus what waits now. -/
theorem fb_data_step (d : Nat) (t : FBState Nat) (v : Bool) (x : Tok Nat) (p : Bool) (h : t.q.length ≤ d) :
    dataOf (fbInflight t) ++ (if v && t.q.length != d then [x.data] else []) =
      (if t.readable && p then [t.dout.data] else []) ++ dataOf (fbInflight ((syncFifoBuffered d zTokN).next t v x p)) ∧
    ((syncFifoBuffered d zTokN).next t v x p).q.length ≤ d := by
  obtain ⟨a1, a2⟩ := fb_step_inflight d t ⟨v, x, p⟩ h
  have a1' := congrArg dataOf a1
  rw [dataOf_append, dataOf_append, Elem.accNow, Elem.delNow, dataOf_ite, dataOf_ite] at a1'
  exact ⟨a1', a2⟩

/-! ### The two FIFOs at the ports of `UART`

    (`uartTopOut` does not look at its input; `re`, `r`, `v`, `d` and the pop strobe `p` are whatever the other side of the
    FIFO does.  `txfull` and `rxempty` are negations of the FIFO's `sink.ready` / `source.valid`.) -/

theorem top_tx_step (dtx drx : Nat) (s : UartTopSt) (j : UartTopIn) (re : Bool) (r : Nat) (p : Bool)
    (h : s.tx.q.length ≤ dtx) :
    dataOf (fbInflight s.tx) ++ (if re && !(uartTopOut dtx drx s j).txfull then [r % 256] else []) =
      (if (uartTopOut dtx drx s j).srcV && p then [(uartTopOut dtx drx s j).srcD] else []) ++
        dataOf (fbInflight ((syncFifoBuffered dtx zTokN).next s.tx re (tokN r) p)) ∧
    ((syncFifoBuffered dtx zTokN).next s.tx re (tokN r) p).q.length ≤ dtx := by
  show _ ++ (if re && !!(s.tx.q.length != dtx) then _ else _) = _ ∧ _
  rw [Bool.not_not]
  exact fb_data_step dtx s.tx re (tokN r) p h

theorem top_rx_step (dtx drx : Nat) (s : UartTopSt) (j : UartTopIn) (v : Bool) (d : Nat) (p : Bool)
    (h : s.rx.q.length ≤ drx) :
    dataOf (fbInflight s.rx) ++ (if v && (uartTopOut dtx drx s j).sinkRdy then [d % 256] else []) =
      (if !(uartTopOut dtx drx s j).rxempty && p then [(uartTopOut dtx drx s j).w] else []) ++
        dataOf (fbInflight ((syncFifoBuffered drx zTokN).next s.rx v (tokN d) p)) ∧
    ((syncFifoBuffered drx zTokN).next s.rx v (tokN d) p).q.length ≤ drx := by
  show _ = (if !!s.rx.readable && p then _ else _) ++ _ ∧ _
  rw [Bool.not_not]
  exact fb_data_step drx s.rx v (tokN d) p h

/-- Bytes software wrote to `rxtx` in cycles with `txfull = 0`. -/
def utWritten (dtx drx : Nat) (rxWe : Bool) (s : UartTopSt) : List UartTopIn → List Nat
  | [] => []
  | i :: is => (if i.re && !(uartTopOut dtx drx s i).txfull then [i.r % 256] else []) ++
               utWritten dtx drx rxWe (uartTopNext dtx drx rxWe s i) is

/-- Bytes handed to the PHY (`source.valid ∧ source.ready`). -/
def utSent (dtx drx : Nat) (rxWe : Bool) (s : UartTopSt) : List UartTopIn → List Nat
  | [] => []
  | i :: is => (if (uartTopOut dtx drx s i).srcV && i.srcRdy then [(uartTopOut dtx drx s i).srcD] else []) ++
               utSent dtx drx rxWe (uartTopNext dtx drx rxWe s i) is

/-- Bytes accepted from the PHY (`sink.valid ∧ sink.ready`, i.e. `rxfull = 0`). -/
def utReceived (dtx drx : Nat) (rxWe : Bool) (s : UartTopSt) : List UartTopIn → List Nat
  | [] => []
  | i :: is => (if i.sinkV && (uartTopOut dtx drx s i).sinkRdy then [i.sinkD % 256] else []) ++
               utReceived dtx drx rxWe (uartTopNext dtx drx rxWe s i) is

/-- Bytes software took from `rxtx` (`rxempty = 0` and the rx event cleared, or a read with `rx_fifo_rx_we`). -/
def utRead (dtx drx : Nat) (rxWe : Bool) (s : UartTopSt) : List UartTopIn → List Nat
  | [] => []
  | i :: is => (if !(uartTopOut dtx drx s i).rxempty && (i.clearRx || (rxWe && i.we)) then [(uartTopOut dtx drx s i).w]
                else []) ++ utRead dtx drx rxWe (uartTopNext dtx drx rxWe s i) is

end Litex.Periph
