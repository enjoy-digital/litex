import LitexModel.Periph.I2c
import LitexProofs.Machine
/-
  I2CMasterMachine: the full cycle `i2cNext` case by case, bus legality of every transition, the rank
  `i2cRank` (FSM steps, i.e. clk2x ticks, back to IDLE) and the measure `i2cMu` (cycles back to IDLE, exact).
-/
namespace Litex.Periph
open Litex

/-! ### A bus write touches only `data` and `ack` -/

@[simp] theorem i2cPoked_fsm (s : I2cSt) (i : I2cIn) : (i2cPoked s i).fsm = s.fsm := by unfold i2cPoked; split <;> rfl
@[simp] theorem i2cPoked_scl (s : I2cSt) (i : I2cIn) : (i2cPoked s i).scl = s.scl := by unfold i2cPoked; split <;> rfl
@[simp] theorem i2cPoked_sda (s : I2cSt) (i : I2cIn) : (i2cPoked s i).sda = s.sda := by unfold i2cPoked; split <;> rfl
@[simp] theorem i2cPoked_bits (s : I2cSt) (i : I2cIn) : (i2cPoked s i).bits = s.bits := by unfold i2cPoked; split <;> rfl
@[simp] theorem i2cPoked_cnt (s : I2cSt) (i : I2cIn) : (i2cPoked s i).cnt = s.cnt := by unfold i2cPoked; split <;> rfl

theorem i2cPoked_of_not_poke (s : I2cSt) {i : I2cIn} (h : i.poke = false) : i2cPoked s i = s := by
  simp only [i2cPoked, h, Bool.false_eq_true, if_false]

def I2cSt.setCnt (s : I2cSt) (x : Nat) : I2cSt := { s with cnt := x }

@[simp] theorem i2c_setCnt_fsm (s : I2cSt) (x : Nat) : (s.setCnt x).fsm = s.fsm := rfl
@[simp] theorem i2c_setCnt_scl (s : I2cSt) (x : Nat) : (s.setCnt x).scl = s.scl := rfl
@[simp] theorem i2c_setCnt_sda (s : I2cSt) (x : Nat) : (s.setCnt x).sda = s.sda := rfl
@[simp] theorem i2c_setCnt_data (s : I2cSt) (x : Nat) : (s.setCnt x).data = s.data := rfl
@[simp] theorem i2c_setCnt_ack (s : I2cSt) (x : Nat) : (s.setCnt x).ack = s.ack := rfl
@[simp] theorem i2c_setCnt_bits (s : I2cSt) (x : Nat) : (s.setCnt x).bits = s.bits := rfl
@[simp] theorem i2c_setCnt_cnt (s : I2cSt) (x : Nat) : (s.setCnt x).cnt = x := rfl
@[simp] theorem i2c_setCnt_setCnt (s : I2cSt) (x y : Nat) : (s.setCnt x).setCnt y = s.setCnt y := rfl
theorem i2c_setCnt_self (s : I2cSt) : s.setCnt s.cnt = s := rfl

/-! In `i2cNext` the FSM takes a step iff `(run ∧ IDLE) ∨ cnt = 0`; the clock generator is enabled unless the machine
idles without a command strobe. -/

theorem i2cNext_eq (cw : Nat) (s : I2cSt) (i : I2cIn) :
    i2cNext cw s i =
      (if (i.run && s.fsm == .idle) || s.cnt == 0 then i2cFsmStep (i2cPoked s i) i else i2cPoked s i).setCnt
        (if i2cIdle s i then s.cnt else if s.cnt == 0 then i.load else s.cnt - 1) := by
  simp only [i2cNext, i2cIdle, i2cPoked_fsm, i2cPoked_cnt]
  rfl

/-- Command strobes are ignored while busy. -/
theorem i2c_next_wait (cw : Nat) (s : I2cSt) (i : I2cIn) (hn : s.fsm ≠ .idle) (hc : s.cnt ≠ 0) :
    i2cNext cw s i = (i2cPoked s i).setCnt (s.cnt - 1) := by
  simp [i2cNext_eq, i2cIdle, hn, hc]

theorem i2c_next_tick (cw : Nat) (s : I2cSt) (i : I2cIn) (hn : s.fsm ≠ .idle) (hc : s.cnt = 0) :
    i2cNext cw s i = (i2cFsmStep (i2cPoked s i) i).setCnt i.load := by
  simp [i2cNext_eq, i2cIdle, hn, hc]

/-- Exactly one FSM step even when `cnt = 0` in the same cycle, on the registers as written by the bus; the clock
    generator is enabled for this cycle. -/
theorem i2c_next_accept (cw : Nat) (s : I2cSt) (i : I2cIn) (hf : s.fsm = .idle) (hr : i.run = true) :
    i2cNext cw s i = (i2cFsmStep (i2cPoked s i) i).setCnt (if s.cnt = 0 then i.load else s.cnt - 1) := by
  simp [i2cNext_eq, i2cIdle, hf, hr]

theorem i2cFsmStep_idle_none (s : I2cSt) (i : I2cIn) (hf : s.fsm = .idle) (hst : i.start = false)
    (hw : i.write = false) (hr : i.read = false) (hsp : (i.stop && !s.scl) = false) : i2cFsmStep s i = s := by
  simp only [i2cFsmStep, hf, hst, hw, hr, hsp, Bool.false_and, Bool.false_eq_true, if_false]
  rw [← hf]

theorem i2c_next_hold (cw : Nat) (s : I2cSt) (i : I2cIn) (hf : s.fsm = .idle) (hr : i.run = false) :
    i2cNext cw s i = i2cPoked s i := by
  have hi : i2cIdle s i = true := by simp only [i2cIdle, hf, hr]; rfl
  simp only [I2cIn.run, Bool.or_eq_false_iff] at hr
  rw [i2cNext_eq, hi, i2cFsmStep_idle_none _ i (by rw [i2cPoked_fsm, hf]) hr.1.1.1 hr.1.2 hr.2 (by rw [hr.1.1.2]; rfl),
    ite_self, if_pos rfl, ← i2cPoked_cnt s i, i2c_setCnt_self]

/-- The bit counter `bits := bits - 1` of WRITE1 / READ2 (4 bits wide) while bits remain. -/
theorem i2c_bits_dec (b : Nat) (h0 : b ≠ 0) (h : b < 16) : (b + 15) % 16 = b - 1 := by
  obtain ⟨c, rfl⟩ := Nat.exists_eq_succ_of_ne_zero h0
  rw [Nat.succ_eq_add_one, Nat.add_assoc, Nat.add_mod_right, Nat.mod_eq_of_lt (Nat.lt_of_succ_lt h)]
  rfl

/-- States entered "only with scl_o = 0" (comments in the source) really are. -/
structure I2cInv (s : I2cSt) : Prop where
  restart0 : s.fsm = .restart0 → s.scl = false
  stop0    : s.fsm = .stop0 → s.scl = false
  bits     : s.bits < 16

/-- What one clock edge may do to the two bus lines. -/
structure I2cLegal (s s' : I2cSt) : Prop where
  /-- SDA changes while SCL is (and stays) high only as a START (falling, from START0) or a STOP (rising, from STOP2). -/
  sda_high : s.sda ≠ s'.sda → s.scl = true → s'.scl = true →
             (s.fsm = .start0 ∧ s'.sda = false) ∨ (s.fsm = .stop2 ∧ s'.sda = true)
  /-- When both lines change in the same edge, SCL is falling (the pad stage then holds SDA for one cycle). -/
  both     : s.sda ≠ s'.sda → s.scl ≠ s'.scl → s'.scl = false
  /-- SDA never changes in the edge in which SCL rises. -/
  rising   : s.scl = false → s'.scl = true → s'.sda = s.sda

theorem I2cLegal.of_sda_eq {s s' : I2cSt} (h : s'.sda = s.sda) : I2cLegal s s' :=
  ⟨fun hne => absurd h.symm hne, fun hne => absurd h.symm hne, fun _ _ => h⟩

theorem I2cLegal.of_scl_low {s s' : I2cSt} (h : s'.scl = false) : I2cLegal s s' :=
  ⟨fun _ _ h' => (by rw [h] at h'; cases h'), fun _ _ => h, fun _ h' => (by rw [h] at h'; cases h')⟩

theorem I2cLegal.of_scl_eq {s s' : I2cSt} (h : s'.scl = s.scl)
    (hs : s.scl = true → (s.fsm = .start0 ∧ s'.sda = false) ∨ (s.fsm = .stop2 ∧ s'.sda = true)) : I2cLegal s s' :=
  ⟨fun _ h1 _ => hs h1, fun _ hne => absurd h.symm hne, fun h1 h2 => (by rw [h, h1] at h2; cases h2)⟩

theorem i2c_legal_refl (s : I2cSt) : I2cLegal s s :=
  .of_sda_eq rfl

/-- Legality only looks at `fsm` and the two lines (and the invariant, below, at `fsm`, SCL and `bits`). -/
theorem I2cLegal.congr {s s' t t' : I2cSt} (h : I2cLegal s s') (hf : t.fsm = s.fsm) (h1 : t.scl = s.scl)
    (h2 : t.sda = s.sda) (h3 : t'.scl = s'.scl) (h4 : t'.sda = s'.sda) : I2cLegal t t' := by
  constructor
  · rw [hf, h1, h2, h3, h4]; exact h.sda_high
  · rw [h1, h2, h3, h4]; exact h.both
  · rw [h1, h2, h3, h4]; exact h.rising

theorem I2cInv.congr {s t : I2cSt} (h : I2cInv s) (hf : t.fsm = s.fsm) (h1 : t.scl = s.scl) (hb : t.bits = s.bits) :
    I2cInv t := by
  constructor
  · rw [hf, h1]; exact h.restart0
  · rw [hf, h1]; exact h.stop0
  · rw [hb]; exact h.bits

theorem i2c_fsm_step_bits (s : I2cSt) (i : I2cIn) (hb : s.bits < 16) : (i2cFsmStep s i).bits < 16 := by
  cases hf : s.fsm with
  | idle =>
    simp only [i2cFsmStep, hf]
    split
    · omega
    · split <;> omega
  | write1 | read2 => simp only [i2cFsmStep, hf]; omega
  | write0 | read1 => simp only [i2cFsmStep, hf]; split <;> exact hb
  | _ => simp only [i2cFsmStep, hf]; exact hb

theorem i2c_fsm_step_legal (s : I2cSt) (i : I2cIn) (h : I2cInv s) :
    I2cInv (i2cFsmStep s i) ∧ I2cLegal s (i2cFsmStep s i) := by
  cases hf : s.fsm with
  | idle =>
    -- RESTART0 and STOP0 are entered only with SCL low: with SCL high a start strobe leads to START0 and a stop
    -- strobe is ignored
    have he : ((i2cFsmStep s i).fsm = .restart0 → (i2cFsmStep s i).scl = false) ∧
        ((i2cFsmStep s i).fsm = .stop0 → (i2cFsmStep s i).scl = false) := by
      simp only [i2cFsmStep, hf]
      cases s.scl
      · exact ⟨fun _ => rfl, fun _ => rfl⟩
      · cases i.start <;> cases i.write <;> cases i.read <;> cases i.stop <;> decide
    exact ⟨⟨he.1, he.2, i2c_fsm_step_bits s i h.bits⟩, by simp only [i2cFsmStep, hf]; exact .of_sda_eq rfl⟩
  -- SCL rises (or, in IDLE above, nothing moves): SDA is not assigned
  | restart1 | stop1 | readack0 | read0 | writeack0 =>
    simp only [i2cFsmStep, hf]; exact ⟨⟨nofun, nofun, h.bits⟩, .of_sda_eq rfl⟩
  | write1 | read2 =>
    simp only [i2cFsmStep, hf]; exact ⟨⟨nofun, nofun, Nat.mod_lt _ (by decide)⟩, .of_sda_eq rfl⟩
  -- SCL falls
  | readack1 | writeack1 => simp only [i2cFsmStep, hf]; exact ⟨⟨nofun, nofun, h.bits⟩, .of_scl_low rfl⟩
  | write0 | read1 => simp only [i2cFsmStep, hf]; split <;> exact ⟨⟨nofun, nofun, h.bits⟩, .of_scl_low rfl⟩
  -- SDA is assigned with SCL unchanged: the START and STOP conditions, or SCL is low by the invariant
  | start0 =>
    simp only [i2cFsmStep, hf]; exact ⟨⟨nofun, nofun, h.bits⟩, .of_scl_eq rfl fun _ => .inl ⟨hf, rfl⟩⟩
  | stop2 =>
    simp only [i2cFsmStep, hf]; exact ⟨⟨nofun, nofun, h.bits⟩, .of_scl_eq rfl fun _ => .inr ⟨hf, rfl⟩⟩
  | restart0 =>
    simp only [i2cFsmStep, hf]
    exact ⟨⟨nofun, nofun, h.bits⟩, .of_scl_eq rfl fun h1 => by rw [h.restart0 hf] at h1; cases h1⟩
  | stop0 =>
    simp only [i2cFsmStep, hf]
    exact ⟨⟨nofun, nofun, h.bits⟩, .of_scl_eq rfl fun h1 => by rw [h.stop0 hf] at h1; cases h1⟩

theorem i2c_next_legal (cw : Nat) (s : I2cSt) (i : I2cIn) (h : I2cInv s) :
    I2cInv (i2cNext cw s i) ∧ I2cLegal s (i2cNext cw s i) := by
  have hp : I2cInv (i2cPoked s i) := h.congr (i2cPoked_fsm s i) (i2cPoked_scl s i) (i2cPoked_bits s i)
  rw [i2cNext_eq]
  by_cases hc : ((i.run && s.fsm == .idle) || s.cnt == 0) = true
  · rw [if_pos hc]
    have hst := i2c_fsm_step_legal (i2cPoked s i) i hp
    exact ⟨hst.1.congr (i2c_setCnt_fsm _ _) (i2c_setCnt_scl _ _) (i2c_setCnt_bits _ _),
      hst.2.congr (i2cPoked_fsm s i).symm (i2cPoked_scl s i).symm (i2cPoked_sda s i).symm (i2c_setCnt_scl _ _)
        (i2c_setCnt_sda _ _)⟩
  · rw [if_neg hc]
    exact ⟨hp.congr (i2c_setCnt_fsm _ _) (i2c_setCnt_scl _ _) (i2c_setCnt_bits _ _), .of_sda_eq (i2cPoked_sda s i)⟩

/-- Enabled FSM steps from `s` back to IDLE: the straight-line states by position, the WRITE/READ loops two steps per
    remaining bit plus their acknowledge tail.  WRITE1/READ2 are entered with `bits ≥ 1`; with `bits = 0` (unreachable)
    the 4-bit `bits - 1` wraps to 15 and a whole further loop follows: `2·15 + 3 + 1 = 34`, the maximum (`i2c_rank_le`). -/
def i2cRank (s : I2cSt) : Nat :=
  match s.fsm with
  | .idle => 0
  | .start0 => 1
  | .restart0 => 3
  | .restart1 => 2
  | .stop0 => 3
  | .stop1 => 2
  | .stop2 => 1
  | .write0 => 2 * s.bits + 3
  | .write1 => if s.bits = 0 then 34 else 2 * s.bits + 2
  | .readack0 => 2
  | .readack1 => 1
  | .read0 => 2 * s.bits + 4
  | .read1 => 2 * s.bits + 3
  | .read2 => if s.bits = 0 then 34 else 2 * s.bits + 2
  | .writeack0 => 2
  | .writeack1 => 1

theorem i2c_rank_le (s : I2cSt) (h : s.bits < 16) : i2cRank s ≤ 34 := by
  unfold i2cRank; split <;> (try split) <;> omega

theorem i2c_rank_zero_iff (s : I2cSt) : i2cRank s = 0 ↔ s.fsm = .idle := by
  unfold i2cRank; split <;> (try split) <;> simp_all <;> omega

theorem i2c_rank_step (s : I2cSt) (i : I2cIn) (hb : s.bits < 16) (hn : s.fsm ≠ .idle) :
    i2cRank (i2cFsmStep s i) + 1 = i2cRank s := by
  cases hf : s.fsm with
  | idle => exact absurd hf hn
  | write0 | read1 | write1 | read2 =>
    by_cases hb0 : s.bits = 0
    · simp only [i2cFsmStep, i2cRank, hf, hb0, beq_self_eq_true, if_true]
    · simp only [i2cFsmStep, i2cRank, hf, hb0, beq_iff_eq, if_false, i2c_bits_dec _ hb0 hb] <;> omega
  | _ => simp only [i2cFsmStep, i2cRank, hf]

theorem i2cRank_setCnt (s : I2cSt) (x : Nat) : i2cRank (s.setCnt x) = i2cRank s := rfl

theorem i2cRank_poked (s : I2cSt) (i : I2cIn) : i2cRank (i2cPoked s i) = i2cRank s := by
  unfold i2cRank; rw [i2cPoked_fsm, i2cPoked_bits]

/-- Busy cycles left with a constant `load = l`: the distance to the next tick, then `l + 1` cycles per remaining
    FSM step. -/
def i2cMu (l : Nat) (s : I2cSt) : Nat := if i2cRank s = 0 then 0 else (i2cRank s - 1) * (l + 1) + s.cnt + 1

theorem i2c_mu_zero_iff (l : Nat) (s : I2cSt) : i2cMu l s = 0 ↔ s.fsm = .idle := by
  rw [← i2c_rank_zero_iff]; unfold i2cMu; split <;> simp [*]

/-- Outside IDLE the measure decreases by exactly one in every cycle, for every input (command strobes outside
    IDLE are ignored, bus writes do not touch the control registers); IDLE is entered by a tick, so with the counter
    reloaded. -/
theorem i2c_mu_step (cw l : Nat) (s : I2cSt) (i : I2cIn) (hb : s.bits < 16) (hl : i.load = l) (hn : s.fsm ≠ .idle) :
    i2cMu l (i2cNext cw s i) + 1 = i2cMu l s ∧ (i2cNext cw s i).bits < 16 ∧
    ((i2cNext cw s i).fsm = .idle → (i2cNext cw s i).cnt = l) := by
  have hR0 : i2cRank s ≠ 0 := fun h => hn ((i2c_rank_zero_iff s).mp h)
  by_cases hc : s.cnt = 0
  · have hr := i2c_rank_step (i2cPoked s i) i (by rw [i2cPoked_bits]; exact hb) (by rw [i2cPoked_fsm]; exact hn)
    rw [i2cRank_poked] at hr
    rw [i2c_next_tick cw s i hn hc, hl]
    refine ⟨?_, i2c_fsm_step_bits _ _ (by rw [i2cPoked_bits]; exact hb), fun _ => rfl⟩
    unfold i2cMu
    rw [i2cRank_setCnt, i2c_setCnt_cnt, if_neg hR0, ← hr, hc, Nat.add_sub_cancel]
    split
    · rw [‹i2cRank _ = 0›, Nat.zero_mul]
    · obtain ⟨r, hr1⟩ := Nat.exists_eq_succ_of_ne_zero ‹_›
      rw [hr1, Nat.succ_sub_one, Nat.succ_mul]
      omega
  · rw [i2c_next_wait cw s i hn hc]
    refine ⟨?_, by rw [i2c_setCnt_bits, i2cPoked_bits]; exact hb, fun h => absurd (by rwa [i2c_setCnt_fsm, i2cPoked_fsm] at h) hn⟩
    unfold i2cMu
    rw [i2cRank_setCnt, i2cRank_poked, i2c_setCnt_cnt, if_neg hR0, if_neg hR0]
    omega

theorem i2c_mu_run (cw l : Nat) (f : Nat → I2cIn) (hl : ∀ t, (f t).load = l) (s : I2cSt) (hb : s.bits < 16) :
    ∀ t, t ≤ i2cMu l s →
      i2cMu l (runFn (i2cMachine cw) s f t) + t = i2cMu l s ∧ (runFn (i2cMachine cw) s f t).bits < 16 ∧
      (1 ≤ t → (runFn (i2cMachine cw) s f t).fsm = .idle → (runFn (i2cMachine cw) s f t).cnt = l) :=
  runFn_inv (i2cMachine cw) f
    (Inv := fun t s' => i2cMu l s' + t = i2cMu l s ∧ s'.bits < 16 ∧ (1 ≤ t → s'.fsm = .idle → s'.cnt = l))
    ⟨rfl, hb, fun h => absurd h (by decide)⟩ fun t s' ht ⟨h1, h2, _⟩ => by
      -- not yet `i2cMu l s` cycles: the measure is still positive, so the machine is busy
      have hn : s'.fsm ≠ .idle := fun h => by rw [(i2c_mu_zero_iff l _).mpr h] at h1; omega
      obtain ⟨a, b, c⟩ := i2c_mu_step cw l s' (f t) h2 (hl t) hn
      exact ⟨by show i2cMu l (i2cNext cw _ _) + (t + 1) = _; omega, b, fun _ => c⟩

theorem i2c_busy_exact_any (cw l : Nat) (f : Nat → I2cIn) (hl : ∀ t, (f t).load = l)
    (s : I2cSt) (hb : s.bits < 16) (hn : s.fsm ≠ .idle) (T : Nat) (hT : T = s.cnt + (i2cRank s - 1) * (l + 1) + 1) :
    (∀ t, t < T → (runFn (i2cMachine cw) s f t).fsm ≠ .idle) ∧
    (runFn (i2cMachine cw) s f T).fsm = .idle ∧ (runFn (i2cMachine cw) s f T).cnt = l := by
  have hT : T = i2cMu l s := by
    unfold i2cMu; rw [hT, if_neg fun h => hn ((i2c_rank_zero_iff s).mp h)]; omega
  subst hT
  have hrun := i2c_mu_run cw l f hl s hb
  obtain ⟨h1, _, h3⟩ := hrun _ (Nat.le_refl _)
  have hidle := (i2c_mu_zero_iff l _).mp (Nat.add_eq_right.mp h1)
  refine ⟨fun t ht h => ?_, hidle, h3 (by omega) hidle⟩
  have := (hrun t (Nat.le_of_lt ht)).1
  rw [(i2c_mu_zero_iff l _).mpr h] at this
  omega

end Litex.Periph
