import LitexModel.Periph.Glue2
import LitexProofs.Bits
/-
  C19 — `litex/gen/genlib/misc.py`: `BitSlip` (the window register after two words), `displacer` in closed form, `split`
  as consecutive slices.
-/
namespace Litex.Periph
open Litex

theorem bitSlip_r_lt (dw : Nat) (ins : List (Nat × Nat)) : ((bitSlip dw).run ins).r < 2 ^ dw * 2 ^ dw := by
  refine Machine.invariant_runFrom (bitSlip dw) (fun s => s.r < 2 ^ dw * 2 ^ dw) ?_ ins _ ?_
  · intro s i h
    show s.r / 2 ^ dw + 2 ^ dw * trunc dw i.1 < 2 ^ dw * 2 ^ dw
    have hX : 0 < 2 ^ dw := Nat.two_pow_pos dw
    have h1 : s.r / 2 ^ dw < 2 ^ dw := Nat.div_lt_of_lt_mul h
    have h2 : trunc dw i.1 < 2 ^ dw := trunc_lt dw i.1
    have h3 : 2 ^ dw * (trunc dw i.1 + 1) ≤ 2 ^ dw * 2 ^ dw := Nat.mul_le_mul_left _ h2
    rw [Nat.mul_succ] at h3
    omega
  · show 0 < 2 ^ dw * 2 ^ dw
    exact Nat.mul_pos (Nat.two_pow_pos dw) (Nat.two_pow_pos dw)

theorem bitSlip_r_two (dw : Nat) (pre : List (Nat × Nat)) (a b : Nat × Nat) :
    ((bitSlip dw).run (pre ++ [a, b])).r = trunc dw a.1 + 2 ^ dw * trunc dw b.1 := by
  have h := bitSlip_r_lt dw pre
  unfold Machine.run at *
  rw [Machine.runFrom_append]
  generalize (bitSlip dw).runFrom (bitSlip dw).init pre = s0 at *
  show (s0.r / 2 ^ dw + 2 ^ dw * trunc dw a.1) / 2 ^ dw + 2 ^ dw * trunc dw b.1 = _
  have hX : 0 < 2 ^ dw := Nat.two_pow_pos dw
  rw [Nat.add_mul_div_left _ _ hX, Nat.div_div_eq_div_mul, Nat.div_eq_of_lt h, Nat.zero_add]

theorem slice_two_words (dw v a b : Nat) (hv : v ≤ dw) :
    slice v dw (a + 2 ^ dw * b) = (a / 2 ^ v + b * 2 ^ (dw - v)) % 2 ^ dw := by
  unfold slice
  have e : 2 ^ dw = 2 ^ v * 2 ^ (dw - v) := by rw [← Nat.pow_add]; congr 1; omega
  conv => lhs; rw [e, Nat.mul_assoc, Nat.add_mul_div_left _ _ (Nat.two_pow_pos v)]
  rw [← e, Nat.mul_comm (2 ^ (dw - v)) b]

theorem cat_single_field (w x p : Nat) (a n : Nat) :
    cat ((List.range' a n).map fun j => (w, if j = p then x else 0)) =
      if a ≤ p ∧ p < a + n then x % 2 ^ w * 2 ^ (w * (p - a)) else 0 := by
  induction n generalizing a with
  | zero => simp [cat]; intro h1 h2; omega
  | succ n ih =>
    rw [List.range'_succ, List.map_cons, cat, ih (a + 1)]
    by_cases hap : a = p
    · subst hap
      have : ¬ (a + 1 ≤ a ∧ a < a + 1 + n) := by omega
      simp [this]
    · simp only [hap, if_false, Nat.zero_mod, Nat.zero_add]
      by_cases h1 : a + 1 ≤ p ∧ p < a + 1 + n
      · have h2 : a ≤ p ∧ p < a + (n + 1) := by omega
        rw [if_pos h1, if_pos h2, show p - a = (p - (a + 1)) + 1 by omega, Nat.mul_succ, Nat.pow_add]
        rw [Nat.mul_comm (2 ^ w), Nat.mul_assoc]
      · have h2 : ¬ (a ≤ p ∧ p < a + (n + 1)) := by omega
        rw [if_neg h1, if_neg h2]; simp

theorem displacer_closed (w n : Nat) (rev : Bool) (wo signal shift : Nat) :
    displacer w n rev wo signal shift =
      if shift < n then trunc wo (trunc w signal * 2 ^ (w * (if rev then n - 1 - shift else shift))) else 0 := by
  unfold displacer
  have hmap : ((List.range n).map fun j => (w, if shift = (if rev then n - 1 - j else j) then trunc w signal else 0)) =
      (List.range' 0 n).map fun j =>
        (w, if j = (if shift < n then (if rev then n - 1 - shift else shift) else n) then trunc w signal else 0) := by
    rw [List.range_eq_range']
    apply List.map_congr_left
    intro j hj
    have hjn : j < n := by simpa using hj
    congr 1
    refine ite_congr (propext ?_) (fun _ => rfl) (fun _ => rfl)
    cases rev <;> simp <;> split <;> omega
  rw [hmap, cat_single_field]
  by_cases hs : shift < n
  · have hp : (if rev then n - 1 - shift else shift) < n := by cases rev <;> simp <;> omega
    simp only [hs, if_true, Nat.zero_le, true_and, Nat.zero_add, hp, Nat.sub_zero]
    rw [show trunc w signal % 2 ^ w = trunc w signal from trunc_trunc w signal]
  · simp [hs, trunc]

theorem splitFrom_cat (w v off : Nat) (counts : List Nat) (h : off + counts.sum ≤ w) :
    cat (counts.zip (splitFrom w v off counts)) = slice off counts.sum v := by
  induction counts generalizing off with
  | nil => simp [splitFrom, cat, slice, Nat.mod_one]
  | cons n rest ih =>
    simp only [List.sum_cons] at h
    simp only [splitFrom, List.zip_cons_cons, cat, List.sum_cons]
    rw [Nat.min_eq_left (by omega : off ≤ w), Nat.min_eq_left (by omega : off + n ≤ w),
      show off + n - off = n by omega, ih (off + n) (by omega), Nat.mod_eq_of_lt (slice_lt off n v), slice_split]

theorem splitFrom_part_lt (w v off : Nat) (counts : List Nat) (j p c : Nat)
    (hp : (splitFrom w v off counts)[j]? = some p) (hc : counts[j]? = some c) : p < 2 ^ c := by
  induction counts generalizing off j with
  | nil => simp at hc
  | cons n rest ih =>
    cases j with
    | zero =>
      simp [splitFrom] at hp hc
      subst hp; subst hc
      exact Nat.lt_of_lt_of_le (slice_lt _ _ _) (Nat.pow_le_pow_right (by omega) (by omega))
    | succ j =>
      simp [splitFrom] at hp hc
      exact ih _ _ hp hc

theorem splitFrom_length (w v off : Nat) (counts : List Nat) : (splitFrom w v off counts).length = counts.length := by
  induction counts generalizing off with
  | nil => rfl
  | cons n rest ih => simp [splitFrom, ih]

end Litex.Periph
