/-
  A window of `L` periods of `div` cycles (cycle `i * div + k` is position `k` of period `i`): induction over its
  positions (`pulse_induction`), induction along a clock waveform given in closed form on it (`clock_induction`: what
  holds after `i` pulses at clock level `c`), and its first user, the count of the clock pulses.
-/
namespace Litex.Periph

theorem pulse_induction {div L : Nat} {P : Nat → Nat → Prop} (h0 : P 0 0)
    (hk : ∀ i k, i < L → k + 1 < div → P i k → P i (k + 1))
    (hi : ∀ i, i + 1 < L → P i (div - 1) → P (i + 1) 0) :
    ∀ i, i < L → ∀ k, k < div → P i k := by
  have inner : ∀ i, i < L → P i 0 → ∀ k, k < div → P i k := by
    intro i hiL hi0 k
    induction k with
    | zero => exact fun _ => hi0
    | succ k ih => exact fun h => hk i k hiL h (ih (Nat.lt_of_succ_lt h))
  intro i
  induction i with
  | zero => exact fun hL => inner 0 hL h0
  | succ i ih =>
    exact fun hL k h => inner (i + 1) hL
      (hi i hL (ih (Nat.lt_of_succ_lt hL) (div - 1) (Nat.sub_lt (Nat.zero_lt_of_lt h) Nat.one_pos))) k h

theorem pulse_induction_end {div L : Nat} {P : Nat → Nat → Prop} (hdiv : 0 < div) (h0 : P 0 0)
    (hk : ∀ i k, i < L → k + 1 < div → P i k → P i (k + 1))
    (hi : ∀ i, i < L → P i (div - 1) → P (i + 1) 0) :
    (∀ i, i < L → ∀ k, k < div → P i k) ∧ P L 0 := by
  have hrun := pulse_induction h0 hk (fun i h => hi i (Nat.lt_of_succ_lt h))
  refine ⟨hrun, ?_⟩
  cases L with
  | zero => exact h0
  | succ n => exact hi n (Nat.lt_succ_self n) (hrun n (Nat.lt_succ_self n) _ (Nat.sub_lt hdiv Nat.one_pos))

theorem period_succ {div : Nat} (hdiv : 0 < div) (i : Nat) : i * div + (div - 1) + 1 = (i + 1) * div + 0 := by
  rw [Nat.succ_mul, Nat.add_assoc, Nat.sub_add_cancel hdiv]; rfl

theorem period_lt {div L i k : Nat} (hi : i < L) (hk : k < div) : i * div + k < L * div :=
  Nat.lt_of_lt_of_le (Nat.add_lt_add_left hk _) (Nat.succ_mul i div ▸ Nat.mul_le_mul_right div hi)

/-- A clock that is low for the first `m` cycles of a period and high afterwards does not fall inside the period. -/
theorem half_no_fall (m k : Nat) : (decide (m ≤ k) && !decide (m ≤ k + 1)) = false := by
  by_cases h : m ≤ k
  · rw [decide_eq_true (Nat.le_succ_of_le h)]; exact Bool.and_false _
  · rw [decide_eq_false h]; rfl

theorem half_pos {div : Nat} (hdiv : 2 ≤ div) : 0 < div / 2 := Nat.div_pos hdiv Nat.two_pos

theorem half_lt {div : Nat} (hdiv : 2 ≤ div) : div / 2 < div :=
  Nat.div_lt_self (Nat.lt_of_lt_of_le Nat.two_pos hdiv) Nat.one_lt_two

/-- `Q i c t`: at time `t`, `i` pulses are complete (a fall completes a pulse) and the clock is at level `c`.  `step` is
    asked for each pair of consecutive times, `c` and `c'` the two levels; on a rise it is told the pulse and position,
    because that is where a caller looks up what the pulse carries (the slave: the MOSI bit). -/
theorem clock_induction {div m L : Nat} {w : Nat → Bool} {Q : Nat → Bool → Nat → Prop} (hm0 : 0 < m) (hm : m < div)
    (hrun : ∀ i, i < L → ∀ k, k < div → w (i * div + k) = decide (m ≤ k))
    (hstop : ∀ k, k ≤ m → w (L * div + k) = false) (h0 : Q 0 false 0)
    (step : ∀ i c c' t, t < L * div + m → w t = c → w (t + 1) = c' →
      (c = false → c' = true → ∃ k, k < div ∧ i < L ∧ t + 1 = i * div + k) →
      Q i c t → Q (i + (c && !c').toNat) c' (t + 1)) :
    (∀ i, i < L → ∀ k, k < div → Q i (decide (m ≤ k)) (i * div + k)) ∧ ∀ k, k ≤ m → Q L false (L * div + k) := by
  have hlow : ¬ m ≤ 0 := Nat.not_le.2 hm0
  have hd : 0 < div := Nat.zero_lt_of_lt hm
  have hin : ∀ i k, i < L → k < div → i * div + k < L * div + m := fun i k hi hk =>
    Nat.lt_of_lt_of_le (period_lt hi hk) (Nat.le_add_right _ _)
  obtain ⟨hrunQ, hend⟩ := pulse_induction_end (L := L) (P := fun i k => Q i (decide (m ≤ k)) (i * div + k)) hd
    (by rw [decide_eq_false hlow, Nat.zero_mul]; exact h0)
    (fun i k hi hk ih => by
      have := step i _ _ _ (hin i k hi (Nat.lt_of_succ_lt hk)) (hrun i hi k (Nat.lt_of_succ_lt hk)) (hrun i hi (k + 1) hk)
        (fun _ _ => ⟨k + 1, hk, hi, rfl⟩) ih
      rwa [half_no_fall] at this)
    (fun i hi ih => by
      -- the next period, or the stop phase, begins low
      have hn : w ((i + 1) * div + 0) = false := by
        rcases Nat.lt_or_eq_of_le hi with hl | rfl
        · rw [hrun (i + 1) hl 0 hd]; exact decide_eq_false hlow
        · exact hstop 0 (Nat.zero_le _)
      have hl : div - 1 < div := Nat.sub_lt hd Nat.one_pos
      rw [← period_succ hd] at hn ⊢
      rw [decide_eq_false hlow]
      rw [decide_eq_true (Nat.le_sub_one_of_lt hm)] at ih
      exact step i true false _ (hin i _ hi hl) ((hrun i hi _ hl).trans (decide_eq_true (Nat.le_sub_one_of_lt hm))) hn
        (fun hf => Bool.noConfusion hf) ih)
  refine ⟨hrunQ, fun k => ?_⟩
  rw [decide_eq_false hlow] at hend
  induction k with
  | zero => exact fun _ => hend
  | succ k ih =>
    exact fun hk => step L false false _ (Nat.add_lt_add_left hk _) (hstop k (Nat.le_of_succ_le hk)) (hstop (k + 1) hk)
      (fun _ hf => Bool.noConfusion hf) (ih (Nat.le_of_succ_le hk))

/-- Number of rising edges `f t = 0 → f (t+1) = 1` with `t < n`. -/
def countEdges (f : Nat → Bool) : Nat → Nat
  | 0 => 0
  | n + 1 => countEdges f n + (if !f n && f (n + 1) then 1 else 0)

/-- `j + c.toNat`: a rise is counted at once, a fall completes a pulse. -/
theorem countEdges_succ (f : Nat → Bool) (n j : Nat) (c c' : Bool) (hc : f n = c) (hc' : f (n + 1) = c')
    (h : countEdges f n = j + c.toNat) : countEdges f (n + 1) = j + (c && !c').toNat + c'.toNat := by
  show countEdges f n + (if !f n && f (n + 1) then 1 else 0) = _
  rw [h, hc, hc']
  cases c <;> cases c' <;> rfl

theorem pulse_count (f : Nat → Bool) (div m L : Nat) (hm0 : 0 < m) (hm : m < div)
    (hrun : ∀ i, i < L → ∀ k, k < div → f (i * div + k) = decide (m ≤ k))
    (hstop : ∀ k, k ≤ m → f (L * div + k) = false) :
    countEdges f (L * div + m) = L :=
  (clock_induction (Q := fun i c t => countEdges f t = i + c.toNat) hm0 hm hrun hstop rfl
    fun i c c' t _ hc hc' _ ih => countEdges_succ f t i c c' hc hc' ih).2 m (Nat.le_refl m)

end Litex.Periph
