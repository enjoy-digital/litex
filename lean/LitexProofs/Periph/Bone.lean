import LitexModel.Periph.Bone
import LitexProofs.WaitTimer
/-
  `Stream2Wishbone` (model: `LitexModel/Periph/Bone.lean`).  A `Seg` is one handshake with the wait before it: `pre`
  are the cycles in which the awaited signal (`sink.valid`, `wishbone.ack`, `source.ready`) is low — every other input
  is arbitrary in those cycles — and `fire` is the cycle in which it is high.  Bursts are lists of such segments, so
  the theorems quantify over all gaps between host bytes, all ack delays and all source stalls.
  `boneObs c s ins` = (registers after `ins`, completed wishbone accesses, bytes handed to the source), with the
  FSM reset never asserted.
-/
namespace Litex.Periph
open Litex

structure Seg where
  pre  : List BoneIn
  fire : BoneIn

/-- `p` is low during the wait and high in the firing cycle. -/
def Seg.waits (p : BoneIn → Bool) (g : Seg) : Prop := (∀ i ∈ g.pre, p i = false) ∧ p g.fire = true

def Seg.cycles (g : Seg) : List BoneIn := g.pre ++ [g.fire]

def cyclesOf : List Seg → List BoneIn
  | [] => []
  | g :: gs => g.pre ++ g.fire :: cyclesOf gs

def bytesOf (gs : List Seg) : List Nat := gs.map (·.fire.sinkData)

/-- A list of host bytes with arbitrary gaps. -/
def SinkSegs (gs : List Seg) : Prop := ∀ g ∈ gs, g.waits (·.sinkValid) ∧ g.fire.sinkData < 256

abbrev Obs := BoneCore × List BoneAccess × List (Nat × Bool)

def boneObs (c : BoneCfg) (s : BoneCore) (ins : List BoneIn) : Obs :=
  (boneCoreRun c s ins, boneBusLog c s ins, boneSrcLog c s ins)

def Obs.pre (b : List BoneAccess) (r : List (Nat × Bool)) (o : Obs) : Obs := (o.1, b ++ o.2.1, r ++ o.2.2)

@[simp] theorem Obs.pre_nil (o : Obs) : Obs.pre [] [] o = o := by simp [Obs.pre]

@[simp] theorem Obs.pre_pre (b b' : List BoneAccess) (r r' : List (Nat × Bool)) (o : Obs) :
    Obs.pre b r (Obs.pre b' r' o) = Obs.pre (b ++ b') (r ++ r') o := by simp [Obs.pre]

@[simp] theorem boneObs_nil (c : BoneCfg) (s : BoneCore) : boneObs c s [] = (s, [], []) := rfl

theorem boneObs_cons (c : BoneCfg) (s : BoneCore) (i : BoneIn) (is : List BoneIn) :
    boneObs c s (i :: is) = Obs.pre (boneBusEv c s i) (boneSrcEv c s i) (boneObs c (boneCoreStep c s i) is) := rfl

/-- The handshake the FSM is waiting for in its current state. -/
def boneFires (s : BoneCore) (i : BoneIn) : Bool :=
  match s.fsm with
  | .writeData | .readData => i.ack
  | .sendData => i.sourceReady
  | _ => i.sinkValid

theorem bone_step_stall (c : BoneCfg) (s : BoneCore) (i : BoneIn) (h : s.fsm ≠ .recvCmd) (hf : boneFires s i = false) :
    boneCoreStep c s i = s := by
  -- in every state but RECEIVE-CMD the step is `if <awaited signal> then … else s`
  unfold boneFires at hf
  cases hs : s.fsm <;> simp only [hs] at hf <;> first | exact absurd hs h | simp [boneCoreStep, hs, hf]

theorem bone_ev_stall (c : BoneCfg) (s : BoneCore) (i : BoneIn) (hf : boneFires s i = false) :
    boneBusEv c s i = [] ∧ boneSrcEv c s i = [] := by
  unfold boneFires at hf
  cases hs : s.fsm <;> simp only [hs] at hf <;> simp [boneBusEv, boneSrcEv, boneCoreOut, hs, hf]

theorem bone_ev_none (c : BoneCfg) (s : BoneCore) (i : BoneIn)
    (hb : (s.fsm == .writeData || s.fsm == .readData) = false) (hv : (s.fsm == .sendData) = false) :
    boneBusEv c s i = [] ∧ boneSrcEv c s i = [] := by
  simp [boneBusEv, boneSrcEv, boneCoreOut, hb, hv]

theorem obs_pre (c : BoneCfg) (pre rest : List BoneIn) (s : BoneCore) (h : s.fsm ≠ .recvCmd)
    (hf : ∀ i ∈ pre, boneFires s i = false) : boneObs c s (pre ++ rest) = boneObs c s rest := by
  induction pre with
  | nil => rfl
  | cons i is ih =>
    have h1 := hf i (by simp)
    rw [List.cons_append, boneObs_cons, bone_step_stall c s i h h1, (bone_ev_stall c s i h1).1, (bone_ev_stall c s i h1).2,
        Obs.pre_nil]
    exact ih (fun j hj => hf j (by simp [hj]))

theorem obs_seg (c : BoneCfg) (p : BoneIn → Bool) (g : Seg) (rest : List BoneIn) (s : BoneCore)
    (h : s.fsm ≠ .recvCmd) (hp : ∀ i, boneFires s i = p i) (hw : g.waits p) :
    boneObs c s (g.pre ++ g.fire :: rest)
      = Obs.pre (boneBusEv c s g.fire) (boneSrcEv c s g.fire) (boneObs c (boneCoreStep c s g.fire) rest) := by
  rw [obs_pre c g.pre _ s h (fun i hi => by rw [hp]; exact hw.1 i hi), boneObs_cons]

theorem obs_sink_seg (c : BoneCfg) (g : Seg) (rest : List BoneIn) (s : BoneCore)
    (hs : s.fsm = .recvLen ∨ s.fsm = .recvAddr ∨ s.fsm = .recvData) (hw : g.waits (·.sinkValid)) :
    boneObs c s (g.pre ++ g.fire :: rest) = boneObs c (boneCoreStep c s g.fire) rest := by
  rcases hs with h | h | h <;>
    rw [obs_seg c (·.sinkValid) g rest s (by simp [h]) (by intro i; simp [boneFires, h]) hw,
      (bone_ev_none c s _ (by rw [h]; rfl) (by rw [h]; rfl)).1, (bone_ev_none c s _ (by rw [h]; rfl) (by rw [h]; rfl)).2,
      Obs.pre_nil]

/-- `Cat(byte, reg)` assigned to a register of modulus `M`, byte after byte. -/
def shiftBytes (M : Nat) (d : Nat) (bytes : List Nat) : Nat := bytes.foldl (fun d b => (d * 256 + b) % M) d

/-- Big-endian value of a byte list (first byte most significant). -/
def beVal (bytes : List Nat) : Nat := bytes.foldl (fun d b => d * 256 + b) 0

theorem foldl_be (bytes : List Nat) (d : Nat) :
    bytes.foldl (fun d b => d * 256 + b) d = d * 256 ^ bytes.length + beVal bytes := by
  unfold beVal
  induction bytes generalizing d with
  | nil => simp
  | cons b bs ih =>
    simp only [List.foldl_cons, List.length_cons]
    rw [ih (d * 256 + b), ih (0 * 256 + b), Nat.pow_succ]
    simp [Nat.add_mul, Nat.mul_assoc, Nat.mul_comm 256, Nat.add_assoc]

theorem shiftBytes_cons (M d b : Nat) (bs : List Nat) :
    shiftBytes M d (b :: bs) = shiftBytes M ((d * 256 + b) % M) bs := rfl

theorem shiftBytes_mod (M : Nat) : ∀ (bytes : List Nat) (x y : Nat), x % M = y % M →
    shiftBytes M x bytes % M = (bytes.foldl (fun d b => d * 256 + b) y) % M
  | [], _, _, h => h
  | b :: bs, x, y, h =>
    shiftBytes_mod M bs _ _ (by rw [Nat.mod_mod, Nat.add_mod, Nat.mul_mod, h, ← Nat.mul_mod, ← Nat.add_mod])

theorem shiftBytes_reduced (M : Nat) (bytes : List Nat) (d : Nat) (h : bytes ≠ []) :
    shiftBytes M d bytes % M = shiftBytes M d bytes := by
  induction bytes generalizing d with
  | nil => exact absurd rfl h
  | cons b bs ih =>
    cases bs with
    | nil => simp only [shiftBytes, List.foldl, Nat.mod_mod]
    | cons b' bs => rw [shiftBytes_cons]; exact ih _ (List.cons_ne_nil _ _)

theorem foldl_be_lt (bytes : List Nat) (h : ∀ b ∈ bytes, b < 256) (d : Nat) :
    bytes.foldl (fun d b => d * 256 + b) d < (d + 1) * 256 ^ bytes.length := by
  induction bytes generalizing d with
  | nil => simp
  | cons b bs ih =>
    have hb : b < 256 := h b (by simp)
    have h1 := ih (fun x hx => h x (by simp [hx])) (d * 256 + b)
    simp only [List.foldl_cons, List.length_cons]
    calc _ < (d * 256 + b + 1) * 256 ^ bs.length := h1
      _ ≤ ((d + 1) * 256) * 256 ^ bs.length := Nat.mul_le_mul_right _ (by omega)
      _ = (d + 1) * 256 ^ (bs.length + 1) := by rw [Nat.pow_succ, Nat.mul_assoc, Nat.mul_comm 256]

theorem beVal_lt (bytes : List Nat) (h : ∀ b ∈ bytes, b < 256) : beVal bytes < 256 ^ bytes.length := by
  simpa [beVal] using foldl_be_lt bytes h 0

theorem shiftBytes_full (n d : Nat) (bytes : List Nat) (hl : bytes.length = n) (hn : 0 < n)
    (h : ∀ b ∈ bytes, b < 256) : shiftBytes (2 ^ (8 * n)) d bytes = beVal bytes := by
  have hne : bytes ≠ [] := by intro h0; simp [h0] at hl; omega
  rw [← shiftBytes_reduced _ bytes d hne, shiftBytes_mod _ bytes d d rfl, foldl_be, hl, Nat.pow_mul, show (2:Nat) ^ 8 = 256 by rfl,
      Nat.mul_add_mod_self_right]
  exact Nat.mod_eq_of_lt (hl ▸ beVal_lt bytes h)

theorem nA_pos (c : BoneCfg) : 0 < c.nA := Nat.two_pow_pos _
theorem nB_pos (c : BoneCfg) : 0 < c.nB := Nat.two_pow_pos _

/-- In RECEIVE-CMD the waiting cycles are not idle, they clear the counters: hence an induction of its own. -/
theorem cmd_phase (c : BoneCfg) (g : Seg) (rest : List BoneIn) (hw : g.waits (·.sinkValid)) :
    ∀ s : BoneCore, s.fsm = .recvCmd →
    boneObs c s (g.pre ++ g.fire :: rest)
      = boneObs c { s with dbc := 0, abc := 0, wc := 0, cmd := g.fire.sinkData, fsm := .recvLen } rest := by
  obtain ⟨pre, fire⟩ := g
  obtain ⟨h1, h2⟩ := hw
  simp only at h1 h2 ⊢
  induction pre with
  | nil =>
    intro s hs
    have hev := bone_ev_none c s fire (by rw [hs]; rfl) (by rw [hs]; rfl)
    rw [List.nil_append, boneObs_cons, hev.1, hev.2, Obs.pre_nil]
    simp only [boneCoreStep, hs, h2, if_true]
  | cons i is ih =>
    intro s hs
    have hev := bone_ev_none c s i (by rw [hs]; rfl) (by rw [hs]; rfl)
    rw [List.cons_append, boneObs_cons, hev.1, hev.2, Obs.pre_nil]
    simp only [boneCoreStep, hs, h1 i (by simp), Bool.false_eq_true, if_false]
    exact ih (fun j hj => h1 j (by simp [hj])) _ rfl

/-- The length byte: `length` is what `words_count + 1` is compared with at the end of every word. -/
theorem len_phase (c : BoneCfg) (g : Seg) (rest : List BoneIn) (hw : g.waits (·.sinkValid)) (s : BoneCore)
    (hs : s.fsm = .recvLen) :
    boneObs c s (g.pre ++ g.fire :: rest)
      = boneObs c { s with length := g.fire.sinkData, fsm := .recvAddr } rest := by
  rw [obs_sink_seg c g rest s (.inl hs) hw]
  simp only [boneCoreStep, hs, hw.2, if_true]

theorem bytesOf_cons (g : Seg) (gs : List Seg) : bytesOf (g :: gs) = g.fire.sinkData :: bytesOf gs := rfl

/-- Registers after the last address byte: the command is dispatched. -/
def afterAddr (s : BoneCore) (addr : Nat) : BoneCore :=
  if s.cmd == 1 || s.cmd == 3 then { s with address := addr, abc := 0, incr := s.cmd == 1, fsm := .recvData }
  else if s.cmd == 2 || s.cmd == 4 then { s with address := addr, abc := 0, incr := s.cmd == 2, fsm := .readData }
  else { s with address := addr, abc := 0, fsm := .recvCmd }

theorem step_addr_more (c : BoneCfg) (s : BoneCore) (i : BoneIn) (hs : s.fsm = .recvAddr) (hv : i.sinkValid = true)
    (h : s.abc + 1 < c.nA) :
    boneCoreStep c s i = { s with address := (s.address * 256 + i.sinkData) % 2 ^ c.aw, abc := s.abc + 1 } := by
  have hd : abcDone c s = false := by simp only [abcDone, beq_eq_false_iff_ne]; omega
  simp only [boneCoreStep, hs, hv, hd, if_true, Nat.mod_eq_of_lt h, Bool.false_eq_true, if_false]

theorem step_addr_last (c : BoneCfg) (s : BoneCore) (i : BoneIn) (hs : s.fsm = .recvAddr) (hv : i.sinkValid = true)
    (h : s.abc + 1 = c.nA) :
    boneCoreStep c s i = afterAddr s ((s.address * 256 + i.sinkData) % 2 ^ c.aw) := by
  have hd : abcDone c s = true := by simp only [abcDone, beq_iff_eq]; omega
  simp only [boneCoreStep, hs, hv, hd, if_true, h, Nat.mod_self, afterAddr]

/-- The remaining address bytes, `abc` of them already received. -/
theorem addr_phase (c : BoneCfg) (rest : List BoneIn) : ∀ (gs : List Seg) (s : BoneCore),
    s.fsm = .recvAddr → gs ≠ [] → s.abc + gs.length = c.nA → (∀ g ∈ gs, g.waits (·.sinkValid)) →
    boneObs c s (cyclesOf gs ++ rest)
      = boneObs c (afterAddr s (shiftBytes (2 ^ c.aw) s.address (bytesOf gs))) rest
  | [], _, _, h, _, _ => absurd rfl h
  | g :: gs, s, hs, _, hlen, hw => by
    have hg := hw g (by simp)
    rw [cyclesOf, List.append_assoc, List.cons_append, obs_sink_seg c g _ s (.inr (.inl hs)) hg]
    simp only [List.length_cons] at hlen
    cases gs with
    | nil => rw [step_addr_last c s g.fire hs hg.2 hlen]; rfl
    | cons g' gs' =>
      rw [step_addr_more c s g.fire hs hg.2 (by simp only [List.length_cons] at hlen; omega)]
      refine (addr_phase c rest (g' :: gs')
        { s with address := (s.address * 256 + g.fire.sinkData) % 2 ^ c.aw, abc := s.abc + 1 } hs (by simp)
        (by show s.abc + 1 + (g' :: gs').length = c.nA; simp only [List.length_cons] at hlen ⊢; omega)
        (fun x hx => hw x (by simp [hx]))).trans ?_
      rw [bytesOf_cons g, shiftBytes_cons]
      rfl

theorem step_data_more (c : BoneCfg) (s : BoneCore) (i : BoneIn) (hs : s.fsm = .recvData) (hv : i.sinkValid = true)
    (h : s.dbc + 1 < c.nB) :
    boneCoreStep c s i = { s with data := (s.data * 256 + i.sinkData) % 2 ^ c.dw, dbc := s.dbc + 1 } := by
  have hd : dbcDone c s = false := by simp only [dbcDone, beq_eq_false_iff_ne]; omega
  simp only [boneCoreStep, hs, hv, hd, if_true, Nat.mod_eq_of_lt h, Bool.false_eq_true, if_false]

theorem step_data_last (c : BoneCfg) (s : BoneCore) (i : BoneIn) (hs : s.fsm = .recvData) (hv : i.sinkValid = true)
    (h : s.dbc + 1 = c.nB) :
    boneCoreStep c s i = { s with data := (s.data * 256 + i.sinkData) % 2 ^ c.dw, dbc := 0, fsm := .writeData } := by
  have hd : dbcDone c s = true := by simp only [dbcDone, beq_iff_eq]; omega
  simp only [boneCoreStep, hs, hv, hd, if_true, h, Nat.mod_self]

/-- The remaining bytes of a data word, `dbc` of them already received; the last one starts the bus cycle. -/
theorem data_phase (c : BoneCfg) (rest : List BoneIn) : ∀ (gs : List Seg) (s : BoneCore),
    s.fsm = .recvData → gs ≠ [] → s.dbc + gs.length = c.nB → (∀ g ∈ gs, g.waits (·.sinkValid)) →
    boneObs c s (cyclesOf gs ++ rest)
      = boneObs c { s with data := shiftBytes (2 ^ c.dw) s.data (bytesOf gs), dbc := 0, fsm := .writeData } rest
  | [], _, _, h, _, _ => absurd rfl h
  | g :: gs, s, hs, _, hlen, hw => by
    have hg := hw g (by simp)
    rw [cyclesOf, List.append_assoc, List.cons_append, obs_sink_seg c g _ s (.inr (.inr hs)) hg]
    simp only [List.length_cons] at hlen
    cases gs with
    | nil => rw [step_data_last c s g.fire hs hg.2 hlen]; rfl
    | cons g' gs' =>
      rw [step_data_more c s g.fire hs hg.2 (by simp only [List.length_cons] at hlen; omega)]
      refine (data_phase c rest (g' :: gs')
        { s with data := (s.data * 256 + g.fire.sinkData) % 2 ^ c.dw, dbc := s.dbc + 1 } hs (by simp)
        (by show s.dbc + 1 + (g' :: gs').length = c.nB; simp only [List.length_cons] at hlen ⊢; omega)
        (fun x hx => hw x (by simp [hx]))).trans ?_
      rw [bytesOf_cons g, shiftBytes_cons]

theorem write_phase (c : BoneCfg) (g : Seg) (rest : List BoneIn) (hw : g.waits (·.ack)) (s : BoneCore)
    (hs : s.fsm = .writeData) :
    boneObs c s (g.pre ++ g.fire :: rest)
      = Obs.pre [{ we := true, adr := s.address % 2 ^ c.adrW, datW := s.data, sel := 2 ^ c.nB - 1 }] []
          (boneObs c (wordDone c s .recvData) rest) := by
  rw [obs_seg c (·.ack) g rest s (by simp [hs]) (by intro i; simp [boneFires, hs]) hw]
  simp [boneCoreStep, hs, hw.2, boneBusEv, boneSrcEv, boneCoreOut]

theorem read_phase (c : BoneCfg) (g : Seg) (rest : List BoneIn) (hw : g.waits (·.ack)) (s : BoneCore)
    (hs : s.fsm = .readData) :
    boneObs c s (g.pre ++ g.fire :: rest)
      = Obs.pre [{ we := false, adr := s.address % 2 ^ c.adrW, datW := 0, sel := 2 ^ c.nB - 1 }] []
          (boneObs c { s with data := g.fire.datR, fsm := .sendData } rest) := by
  rw [obs_seg c (·.ack) g rest s (by simp [hs]) (by intro i; simp [boneFires, hs]) hw]
  simp [boneCoreStep, hs, hw.2, boneBusEv, boneSrcEv, boneCoreOut,
    show (BoneFsm.readData == BoneFsm.writeData) = false from rfl]

/-- Bytes `d, d+1, …` (`m` of them) of an `nB`-byte word, most significant first; `last` accompanies byte
    `nB - 1` when `wd` (the word is the final one of the burst). -/
def sendBytes (nB data : Nat) (wd : Bool) : Nat → Nat → List (Nat × Bool)
  | _, 0 => []
  | d, m + 1 => ((data / 256 ^ (nB - 1 - d)) % 256, (d == nB - 1) && wd) :: sendBytes nB data wd (d + 1) m

theorem bone_ev_send (c : BoneCfg) (s : BoneCore) (i : BoneIn) (hs : s.fsm = .sendData) (hv : i.sourceReady = true) :
    boneBusEv c s i = [] ∧
    boneSrcEv c s i = [((s.data / 256 ^ (c.nB - 1 - s.dbc)) % 256, (s.dbc == c.nB - 1) && wcDone s)] := by
  simp [boneBusEv, boneSrcEv, boneCoreOut, hs, hv, dbcDone]

theorem step_send_more (c : BoneCfg) (s : BoneCore) (i : BoneIn) (hs : s.fsm = .sendData) (hv : i.sourceReady = true)
    (h : s.dbc + 1 < c.nB) : boneCoreStep c s i = { s with dbc := s.dbc + 1 } := by
  have hd : dbcDone c s = false := by simp only [dbcDone, beq_eq_false_iff_ne]; omega
  simp only [boneCoreStep, hs, hv, hd, if_true, Nat.mod_eq_of_lt h, Bool.false_eq_true, if_false]

theorem step_send_last (c : BoneCfg) (s : BoneCore) (i : BoneIn) (hs : s.fsm = .sendData) (hv : i.sourceReady = true)
    (h : s.dbc + 1 = c.nB) : boneCoreStep c s i = wordDone c { s with dbc := 0 } .readData := by
  have hd : dbcDone c s = true := by simp only [dbcDone, beq_iff_eq]; omega
  simp only [boneCoreStep, hs, hv, hd, if_true, h, Nat.mod_self]

theorem send_phase (c : BoneCfg) (rest : List BoneIn) : ∀ (gs : List Seg) (s : BoneCore),
    s.fsm = .sendData → gs ≠ [] → s.dbc + gs.length = c.nB → (∀ g ∈ gs, g.waits (·.sourceReady)) →
    boneObs c s (cyclesOf gs ++ rest)
      = Obs.pre [] (sendBytes c.nB s.data (wcDone s) s.dbc gs.length)
          (boneObs c (wordDone c { s with dbc := 0 } .readData) rest)
  | [], _, _, h, _, _ => absurd rfl h
  | g :: gs, s, hs, _, hlen, hw => by
    have hg := hw g (by simp)
    have hev := bone_ev_send c s g.fire hs hg.2
    rw [cyclesOf, List.append_assoc, List.cons_append,
      obs_seg c (·.sourceReady) g _ s (by simp [hs]) (by intro i; simp [boneFires, hs]) hg, hev.1, hev.2]
    simp only [List.length_cons] at hlen
    cases gs with
    | nil => rw [step_send_last c s g.fire hs hg.2 hlen]; rfl
    | cons g' gs' =>
      rw [step_send_more c s g.fire hs hg.2 (by simp only [List.length_cons] at hlen; omega),
        send_phase c rest (g' :: gs') { s with dbc := s.dbc + 1 } hs (by simp)
          (by show s.dbc + 1 + (g' :: gs').length = c.nB; simp only [List.length_cons] at hlen ⊢; omega)
          (fun x hx => hw x (by simp [hx])), Obs.pre_pre]
      rfl

theorem wordDone_last (c : BoneCfg) (s : BoneCore) (again : BoneFsm) (h : s.wc + 1 = s.length) :
    (wordDone c s again).fsm = .recvCmd := by simp [wordDone, wcDone, h]

theorem wordDone_more (c : BoneCfg) (s : BoneCore) (again : BoneFsm) (h : s.wc + 1 ≠ s.length) :
    wordDone c s again
      = { s with wc := (s.wc + 1) % 256, address := (s.address + b2n s.incr) % 2 ^ c.aw, fsm := again } := by
  simp [wordDone, wcDone, h]

/-- One word of a write burst: its bytes (with gaps), then the bus cycle (with its ack delay). -/
structure WrWord where
  bytes : List Seg
  bus   : Seg

def WrWord.ok (c : BoneCfg) (w : WrWord) : Prop :=
  w.bytes.length = c.nB ∧ SinkSegs w.bytes ∧ w.bus.waits (·.ack)

def wrCycles : List WrWord → List BoneIn
  | [] => []
  | w :: ws => cyclesOf w.bytes ++ (w.bus.pre ++ w.bus.fire :: wrCycles ws)

/-- The accesses a write burst owes the bus: word after word at `a`, `a + incr`, … (modulo `2^aw`, shown on the
    `adrW` address lines), `dat_w` the big-endian word, all byte lanes selected. -/
def wrLog (c : BoneCfg) (incr : Bool) : Nat → List (List Nat) → List BoneAccess
  | _, [] => []
  | a, w :: ws =>
    { we := true, adr := a % 2 ^ c.adrW, datW := beVal w, sel := 2 ^ c.nB - 1 }
      :: wrLog c incr ((a + b2n incr) % 2 ^ c.aw) ws

theorem sinkSegs_waits {gs : List Seg} (h : SinkSegs gs) : ∀ g ∈ gs, g.waits (·.sinkValid) :=
  fun g hg => (h g hg).1

theorem sinkSegs_bytes {gs : List Seg} (h : SinkSegs gs) : ∀ b ∈ bytesOf gs, b < 256 := by
  intro b hb
  simp only [bytesOf, List.mem_map] at hb
  obtain ⟨g, hg, rfl⟩ := hb
  exact (h g hg).2

/-- The words of a write burst still to come (`wc` of them done).  The hypothesis on `fsm` lets the induction include
    the empty rest: `wordDone` sets `fsm := if wcDone then RECEIVE-CMD else RECEIVE-DATA`, and `wcDone` holds exactly
    when no word is left, so the state after each word meets it again without a case split on "last word". -/
theorem write_words (c : BoneCfg) : ∀ (ws : List WrWord) (s : BoneCore),
    s.fsm = (if ws.isEmpty then .recvCmd else .recvData) → s.dbc = 0 → s.wc + ws.length = s.length → s.length ≤ 255 →
    (∀ w ∈ ws, w.ok c) →
    ∃ f, boneObs c s (wrCycles ws) = (f, wrLog c s.incr s.address (ws.map (bytesOf ·.bytes)), []) ∧
         f.fsm = .recvCmd
  | [], s, hs, _, _, _, _ => ⟨s, rfl, hs⟩
  | w :: ws, s, hs, hd, hlen, hL, hok => by
    obtain ⟨hwl, hws, hwb⟩ := hok w List.mem_cons_self
    have hne : w.bytes ≠ [] := by
      intro h0; have := nB_pos c; simp [h0] at hwl; omega
    have hfull : shiftBytes (2 ^ c.dw) s.data (bytesOf w.bytes) = beVal (bytesOf w.bytes) :=
      shiftBytes_full c.nB s.data _ (by simp [bytesOf, hwl]) (nB_pos c) (sinkSegs_bytes hws)
    rw [List.length_cons] at hlen
    rw [wrCycles, data_phase c _ w.bytes s hs hne (by rw [hd, hwl]; simp) (sinkSegs_waits hws), hfull,
        write_phase c w.bus _ hwb _ rfl]
    -- `wordDone` steps `wc` and the address and returns to RECEIVE-CMD exactly when no word is left
    obtain ⟨f, hf, hff⟩ := write_words c ws
      (wordDone c { s with data := beVal (bytesOf w.bytes), dbc := 0, fsm := .writeData } .recvData)
      (by cases ws with
          | nil => exact if_pos (beq_iff_eq.mpr hlen)
          | cons _ _ =>
            exact if_neg (by show ¬ (s.wc + 1 == s.length) = true; rw [beq_iff_eq, ← hlen, List.length_cons]; omega))
      rfl (by show (s.wc + 1) % 256 + ws.length = s.length; omega) hL
      (fun x hx => hok x (List.mem_cons_of_mem _ hx))
    exact ⟨f, by rw [hf]; rfl, hff⟩

/-- One word of a read burst: the bus cycle (with its ack delay, `fire.datR` is the word read), then the bytes
    going out (with source stalls). -/
structure RdWord where
  bus   : Seg
  bytes : List Seg

def RdWord.ok (c : BoneCfg) (w : RdWord) : Prop :=
  w.bus.waits (·.ack) ∧ w.bytes.length = c.nB ∧ ∀ g ∈ w.bytes, g.waits (·.sourceReady)

def rdCycles : List RdWord → List BoneIn
  | [] => []
  | w :: ws => w.bus.pre ++ w.bus.fire :: (cyclesOf w.bytes ++ rdCycles ws)

/-- The accesses a read burst of `k` words owes the bus. -/
def rdLog (c : BoneCfg) (incr : Bool) : Nat → Nat → List BoneAccess
  | _, 0 => []
  | a, k + 1 =>
    { we := false, adr := a % 2 ^ c.adrW, datW := 0, sel := 2 ^ c.nB - 1 }
      :: rdLog c incr ((a + b2n incr) % 2 ^ c.aw) k

/-- The bytes a read burst owes the host: every word most significant byte first, `last` on the final byte of
    the final word only. -/
def rdSrc (nB : Nat) : List Nat → List (Nat × Bool)
  | [] => []
  | d :: ds => sendBytes nB d ds.isEmpty 0 nB ++ rdSrc nB ds

theorem read_words (c : BoneCfg) : ∀ (ws : List RdWord) (s : BoneCore),
    s.fsm = (if ws.isEmpty then .recvCmd else .readData) → s.dbc = 0 → s.wc + ws.length = s.length → s.length ≤ 255 →
    (∀ w ∈ ws, w.ok c) →
    ∃ f, boneObs c s (rdCycles ws)
           = (f, rdLog c s.incr s.address ws.length, rdSrc c.nB (ws.map (·.bus.fire.datR))) ∧
         f.fsm = .recvCmd
  | [], s, hs, _, _, _, _ => ⟨s, rfl, hs⟩
  | w :: ws, s, hs, hd, hlen, hL, hok => by
    obtain ⟨hwb, hwl, hws⟩ := hok w List.mem_cons_self
    have hne : w.bytes ≠ [] := by
      intro h0; have := nB_pos c; simp [h0] at hwl; omega
    rw [List.length_cons] at hlen
    rw [rdCycles, read_phase c w.bus _ hwb s hs, send_phase c _ w.bytes _ rfl hne (by simp [hd, hwl]) hws]
    -- `last` accompanies this word's final byte, and `wordDone` returns to RECEIVE-CMD, exactly when no word is left
    have hdone : (s.wc + 1 == s.length) = ws.isEmpty := by
      cases ws with
      | nil => exact beq_iff_eq.mpr hlen
      | cons _ _ => exact beq_eq_false_iff_ne.mpr (by rw [← hlen, List.length_cons]; omega)
    obtain ⟨f, hf, hff⟩ := read_words c ws
      (wordDone c { s with data := w.bus.fire.datR, fsm := .sendData, dbc := 0 } .readData)
      (by show (if (s.wc + 1 == s.length) = true then _ else _) = _; rw [hdone])
      rfl (by show (s.wc + 1) % 256 + ws.length = s.length; omega) hL
      (fun x hx => hok x (List.mem_cons_of_mem _ hx))
    refine ⟨f, ?_, hff⟩
    rw [hf, hd, hwl, List.map_cons, rdSrc, List.isEmpty_map, ← hdone]
    rfl

theorem wrLog_length (c : BoneCfg) (incr : Bool) : ∀ (ws : List (List Nat)) (a : Nat),
    (wrLog c incr a ws).length = ws.length := by
  intro ws; induction ws with
  | nil => intro a; rfl
  | cons w ws ih => intro a; simp [wrLog, ih]

theorem wrLog_get (c : BoneCfg) (incr : Bool) : ∀ (ws : List (List Nat)) (a j : Nat) (h : j < ws.length),
    (wrLog c incr (a % 2 ^ c.aw) ws)[j]? =
      some { we := true, adr := ((a + j * b2n incr) % 2 ^ c.aw) % 2 ^ c.adrW, datW := beVal ws[j],
             sel := 2 ^ c.nB - 1 } := by
  intro ws
  induction ws with
  | nil => intro a j h; simp at h
  | cons w ws ih =>
    intro a j h
    cases j with
    | zero => simp [wrLog]
    | succ j =>
      simp only [wrLog, List.getElem?_cons_succ, List.getElem_cons_succ]
      rw [Nat.mod_add_mod, ih (a + b2n incr) j (by simpa using h)]
      have : a + b2n incr + j * b2n incr = a + (j + 1) * b2n incr := by rw [Nat.succ_mul]; omega
      rw [this]

theorem rdLog_length (c : BoneCfg) (incr : Bool) : ∀ (k a : Nat), (rdLog c incr a k).length = k := by
  intro k; induction k with
  | zero => intro a; rfl
  | succ k ih => intro a; simp [rdLog, ih]

theorem rdLog_get (c : BoneCfg) (incr : Bool) : ∀ (k a j : Nat) (h : j < k),
    (rdLog c incr (a % 2 ^ c.aw) k)[j]? =
      some { we := false, adr := ((a + j * b2n incr) % 2 ^ c.aw) % 2 ^ c.adrW, datW := 0, sel := 2 ^ c.nB - 1 } := by
  intro k
  induction k with
  | zero => intro a j h; omega
  | succ k ih =>
    intro a j h
    cases j with
    | zero => simp [rdLog]
    | succ j =>
      simp only [rdLog, List.getElem?_cons_succ]
      rw [Nat.mod_add_mod, ih (a + b2n incr) j (by omega)]
      have : a + b2n incr + j * b2n incr = a + (j + 1) * b2n incr := by rw [Nat.succ_mul]; omega
      rw [this]

theorem sendBytes_eq (nB data : Nat) (wd : Bool) : ∀ (m d : Nat),
    sendBytes nB data wd d m
      = (List.range m).map fun k => ((data / 256 ^ (nB - 1 - (d + k))) % 256, (d + k == nB - 1) && wd) := by
  intro m
  induction m with
  | zero => intro d; rfl
  | succ m ih =>
    intro d
    rw [sendBytes, ih (d + 1), List.range_succ_eq_map]
    simp [Nat.add_assoc, Nat.add_comm 1]

/-- The cycles of a command header: command byte, length byte, address bytes (each with its gap), then `rest`. -/
def headCycles (gc gl : Seg) (gas : List Seg) (rest : List BoneIn) : List BoneIn :=
  gc.pre ++ gc.fire :: (gl.pre ++ gl.fire :: (cyclesOf gas ++ rest))

theorem head_phase (c : BoneCfg) (s : BoneCore) (hs : s.fsm = .recvCmd) (gc gl : Seg) (gas : List Seg)
    (rest : List BoneIn) (hc : gc.waits (·.sinkValid)) (hl : gl.waits (·.sinkValid)) (ha : SinkSegs gas)
    (hal : gas.length = c.nA) :
    boneObs c s (headCycles gc gl gas rest)
      = boneObs c (afterAddr { s with dbc := 0, abc := 0, wc := 0, cmd := gc.fire.sinkData,
                                      length := gl.fire.sinkData, fsm := .recvAddr } (beVal (bytesOf gas))) rest := by
  have hne : gas ≠ [] := by
    intro h0; have := nA_pos c; simp [h0] at hal; omega
  unfold headCycles
  rw [cmd_phase c gc _ hc s hs, len_phase c gl _ hl _ rfl,
      addr_phase c rest gas _ rfl hne (by simp [hal]) (sinkSegs_waits ha)]
  have hfull : ∀ d, shiftBytes (2 ^ c.aw) d (bytesOf gas) = beVal (bytesOf gas) := fun d =>
    shiftBytes_full c.nA d _ (by simp [bytesOf, hal]) (nA_pos c) (sinkSegs_bytes ha)
  simp only [hfull]

theorem out_recvCmd (c : BoneCfg) (s : BoneCore) (h : s.fsm = .recvCmd) :
    (boneCoreOut c s).sinkReady = true ∧ (boneCoreOut c s).cyc = false ∧ (boneCoreOut c s).stb = false ∧
    (boneCoreOut c s).sourceValid = false := by
  simp [boneCoreOut, h]

theorem bone_timer_bounds (t count : Nat) (w : Bool) (h : count ≤ t) :
    count - 1 ≤ WaitTimer.next t count w ∧ WaitTimer.next t count w ≤ t := by
  cases w
  · exact ⟨Nat.le_trans (Nat.sub_le _ _) h, Nat.le_refl t⟩
  · rw [WaitTimer.next_true]; exact ⟨Nat.le_refl _, Nat.le_trans (Nat.sub_le _ _) h⟩

theorem bone_timer_reload (c : BoneCfg) (s : BoneSt) (i : BoneIn) (h : s.core.fsm = .recvCmd) :
    (boneNext c s i).timer = c.t := by
  show WaitTimer.next c.t s.timer (s.core.fsm != .recvCmd) = c.t
  rw [h]; rfl

theorem bone_timer_le (c : BoneCfg) (s : BoneSt) (i : BoneIn) (h : s.timer ≤ c.t) : (boneNext c s i).timer ≤ c.t :=
  (bone_timer_bounds c.t s.timer _ h).2

theorem bone_reaches_cmd (c : BoneCfg) : ∀ (n : Nat) (s : BoneSt) (ins : List BoneIn), s.timer = n → n + 1 ≤ ins.length →
    ∃ k, k ≤ n + 1 ∧ ((bone c).runFrom s (ins.take k)).core.fsm = .recvCmd
  | _, _, [], _, h => absurd h (Nat.not_succ_le_zero _)
  | 0, s, i :: _, ht, _ =>
    -- the expired timer resets the FSM in this cycle
    ⟨1, Nat.le_refl _, by
      show (boneCoreNext c s.core i (WaitTimer.done s.timer)).fsm = _
      rw [ht]; rfl⟩
  | n + 1, s, i :: is, ht, hlen => by
    by_cases h : s.core.fsm = .recvCmd
    · exact ⟨0, Nat.zero_le _, h⟩
    · -- outside RECEIVE-CMD the timer steps down
      have ht' : ((bone c).next s i).timer = n := by
        show WaitTimer.next c.t s.timer (s.core.fsm != .recvCmd) = n
        rw [bne_iff_ne.mpr h, WaitTimer.next_true, ht]; rfl
      obtain ⟨k, hk, hfs⟩ := bone_reaches_cmd c n _ is ht' (Nat.le_of_succ_le_succ hlen)
      exact ⟨k + 1, Nat.succ_le_succ hk, hfs⟩

end Litex.Periph
