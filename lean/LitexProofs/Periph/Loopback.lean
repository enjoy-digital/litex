import LitexProofs.Periph.RxPad
/-
  TX pad wired to RX pad, same clock, equal tuning words: the transmitter's pad during a frame (`txPad`), and the exact
  alignment condition `loopbackAligned tw` (decidable) under which sample point `b + 1` sees bit `b` (`b = 0 … 9`), with
  two windows of tuning words that satisfy it and the byte recovered under it (`loopback_recovers`).
-/
namespace Litex.Periph
open Litex

/-- With at least four clock cycles per bit, one cycle after sample point `b + 1` the transmitter is still inside
    bit `b`. -/
theorem loopback_arith (tw b : Nat) (h0 : 0 < tw) (h4 : 4 * tw ≤ M32) :
    ((rxSampleCycle tw (b + 1) + 1) * tw) / M32 = b := by
  have hc := rxSampleCycle_bounds tw b h0
  apply Nat.div_eq_of_lt_le
  · rw [Nat.succ_mul]; unfold M32 at *; omega
  · rw [Nat.succ_mul]; unfold M32 at *; omega

/-- Pad of the transmitter in cycle `t` of a run. -/
def txPad (tw : Nat) (sT : TxSt) (f : Nat → TxIn) (t : Nat) : Bool := (runFn (uartTx tw) sT f t).tx

theorem txPad_frame (tw : Nat) (htw : tw < M32) (sT : TxSt) (hrun : sT.run = false) (htx : sT.tx = true)
    (f : Nat → TxIn) (hv : (f 0).valid = true) (hd : (f 0).data < 256) :
    txPad tw sT f 0 = true ∧
    ∀ r, r * tw < 10 * M32 → txPad tw sT f (1 + r) = frameBit (f 0).data (r * tw / M32) := by
  refine ⟨htx, fun r hr => ?_⟩
  unfold txPad
  rw [runFn_add]
  have h1 : runFn (uartTx tw) sT f 1 = txRunSt tw (f 0).data 0 := by
    show txNext tw sT (f 0) = _
    exact tx_accept tw htw sT (f 0) hrun hv hd
  rw [h1, tx_run tw (f 0).data htw _ r hr]
  show txHwBit _ _ = _
  exact txHwBit_eq_frameBit _ _ hd

/-- TX wired to RX, equal tuning words: one cycle after sample point `b + 1` the transmitter's phase accumulator has
    wrapped exactly `b` times, for all ten sample points. -/
def loopbackAligned (tw : Nat) : Bool :=
  (List.range 10).all (fun b => ((rxSampleCycle tw (b + 1) + 1) * tw) / M32 == b)

theorem loopbackAligned_iff (tw : Nat) :
    loopbackAligned tw = true ↔ ∀ b, b ≤ 9 → ((rxSampleCycle tw (b + 1) + 1) * tw) / M32 = b := by
  unfold loopbackAligned
  simp only [List.all_eq_true, List.mem_range, beq_iff_eq]
  constructor
  · intro h b hb; exact h b (by omega)
  · intro h b hb; exact h b (by omega)

theorem loopbackAligned_of_four (tw : Nat) (h0 : 0 < tw) (h4 : 4 * tw ≤ M32) : loopbackAligned tw = true :=
  (loopbackAligned_iff tw).mpr (fun b _ => loopback_arith tw b h0 h4)

/-- A second aligned window, not covered by `4·tw ≤ 2^32`: between 3 and 3 + 1/19 cycles per bit
    (`19·2^32 ≤ 58·tw`, `3·tw < 2^32`) sample point `b + 1` is taken in RUN cycle `3b + 2`, and one cycle later the
    transmitter is still in bit `b`.  `19/58`: sample point 10 must still fall in RUN cycle `3·9 + 2 = 29`, i.e.
    `9.5·2^32 ≤ 29·tw`. -/
theorem loopbackAligned_of_three (tw : Nat) (h3 : 3 * tw < M32) (h58 : 19 * M32 ≤ 58 * tw) :
    loopbackAligned tw = true := by
  apply (loopbackAligned_iff tw).mpr
  intro b hb
  -- everything is linear in the atoms `b * tw`, `b * M32`, `tw`, `HALF32`
  have h1 : b * (3 * tw + 1) ≤ b * M32 := Nat.mul_le_mul_left b h3
  have h2 : b * (19 * M32) ≤ b * (58 * tw) := Nat.mul_le_mul_left b h58
  have h9 : b * tw ≤ 9 * tw := Nat.mul_le_mul_right tw hb
  rw [Nat.mul_add, Nat.mul_left_comm, Nat.mul_one] at h1
  rw [Nat.mul_left_comm, Nat.mul_left_comm b 58] at h2
  have hM : M32 = 2 * HALF32 := rfl
  have eH : (2 * (b + 1) - 1) * HALF32 = b * M32 + HALF32 := by unfold M32 HALF32; omega
  have e2 : (3 * b + 2) * tw = 3 * (b * tw) + 2 * tw := by rw [Nat.add_mul, Nat.mul_assoc]
  have e3 : (3 * b + 2 + 1) * tw = 3 * (b * tw) + 3 * tw := by rw [Nat.add_mul, e2]; omega
  have hc : rxSampleCycle tw (b + 1) = 3 * b + 2 := by
    unfold rxSampleCycle
    rw [eH]
    apply Nat.div_eq_of_lt_le
    · rw [e2]; omega
    · rw [e3]; omega
  rw [hc, e3]
  apply Nat.div_eq_of_lt_le
  · omega
  · rw [Nat.add_mul b 1 M32]; omega

/-- The alignment at `b = 1` fails for `tw = 0` (the quotient is 0, not 1). -/
theorem loopbackAligned_pos (tw : Nat) (h : loopbackAligned tw = true) : 0 < tw := by
  have h1 := (loopbackAligned_iff tw).mp h 1 (by omega)
  cases tw with
  | zero => simp at h1
  | succ n => omega

/-- The alignment at `b = 0` forces `(c + 1)·tw < 2^32` for the first sample cycle `c ≥ 1`. -/
theorem loopbackAligned_lt (tw : Nat) (h : loopbackAligned tw = true) : 2 * tw < M32 := by
  have h0 := loopbackAligned_pos tw h
  have h1 := (loopbackAligned_iff tw).mp h 0 (by omega)
  have hc : 1 ≤ rxSampleCycle tw (0 + 1) := by
    unfold rxSampleCycle
    apply (Nat.le_div_iff_mul_le h0).mpr
    unfold HALF32; omega
  have hmul : (1 + 1) * tw ≤ (rxSampleCycle tw (0 + 1) + 1) * tw := Nat.mul_le_mul_right tw (by omega)
  have hlt : (rxSampleCycle tw (0 + 1) + 1) * tw < M32 := by
    have hM : 0 < M32 := by unfold M32; omega
    have := Nat.div_add_mod ((rxSampleCycle tw (0 + 1) + 1) * tw) M32
    have := Nat.mod_lt ((rxSampleCycle tw (0 + 1) + 1) * tw) hM
    rw [h1] at *
    omega
  omega

/-- Three cycles per bit (`3·tw = 2^32 − 1`) is aligned although `4·tw > 2^32`. -/
example : loopbackAligned 0x55555555 = true ∧ ¬ 4 * 0x55555555 ≤ M32 := by decide

/-- One more (`3·tw = 2^32 + 2`) is not. -/
example : loopbackAligned 0x55555556 = false := by decide

/-- `4 + …`: the byte is accepted in cycle 0, so the start edge is on the pad in cycle 1 (`t0 = 1` of `rx_pad_recovers`). -/
theorem loopback_recovers (tw : Nat) (hal : loopbackAligned tw = true) (sT : TxSt) (hTrun : sT.run = false)
    (hTtx : sT.tx = true) (f : Nat → TxIn) (hv : (f 0).valid = true) (hd : (f 0).data < 256)
    (sR : RxSt) (hRrun : sR.run = false) (hr0 : sR.r0 = true) (hrx : sR.rx = true) (hrxd : sR.rxD = true)
    (hdat : sR.data < 256) :
    let pad := txPad tw sT f
    let o := fun t => (uartRx tw).out (runFn (uartRx tw) sR pad t) (pad t)
    let R := 4 + rxSampleCycle tw 10
    (o R).valid = true ∧ (o R).data = (f 0).data ∧ ∀ t, t < R → (o t).valid = false := by
  intro pad o R
  have h0 : 0 < tw := loopbackAligned_pos tw hal
  have htw : tw < M32 := by have := loopbackAligned_lt tw hal; omega
  have hp := txPad_frame tw htw sT hTrun hTtx f hv hd
  have hp1 : pad 1 = false := by
    have := hp.2 0 (by unfold M32; omega)
    rwa [Nat.zero_mul, Nat.zero_div] at this
  -- seen through the synchroniser and the detection cycle, sample point `b + 1` falls into the transmitter's bit `b`
  have hline : ∀ b, b ≤ 9 → pad (1 + 1 + rxSampleCycle tw (b + 1)) = frameBit (f 0).data b := by
    intro b hb
    have ha := (loopbackAligned_iff tw).mp hal b hb
    have hlt : (rxSampleCycle tw (b + 1) + 1) * tw < 10 * M32 :=
      (Nat.div_lt_iff_lt_mul (by decide)).mp (by omega)
    rw [show 1 + 1 + rxSampleCycle tw (b + 1) = 1 + (rxSampleCycle tw (b + 1) + 1) by omega]
    exact ((hp.2 _ hlt).trans (by rw [ha]))
  have h := rx_pad_recovers tw h0 htw sR hRrun hr0 hrx hrxd hdat pad 1
    (fun t ht => by obtain rfl : t = 0 := by omega
                    exact hp.1) hp1 (f 0).data hd hline
  exact ⟨h.1, h.2.1, h.2.2.1⟩

end Litex.Periph
