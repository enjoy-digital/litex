import LitexProofs.Periph.Spi
/-
  SPIMaster with `cs`, `cs_mode`, `loopback` and `pads.miso` arbitrary in every cycle (only divider and length held).
  The control state never reads `cs`, `cs_mode`, `pads.cs_n`, and `loopback` only replaces the sampled MISO by the MOSI
  pad: every run is, up to the chip-select register, the run under the *normalised* inputs (`spiNormIn`), for which
  `Spi.lean` has the phase invariants.
-/
namespace Litex.Periph
open Litex

/-- What the capture register samples on a rise strobe: the MOSI pad under `loopback`, else `pads.miso`.  The received
    word of `Litex.C19.spi_master_any_options` is stated bit by bit in these terms. -/
def spiSampled (s : SpiSt) (x : SpiIn) : Bool := if x.loopback then s.mosi else x.miso

/-- Normalised input: chip select on, automatic CS mode, no loopback, `miso` := what is really sampled. -/
def spiNormIn (s : SpiSt) (x : SpiIn) : SpiIn :=
  { x with cs := true, csMode := false, loopback := false, miso := spiSampled s x }

def clrCs (s : SpiSt) : SpiSt := { s with csN := false }

theorem spiNext_clrCs (c : SpiCfg) (s : SpiSt) (x : SpiIn) : spiNext c (clrCs s) x = spiNext c s x := rfl

theorem spiNormIn_clrCs (s : SpiSt) (x : SpiIn) : spiNormIn (clrCs s) x = spiNormIn s x := rfl

theorem spiXfer_norm (s : SpiSt) (x : SpiIn) : spiXfer s (spiNormIn s x) = spiXfer s x := rfl

theorem spiNext_norm (c : SpiCfg) (s : SpiSt) (x : SpiIn) :
    clrCs (spiNext c s x) = clrCs (spiNext c s (spiNormIn s x)) := rfl

def spiNormRun (c : SpiCfg) (s : SpiSt) (g : Nat → SpiIn) (t : Nat) : SpiIn :=
  spiNormIn (runFn (spiMaster c) s g t) (g t)

theorem spi_run_norm (c : SpiCfg) (s : SpiSt) (g : Nat → SpiIn) (t : Nat) :
    clrCs (runFn (spiMaster c) s g t) = clrCs (runFn (spiMaster c) s (spiNormRun c s g) t) := by
  induction t with
  | zero => rfl
  | succ t ih =>
    show clrCs (spiNext c (runFn (spiMaster c) s g t) (g t)) =
         clrCs (spiNext c (runFn (spiMaster c) s (spiNormRun c s g) t) (spiNormRun c s g t))
    rw [spiNext_norm, ← spiNext_clrCs c (runFn (spiMaster c) s (spiNormRun c s g) t), ← ih, spiNext_clrCs]
    rfl

theorem spiOut_norm (c : SpiCfg) (s : SpiSt) (g : Nat → SpiIn) (t : Nat) :
    let o := (spiMaster c).out (runFn (spiMaster c) s g t) (g t)
    let o' := (spiMaster c).out (runFn (spiMaster c) s (spiNormRun c s g) t) (spiNormRun c s g t)
    spiXfer (runFn (spiMaster c) s g t) (g t) = spiXfer (runFn (spiMaster c) s (spiNormRun c s g) t) (spiNormRun c s g t) ∧
    o.clk = o'.clk ∧ o.mosi = o'.mosi ∧ o.done = o'.done ∧ o.irq = o'.irq ∧ o.miso = o'.miso := by
  have h := spi_run_norm c s g t
  have h1 : (runFn (spiMaster c) s g t).cnt = (runFn (spiMaster c) s (spiNormRun c s g) t).cnt := (congrArg SpiSt.cnt h :)
  have h3 : (runFn (spiMaster c) s g t).fsm = (runFn (spiMaster c) s (spiNormRun c s g) t).fsm := (congrArg SpiSt.fsm h :)
  refine ⟨?_, (congrArg SpiSt.clk h :), (congrArg SpiSt.mosi h :), ?_, ?_, (congrArg SpiSt.miso h :)⟩
  · show spiXfer _ (g t) = spiXfer _ (g t)
    rw [spiXfer, spiXfer, spiFall, spiFall, h1, h3]
  · show (_ == SpiFsm.idle && !(g t).start) = (_ == SpiFsm.idle && !(g t).start)
    rw [h3]
  · show (_ == SpiFsm.stop && spiRise _ (g t)) = (_ == SpiFsm.stop && spiRise _ (g t))
    rw [spiRise, spiRise, h1, h3]

/-- The normalised run's chip-select register is `¬xfer_enable` of either run. -/
theorem spi_csN_norm (c : SpiCfg) (s : SpiSt) (g : Nat → SpiIn) (t : Nat) (b : Bool)
    (hb : (runFn (spiMaster c) s (spiNormRun c s g) (t + 1)).csN = b) :
    (runFn (spiMaster c) s g (t + 1)).csN = !((g t).cs && (!b || (g t).csMode)) := by
  rw [show (runFn (spiMaster c) s g (t + 1)).csN =
    !((g t).cs && (spiXfer (runFn (spiMaster c) s g t) (g t) || (g t).csMode)) from rfl, (spiOut_norm c s g t).1, ← hb]
  show _ = !(_ && (!(!(true && (spiXfer _ (spiNormRun c s g t) || false))) || _))
  rw [Bool.true_and, Bool.or_false, Bool.not_not]


/-- The START wait in closed form: with the divider at `c < div` after the acceptance cycle, `n + 1` START cycles. -/
theorem start_wait_len {c div : Nat} (hc : c < div) : ∃ n, c + n + 1 = div ∧ 1 + (div - c) = n + 2 := by
  obtain ⟨n, rfl⟩ := Nat.exists_eq_add_of_lt hc
  exact ⟨n, rfl, by rw [Nat.add_assoc, Nat.add_sub_cancel_left, Nat.add_comm]⟩

/-- **The phases of one transfer** under `SpiHold`, from the IDLE cycle 0 with `start = 1`: `n + 1` START cycles (cycles
    `1 … n + 1`, until the divider, at `(cnt + 1) mod div` after the acceptance cycle, reaches its fall strobe), RUN from
    cycle `n + 2` on (pulse `i`, position `k` in cycle `n + 2 + (i·div + k)`), `div/2` STOP cycles, DONE; `n + 2` is the `T`
    of the property statements, handed over in closed form.  `m0` = the content
    of the capture register on entry into RUN (it has shifted during START; `L ≤ data_width` samples later nothing of it is
    read), the samples are `pads.miso` at the rise strobes counted from cycle `n + 2`. -/
theorem spi_phases {c : SpiCfg} {div L : Nat} {f : Nat → SpiIn} {s : SpiSt} (hdiv : 2 ≤ div) (hd16 : div < 65536)
    (hL : 1 ≤ L) (hLw : L ≤ c.dw) (hf : ∀ t, SpiHold div L (f t)) (hs : IdleOk div s) (hst : (f 0).start = true) :
    let st := fun t => runFn (spiMaster c) s f t
    ∃ n, 1 + (div - (s.cnt + 1) % div) = n + 2 ∧
      let fr := fun t => f (n + 2 + t)
      (∀ j, j ≤ n → StartInv c div L (f 0).mosi (st (j + 1))) ∧
      (∀ i, i < L → ∀ k, k < div →
        RunInv c div L (f 0).mosi (st (n + 2)).misoData (spiSmp fr div) i k (st (n + 2 + (i * div + k)))) ∧
      (∀ k, k < div / 2 → StopInv c div L (st (n + 2)).misoData (spiSmp fr div) k (st (n + 2 + (L * div + k)))) ∧
      DoneInv c L (st (n + 2)).misoData (spiSmp fr div) (st (n + 2 + (L * div + div / 2))) := by
  intro st
  obtain ⟨n, hn, hT⟩ := start_wait_len (Nat.mod_lt (s.cnt + 1) (Nat.lt_of_lt_of_le Nat.zero_lt_two hdiv))
  refine ⟨n, hT, ?_⟩
  intro fr
  have h1 : StartInv c div L (f 0).mosi (st 1) := (spi_accept hdiv hd16 hL hLw (hf 0) hst hs).2.2.2
  have hc1 : (st 1).cnt = (s.cnt + 1) % div := spiNext_cnt_mod c hdiv hd16 (hf 0).div hs.cnt
  -- `j` cycles after the acceptance cycle the master still waits in START, the divider `j` steps further
  have hstart : ∀ j, j ≤ n → StartInv c div L (f 0).mosi (st (j + 1)) ∧ (st (j + 1)).cnt = (s.cnt + 1) % div + j := by
    intro j
    induction j with
    | zero => exact fun _ => ⟨h1, hc1⟩
    | succ j ih =>
      intro hj
      obtain ⟨hi, hc⟩ := ih (Nat.le_of_succ_le hj)
      obtain ⟨hn', hcn⟩ := (spi_start_step (fun _ => false) hdiv hd16 hLw (hf (j + 1)) hi).1
        (by rw [hc]; exact Nat.lt_of_lt_of_eq (Nat.add_lt_add_right (Nat.add_lt_add_left hj _) 1) hn)
      exact ⟨hn', hcn.trans (congrArg (· + 1) hc)⟩
  -- the last START cycle is cycle `n + 1`; its fall strobe enters RUN
  obtain ⟨hlast, hcl⟩ := hstart n (Nat.le_refl n)
  have hrun0 : RunInv c div L (f 0).mosi (st (n + 2)).misoData (spiSmp fr div) 0 0 (st (n + 2)) :=
    (spi_start_step (spiSmp fr div) hdiv hd16 hLw (hf (n + 1)) hlast).2 (by rw [hcl]; exact hn)
  have hsplit : ∀ t, st (n + 2 + t) = runFn (spiMaster c) (st (n + 2)) fr t := fun t => runFn_add _ s f (n + 2) t
  have hstop := spi_stop hdiv hd16 hL hLw (fun t => hf (n + 2 + t)) hrun0
  refine ⟨fun j hj => (hstart j hj).1, fun i hi k hk => ?_, fun k hk => ?_, ?_⟩
  · rw [hsplit]
    exact spi_run hdiv hd16 hLw (fun t => hf (n + 2 + t)) hrun0 i hi k hk
  · rw [hsplit]; exact hstop.1 k hk
  · rw [hsplit]; exact hstop.2.1

/-- A cycle of the window RUN + STOP + DONE, counted from the first RUN cycle, is in exactly one of the three phases. -/
theorem spi_window (div L r : Nat) (hdiv : 2 ≤ div) (hr : r ≤ L * div + div / 2) :
    (∃ i k, i < L ∧ k < div ∧ r = i * div + k) ∨ (∃ k, k < div / 2 ∧ r = L * div + k) ∨ r = L * div + div / 2 := by
  by_cases h1 : r < L * div
  · left
    refine ⟨r / div, r % div, ?_, Nat.mod_lt _ (by omega), ?_⟩
    · exact (Nat.div_lt_iff_lt_mul (by omega)).mpr h1
    · have := Nat.div_add_mod r div
      rw [Nat.mul_comm] at this; omega
  · right
    by_cases h2 : r < L * div + div / 2
    · left; exact ⟨r - L * div, by omega, by omega⟩
    · right; omega

/-- Chip select is asserted from the first RUN cycle to the cycle in which `done` returns. -/
theorem spi_phases_csN {c : SpiCfg} {div L w m0 T : Nat} {smp : Nat → Bool} {st : Nat → SpiSt} (hdiv : 2 ≤ div)
    (hR : ∀ i, i < L → ∀ k, k < div → RunInv c div L w m0 smp i k (st (T + (i * div + k))))
    (hP : ∀ k, k < div / 2 → StopInv c div L m0 smp k (st (T + (L * div + k))))
    (hD : DoneInv c L m0 smp (st (T + (L * div + div / 2)))) (r : Nat) (hr : r ≤ L * div + div / 2) :
    (st (T + r)).csN = false := by
  rcases spi_window div L r hdiv hr with ⟨i, k, hi, hk, rfl⟩ | ⟨k, hk, rfl⟩ | rfl
  · exact (hR i hi k hk).csN
  · exact (hP k hk).csN
  · exact hD.csN

end Litex.Periph
