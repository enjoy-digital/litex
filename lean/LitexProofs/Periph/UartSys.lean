import LitexProofs.Periph.UartTop
import LitexProofs.Periph.Uart
/-
  `UART(RS232PHY)`: the TX FIFO's output register feeds the transmitter.  While a frame is on the line the FIFO holds
  its output (valid and byte), the frame is the frame of that byte, and the FIFO is popped exactly in the frame's last
  cycle.
-/
namespace Litex.Periph
open Litex Litex.Stream

def uartSysM (tw dtx drx : Nat) (rxWe : Bool) : Machine UartSysIn UartSysSt Bool where
  init := { top := (uartTopM dtx drx rxWe).init, txp := (uartTx tw).init, rxp := (uartRx tw).init }
  out s _ := s.txp.tx
  next := uartSysNext tw dtx drx rxWe

theorem uartSys_pop (tw : Nat) (s : UartSysSt) (i : UartSysIn) : (uartSysTopIn tw s i).srcRdy = txReady s.txp := rfl

theorem uartSys_tx_step (tw dtx drx : Nat) (rxWe : Bool) (s : UartSysSt) (i : UartSysIn) :
    (uartSysNext tw dtx drx rxWe s i).txp = txNext tw s.txp { valid := s.top.tx.readable, data := s.top.tx.dout.data } ∧
    (s.top.tx.readable = true → txReady s.txp = false →
      (uartSysNext tw dtx drx rxWe s i).top.tx.readable = true ∧
      (uartSysNext tw dtx drx rxWe s i).top.tx.dout = s.top.tx.dout) := by
  refine ⟨by simp [uartSysNext, uartTopOut, syncFifoBuffered], fun hr hn => ?_⟩
  simp [uartSysNext, uartTopNext, uartSysTopIn, syncFifoBuffered, hr, hn]

theorem uartSys_tx_frame (tw dtx drx : Nat) (rxWe : Bool) (htw : tw < M32) (s : UartSysSt) (f : Nat → UartSysIn)
    (hidle : s.txp.run = false) (hv : s.top.tx.readable = true) (hd : s.top.tx.dout.data < 256) (r : Nat)
    (hr : r * tw < 10 * M32) :
    let st := runFn (uartSysM tw dtx drx rxWe) s f (1 + r)
    st.txp = txRunSt tw s.top.tx.dout.data r ∧ st.top.tx.readable = true ∧ st.top.tx.dout = s.top.tx.dout := by
  intro st
  -- cycle 0 accepts the byte; from then on the transmitter runs and, not being ready, leaves the FIFO's output alone
  have h := uartSys_tx_step tw dtx drx rxWe s (f 0)
  have hnr : txReady s.txp = false := by simp [txReady, hidle]
  rw [show st = _ from runFn_add _ s f 1 r]
  exact runFn_inv (uartSysM tw dtx drx rxWe) _ (N := r)
    (Inv := fun t st => st.txp = txRunSt tw s.top.tx.dout.data t ∧ st.top.tx.readable = true ∧
      st.top.tx.dout = s.top.tx.dout)
    ⟨h.1.trans (tx_accept tw htw s.txp _ hidle hv hd), (h.2 hv hnr).1, (h.2 hv hnr).2⟩
    (fun t st ht ⟨h1, h2, h3⟩ => by
      have hs := uartSys_tx_step tw dtx drx rxWe st (f (1 + t))
      have hlt : (t + 1) * tw < 10 * M32 := Nat.lt_of_le_of_lt (Nat.mul_le_mul_right tw ht) hr
      have hnr : txReady st.txp = false := by rw [h1]; exact tx_not_ready tw _ t htw hlt
      exact ⟨hs.1.trans (by rw [h1]; exact tx_run_step tw _ t htw _ hlt), (hs.2 h2 hnr).1,
        ((hs.2 h2 hnr).2).trans h3⟩) r (Nat.le_refl r)

end Litex.Periph
