import LitexModel.Periph.Spi
import LitexProofs.Machine
import LitexProofs.Periph.SpiCount
import LitexProofs.Periph.ShiftIn
/-
  SPIMaster: the transfer as a sequence of phases (START wait, RUN pulse `i` position `k`, STOP),
  each described by an invariant with ghost indices.
-/
namespace Litex.Periph
open Litex

/-- What is held during a transfer; `start`, `mosi` and `pads.miso` are free in every cycle. -/
structure SpiHold (div L : Nat) (i : SpiIn) : Prop where
  div  : i.div = div
  len  : i.length = L
  cs   : i.cs = true
  csm  : i.csMode = false
  lb   : i.loopback = false

/-- Word captured after `j` samples (`Cat(pads.miso, miso_data)` truncated to `dw` bits). -/
def spiCap (smp : Nat → Bool) (dw m0 : Nat) : Nat → Nat
  | 0 => m0
  | j + 1 => (2 * spiCap smp dw m0 j + (if smp j then 1 else 0)) % 2 ^ dw

/-- `mosi_sel` as latched with `start`. -/
def spiSel0 (c : SpiCfg) (L : Nat) : Nat := if c.aligned then L - 1 else c.dw - 1

theorem dw_le_cmod (c : SpiCfg) : c.dw ≤ c.cmod := by
  unfold SpiCfg.cmod bitsFor
  by_cases h : c.dw - 1 = 0
  · simp [h]; omega
  · simp only [h, if_false]
    have := Nat.lt_log2_self (n := c.dw - 1)
    omega

theorem spiSel0_le (c : SpiCfg) {L : Nat} (hLw : L ≤ c.dw) :
    L - 1 ≤ spiSel0 c L ∧ spiSel0 c L ≤ c.dw - 1 ∧ spiSel0 c L ≤ c.cmod := by
  have := dw_le_cmod c
  unfold spiSel0; split <;> omega

section
variable (c : SpiCfg) (s : SpiSt) (x : SpiIn)

theorem spiNext_cnt :
    (spiNext c s x).cnt =
      if spiRise s x then (s.cnt + 1) % 65536 else if spiFall s x then 0 else (s.cnt + 1) % 65536 := rfl

theorem spiNext_clk :
    (spiNext c s x).clk = if spiRise s x then s.fsm == .run else if spiFall s x then false else s.clk := rfl

theorem spiNext_fsm :
    (spiNext c s x).fsm = match s.fsm with
      | .idle => if x.start then .start else .idle
      | .start => if spiFall s x then .run else .start
      | .run => if spiFall s x && s.count + 1 == x.length then .stop else .run
      | .stop => if spiRise s x then .idle else .stop := rfl

theorem spiNext_count :
    (spiNext c s x).count = match s.fsm with
      | .start => 0
      | .run => if spiFall s x then (s.count + 1) % c.cmod else s.count
      | _ => s.count := rfl

/-- The chip-select register, for every input: `pads.cs_n := ~(cs & (xfer_enable | cs_mode))`. -/
theorem spiNext_csN (c : SpiCfg) (s : SpiSt) (x : SpiIn) :
    (spiNext c s x).csN = !(x.cs && (spiXfer s x || x.csMode)) := rfl

theorem spiNext_mosiData :
    (spiNext c s x).mosiData = if s.fsm == .idle && x.start then x.mosi else s.mosiData := rfl

theorem spiNext_mosiSel :
    (spiNext c s x).mosiSel =
      if s.fsm == .idle && x.start then
        (if c.aligned then (x.length + c.cmod - 1) % c.cmod else (c.dw - 1) % c.cmod)
      else if spiFall s x then (s.mosiSel + c.cmod - 1) % c.cmod else s.mosiSel := rfl

theorem spiNext_mosi :
    (spiNext c s x).mosi =
      if !(s.fsm == .idle && x.start) && spiFall s x && spiXfer s x then
        s.mosiData.testBit (min s.mosiSel (c.dw - 1))
      else s.mosi := rfl

theorem spiNext_misoData :
    (spiNext c s x).misoData =
      if spiRise s x then
        (2 * s.misoData + (if (if x.loopback then s.mosi else x.miso) then 1 else 0)) % 2 ^ c.dw
      else s.misoData := rfl

theorem spiNext_miso :
    (spiNext c s x).miso = if s.fsm == .stop && spiRise s x then s.misoData else s.miso := rfl

end

/-- For a constructor `f` both right sides reduce. -/
theorem spiOut_of_fsm (c : SpiCfg) {s : SpiSt} (x : SpiIn) {f : SpiFsm} (h : s.fsm = f) :
    ((spiMaster c).out s x).done = (f == .idle && !x.start) ∧
    ((spiMaster c).out s x).irq = (f == .stop && spiRise s x) := by
  subst h; exact ⟨rfl, rfl⟩

/-- The bit selector steps down modulo `cmod` without wrapping as long as it is positive. -/
theorem sel_step {a j m : Nat} (h1 : j + 1 ≤ a) (h2 : a ≤ m) : (a - j + m - 1) % m = a - (j + 1) := by
  rw [show a - j + m - 1 = a - (j + 1) + m by omega, Nat.add_mod_right, Nat.mod_eq_of_lt (by omega)]

/-- The clock is high from position `m = div/2` of a period on (`decide (m ≤ k)`): going from position `k` to `k + 1` the
    threshold is crossed exactly when `k + 1 = m` (the cycle of the rise strobe), and not otherwise. -/
theorem thr_step {m k : Nat} : (k + 1 = m → ¬ m ≤ k ∧ m ≤ k + 1) ∧ (¬ k + 1 = m → (m ≤ k + 1 ↔ m ≤ k)) := by omega

/-- In the last cycle of a period (`k + 1 = d`, the fall strobe) the rise strobe is not due and the clock is high. -/
theorem thr_last {m k d : Nat} (hm : m < d) (h : k + 1 = d) : ¬ k + 1 = m ∧ m ≤ k := by omega

variable {c : SpiCfg} {div L w m0 k i : Nat} {smp : Nat → Bool} {s : SpiSt} {x : SpiIn}

theorem spiRise_eq (hc : s.cnt = k) (hd : x.div = div) :
    spiRise s x = decide (k + 1 = div / 2) := by
  subst hc hd; rfl

theorem spiFall_eq (hc : s.cnt = k) (hd : x.div = div) :
    spiFall s x = decide (k + 1 = div) := by
  subst hc hd; rfl

/-- With a constant divider the counter is free-running modulo `div`, whatever the FSM does. -/
theorem spiNext_cnt_mod (c : SpiCfg) (hdiv : 2 ≤ div) (hd16 : div < 65536) (hx : x.div = div) (hc : s.cnt < div) : (spiNext c s x).cnt = (s.cnt + 1) % div := by
  rw [spiNext_cnt, spiRise_eq rfl hx, spiFall_eq rfl hx]
  by_cases h : s.cnt + 1 = div
  · rw [decide_eq_false (thr_last (half_lt hdiv) h).1, decide_eq_true h, h, Nat.mod_self]; rfl
  · rw [decide_eq_false h, Nat.mod_eq_of_lt (show s.cnt + 1 < div by omega)]
    have : (s.cnt + 1) % 65536 = s.cnt + 1 := Nat.mod_eq_of_lt (by omega)
    split <;> exact this

/-- Invariant in RUN: pulse `i` (0-based), position `k` inside the divider period.  `smp j` is `pads.miso` in the
    cycle of the `j`-th rise strobe; `m0` the (arbitrary) content of the capture register on entry.  `sel` is stated only
    while a next bit exists: after the last bit the selector wraps modulo `cmod` and is not read again. -/
structure RunInv (c : SpiCfg) (div L w m0 : Nat) (smp : Nat → Bool) (i k : Nat) (s : SpiSt) : Prop where
  fsm   : s.fsm = .run
  cnt   : s.cnt = k
  count : s.count = i
  clk   : s.clk = decide (div / 2 ≤ k)
  csN   : s.csN = false
  mdata : s.mosiData = w
  mosi  : s.mosi = w.testBit (spiSel0 c L - i)
  sel   : i + 1 ≤ spiSel0 c L → s.mosiSel = spiSel0 c L - (i + 1)
  cap   : s.misoData = spiCap smp c.dw m0 (i + (if div / 2 ≤ k then 1 else 0))

/-- Invariant in STOP, `k` cycles after the last falling edge. -/
structure StopInv (c : SpiCfg) (div L m0 : Nat) (smp : Nat → Bool) (k : Nat) (s : SpiSt) : Prop where
  fsm   : s.fsm = .stop
  cnt   : s.cnt = k
  clk   : s.clk = false
  csN   : s.csN = false
  cap   : s.misoData = spiCap smp c.dw m0 L

theorem RunInv.out (h : RunInv c div L w m0 smp i k s) (x : SpiIn) :
    ((spiMaster c).out s x).clk = decide (div / 2 ≤ k) ∧ ((spiMaster c).out s x).csN = false ∧
    ((spiMaster c).out s x).mosi = w.testBit (spiSel0 c L - i) ∧ ((spiMaster c).out s x).done = false ∧
    ((spiMaster c).out s x).irq = false :=
  ⟨h.clk, h.csN, h.mosi, (spiOut_of_fsm c x h.fsm).1, (spiOut_of_fsm c x h.fsm).2⟩

/-- `hs`: `smp i` must be `pads.miso` in the cycle of the rise strobe of pulse `i`. -/
theorem spi_run_step (hdiv : 2 ≤ div) (hd16 : div < 65536) (hLw : L ≤ c.dw) (hk : k < div) (hx : SpiHold div L x)
    (hs : k + 1 = div / 2 → x.miso = smp i) (h : RunInv c div L w m0 smp i k s) :
    (k + 1 < div → RunInv c div L w m0 smp i (k + 1) (spiNext c s x)) ∧
    (k + 1 = div → i + 1 < L → RunInv c div L w m0 smp (i + 1) 0 (spiNext c s x)) ∧
    (k + 1 = div → i + 1 = L → StopInv c div L m0 smp 0 (spiNext c s x)) := by
  have hR : spiRise s x = decide (k + 1 = div / 2) := spiRise_eq h.cnt hx.div
  have hF : spiFall s x = decide (k + 1 = div) := spiFall_eq h.cnt hx.div
  have hcnt : (spiNext c s x).cnt = (k + 1) % div := by
    rw [spiNext_cnt_mod c hdiv hd16 hx.div (by rw [h.cnt]; exact hk), h.cnt]
  have hcs : (spiNext c s x).csN = false := by rw [spiNext_csN, spiXfer, h.fsm, hx.cs]; rfl
  have hmd : (spiNext c s x).mosiData = w := by rw [spiNext_mosiData, h.fsm]; exact h.mdata
  -- the fall strobe ends the pulse: the rise strobe is not in the same cycle and the capture register rests
  have fall : k + 1 = div → (spiNext c s x).cnt = 0 ∧ (spiNext c s x).clk = false ∧
      (spiNext c s x).misoData = spiCap smp c.dw m0 (i + 1) := by
    intro hlt
    obtain ⟨a, b⟩ := thr_last (half_lt hdiv) hlt
    have hR' : spiRise s x = false := by rw [hR]; exact decide_eq_false a
    refine ⟨by rw [hcnt, hlt, Nat.mod_self], by rw [spiNext_clk, hR', hF, decide_eq_true hlt]; rfl, ?_⟩
    rw [spiNext_misoData, hR', h.cap, if_pos b]; rfl
  refine ⟨fun hlt => ?_, fun hlt hi1 => ?_, fun hlt hi1 => ?_⟩
  · have hF' : spiFall s x = false := by rw [hF]; exact decide_eq_false (Nat.ne_of_lt hlt)
    refine ⟨by rw [spiNext_fsm, h.fsm, hF']; rfl, by rw [hcnt, Nat.mod_eq_of_lt hlt],
      by rw [spiNext_count, h.fsm, hF']; exact h.count, ?_, hcs, hmd,
      by rw [spiNext_mosi, h.fsm, hF']; exact h.mosi,
      fun hle => by rw [spiNext_mosiSel, h.fsm, hF']; exact h.sel hle, ?_⟩
    all_goals by_cases hr : k + 1 = div / 2
    -- at the rise strobe the clock goes high and a sample is taken; otherwise both rest
    · rw [spiNext_clk, hR, h.fsm, decide_eq_true hr, decide_eq_true (Nat.le_of_eq hr.symm)]; rfl
    · rw [spiNext_clk, hR, hF', h.clk, decide_eq_false hr]
      exact decide_eq_decide.mpr (thr_step.2 hr).symm
    · rw [spiNext_misoData, hR, hx.lb, h.cap, decide_eq_true hr, if_neg (thr_step.1 hr).1,
        if_pos (thr_step.1 hr).2, hs hr]; rfl
    · rw [spiNext_misoData, hR, decide_eq_false hr, h.cap]; simp only [thr_step.2 hr]; rfl
  · obtain ⟨e1, e2, e3⟩ := fall hlt
    obtain ⟨hs1, hs2, hs3⟩ := spiSel0_le c hLw
    have hsel := h.sel (by omega)
    refine ⟨?_, e1, ?_, by rw [e2]; exact (decide_eq_false (Nat.not_le.mpr (half_pos hdiv))).symm, hcs, hmd, ?_, fun hle => ?_,
      by rw [e3, if_neg (Nat.not_le.mpr (half_pos hdiv))]⟩
    · rw [spiNext_fsm, h.fsm, hF, decide_eq_true hlt, h.count, hx.len,
        beq_false_of_ne (show i + 1 ≠ L from Nat.ne_of_lt hi1)]; rfl
    · rw [spiNext_count, h.fsm, hF, decide_eq_true hlt, h.count]
      exact Nat.mod_eq_of_lt (Nat.lt_of_lt_of_le hi1 (Nat.le_trans hLw (dw_le_cmod c)))
    · rw [spiNext_mosi, h.fsm, hF, decide_eq_true hlt, spiXfer, h.fsm, h.mdata, hsel,
        Nat.min_eq_left (Nat.le_trans (Nat.sub_le _ _) hs2)]; rfl
    · rw [spiNext_mosiSel, h.fsm, hF, decide_eq_true hlt, hsel]
      exact sel_step hle hs3
  · obtain ⟨e1, e2, e3⟩ := fall hlt
    refine ⟨?_, e1, e2, hcs, by rw [e3, hi1]⟩
    rw [spiNext_fsm, h.fsm, hF, decide_eq_true hlt, h.count, hx.len, hi1, beq_self_eq_true]; rfl

/-- State in the first IDLE cycle after a transfer. -/
structure DoneInv (c : SpiCfg) (L m0 : Nat) (smp : Nat → Bool) (s : SpiSt) : Prop where
  fsm  : s.fsm = .idle
  clk  : s.clk = false
  csN  : s.csN = false
  miso : s.miso = spiCap smp c.dw m0 L

theorem StopInv.out (h : StopInv c div L m0 smp k s) {x : SpiIn} (hx : x.div = div) :
    ((spiMaster c).out s x).clk = false ∧ ((spiMaster c).out s x).csN = false ∧
    ((spiMaster c).out s x).done = false ∧ ((spiMaster c).out s x).irq = decide (k + 1 = div / 2) :=
  ⟨h.clk, h.csN, (spiOut_of_fsm c x h.fsm).1, (spiOut_of_fsm c x h.fsm).2.trans (spiRise_eq h.cnt hx)⟩

theorem spi_stop_step (hdiv : 2 ≤ div) (hd16 : div < 65536) (hk : k < div / 2) (hx : SpiHold div L x)
    (h : StopInv c div L m0 smp k s) :
    (k + 1 < div / 2 → StopInv c div L m0 smp (k + 1) (spiNext c s x)) ∧
    (k + 1 = div / 2 → DoneInv c L m0 smp (spiNext c s x) ∧ (spiNext c s x).cnt = div / 2) := by
  have hR : spiRise s x = decide (k + 1 = div / 2) := spiRise_eq h.cnt hx.div
  have hkd : k + 1 < div := Nat.lt_of_le_of_lt hk (half_lt hdiv)
  have hF : spiFall s x = false := by
    rw [spiFall_eq h.cnt hx.div]; exact decide_eq_false (Nat.ne_of_lt hkd)
  have hcnt : (spiNext c s x).cnt = k + 1 := by
    rw [spiNext_cnt_mod c hdiv hd16 hx.div (by rw [h.cnt]; exact Nat.lt_of_succ_lt hkd), h.cnt,
      Nat.mod_eq_of_lt hkd]
  have hcs : (spiNext c s x).csN = false := by rw [spiNext_csN, spiXfer, h.fsm, hx.cs]; rfl
  refine ⟨fun hlt => ?_, fun heq => ?_⟩
  · have hR' : spiRise s x = false := by rw [hR]; exact decide_eq_false (Nat.ne_of_lt hlt)
    exact ⟨by rw [spiNext_fsm, h.fsm, hR']; rfl, hcnt, by rw [spiNext_clk, hR', hF]; exact h.clk, hcs,
      by rw [spiNext_misoData, hR']; exact h.cap⟩
  · have hR' : spiRise s x = true := by rw [hR]; exact decide_eq_true heq
    exact ⟨⟨by rw [spiNext_fsm, h.fsm, hR']; rfl, by rw [spiNext_clk, hR', h.fsm]; rfl, hcs,
      by rw [spiNext_miso, h.fsm, hR']; exact h.cap⟩, by rw [hcnt, heq]⟩

/-- Sample function: `pads.miso` in the cycle of the rise strobe of pulse `j` (cycles counted from the first RUN
    cycle). -/
def spiSmp (f : Nat → SpiIn) (div : Nat) (j : Nat) : Bool := (f (j * div + (div / 2 - 1))).miso

theorem spi_run {f : Nat → SpiIn} {s0 : SpiSt} (hdiv : 2 ≤ div) (hd16 : div < 65536)
    (hLw : L ≤ c.dw) (hf : ∀ t, SpiHold div L (f t)) (h0 : RunInv c div L w m0 (spiSmp f div) 0 0 s0) :
    ∀ i, i < L → ∀ k, k < div →
      RunInv c div L w m0 (spiSmp f div) i k (runFn (spiMaster c) s0 f (i * div + k)) := by
  have step := fun i k hk (h : RunInv c div L w m0 (spiSmp f div) i k (runFn (spiMaster c) s0 f (i * div + k))) =>
    spi_run_step hdiv hd16 hLw hk (hf (i * div + k)) (fun hr => by unfold spiSmp; rw [← hr]; rfl) h
  apply pulse_induction
  · rw [Nat.zero_mul]; exact h0
  · exact fun i k _ hlt h => (step i k (Nat.lt_of_succ_lt hlt) h).1 hlt
  · intro i hi h
    have hd : 0 < div := Nat.lt_of_lt_of_le Nat.two_pos hdiv
    rw [← period_succ hd]
    exact (step i (div - 1) (Nat.sub_lt hd Nat.one_pos) h).2.1 (Nat.sub_add_cancel hd) hi

theorem spi_stop {f : Nat → SpiIn} {s0 : SpiSt} (hdiv : 2 ≤ div) (hd16 : div < 65536)
    (hL : 1 ≤ L) (hLw : L ≤ c.dw) (hf : ∀ t, SpiHold div L (f t)) (h0 : RunInv c div L w m0 (spiSmp f div) 0 0 s0) :
    (∀ k, k < div / 2 → StopInv c div L m0 (spiSmp f div) k (runFn (spiMaster c) s0 f (L * div + k))) ∧
    DoneInv c L m0 (spiSmp f div) (runFn (spiMaster c) s0 f (L * div + div / 2)) ∧
    (runFn (spiMaster c) s0 f (L * div + div / 2)).cnt = div / 2 := by
  have hd : 0 < div := Nat.lt_of_lt_of_le Nat.two_pos hdiv
  have hd1 : div - 1 + 1 = div := Nat.sub_add_cancel hd
  have hlast := spi_run hdiv hd16 hLw hf h0 (L - 1) (Nat.sub_lt hL Nat.one_pos) (div - 1) (Nat.sub_lt hd Nat.one_pos)
  -- the fall strobe of the last pulse enters STOP
  have hstop0 : StopInv c div L m0 (spiSmp f div) 0 (runFn (spiMaster c) s0 f (L * div + 0)) := by
    rw [show L * div + 0 = (L - 1) * div + (div - 1) + 1 by rw [period_succ hd, Nat.sub_add_cancel hL]]
    exact (spi_run_step hdiv hd16 hLw (Nat.sub_lt hd Nat.one_pos) (hf ((L - 1) * div + (div - 1)))
      (fun hr => absurd hr (thr_last (half_lt hdiv) hd1).1) hlast).2.2 hd1 (Nat.sub_add_cancel hL)
  have step := fun k hk (h : StopInv c div L m0 (spiSmp f div) k (runFn (spiMaster c) s0 f (L * div + k))) =>
    spi_stop_step hdiv hd16 hk (hf (L * div + k)) h
  have hall : ∀ k, k < div / 2 → StopInv c div L m0 (spiSmp f div) k (runFn (spiMaster c) s0 f (L * div + k)) := by
    intro k
    induction k with
    | zero => exact fun _ => hstop0
    | succ k ih => exact fun hk => (step k (Nat.lt_of_succ_lt hk) (ih (Nat.lt_of_succ_lt hk))).1 hk
  -- the last STOP cycle is cycle `L·div + m` with `div / 2 = m + 1`
  obtain ⟨m, hm⟩ : ∃ m, div / 2 = m + 1 := ⟨div / 2 - 1, (Nat.sub_add_cancel (half_pos hdiv)).symm⟩
  have hm' : m < div / 2 := hm ▸ Nat.lt_succ_self m
  have hdone := (step m hm' (hall m hm')).2 hm.symm
  refine ⟨hall, ?_⟩
  rw [hm] at hdone ⊢
  exact hdone

/-- The clean IDLE state a transfer ends in; `cnt < div` always holds with a constant divider. -/
structure IdleOk (div : Nat) (s : SpiSt) : Prop where
  fsm : s.fsm = .idle
  cnt : s.cnt < div
  clk : s.clk = false

/-- START: chip select still released, word and selector latched; the capture register is not constrained (it goes on
    shifting), which is why `m0` of `RunInv` is whatever it holds on entry into RUN. -/
structure StartInv (c : SpiCfg) (div L w : Nat) (s : SpiSt) : Prop where
  fsm   : s.fsm = .start
  cnt   : s.cnt < div
  clk   : s.clk = false
  csN   : s.csN = true
  mdata : s.mosiData = w
  sel   : s.mosiSel = spiSel0 c L

theorem spiNext_clk_low (c : SpiCfg) (x : SpiIn) {f : SpiFsm} (hf : s.fsm = f) (hn : f ≠ .run) (hc : s.clk = false) :
    (spiNext c s x).clk = false := by
  rw [spiNext_clk, hf, beq_false_of_ne hn, hc]
  split
  · rfl
  · split <;> rfl

theorem IdleOk.out (h : IdleOk div s) (c : SpiCfg) (x : SpiIn) :
    ((spiMaster c).out s x).done = !x.start ∧ ((spiMaster c).out s x).clk = false ∧
    ((spiMaster c).out s x).irq = false :=
  ⟨(spiOut_of_fsm c x h.fsm).1, h.clk, (spiOut_of_fsm c x h.fsm).2⟩

theorem spi_idle_cycle (c : SpiCfg) (hdiv : 2 ≤ div) (hd16 : div < 65536)
    (hxd : x.div = div) (h : IdleOk div s) : (spiNext c s x).cnt < div ∧ (spiNext c s x).clk = false := by
  refine ⟨?_, spiNext_clk_low c x h.fsm nofun h.clk⟩
  rw [spiNext_cnt_mod c hdiv hd16 hxd h.cnt]; exact Nat.mod_lt _ (by omega)

theorem spi_accept (hdiv : 2 ≤ div) (hd16 : div < 65536)
    (hL : 1 ≤ L) (hLw : L ≤ c.dw) (hx : SpiHold div L x) (hst : x.start = true) (h : IdleOk div s) :
    ((spiMaster c).out s x).done = false ∧ ((spiMaster c).out s x).clk = false ∧
    ((spiMaster c).out s x).irq = false ∧ StartInv c div L x.mosi (spiNext c s x) := by
  obtain ⟨h1, h2, h3⟩ := h.out c x
  obtain ⟨h4, h5⟩ := spi_idle_cycle c hdiv hd16 hx.div h
  refine ⟨by rw [h1, hst]; rfl, h2, h3, by rw [spiNext_fsm, h.fsm, hst]; rfl, h4, h5, ?_, ?_, ?_⟩
  · rw [spiNext_csN, spiXfer, h.fsm, hx.csm]; cases x.cs <;> rfl
  · rw [spiNext_mosiData, h.fsm, hst]; rfl
  · rw [spiNext_mosiSel, h.fsm, hst, hx.len]
    show (if c.aligned then _ else _) = spiSel0 c L
    unfold spiSel0
    split
    · exact sel_step (j := 0) hL (Nat.le_trans hLw (dw_le_cmod c))
    · exact Nat.mod_eq_of_lt (by have := dw_le_cmod c; omega)

theorem StartInv.out (h : StartInv c div L w s) (x : SpiIn) :
    ((spiMaster c).out s x).clk = false ∧ ((spiMaster c).out s x).csN = true ∧
    ((spiMaster c).out s x).done = false ∧ ((spiMaster c).out s x).irq = false :=
  ⟨h.clk, h.csN, (spiOut_of_fsm c x h.fsm).1, (spiOut_of_fsm c x h.fsm).2⟩

theorem spi_start_step (smp : Nat → Bool) (hdiv : 2 ≤ div)
    (hd16 : div < 65536) (hLw : L ≤ c.dw) (hx : SpiHold div L x) (h : StartInv c div L w s) :
    (s.cnt + 1 < div → StartInv c div L w (spiNext c s x) ∧ (spiNext c s x).cnt = s.cnt + 1) ∧
    (s.cnt + 1 = div → RunInv c div L w (spiNext c s x).misoData smp 0 0 (spiNext c s x)) := by
  have hF : spiFall s x = decide (s.cnt + 1 = div) := spiFall_eq rfl hx.div
  have hcnt := spiNext_cnt_mod c hdiv hd16 hx.div h.cnt
  have hclk := spiNext_clk_low c x h.fsm nofun h.clk
  have hmd : (spiNext c s x).mosiData = w := by rw [spiNext_mosiData, h.fsm]; exact h.mdata
  refine ⟨fun hlt => ?_, fun heq => ?_⟩
  · have hF' : spiFall s x = false := by rw [hF]; exact decide_eq_false (Nat.ne_of_lt hlt)
    have hc : (spiNext c s x).cnt = s.cnt + 1 := by rw [hcnt, Nat.mod_eq_of_lt hlt]
    refine ⟨⟨by rw [spiNext_fsm, h.fsm, hF']; rfl, by rw [hc]; exact hlt, hclk, ?_, hmd,
      by rw [spiNext_mosiSel, h.fsm, hF']; exact h.sel⟩, hc⟩
    rw [spiNext_csN, spiXfer, h.fsm, hF', hx.csm]; cases x.cs <;> rfl
  · have hF' : spiFall s x = true := by rw [hF]; exact decide_eq_true heq
    obtain ⟨_, hs2, hs3⟩ := spiSel0_le c hLw
    refine ⟨by rw [spiNext_fsm, h.fsm, hF']; rfl, by rw [hcnt, heq, Nat.mod_self],
      by rw [spiNext_count, h.fsm], by rw [hclk]; exact (decide_eq_false (Nat.not_le.mpr (half_pos hdiv))).symm, ?_, hmd, ?_,
      fun hle => ?_, by rw [if_neg (Nat.not_le.mpr (half_pos hdiv))]; rfl⟩
    · rw [spiNext_csN, spiXfer, h.fsm, hF', hx.cs]; rfl
    · rw [spiNext_mosi, h.fsm, hF', spiXfer, h.fsm, hF', h.mdata, h.sel, Nat.min_eq_left hs2]; rfl
    · rw [spiNext_mosiSel, h.fsm, hF', h.sel]; exact sel_step (j := 0) hle hs3

/-- `n + 1 = div - cnt` is the distance of the divider to its next fall strobe, whatever its phase. -/
theorem spi_start_wait (smp : Nat → Bool) (hdiv : 2 ≤ div) (hd16 : div < 65536)
    (hLw : L ≤ c.dw) {n : Nat} {ins : List SpiIn} (hlen : ins.length = n + 1) (hins : ∀ x ∈ ins, SpiHold div L x)
    (h : StartInv c div L w s) (hn : s.cnt + n + 1 = div) :
    (∀ o ∈ (spiMaster c).traceFrom s ins, o.clk = false ∧ o.csN = true ∧ o.done = false ∧ o.irq = false) ∧
    RunInv c div L w ((spiMaster c).runFrom s ins).misoData smp 0 0 ((spiMaster c).runFrom s ins) := by
  induction ins generalizing s n with
  | nil => exact absurd hlen (Nat.succ_ne_zero n).symm
  | cons x rest ih =>
    obtain ⟨hst, hrun⟩ := spi_start_step smp hdiv hd16 hLw (hins x List.mem_cons_self) h
    cases n with
    | zero =>
      cases List.eq_nil_of_length_eq_zero (Nat.succ.inj hlen)
      exact ⟨fun o ho => by rw [List.mem_singleton.mp ho]; exact h.out x, hrun hn⟩
    | succ n =>
      obtain ⟨hnx, hc⟩ := hst (by omega)
      have := ih (Nat.succ.inj hlen) (fun y hy => hins y (List.mem_cons_of_mem x hy)) hnx (by rw [hc]; omega)
      refine ⟨fun o ho => ?_, this.2⟩
      rcases List.mem_cons.mp ho with ho | ho
      · rw [ho]; exact h.out x
      · exact this.1 o ho

theorem spiCap_eq_shiftIn (smp : Nat → Bool) (dw m0 j : Nat) :
    spiCap smp dw m0 j = shiftIn dw m0 ((List.range j).map smp) := by
  induction j with
  | zero => rfl
  | succ j ih => rw [spiCap, ih, List.range_succ, List.map_append, shiftIn_append]; rfl

theorem spiCap_testBit {dw : Nat} (hL : L ≤ dw) (hk : k < L) :
    (spiCap smp dw m0 L).testBit k = smp (L - 1 - k) := by
  rw [spiCap_eq_shiftIn, shiftIn_range_testBit dw m0 L k smp hk (Nat.lt_of_lt_of_le hk hL)]

theorem DoneInv.out (h : DoneInv c L m0 smp s)
    (hLw : L ≤ c.dw) (x : SpiIn) :
    ((spiMaster c).out s x).done = !x.start ∧ ((spiMaster c).out s x).clk = false ∧
    ((spiMaster c).out s x).irq = false ∧
    ∀ k, k < L → ((spiMaster c).out s x).miso.testBit k = smp (L - 1 - k) :=
  ⟨(spiOut_of_fsm c x h.fsm).1, h.clk, (spiOut_of_fsm c x h.fsm).2, fun k hk => by
    show s.miso.testBit k = _
    rw [h.miso, spiCap_testBit hLw hk]⟩

end Litex.Periph
