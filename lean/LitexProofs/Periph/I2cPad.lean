import LitexModel.Periph.I2cMaster
import LitexProofs.Periph.I2c
/-
  Pad-level bus legality of `I2CMaster` (machine + "only change SDA when SCL is stable" stage), for every bus
  write sequence (commands while busy, data writes, divider writes ≥ 1) and every behaviour of the rest of the bus
  (clock stretching, any SDA).
-/
namespace Litex.Periph
open Litex

/-- Did the bit FSM take a step in this cycle? -/
def I2cmSt.stepped (s : I2cmSt) : Bool := ((s.st || s.sp || s.wr || s.rd) && s.m.fsm == .idle) || s.m.cnt == 0

/-- Ghost: was `sda_o` last assigned by START0 / STOP2 (or is it still the reset value)?  Updated by the FSM step
    that assigns `sda_o`. -/
def sdaKind (m : I2cSt) (stepped : Bool) (g : Bool) : Bool :=
  if stepped then
    match m.fsm with
    | .start0 | .stop2 => true
    | .restart0 | .stop0 | .write0 | .writeack1 => false
    | .read1 => if m.bits == 0 then false else g
    | _ => g
  else g

/-- `I2CMaster` with the ghost bit. -/
def i2cmAug : Machine I2cmIn (I2cmSt × Bool) I2cmOut where
  init := (i2cMaster.init, true)
  out sg i := i2cMaster.out sg.1 i
  next sg i := (i2cmNext sg.1 i, sdaKind sg.1.m sg.1.stepped sg.2)

theorem i2cmAug_fst (ins : List I2cmIn) (sg : I2cmSt × Bool) :
    (i2cmAug.runFrom sg ins).1 = i2cMaster.runFrom sg.1 ins := by
  induction ins generalizing sg with
  | nil => rfl
  | cons i is ih => exact ih _

/-- Software never programs the divider with 0. -/
def LoadOk (i : I2cmIn) : Prop := i.cyc = true → i.stb = true → i.we = true → i.adr0 = true → 1 ≤ i.datW % 2 ^ 20

/-- Invariant of the pad stage; `g` is the ghost bit of `i2cmAug`.
    `k1`: while SCL is released, an SDA driver that does not yet show `sda_o` is waiting with a START or STOP.
    `k2`: in the hold cycle after an SCL fall (`scl_i_n` still high) no tick is due, the divider has just been reloaded.
    `k5`: the divider is not 0.
    `k2` rules out an SCL rise in the hold cycle, the only way a lagging SDA driver could meet a released SCL without
    the ghost being set. -/
structure PadInv (s : I2cmSt) (g : Bool) : Prop where
  minv : I2cInv s.m
  k1   : s.m.scl = true → s.sdaOe ≠ !s.m.sda → g = true
  k2   : s.m.scl = false → s.sclIn = true → s.m.cnt ≠ 0
  k5   : 1 ≤ s.load

/-- What the SDA driver may do between two consecutive cycles. -/
structure PadLegal (s : I2cmSt) (i : I2cmIn) (s' : I2cmSt) (g' : Bool) : Prop where
  sda : s.sdaOe ≠ s'.sdaOe →
    (s.padScl i = false ∧ s'.m.scl = false) ∨
    (s.m.scl = true ∧ s'.m.scl = true ∧ s.padScl i = true ∧ s'.sdaOe = !s'.m.sda ∧ g' = true)

/-- Only `data`/`ack` of the machine inside the wrapper can be overwritten from the bus. -/
theorem i2cm_next_m (s : I2cmSt) (i : I2cmIn) :
    (i2cmNext s i).m.fsm = (i2cNext 20 s.m (s.machIn i)).fsm ∧ (i2cmNext s i).m.scl = (i2cNext 20 s.m (s.machIn i)).scl ∧
    (i2cmNext s i).m.sda = (i2cNext 20 s.m (s.machIn i)).sda ∧
    (i2cmNext s i).m.bits = (i2cNext 20 s.m (s.machIn i)).bits ∧
    (i2cmNext s i).m.cnt = (i2cNext 20 s.m (s.machIn i)).cnt := ⟨rfl, rfl, rfl, rfl, rfl⟩

/-- The strobe registers never poke the machine, and `stepped` is the machine's `fsm.ce`. -/
theorem i2cm_next_eq (s : I2cmSt) (i : I2cmIn) :
    i2cNext 20 s.m (s.machIn i) =
      (if s.stepped then i2cFsmStep s.m (s.machIn i) else s.m).setCnt (i2cNext 20 s.m (s.machIn i)).cnt := by
  rw [i2cNext_eq, i2cPoked_of_not_poke _ rfl]; rfl

theorem i2c_idle_step_lines (m : I2cSt) (mi : I2cIn) (h : m.fsm = .idle) :
    (i2cFsmStep m mi).scl = m.scl ∧ (i2cFsmStep m mi).sda = m.sda := by
  simp only [i2cFsmStep, h, and_self]

/-- SCL moves only in a tick of the busy machine; the divider then restarts from `load`. -/
theorem i2c_next_scl_moves (cw : Nat) (s : I2cSt) (i : I2cIn) (h : (i2cNext cw s i).scl ≠ s.scl) :
    s.cnt = 0 ∧ (i2cNext cw s i).cnt = i.load := by
  by_cases hf : s.fsm = .idle
  · refine absurd ?_ h
    cases hr : i.run
    · rw [i2c_next_hold cw s i hf hr, i2cPoked_scl]
    · rw [i2c_next_accept cw s i hf hr, i2c_setCnt_scl,
        (i2c_idle_step_lines _ i (by rw [i2cPoked_fsm]; exact hf)).1, i2cPoked_scl]
  · by_cases hc : s.cnt = 0
    · exact ⟨hc, by rw [i2c_next_tick cw s i hf hc]; rfl⟩
    · exact absurd (by rw [i2c_next_wait cw s i hf hc, i2c_setCnt_scl, i2cPoked_scl]) h

theorem kind_high (m : I2cSt) (mi : I2cIn) (g : Bool) (hinv : I2cInv m) (h1 : m.scl = true)
    (h2 : (i2cFsmStep m mi).scl = true) :
    sdaKind m true g = true ∨ (sdaKind m true g = g ∧ (i2cFsmStep m mi).sda = m.sda) := by
  cases hf : m.fsm with
  | start0 | stop2 => exact .inl (by simp only [sdaKind, hf, if_true])
  | restart0 => rw [hinv.restart0 hf] at h1; cases h1
  | stop0 => rw [hinv.stop0 hf] at h1; cases h1
  | write0 | read1 => simp only [i2cFsmStep, hf] at h2; split at h2 <;> cases h2
  | readack1 | writeack1 => simp only [i2cFsmStep, hf] at h2; cases h2
  | _ => exact .inr (by simp only [sdaKind, i2cFsmStep, hf, if_true, and_self])

theorem sdaOe_eq (s : I2cmSt) : s.sdaOe = (if s.sclIn == s.m.scl then !s.m.sda else s.sdaOeN) := rfl

theorem pad_step (s : I2cmSt) (g : Bool) (i : I2cmIn) (h : PadInv s g) (hl : LoadOk i) :
    PadInv (i2cmNext s i) (sdaKind s.m s.stepped g) ∧ PadLegal s i (i2cmNext s i) (sdaKind s.m s.stepped g) := by
  obtain ⟨ef, es, ed, eb, ec⟩ := i2cm_next_m s i
  obtain ⟨hinvN, hlegN⟩ := i2c_next_legal 20 s.m (s.machIn i) h.minv
  have hinv' : I2cInv (i2cmNext s i).m := hinvN.congr ef es eb
  -- the SDA driver follows `sda_o` when the SCL seen in this cycle equals the new `scl_o`, and holds otherwise
  have hfollow : (s.padScl i == (i2cmNext s i).m.scl) = true → (i2cmNext s i).sdaOe = !(i2cmNext s i).m.sda :=
    fun hc => by rw [sdaOe_eq]; exact if_pos hc
  have hhold : (s.padScl i == (i2cmNext s i).m.scl) = false → (i2cmNext s i).sdaOe = s.sdaOe :=
    fun hc => by rw [sdaOe_eq]; exact if_neg (by rw [show (i2cmNext s i).sclIn = s.padScl i from rfl, hc]; decide)
  -- SCL stays released and the driver does not show the new `sda_o`: the ghost is (or becomes) true
  have hghost : s.m.scl = true → (i2cmNext s i).m.scl = true → s.sdaOe ≠ !(i2cmNext s i).m.sda →
      sdaKind s.m s.stepped g = true := by
    intro h1 h2 hne
    rw [es, i2cm_next_eq] at h2
    rw [ed, i2cm_next_eq] at hne
    cases hst : s.stepped
    · rw [hst] at hne; exact h.k1 h1 hne
    · rw [hst] at h2 hne
      rcases kind_high s.m (s.machIn i) g h.minv h1 h2 with hk | ⟨hk, hsd⟩
      · exact hk
      · rw [hk]; exact h.k1 h1 (by rw [← hsd]; exact hne)
  -- SCL rising: SDA unchanged and it was a tick
  have hrise : s.m.scl = false → (i2cmNext s i).m.scl = true → (i2cmNext s i).m.sda = s.m.sda ∧ s.m.cnt = 0 := by
    intro h1 h2
    rw [es] at h2
    exact ⟨by rw [ed]; exact hlegN.rising h1 h2,
      (i2c_next_scl_moves 20 s.m _ (by rw [h1, h2]; exact Bool.noConfusion)).1⟩
  -- SCL falling: it was a tick, the divider restarts from `load`
  have hfall : s.m.scl = true → (i2cmNext s i).m.scl = false → (i2cmNext s i).m.cnt = s.load := by
    intro h1 h2
    rw [es] at h2
    rw [ec]; exact (i2c_next_scl_moves 20 s.m _ (by rw [h1, h2]; exact Bool.noConfusion)).2
  have hpad_true : s.padScl i = true → s.m.scl = true := by
    intro hp
    cases hs : s.m.scl
    · rw [I2cmSt.padScl, I2cmSt.sclOe, hs] at hp; cases hp
    · rfl
  refine ⟨⟨hinv', fun hscl' hlag => ?_, fun hscl' hin' => ?_, ?_⟩, ⟨fun hch => ?_⟩⟩
  · cases hc : s.padScl i == (i2cmNext s i).m.scl
    · rw [hhold hc] at hlag
      cases hs : s.m.scl with
      | true => exact hghost hs hscl' hlag
      | false =>
        obtain ⟨hsd, hc0⟩ := hrise hs hscl'
        rw [hsd] at hlag
        -- a lagging drive with SCL low means the hold cycle right after a falling edge: no tick possible there
        have hin : s.sclIn = true := by
          cases hi : s.sclIn
          · exact absurd (by rw [sdaOe_eq, hi, hs]; rfl) hlag
          · rfl
        exact absurd hc0 (h.k2 hs hin)
    · exact absurd (hfollow hc) hlag
  · rw [hfall (hpad_true hin') hscl']; exact Nat.ne_of_gt h.k5
  · show 1 ≤ (if i.cyc && i.stb && !s.busAck && i.we && i.adr0 then i.datW % 2 ^ 20 else s.load)
    split
    · rename_i hw
      simp only [Bool.and_eq_true] at hw
      exact hl hw.1.1.1.1 hw.1.1.1.2 hw.1.2 hw.2
    · exact h.k5
  · cases hc : s.padScl i == (i2cmNext s i).m.scl
    · exact absurd (hhold hc).symm hch
    · have hceq : s.padScl i = (i2cmNext s i).m.scl := eq_of_beq hc
      cases hscl' : (i2cmNext s i).m.scl with
      | false => exact .inl ⟨hceq.trans hscl', rfl⟩
      | true =>
        have hs := hpad_true (hceq.trans hscl')
        exact .inr ⟨hs, rfl, hceq.trans hscl', hfollow hc, hghost hs hscl' (by rwa [hfollow hc] at hch)⟩

/-- The reset state satisfies the invariant once the divider holds a value ≥ 1 (any state with `load ≥ 1`, the
    machine idle as after reset, does). -/
theorem pad_inv_init (l : Nat) (hl : 1 ≤ l) : PadInv { i2cMaster.init with load := l } true :=
  ⟨⟨nofun, nofun, Nat.zero_lt_succ 15⟩, fun _ _ => rfl, nofun, hl⟩

theorem pad_inv_run (ins : List I2cmIn) (hins : ∀ i ∈ ins, LoadOk i) (sg : I2cmSt × Bool) (h : PadInv sg.1 sg.2) :
    PadInv (i2cmAug.runFrom sg ins).1 (i2cmAug.runFrom sg ins).2 :=
  Machine.invariant_of_legal i2cmAug (fun _ i => LoadOk i) (fun sg => PadInv sg.1 sg.2)
    (fun sg i h hi => (pad_step sg.1 sg.2 i h hi).1) ins sg h (Machine.LegalFrom.of_forall _ hins sg)

end Litex.Periph
