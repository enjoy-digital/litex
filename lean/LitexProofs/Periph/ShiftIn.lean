/-
  The SPISlave receive register `shiftIn` (`Cat(mosi, self.mosi[:-1])` at every rising edge) bit by bit: what it holds
  after any list of samples, and that a full word, MSB first, overwrites whatever was there.
  The SPIMaster capture register is the same register (`spiCap_eq_shiftIn`, `Spi.lean`).
-/
namespace Litex.Periph

/-- Shift a list of bits into a `dw`-bit register at bit 0 (`Cat(mosi, self.mosi[:-1])`). -/
def shiftIn (dw : Nat) (r : Nat) (bs : List Bool) : Nat :=
  bs.foldl (fun acc b => (2 * acc + (if b then 1 else 0)) % 2 ^ dw) r

@[simp] theorem shiftIn_nil (dw r : Nat) : shiftIn dw r [] = r := rfl

@[simp] theorem shiftIn_cons (dw r : Nat) (b : Bool) (bs : List Bool) :
    shiftIn dw r (b :: bs) = shiftIn dw ((2 * r + (if b then 1 else 0)) % 2 ^ dw) bs := rfl

theorem shiftIn_append (dw r : Nat) (as bs : List Bool) :
    shiftIn dw r (as ++ bs) = shiftIn dw (shiftIn dw r as) bs := by
  simp [shiftIn, List.foldl_append]

theorem shift_step_testBit (dw r : Nat) (b : Bool) (j : Nat) (hj : j < dw) :
    ((2 * r + (if b then 1 else 0)) % 2 ^ dw).testBit j = if j = 0 then b else r.testBit (j - 1) := by
  rw [Nat.testBit_mod_two_pow]
  simp only [hj, decide_true, Bool.true_and]
  cases j with
  | zero =>
    rw [Nat.testBit_zero]
    cases b
    · simp
    · have : (2 * r + 1) % 2 = 1 := by omega
      simp [this]
  | succ j =>
    rw [Nat.testBit_succ]
    have : (2 * r + (if b then 1 else 0)) / 2 = r := by cases b <;> simp <;> omega
    rw [this]; simp

theorem shiftIn_testBit (dw : Nat) (bs : List Bool) (r k : Nat) (hk : k < dw) :
    (shiftIn dw r bs).testBit k =
      if k < bs.length then bs.getD (bs.length - 1 - k) false else r.testBit (k - bs.length) := by
  induction bs generalizing r with
  | nil => simp
  | cons b bs ih =>
    rw [shiftIn_cons, ih]
    simp only [List.length_cons]
    by_cases h1 : k < bs.length
    · have h2 : k < bs.length + 1 := by omega
      have e : bs.length + 1 - 1 - k = (bs.length - 1 - k) + 1 := by omega
      simp only [h1, h2, if_true, e, List.getD_cons_succ]
    · have hj : k - bs.length < dw := by omega
      rw [if_neg h1, shift_step_testBit dw r b _ hj]
      by_cases h3 : k = bs.length
      · subst h3; simp
      · have h5 : ¬ k < bs.length + 1 := by omega
        have h4 : k - bs.length ≠ 0 := by omega
        simp only [h5, h4, if_false]
        have e : k - (bs.length + 1) = k - bs.length - 1 := by omega
        rw [e]

/-- The master's capture word, the slave's received word and the MSB-first words below are all read through this. -/
theorem shiftIn_range_testBit (dw r n k : Nat) (g : Nat → Bool) (hk : k < n) (hkd : k < dw) :
    (shiftIn dw r ((List.range n).map g)).testBit k = g (n - 1 - k) := by
  have hi : n - 1 - k < n := Nat.lt_of_le_of_lt (Nat.sub_le _ k) (Nat.sub_lt (Nat.zero_lt_of_lt hk) Nat.one_pos)
  rw [shiftIn_testBit dw _ r k hkd, List.length_map, List.length_range, if_pos hk, List.getD_eq_getElem?_getD,
    List.getElem?_map, List.getElem?_range hi]
  rfl

theorem shiftIn_lt (dw : Nat) (bs : List Bool) (r : Nat) (h : r < 2 ^ dw ∨ bs ≠ []) :
    shiftIn dw r bs < 2 ^ dw := by
  induction bs generalizing r with
  | nil => simpa using h
  | cons b bs ih => rw [shiftIn_cons]; exact ih _ (Or.inl (Nat.mod_lt _ (Nat.two_pow_pos dw)))

/-- The first `n` bits of the `dw`-bit word `w`, most significant bit first. -/
def msbBits (dw w n : Nat) : List Bool := (List.range n).map (fun j => w.testBit (dw - 1 - j))

@[simp] theorem msbBits_length (dw w n : Nat) : (msbBits dw w n).length = n := by simp [msbBits]

theorem shiftIn_msb_bits (dw w r n k : Nat) (hn : n ≤ dw) (hk : k < n) :
    (shiftIn dw r (msbBits dw w n)).testBit k = w.testBit (dw - n + k) := by
  rw [msbBits, shiftIn_range_testBit dw r n k _ hk (Nat.lt_of_lt_of_le hk hn)]
  congr 1; omega

theorem shiftIn_msb_prefix (dw w r n : Nat) (hn : n ≤ dw) :
    shiftIn dw r (msbBits dw w n) % 2 ^ n = (w / 2 ^ (dw - n)) % 2 ^ n := by
  apply Nat.eq_of_testBit_eq
  intro k
  rw [Nat.testBit_mod_two_pow, Nat.testBit_mod_two_pow, Nat.testBit_div_two_pow]
  by_cases hk : k < n
  · simp only [hk, decide_true, Bool.true_and]
    rw [shiftIn_msb_bits dw w r n k hn hk, Nat.add_comm]
  · simp [hk]

/-- Nothing of an earlier frame survives a full word. -/
theorem shiftIn_msb_word (dw w r : Nat) (hdw : 1 ≤ dw) (hw : w < 2 ^ dw) : shiftIn dw r (msbBits dw w dw) = w := by
  have h := shiftIn_msb_prefix dw w r dw (Nat.le_refl _)
  have hlt : shiftIn dw r (msbBits dw w dw) < 2 ^ dw := by
    apply shiftIn_lt; right
    intro hnil
    have := congrArg List.length hnil
    simp at this; omega
  rw [Nat.mod_eq_of_lt hlt, Nat.sub_self, Nat.pow_zero, Nat.div_one, Nat.mod_eq_of_lt hw] at h
  exact h

end Litex.Periph
