import LitexProofs.Periph.SpiGen
import LitexProofs.Periph.SpiSlave
/-
  SPIMaster wired to SPISlave, pad to pad, in one clock domain: the slave's `clk`, `cs_n`, `mosi` are the master's pad
  registers of the same cycle, the master's `pads.miso` is the slave's MISO pad (a function of the slave state, so no
  combinational loop).  `spiLink` is assembled here from the two core models; `linkStep` in
  `LitexModel/Periph/Link.lean` is the same composition as the driver serves it (`spi_link_served`, `LitexProps/C19.lean`).
-/
namespace Litex.Periph
open Litex

/-- In cycle `v + 3` of a run the slave's `clk`, `cs`, `mosi` are the pads of cycle `v + 1` (two synchroniser registers),
    the delayed clock and the FSM state those of cycle `v`: the edge it detects is the pad edge between cycles `v` and
    `v + 1`.  (`slv_sync`, `slv_edges` say the same of three explicit steps.) -/
theorem slv_runFn_pads (dw : Nat) (s : SlvSt) (h : Nat → SlvIn) (v : Nat) :
    let e := runFn (spiSlave dw) s h (v + 3)
    e.s1 = !(h (v + 1)).csN ∧ e.xfer = !(h v).csN ∧ e.m1 = (h (v + 1)).mosi ∧
    e.rise = ((h (v + 1)).clk && !(h v).clk) ∧ e.fall = (!(h (v + 1)).clk && (h v).clk) ∧ e.s0 = !(h (v + 2)).csN :=
  ⟨rfl, rfl, rfl, rfl, rfl, rfl⟩

/-- The pad waveform of one master transfer as the slave sees it; `T` the first RUN cycle, `E = T + L·div + m` the cycle in
    which `done` returns.  `csHi` leaves out cycle 0, which shows what the master's pad register held before.  The master
    has `m = div/2`; nothing below depends on that. -/
structure PadWave (div m L T : Nat) (b : Nat → Bool) (h : Nat → SlvIn) : Prop where
  csHi   : ∀ t, 0 < t → t < T → (h t).csN = true
  csLo   : ∀ t, T ≤ t → t ≤ T + (L * div + m) → (h t).csN = false
  csEnd  : (h (T + (L * div + m) + 1)).csN = true
  run    : ∀ i, i < L → ∀ k, k < div →
             (h (T + (i * div + k))).clk = decide (m ≤ k) ∧ (h (T + (i * div + k))).mosi = b i
  stop   : ∀ k, k ≤ m → (h (T + (L * div + k))).clk = false

/-- `SlvAcc.step` read through `slv_runFn_pads` (slave time is three cycles behind the pads): a rise takes the MOSI bit
    `b i`, a fall completes pulse `i`. -/
theorem slv_frame_step (dw : Nat) (b : Nat → Bool) {r0 tx : Nat} (i : Nat) (c c' : Bool) (s : SlvSt) (h : Nat → SlvIn)
    (v : Nat) (hcs' : (h (v + 1)).csN = false) (hc : (h v).clk = c)
    (hc' : (h (v + 1)).clk = c') (hm : c = false → c' = true → (h (v + 1)).mosi = b i)
    (inv : SlvAcc dw r0 0 tx ((List.range (i + c.toNat)).map b) i (runFn (spiSlave dw) s h (v + 3))) :
    SlvAcc dw r0 0 tx ((List.range (i + (c && !c').toNat + c'.toNat)).map b) (i + (c && !c').toNat)
      (runFn (spiSlave dw) s h (v + 4)) := by
  obtain ⟨hs1, _, hm1, hr, hf, _⟩ := slv_runFn_pads dw s h v
  have hst : SlvAcc dw r0 0 tx _ _ (runFn (spiSlave dw) s h (v + 4)) :=
    inv.step (h (v + 3)) (hs1.trans (congrArg (!·) hcs'))
  rw [hr, hf, hm1, hc, hc'] at hst
  cases c <;> cases c'
  · simpa using hst
  · rw [hm rfl rfl] at hst
    simpa [List.range_succ] using hst
  · simpa using hst
  · simpa using hst

theorem slv_frame_inv (dw div m L T : Nat) (b : Nat → Bool) (h : Nat → SlvIn) (s : SlvSt) (hm0 : 0 < m)
    (hmd : m < div) (hT : 1 < T) (hw : PadWave div m L T b h) :
    (∀ i, i < L → ∀ k, k < div →
      SlvAcc dw (runFn (spiSlave dw) s h (T + 2)).rx 0 (h (T + 2)).tx ((List.range (i + (decide (m ≤ k)).toNat)).map b) i
        (runFn (spiSlave dw) s h (T + (i * div + k) + 3))) ∧
    (∀ k, k ≤ m →
      SlvAcc dw (runFn (spiSlave dw) s h (T + 2)).rx 0 (h (T + 2)).tx ((List.range L).map b) L
        (runFn (spiSlave dw) s h (T + (L * div + k) + 3))) := by
  have hcs : ∀ t, t ≤ L * div + m → (h (T + t)).csN = false :=
    fun t ht => hw.csLo _ (Nat.le_add_right T t) (Nat.add_le_add_left ht T)
  refine clock_induction (w := fun t => (h (T + t)).clk)
    (Q := fun i c t => SlvAcc dw (runFn (spiSlave dw) s h (T + 2)).rx 0 (h (T + 2)).tx
      ((List.range (i + c.toNat)).map b) i (runFn (spiSlave dw) s h (T + t + 3))) hm0 hmd (fun i hi k hk => (hw.run i hi k hk).1) hw.stop ?_ ?_
  · -- chip select falls between pad cycles `T - 1` and `T` with the clock low: IDLE sees `cs`
    obtain ⟨v, rfl⟩ := Nat.exists_eq_add_one.2 (Nat.lt_trans Nat.zero_lt_one hT)
    have hclk : (h (v + 1 + (0 * div + 0))).clk = false := by
      rcases Nat.eq_zero_or_pos L with rfl | hL
      · exact hw.stop 0 (Nat.zero_le m)
      · rw [(hw.run 0 hL 0 (Nat.zero_lt_of_lt hmd)).1]; exact decide_eq_false (Nat.not_le.2 hm0)
    rw [Nat.zero_mul] at hclk
    obtain ⟨_, _, hx, hlen, htx, hrx⟩ := slv_frame_start dw (runFn (spiSlave dw) s h (v + 3)) (h (v + 3))
      (congrArg (!·) (hw.csHi v (Nat.lt_of_succ_lt_succ hT) (Nat.lt_succ_self v))) (congrArg (!·) (hcs 0 (Nat.zero_le _)))
    have hr : (runFn (spiSlave dw) s h (v + 3)).rise = false := by
      show ((h (v + 1 + (0 + 0))).clk && _) = false
      rw [hclk]; rfl
    rw [hr] at hrx
    exact ⟨hx, hrx, hlen, by rw [Nat.pow_zero, Nat.mul_one]; exact congrArg (· % 2 ^ dw) htx⟩
  · intro i c c' t ht hc hc' hpos inv
    exact slv_frame_step dw b i c c' s h (T + t) (hcs (t + 1) ht) hc hc'
      (fun e e' => by obtain ⟨k, hk, hi, hpos⟩ := hpos e e'; rw [Nat.add_assoc, hpos]; exact (hw.run i hi k hk).2) inv

/-- `h0`: chip select released in cycle 0 too (`PadWave.csHi` begins at cycle 1). -/
theorem PadWave.cs_edges {div m L T : Nat} {b : Nat → Bool} {h : Nat → SlvIn} (hw : PadWave div m L T b h)
    (h0 : (h 0).csN = true) (u : Nat) (hu : u ≤ T + (L * div + m)) :
    ((h u).csN && !(h (u + 1)).csN) = decide (u + 1 = T) ∧
    (!(h u).csN && (h (u + 1)).csN) = decide (u = T + (L * div + m)) := by
  have hTE : T ≤ T + (L * div + m) := Nat.le_add_right _ _
  have hhi : ∀ t, t < T → (h t).csN = true := fun t ht =>
    match t with
    | 0 => h0
    | t + 1 => hw.csHi (t + 1) (Nat.succ_pos t) ht
  rcases Nat.lt_trichotomy (u + 1) T with c | c | c
  · rw [hhi u (Nat.lt_of_succ_lt c), hhi (u + 1) c]
    exact ⟨(decide_eq_false (Nat.ne_of_lt c)).symm,
      (decide_eq_false (Nat.ne_of_lt (Nat.lt_of_lt_of_le (Nat.lt_of_succ_lt c) hTE))).symm⟩
  · rw [hhi u (c ▸ Nat.lt_succ_self u), hw.csLo (u + 1) (Nat.le_of_eq c.symm) (c ▸ hTE)]
    exact ⟨(decide_eq_true c).symm,
      (decide_eq_false (Nat.ne_of_lt (Nat.lt_of_lt_of_le (c ▸ Nat.lt_succ_self u) hTE))).symm⟩
  · rw [hw.csLo u (Nat.le_of_lt_succ c) hu]
    rcases Nat.lt_or_eq_of_le hu with e | rfl
    · rw [hw.csLo (u + 1) (Nat.le_of_lt c) e]
      exact ⟨(decide_eq_false (Nat.ne_of_gt c)).symm, (decide_eq_false (Nat.ne_of_lt e)).symm⟩
    · rw [hw.csEnd]
      exact ⟨(decide_eq_false (Nat.ne_of_gt c)).symm, (decide_eq_true rfl).symm⟩

/-- Exactly one frame: `start` is `¬xfer ∧ cs` and `irq` is `xfer ∧ ¬cs`, both edges of the chip-select pad three cycles
    earlier. -/
theorem slv_one_frame (dw div m L T : Nat) (b : Nat → Bool) (h : Nat → SlvIn) (s : SlvSt) (hT : 0 < T)
    (hw : PadWave div m L T b h) (hcs : (h 0).csN = true) (hx : s.xfer = false) (h0 : s.s0 = false)
    (h1 : s.s1 = false) :
    ∀ t, t ≤ T + (L * div + m) + 3 →
      (!(runFn (spiSlave dw) s h t).xfer && (runFn (spiSlave dw) s h t).s1) = decide (t = T + 2) ∧
      ((runFn (spiSlave dw) s h t).xfer && !(runFn (spiSlave dw) s h t).s1) = decide (t = T + (L * div + m) + 3) := by
  -- nothing in the first three cycles: `xfer` and `s1` still come from the idle registers and the pad of cycle 0
  have early : ∀ t, t < 3 → ∀ a b : Bool, a = false → b = false →
      (!a && b) = decide (t = T + 2) ∧ (a && !b) = decide (t = T + (L * div + m) + 3) := fun t ht a b ha hb => by
    rw [ha, hb]
    exact ⟨(decide_eq_false (Nat.ne_of_lt (Nat.lt_of_lt_of_le ht (Nat.add_le_add_right hT 2)))).symm,
      (decide_eq_false (Nat.ne_of_lt (Nat.lt_of_lt_of_le ht (Nat.le_add_left 3 _)))).symm⟩
  intro t ht
  match t, ht with
  | 0, _ => exact early 0 (by decide) _ _ hx h1
  | 1, _ => exact early 1 (by decide) _ _ h1 h0
  | 2, _ => exact early 2 (by decide) _ _ h0 (congrArg (!·) hcs)
  | u + 3, hu =>
    obtain ⟨e1, e2, _⟩ := slv_runFn_pads dw s h u
    rw [e1, e2]
    show _ = decide (u + 1 + 2 = T + 2) ∧ _
    simp only [Bool.not_not, Nat.add_right_cancel_iff]
    exact hw.cs_edges hcs u (Nat.le_of_add_le_add_right hu)

structure LinkIn where
  m  : SpiIn      -- master's control signals (`miso` is ignored: the pad is driven by the slave)
  tx : Nat        -- the slave's word to send (`self.miso` of the slave core)
deriving Repr, DecidableEq

structure LinkSt where
  m : SpiSt
  s : SlvSt
deriving Repr, DecidableEq

/-- The master's input in a cycle: its control signals, `pads.miso` := the slave's MISO pad (slave loopback off). -/
def linkMIn (dw : Nat) (st : LinkSt) (x : LinkIn) : SpiIn := { x.m with miso := st.s.misoData.testBit (dw - 1) }

/-- The slave's input in a cycle: the master's pad registers. -/
def linkSIn (st : LinkSt) (x : LinkIn) : SlvIn := ⟨st.m.clk, st.m.csN, st.m.mosi, x.tx, false⟩

/-- SPIMaster (`c`) and SPISlave (width `dw`) pad to pad, one clock. -/
def spiLink (c : SpiCfg) (dw : Nat) : Machine LinkIn LinkSt (SpiOut × SlvOut) where
  init := ⟨(spiMaster c).init, (spiSlave dw).init⟩
  out st x := ((spiMaster c).out st.m (linkMIn dw st x), (spiSlave dw).out st.s (linkSIn st x))
  next st x := ⟨spiNext c st.m (linkMIn dw st x), slvNext dw st.s (linkSIn st x)⟩

/-- The wiring is what the two `out` functions say: pads of the same cycle. -/
theorem link_wiring (c : SpiCfg) (dw : Nat) (st : LinkSt) (x : LinkIn) :
    let o := (spiLink c dw).out st x
    (linkSIn st x).clk = o.1.clk ∧ (linkSIn st x).csN = o.1.csN ∧ (linkSIn st x).mosi = o.1.mosi ∧
    (linkMIn dw st x).miso = o.2.miso ∧ (linkSIn st x).loopback = false := ⟨rfl, rfl, rfl, rfl, rfl⟩

/-- Input functions of the two components along a run of the link. -/
def linkG (c : SpiCfg) (dw : Nat) (st : LinkSt) (x : Nat → LinkIn) (t : Nat) : SpiIn :=
  linkMIn dw (runFn (spiLink c dw) st x t) (x t)
def linkH (c : SpiCfg) (dw : Nat) (st : LinkSt) (x : Nat → LinkIn) (t : Nat) : SlvIn :=
  linkSIn (runFn (spiLink c dw) st x t) (x t)

theorem link_proj (c : SpiCfg) (dw : Nat) (st : LinkSt) (x : Nat → LinkIn) (t : Nat) :
    (runFn (spiLink c dw) st x t).m = runFn (spiMaster c) st.m (linkG c dw st x) t ∧
    (runFn (spiLink c dw) st x t).s = runFn (spiSlave dw) st.s (linkH c dw st x) t := by
  induction t with
  | zero => exact ⟨rfl, rfl⟩
  | succ t ih =>
    exact ⟨congrArg (spiNext c · (linkG c dw st x t)) ih.1, congrArg (slvNext dw · (linkH c dw st x t)) ih.2⟩

/-- The master's side of one transfer over the link.  Last conjunct: the master samples the slave's MISO pad `div/2 − 1`
    cycles into the high phase of each pulse, first pulse into the top bit. -/
theorem link_master (c : SpiCfg) (dw div L : Nat) (hdiv : 2 ≤ div) (hd16 : div < 65536) (hL : 1 ≤ L) (hLw : L ≤ c.dw)
    (x : Nat → LinkIn) (hx : ∀ t, SpiHold div L (x t).m) (st : LinkSt) (hs : IdleOk div st.m)
    (hst : (x 0).m.start = true) :
    let T := 1 + (div - (st.m.cnt + 1) % div)
    1 < T ∧ PadWave div (div / 2) L T (fun i => (x 0).m.mosi.testBit (spiSel0 c L - i)) (linkH c dw st x) ∧
    ∀ k, k < L → (runFn (spiLink c dw) st x (T + (L * div + div / 2))).m.miso.testBit k =
      (runFn (spiLink c dw) st x (T + ((L - 1 - k) * div + (div / 2 - 1)))).s.misoData.testBit (dw - 1) := by
  intro T
  -- over the link the master's inputs satisfy `SpiHold` as they are: the pad registers are read off the phase invariants
  have hG : ∀ t, SpiHold div L (linkG c dw st x t) := fun t => ⟨(hx t).div, (hx t).len, (hx t).cs, (hx t).csm, (hx t).lb⟩
  obtain ⟨n, hT, hS, hR, hP, hD⟩ := spi_phases hdiv hd16 hL hLw hG hs hst
  have hcs := spi_phases_csN hdiv hR hP hD
  -- the slave's pads are the master's pad registers
  have hH : linkH c dw st x = fun t => linkSIn ⟨runFn (spiMaster c) st.m (linkG c dw st x) t, st.s⟩ (x t) :=
    funext fun t => by unfold linkH linkSIn; rw [(link_proj c dw st x t).1]
  rw [show T = n + 2 from hT, hH]
  refine ⟨Nat.succ_lt_succ (Nat.succ_pos n), ⟨fun t h0 ht => ?_, fun t h1 h2 => ?_, ?_,
    fun i hi k hk => ⟨(hR i hi k hk).clk, (hR i hi k hk).mosi⟩, fun k hk => ?_⟩, fun k hk => ?_⟩
  · obtain ⟨j, rfl⟩ := Nat.exists_eq_add_one.2 h0
    exact (hS j (Nat.le_of_lt_succ (Nat.lt_of_succ_lt_succ ht))).csN
  · obtain ⟨r, rfl⟩ := Nat.exists_eq_add_of_le h1
    exact hcs r (Nat.le_of_add_le_add_left h2)
  · show (spiNext c _ _).csN = true
    rw [spiNext_csN, spiXfer, hD.fsm, (hG _).csm]; exact congrArg (!·) (Bool.and_false _)
  · rcases Nat.lt_or_eq_of_le hk with hlt | rfl
    · exact (hP k hlt).clk
    · exact hD.clk
  · rw [(link_proj c dw st x _).1, hD.miso, spiCap_testBit hLw hk]; rfl

/-- Bit `k` of the top `L` bits of a `dw`-bit word, counted from the top. -/
theorem msb_index {k L dw : Nat} (hk : k < L) (hLd : L ≤ dw) : dw - 1 - (L - 1 - k) = dw - L + k := by
  obtain ⟨j, rfl⟩ := Nat.exists_eq_add_of_lt hk
  obtain ⟨d, rfl⟩ := Nat.exists_eq_add_of_le hLd
  rw [Nat.add_sub_cancel, Nat.add_sub_cancel_left, Nat.add_sub_cancel_left, Nat.add_right_comm _ 1 d,
    Nat.add_sub_cancel, Nat.add_right_comm k j d, Nat.add_sub_cancel, Nat.add_comm]

end Litex.Periph
