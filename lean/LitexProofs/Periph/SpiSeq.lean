import LitexProofs.Periph.Spi
import LitexModel.Periph.Glue
/-
  SPI master: idle cycles keep the clean state `IdleOk` in which a transfer ends and the next can start; the chip-select
  vector and manual CS mode.
-/
namespace Litex.Periph
open Litex

theorem spi_idle_run (c : SpiCfg) {div : Nat} (hdiv : 2 ≤ div) (hd16 : div < 65536) {ins : List SpiIn}
    (hins : ∀ x ∈ ins, x.div = div ∧ x.start = false) {s : SpiSt} (h : IdleOk div s) :
    IdleOk div ((spiMaster c).runFrom s ins) ∧
    ∀ o ∈ (spiMaster c).traceFrom s ins, o.done = true ∧ o.clk = false ∧ o.irq = false :=
  (spiMaster c).inv_along
    (fun s x h hx => by
      obtain ⟨o1, o2, o3⟩ := h.out c x
      obtain ⟨h4, h5⟩ := spi_idle_cycle c hdiv hd16 hx.1 h
      exact ⟨⟨(spiNext_fsm ..).trans (by rw [h.fsm, hx.2]; rfl), h4, h5⟩, by rw [o1, hx.2]; rfl, o2, o3⟩)
    ins s h (Machine.LegalFrom.of_forall _ hins s)

theorem testBit_allOnes_sub (n x j : Nat) (hx : x < 2 ^ n) (hj : j < n) :
    ((2 ^ n - 1) - x).testBit j = !x.testBit j := by
  have e : (2 ^ n - 1) - x = 2 ^ n - (x + 1) := by omega
  rw [e, Nat.testBit_two_pow_sub_succ hx]
  simp [hj]

/-- `act`: a transfer is in progress or manual CS mode is on. -/
theorem csnOf_line (ncs cs j : Nat) (act : Bool) (hj : j < ncs) :
    (csnOf ncs cs act).testBit j = !(cs.testBit j && act) := by
  unfold csnOf
  cases act with
  | false =>
    simp only [Bool.false_eq_true, if_false, Nat.sub_zero, Bool.and_false, Bool.not_false]
    have := testBit_allOnes_sub ncs 0 j (Nat.two_pow_pos ncs) hj
    simpa using this
  | true =>
    simp only [if_true, Bool.and_true]
    rw [testBit_allOnes_sub ncs (cs % 2 ^ ncs) j (Nat.mod_lt _ (Nat.two_pow_pos ncs)) hj, Nat.testBit_mod_two_pow]
    simp [hj]

/-- **Manual CS mode**: with `cs_mode = 1` the lines are the registered complement of `cs`, whatever the FSM does;
    **automatic mode** outside a transfer (`xfer_enable = 0`): every line is high. -/
theorem spiN_manual_and_idle (c : SpiCfg) (ncs : Nat) (s : SpiNSt) (i : SpiIn) (cs j : Nat) (hj : j < ncs) :
    (i.csMode = true → (spiNNext c ncs s i cs).csN.testBit j = !cs.testBit j) ∧
    (i.csMode = false → spiXfer s.core i = false → (spiNNext c ncs s i cs).csN.testBit j = true) ∧
    (spiXfer s.core i = true → (spiNNext c ncs s i cs).csN.testBit j = !cs.testBit j) := by
  refine ⟨fun h => ?_, fun h1 h2 => ?_, fun h => ?_⟩ <;>
    (show (csnOf ncs cs _).testBit j = _) <;> rw [csnOf_line ncs cs j _ hj] <;> simp [*]

end Litex.Periph
