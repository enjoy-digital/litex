import LitexModel.Periph.Spi
import LitexProofs.Periph.ShiftIn
/-
  SPISlave: inside a frame the core counts the synchronised rising clock edges and shifts the
  synchronised MOSI in at each of them, MSB first; MISO shifts out on falling edges.
  Then the same in pad terms (synchroniser delay, MISO bit order) and for prefixes of a frame.
-/
namespace Litex.Periph
open Litex

/-- Rising / falling edge of the synchronised clock, as the core detects it. -/
def SlvSt.rise (s : SlvSt) : Bool := s.c1 && !s.clkD
def SlvSt.fall (s : SlvSt) : Bool := !s.c1 && s.clkD

/-- Chip select (synchronised) asserted in every cycle of the run. -/
def slvCsHeld (dw : Nat) (s : SlvSt) : List SlvIn → Prop
  | [] => True
  | i :: is => s.s1 = true ∧ slvCsHeld dw (slvNext dw s i) is

/-- Synchronised MOSI values at the rising edges of the run, oldest first. -/
def slvSamples (dw : Nat) (s : SlvSt) : List SlvIn → List Bool
  | [] => []
  | i :: is => (if s.rise then [s.m1] else []) ++ slvSamples dw (slvNext dw s i) is

/-- Number of falling edges of the run. -/
def slvFalls (dw : Nat) (s : SlvSt) : List SlvIn → Nat
  | [] => 0
  | i :: is => (if s.fall then 1 else 0) + slvFalls dw (slvNext dw s i) is

@[simp] theorem slv_runFrom_cons (dw : Nat) (s : SlvSt) (i : SlvIn) (is : List SlvIn) :
    (spiSlave dw).runFrom s (i :: is) = (spiSlave dw).runFrom (slvNext dw s i) is := rfl

theorem slv_frame_start (dw : Nat) (s : SlvSt) (i : SlvIn) (hx : s.xfer = false) (hc : s.s1 = true) :
    ((spiSlave dw).out s i).start = true ∧ ((spiSlave dw).out s i).done = false ∧
    (slvNext dw s i).xfer = true ∧ (slvNext dw s i).length = 0 ∧ (slvNext dw s i).misoData = i.tx ∧
    (slvNext dw s i).rx = (if s.rise then (2 * s.rx + (if s.m1 then 1 else 0)) % 2 ^ dw else s.rx) := by
  simp [spiSlave, slvNext, SlvSt.rise, hx, hc]

theorem slv_next_fields (dw : Nat) (s : SlvSt) (i : SlvIn) (hx : s.xfer = true) (hc : s.s1 = true) :
    (slvNext dw s i).xfer = true ∧
    (slvNext dw s i).length = (s.length + (if s.rise then 1 else 0)) % 256 ∧
    (slvNext dw s i).rx = (if s.rise then (2 * s.rx + (if s.m1 then 1 else 0)) % 2 ^ dw else s.rx) ∧
    (slvNext dw s i).misoData = (if s.fall then (2 * s.misoData) % 2 ^ dw else s.misoData) := by
  unfold slvNext SlvSt.rise SlvSt.fall
  rw [hx, hc]
  exact ⟨rfl, rfl, rfl, rfl⟩

theorem slv_next_idle (dw : Nat) (s : SlvSt) (i : SlvIn) (hc : s.s1 = false) :
    (slvNext dw s i).rx = s.rx ∧ (slvNext dw s i).xfer = false ∧
    (s.xfer = false → (slvNext dw s i).length = s.length) := by
  unfold slvNext
  rw [hc]
  exact ⟨rfl, rfl, fun hx => by rw [hx]; rfl⟩

/-- Inside a frame, counting from a state with receive register `r0`, `length = l0` and transmit register `≡ tx`: `bs` the
    synchronised MOSI values at the rising edges since (oldest first), `f` the falling edges since.  Both forms of a
    frame, over an input list (`slv_frame_run`) and over a pad history (`SpiLink.lean`), carry this invariant by
    `SlvAcc.step`. -/
structure SlvAcc (dw r0 l0 tx : Nat) (bs : List Bool) (f : Nat) (s : SlvSt) : Prop where
  xfer : s.xfer = true
  rx   : s.rx = shiftIn dw r0 bs
  len  : s.length = (l0 + bs.length) % 256
  tx   : s.misoData % 2 ^ dw = (tx * 2 ^ f) % 2 ^ dw

theorem SlvAcc.step {dw r0 l0 tx f : Nat} {bs : List Bool} {s : SlvSt} (h : SlvAcc dw r0 l0 tx bs f s) (i : SlvIn)
    (hc : s.s1 = true) :
    SlvAcc dw r0 l0 tx (bs ++ if s.rise then [s.m1] else []) (f + s.fall.toNat) (slvNext dw s i) := by
  obtain ⟨hx', hlen, hrx, hmd⟩ := slv_next_fields dw s i h.xfer hc
  refine ⟨hx', ?_, ?_, ?_⟩
  · rw [hrx, h.rx]; cases s.rise
    · exact congrArg (shiftIn dw r0) (List.append_nil bs).symm
    · rw [if_pos rfl, if_pos rfl, shiftIn_append]; rfl
  · rw [hlen, h.len, Nat.mod_add_mod]; cases s.rise
    · exact congrArg (fun l => (l0 + List.length l) % 256) (List.append_nil bs).symm
    · rw [if_pos rfl, if_pos rfl, List.length_append, Nat.add_assoc]; rfl
  · rw [hmd]; cases s.fall
    · exact h.tx
    · show 2 * s.misoData % 2 ^ dw % 2 ^ dw = tx * 2 ^ (f + 1) % 2 ^ dw
      rw [Nat.mod_mod, Nat.mul_mod, h.tx, ← Nat.mul_mod, Nat.pow_succ, Nat.mul_comm 2, Nat.mul_assoc]

theorem slv_frame_run (dw : Nat) : ∀ (ins : List SlvIn) (s : SlvSt) {r0 l0 tx f : Nat} {bs : List Bool},
    SlvAcc dw r0 l0 tx bs f s → slvCsHeld dw s ins →
    SlvAcc dw r0 l0 tx (bs ++ slvSamples dw s ins) (f + slvFalls dw s ins) ((spiSlave dw).runFrom s ins)
  | [], s, _, _, _, _, _, h, _ => by rw [slvSamples, slvFalls, List.append_nil]; exact h
  | i :: is, s, _, _, _, _, _, h, hcs => by
    have := slv_frame_run dw is _ (h.step i hcs.1) hcs.2
    rw [List.append_assoc, Nat.add_assoc] at this
    rw [slvSamples, slvFalls, slv_runFrom_cons]
    cases hf : s.fall <;> rw [hf] at this <;> exact this

theorem slv_frame_end (dw : Nat) (s : SlvSt) (i : SlvIn) (hx : s.xfer = true) (hc : s.s1 = false) :
    ((spiSlave dw).out s i).irq = true ∧ (slvNext dw s i).xfer = false ∧
    (slvNext dw s i).rx = s.rx ∧
    ((slvNext dw s i).s1 = false → ∀ j, ((spiSlave dw).out (slvNext dw s i) j).done = true) := by
  obtain ⟨hrx, hxf, _⟩ := slv_next_idle dw s i hc
  refine ⟨?_, hxf, hrx, fun h j => ?_⟩
  · show (s.xfer && !s.s1) = true
    rw [hx, hc]; rfl
  · show (!(slvNext dw s i).xfer && !(slvNext dw s i).s1) = true
    rw [hxf, h]; rfl

/-- Two synchroniser registers: the synchronised signals are the pads two cycles earlier. -/
theorem slv_sync (dw : Nat) (s : SlvSt) (z a b : SlvIn) :
    let e := slvNext dw (slvNext dw (slvNext dw s z) a) b
    e.c1 = a.clk ∧ e.s1 = !a.csN ∧ e.m1 = a.mosi ∧ e.clkD = z.clk ∧ e.c0 = b.clk ∧ e.s0 = !b.csN ∧ e.m0 = b.mosi := by
  simp [slvNext]

/-- The edge detected is the one between the pad values three and two cycles ago. -/
theorem slv_edges (dw : Nat) (s : SlvSt) (z a b : SlvIn) :
    let e := slvNext dw (slvNext dw (slvNext dw s z) a) b
    e.rise = (a.clk && !z.clk) ∧ e.fall = (!a.clk && z.clk) := by
  simp [slvNext, SlvSt.rise, SlvSt.fall]

/-- MISO, MSB first: after `f < dw` falling edges the pad shows bit `dw - 1 - f` of the word to send. -/
theorem slv_miso_bit (dw tx f md : Nat) (hf : f < dw) (h : md % 2 ^ dw = (tx * 2 ^ f) % 2 ^ dw) :
    md.testBit (dw - 1) = tx.testBit (dw - 1 - f) := by
  have h1 : (md % 2 ^ dw).testBit (dw - 1) = md.testBit (dw - 1) := by
    rw [Nat.testBit_mod_two_pow]; simp; omega
  rw [← h1, h, Nat.testBit_mod_two_pow, ← Nat.shiftLeft_eq, Nat.testBit_shiftLeft]
  have : dw - 1 < dw := by omega
  have : f ≤ dw - 1 := by omega
  simp [*]

instance slvCsHeld_decidable (dw : Nat) : (s : SlvSt) → (ins : List SlvIn) → Decidable (slvCsHeld dw s ins)
  | _, [] => isTrue trivial
  | s, i :: is =>
    have := slvCsHeld_decidable dw (slvNext dw s i) is
    inferInstanceAs (Decidable (s.s1 = true ∧ slvCsHeld dw (slvNext dw s i) is))

theorem slvCsHeld_take (dw : Nat) (ins : List SlvIn) (s : SlvSt) (n : Nat) (h : slvCsHeld dw s ins) :
    slvCsHeld dw s (ins.take n) := by
  induction ins generalizing s n with
  | nil => simpa using h
  | cons i is ih =>
    cases n with
    | zero => simp [slvCsHeld]
    | succ n => exact ⟨h.1, ih _ n h.2⟩

/-- The word goes out MSB first, one bit per falling edge. -/
theorem slv_miso_run (dw : Nat) (ins : List SlvIn) (s : SlvSt) (hx : s.xfer = true) (hl : s.length < 256)
    (hcs : slvCsHeld dw s ins) (hf : slvFalls dw s ins < dw) (j : SlvIn) (hj : j.loopback = false) :
    ((spiSlave dw).out ((spiSlave dw).runFrom s ins) j).miso = s.misoData.testBit (dw - 1 - slvFalls dw s ins) := by
  have h := (slv_frame_run dw ins s (r0 := s.rx) (bs := []) (f := 0)
    ⟨hx, rfl, (Nat.mod_eq_of_lt hl).symm, congrArg (· % 2 ^ dw) (Nat.mul_one _).symm⟩ hcs).tx
  rw [Nat.zero_add] at h
  show (if j.loopback then _ else ((spiSlave dw).runFrom s ins).misoData.testBit (dw - 1)) = _
  simp only [hj, Bool.false_eq_true, if_false]
  exact slv_miso_bit dw s.misoData _ _ hf h

end Litex.Periph
