import LitexModel.Periph.Uart
import LitexProofs.Machine
/-
  Phase accumulator arithmetic; the 8-bit shift registers bit by bit; closed form of the transmitter's RUN phase; and
  the reachable-state invariant of `RS232PHYTX` (the line is high whenever the transmitter is in IDLE).
  (`runFn`, runs over an input function, is in `LitexProofs/Machine.lean`.)
-/
namespace Litex.Periph
open Litex

/-- Ticks produced by `j` enabled cycles from `a`. -/
def accTicks (tw : Nat) (rx : Bool) (a : Acc) : Nat → Nat
  | 0 => 0
  | j + 1 => (if (accNext tw rx a true).tick then 1 else 0) + accTicks tw rx (accNext tw rx a true) j

/-- Accumulator state after `j` enabled cycles from `a`. -/
def accRun (tw : Nat) (rx : Bool) (a : Acc) : Nat → Acc
  | 0 => a
  | j + 1 => accRun tw rx (accNext tw rx a true) j

/-- One enabled cycle of the accumulator seen on the running sum `x`: the phase is `x + tw` reduced, and the tick
    tells whether the sum crossed a multiple of `2^32`. -/
theorem acc_ofNat_step (x tw : Nat) (htw : tw < M32) :
    Acc.ofNat (x % M32 + tw) = ⟨(x + tw) % M32, decide ((x + tw) / M32 = x / M32 + 1)⟩ := by
  simp only [Acc.ofNat, Acc.mk.injEq, Nat.mod_add_mod, true_and]
  rw [Bool.eq_iff_iff]
  simp only [beq_iff_eq, decide_eq_true_eq]
  unfold M32 at *
  omega

theorem acc_enabled (tw : Nat) (rx : Bool) (htw : tw < M32) (j : Nat) (a : Acc) (x : Nat) (ha : a.phase = x % M32) :
    (accRun tw rx a j).phase = (x + j * tw) % M32 ∧ accTicks tw rx a j + x / M32 = (x + j * tw) / M32 := by
  induction j generalizing a x with
  | zero => simp [accRun, accTicks, ha]
  | succ j ih =>
    have hn : accNext tw rx a true = ⟨(x + tw) % M32, decide ((x + tw) / M32 = x / M32 + 1)⟩ := by
      rw [accNext, if_pos rfl, ha]; exact acc_ofNat_step x tw htw
    have hk : (if decide ((x + tw) / M32 = x / M32 + 1) = true then 1 else 0) + x / M32 = (x + tw) / M32 := by
      by_cases ht : (x + tw) / M32 = x / M32 + 1
      · rw [if_pos (decide_eq_true ht)]; omega
      · rw [if_neg (by simpa using ht)]; unfold M32 at *; omega
    obtain ⟨h1, h2⟩ := ih (accNext tw rx a true) (x + tw) (by rw [hn])
    have e : x + (j + 1) * tw = x + tw + j * tw := by rw [Nat.succ_mul]; omega
    rw [hn] at h1 h2
    simp only [accRun, accTicks, hn, h1, e, true_and]
    omega

/-- Shift register after `n` shifts (`data := Cat(data[1:], 1)`). -/
def txShift (d : Nat) : Nat → Nat
  | 0 => d
  | n + 1 => txShift d n / 2 + 128

/-- Bit `b` of the frame as the hardware produces it: start, then bit 0 of the shift register before each shift. -/
def txHwBit (d : Nat) : Nat → Bool
  | 0 => false
  | b + 1 => txShift d b % 2 == 1

/-- The frame as the standard defines it: start (0), `d0 … d7` LSB first, stop (1). -/
def frameBit (d : Nat) (b : Nat) : Bool :=
  if b = 0 then false else if b ≤ 8 then d.testBit (b - 1) else true

theorem shift_testBit (x : Nat) (hx : x < 256) (b : Bool) (k : Nat) (hk : k < 8) :
    (x / 2 + (if b then 128 else 0)).testBit k = (if k = 7 then b else x.testBit (k + 1)) := by
  have h7 : (x / 2).testBit 7 = false := Nat.testBit_lt_two_pow (by omega)
  cases b with
  | false =>
    rw [if_neg (by simp), Nat.add_zero, Nat.testBit_div_two]
    split
    · subst k; rw [← Nat.testBit_div_two, h7]
    · rfl
  | true =>
    rw [if_pos rfl, Nat.add_comm, show (128 : Nat) = 2 ^ 7 from rfl]
    split
    · subst k; rw [Nat.testBit_two_pow_add_eq, h7]; rfl
    · rw [Nat.testBit_two_pow_add_gt (by omega), Nat.testBit_div_two]

theorem txShift_lt (d : Nat) (hd : d < 256) (n : Nat) : txShift d n < 256 := by
  induction n with
  | zero => exact hd
  | succ n ih => simp only [txShift]; omega

theorem txShift_testBit (d : Nat) (hd : d < 256) (n k : Nat) (hk : k < 8) :
    (txShift d n).testBit k = if k + n < 8 then d.testBit (k + n) else true := by
  induction n generalizing k with
  | zero => rw [if_pos (by omega)]; rfl
  | succ n ih =>
    have h := shift_testBit (txShift d n) (txShift_lt d hd n) true k hk
    rw [if_pos rfl] at h
    rw [txShift, h]
    split
    · subst k; rw [if_neg (by omega)]
    · rw [ih (k + 1) (by omega), Nat.add_right_comm, Nat.add_assoc]

theorem txHwBit_eq_frameBit (d b : Nat) (hd : d < 256) : txHwBit d b = frameBit d b := by
  cases b with
  | zero => rfl
  | succ b =>
    have h := txShift_testBit d hd b 0 (by omega)
    rw [Nat.testBit_zero, Nat.zero_add] at h
    rw [txHwBit, frameBit, if_neg (Nat.succ_ne_zero b), Nat.add_sub_cancel, Bool.beq_eq_decide_eq, h]
    rfl

/-- Closed form of the transmitter `r` cycles into RUN (byte `d`, tuning word `tw`).  IDLE preloads the accumulator
    with `tw`, so `r` cycles into RUN its running sum is `(r + 1)·tw`, one addition ahead of the `r·tw` whose carries
    the bit counter has consumed. -/
def txRunSt (tw d r : Nat) : TxSt :=
  { run := true, data := txShift d (r * tw / M32), count := r * tw / M32, tx := txHwBit d (r * tw / M32)
    acc := { phase := ((r + 1) * tw) % M32, tick := decide ((r + 1) * tw / M32 = r * tw / M32 + 1) } }

theorem tx_accept (tw : Nat) (htw : tw < M32) (s : TxSt) (i : TxIn) (hs : s.run = false) (hv : i.valid = true)
    (hd : i.data < 256) : txNext tw s i = txRunSt tw i.data 0 := by
  have h0 : tw / M32 = 0 := Nat.div_eq_of_lt htw
  simp [txNext, txRunSt, hs, hv, accNext, accLoad, Acc.ofNat, txShift, txHwBit, h0, Nat.mod_eq_of_lt hd]

/-- `(r + 1)·tw < 10·2^32`: cycle `r` is not the one of the tenth tick, so cycle `r + 1` is still inside the frame;
    `tx_run` therefore covers every `r` with `r·tw < 10·2^32`, the last cycle of the stop bit included. -/
theorem tx_run_step (tw d r : Nat) (htw : tw < M32) (i : TxIn) (hr : (r + 1) * tw < 10 * M32) :
    txNext tw (txRunSt tw d r) i = txRunSt tw d (r + 1) := by
  have e : (r + 1 + 1) * tw = (r + 1) * tw + tw := Nat.succ_mul _ _
  have hq : (r + 1) * tw / M32 ≤ 9 := by unfold M32 at *; omega
  simp only [txNext, txRunSt, e, ← acc_ofNat_step _ tw htw, accNext, if_true]
  by_cases ht : (r + 1) * tw / M32 = r * tw / M32 + 1
  · rw [ht] at hq
    generalize r * tw / M32 = q at *
    have h9 : (q == 9) = false := by rw [beq_eq_false_iff_ne]; omega
    have hm : (q + 1) % 16 = q + 1 := by omega
    simp only [ht, decide_true, if_true, h9, hm, txShift, txHwBit, Bool.not_false]
  · have hs : (r + 1) * tw / M32 = r * tw / M32 := by
      rw [Nat.succ_mul] at ht ⊢; unfold M32 at *; omega
    simp only [ht, decide_false, Bool.false_eq_true, if_false]
    rw [hs]

theorem tx_run (tw d : Nat) (htw : tw < M32) (f : Nat → TxIn) (r : Nat) (hr : r * tw < 10 * M32) :
    runFn (uartTx tw) (txRunSt tw d 0) f r = txRunSt tw d r :=
  runFn_inv (uartTx tw) f (Inv := fun t s => s = txRunSt tw d t) (N := r) rfl
    (fun t _ ht h => h ▸ tx_run_step tw d t htw (f t) (Nat.lt_of_le_of_lt (Nat.mul_le_mul_right tw ht) hr))
    r (Nat.le_refl r)

theorem txReady_run (tw d r : Nat) (htw : tw < M32) (hr : r * tw < 10 * M32) :
    txReady (txRunSt tw d r) = decide (10 * M32 ≤ (r + 1) * tw) := by
  simp only [txReady, txRunSt, Bool.true_and]
  rw [Bool.eq_iff_iff]
  simp only [Bool.and_eq_true, decide_eq_true_eq, beq_iff_eq]
  rw [Nat.succ_mul]
  unfold M32 at *
  omega

theorem tx_not_ready (tw d r : Nat) (htw : tw < M32) (hr : (r + 1) * tw < 10 * M32) :
    txReady (txRunSt tw d r) = false := by
  rw [txReady_run tw d r htw (by rw [Nat.succ_mul] at hr; omega)]
  exact decide_eq_false (by omega)

theorem tx_last (tw d r : Nat) (htw : tw < M32) (hd : d < 256) (i : TxIn)
    (h1 : r * tw < 10 * M32) (h2 : 10 * M32 ≤ (r + 1) * tw) :
    (txNext tw (txRunSt tw d r) i).run = false ∧ (txNext tw (txRunSt tw d r) i).tx = true := by
  have hr := txReady_run tw d r htw h1
  rw [decide_eq_true h2] at hr
  simp only [txReady, txRunSt, Bool.true_and, Bool.and_eq_true, beq_iff_eq, decide_eq_true_eq] at hr
  obtain ⟨ht, h9⟩ := hr
  rw [h9] at ht
  have hb : txHwBit d 10 = true := by rw [txHwBit_eq_frameBit d 10 hd]; rfl
  simp only [txHwBit] at hb
  simp [txRunSt, txNext, h9, ht, hb]

/-! ### Reachable states of the transmitter

    In RUN the data register is the frame's shift register `txShift d count` of some byte `d`, so the bit shifted out by
    the tenth tick is a shifted-in stop bit.  Holds for every tuning word. -/

structure TxInv (s : TxSt) : Prop where
  idle : s.run = false → s.tx = true
  run  : s.run = true → s.count ≤ 9 ∧ ∃ d, d < 256 ∧ s.data = txShift d s.count

theorem tx_inv_step (tw : Nat) (s : TxSt) (i : TxIn) (h : TxInv s) : TxInv (txNext tw s i) := by
  cases hr : s.run with
  | true =>
    obtain ⟨hc, d, hd, hs⟩ := h.run hr
    cases ht : s.acc.tick with
    | true =>
      by_cases h9 : s.count = 9
      · -- tenth tick: bit 0 of `txShift d 9` is a shifted-in stop bit, so the line goes high with the return to IDLE
        have hb := txShift_testBit d hd 9 0 (by omega)
        rw [Nat.testBit_zero, if_neg (by omega), ← h9, ← hs, decide_eq_true_eq] at hb
        exact ⟨fun _ => by simp [txNext, hr, ht, hb], fun hrun => by simp [txNext, hr, ht, h9] at hrun⟩
      · -- any earlier tick: one more shift, still in RUN
        have hm : (s.count + 1) % 16 = s.count + 1 := by omega
        refine ⟨fun hrun => ?_, fun _ => ?_⟩
        · simp [txNext, hr, ht, h9] at hrun
        · simp only [txNext, hr, ht, if_true, hm]
          exact ⟨by omega, d, hd, by rw [hs]; rfl⟩
    | false =>
      -- no tick: only the accumulator moves
      refine ⟨fun hrun => ?_, fun _ => ?_⟩
      · simp [txNext, hr, ht] at hrun
      · simpa [txNext, hr, ht] using h.run hr
  | false =>
    -- IDLE: stays idle with `tx := 1`, or accepts a byte: `count := 0`, `data := byte mod 256`
    refine ⟨fun hrun => ?_, fun hrun => ?_⟩
    · simp only [txNext, hr, Bool.false_eq_true, if_false] at hrun ⊢
      simp [hrun]
    · simp only [txNext, hr, Bool.false_eq_true, if_false] at hrun ⊢
      simp only [hrun, if_true]
      exact ⟨Nat.zero_le _, _, Nat.mod_lt _ (by omega), rfl⟩

end Litex.Periph
