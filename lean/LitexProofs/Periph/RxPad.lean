import LitexProofs.Periph.UartRx
/-
  Start-edge detection of `RS232PHYRX` for a start edge at an arbitrary pad cycle `t0`, the alignment of the pad
  with the line seen by the RUN phase, and the byte received from the pad.
-/
namespace Litex.Periph
open Litex

theorem rxNext_idle (tw : Nat) (s : RxSt) (p : Bool) (hr : s.run = false) :
    rxNext tw s p = { s with r0 := p, rx := s.r0, rxD := s.rx, run := !s.rx && s.rxD, count := 0,
                             acc := Acc.ofNat HALF32 } := by
  simp [rxNext, hr, accNext, accLoad]

theorem rx_idle_hold (tw : Nat) (sR : RxSt) (p : Nat → Bool) (hrun : sR.run = false) (hr0 : sR.r0 = true)
    (hrx : sR.rx = true) (hrxd : sR.rxD = true) (n : Nat) (hp : ∀ t, t < n → p t = true) :
    (runFn (uartRx tw) sR p n).run = false ∧ (runFn (uartRx tw) sR p n).r0 = true ∧
    (runFn (uartRx tw) sR p n).rx = true ∧ (runFn (uartRx tw) sR p n).rxD = true ∧
    (runFn (uartRx tw) sR p n).data = sR.data :=
  runFn_inv (uartRx tw) p (N := n)
    (Inv := fun _ s => s.run = false ∧ s.r0 = true ∧ s.rx = true ∧ s.rxD = true ∧ s.data = sR.data)
    ⟨hrun, hr0, hrx, hrxd, rfl⟩
    (fun t s' ht ⟨i1, i2, i3, _, i5⟩ => by
      rw [show (uartRx tw).next s' (p t) = _ from rxNext_idle tw s' (p t) i1]
      exact ⟨by rw [i3]; rfl, hp t ht, i2, i3, i5⟩) n (Nat.le_refl n)

/-- `t0 + 3`: two synchroniser registers and the edge detector after the first low pad sample; the first RUN cycle then
    has `pad (t0 + 1)` on `rx`, so the line of the RUN invariant is `k ↦ pad (t0 + 1 + k)`. -/
theorem rx_detect_at (tw : Nat) (sR : RxSt) (p : Nat → Bool) (t0 : Nat) (hrun : sR.run = false)
    (hr0 : sR.r0 = true) (hrx : sR.rx = true) (hrxd : sR.rxD = true) (hhigh : ∀ t, t < t0 → p t = true)
    (hlow : p t0 = false) :
    (∀ t, t ≤ t0 + 2 → (runFn (uartRx tw) sR p t).run = false) ∧
    RxInv tw (fun k => p (t0 + 1 + k)) sR.data 0 (runFn (uartRx tw) sR p (t0 + 3)) := by
  obtain ⟨j1, j2, j3, j4, j5⟩ := rx_idle_hold tw sR p hrun hr0 hrx hrxd t0 hhigh
  have e1 : runFn (uartRx tw) sR p (t0 + 1) = _ := rxNext_idle tw _ (p t0) j1
  have r1 : (runFn (uartRx tw) sR p (t0 + 1)).run = false := by rw [e1, j3]; rfl
  have e2 : runFn (uartRx tw) sR p (t0 + 2) = _ := rxNext_idle tw _ (p (t0 + 1)) r1
  have r2 : (runFn (uartRx tw) sR p (t0 + 2)).run = false := by rw [e2, e1, j2]; rfl
  obtain ⟨h1, h2, h3, h4, h5, h6⟩ := rx_entry tw (runFn (uartRx tw) sR p (t0 + 2)) (p (t0 + 2)) r2
    (by rw [e2, e1]; exact hlow) (by rw [e2, e1]; exact j2)
  refine ⟨fun t ht => ?_, ?_⟩
  · by_cases hlt : t ≤ t0
    · exact (rx_idle_hold tw sR p hrun hr0 hrx hrxd t (fun u hu => hhigh u (by omega))).1
    · obtain rfl | rfl : t = t0 + 1 ∨ t = t0 + 2 := by omega
      · exact r1
      · exact r2
  · have hd : (rxNext tw (runFn (uartRx tw) sR p (t0 + 2)) (p (t0 + 2))).data = sR.data := by
      rw [h6, e2, e1]; exact j5
    exact hd ▸ rx_inv_entry tw _ _ h1 h2 h3 (by rw [h4, e2]) h5

/-- `runFn_add` at the RUN entry cycle `a + 2`, re-indexed to the line `ln k = p (a + k)` as the RUN-phase lemmas take it
    (`fun k => ln (k + 2)`). -/
theorem rx_run_shift (tw : Nat) (sR : RxSt) (p : Nat → Bool) (a k : Nat) :
    runFn (uartRx tw) sR p (a + 2 + k) =
      runFn (uartRx tw) (runFn (uartRx tw) sR p (a + 2)) (fun j => (fun i => p (a + i)) (j + 2)) k := by
  rw [runFn_add]
  congr 1
  funext j
  show p (a + 2 + j) = p (a + (j + 2))
  congr 1; omega

theorem rx_pad_recovers (tw : Nat) (h0 : 0 < tw) (htw : tw < M32) (sR : RxSt) (hRrun : sR.run = false)
    (hr0 : sR.r0 = true) (hrx : sR.rx = true) (hrxd : sR.rxD = true) (hdat : sR.data < 256)
    (pad : Nat → Bool) (t0 : Nat) (hhigh : ∀ t, t < t0 → pad t = true) (hlow : pad t0 = false)
    (d : Nat) (hd : d < 256)
    (hline : ∀ b, b ≤ 9 → pad (t0 + 1 + rxSampleCycle tw (b + 1)) = frameBit d b) :
    let o := fun t => (uartRx tw).out (runFn (uartRx tw) sR pad t) (pad t)
    let R := t0 + 3 + rxSampleCycle tw 10
    (o R).valid = true ∧ (o R).data = d ∧ (∀ t, t < R → (o t).valid = false) ∧
    (runFn (uartRx tw) sR pad (R + 1)).run = false := by
  intro o R
  obtain ⟨hidle, hinv⟩ := rx_detect_at tw sR pad t0 hRrun hr0 hrx hrxd hhigh hlow
  -- the line as the receiver's RUN phase sees it
  let ln : Nat → Bool := fun k => pad (t0 + 1 + k)
  have hsplit : ∀ k, runFn (uartRx tw) sR pad (t0 + 3 + k) =
      runFn (uartRx tw) (runFn (uartRx tw) sR pad (t0 + 3)) (fun j => ln (j + 2)) k :=
    fun k => rx_run_shift tw sR pad (t0 + 1) k
  have hfr := rx_frame tw h0 htw ln _ _ hinv (pad (t0 + 3 + rxSampleCycle tw 10))
  simp only [← hsplit] at hfr
  obtain ⟨hdone, hrxR, hdataR, hnext, hbefore⟩ := hfr
  refine ⟨?_, ?_, fun t ht => ?_, hnext⟩
  · show (rxDone _ && _) = true
    rw [hdone, hrxR]
    exact hline 9 (by omega)
  · show (runFn (uartRx tw) sR pad R).data = d
    rw [hdataR]
    exact rxData_frame ln tw _ d hdat hd hline
  · show (rxDone (runFn (uartRx tw) sR pad t) && _) = false
    by_cases h2 : t ≤ t0 + 2
    · simp [rxDone, hidle t h2]
    · obtain ⟨k, rfl⟩ : ∃ k, t = t0 + 3 + k := ⟨t - (t0 + 3), by omega⟩
      rw [hbefore k (by omega)]
      rfl

end Litex.Periph
