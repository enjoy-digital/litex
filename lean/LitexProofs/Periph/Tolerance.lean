import LitexProofs.Periph.UartRx
/-
  Receiver timing tolerance (pure arithmetic): transmitter bit period `P/Q` cycles within ±`m` per mille of the
  receiver's `2^32/tw`, start-edge phase `ε/Q`.  Everything is compared after multiplying by `tw·Q`, in the units
  `A = 2^32·Q` (receiver bit), `V = P·tw` (transmitter bit), `U = Q·tw` (one cycle).  Three cycles are lost (registered
  line, ceiling of the sample cycle, phase) and the mismatch accumulates over the `n` bit periods elapsed, against
  half a bit period:   3 + n·(m/1000)·R ≤ R/2   with R = 2^32/tw cycles per bit.  At the end: the frame bit the line shows
  at each sample point when it stays high after the stop bit (`rx_line_bit_idle`).
-/
namespace Litex.Periph
open Litex

/-- `b` transmitter bits end before the middle of receiver bit `b` while the mismatch accumulated over them stays
    below half a bit. -/
theorem drift_lower (b m A V : Nat) (hm : 2 * b * m ≤ 1000) (hhi : 1000 * V ≤ 1000 * A + m * A) :
    2 * (b * V) ≤ (2 * b + 1) * A := by
  -- `b` times the rate bound, and the mismatch bound times `A`, with the products `b·V`, `b·A`, `m·(b·A)` as atoms
  have h1 : 1000 * (b * V) ≤ 1000 * (b * A) + m * (b * A) := by
    have := Nat.mul_le_mul_left b hhi
    rwa [Nat.mul_add, Nat.mul_left_comm b, Nat.mul_left_comm b, Nat.mul_left_comm b m] at this
  have h2 : 2 * (m * (b * A)) ≤ 1000 * A := by
    have := Nat.mul_le_mul_right A hm
    rwa [Nat.mul_assoc, Nat.mul_assoc, Nat.mul_left_comm b m] at this
  have e : (2 * b + 1) * A = 2 * (b * A) + A := by rw [Nat.add_mul, Nat.one_mul, Nat.mul_assoc]
  -- 2000·bV ≤ 2000·bA + 2·m·bA ≤ 2000·bA + 1000·A
  omega

/-- `b + 1` transmitter bits end at least three cycles `U` after the middle of receiver bit `b` if those three
    cycles and the mismatch accumulated over `b + 1` bits fit into half a bit. -/
theorem drift_upper (b m A V U : Nat) (hB : 6000 * U + 2 * (b + 1) * m * A ≤ 1000 * A)
    (hlo : 1000 * A ≤ 1000 * V + m * A) : (2 * b + 1) * A + 6 * U ≤ 2 * ((b + 1) * V) := by
  -- `b + 1` times the rate bound and the hypothesis, with `(b+1)·V`, `b·A`, `m·(b·A + A)` as atoms
  have h1 : 1000 * (b * A + A) ≤ 1000 * ((b + 1) * V) + m * (b * A + A) := by
    have := Nat.mul_le_mul_left (b + 1) hlo
    rwa [Nat.mul_add, Nat.mul_left_comm (b + 1), Nat.mul_left_comm (b + 1), Nat.mul_left_comm (b + 1) m,
      Nat.add_mul b 1 A, Nat.one_mul] at this
  have h2 : 6000 * U + 2 * (m * (b * A + A)) ≤ 1000 * A := by
    rwa [Nat.mul_assoc, Nat.mul_assoc, Nat.mul_left_comm (b + 1) m, Nat.add_mul b 1 A, Nat.one_mul] at hB
  have e : (2 * b + 1) * A = 2 * (b * A) + A := by rw [Nat.add_mul, Nat.one_mul, Nat.mul_assoc]
  -- 2000·(b+1)V ≥ 2000·(bA + A) − 2·m·(bA + A) ≥ 2000·bA + 1000·A + 6000·U
  omega

/-- Sample point `b + 1` is not before the start of the transmitter's bit `b`. -/
theorem rx_sample_lower (tw P Q ε b m : Nat) (h0 : 0 < tw) (hm : 2 * b * m ≤ 1000)
    (hhi : 1000 * (P * tw) ≤ 1000 * (M32 * Q) + m * (M32 * Q)) :
    b * P ≤ (rxSampleCycle tw (b + 1) + 1) * Q + ε := by
  have hc := Nat.mul_le_mul_right Q (rxSampleCycle_bounds tw b h0).1
  have hd := drift_lower b m (M32 * Q) (P * tw) hm hhi
  generalize rxSampleCycle tw (b + 1) = c at *
  -- compare after multiplying by `tw`; hc : (2b+1)·(2^32·Q) ≤ 2·(c·tw·Q), hd : 2·(b·(P·tw)) ≤ (2b+1)·(2^32·Q)
  apply Nat.le_of_mul_le_mul_right _ h0
  rw [Nat.mul_assoc, Nat.mul_assoc 2] at hc
  rw [Nat.mul_assoc, Nat.add_mul, Nat.add_mul, Nat.one_mul, Nat.add_mul, Nat.mul_right_comm c Q tw]
  -- goal: b·(P·tw) ≤ c·tw·Q + Q·tw + ε·tw, and already b·(P·tw) ≤ c·tw·Q
  omega

/-- Sample point `b + 1` is before the end of the transmitter's bit `b`:
    `6000·tw + 2·(b+1)·m·2^32 ≤ 1000·2^32`. -/
theorem rx_sample_upper (tw P Q ε b m : Nat) (h0 : 0 < tw)
    (hbound : 6000 * tw + 2 * (b + 1) * m * M32 ≤ 1000 * M32) (hε : ε < Q)
    (hlo : 1000 * (M32 * Q) ≤ 1000 * (P * tw) + m * (M32 * Q)) :
    (rxSampleCycle tw (b + 1) + 1) * Q + ε < (b + 1) * P := by
  have hc := Nat.mul_le_mul_right Q (Nat.succ_le_of_lt (rxSampleCycle_bounds tw b h0).2)
  have hB : 6000 * (Q * tw) + 2 * (b + 1) * m * (M32 * Q) ≤ 1000 * (M32 * Q) := by
    have := Nat.mul_le_mul_right Q hbound
    rwa [Nat.add_mul, Nat.mul_assoc 6000, Nat.mul_comm tw Q, Nat.mul_assoc _ M32, Nat.mul_assoc _ M32] at this
  have hd := drift_upper b m (M32 * Q) (P * tw) (Q * tw) hB hlo
  have hE := Nat.mul_le_mul_right tw (Nat.succ_le_of_lt hε)
  generalize rxSampleCycle tw (b + 1) = c at *
  -- compare after multiplying by `tw`, in the units A = 2^32·Q, V = P·tw, U = Q·tw:
  --   hc : 2·(c·tw·Q) + Q ≤ (2b+1)·A + 2·U     (the sample cycle is the first one past the middle of bit `b`)
  --   hE : ε·tw + tw ≤ U                        (the phase is less than a cycle)
  --   hd : (2b+1)·A + 6·U ≤ 2·((b+1)·V)
  apply Nat.lt_of_mul_lt_mul_right (a := tw)
  rw [Nat.succ_mul, Nat.add_mul, Nat.mul_assoc _ M32, Nat.mul_assoc 2, Nat.mul_assoc 2, Nat.mul_comm tw Q] at hc
  rw [Nat.succ_mul] at hE
  rw [Nat.mul_assoc (b + 1), Nat.add_mul, Nat.add_mul, Nat.one_mul, Nat.add_mul, Nat.mul_right_comm c Q tw]
  -- goal: c·tw·Q + U + ε·tw < (b+1)·V; the left side is below (2b+1)·A/2 + 3·U
  omega

/-- All ten sample points fall inside their own bit when the mismatch accumulated over ten bit periods fits:
    `6000·tw + 20·m·2^32 ≤ 1000·2^32`  (`m = 0`: `R ≥ 6`; `m = 20`: `R ≥ 10`; `m = 40`: `R ≥ 30`; `m ≥ 50`:
    impossible).  The mismatch hypotheses are written without subtraction:
    `(1000 − m)·2^32·Q ≤ 1000·P·tw ≤ (1000 + m)·2^32·Q`. -/
theorem rx_tolerance_arith_general (tw P Q ε b m : Nat) (h0 : 0 < tw)
    (hbound : 6000 * tw + 20 * m * M32 ≤ 1000 * M32) (hε : ε < Q)
    (hlo : 1000 * (M32 * Q) ≤ 1000 * (P * tw) + m * (M32 * Q))
    (hhi : 1000 * (P * tw) ≤ 1000 * (M32 * Q) + m * (M32 * Q)) (hb : b ≤ 9) :
    b * P ≤ (rxSampleCycle tw (b + 1) + 1) * Q + ε ∧ (rxSampleCycle tw (b + 1) + 1) * Q + ε < (b + 1) * P := by
  have h1 : 2 * (b + 1) * m ≤ 20 * m := Nat.mul_le_mul_right m (by omega)
  have h2 := Nat.mul_le_mul_right M32 h1
  refine ⟨rx_sample_lower tw P Q ε b m h0 ?_ hhi, rx_sample_upper tw P Q ε b m h0 (by omega) hε hlo⟩
  have : 2 * b * m ≤ 20 * m := Nat.mul_le_mul_right m (by omega)
  unfold M32 at hbound
  omega

/-- Sharper bound when nothing follows the stop bit (the line stays high): only sample points `1 … 9` have to stay
    below the end of their bit, sample point 10 only has to be past the start of the stop bit.  The mismatch then
    accumulates over nine bit periods: `6000·tw + 18·m·2^32 ≤ 1000·2^32`  (`m = 20`: `R ≥ 9.375`). -/
theorem rx_tolerance_arith_idle (tw P Q ε b m : Nat) (h0 : 0 < tw)
    (hbound : 6000 * tw + 18 * m * M32 ≤ 1000 * M32) (hε : ε < Q)
    (hlo : 1000 * (M32 * Q) ≤ 1000 * (P * tw) + m * (M32 * Q))
    (hhi : 1000 * (P * tw) ≤ 1000 * (M32 * Q) + m * (M32 * Q)) (hb : b ≤ 9) :
    b * P ≤ (rxSampleCycle tw (b + 1) + 1) * Q + ε ∧
    (b ≤ 8 → (rxSampleCycle tw (b + 1) + 1) * Q + ε < (b + 1) * P) := by
  refine ⟨rx_sample_lower tw P Q ε b m h0 ?_ hhi, fun hb8 => rx_sample_upper tw P Q ε b m h0 ?_ hε hlo⟩
  · have : 2 * b * m ≤ 18 * m := Nat.mul_le_mul_right m (by omega)
    unfold M32 at hbound
    omega
  · have h1 : 2 * (b + 1) * m ≤ 18 * m := Nat.mul_le_mul_right m (by omega)
    have h2 := Nat.mul_le_mul_right M32 h1
    omega

theorem rx_tolerance_arith_10 (tw P Q ε b : Nat) (h0 : 0 < tw) (h10 : 10 * tw ≤ M32) (hε : ε < Q)
    (hlo : 98 * M32 * Q ≤ 100 * (P * tw)) (hhi : 100 * (P * tw) ≤ 102 * M32 * Q) (hb : b ≤ 9) :
    b * P ≤ (rxSampleCycle tw (b + 1) + 1) * Q + ε ∧ (rxSampleCycle tw (b + 1) + 1) * Q + ε < (b + 1) * P := by
  rw [Nat.mul_assoc] at hlo hhi
  exact rx_tolerance_arith_general tw P Q ε b 20 h0 (by unfold M32 at *; omega) hε (by omega) (by omega) hb

theorem rx_tolerance_arith (tw P Q ε b : Nat) (h0 : 0 < tw) (h16 : 16 * tw ≤ M32) (hε : ε < Q)
    (hlo : 98 * M32 * Q ≤ 100 * (P * tw)) (hhi : 100 * (P * tw) ≤ 102 * M32 * Q) (hb : b ≤ 9) :
    b * P ≤ (rxSampleCycle tw (b + 1) + 1) * Q + ε ∧ (rxSampleCycle tw (b + 1) + 1) * Q + ε < (b + 1) * P :=
  rx_tolerance_arith_10 tw P Q ε b h0 (by omega) hε hlo hhi hb

theorem rx_tolerance_arith_1pct (tw P Q ε b : Nat) (h0 : 0 < tw) (h15 : 15 * tw ≤ 2 * M32) (hε : ε < Q)
    (hlo : 99 * M32 * Q ≤ 100 * (P * tw)) (hhi : 100 * (P * tw) ≤ 101 * M32 * Q) (hb : b ≤ 9) :
    b * P ≤ (rxSampleCycle tw (b + 1) + 1) * Q + ε ∧ (rxSampleCycle tw (b + 1) + 1) * Q + ε < (b + 1) * P := by
  rw [Nat.mul_assoc] at hlo hhi
  exact rx_tolerance_arith_general tw P Q ε b 10 h0 (by unfold M32 at *; omega) hε (by omega) (by omega) hb

theorem rx_tolerance_arith_exact (tw P Q ε b : Nat) (h0 : 0 < tw) (h6 : 6 * tw ≤ M32) (hε : ε < Q)
    (heq : P * tw = M32 * Q) (hb : b ≤ 9) :
    b * P ≤ (rxSampleCycle tw (b + 1) + 1) * Q + ε ∧ (rxSampleCycle tw (b + 1) + 1) * Q + ε < (b + 1) * P :=
  rx_tolerance_arith_general tw P Q ε b 0 h0 (by unfold M32 at *; omega) hε (by omega) (by omega) hb

/-- Sample point 1 lies before the end of bit 0, so the start-edge phase (less than a cycle) is less than a bit period;
    in particular a bit period is not empty. -/
theorem phase_lt_period (tw P Q ε m : Nat) (h0 : 0 < tw)
    (hbound : 6000 * tw + 18 * m * M32 ≤ 1000 * M32) (hε : ε < Q)
    (hlo : 1000 * (M32 * Q) ≤ 1000 * (P * tw) + m * (M32 * Q))
    (hhi : 1000 * (P * tw) ≤ 1000 * (M32 * Q) + m * (M32 * Q)) : ε < P := by
  have h := (rx_tolerance_arith_idle tw P Q ε 0 m h0 hbound hε hlo hhi (Nat.zero_le _)).2 (Nat.zero_le _)
  rw [Nat.one_mul] at h
  omega

theorem rx_line_bit_idle (tw P Q ε b m d : Nat) (h0 : 0 < tw)
    (hbound : 6000 * tw + 18 * m * M32 ≤ 1000 * M32) (hε : ε < Q)
    (hlo : 1000 * (M32 * Q) ≤ 1000 * (P * tw) + m * (M32 * Q))
    (hhi : 1000 * (P * tw) ≤ 1000 * (M32 * Q) + m * (M32 * Q)) (hb : b ≤ 9) :
    frameBit d (((rxSampleCycle tw (b + 1) + 1) * Q + ε) / P) = frameBit d b := by
  have h := rx_tolerance_arith_idle tw P Q ε b m h0 hbound hε hlo hhi hb
  by_cases hb8 : b ≤ 8
  · congr 1
    exact Nat.div_eq_of_lt_le h.1 (h.2 hb8)
  · obtain rfl : b = 9 := by omega
    -- past the start of the stop bit every frame bit is 1
    have hP : 0 < P := Nat.lt_of_le_of_lt (Nat.zero_le _) (phase_lt_period tw P Q ε m h0 hbound hε hlo hhi)
    have h9 : 9 ≤ ((rxSampleCycle tw (9 + 1) + 1) * Q + ε) / P := (Nat.le_div_iff_mul_le hP).mpr h.1
    generalize ((rxSampleCycle tw (9 + 1) + 1) * Q + ε) / P = j at *
    unfold frameBit
    rw [if_neg (by omega), if_neg (by omega), if_neg (by omega), if_neg (by omega)]

end Litex.Periph
