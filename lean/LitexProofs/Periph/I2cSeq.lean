import LitexProofs.Periph.I2c
/-
  `I2CMasterMachine` step by step (one step = one enabled FSM step `i2cFsmStep`, i.e. one clk2x tick or the extra step of
  a command strobe in IDLE): the shift register, the WRITE loop (the byte goes out MSB first on eight SCL pulses), the
  READ loop, the ignored stop strobe, and the exact cycle timing of the FSM steps for every clock divider `load`.
-/
namespace Litex.Periph
open Litex

/-- `n` enabled FSM steps with inputs `f 0 … f (n-1)`. -/
def i2cSteps (s : I2cSt) (f : Nat → I2cIn) : Nat → I2cSt
  | 0 => s
  | n + 1 => i2cFsmStep (i2cSteps s f n) (f n)

theorem i2cSteps_succ (s : I2cSt) (f : Nat → I2cIn) (n : Nat) :
    i2cSteps s f (n + 1) = i2cFsmStep (i2cSteps s f n) (f n) := rfl

theorem shl1Keep0_eq (x : Nat) : shl1Keep0 x = 2 * (x % 128) + x % 2 := by
  unfold shl1Keep0
  rw [show 256 = 2 * 128 from rfl, Nat.mul_mod_mul_left, Nat.mul_div_cancel_left _ (by decide : 0 < 2), Nat.mul_comm]

theorem shl1Keep0_div2 (x : Nat) : shl1Keep0 x / 2 = x % 128 := by
  rw [shl1Keep0_eq, Nat.mul_add_div (by decide), Nat.div_eq_of_lt (Nat.mod_lt _ (by decide)), Nat.add_zero]

theorem shl1Keep0_lt (x : Nat) : shl1Keep0 x < 256 :=
  Nat.lt_of_div_lt_div (c := 2) (by rw [shl1Keep0_div2]; exact Nat.mod_lt _ (by decide))

theorem shl1Keep0_testBit_succ (x i : Nat) (hi : i < 7) : (shl1Keep0 x).testBit (i + 1) = x.testBit i := by
  rw [Nat.testBit_succ, shl1Keep0_div2, show 128 = 2 ^ 7 from rfl, Nat.testBit_mod_two_pow, decide_eq_true hi,
    Bool.true_and]

theorem i2c_write_pair (s : I2cSt) (i i' : I2cIn) (hf : s.fsm = .write0) (hb : s.bits ≠ 0) :
    i2cFsmStep s i = { s with scl := false, sda := s.data.testBit 7, fsm := .write1 } ∧
    i2cFsmStep (i2cFsmStep s i) i' =
      { s with scl := true, sda := s.data.testBit 7, data := shl1Keep0 s.data, bits := (s.bits + 15) % 16,
               fsm := .write0 } := by
  have e : i2cFsmStep s i = { s with scl := false, sda := s.data.testBit 7, fsm := .write1 } := by
    simp only [i2cFsmStep, hf, beq_iff_eq, hb, if_false]
  rw [e]
  exact ⟨rfl, by simp only [i2cFsmStep]⟩

/-- State `2j` steps into a write (`j ≤ 8` bits already on the wire): WRITE0, `8 - j` bits to go, the byte shifted up
    by `j`. -/
theorem i2c_write_even (s : I2cSt) (f : Nat → I2cIn) (hf : s.fsm = .write0) (hb : s.bits = 8) (j : Nat) (hj : j ≤ 8) :
    (i2cSteps s f (2 * j)).fsm = .write0 ∧ (i2cSteps s f (2 * j)).bits = 8 - j ∧
    ∀ i, i + j ≤ 7 → (i2cSteps s f (2 * j)).data.testBit (i + j) = s.data.testBit i := by
  induction j with
  | zero => exact ⟨hf, hb, fun _ _ => rfl⟩
  | succ j ih =>
    obtain ⟨h1, h2, h3⟩ := ih (Nat.le_of_succ_le hj)
    have h0 : 8 - j ≠ 0 := Nat.sub_ne_zero_of_lt hj
    rw [show 2 * (j + 1) = 2 * j + 1 + 1 from rfl, i2cSteps_succ, i2cSteps_succ,
      (i2c_write_pair _ _ _ h1 (h2 ▸ h0)).2]
    refine ⟨rfl, ?_, fun i hi => (shl1Keep0_testBit_succ _ (i + j) hi).trans (h3 i (Nat.le_of_succ_le hi))⟩
    show (_ + 15) % 16 = _
    rw [h2, i2c_bits_dec _ h0 (Nat.lt_of_le_of_lt (Nat.sub_le 8 j) (by decide)), Nat.sub_sub]

/-- A lone stop strobe in IDLE with SCL released is ignored: the FSM step changes nothing. -/
theorem i2c_stop_ignored (s : I2cSt) (i : I2cIn) (hf : s.fsm = .idle) (hscl : s.scl = true)
    (hst : i.start = false) (hw : i.write = false) (hr : i.read = false) :
    i2cFsmStep s i = s :=
  i2cFsmStep_idle_none s i hf hst hw hr (by rw [hscl]; exact Bool.and_false _)

theorem setBit0_testBit_zero (d : Nat) (b : Bool) : (setBit0 d b).testBit 0 = b := by
  unfold setBit0
  rw [Nat.testBit_zero]
  cases b <;> simp <;> omega

theorem setBit0_div2 (d : Nat) (b : Bool) : setBit0 d b / 2 = d / 2 := by
  unfold setBit0
  rw [Nat.mul_comm, Nat.mul_add_div (by decide)]
  cases b <;> rfl

theorem setBit0_testBit_succ (d : Nat) (b : Bool) (i : Nat) : (setBit0 d b).testBit (i + 1) = d.testBit (i + 1) := by
  rw [Nat.testBit_succ, Nat.testBit_succ, setBit0_div2]

theorem setBit0_lt (d : Nat) (b : Bool) (h : d < 256) : setBit0 d b < 256 :=
  Nat.lt_of_div_lt_div (c := 2) (by rw [setBit0_div2]; exact Nat.div_lt_of_lt_mul h)

/-- The data register `2j + 1` steps into a read (`j` samples taken and shifted). -/
def i2cRdData (d : Nat) (f : Nat → I2cIn) : Nat → Nat
  | 0 => d
  | j + 1 => shl1Keep0 (setBit0 (i2cRdData d f j) (f (2 * j + 1)).sdaI)

/-- With the sample of step `2j + 2` in bit 0, sample `k ≤ j` sits in bit `j - k`. -/
theorem i2cRdData_testBit (d : Nat) (f : Nat → I2cIn) (j : Nat) (hj : j ≤ 7) (k : Nat) (hk : k ≤ j) :
    (setBit0 (i2cRdData d f j) (f (2 * j + 1)).sdaI).testBit (j - k) = (f (2 * k + 1)).sdaI := by
  induction j with
  | zero => obtain rfl := Nat.le_zero.mp hk; exact setBit0_testBit_zero _ _
  | succ j ih =>
    rcases Nat.le_or_eq_of_le_succ hk with hk | rfl
    · rw [Nat.sub_add_comm hk, setBit0_testBit_succ]
      exact (shl1Keep0_testBit_succ _ _ (Nat.lt_of_le_of_lt (Nat.sub_le j k) hj)).trans (ih (Nat.le_of_succ_le hj) hk)
    · rw [Nat.sub_self]; exact setBit0_testBit_zero _ _

theorem i2c_read1_step (s : I2cSt) (i : I2cIn) (hf : s.fsm = .read1) :
    (i2cFsmStep s i).scl = false ∧ (i2cFsmStep s i).data = setBit0 s.data i.sdaI ∧ (i2cFsmStep s i).ack = s.ack ∧
    (s.bits ≠ 0 → (i2cFsmStep s i).sda = s.sda) := by
  simp only [i2cFsmStep, hf, beq_iff_eq]
  split
  · exact ⟨rfl, rfl, rfl, fun h => absurd ‹_› h⟩
  · exact ⟨rfl, rfl, rfl, fun _ => rfl⟩

theorem i2c_read_pair (s : I2cSt) (i i' : I2cIn) (hf : s.fsm = .read1) (hb : s.bits ≠ 0) :
    i2cFsmStep (i2cFsmStep s i) i' =
      { s with scl := true, data := shl1Keep0 (setBit0 s.data i.sdaI), bits := (s.bits + 15) % 16, fsm := .read1 } := by
  simp only [i2cFsmStep, hf, beq_iff_eq, hb, if_false]

/-- State `2j + 1` steps into a read (`j ≤ 7` samples taken): READ1 with SCL high, `7 - j` more bits after this one,
    SDA untouched. -/
theorem i2c_read_odd (s : I2cSt) (f : Nat → I2cIn) (hf : s.fsm = .read0) (hb : s.bits = 7) (j : Nat) (hj : j ≤ 7) :
    (i2cSteps s f (2 * j + 1)).fsm = .read1 ∧ (i2cSteps s f (2 * j + 1)).bits = 7 - j ∧
    (i2cSteps s f (2 * j + 1)).data = i2cRdData s.data f j ∧ (i2cSteps s f (2 * j + 1)).ack = s.ack ∧
    (i2cSteps s f (2 * j + 1)).scl = true ∧ (i2cSteps s f (2 * j + 1)).sda = s.sda := by
  induction j with
  | zero =>
    have e : i2cSteps s f 1 = { s with scl := true, fsm := .read1 } := by simp only [i2cSteps, i2cFsmStep, hf]
    rw [e]
    exact ⟨rfl, hb, rfl, rfl, rfl, rfl⟩
  | succ j ih =>
    obtain ⟨h1, h2, h3, h4, _, h6⟩ := ih (Nat.le_of_succ_le hj)
    have h0 : 7 - j ≠ 0 := Nat.sub_ne_zero_of_lt hj
    rw [show 2 * (j + 1) + 1 = 2 * j + 1 + 1 + 1 from rfl, i2cSteps_succ, i2cSteps_succ,
      i2c_read_pair _ _ _ h1 (h2 ▸ h0)]
    refine ⟨rfl, ?_, ?_, h4, rfl, h6⟩
    · show (_ + 15) % 16 = _
      rw [h2, i2c_bits_dec _ h0 (Nat.lt_of_le_of_lt (Nat.sub_le 7 j) (by decide)), Nat.sub_sub]
    · show shl1Keep0 (setBit0 _ _) = _
      rw [h3]; rfl

theorem i2c_byte_bits (d : Nat) (h : d < 256) :
    d = 128 * (d.testBit 7).toNat + 64 * (d.testBit 6).toNat + 32 * (d.testBit 5).toNat + 16 * (d.testBit 4).toNat +
        8 * (d.testBit 3).toNat + 4 * (d.testBit 2).toNat + 2 * (d.testBit 1).toNat + (d.testBit 0).toNat := by
  -- `d % 2 ^ 8 = d`, peeled one binary digit at a time
  have e : d % 2 ^ (7 + 1) = d := Nat.mod_eq_of_lt h
  simp only [Nat.mod_pow_succ, Nat.pow_zero, Nat.mod_one, Nat.div_one, ← Nat.toNat_testBit] at e
  rw [Nat.toNat_testBit d 0, Nat.pow_zero, Nat.div_one]
  omega

/-- The byte assembled MSB first from the `sda_i` values of steps 2, 4, …, 16 (inputs `f 1, f 3, …, f 15`): what a
    read leaves in the data register (`i2c_read_sequence` in `LitexProps/C19.lean`). -/
def i2cRxByte (f : Nat → I2cIn) : Nat :=
  128 * (f 1).sdaI.toNat + 64 * (f 3).sdaI.toNat + 32 * (f 5).sdaI.toNat + 16 * (f 7).sdaI.toNat +
  8 * (f 9).sdaI.toNat + 4 * (f 11).sdaI.toNat + 2 * (f 13).sdaI.toNat + (f 15).sdaI.toNat

/-! From a busy state with `cnt = c` and a constant `load = l` the FSM steps happen exactly in cycles
`c, c + (l+1), c + 2(l+1), …` (`i2c_next_wait`, `i2c_next_tick`). -/

/-- An FSM step neither reads nor writes the divider counter. -/
theorem i2cFsmStep_setCnt (s : I2cSt) (i : I2cIn) (x : Nat) :
    i2cFsmStep (s.setCnt x) i = (i2cFsmStep s i).setCnt x := by
  cases hf : s.fsm with
  | write0 | read1 =>
    by_cases hb : s.bits = 0 <;>
      simp only [i2cFsmStep, i2c_setCnt_fsm, i2c_setCnt_bits, hf, hb, beq_iff_eq, if_true, if_false] <;> rfl
  | _ => simp only [i2cFsmStep, i2c_setCnt_fsm, hf]; rfl

theorem i2cFsmStep_cnt (s : I2cSt) (i : I2cIn) : (i2cFsmStep s i).cnt = s.cnt := by
  have h := congrArg I2cSt.cnt (i2cFsmStep_setCnt s i s.cnt)
  exact h

/-- IDLE without a command strobe and without a bus write: the whole state, counter included, is frozen. -/
theorem i2c_next_idle_hold (cw : Nat) (s : I2cSt) (i : I2cIn) (hf : s.fsm = .idle) (hr : i.run = false)
    (hp : i.poke = false) : i2cNext cw s i = s := by
  rw [i2c_next_hold cw s i hf hr, i2cPoked_of_not_poke s hp]

theorem i2c_run_wait (cw : Nat) (f : Nat → I2cIn) (hp : ∀ t, (f t).poke = false) (s : I2cSt) (hn : s.fsm ≠ .idle) :
    ∀ d, d ≤ s.cnt → runFn (i2cMachine cw) s f d = s.setCnt (s.cnt - d) :=
  runFn_inv (i2cMachine cw) f (Inv := fun d s' => s' = s.setCnt (s.cnt - d)) rfl fun d s' hd h => by
    show i2cNext cw s' (f d) = _
    rw [h, i2c_next_wait cw (s.setCnt (s.cnt - d)) (f d) hn (Nat.sub_ne_zero_of_lt hd), i2cPoked_of_not_poke _ (hp d)]
    rfl

/-- While busy, the next FSM step happens in cycle `cnt` (the state after `cnt + 1` cycles shows it). -/
theorem i2c_run_tick (cw : Nat) (f : Nat → I2cIn) (hp : ∀ t, (f t).poke = false) (s : I2cSt) (hn : s.fsm ≠ .idle) :
    runFn (i2cMachine cw) s f (s.cnt + 1) = (i2cFsmStep s (f s.cnt)).setCnt (f s.cnt).load := by
  show i2cNext cw (runFn (i2cMachine cw) s f s.cnt) (f s.cnt) = _
  rw [i2c_run_wait cw f hp s hn s.cnt (Nat.le_refl _), i2c_next_tick cw (s.setCnt (s.cnt - s.cnt)) _ hn (Nat.sub_self _),
    i2cPoked_of_not_poke _ (hp _), i2cFsmStep_setCnt, i2c_setCnt_setCnt]

/-- The inputs seen by the FSM steps: step `j` happens in cycle `c + j·(l+1)`.  Feeding `i2cSteps` with it turns the
    step-counting sequence theorems into statements about cycles (`i2c_run_steps`). -/
def i2cTickIn (f : Nat → I2cIn) (c l : Nat) : Nat → I2cIn := fun j => f (c + j * (l + 1))

theorem i2c_run_steps (cw l : Nat) (f : Nat → I2cIn) (hl : ∀ t, (f t).load = l) (hp : ∀ t, (f t).poke = false)
    (s : I2cSt) (k : Nat) (hbusy : ∀ j, j ≤ k → (i2cSteps s (i2cTickIn f s.cnt l) j).fsm ≠ .idle) :
    runFn (i2cMachine cw) s f (s.cnt + k * (l + 1) + 1) = (i2cSteps s (i2cTickIn f s.cnt l) (k + 1)).setCnt l := by
  induction k with
  | zero =>
    show _ = (i2cFsmStep s (f (s.cnt + 0 * (l + 1)))).setCnt l
    rw [Nat.zero_mul, i2c_run_tick cw f hp s (hbusy 0 (Nat.le_refl _)), hl]
    rfl
  | succ k ih =>
    have e : s.cnt + (k + 1) * (l + 1) + 1 = (s.cnt + k * (l + 1) + 1) + (l + 1) := by
      rw [Nat.succ_mul]; omega
    rw [e, runFn_add, ih (fun j hj => hbusy j (Nat.le_succ_of_le hj))]
    have ht := i2c_run_tick cw (fun j => f (s.cnt + k * (l + 1) + 1 + j)) (fun t => hp _)
      ((i2cSteps s (i2cTickIn f s.cnt l) (k + 1)).setCnt l) (hbusy (k + 1) (Nat.le_refl _))
    rw [i2c_setCnt_cnt] at ht
    rw [ht, hl, i2cFsmStep_setCnt, i2c_setCnt_setCnt,
      show s.cnt + k * (l + 1) + 1 + l = s.cnt + (k + 1) * (l + 1) by rw [Nat.succ_mul]; omega]
    rfl

theorem i2c_run_between (cw l : Nat) (f : Nat → I2cIn) (hl : ∀ t, (f t).load = l) (hp : ∀ t, (f t).poke = false)
    (s : I2cSt) (k : Nat) (hbusy : ∀ j, j ≤ k + 1 → (i2cSteps s (i2cTickIn f s.cnt l) j).fsm ≠ .idle)
    (d : Nat) (hd : d ≤ l) :
    runFn (i2cMachine cw) s f (s.cnt + k * (l + 1) + 1 + d) =
      (i2cSteps s (i2cTickIn f s.cnt l) (k + 1)).setCnt (l - d) := by
  rw [runFn_add, i2c_run_steps cw l f hl hp s k (fun j hj => hbusy j (Nat.le_succ_of_le hj)),
    i2c_run_wait cw _ (fun t => hp _) ((i2cSteps s (i2cTickIn f s.cnt l) (k + 1)).setCnt l)
      (hbusy (k + 1) (Nat.le_refl _)) d hd]
  rfl

theorem i2c_steps_rank (s : I2cSt) (g : Nat → I2cIn) (hb : s.bits < 16) :
    ∀ j, j ≤ i2cRank s → i2cRank (i2cSteps s g j) + j = i2cRank s ∧ (i2cSteps s g j).bits < 16 := by
  intro j
  induction j with
  | zero => intro _; exact ⟨rfl, hb⟩
  | succ j ih =>
    intro hj
    obtain ⟨h1, h2⟩ := ih (Nat.le_of_succ_le hj)
    have hn : (i2cSteps s g j).fsm ≠ .idle := fun h => by
      rw [(i2c_rank_zero_iff _).mpr h] at h1; omega
    have hr := i2c_rank_step (i2cSteps s g j) (g j) h2 hn
    exact ⟨by show i2cRank (i2cFsmStep _ _) + (j + 1) = _; omega, i2c_fsm_step_bits _ _ h2⟩

theorem i2c_steps_busy (s : I2cSt) (g : Nat → I2cIn) (hb : s.bits < 16) (j : Nat) (hj : j < i2cRank s) :
    (i2cSteps s g j).fsm ≠ .idle := fun h => by
  have h1 := (i2c_steps_rank s g hb j (Nat.le_of_lt hj)).1
  rw [(i2c_rank_zero_iff _).mpr h] at h1
  omega

theorem i2c_steps_idle (s : I2cSt) (g : Nat → I2cIn) (hb : s.bits < 16) : (i2cSteps s g (i2cRank s)).fsm = .idle :=
  (i2c_rank_zero_iff _).mp (Nat.add_eq_right.mp (i2c_steps_rank s g hb (i2cRank s) (Nat.le_refl _)).1)

/-- Only the clock generator is enabled for that one cycle (`run` lifts `idle`), so the divider counter ticks once. -/
theorem i2c_next_stop_ignored (cw : Nat) (s : I2cSt) (i : I2cIn) (hf : s.fsm = .idle) (hscl : s.scl = true)
    (hr : i.run = true) (hst : i.start = false) (hw : i.write = false) (hrd : i.read = false) :
    i2cNext cw s i = (i2cPoked s i).setCnt (if s.cnt = 0 then i.load else s.cnt - 1) := by
  rw [i2c_next_accept cw s i hf hr,
    i2c_stop_ignored (i2cPoked s i) i (by rw [i2cPoked_fsm, hf]) (by rw [i2cPoked_scl, hscl]) hst hw hrd]

/-- Exact busy time of a command accepted in cycle 0.  Bus writes to data/ack are allowed throughout: they cannot change
    the duration.  `R + 1` is the rank after the acceptance cycle (which `i2c_command_exact_cycles` calls `R`), the `if`
    in `hB` the counter after it. -/
theorem i2c_accept_busy_any (cw l : Nat) (f : Nat → I2cIn) (hl : ∀ t, (f t).load = l)
    (s0 : I2cSt) (hf : s0.fsm = .idle) (hb : s0.bits < 16)
    (hr : (f 0).run = true) (R : Nat) (hR : i2cRank (i2cNext cw s0 (f 0)) = R + 1)
    (B : Nat) (hB : B = (if s0.cnt = 0 then l else s0.cnt - 1) + 1 + R * (l + 1)) :
    (∀ t, 1 ≤ t → t ≤ B → (runFn (i2cMachine cw) s0 f t).fsm ≠ .idle) ∧
    (runFn (i2cMachine cw) s0 f (B + 1)).fsm = .idle ∧ (runFn (i2cMachine cw) s0 f (B + 1)).cnt = l := by
  subst hB
  have hacc := i2c_next_accept cw s0 (f 0) hf hr
  rw [hl 0] at hacc
  have hn : (i2cNext cw s0 (f 0)).fsm ≠ .idle := fun h => by
    rw [(i2c_rank_zero_iff _).mpr h] at hR; cases hR
  have hb1 : (i2cNext cw s0 (f 0)).bits < 16 := by
    rw [hacc, i2c_setCnt_bits]
    exact i2c_fsm_step_bits _ _ (by rw [i2cPoked_bits]; exact hb)
  obtain ⟨a, b, c⟩ := i2c_busy_exact_any cw l (fun j => f (1 + j)) (fun t => hl _) (i2cNext cw s0 (f 0)) hb1 hn _ rfl
  rw [hR, Nat.add_sub_cancel, show (i2cNext cw s0 (f 0)).cnt = if s0.cnt = 0 then l else s0.cnt - 1 by rw [hacc]; rfl]
    at a b c
  -- cycle `t + 1` from `s0` is cycle `t` from the state after the acceptance cycle
  have hshift : ∀ t, runFn (i2cMachine cw) s0 f (t + 1) =
      runFn (i2cMachine cw) (i2cNext cw s0 (f 0)) (fun j => f (1 + j)) t :=
    fun t => Nat.add_comm 1 t ▸ runFn_add (i2cMachine cw) s0 f 1 t
  rw [Nat.add_right_comm _ 1 (R * (l + 1)), hshift]
  refine ⟨fun t h1 h2 => ?_, b, c⟩
  match t, h1 with
  | t' + 1, _ => rw [hshift]; exact a t' h2

theorem i2c_accept_busy (cw l : Nat) (f : Nat → I2cIn) (hl : ∀ t, (f t).load = l)
    (hp : ∀ t, (f (t + 1)).poke = false) (s0 : I2cSt) (hf : s0.fsm = .idle) (hb : s0.bits < 16)
    (hr : (f 0).run = true) (R : Nat) (hR : i2cRank (i2cNext cw s0 (f 0)) = R + 1) :
    (∀ t, 1 ≤ t → t ≤ (if s0.cnt = 0 then l else s0.cnt - 1) + 1 + R * (l + 1) →
      (runFn (i2cMachine cw) s0 f t).fsm ≠ .idle) ∧
    (runFn (i2cMachine cw) s0 f ((if s0.cnt = 0 then l else s0.cnt - 1) + 1 + R * (l + 1) + 1)).fsm = .idle ∧
    (runFn (i2cMachine cw) s0 f ((if s0.cnt = 0 then l else s0.cnt - 1) + 1 + R * (l + 1) + 1)).cnt = l :=
  i2c_accept_busy_any cw l f hl s0 hf hb hr R hR _ rfl

end Litex.Periph
