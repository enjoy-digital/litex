import LitexProofs.Soc.Alloc
/-
  The invariant of `SoCBusHandler` preserved by every accepted request.  Each request is characterised by what an
  accepted call does to the state (`addRegion_ok`, `addMaster_ok`, `slaveStage_ok`, `addSlave_ok`: the old state with one
  entry appended); `Grows` collects these changes into a relation, every history stays inside it (`run_grows`), and the
  invariant and the frame facts are proved once along it.
-/
namespace Litex.Soc
namespace BusH
variable {ν : Type} [DecidableEq ν]

def names (s : BusH ν) : List ν := s.regions.map (·.1) ++ s.ioRegions.map (·.1)

structure Inv (s : BusH ν) : Prop where
  names_nodup  : s.names.Nodup
  regs_ok      : anyOverlap s.regs = false
  ios_ok       : anyOverlap s.ios = false
  slaves_nodup : s.slaves.Nodup
  slaves_have  : ∀ n ∈ s.slaves, n ∈ s.regions.map (·.1)
  masters_nodup : s.masters.Nodup

theorem hasName_eq_false (s : BusH ν) (n : ν) : s.hasName n = false ↔ n ∉ s.names := by
  unfold hasName names
  rw [Bool.or_eq_false_iff, List.mem_append, not_or]
  exact and_congr (any_beq_eq_false _ _ n) (any_beq_eq_false _ _ n)

omit [DecidableEq ν] in
theorem inv_init (aw dw : Nat) : Inv ({ aw := aw, dw := dw } : BusH ν) :=
  ⟨List.nodup_nil, rfl, rfl, List.nodup_nil, nofun, List.nodup_nil⟩

omit [DecidableEq ν] in
theorem allocRegion_ok {s : BusH ν} {size : Nat} {cached : Bool} {r : Region}
    (h : s.allocRegion size cached = .ok r) :
    0 < size ∧ ∃ o, r = cand o size cached ∧ o % pow2ceil size = 0 ∧
      (∀ a ∈ s.regs, overlapPair a r = false) ∧
      ∃ sr ∈ s.searchRegions cached, sr.origin ≤ o ∧ o + size < sr.origin + sr.p2 := by
  rw [allocRegion, ite_error_eq_ok] at h
  obtain ⟨hs, h⟩ := h
  cases ho : allocSearch s.regs size cached (s.searchRegions cached) <;> rw [ho] at h
  · cases h
  · rename_i o
    cases Except.ok.inj h
    obtain ⟨sr, hm, h1, h2, h3, h4⟩ := allocSearch_ok _ _ ho
    exact ⟨Nat.pos_of_ne_zero hs, o, rfl, h3, fun a ha => by simpa using List.any_eq_false.1 h4 a ha, sr, hm, h1, h2⟩

theorem addRegion_ok {s s' : BusH ν} {n : ν} {q : Req} (h : s.addRegion n q = .ok s') :
    n ∉ s.names ∧ ∃ r,
      (q.io = true ∧ s' = { s with ioRegions := s.ioRegions ++ [(n, r)] } ∧ anyOverlap s'.ios = false) ∨
      (q.io = false ∧ s' = { s with regions := s.regions ++ [(n, r)] } ∧ ∀ a ∈ s.regs, overlapPair a r = false) := by
  rw [addRegion, ite_error_eq_ok] at h
  obtain ⟨hn, h⟩ := h
  refine ⟨(hasName_eq_false s n).1 (Bool.eq_false_iff.2 hn), ?_⟩
  -- the four forms of a request: region/IO region, without/with an origin
  cases hio : q.io <;> cases ho : q.origin <;> simp only [hio, ho, Bool.false_eq_true, if_false, if_true] at h
  · -- region, no origin: automatic allocation
    cases hr : s.allocRegion q.size q.cached <;> rw [hr] at h
    · cases h
    · rename_i r
      obtain ⟨_, o, _, _, hno, _⟩ := allocRegion_ok hr
      exact ⟨r, Or.inr ⟨rfl, (Except.ok.inj h).symm, hno⟩⟩
  · -- region at a fixed origin: the two IO rules, then `check_regions_overlap` over all pairs including the new entry
    rename_i o
    simp only [ite_error_eq_ok] at h
    obtain ⟨_, _, hov, h⟩ := h
    rw [List.map_append, Bool.not_eq_true] at hov
    exact ⟨q.region o, Or.inr ⟨rfl, (Except.ok.inj h).symm, ((anyOverlap_append_singleton _ _).1 hov).2⟩⟩
  · -- IO region without origin: outside the model (`Err.badArg`)
    cases h
  · -- IO region: `check_regions_overlap` over the IO regions including the new entry
    rename_i o
    rw [ite_error_eq_ok, Bool.not_eq_true] at h
    cases Except.ok.inj h.2
    exact ⟨q.region o, Or.inl ⟨rfl, rfl, h.1⟩⟩

theorem addMaster_ok {s s' : BusH ν} {n : ν} (h : s.addMaster n = .ok s') :
    n ∉ s.masters ∧ s' = { s with masters := s.masters ++ [n] } := by
  rw [addMaster, ite_error_eq_ok] at h
  exact ⟨by simpa using h.1, (Except.ok.inj h.2).symm⟩

theorem slaveStage_ok {s s1 : BusH ν} {n : ν} {q : Option Req} (h : s.slaveStage n q = .ok s1) :
    n ∈ s1.regions.map (·.1) ∧ (s1 = s ∨ ∃ q', s.addRegion n q' = .ok s1) := by
  cases q with
  | none =>
    rw [slaveStage] at h
    by_cases hr : s.regions.any (·.1 == n) = true
    · rw [if_pos hr] at h
      cases Except.ok.inj h
      refine ⟨Classical.byContradiction fun hc => ?_, Or.inl rfl⟩
      rw [(any_beq_eq_false _ _ n).2 hc] at hr
      cases hr
    · rw [if_neg hr] at h; cases h
  | some q =>
    rw [slaveStage, ite_error_eq_ok] at h
    obtain ⟨_, r, hr⟩ := addRegion_ok h.2
    rcases hr with ⟨hio, _⟩ | ⟨_, rfl, _⟩
    · exact absurd hio h.1
    · exact ⟨by simp, Or.inr ⟨q, h.2⟩⟩

theorem addSlave_ok {s s' : BusH ν} {n : ν} {q : Option Req} (h : s.addSlave n q = .ok s') :
    ∃ s1, s.slaveStage n q = .ok s1 ∧ n ∉ s1.slaves ∧ s' = { s1 with slaves := s1.slaves ++ [n] } := by
  rw [addSlave] at h
  cases hst : s.slaveStage n q <;> rw [hst] at h
  · cases h
  · rename_i s1
    rw [ite_error_eq_ok] at h
    exact ⟨s1, rfl, by simpa using h.1, (Except.ok.inj h.2).symm⟩

omit [DecidableEq ν] in
theorem nodup_names_add_region {s : BusH ν} {n : ν} (h : s.names.Nodup) (hn : n ∉ s.names) (r : Region) :
    (names { s with regions := s.regions ++ [(n, r)] }).Nodup := by
  have e : names { s with regions := s.regions ++ [(n, r)] } = s.regions.map (·.1) ++ n :: s.ioRegions.map (·.1) := by
    simp only [names, List.map_append, List.map_cons, List.map_nil, List.append_assoc, List.singleton_append]
  rw [e, List.perm_middle.nodup_iff, List.nodup_cons]
  exact ⟨hn, h⟩

omit [DecidableEq ν] in
theorem nodup_names_add_io {s : BusH ν} {n : ν} (h : s.names.Nodup) (hn : n ∉ s.names) (r : Region) :
    (names { s with ioRegions := s.ioRegions ++ [(n, r)] }).Nodup := by
  have e : names { s with ioRegions := s.ioRegions ++ [(n, r)] } = s.names ++ [n] := by
    simp only [names, List.map_append, List.map_cons, List.map_nil, List.append_assoc]
  rw [e, nodup_concat]
  exact ⟨h, hn⟩

/-- `Grows s t`: `t` arises from `s` by what accepted requests do — appending a region under a fresh name that overlaps no
    region, an IO region under a fresh name that passes the IO overlap check, a fresh master, a fresh slave that has a
    region — and by setting `io_regions_check`. -/
inductive Grows (s : BusH ν) : BusH ν → Prop
  | refl : Grows s s
  | region {t : BusH ν} (n : ν) (r : Region) : Grows s t → n ∉ t.names → (∀ a ∈ t.regs, overlapPair a r = false) →
      Grows s { t with regions := t.regions ++ [(n, r)] }
  | io {t : BusH ν} (n : ν) (r : Region) : Grows s t → n ∉ t.names →
      anyOverlap (ios { t with ioRegions := t.ioRegions ++ [(n, r)] }) = false →
      Grows s { t with ioRegions := t.ioRegions ++ [(n, r)] }
  | master {t : BusH ν} (n : ν) : Grows s t → n ∉ t.masters → Grows s { t with masters := t.masters ++ [n] }
  | slave {t : BusH ν} (n : ν) : Grows s t → n ∈ t.regions.map (·.1) → n ∉ t.slaves →
      Grows s { t with slaves := t.slaves ++ [n] }
  | ioCheck {t : BusH ν} (b : Bool) : Grows s t → Grows s { t with ioCheck := b }

omit [DecidableEq ν] in
theorem Grows.trans {s t u : BusH ν} (h1 : Grows s t) (h2 : Grows t u) : Grows s u := by
  induction h2 with
  | refl => exact h1
  | region n r _ hn hr ih => exact .region n r ih hn hr
  | io n r _ hn hr ih => exact .io n r ih hn hr
  | master n _ hn ih => exact .master n ih hn
  | slave n _ hr hn ih => exact .slave n ih hr hn
  | ioCheck b _ ih => exact .ioCheck b ih

omit [DecidableEq ν] in
theorem Grows.inv {s t : BusH ν} (h : Grows s t) (hi : Inv s) : Inv t := by
  induction h with
  | refl => exact hi
  | @region t n r _ hn hr ih => exact {
      names_nodup := nodup_names_add_region ih.names_nodup hn r
      regs_ok := by
        show anyOverlap ((t.regions ++ [(n, r)]).map (·.2)) = false
        rw [List.map_append]
        exact (anyOverlap_append_singleton _ _).2 ⟨ih.regs_ok, hr⟩
      ios_ok := ih.ios_ok
      slaves_nodup := ih.slaves_nodup
      slaves_have := fun m hm => by rw [List.map_append]; exact List.mem_append_left _ (ih.slaves_have m hm)
      masters_nodup := ih.masters_nodup }
  | io n r _ hn hr ih => exact { ih with names_nodup := nodup_names_add_io ih.names_nodup hn r, ios_ok := hr }
  | master n _ hn ih => exact { ih with masters_nodup := nodup_concat.2 ⟨ih.masters_nodup, hn⟩ }
  | slave n _ hr hn ih => exact { ih with
      slaves_nodup := nodup_concat.2 ⟨ih.slaves_nodup, hn⟩
      slaves_have := fun m hm => (List.mem_append.1 hm).elim (ih.slaves_have m) fun hm => List.mem_singleton.1 hm ▸ hr }
  | ioCheck b _ ih => exact { ih with }

omit [DecidableEq ν] in
theorem Grows.frame {s t : BusH ν} (h : Grows s t) :
    t.aw = s.aw ∧ t.dw = s.dw ∧ s.masters <+: t.masters ∧ s.slaves <+: t.slaves := by
  induction h with
  | refl => exact ⟨rfl, rfl, List.prefix_refl _, List.prefix_refl _⟩
  | region _ _ _ _ _ ih => exact ih
  | io _ _ _ _ _ ih => exact ih
  | master _ _ _ ih => exact ⟨ih.1, ih.2.1, ih.2.2.1.trans (List.prefix_append _ _), ih.2.2.2⟩
  | slave _ _ _ _ ih => exact ⟨ih.1, ih.2.1, ih.2.2.1, ih.2.2.2.trans (List.prefix_append _ _)⟩
  | ioCheck _ _ ih => exact ih

theorem addRegion_grows {s s' : BusH ν} {n : ν} {q : Req} (h : s.addRegion n q = .ok s') : Grows s s' := by
  obtain ⟨hn, r, ⟨_, rfl, hov⟩ | ⟨_, rfl, hno⟩⟩ := addRegion_ok h
  · exact .io n r .refl hn hov
  · exact .region n r .refl hn hno

theorem apply_grows [AutoNames ν] {s s' : BusH ν} {op : BusOp ν} (h : s.apply op = .ok s') : Grows s s' := by
  cases op with
  | addRegion n q => exact addRegion_grows h
  | addMaster n =>
    obtain ⟨hn, rfl⟩ := addMaster_ok h
    exact .master _ .refl hn
  | setIoCheck b =>
    cases Except.ok.inj h
    exact .ioCheck b .refl
  | addSlave n q =>
    rw [apply, ite_error_eq_ok] at h
    obtain ⟨s1, hst, hn, rfl⟩ := addSlave_ok h.2
    obtain ⟨hr, hs1⟩ := slaveStage_ok hst
    exact .slave _ (hs1.elim (· ▸ .refl) fun ⟨_, hq⟩ => addRegion_grows hq) hr hn

/-- Refused requests leave the handler as it was, so a history only does what accepted requests do. -/
theorem run_grows [AutoNames ν] (s : BusH ν) (ops : List (BusOp ν)) : Grows s (s.run ops) :=
  List.foldlRecOn ops step .refl fun t ht op _ => by
    unfold step
    split
    · exact ht.trans (apply_grows ‹_›)
    · exact ht

theorem apply_inv [AutoNames ν] {s s' : BusH ν} {op : BusOp ν} (hi : Inv s) (h : s.apply op = .ok s') : Inv s' :=
  (apply_grows h).inv hi

theorem apply_widths [AutoNames ν] {s s' : BusH ν} {op : BusOp ν} (h : s.apply op = .ok s') :
    s'.aw = s.aw ∧ s'.dw = s.dw :=
  ⟨(apply_grows h).frame.1, (apply_grows h).frame.2.1⟩

theorem run_inv [AutoNames ν] {s : BusH ν} (ops : List (BusOp ν)) (hi : Inv s) : Inv (s.run ops) :=
  (run_grows s ops).inv hi

theorem run_widths [AutoNames ν] (ops : List (BusOp ν)) (s : BusH ν) : (s.run ops).aw = s.aw ∧ (s.run ops).dw = s.dw :=
  ⟨(run_grows s ops).frame.1, (run_grows s ops).frame.2.1⟩

theorem run_append [AutoNames ν] (s : BusH ν) (a b : List (BusOp ν)) : s.run (a ++ b) = (s.run a).run b :=
  List.foldl_append

end BusH
end Litex.Soc
