import LitexProofs.Soc.Decoder
/-
  A region list that `check_regions_overlap` accepts (`anyOverlap l = false`, the test `add_region` runs over
  `size_pow2` windows after every insertion) has pairwise disjoint decoder windows, and — for aligned, decoded regions
  of at least one bus word — pairwise disjoint `SoCRegion.decoder` predicates.  Stated about bare region lists, so
  that the interconnect properties (C06, C08) and the exports (C14) can use them without the handler model.
-/
namespace Litex.Soc

/-- `check_regions_overlap(regions) is None` ⇒ any two non-linker regions of the list (at different positions)
    have disjoint power-of-two windows `[origin, origin + size_pow2)`. -/
theorem accepted_regions_pairwise_disjoint_windows (l : List Region) (h : anyOverlap l = false) :
    l.Pairwise (fun r0 r1 => r0.linker = false → r1.linker = false → WinDisjoint r0 r1) := by
  have hp := (anyOverlap_eq_false_iff l).1 h
  exact hp.imp (fun {a b} hab h0 h1 => (winDisjoint_iff a b h0 h1).1 hab)

/-- The same at decoder level: for a bus of `2^sh` bytes per word and address width `aw`, the predicates that
    `SoCRegion.decoder` builds for two accepted regions never both accept a word address `a < 2^(aw-sh)`.
    Hypotheses per region: non-linker, `decode=True`, origin aligned on `size_pow2` (what `decoder()` checks at
    finalize), window at least one bus word (narrower regions: open finding C13-decoder-subword). -/
theorem accepted_regions_pairwise_disjoint_decoders (aw dw sh : Nat) (l : List Region)
    (hdw : dw / 8 = 2 ^ sh) (hsh : sh ≤ aw) (h : anyOverlap l = false)
    (hall : ∀ r ∈ l, r.linker = false ∧ r.decode = true ∧ r.aligned = true ∧ dw / 8 ≤ r.p2) :
    l.Pairwise (fun r0 r1 => ∀ a, a < 2 ^ (aw - sh) →
      ¬ (decoderAccepts aw dw r0 a = true ∧ decoderAccepts aw dw r1 a = true)) := by
  have hp := accepted_regions_pairwise_disjoint_windows l h
  rw [List.pairwise_iff_forall_sublist] at hp ⊢
  intro r0 r1 hsub
  have hm0 : r0 ∈ l := hsub.subset (by simp)
  have hm1 : r1 ∈ l := hsub.subset (by simp)
  obtain ⟨l0, d0, a0, w0⟩ := hall r0 hm0
  obtain ⟨l1, d1, a1, w1⟩ := hall r1 hm1
  intro a ha
  exact decoders_disjoint aw dw sh r0 r1 a hdw hsh ha d0 d1 a0 a1 w0 w1 (hp hsub l0 l1)

/-- Counting form: among the decoders of an accepted list at most one accepts any given word address. -/
theorem accepted_regions_one_decoder_per_address (aw dw sh : Nat) (l : List Region)
    (hdw : dw / 8 = 2 ^ sh) (hsh : sh ≤ aw) (h : anyOverlap l = false)
    (hall : ∀ r ∈ l, r.linker = false ∧ r.decode = true ∧ r.aligned = true ∧ dw / 8 ≤ r.p2)
    (a : Nat) (ha : a < 2 ^ (aw - sh)) :
    (l.filter (fun r => decoderAccepts aw dw r a)).length ≤ 1 := by
  have hp := accepted_regions_pairwise_disjoint_decoders aw dw sh l hdw hsh h hall
  have hf : (l.filter (fun r => decoderAccepts aw dw r a)).Pairwise (fun _ _ => False) := by
    refine (hp.filter _).imp_of_mem ?_
    intro r0 r1 h0 h1 hd
    have e0 := (List.mem_filter.1 h0).2
    have e1 := (List.mem_filter.1 h1).2
    exact hd a ha ⟨e0, e1⟩
  match hl : l.filter (fun r => decoderAccepts aw dw r a), hf with
  | [], _ => simp
  | [_], _ => simp
  | x :: y :: _, hf' =>
    rw [hl] at hf
    exact absurd (List.pairwise_cons.1 hf).1 (by intro hh; exact hh y (by simp))

/-- Non-vacuity: an accepted three-region list whose decoders split the word addresses. -/
example :
    let l : List Region := [⟨0x0, 0x1800, true, false, true⟩, ⟨0x2000, 0x1000, true, false, true⟩,
                            ⟨0x80000000, 0x10000, false, false, true⟩]
    anyOverlap l = false ∧ (∀ r ∈ l, r.linker = false ∧ r.decode = true ∧ r.aligned = true ∧ 32 / 8 ≤ r.p2) ∧
    l.map (fun r => decoderAccepts 32 32 r 0x7ff) = [true, false, false] ∧
    l.map (fun r => decoderAccepts 32 32 r 0x800) = [false, true, false] := by decide +kernel

/-- A list that is NOT accepted (`[0x0,+0x1800)` rounds up to `[0x0,+0x2000)` and meets `[0x1800,+0x800)`):
    both decoders accept word `0x600`. -/
example :
    let l : List Region := [⟨0x0, 0x1800, true, false, true⟩, ⟨0x1800, 0x800, true, false, true⟩]
    anyOverlap l = true ∧ l.map (fun r => decoderAccepts 32 32 r 0x600) = [true, true] := by decide +kernel

end Litex.Soc
