import LitexProofs.Lists
/-
  Reading a guard of the `Except` monad (`ite_error_eq_ok`: the way every handler proof peels `if … then .error …`), a
  dictionary look-up (`dict[key]` returns an entry), and two distinct members make a list of length two.  The facts about
  duplicate-free lists the invariants use are in `LitexProofs/Lists.lean`.
-/
namespace Litex.Soc

theorem ite_error_eq_ok {ε α : Type} {c : Prop} [Decidable c] {e : ε} {x : Except ε α} {a : α} :
    (if c then .error e else x) = .ok a ↔ ¬ c ∧ x = .ok a := by
  by_cases hc : c
  · rw [if_pos hc]; exact ⟨nofun, fun h => absurd hc h.1⟩
  · rw [if_neg hc]; exact ⟨fun h => ⟨hc, h⟩, fun h => h.2⟩

theorem mem_of_find?_fst {α β : Type} [DecidableEq α] {l : List (α × β)} {n : α} {k : β}
    (h : (l.find? (·.1 == n)).map (·.2) = some k) : (n, k) ∈ l := by
  cases hf : l.find? (·.1 == n) with
  | none => rw [hf] at h; cases h
  | some p =>
    rw [hf] at h
    have hp : p.1 = n := by simpa using List.find?_some hf
    rw [← hp, ← Option.some.inj h]
    exact List.mem_of_find?_eq_some hf

theorem two_le_length_of_mem_ne {α : Type} {l : List α} {a b : α} (ha : a ∈ l) (hb : b ∈ l) (hne : a ≠ b) :
    2 ≤ l.length := by
  match l, ha, hb with
  | [x], ha, hb => exact absurd ((List.mem_singleton.1 ha).trans (List.mem_singleton.1 hb).symm) hne
  | _ :: _ :: _, _, _ => exact Nat.le_add_left 2 _

end Litex.Soc
