import LitexModel.Soc.Region
import LitexProofs.Lists
/-
  Facts about `clog2` / `pow2ceil` (Migen's `log2_int(n, False)` and `SoCRegion.size_pow2`).
-/
namespace Litex.Soc

theorem le_pow2ceil (n : Nat) : n ≤ pow2ceil n := by
  unfold pow2ceil clog2
  split
  · simp; omega
  · have := Nat.lt_log2_self (n := n - 1)
    omega

theorem pow2ceil_pos (n : Nat) : 0 < pow2ceil n := Nat.two_pow_pos _

theorem Region.InExtent.inWindow {r : Region} {x : Nat} (h : r.InExtent x) : r.InWindow x :=
  ⟨h.1, Nat.lt_of_lt_of_le h.2 (Nat.add_le_add_left (le_pow2ceil r.size) _)⟩

theorem pow2ceil_lt_two_mul {n : Nat} (h : 0 < n) : pow2ceil n < 2 * n := by
  unfold pow2ceil clog2
  split
  · simp; omega
  · have := Nat.log2_self_le (n := n - 1) (by omega)
    rw [Nat.pow_succ]
    omega

theorem pow2ceil_le_of_le_two_pow {n k : Nat} (h : n ≤ 2 ^ k) : pow2ceil n ≤ 2 ^ k := by
  unfold pow2ceil clog2
  split
  · simpa using Nat.one_le_two_pow
  · have h1 : (n - 1).log2 < k := (Nat.log2_lt (by omega)).2 (by omega)
    exact Nat.pow_le_pow_right (by decide) h1

theorem clog2_two_pow (k : Nat) : clog2 (2 ^ k) = k := by
  cases k with
  | zero => rfl
  | succ k =>
    have h2 : 2 ^ (k + 1) = 2 * 2 ^ k := Nat.pow_succ'
    have hp := Nat.two_pow_pos k
    have hl : (2 ^ (k + 1) - 1).log2 = k := (Nat.log2_eq_iff (by omega)).2 ⟨by omega, by omega⟩
    rw [clog2, if_neg (by omega), hl]

theorem pow2ceil_two_pow (k : Nat) : pow2ceil (2 ^ k) = 2 ^ k := by
  unfold pow2ceil; rw [clog2_two_pow]

theorem pow2ceil_dvd_two_pow {n k : Nat} (h : n ≤ 2 ^ k) : pow2ceil n ∣ 2 ^ k := by
  have h1 := pow2ceil_le_of_le_two_pow h
  unfold pow2ceil at *
  exact Nat.pow_dvd_pow 2 ((Nat.pow_le_pow_iff_right (by decide)).1 h1)

/-- The Python test `(origin & (size_pow2 - 1)) != 0` is `origin % size_pow2 != 0`. -/
theorem land_pow2ceil_pred (origin n : Nat) : origin &&& (pow2ceil n - 1) = origin % pow2ceil n := by
  unfold pow2ceil
  exact Nat.and_two_pow_sub_one_eq_mod origin (clog2 n)

theorem aligned_add_le {o p t : Nat} (ho : o % p = 0) (ht : p ∣ t) (hlt : o < t) : o + p ≤ t := by
  obtain ⟨m, rfl⟩ := ht
  obtain ⟨k, rfl⟩ := Nat.dvd_of_mod_eq_zero ho
  have : k < m := Nat.lt_of_mul_lt_mul_left hlt
  calc p * k + p = p * (k + 1) := by rw [Nat.mul_succ]
    _ ≤ p * m := Nat.mul_le_mul_left p this

theorem word_mul_lt_two_pow {a sh aw : Nat} (ha : a < 2 ^ (aw - sh)) (hsh : sh ≤ aw) : a * 2 ^ sh < 2 ^ aw :=
  two_pow_sub_mul_two_pow hsh ▸ Nat.mul_lt_mul_of_pos_right ha (Nat.two_pow_pos sh)

end Litex.Soc
