import LitexModel.Soc.CsrBanks
import LitexProofs.Soc.LocInv
/-
  `CSRBankArray.scan` keeps the location invariant and returns each bank with a page the handler holds under its name
  (`scanBanks_spec`); what the capacity check of `SoC.finalize` gives (`finalizeBanks_ok`); a bank that fits lies inside its
  page and different pages share no address (`bankRange_in_page`, `pages_disjoint`).
-/
namespace Litex.Soc
namespace LocH
variable {ν : Type} [DecidableEq ν]

theorem scanBanks_spec : ∀ (banks : List (Bank ν)) {N : Nat} {s s' : LocH ν} {l : List (Bank ν × Int)}, Inv N s →
    s.scanBanks banks = .ok (s', l) →
    Inv N s' ∧ (∀ p ∈ s.locs, p ∈ s'.locs) ∧ (∀ q ∈ l, (q.1.name, q.2) ∈ s'.locs) ∧ l.map (·.1) = banks := by
  intro banks
  induction banks with
  | nil =>
    intro N s s' l hi h
    cases Except.ok.inj h
    exact ⟨hi, fun _ hp => hp, nofun, rfl⟩
  | cons b bs ih =>
    intro N s s' l hi h
    rw [scanBanks] at h
    -- the three steps of the loop body: `address_map`, the look-up of the page, the scan of the remaining banks
    cases ham : s.addressMap b.name <;> rw [ham] at h <;> dsimp only at h
    · cases h
    rename_i h1
    obtain ⟨i1, m1⟩ := addressMap_inv hi ham
    cases hk : h1.locOf b.name <;> rw [hk] at h <;> dsimp only at h
    · cases h
    rename_i k
    cases hs : h1.scanBanks bs <;> rw [hs] at h <;> dsimp only at h
    · cases h
    cases Except.ok.inj h
    obtain ⟨i2, m2, q2, r2⟩ := ih i1 hs
    refine ⟨i2, fun p hp => m2 p (m1 p hp), fun q hq => ?_, congrArg (b :: ·) r2⟩
    rcases List.mem_cons.1 hq with rfl | hq
    · exact m2 _ (mem_of_find?_fst hk)
    · exact q2 q hq

theorem finalizeBanks_ok {h h' : LocH ν} {paging dataWidth : Nat} {banks : List (Bank ν)} {l : List (Bank ν × Int)}
    (hfin : h.finalizeBanks paging dataWidth banks = .ok (h', l)) :
    h.scanBanks banks = .ok (h', l) ∧ ∀ p ∈ l, 4 * simpleCount dataWidth p.1.widths ≤ paging := by
  unfold finalizeBanks at hfin
  cases hs : h.scanBanks banks <;> rw [hs] at hfin
  · cases hfin
  · dsimp only at hfin
    rw [ite_error_eq_ok] at hfin
    cases Except.ok.inj hfin.2
    refine ⟨rfl, fun p hp => ?_⟩
    have hle : ¬ simpleCount dataWidth p.1.widths > paging / 4 :=
      of_decide_eq_false (List.any_eq_false.1 (Bool.eq_false_iff.2 hfin.1) p hp |> Bool.eq_false_iff.2)
    omega

end LocH

theorem bankRange_in_page {ν : Type} {base paging dataWidth : Nat} {p : Bank ν × Int} {x : Int}
    (hfit : 4 * simpleCount dataWidth p.1.widths ≤ paging) (hx : bankRange base paging dataWidth p x) :
    (base : Int) + paging * p.2 ≤ x ∧ x < (base : Int) + paging * (p.2 + 1) := by
  refine ⟨hx.1, Int.lt_of_lt_of_le hx.2 ?_⟩
  rw [Int.mul_add, Int.mul_one]
  omega

theorem pages_disjoint {base paging : Nat} {k1 k2 x : Int} (hne : k1 ≠ k2)
    (h1 : (base : Int) + paging * k1 ≤ x ∧ x < (base : Int) + paging * (k1 + 1))
    (h2 : (base : Int) + paging * k2 ≤ x ∧ x < (base : Int) + paging * (k2 + 1)) : False := by
  have hpg : (0 : Int) ≤ (paging : Int) := Int.natCast_nonneg _
  rcases Int.lt_or_gt_of_ne hne with hlt | hgt
  · have : (paging : Int) * (k1 + 1) ≤ paging * k2 := Int.mul_le_mul_of_nonneg_left hlt hpg
    omega
  · have : (paging : Int) * (k2 + 1) ≤ paging * k1 := Int.mul_le_mul_of_nonneg_left hgt hpg
    omega

end Litex.Soc
