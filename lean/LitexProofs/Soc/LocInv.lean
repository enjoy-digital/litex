import LitexModel.Soc.Loc
import LitexProofs.Soc.Basic
/-
  Invariant of `SoCLocHandler` (CSR pages, interrupt numbers): names unique, numbers unique and in range.
-/
namespace Litex.Soc
namespace LocH
variable {ν : Type} [DecidableEq ν]

/-- The invariant of a handler with `n` locations; `n_locs` is part of it because no request changes it. -/
structure Inv (n : Nat) (s : LocH ν) : Prop where
  size        : s.nLocs = n
  names_nodup : (s.locs.map (·.1)).Nodup
  locs_nodup  : (s.locs.map (·.2)).Nodup
  in_range    : ∀ p ∈ s.locs, 0 ≤ p.2 ∧ p.2 < (n : Int)

theorem hasName_eq_false (s : LocH ν) (n : ν) : s.hasName n = false ↔ n ∉ s.locs.map (·.1) :=
  any_beq_eq_false _ _ n

omit [DecidableEq ν] in
theorem hasLoc_eq_false (s : LocH ν) (k : Int) : s.hasLoc k = false ↔ k ∉ s.locs.map (·.2) :=
  any_beq_eq_false _ _ k

omit [DecidableEq ν] in
theorem alloc_ok {s : LocH ν} {k : Nat} (h : s.alloc = .ok k) : k < s.nLocs ∧ s.hasLoc (Int.ofNat k) = false := by
  unfold alloc at h
  split at h
  · rename_i k' hf
    cases Except.ok.inj h
    exact ⟨by simpa using List.mem_of_find?_eq_some hf, by simpa using List.find?_some hf⟩
  · cases h

/-- `s' = s`: `use_loc_if_exists` on a known name. -/
theorem add_ok {s s' : LocH ν} {n : ν} {k : Option Int} {u : Bool} (h : s.add n k u = .ok s') :
    s' = s ∨ ∃ j : Int, n ∉ s.locs.map (·.1) ∧ j ∉ s.locs.map (·.2) ∧ 0 ≤ j ∧ j < (s.nLocs : Int) ∧
      s' = { s with locs := s.locs ++ [(n, j)] } := by
  unfold add at h
  rw [ite_error_eq_ok] at h
  by_cases hu : (u && s.hasName n) = true
  · rw [if_pos hu] at h
    exact Or.inl (Except.ok.inj h.2).symm
  · rw [if_neg hu, ite_error_eq_ok] at h
    obtain ⟨_, hn, h⟩ := h
    have hn := (hasName_eq_false s n).1 (Bool.eq_false_iff.2 hn)
    cases k with
    | none =>
      dsimp only at h
      cases ha : s.alloc <;> rw [ha] at h
      · cases h
      · rename_i j
        obtain ⟨hlt, hfree⟩ := alloc_ok ha
        exact Or.inr ⟨j, hn, (hasLoc_eq_false s _).1 hfree, Int.natCast_nonneg j, Int.ofNat_lt.2 hlt,
          (Except.ok.inj h).symm⟩
    | some j =>
      simp only [ite_error_eq_ok] at h
      obtain ⟨hfree, h0, h1, h⟩ := h
      exact Or.inr ⟨j, hn, (hasLoc_eq_false s j).1 (Bool.eq_false_iff.2 hfree), by omega, by omega,
        (Except.ok.inj h).symm⟩

omit [DecidableEq ν] in
theorem inv_push {N : Nat} {s : LocH ν} {n : ν} {k : Int} (hi : Inv N s) (hn : n ∉ s.locs.map (·.1)) (hk : k ∉ s.locs.map (·.2))
    (h0 : 0 ≤ k) (h1 : k < (s.nLocs : Int)) : Inv N { s with locs := s.locs ++ [(n, k)] } where
  size := hi.size
  names_nodup := by rw [List.map_append]; exact nodup_concat.2 ⟨hi.names_nodup, hn⟩
  locs_nodup := by rw [List.map_append]; exact nodup_concat.2 ⟨hi.locs_nodup, hk⟩
  in_range p hp := (List.mem_append.1 hp).elim (hi.in_range p) fun hp => by
    rw [List.mem_singleton.1 hp]; exact ⟨h0, hi.size ▸ h1⟩

theorem add_inv {N : Nat} {s s' : LocH ν} {n : ν} {k : Option Int} {u : Bool} (hi : Inv N s) (h : s.add n k u = .ok s') :
    Inv N s' ∧ ∀ p ∈ s.locs, p ∈ s'.locs := by
  rcases add_ok h with rfl | ⟨j, hn, hk, h0, h1, rfl⟩
  · exact ⟨hi, fun _ hp => hp⟩
  · exact ⟨inv_push hi hn hk h0 h1, fun _ hp => List.mem_append_left _ hp⟩

theorem addressMap_inv {N : Nat} {s s' : LocH ν} {n : ν} (hi : Inv N s) (h : s.addressMap n = .ok s') :
    Inv N s' ∧ ∀ p ∈ s.locs, p ∈ s'.locs := by
  unfold addressMap at h
  split at h
  · cases Except.ok.inj h; exact ⟨hi, fun _ hp => hp⟩
  · exact add_inv hi h

theorem addAll_inv {N : Nat} {s s' : LocH ν} (l : List (ν × Int)) (hi : Inv N s) (h : s.addAll l = .ok s') : Inv N s' := by
  induction l generalizing s with
  | nil => cases Except.ok.inj h; exact hi
  | cons p rest ih =>
    rw [addAll] at h
    cases h1 : s.add p.1 (some p.2) false <;> rw [h1] at h
    · cases h
    · exact ih (add_inv hi h1).1 h

theorem apply_inv {N : Nat} {s s' : LocH ν} {op : LocOp ν} (hi : Inv N s) (h : s.apply op = .ok s') : Inv N s' := by
  cases op with
  | add n k u => exact (add_inv hi h).1
  | addressMap n => exact (addressMap_inv hi h).1
  | enable => cases Except.ok.inj h; exact ⟨hi.size, hi.names_nodup, hi.locs_nodup, hi.in_range⟩

theorem step_inv {N : Nat} {s : LocH ν} (op : LocOp ν) (hi : Inv N s) : Inv N (s.step op) := by
  unfold step
  split
  · exact apply_inv hi ‹_›
  · exact hi

theorem run_inv {N : Nat} {s : LocH ν} (ops : List (LocOp ν)) (hi : Inv N s) : Inv N (s.run ops) :=
  List.foldlRecOn ops step hi fun _ ht op _ => step_inv op ht

omit [DecidableEq ν] in
theorem inv_empty (n : Nat) (e : Bool) : Inv n ({ nLocs := n, enabled := e } : LocH ν) :=
  ⟨rfl, List.nodup_nil, List.nodup_nil, nofun⟩

end LocH
end Litex.Soc
