import LitexModel.Soc.BusRaw
import LitexProofs.Soc.Finalize
/-
  What survives a REJECTED request on the real `SoCBusHandler` (`RawH`, see `LitexModel/Soc/BusRaw.lean`):
  names stay unique, and regions stay pairwise disjoint as long as neither is listed in the ghost field `stale`,
  where the pre-fix method records the name of every region a refusal leaves behind.
-/
namespace Litex.Soc
namespace BusH
variable {ν : Type} [DecidableEq ν]

theorem addRegion_error_fresh {s : BusH ν} {n : ν} {q : Req} {e : Err} (h : s.addRegion n q = .error e)
    (he : e ≠ .dupName) : n ∉ s.names := by
  refine (hasName_eq_false s n).1 (Bool.eq_false_iff.2 fun hn => he ?_)
  rw [addRegion, if_pos hn] at h
  exact (Except.error.inj h).symm

end BusH

namespace RawH
variable {ν : Type} [DecidableEq ν]

structure Inv (s : RawH ν) : Prop where
  names_nodup : s.h.names.Nodup
  live_ok     : ∀ p ∈ s.h.regions, ∀ q ∈ s.h.regions, p.1 ≠ q.1 → p.1 ∉ s.stale → q.1 ∉ s.stale →
                  overlapPair p.2 q.2 = false

omit [DecidableEq ν] in
theorem inv_init (aw dw : Nat) : Inv ({ h := { aw := aw, dw := dw } } : RawH ν) :=
  ⟨List.nodup_nil, fun _ hp => (List.not_mem_nil hp).elim⟩

omit [DecidableEq ν] in
theorem mem_names_of_mem_regions {h : BusH ν} {p : ν × Region} (hp : p ∈ h.regions) : p.1 ∈ h.names := by
  unfold BusH.names
  exact List.mem_append_left _ (List.mem_map_of_mem hp)

omit [DecidableEq ν] in
theorem Inv.congr {s t : RawH ν} (hi : Inv s) (hr : t.h.regions = s.h.regions) (hio : t.h.ioRegions = s.h.ioRegions)
    (hst : t.stale = s.stale) : Inv t :=
  ⟨by rw [BusH.names, hr, hio]; exact hi.names_nodup, by rw [hr, hst]; exact hi.live_ok⟩

omit [DecidableEq ν] in
theorem Inv.add_region {s : RawH ν} (hi : Inv s) {n : ν} {r : Region} {st : List ν} (hn : n ∉ s.h.names)
    (hst : ∀ x ∈ s.stale, x ∈ st) (hr : n ∈ st ∨ ∀ a ∈ s.h.regs, overlapPair a r = false) :
    Inv { h := { s.h with regions := s.h.regions ++ [(n, r)] }, stale := st } where
  names_nodup := BusH.nodup_names_add_region hi.names_nodup hn r
  live_ok p hp q hq hne hps hqs := by
    rcases List.mem_append.1 hp with hp | hp <;> rcases List.mem_append.1 hq with hq | hq
    · exact hi.live_ok p hp q hq hne (fun h => hps (hst _ h)) (fun h => hqs (hst _ h))
    · cases List.mem_singleton.1 hq
      exact hr.elim (fun h => absurd h hqs) fun h => h _ (List.mem_map_of_mem hp)
    · cases List.mem_singleton.1 hp
      exact hr.elim (fun h => absurd h hps) fun h => (overlapPair_comm _ _).trans (h _ (List.mem_map_of_mem hq))
    · cases List.mem_singleton.1 hp
      cases List.mem_singleton.1 hq
      exact absurd rfl hne

omit [DecidableEq ν] in
theorem Inv.add_io {s : RawH ν} (hi : Inv s) {n : ν} {st : List ν} (hn : n ∉ s.h.names) (hst : ∀ x ∈ s.stale, x ∈ st)
    (r : Region) : Inv { h := { s.h with ioRegions := s.h.ioRegions ++ [(n, r)] }, stale := st } where
  names_nodup := BusH.nodup_names_add_io hi.names_nodup hn r
  live_ok p hp q hq hne hps hqs := hi.live_ok p hp q hq hne (fun h => hps (hst _ h)) (fun h => hqs (hst _ h))

omit [DecidableEq ν] in
theorem Inv.grows {s : RawH ν} {h' : BusH ν} (hi : Inv s) (hg : BusH.Grows s.h h') : Inv { s with h := h' } := by
  induction hg with
  | refl => exact hi
  | region n r _ hn hr ih => exact ih.add_region hn (fun _ hx => hx) (Or.inr hr)
  | io n r _ hn _ ih => exact ih.add_io hn (fun _ hx => hx) r
  | master _ _ _ ih => exact ih.congr rfl rfl rfl
  | slave _ _ _ _ ih => exact ih.congr rfl rfl rfl
  | ioCheck _ _ ih => exact ih.congr rfl rfl rfl

/-- What a refused `add_region` leaves behind is marked stale. -/
theorem inv_leftover {s : RawH ν} {n : ν} {q : Req} {e : Err} (hi : Inv s) (h : s.h.addRegion n q = .error e) :
    Inv (s.leftover n q e) := by
  unfold leftover
  split
  · exact hi.add_region (BusH.addRegion_error_fresh h nofun) (fun _ hx => List.mem_append_left _ hx)
      (Or.inl (List.mem_append_right _ (List.mem_singleton_self n)))
  · exact hi.add_io (BusH.addRegion_error_fresh h nofun) (fun _ hx => List.mem_append_left _ hx) _
  · exact hi

variable [AutoNames ν]

theorem step_ok {s : RawH ν} {op : BusOp ν} {h' : BusH ν} (hap : s.h.apply op = .ok h') :
    s.step op = ({ s with h := h' }, none) := by
  rw [step, hap]

/-- A refused call on the real object returns the model's verdict, and the handler is untouched unless it was an
    `add_slave` whose region had been accepted before "already declared as Bus Slave" was raised. -/
theorem step_error {s : RawH ν} {op : BusOp ν} {e : Err} (hap : s.h.apply op = .error e) :
    (s.step op).2 = some e ∧
      ((s.step op).1 = s ∨ ∃ n q h', s.h.addRegion n q = .ok h' ∧ (s.step op).1 = { s with h := h' }) := by
  rw [step, hap]
  cases op with
  | addSlave n q =>
    cases q with
    | none => exact ⟨rfl, Or.inl rfl⟩
    | some q =>
      dsimp only
      split
      · exact ⟨rfl, Or.inl rfl⟩
      · cases har : s.h.addRegion (n.getD (AutoNames.slave s.h.slaves.length)) q with
        | ok h' => exact ⟨rfl, Or.inr ⟨_, _, _, har, rfl⟩⟩
        | error e' => exact ⟨rfl, Or.inl rfl⟩
  | _ => exact ⟨rfl, Or.inl rfl⟩

/-- The pre-fix method differs only in what a refused `add_region` (direct or inside `add_slave`) leaves behind. -/
theorem stepPreFix_error {s : RawH ν} {op : BusOp ν} {e : Err} (hap : s.h.apply op = .error e) :
    (s.stepPreFix op).1 = s ∨ (∃ n q h', s.h.addRegion n q = .ok h' ∧ (s.stepPreFix op).1 = { s with h := h' }) ∨
      ∃ n q e', s.h.addRegion n q = .error e' ∧ (s.stepPreFix op).1 = s.leftover n q e' := by
  rw [stepPreFix, hap]
  cases op with
  | addRegion n q => exact Or.inr (Or.inr ⟨n, q, e, hap, rfl⟩)
  | addSlave n q =>
    cases q with
    | none => exact Or.inl rfl
    | some q =>
      dsimp only
      split
      · exact Or.inl rfl
      · cases har : s.h.addRegion (n.getD (AutoNames.slave s.h.slaves.length)) q with
        | ok h' => exact Or.inr (Or.inl ⟨_, _, _, har, rfl⟩)
        | error e' => exact Or.inr (Or.inr ⟨_, _, _, har, rfl⟩)
  | _ => exact Or.inl rfl

theorem stepPreFix_inv {s : RawH ν} (op : BusOp ν) (hi : Inv s) : Inv (s.stepPreFix op).1 := by
  cases hap : s.h.apply op with
  | ok h' => rw [stepPreFix, hap]; exact hi.grows (BusH.apply_grows hap)
  | error e =>
    rcases stepPreFix_error hap with h | ⟨n, q, h', har, h⟩ | ⟨n, q, e', har, h⟩ <;> rw [h]
    · exact hi
    · exact hi.grows (BusH.addRegion_grows har)
    · exact inv_leftover hi har

theorem runPreFix_inv {s : RawH ν} (ops : List (BusOp ν)) (hi : Inv s) : Inv (s.runPreFix ops) :=
  List.foldlRecOn ops _ hi fun _ ht op _ => stepPreFix_inv op ht

/-- The code as it stands (after the fix): every state change of the non-rolled-back object is an accepted `apply` or
    an accepted `add_region`, so the FULL handler invariant and the frame facts survive caught rejections. -/
theorem step_grows (s : RawH ν) (op : BusOp ν) : BusH.Grows s.h (s.step op).1.h ∧ (s.step op).1.stale = s.stale := by
  cases hap : s.h.apply op with
  | ok h' => rw [step_ok hap]; exact ⟨BusH.apply_grows hap, rfl⟩
  | error e =>
    rcases (step_error hap).2 with h | ⟨n, q, h', har, h⟩ <;> rw [h]
    · exact ⟨.refl, rfl⟩
    · exact ⟨BusH.addRegion_grows har, rfl⟩

theorem run_grows (s : RawH ν) (ops : List (BusOp ν)) : BusH.Grows s.h (s.run ops).h ∧ (s.run ops).stale = s.stale :=
  List.foldlRecOn (motive := fun t : RawH ν => BusH.Grows s.h t.h ∧ t.stale = s.stale) ops _ ⟨.refl, rfl⟩
    fun t ht op _ => ⟨ht.1.trans (step_grows t op).1, (step_grows t op).2.trans ht.2⟩

theorem run_eq_of_all_ok (s : RawH ν) (ops : List (BusOp ν)) (hok : ∀ v ∈ s.verdicts ops, v = none) :
    (s.run ops).h = s.h.run ops ∧ (s.run ops).stale = s.stale := by
  induction ops generalizing s with
  | nil => exact ⟨rfl, rfl⟩
  | cons op ops ih =>
    have hv : (s.step op).2 = none := hok _ List.mem_cons_self
    cases hap : s.h.apply op with
    | error e => rw [(step_error hap).1] at hv; cases hv
    | ok h' =>
      have hs : s.h.step op = h' := by rw [BusH.step, hap]
      have hrest : ∀ v ∈ (s.step op).1.verdicts ops, v = none := fun v hv' => hok v (List.mem_cons_of_mem _ hv')
      show ((s.step op).1.run ops).h = (s.h.step op).run ops ∧ ((s.step op).1.run ops).stale = s.stale
      rw [step_ok hap] at hrest ⊢
      rw [hs]
      exact ih _ hrest

end RawH
end Litex.Soc
