import LitexModel.Soc.Bus
import LitexProofs.Soc.Overlap
/-
  The first-fit loop of `alloc_region`: what a returned origin satisfies, and that the fuel of the model is
  never exhausted for `size > 0` (i.e. the Python `while` loop terminates).
-/
namespace Litex.Soc
variable {regs : List Region} {size : Nat} {cached : Bool} {limit : Nat}

/-- One round of the `while` loop of `alloc_region`. -/
theorem allocLoop_succ (fuel origin : Nat) :
    (¬ origin + size < limit ∧ allocLoop regs size cached limit (fuel + 1) origin = .exhausted) ∨
    (origin + size < limit ∧ origin % pow2ceil size = 0 ∧
      (regs.any fun a => overlapPair a (cand origin size cached)) = false ∧
      allocLoop regs size cached limit (fuel + 1) origin = .found origin) ∨
    (origin + size < limit ∧ ∃ o', origin ≤ o' ∧ (0 < size → origin < o') ∧
      allocLoop regs size cached limit (fuel + 1) origin = allocLoop regs size cached limit fuel o') := by
  rw [allocLoop]
  by_cases h1 : origin + size < limit
  · rw [if_pos h1]
    by_cases h2 : origin % pow2ceil size ≠ 0
    · rw [if_pos h2]
      exact .inr <| .inr ⟨h1, _, Nat.le_add_right _ _, fun _ =>
        Nat.lt_add_of_pos_right (Nat.sub_pos_of_lt (Nat.mod_lt origin (pow2ceil_pos size))), rfl⟩
    · rw [if_neg h2]
      by_cases h3 : (regs.any fun a => overlapPair a (cand origin size cached)) = true
      · rw [if_pos h3]
        exact .inr <| .inr ⟨h1, _, Nat.le_add_right _ _, Nat.lt_add_of_pos_right, rfl⟩
      · rw [if_neg h3]
        exact .inr <| .inl ⟨h1, Decidable.not_not.1 h2, Bool.eq_false_iff.2 h3, rfl⟩
  · rw [if_neg h1]
    exact .inl ⟨h1, rfl⟩

theorem allocLoop_found : ∀ (fuel origin o : Nat), allocLoop regs size cached limit fuel origin = .found o →
    origin ≤ o ∧ o + size < limit ∧ o % pow2ceil size = 0 ∧
      (regs.any fun a => overlapPair a (cand o size cached)) = false
  | 0, _, _, h => nomatch h
  | f + 1, origin, o, h => by
    rcases allocLoop_succ f origin with ⟨_, hr⟩ | ⟨h1, h2, h3, hr⟩ | ⟨_, o', hle, _, hr⟩ <;> rw [hr] at h
    · cases h
    · cases Loop.found.inj h
      exact ⟨Nat.le_refl _, h1, h2, h3⟩
    · exact (allocLoop_found f o' o h).imp_left (Nat.le_trans hle)

/-- The measure is `limit - origin`: it falls in every round that goes on; `allocFuel sr = sr.p2 + 1` exceeds it at the start. -/
theorem allocLoop_ne_outOfFuel (hsize : 0 < size) :
    ∀ (fuel origin : Nat), limit - origin < fuel → allocLoop regs size cached limit fuel origin ≠ .outOfFuel
  | 0, _, h => nomatch h
  | f + 1, origin, h => by
    rcases allocLoop_succ (regs := regs) (cached := cached) f origin with ⟨_, hr⟩ | ⟨_, _, _, hr⟩ | ⟨h1, o', _, hlt, hr⟩ <;>
      rw [hr]
    · exact nofun
    · exact nofun
    · exact allocLoop_ne_outOfFuel hsize f o' (Nat.lt_of_lt_of_le
        (Nat.sub_lt_sub_left (Nat.lt_of_le_of_lt (Nat.le_add_right _ _) h1) (hlt hsize)) (Nat.le_of_lt_succ h))

theorem allocSearch_ok : ∀ (srs : List Region) (o : Nat), allocSearch regs size cached srs = .ok o →
    ∃ sr ∈ srs, sr.origin ≤ o ∧ o + size < sr.origin + sr.p2 ∧ o % pow2ceil size = 0 ∧
      (regs.any fun a => overlapPair a (cand o size cached)) = false
  | [], _, h => nomatch h
  | sr :: rest, o, h => by
    rw [allocSearch] at h
    split at h
    · cases Except.ok.inj h
      exact ⟨sr, List.mem_cons_self, allocLoop_found _ _ _ ‹_›⟩
    · obtain ⟨sr', hm, hh⟩ := allocSearch_ok rest o h
      exact ⟨sr', List.mem_cons_of_mem _ hm, hh⟩
    · cases h

/-- The model never reports `Err.fuel`: for `size > 0` the loop ends by itself. -/
theorem allocSearch_ne_fuel (hsize : 0 < size) : ∀ (srs : List Region), allocSearch regs size cached srs ≠ .error .fuel
  | [] => nofun
  | sr :: rest => by
    rw [allocSearch]
    split
    · exact nofun
    · exact allocSearch_ne_fuel hsize rest
    · exact absurd ‹_› (allocLoop_ne_outOfFuel hsize _ _ (by rw [allocFuel, Nat.add_sub_cancel_left]; exact Nat.lt_succ_self _))

end Litex.Soc
