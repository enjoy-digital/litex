import LitexModel.Soc.Cm
import LitexProofs.Soc.Basic
/-
  `ConstraintManager`: table entries are conserved (`available ++ matched` is a permutation of everything ever
  put into the table), so an entry is granted at most once; lookups only see granted entries.
-/
namespace Litex.Soc
namespace Cm

theorem lookupIn_some {l : List Res} {name : Nat} {num : Option Nat} {r : Res} (h : lookupIn l name num = some r) :
    r ∈ l ∧ r.name = name ∧ (∀ k, num = some k → r.num = k) := by
  have hp := List.find?_some h
  rw [Res.matches.eq_def, Bool.and_eq_true, beq_iff_eq] at hp
  refine ⟨List.mem_of_find?_eq_some h, hp.1, fun k hk => ?_⟩
  subst hk
  exact eq_of_beq hp.2

theorem request_spec {s s' : Cm} {name : Nat} {num : Option Nat} {loose : Bool} {o : Option Res}
    (h : s.request name num loose = .ok (s', o)) :
    (o = none ∧ s' = s) ∨
    (∃ r, o = some r ∧ r ∈ s.available ∧ r.name = name ∧ (∀ k, num = some k → r.num = k) ∧
      s'.available = s.available.erase r ∧ s'.matched = s.matched ++ [r]) := by
  unfold request at h
  split at h
  · split at h
    · cases Except.ok.inj h
      exact .inl ⟨rfl, rfl⟩
    · cases h
  · rename_i r hr
    cases Except.ok.inj h
    exact .inr ⟨r, rfl, (lookupIn_some hr).1, (lookupIn_some hr).2.1, (lookupIn_some hr).2.2, rfl, rfl⟩

theorem perm_move {av ma : List Res} {r : Res} (h : r ∈ av) : (av.erase r ++ (ma ++ [r])).Perm (av ++ ma) := by
  rw [← List.append_assoc]
  exact (List.perm_append_singleton r _).trans ((List.perm_cons_erase h).symm.append_right ma)

/-- What a request loop (`request_all` / `request_remaining`) does: moves a list `new` of available entries,
    all named `name`, to the end of `matched`, and returns them after `acc`. -/
def LoopSpec (name : Nat) (s : Cm) (acc : List Res) (res : Cm × List Res) : Prop :=
  ∃ new, res.2 = acc ++ new ∧ res.1.matched = s.matched ++ new ∧
    (res.1.available ++ res.1.matched).Perm (s.available ++ s.matched) ∧
    (∀ r ∈ new, r ∈ s.available ∧ r.name = name)

theorem loopSpec_refl (name : Nat) (s : Cm) (acc : List Res) : LoopSpec name s acc (s, acc) :=
  ⟨[], by simp, by simp, List.Perm.refl _, by simp⟩

theorem loopSpec_step {name : Nat} {s s' : Cm} {acc : List Res} {r : Res} {res : Cm × List Res}
    (hm : r ∈ s.available) (hn : r.name = name) (ha : s'.available = s.available.erase r)
    (hma : s'.matched = s.matched ++ [r]) (h : LoopSpec name s' (acc ++ [r]) res) : LoopSpec name s acc res := by
  obtain ⟨new, h1, h2, h3, h4⟩ := h
  refine ⟨r :: new, by simp [h1], by simp [h2, hma], ?_, ?_⟩
  · refine h3.trans ?_
    rw [ha, hma]
    exact perm_move hm
  · intro x hx
    simp only [List.mem_cons] at hx
    rcases hx with hx | hx
    · subst hx; exact ⟨hm, hn⟩
    · obtain ⟨hx1, hx2⟩ := h4 x hx
      rw [ha] at hx1
      exact ⟨List.mem_of_mem_erase hx1, hx2⟩

/-- One round of a request loop: a granted entry goes round again, anything else ends the loop.  `k` stands for the recursive
    call, so that each of the two loops is this lemma applied to itself. -/
theorem loopSpec_round {name : Nat} {num : Option Nat} {s : Cm} {acc : List Res} {k : Cm → Res → Cm × List Res}
    (hk : ∀ s' r, LoopSpec name s' (acc ++ [r]) (k s' r)) :
    LoopSpec name s acc (match s.request name num false with | .ok (s', some r) => k s' r | _ => (s, acc)) := by
  split
  · rename_i s' r hr
    rcases request_spec hr with ⟨h, _⟩ | ⟨r', h1, hm, hn, _, ha, hma⟩
    · cases h
    · cases Option.some.inj h1
      exact loopSpec_step hm hn ha hma (hk s' r)
  · exact loopSpec_refl name s acc

theorem requestAllLoop_spec (name : Nat) : ∀ (fuel : Nat) (s : Cm) (acc : List Res),
    LoopSpec name s acc (requestAllLoop name fuel s acc)
  | 0, s, acc => loopSpec_refl name s acc
  | fuel + 1, _, acc => loopSpec_round fun s' r => requestAllLoop_spec name fuel s' (acc ++ [r])

theorem requestRemainingLoop_spec (name : Nat) : ∀ (fuel : Nat) (s : Cm) (acc : List Res),
    LoopSpec name s acc (requestRemainingLoop name fuel s acc)
  | 0, s, acc => loopSpec_refl name s acc
  | fuel + 1, _, acc => loopSpec_round fun s' r => requestRemainingLoop_spec name fuel s' (acc ++ [r])

/-- Every operation conserves the table entries and only ever appends available entries to `matched`. -/
def Moves (s s' : Cm) (ext : List Res) : Prop :=
  (s'.available ++ s'.matched).Perm (s.available ++ s.matched ++ ext) ∧
    ∃ new, s'.matched = s.matched ++ new ∧ ∀ r ∈ new, r ∈ s.available

theorem Moves.refl (s : Cm) : Moves s s [] :=
  ⟨by rw [List.append_nil], [], (List.append_nil _).symm, nofun⟩

theorem request_moves {s s' : Cm} {name : Nat} {num : Option Nat} {loose : Bool} {o : Option Res}
    (h : s.request name num loose = .ok (s', o)) : Moves s s' [] := by
  rcases request_spec h with ⟨_, rfl⟩ | ⟨r, _, hm, _, _, ha, hma⟩
  · exact Moves.refl _
  · refine ⟨?_, [r], hma, fun x hx => List.mem_singleton.1 hx ▸ hm⟩
    rw [List.append_nil, ha, hma]
    exact perm_move hm

/-- `request_all` / `request_remaining`: a loop from the empty list whose result is refused when empty. -/
theorem LoopSpec.moves {name : Nat} {s s' : Cm} {l : List Res} {res : Cm × List Res} (hl : LoopSpec name s [] res)
    (h : (if res.2.isEmpty then Except.error CmErr.valueError else .ok res) = .ok (s', l)) : Moves s s' [] := by
  obtain ⟨new, _, h2, h3, h4⟩ := hl
  cases Except.ok.inj (ite_error_eq_ok.1 h).2
  exact ⟨by rw [List.append_nil]; exact h3, new, h2, fun r hr => (h4 r hr).1⟩

def opExt : CmOp → List Res
  | .extend io _ => io
  | _ => []

theorem apply_spec (s : Cm) (op : CmOp) : Moves s (s.apply op).1 (opExt op) := by
  cases op with
  | request name num loose =>
    rw [apply]
    split
    · exact request_moves ‹_›
    · exact request_moves ‹_›
    · exact Moves.refl s
  | requestAll name =>
    rw [apply]
    split
    · rename_i h
      exact (requestAllLoop_spec name (s.available.length + 1) s []).moves h
    · exact Moves.refl s
  | requestRemaining name =>
    rw [apply]
    split
    · rename_i h
      exact (requestRemainingLoop_spec name (s.available.length + 1) s []).moves h
    · exact Moves.refl s
  | lookup name num sub loose =>
    rw [apply]
    split <;> exact Moves.refl s
  | extend io p =>
    refine ⟨?_, [], (List.append_nil _).symm, nofun⟩
    show ((if p = true then io ++ s.available else s.available ++ io) ++ s.matched).Perm (s.available ++ s.matched ++ io)
    split
    · rw [List.append_assoc]
      exact List.perm_append_comm
    · rw [List.append_assoc, List.append_assoc]
      exact List.Perm.append_left _ List.perm_append_comm

theorem extensions_cons (op : CmOp) (ops : List CmOp) : extensions (op :: ops) = opExt op ++ extensions ops := by
  cases op <;> rfl

theorem run_perm (s : Cm) (ops : List CmOp) :
    ((s.run ops).available ++ (s.run ops).matched).Perm (s.available ++ s.matched ++ extensions ops) := by
  induction ops generalizing s with
  | nil => rw [extensions, List.append_nil]; exact List.Perm.refl _
  | cons op ops ih =>
    rw [extensions_cons, ← List.append_assoc]
    exact (ih _).trans (List.Perm.append_right _ (apply_spec s op).1)

/-- `matched` only grows along a history (a grant is never taken back or re-issued from `matched`). -/
theorem run_matched_prefix (s : Cm) (ops : List CmOp) : ∃ new, (s.run ops).matched = s.matched ++ new := by
  unfold run
  induction ops generalizing s with
  | nil => exact ⟨[], by simp⟩
  | cons op ops ih =>
    rw [List.foldl_cons]
    obtain ⟨n1, h1, _⟩ := (apply_spec s op).2
    obtain ⟨n2, h2⟩ := ih (s.apply op).1
    exact ⟨n1 ++ n2, by rw [h2, h1, List.append_assoc]⟩

theorem lookup_spec {s : Cm} {name : Nat} {num sub : Option Nat} {loose : Bool} {r : Res} {sb : Option Nat}
    (h : s.lookup name num sub loose = .ok (some (r, sb))) :
    r ∈ s.matched ∧ r.name = name ∧ (∀ k, num = some k → r.num = k) ∧ sb = sub ∧ (∀ x, sb = some x → x ∈ r.subs) := by
  unfold lookup at h
  split at h
  · split at h <;> cases h
  · rename_i r' hr
    obtain ⟨hm, hn, hk⟩ := lookupIn_some hr
    split at h
    · cases Except.ok.inj h
      exact ⟨hm, hn, hk, rfl, nofun⟩
    · rename_i x
      split at h
      · cases Except.ok.inj h
        exact ⟨hm, hn, hk, rfl, fun y hy => Option.some.inj hy ▸ List.contains_iff_mem.1 ‹_›⟩
      · cases h

end Cm
end Litex.Soc
