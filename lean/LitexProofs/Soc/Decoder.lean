import LitexProofs.Soc.Overlap
/-
  `SoCRegion.decoder`: the predicate on word addresses is exactly membership of the byte address in the
  power-of-two window, provided the origin is aligned and the window is at least one bus word.
-/
namespace Litex.Soc

theorem wordShift_eq {dw sh : Nat} (h : dw / 8 = 2 ^ sh) : wordShift dw = sh := by
  unfold wordShift; rw [h, Nat.log2_two_pow]

/-- Comparing a word address above the low bits (`/ P`) is comparing its byte address (`* S`) with a window of `P`
    words of `S` bytes. -/
theorem div_eq_iff_window {P S : Nat} (hP : 0 < P) (hS : 0 < S) (a o : Nat) :
    a / P = o ↔ o * (P * S) ≤ a * S ∧ a * S < o * (P * S) + P * S := by
  rw [← Nat.mul_assoc, ← Nat.add_mul, Nat.mul_le_mul_right_iff hS, Nat.mul_lt_mul_right hS]
  constructor
  · rintro rfl
    exact ⟨Nat.div_mul_le_self a P, Nat.lt_div_mul_add hP⟩
  · rintro ⟨h1, h2⟩
    exact Nat.div_eq_of_lt_le h1 (by rwa [Nat.succ_mul])

theorem decoderAccepts_iff (aw dw sh : Nat) (r : Region) (a : Nat)
    (hdw : dw / 8 = 2 ^ sh) (hsh : sh ≤ aw) (hdec : r.decode = true) (hal : r.aligned = true)
    (hword : dw / 8 ≤ r.p2) (ha : a < 2 ^ (aw - sh)) :
    decoderAccepts aw dw r a = true ↔ r.InWindow (a * (dw / 8)) := by
  have hp2 : r.p2 = 2 ^ clog2 r.size := rfl
  have hshp : sh ≤ clog2 r.size := (Nat.pow_le_pow_iff_right (by decide)).1 (hdw ▸ hp2 ▸ hword)
  -- the window is `P = 2^(clog2 size - sh)` bus words of `S = 2^sh` bytes and starts at a multiple `o` of its size
  have hsplit : r.p2 = 2 ^ (clog2 r.size - sh) * 2 ^ sh := by rw [hp2, ← Nat.pow_add, Nat.sub_add_cancel hshp]
  obtain ⟨o, ho⟩ := Nat.dvd_of_mod_eq_zero (eq_of_beq hal)
  rw [decoderAccepts, Region.InWindow, wordShift_eq hdw, hdw, hdec]
  split
  · rename_i hfull
    rw [Bool.not_true, Bool.false_or, Bool.and_eq_true] at hfull
    rw [eq_of_beq hfull.1, eq_of_beq hfull.2, Nat.zero_add]
    exact ⟨fun _ => ⟨Nat.zero_le _, word_mul_lt_two_pow ha hsh⟩, fun _ => rfl⟩
  · dsimp only
    rw [beq_iff_eq, Nat.shiftRight_eq_div_pow, Nat.shiftRight_eq_div_pow, Nat.shiftRight_eq_div_pow,
      Nat.shiftRight_eq_div_pow]
    -- the number of compared bits: the window in words is `P`, so `k = clog2 size - sh`
    have hk : clog2 (r.p2 / 2 ^ sh) = clog2 r.size - sh := by
      rw [hsplit, Nat.mul_div_cancel _ (Nat.two_pow_pos sh), clog2_two_pow]
    -- the constant the address is compared with: the origin in windows, `o`
    have horg : r.origin / 2 ^ sh / 2 ^ (clog2 r.size - sh) = o := by
      rw [Nat.div_div_eq_div_mul, Nat.mul_comm (2 ^ sh), ← hsplit, ho,
        Nat.mul_div_cancel_left o (show 0 < r.p2 from pow2ceil_pos _)]
    rw [hk, horg, div_eq_iff_window (Nat.two_pow_pos _) (Nat.two_pow_pos sh), ← hsplit, ho, Nat.mul_comm o]

theorem decoders_disjoint (aw dw sh : Nat) (r0 r1 : Region) (a : Nat)
    (hdw : dw / 8 = 2 ^ sh) (hsh : sh ≤ aw) (ha : a < 2 ^ (aw - sh))
    (hd0 : r0.decode = true) (hd1 : r1.decode = true) (hal0 : r0.aligned = true) (hal1 : r1.aligned = true)
    (hw0 : dw / 8 ≤ r0.p2) (hw1 : dw / 8 ≤ r1.p2) (hdis : WinDisjoint r0 r1) :
    ¬ (decoderAccepts aw dw r0 a = true ∧ decoderAccepts aw dw r1 a = true) := by
  rw [decoderAccepts_iff aw dw sh r0 a hdw hsh hd0 hal0 hw0 ha, decoderAccepts_iff aw dw sh r1 a hdw hsh hd1 hal1 hw1 ha]
  exact hdis _

end Litex.Soc
