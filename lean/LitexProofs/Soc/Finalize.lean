import LitexProofs.Soc.BusInv
import LitexProofs.Soc.Decoder
/-
  `do_finalize`: what a successful finalize guarantees about the decoders handed to the interconnect.
-/
namespace Litex.Soc
namespace BusH
variable {ν : Type} [DecidableEq ν]

theorem regionOf_some {s : BusH ν} {n : ν} {r : Region} (h : s.regionOf n = some r) : (n, r) ∈ s.regions :=
  mem_of_find?_fst h

omit [DecidableEq ν] in
theorem regions_pair_ok {s : BusH ν} (hi : Inv s) {n0 n1 : ν} {r0 r1 : Region}
    (h0 : (n0, r0) ∈ s.regions) (h1 : (n1, r1) ∈ s.regions) (hne : n0 ≠ n1) : overlapPair r0 r1 = false :=
  overlapPair_of_mem_ne hi.regs_ok h0 h1 hne

omit [DecidableEq ν] in
theorem regions_winDisjoint {s : BusH ν} (hi : Inv s) {n0 n1 : ν} {r0 r1 : Region}
    (h0 : (n0, r0) ∈ s.regions) (h1 : (n1, r1) ∈ s.regions) (hne : n0 ≠ n1) (l0 : r0.linker = false)
    (l1 : r1.linker = false) : WinDisjoint r0 r1 :=
  (winDisjoint_iff r0 r1 l0 l1).1 (regions_pair_ok hi h0 h1 hne)

omit [DecidableEq ν] in
theorem isEmpty_or_eq_false {s : BusH ν} (hm : s.masters ≠ []) (hs : s.slaves ≠ []) :
    (s.masters.isEmpty || s.slaves.isEmpty) = false := by
  rw [Bool.or_eq_false_iff]
  exact ⟨List.isEmpty_eq_false_iff.2 hm, List.isEmpty_eq_false_iff.2 hs⟩

theorem finalize_ok_aligned {s : BusH ν} (hfin : s.finalize = .ok ()) (hm : s.masters ≠ []) (hs : s.slaves ≠ [])
    (hp : s.isP2P = false) : (decide (s.regions.length > 1) && s.regions.any (fun p => !p.2.decode)) = false ∧
      ∀ p ∈ s.slaveRegions, p.2.aligned = true := by
  rw [finalize, isEmpty_or_eq_false hm hs, hp, if_neg Bool.false_ne_true, if_neg Bool.false_ne_true,
    ite_error_eq_ok] at hfin
  refine ⟨Bool.eq_false_iff.2 hfin.1, fun p hp => ?_⟩
  by_cases hall : s.slaveRegions.all (fun p => p.2.aligned) = true
  · exact List.all_eq_true.1 hall p hp
  · rw [if_neg hall] at hfin; cases hfin.2

theorem isP2P_origin {s : BusH ν} (hp : s.isP2P = true) {n : ν} {r : Region} (hn : n ∈ s.slaves)
    (hr : s.regionOf n = some r) : r.origin = 0 := by
  rw [isP2P, Bool.and_eq_true, Bool.and_eq_true] at hp
  obtain ⟨⟨_, hlen⟩, horg⟩ := hp
  cases hsl : s.slaves with
  | nil => rw [hsl] at hn; cases hn
  | cons m rest =>
    rw [hsl] at hn hlen horg
    cases List.eq_nil_of_length_eq_zero (Nat.succ.inj (eq_of_beq hlen))
    cases List.mem_singleton.1 hn
    dsimp only at horg
    rw [hr] at horg
    exact eq_of_beq horg

theorem mem_slaveRegions {s : BusH ν} {n : ν} {r : Region} (hn : n ∈ s.slaves) (hr : s.regionOf n = some r) :
    (n, r) ∈ s.slaveRegions :=
  List.mem_filterMap.2 ⟨n, hn, by rw [hr]; rfl⟩

/-- Two slaves rule out the point-to-point shortcut, so finalize has checked that every region is decoded and every
    slave origin aligned; the invariant makes the windows disjoint.  `aw dw` are any widths, not tied to `s`: the callers put the
    handler's in. -/
theorem finalize_one_slave_per_address {s : BusH ν} (hi : Inv s) (hfin : s.finalize = .ok ()) (hm : s.masters ≠ [])
    (aw dw sh : Nat) (hdw : dw / 8 = 2 ^ sh) (hsh : sh ≤ aw) {n0 n1 : ν} {r0 r1 : Region} {a : Nat}
    (hn0 : n0 ∈ s.slaves) (hn1 : n1 ∈ s.slaves) (hne : n0 ≠ n1)
    (hr0 : s.regionOf n0 = some r0) (hr1 : s.regionOf n1 = some r1) (hl0 : r0.linker = false) (hl1 : r1.linker = false)
    (hw0 : dw / 8 ≤ r0.p2) (hw1 : dw / 8 ≤ r1.p2) (ha : a < 2 ^ (aw - sh)) :
    ¬ (decoderAccepts aw dw r0 a = true ∧ decoderAccepts aw dw r1 a = true) := by
  have hp : s.isP2P = false := by
    have : (s.slaves.length == 1) = false := beq_false_of_ne (by have := two_le_length_of_mem_ne hn0 hn1 hne; omega)
    rw [isP2P, this, Bool.and_false, Bool.false_and]
  obtain ⟨hdec, hal⟩ := finalize_ok_aligned hfin hm (List.ne_nil_of_mem hn0) hp
  have m0 := regionOf_some hr0
  have m1 := regionOf_some hr1
  have hlen : 2 ≤ s.regions.length := two_le_length_of_mem_ne m0 m1 (fun e => hne (congrArg Prod.fst e))
  rw [decide_eq_true (by omega), Bool.true_and] at hdec
  have hall : ∀ p ∈ s.regions, p.2.decode = true := fun p hp => by simpa using List.any_eq_false.1 hdec p hp
  exact decoders_disjoint aw dw sh r0 r1 a hdw hsh ha (hall _ m0) (hall _ m1)
    (hal _ (mem_slaveRegions hn0 hr0)) (hal _ (mem_slaveRegions hn1 hr1)) hw0 hw1
    (regions_winDisjoint hi m0 m1 hne hl0 hl1)

end BusH
end Litex.Soc
