import LitexProofs.Soc.Pow2
import LitexProofs.Soc.Basic
/-
  `check_regions_overlap` as a statement about address windows.
-/
namespace Litex.Soc

/-- The decoded windows of two regions share no byte address. -/
def WinDisjoint (r0 r1 : Region) : Prop := ∀ x, ¬ (r0.InWindow x ∧ r1.InWindow x)

theorem overlapPair_eq_false_iff (r0 r1 : Region) :
    overlapPair r0 r1 = false ↔
      (r0.linker = true ∨ r1.linker = true ∨ r1.origin + r1.p2 ≤ r0.origin ∨ r0.origin + r0.p2 ≤ r1.origin) := by
  unfold overlapPair
  cases h0 : r0.linker <;> cases h1 : r1.linker <;> simp
  by_cases a : r1.origin + r1.p2 ≤ r0.origin <;> by_cases b : r0.origin + r0.p2 ≤ r1.origin <;> simp [a, b]

theorem overlapPair_comm (r0 r1 : Region) : overlapPair r0 r1 = overlapPair r1 r0 := by
  -- the four reasons for not reporting a pair are symmetric; arguing on `= false` spares unfolding the nested `if`s of both sides
  have h : ∀ a b : Region, overlapPair a b = false → overlapPair b a = false := fun a b h =>
    (overlapPair_eq_false_iff b a).2 <| ((overlapPair_eq_false_iff a b).1 h).elim (fun h => Or.inr (Or.inl h))
      fun h => h.elim Or.inl fun h => Or.inr (Or.inr h.symm)
  cases h0 : overlapPair r0 r1
  · exact (h _ _ h0).symm
  · cases h1 : overlapPair r1 r0
    · rw [h _ _ h1] at h0; cases h0
    · rfl

/-- For two non-linker regions "not reported by `check_regions_overlap`" is exactly "windows disjoint". -/
theorem winDisjoint_iff (r0 r1 : Region) (h0 : r0.linker = false) (h1 : r1.linker = false) :
    overlapPair r0 r1 = false ↔ WinDisjoint r0 r1 := by
  rw [overlapPair_eq_false_iff]
  simp only [h0, h1, Bool.false_eq_true, false_or]
  constructor
  · intro h x ⟨⟨a, b⟩, ⟨c, d⟩⟩
    omega
  · intro h
    have p0 := pow2ceil_pos r0.size
    have p1 := pow2ceil_pos r1.size
    by_cases hle : r0.origin ≤ r1.origin
    · by_cases hh : r0.origin + r0.p2 ≤ r1.origin
      · exact Or.inr hh
      · exact absurd ⟨⟨hle, by omega⟩, ⟨Nat.le_refl _, by unfold Region.p2; omega⟩⟩ (h r1.origin)
    · by_cases hh : r1.origin + r1.p2 ≤ r0.origin
      · exact Or.inl hh
      · exact absurd ⟨⟨Nat.le_refl _, by unfold Region.p2; omega⟩, ⟨by omega, by omega⟩⟩ (h r0.origin)

theorem anyOverlap_eq_false_iff (l : List Region) :
    anyOverlap l = false ↔ l.Pairwise (fun a b => overlapPair a b = false) := by
  induction l with
  | nil => simp [anyOverlap]
  | cons r rs ih =>
    simp only [anyOverlap, Bool.or_eq_false_iff, List.pairwise_cons, ih, List.any_eq_false]
    constructor
    · rintro ⟨h, h'⟩
      exact ⟨fun a ha => by simpa using h a ha, h'⟩
    · rintro ⟨h, h'⟩
      exact ⟨fun a ha => by simpa using h a ha, h'⟩

theorem overlapPair_of_mem_ne {ν : Type} {l : List (ν × Region)} (h : anyOverlap (l.map (·.2)) = false)
    {n0 n1 : ν} {r0 r1 : Region} (h0 : (n0, r0) ∈ l) (h1 : (n1, r1) ∈ l) (hne : n0 ≠ n1) :
    overlapPair r0 r1 = false :=
  pairwise_of_mem_ne (R := fun p q : ν × Region => overlapPair p.2 q.2 = false)
    (fun a b h => (overlapPair_comm b.2 a.2).trans h)
    (List.pairwise_map.1 ((anyOverlap_eq_false_iff _).1 h)) h0 h1 (fun e => hne (congrArg Prod.fst e))

theorem anyOverlap_append_singleton (l : List Region) (r : Region) :
    anyOverlap (l ++ [r]) = false ↔ anyOverlap l = false ∧ ∀ a ∈ l, overlapPair a r = false := by
  simp only [anyOverlap_eq_false_iff, List.pairwise_append, List.pairwise_cons, List.mem_singleton]
  constructor
  · rintro ⟨h1, _, h3⟩
    exact ⟨h1, fun a ha => h3 a ha r rfl⟩
  · rintro ⟨h1, h3⟩
    exact ⟨h1, ⟨by simp, List.Pairwise.nil⟩, fun a ha b hb => hb ▸ h3 a ha⟩

end Litex.Soc
