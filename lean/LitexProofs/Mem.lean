import LitexModel.Mem
import LitexProofs.Lists
/-
  Lemmas about the byte-memory specification `LitexModel/Mem.lean`: what one masked write does (inside, outside, of a
  concatenation, seen in blocks), reading bytes, the "last enabled write wins" characterisation of a write history, and
  the numeric word view (lanes, round trips, a word of `n + p` lanes as the concatenation of its parts).
-/
namespace Litex
namespace Mem

theorem writeMasked_apply (m : Mem) (base : Nat) (sel : List Bool) (dat : List Byte) (a : Nat) :
    m.writeMasked base sel dat a =
      if base ≤ a ∧ sel.getD (a - base) false = true then dat.getD (a - base) 0 else m a := rfl

theorem writeMasked_selected (m : Mem) (base : Nat) (sel : List Bool) (dat : List Byte) (i : Nat)
    (h : sel.getD i false = true) : m.writeMasked base sel dat (base + i) = dat.getD i 0 := by
  rw [writeMasked_apply]; simp only [Nat.add_sub_cancel_left, Nat.le_add_right, true_and, h, if_true]

theorem writeMasked_unselected (m : Mem) (base : Nat) (sel : List Bool) (dat : List Byte) (i : Nat)
    (h : sel.getD i false = false) : m.writeMasked base sel dat (base + i) = m (base + i) := by
  rw [writeMasked_apply]; simp only [Nat.add_sub_cancel_left, h]; simp

theorem writeMasked_below (m : Mem) (base : Nat) (sel : List Bool) (dat : List Byte) (a : Nat)
    (h : a < base) : m.writeMasked base sel dat a = m a := by
  rw [writeMasked_apply]
  have : ¬ base ≤ a := by omega
  simp only [this, false_and, if_false]

theorem writeMasked_above (m : Mem) (base : Nat) (sel : List Bool) (dat : List Byte) (a : Nat)
    (h : base + sel.length ≤ a) : m.writeMasked base sel dat a = m a := by
  rw [writeMasked_apply]
  have h2 : sel.length ≤ a - base := by omega
  rw [getD_of_length_le sel _ false h2]; simp

theorem writeMasked_none (m : Mem) (base : Nat) (sel : List Bool) (dat : List Byte)
    (h : ∀ i, sel.getD i false = false) : m.writeMasked base sel dat = m := by
  funext a; rw [writeMasked_apply, h]; simp

theorem writeMasked_append (m : Mem) (base : Nat) (s1 s2 : List Bool) (d1 d2 : List Byte) (h : d1.length = s1.length) :
    m.writeMasked base (s1 ++ s2) (d1 ++ d2) = (m.writeMasked base s1 d1).writeMasked (base + s1.length) s2 d2 := by
  funext a
  simp only [writeMasked_apply, List.getD_eq_getElem?_getD, List.getElem?_append]
  by_cases h1 : a - base < s1.length
  · have : ¬ base + s1.length ≤ a := by omega
    simp [h1, h, this]
  · have h2 : base ≤ a ∧ a - base - s1.length = a - (base + s1.length) ∨ ¬ base ≤ a := by omega
    rcases h2 with ⟨h2, h3⟩ | h2
    · have h4 : base + s1.length ≤ a := by omega
      simp [h1, h, h2, h3, h4]
    · have h4 : ¬ base + s1.length ≤ a := by omega
      simp [h2, h4]

theorem writeMasked_idem (m : Mem) (base : Nat) (sel : List Bool) (dat : List Byte) :
    (m.writeMasked base sel dat).writeMasked base sel dat = m.writeMasked base sel dat := by
  funext a; simp only [writeMasked_apply]; split <;> rfl

/-- `writeMasked` looks at `sel`/`dat` only through `getD`: different spellings of the same lanes (a prefix, a window, a
    padded list) give the same write. -/
theorem writeMasked_congr (m : Mem) (base : Nat) {s s' : List Bool} {d d' : List Byte}
    (hs : ∀ k, s.getD k false = s'.getD k false) (hd : ∀ k, s.getD k false = true → d.getD k 0 = d'.getD k 0) :
    m.writeMasked base s d = m.writeMasked base s' d' := by
  funext a
  simp only [writeMasked_apply, ← hs]
  split
  · next h => exact hd _ h.2
  · rfl

/-- `n`: any bound of the select's length (the window width of the caller). -/
theorem writeMasked_outside (m : Mem) (b n p : Nat) (s : List Bool) (d : List Byte) (hs : s.length ≤ n)
    (h : p < b ∨ b + n ≤ p) : m.writeMasked b s d p = m p := by
  rcases h with h | h
  · exact writeMasked_below _ _ _ _ _ h
  · exact writeMasked_above _ _ _ _ _ (by omega)

/-- A masked write inside block `G'` (window `[off, off+w)` of its `L` bytes), read at byte `j` of block `G`. -/
theorem writeMasked_block (m : Mem) (L G G' j off w : Nat) (s : List Bool) (d : List Byte) (hj : j < L)
    (hoff : off + w ≤ L) (hs : s.length ≤ w) :
    m.writeMasked (G' * L + off) s d (G * L + j) =
      if G = G' ∧ off ≤ j ∧ s.getD (j - off) false = true then d.getD (j - off) 0 else m (G * L + j) := by
  by_cases hG : G = G'
  · subst hG
    rw [writeMasked_apply, Nat.add_sub_add_left]
    simp only [Nat.add_le_add_iff_left, true_and]
  · rw [writeMasked_outside _ _ w _ _ _ hs (Litex.window_disjoint L G G' j off w hG hj hoff), if_neg (fun h => hG h.1)]

/-- Copying `w` bytes at offset `k` extends an agreement of the first `k` bytes of two regions to `k + w`. -/
theorem copy_word (src dst : Mem) (A B k w : Nat) (s : List Bool) (dat : List Byte)
    (hs : ∀ i, i < w → s.getD i false = true) (hdat : ∀ i, i < w → dat.getD i 0 = src (A + k + i))
    (hdone : ∀ j, j < k → dst (B + j) = src (A + j)) (j : Nat) (hj : j < k + w) :
    dst.writeMasked (B + k) s dat (B + j) = src (A + j) := by
  by_cases hlo : j < k
  · rw [writeMasked_below _ _ _ _ _ (by omega)]; exact hdone j hlo
  · obtain ⟨i, rfl⟩ : ∃ i, j = k + i := ⟨j - k, by omega⟩
    rw [← Nat.add_assoc, writeMasked_selected _ _ _ _ _ (hs i (by omega)), hdat i (by omega), Nat.add_assoc]

@[simp] theorem readBytes_length (m : Mem) (base n : Nat) : (m.readBytes base n).length = n := by
  simp [readBytes]

theorem readBytes_add (m : Mem) (base n p : Nat) :
    m.readBytes base (n + p) = m.readBytes base n ++ m.readBytes (base + n) p := by
  unfold readBytes
  rw [List.range_add, List.map_append, List.map_map]
  congr 1
  apply List.map_congr_left
  intro i _
  simp [Nat.add_assoc]

theorem readBytes_getD (m : Mem) (base n i : Nat) (h : i < n) : (m.readBytes base n).getD i 0 = m (base + i) := by
  simp [readBytes, List.getD_eq_getElem?_getD, h]

theorem apply_eq (m : Mem) (w : Write) (a : Nat) :
    m.apply w a = if w.enables a then w.byteAt a else m a := by
  unfold apply; rw [writeMasked_apply]
  simp [Write.enables, Write.byteAt]

theorem applyAll_cons (m : Mem) (w : Write) (ws : List Write) : m.applyAll (w :: ws) = (m.apply w).applyAll ws := rfl

theorem applyAll_append (m : Mem) (a b : List Write) : m.applyAll (a ++ b) = (m.applyAll a).applyAll b := by
  simp [applyAll, List.foldl_append]

theorem lastEnabled_cons (init : Mem) (w : Write) (ws : List Write) (a : Nat) :
    lastEnabled init (w :: ws) a = lastEnabled (init.apply w) ws a := by
  unfold lastEnabled
  rw [List.reverse_cons, List.find?_append]
  cases h : List.find? (fun w => w.enables a) ws.reverse with
  | some x => simp
  | none =>
    simp only [Option.none_or, List.find?_cons, List.find?_nil]
    rw [apply_eq]
    cases h2 : w.enables a <;> simp

theorem applyAll_eq_lastEnabled (init : Mem) (ws : List Write) (a : Nat) :
    init.applyAll ws a = lastEnabled init ws a := by
  induction ws generalizing init with
  | nil => simp [applyAll, lastEnabled]
  | cons w ws ih => rw [applyAll_cons, lastEnabled_cons, ih]

end Mem

@[simp] theorem wordBytes_length (n w : Nat) : (wordBytes n w).length = n := by
  induction n generalizing w with
  | zero => rfl
  | succ n ih => simp [wordBytes, ih]

@[simp] theorem selBits_length (n s : Nat) : (selBits n s).length = n := by
  induction n generalizing s with
  | zero => rfl
  | succ n ih => simp [selBits, ih]

theorem bytesWord_wordBytes (n w : Nat) : bytesWord (wordBytes n w) = w % 256 ^ n := by
  induction n generalizing w with
  | zero => simp [wordBytes, bytesWord, Nat.mod_one]
  | succ n ih =>
    simp only [wordBytes, bytesWord, ih, Nat.mod_mod]
    rw [Nat.pow_succ, Nat.mul_comm (256 ^ n) 256, Nat.mod_mul]

theorem bitsSel_selBits (n s : Nat) : bitsSel (selBits n s) = s % 2 ^ n := by
  induction n generalizing s with
  | zero => simp [selBits, bitsSel, Nat.mod_one]
  | succ n ih =>
    simp only [selBits, bitsSel, ih]
    rw [Nat.pow_succ, Nat.mul_comm (2 ^ n) 2, Nat.mod_mul]
    have : s % 2 = 0 ∨ s % 2 = 1 := by omega
    rcases this with h | h <;> simp [h]

theorem selBits_getD (n s i : Nat) : (selBits n s).getD i false = (decide (i < n) && (s / 2 ^ i % 2 == 1)) := by
  induction n generalizing s i with
  | zero => simp [selBits]
  | succ n ih =>
    cases i with
    | zero => simp [selBits]
    | succ i =>
      simp only [selBits, List.getD_cons_succ, ih, Nat.add_lt_add_iff_right, Nat.pow_succ, Nat.div_div_eq_div_mul]
      rw [Nat.mul_comm 2 (2 ^ i)]

theorem wordBytes_getD (n w i : Nat) : (wordBytes n w).getD i 0 = if i < n then w / 256 ^ i % 256 else 0 := by
  induction n generalizing w i with
  | zero => simp [wordBytes]
  | succ n ih =>
    cases i with
    | zero => simp [wordBytes]
    | succ i =>
      simp only [wordBytes, List.getD_cons_succ, ih, Nat.add_lt_add_iff_right, Nat.pow_succ, Nat.div_div_eq_div_mul]
      rw [Nat.mul_comm 256 (256 ^ i)]

theorem Mem.writeWord_zero (m : Mem) (n adr dat : Nat) : m.writeWord n adr 0 dat = m :=
  Mem.writeMasked_none _ _ _ _ (fun i => by rw [selBits_getD]; simp)

theorem selBits_add (n p s : Nat) : selBits (n + p) s = selBits n s ++ selBits p (s / 2 ^ n) := by
  induction n generalizing s with
  | zero => simp [selBits]
  | succ n ih =>
    rw [Nat.add_right_comm, selBits, ih, selBits, List.cons_append, Nat.div_div_eq_div_mul, Nat.pow_succ, Nat.mul_comm]

theorem wordBytes_add (n p w : Nat) : wordBytes (n + p) w = wordBytes n w ++ wordBytes p (w / 256 ^ n) := by
  induction n generalizing w with
  | zero => simp [wordBytes]
  | succ n ih =>
    rw [Nat.add_right_comm, wordBytes, ih, wordBytes, List.cons_append, Nat.div_div_eq_div_mul, Nat.pow_succ, Nat.mul_comm]

theorem selBits_mod (n s : Nat) : selBits n (s % 2 ^ n) = selBits n s := by
  induction n generalizing s with
  | zero => rfl
  | succ n ih =>
    have h : 2 ^ (n + 1) = 2 * 2 ^ n := by rw [Nat.pow_succ, Nat.mul_comm]
    rw [selBits, selBits, h, Nat.mod_mul_right_div_self, ih, Nat.mod_mul_right_mod]

theorem wordBytes_mod (n w : Nat) : wordBytes n (w % 256 ^ n) = wordBytes n w := by
  induction n generalizing w with
  | zero => rfl
  | succ n ih =>
    have h : 256 ^ (n + 1) = 256 * 256 ^ n := by rw [Nat.pow_succ, Nat.mul_comm]
    rw [wordBytes, wordBytes, h, Nat.mod_mul_right_div_self, ih, Nat.mod_mul_right_mod]

theorem wordBytes_bytesWord (l : List Byte) (h : ∀ b ∈ l, b < 256) : wordBytes l.length (bytesWord l) = l := by
  induction l with
  | nil => rfl
  | cons b bs ih =>
    have hb : b < 256 := h b (List.mem_cons_self ..)
    have hbs := ih (fun x hx => h x (List.mem_cons_of_mem _ hx))
    simp only [List.length_cons, wordBytes, bytesWord]
    rw [Nat.mod_eq_of_lt hb]
    have e1 : (b + 256 * bytesWord bs) % 256 = b := by rw [Nat.add_mul_mod_self_left, Nat.mod_eq_of_lt hb]
    have e2 : (b + 256 * bytesWord bs) / 256 = bytesWord bs := by
      rw [Nat.add_mul_div_left _ _ (by decide : 0 < 256), Nat.div_eq_of_lt hb, Nat.zero_add]
    rw [e1, e2, hbs]

theorem bytesWord_append (l1 l2 : List Byte) :
    bytesWord (l1 ++ l2) = bytesWord l1 + 256 ^ l1.length * bytesWord l2 := by
  induction l1 with
  | nil => simp [bytesWord]
  | cons b bs ih =>
    simp only [List.cons_append, bytesWord, ih, List.length_cons, Nat.pow_succ]
    rw [Nat.mul_add, Nat.add_assoc, ← Nat.mul_assoc, Nat.mul_comm 256 (256 ^ bs.length)]

theorem bytesWord_lt (l : List Byte) : bytesWord l < 256 ^ l.length := by
  induction l with
  | nil => simp [bytesWord]
  | cons b bs ih =>
    simp only [bytesWord, List.length_cons, Nat.pow_succ]
    have : b % 256 < 256 := Nat.mod_lt _ (by decide)
    omega

end Litex
