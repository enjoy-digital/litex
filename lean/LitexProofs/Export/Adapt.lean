import LitexModel.Export.Adapt
import LitexProofs.Lists
/-
  The adapter chain of `add_master`/`add_slave` hands the slave the bus-word index of the byte address
  (`masterBus_spec`, `chainWord_eq`, `slaveCell_eq`), and the widths of a register's simple CSRs add up (`chunks_sum`).
-/
namespace Litex.Export

theorem div_lt_pow_sub (a sh aw : Nat) (h : a < 2 ^ aw) (hs : sh ≤ aw) : a / 2 ^ sh < 2 ^ (aw - sh) := by
  exact Nat.div_lt_of_lt_mul (by rwa [Nat.mul_comm, two_pow_sub_mul_two_pow hs])

theorem div_mul_lt_pow (a sh aw : Nat) (h : a < 2 ^ aw) : a / 2 ^ sh * 2 ^ sh < 2 ^ aw :=
  Nat.lt_of_le_of_lt (Nat.div_mul_le_self a (2 ^ sh)) h

theorem masterBus_cases (mk : MasterKind) (busByte : Bool) (sh aw a : Nat) (h : a < 2 ^ aw) (hs : sh ≤ aw) :
    masterBus mk busByte sh aw a = if busByte && mk != .wbword then a else a / 2 ^ sh * 2 ^ sh := by
  have hd := div_lt_pow_sub a sh aw h hs
  have hm := div_mul_lt_pow a sh aw h
  -- each combination unfolds to `a mod 2^aw` or to `(a / 2^sh mod 2^(aw-sh))·2^sh`, possibly truncated once more
  -- to `aw` bits by a bridge; `h`, `hd`, `hm` say that none of the three truncations cuts anything off
  cases mk <;> cases busByte <;>
    simp [masterBus, convM2S, wb2axil, axil2wb, Nat.mod_eq_of_lt h, Nat.mod_eq_of_lt hd, Nat.mod_eq_of_lt hm]

theorem masterBus_spec (mk : MasterKind) (busByte : Bool) (sh aw a : Nat) (h : a < 2 ^ aw) (hs : sh ≤ aw) :
    masterBus mk busByte sh aw a / 2 ^ sh = a / 2 ^ sh ∧ masterBus mk busByte sh aw a < 2 ^ aw := by
  rw [masterBus_cases mk busByte sh aw a h hs]
  split
  · exact ⟨rfl, h⟩
  · exact ⟨Nat.mul_div_cancel _ (Nat.two_pow_pos sh), div_mul_lt_pow a sh aw h⟩

theorem chainWord_eq (kind : SlaveKind) (busByte : Bool) (sh aw b : Nat) (h : b < 2 ^ aw) (hs : sh ≤ aw) :
    chainWord kind busByte sh aw b = b / 2 ^ sh := by
  have hd := div_lt_pow_sub b sh aw h hs
  -- a word-addressed core gets `b / 2^sh` truncated to `aw - sh` bits (`hd`: nothing cut); a byte-addressed or AXI
  -- core gets `b` (`h`) or the word base `(b / 2^sh)·2^sh`, and `chainWord` divides that by `2^sh` again
  cases kind <;> cases busByte <;>
    simp [chainWord, convS2M, wb2axil, axil2wb, Nat.mod_eq_of_lt h, Nat.mod_eq_of_lt hd,
      Nat.mul_div_cancel _ (Nat.two_pow_pos sh)]

theorem div_split (a shS shB : Nat) (hs : shS ≤ shB) :
    a / 2 ^ shB * 2 ^ (shB - shS) + (a / 2 ^ shS) % 2 ^ (shB - shS) = a / 2 ^ shS := by
  rw [← two_pow_sub_mul_two_pow hs, Nat.mul_comm (2 ^ (shB - shS)), ← Nat.div_div_eq_div_mul]
  exact Nat.div_add_mod' _ _

theorem slaveCell_eq (mk : MasterKind) (kind : SlaveKind) (busByte : Bool) (shS shB aw cb a : Nat)
    (h : a < 2 ^ aw) (h1 : shS ≤ shB) (h2 : shB ≤ aw) :
    slaveCell mk kind busByte shS shB aw cb a = (a / 2 ^ shS) % 2 ^ cb := by
  obtain ⟨e1, e2⟩ := masterBus_spec mk busByte shB aw a h h2
  unfold slaveCell
  rw [chainWord_eq kind busByte shB aw _ e2 h2, e1, div_split a shS shB h1]

theorem chunks_sum (bw size : Nat) : ∀ n, ((List.range n).map fun i => min (size - i * bw) bw).sum = min size (n * bw)
  | 0 => by rw [Nat.zero_mul, Nat.min_zero]; rfl
  | n + 1 => by
    rw [List.range_succ, List.map_append, List.sum_append, chunks_sum bw size n, Nat.succ_mul]
    show min size (n * bw) + min (size - n * bw) bw = _
    rcases Nat.le_total size (n * bw) with h | h
    · rw [Nat.min_eq_left h, Nat.sub_eq_zero_of_le h, Nat.zero_min, Nat.add_zero, Nat.min_eq_left (Nat.le_add_right_of_le h)]
    · rw [Nat.min_eq_right h, ← Nat.add_min_add_left, Nat.add_sub_cancel' h]

end Litex.Export
