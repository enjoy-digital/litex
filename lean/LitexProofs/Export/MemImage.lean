import LitexModel.Export.MemImage
import Mathlib.Tactic.Ring
import LitexProofs.Lists
import LitexProofs.Bits
/-
  `get_mem_data`: `catW` of digits is `cat` (`catW_eq_cat`, so bound and digits come from `Bits.lean`), the byte lanes of a
  memory word, and the byte a CPU reads from the image, for every base (the placement depends on the base only through `baseOff / (4q)`).
-/
namespace Litex.Export

theorem catW_eq_cat (w : Nat) : ∀ (l : List Nat), (∀ d ∈ l, d < 2 ^ w) → catW w l = cat (l.map fun v => (w, v))
  | [], _ => rfl
  | d :: rest, h => by
    rw [catW, List.map_cons, cat, Nat.mod_eq_of_lt (h d List.mem_cons_self),
      catW_eq_cat w rest fun x hx => h x (List.mem_cons_of_mem _ hx)]

theorem catW_range_eq_cat (w n : Nat) (f : Nat → Nat) (hf : ∀ i, f i < 2 ^ w) :
    catW w ((List.range n).map f) = cat (((List.range n).map f).map fun v => (w, v)) :=
  catW_eq_cat w _ fun d hd => by obtain ⟨i, _, rfl⟩ := List.mem_map.1 hd; exact hf i

theorem catW_range_lt (w n : Nat) (f : Nat → Nat) (hf : ∀ i, f i < 2 ^ w) : catW w ((List.range n).map f) < 2 ^ (w * n) := by
  have := cat_uniform_lt w ((List.range n).map f)
  rwa [List.length_map, List.length_range, Nat.mul_comm, ← catW_range_eq_cat w n f hf] at this

theorem catW_range_digit (w n : Nat) (f : Nat → Nat) (hf : ∀ i, f i < 2 ^ w) (s : Nat) (hs : s < n) :
    (catW w ((List.range n).map f) / 2 ^ (w * s)) % 2 ^ w = f s := by
  have := slice_cat_uniform w ((List.range n).map f) s
  rwa [slice, Nat.mul_comm, getD_range_map, if_pos hs, Nat.mod_eq_of_lt (hf s), ← catW_range_eq_cat w n f hf] at this

theorem getD_lt (bytes : List Nat) (h : ∀ b ∈ bytes, b < 256) (k : Nat) : bytes.getD k 0 < 2 ^ 8 := by
  rw [List.getD_eq_getElem?_getD]
  cases hk : bytes[k]? with
  | none => exact Nat.two_pow_pos 8
  | some b => exact h b (List.mem_of_getElem? hk)

theorem sub32_eq (big : Bool) (bytes : List Nat) (off : Nat) :
    sub32 big bytes off = catW 8 ((List.range 4).map fun i => bytes.getD (off + if big then 3 - i else i) 0) := by
  cases big <;> rfl

theorem sub32_lt (big : Bool) (bytes : List Nat) (h : ∀ b ∈ bytes, b < 256) (off : Nat) :
    sub32 big bytes off < 2 ^ 32 := by
  rw [sub32_eq]
  exact catW_range_lt 8 4 _ fun _ => getD_lt bytes h _

theorem sub32_lane (big : Bool) (bytes : List Nat) (h : ∀ b ∈ bytes, b < 256) (off r : Nat) (hr : r < 4) :
    (sub32 big bytes off / 2 ^ (8 * (if big then 3 - r else r))) % 2 ^ 8 = bytes.getD (off + r) 0 := by
  rw [sub32_eq, catW_range_digit 8 4 _ (fun _ => getD_lt bytes h _) _ (by split <;> omega)]
  congr 2
  split <;> omega

theorem memWord_sub (big : Bool) (q : Nat) (bytes : List Nat) (h : ∀ b ∈ bytes, b < 256) (i s : Nat) (hs : s < q) :
    (memWord big q bytes i / 2 ^ (32 * s)) % 2 ^ 32 = sub32 big bytes (i * (4 * q) + 4 * s) :=
  catW_range_digit 32 q _ (fun _ => sub32_lt big bytes h _) s hs

/-- The placement depends on `baseOff` only through `baseOff / (4q)` — the FLOOR: an unaligned base is silently rounded
    down. -/
theorem memImage_getD (big : Bool) (q baseOff : Nat) (bytes : List Nat) (w : Nat) (hq : 0 < q) :
    (memImage big q baseOff bytes).getD w 0 =
      if baseOff / (4 * q) ≤ w ∧ w < baseOff / (4 * q) + (bytes.length + 4 * q - 1) / (4 * q)
      then memWord big q bytes (w - baseOff / (4 * q)) else 0 := by
  have hpos : 0 < 4 * q := by omega
  rw [memImage, getD_range_map]
  split
  · rfl
  · -- beyond the list there are no words of the file: `⌊b/d⌋ + ⌈len/d⌉ ≤ ⌈(b + len)/d⌉`
    rename_i hw
    have hle : baseOff / (4 * q) + (bytes.length + 4 * q - 1) / (4 * q) ≤ (baseOff + bytes.length + 4 * q - 1) / (4 * q) := by
      rw [← Nat.mul_add_div hpos]
      apply Nat.div_le_div_right
      have := Nat.mul_div_le baseOff (4 * q)
      omega
    rw [if_neg fun hc => hw (Nat.lt_of_lt_of_le hc.2 hle)]

theorem memImage_length (big : Bool) (q baseOff : Nat) (bytes : List Nat) :
    (memImage big q baseOff bytes).length = (baseOff + bytes.length + 4 * q - 1) / (4 * q) := by
  rw [memImage, List.length_map, List.length_range]

theorem imageByte_memImage (big : Bool) (q baseOff : Nat) (bytes : List Nat) (a : Nat) (hq : 0 < q)
    (hb : ∀ b ∈ bytes, b < 256) (ha : a / (4 * q) < (bytes.length + 4 * q - 1) / (4 * q)) :
    imageByte big q (memImage big q baseOff bytes) (baseOff / (4 * q) * (4 * q) + a) = bytes.getD a 0 := by
  have hpos : 0 < 4 * q := by omega
  unfold imageByte
  dsimp only
  rw [memImage_getD big q _ bytes _ hq]
  generalize baseOff / (4 * q) = lo
  have hA : lo * (4 * q) + a = 4 * (q * lo) + a := by rw [Nat.mul_comm lo, Nat.mul_assoc]
  have hdiv : (lo * (4 * q) + a) / (4 * q) = lo + a / (4 * q) := by rw [Nat.mul_comm lo, Nat.mul_add_div hpos]
  have hsub : (lo * (4 * q) + a) / 4 % q = a / 4 % q := by
    rw [hA, Nat.mul_add_div (by decide), Nat.mul_add_mod]
  have hlane : (lo * (4 * q) + a) % 4 = a % 4 := by rw [hA, Nat.mul_add_mod]
  -- the sub-word starts at file offset `4·⌊a/4⌋`
  have hoff : a / (4 * q) * (4 * q) + 4 * (a / 4 % q) = 4 * (a / 4) := by
    rw [← Nat.div_div_eq_div_mul, Nat.mul_left_comm, ← Nat.mul_add, Nat.div_add_mod']
  rw [hdiv, hsub, hlane, if_pos ⟨Nat.le_add_right _ _, Nat.add_lt_add_left ha _⟩, Nat.add_sub_cancel_left,
    memWord_sub big q bytes hb _ _ (Nat.mod_lt _ hq), hoff, sub32_lane big bytes hb _ _ (Nat.mod_lt _ (by decide)),
    Nat.div_add_mod]

theorem imageByte_memImage_below (big : Bool) (q baseOff : Nat) (bytes : List Nat) (a : Nat) (hq : 0 < q)
    (ha : a / (4 * q) < baseOff / (4 * q)) : imageByte big q (memImage big q baseOff bytes) a = 0 := by
  unfold imageByte
  dsimp only
  rw [memImage_getD big q _ bytes _ hq, if_neg fun hc => Nat.not_le_of_lt ha hc.1, Nat.zero_div, Nat.zero_mod,
    Nat.zero_div, Nat.zero_mod]

end Litex.Export
