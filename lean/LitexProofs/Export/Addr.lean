import LitexModel.Export.Addr
import LitexProofs.Lists
import LitexProofs.Bits
/-
  `nwords` as a ceiling, the running address computation of the exporters (`regAddrs`), the bank decode
  (`decodeFrom`, `bankSel`, `decode_unique`) and the arithmetic of CSR-bus addresses `page·P + idx` (`bridgeAdr_32`);
  memory words of several bus words are `cat` of the reversed sub-words (`wideWord_eq_cat`, `wideSub_wideWord`).
-/
namespace Litex.Export

theorem le_nwords_mul (bw size : Nat) (hbw : 0 < bw) : size ≤ nwords bw size * bw :=
  Nat.le_of_not_lt fun h => Nat.lt_irrefl _ ((lt_ceilDiv_iff hbw).2 h)

theorem mul_lt_of_lt_nwords (bw size i : Nat) (hbw : 0 < bw) (hi : i < nwords bw size) : i * bw < size :=
  (lt_ceilDiv_iff hbw).1 hi

theorem nwords_pos (bw s : Nat) (hbw : 0 < bw) (hs : 0 < s) : 0 < nwords bw s :=
  (lt_ceilDiv_iff hbw).2 (by rwa [Nat.zero_mul])

theorem nsimple_nil (bw : Nat) : nsimple bw [] = 0 := rfl

theorem nsimple_cons (bw s : Nat) (l : List Nat) : nsimple bw (s :: l) = nwords bw s + nsimple bw l := by
  simp [nsimple]

theorem nsimple_append (bw : Nat) (l₁ l₂ : List Nat) : nsimple bw (l₁ ++ l₂) = nsimple bw l₁ + nsimple bw l₂ := by
  simp [nsimple]

theorem regAddrs_length (stride bw o : Nat) (l : List Nat) : (regAddrs stride bw o l).length = l.length := by
  induction l generalizing o with
  | nil => rfl
  | cons s rest ih => simp [regAddrs, ih]

theorem regAddrs_append (stride bw o : Nat) (l₁ l₂ : List Nat) :
    regAddrs stride bw o (l₁ ++ l₂) =
      regAddrs stride bw o l₁ ++ regAddrs stride bw (o + stride * nsimple bw l₁) l₂ := by
  induction l₁ generalizing o with
  | nil => simp [regAddrs, nsimple]
  | cons s rest ih =>
    simp only [List.cons_append, regAddrs, ih, nsimple_cons, Nat.mul_add, Nat.add_assoc]

theorem regAddrs_getElem? (stride bw o s : Nat) (rpre rpost : List Nat) :
    (regAddrs stride bw o (rpre ++ s :: rpost))[rpre.length]? =
      some (o + stride * nsimple bw rpre, nwords bw s) := by
  rw [regAddrs_append]
  rw [List.getElem?_append_right (by simp [regAddrs_length])]
  simp [regAddrs_length, regAddrs]

theorem regAddrs_shift (stride bw c o : Nat) (l : List Nat) :
    (regAddrs stride bw o l).map (fun e => (c + e.1, e.2)) = regAddrs stride bw (c + o) l := by
  induction l generalizing o with
  | nil => rfl
  | cons s rest ih => simp only [regAddrs, List.map_cons, ih, Nat.add_assoc]

theorem decodeFrom_append (paging bw adr i : Nat) (l₁ l₂ : List Bank) :
    decodeFrom paging bw adr i (l₁ ++ l₂) =
      decodeFrom paging bw adr i l₁ ++ decodeFrom paging bw adr (i + l₁.length) l₂ := by
  induction l₁ generalizing i with
  | nil => simp [decodeFrom]
  | cons b rest ih =>
    simp only [List.cons_append, decodeFrom, List.length_cons]
    cases bankSel paging b.page (nsimple bw b.regs) adr with
    | none => simp only [ih]; congr 2; omega
    | some x => simp only [ih, List.cons_append]; congr 3; omega

theorem decodeFrom_other_pages (paging bw adr page i : Nat) (l : List Bank)
    (hadr : adr / (paging / 4) = page) (h : ∀ b ∈ l, b.page ≠ page) :
    decodeFrom paging bw adr i l = [] := by
  induction l generalizing i with
  | nil => rfl
  | cons b rest ih =>
    have hb : b.page ≠ page := h b (by simp)
    have : bankSel paging b.page (nsimple bw b.regs) adr = none := by
      unfold bankSel
      rw [if_neg]
      intro hc
      exact hb (hc.1.symm.trans hadr)
    simp only [decodeFrom, this]
    exact ih (i + 1) (fun b' hb' => h b' (by simp [hb']))

theorem bankSel_hit (paging page n idx : Nat) (hidx : idx < paging / 4) (hn : idx < n) :
    bankSel paging page n (page * (paging / 4) + idx) = some idx := by
  rw [bankSel, mul_add_div_of_lt _ hidx, mul_add_mod_of_lt _ hidx, if_pos ⟨rfl, hn⟩]

theorem bitsFor_le {n k : Nat} (hk : 0 < k) (h : n < 2 ^ k) : bitsFor n ≤ k := by
  unfold bitsFor
  by_cases h0 : n = 0
  · rw [h0, Nat.log2_zero]; exact hk
  · exact (Nat.log2_lt h0).2 h

theorem nLocs_32 (aw paging : Nat) (h4 : paging % 4 = 0) : nLocs 32 aw paging = 2 ^ aw / (paging / 4) := by
  unfold nLocs
  have hp : paging = 4 * (paging / 4) := by omega
  have : 32 / 8 * 2 ^ aw / paging = 4 * 2 ^ aw / (4 * (paging / 4)) := by rw [← hp]
  rw [this, Nat.mul_div_mul_left _ _ (by decide : 0 < 4)]

theorem bridgeAdr_32 (aw paging page idx : Nat) (h4 : paging % 4 = 0) (hidx : idx < paging / 4)
    (hloc : page < nLocs 32 aw paging) :
    bridgeAdr 32 aw (paging * page + 4 * idx) = page * (paging / 4) + idx := by
  rw [nLocs_32 aw paging h4] at hloc
  unfold bridgeAdr
  have hp : paging = 4 * (paging / 4) := by omega
  have h1 : (paging * page + 4 * idx) / (32 / 8) = page * (paging / 4) + idx := by
    have : paging * page + 4 * idx = 4 * (page * (paging / 4) + idx) := by
      rw [Nat.mul_add, ← Nat.mul_assoc, Nat.mul_comm 4 page, Nat.mul_assoc, ← hp, Nat.mul_comm]
    rw [this]
    exact Nat.mul_div_cancel_left _ (by decide)
  rw [h1]
  exact Nat.mod_eq_of_lt (page_lt hidx hloc)

theorem decode_unique (paging bw page idx : Nat) (pre post : List Bank) (regs : List Nat)
    (hdist : ∀ b ∈ pre ++ post, b.page ≠ page)
    (hidx : idx < paging / 4) (hn : idx < nsimple bw regs) :
    decodeFrom paging bw (page * (paging / 4) + idx) 0 (pre ++ ⟨page, regs⟩ :: post) = [(pre.length, idx)] := by
  have hadr : (page * (paging / 4) + idx) / (paging / 4) = page := mul_add_div_of_lt _ hidx
  rw [decodeFrom_append]
  rw [decodeFrom_other_pages paging bw _ page 0 pre hadr (fun b hb => hdist b (by simp [hb]))]
  simp only [List.nil_append, decodeFrom, Nat.zero_add]
  rw [bankSel_hit paging page _ idx hidx hn]
  rw [decodeFrom_other_pages paging bw _ page _ post hadr (fun b hb => hdist b (by simp [hb]))]

theorem wideWord_eq_cat (dw : Nat) : ∀ (l : List Nat), wideWord dw l = cat (l.reverse.map fun v => (dw, v))
  | [] => rfl
  | x :: rest => by
    rw [wideWord, List.reverse_cons, List.map_append, cat_append, catWidth_map, List.length_reverse,
      ← wideWord_eq_cat dw rest, List.map_cons, List.map_nil, cat, cat, Nat.mul_zero, Nat.add_zero,
      Nat.mul_comm rest.length, Nat.mul_comm, Nat.add_comm]

/-- Every sub-word written reads back: sub-word `k` sits at digit `n - 1 - k` of the reversed list. -/
theorem wideSub_wideWord (dw : Nat) (l : List Nat) (k : Nat) (hk : k < l.length) :
    wideSub dw l.length (wideWord dw l) k = l.getD k 0 % 2 ^ dw := by
  have := slice_cat_uniform dw l.reverse (l.length - 1 - k)
  rw [slice] at this
  rw [wideSub, wideWord_eq_cat, Nat.mul_comm, this, List.getD_eq_getElem?_getD, List.getD_eq_getElem?_getD,
    List.getElem?_reverse (by omega)]
  congr 3
  omega

end Litex.Export
