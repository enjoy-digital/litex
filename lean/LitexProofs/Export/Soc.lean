import LitexModel.Export.Soc
import LitexProofs.Export.Addr
import Mathlib.Data.List.Nodup
/-
  List facts for the SoC-level exports (a filter that keeps one entry, a running maximum), membership in the exported
  interrupt constants and the wiring, the SVD listing with register kinds against the JSON word addresses, and
  duplicate-free constant declarations.
-/
namespace Litex.Export
open Litex.Soc

theorem filter_eq_singleton {α : Type} (P : α → Bool) : ∀ (l : List α) (x : α), l.Nodup → x ∈ l → P x = true →
    (∀ y ∈ l, y ≠ x → P y = false) → l.filter P = [x] := by
  intro l
  induction l with
  | nil => intro x _ hx; cases hx
  | cons a rest ih =>
    intro x hnd hx hpx hother
    rw [List.nodup_cons] at hnd
    rcases List.mem_cons.1 hx with rfl | hin
    · have hrest : rest.filter P = [] := by
        rw [List.filter_eq_nil_iff]
        intro y hy
        have : y ≠ x := fun h => hnd.1 (h ▸ hy)
        simp [hother y (List.mem_cons_of_mem _ hy) this]
      simp [hpx, hrest]
    · have hax : a ≠ x := fun h => hnd.1 (h ▸ hin)
      have hpa : P a = false := hother a (by simp) hax
      rw [List.filter_cons, hpa]
      simpa using ih x hnd.2 hin hpx (fun y hy hne => hother y (List.mem_cons_of_mem _ hy) hne)

theorem le_foldl_max (l : List Int) : ∀ (init x : Int), (x ∈ l ∨ x ≤ init) → x ≤ l.foldl max init := by
  induction l with
  | nil => intro init x h; rcases h with h | h; · cases h
           · simpa using h
  | cons a rest ih =>
    intro init x h
    rw [List.foldl_cons]
    apply ih
    rcases h with h | h
    · rcases List.mem_cons.1 h with rfl | h'
      · right; exact Int.le_max_right _ _
      · left; exact h'
    · right; exact Int.le_trans h (Int.le_max_left _ _)

section irq
variable {ν : Type} [DecidableEq ν]

theorem mem_irqConstants {locs : List (ν × Int)} {cpuOwn : List ν} {nm : ν} {l : Int} :
    (nm, l) ∈ irqConstants locs cpuOwn ↔ (nm, l) ∈ locs ∧ cpuOwn.contains nm = false := by
  rw [irqConstants, List.mem_filter, Bool.not_eq_true']

theorem mem_irqWiring {locs : List (ν × Int)} {cpuOwn : List ν} {isModule : ν → Bool} {nm : ν} {l : Int} :
    (l, nm) ∈ irqWiring locs cpuOwn isModule ↔ (nm, l) ∈ irqConstants locs cpuOwn ∧ isModule nm = true := by
  rw [irqWiring, List.mem_map]
  constructor
  · rintro ⟨p, hp, e⟩
    cases e
    exact List.mem_filter.1 hp
  · exact fun h => ⟨(nm, l), List.mem_filter.2 h, rfl⟩

/-- The lines raised by one module's event: a look-up of its name among the locations that are exported and wired. -/
theorem irqLines_singleton (locs : List (ν × Int)) (cpuOwn : List ν) (isModule : ν → Bool) (name : ν) :
    irqLines (irqWiring locs cpuOwn isModule) [name] =
      (locs.filter fun p => (!cpuOwn.contains p.1 && isModule p.1) && p.1 == name).map (·.2) := by
  -- push the filter of `irqLines` through the `map` and merge the three filters into one over `locs`
  rw [irqLines, irqWiring, irqConstants, List.filter_map, List.map_map, List.filter_filter, List.filter_filter]
  refine congrArg₂ _ rfl (List.filter_congr fun p _ => ?_)
  show ([name].contains p.1 && isModule p.1 && !cpuOwn.contains p.1) = _
  rw [List.contains_cons, List.contains_nil, Bool.or_false, Bool.and_assoc, Bool.and_comm, Bool.and_comm (isModule p.1)]

end irq

theorem svdOffsetsK_flat (bw org : Nat) (hbw : 0 < bw) : ∀ (regs : List (Nat × Bool)) (a : Nat),
    (∀ r ∈ regs, 0 < r.1 ∧ (r.2 = true ∨ nwords bw r.1 = 1)) →
    (svdOffsetsK bw a regs).map (org + ·) = flatWordAddrs 4 (regAddrs 4 bw (org + a) (regs.map (·.1))) := by
  intro regs
  induction regs with
  | nil => intro a _; rfl
  | cons r rest ih =>
    intro a h
    have hr := h r (by simp)
    have hn : svdEntries bw r = nwords bw r.1 := by
      unfold svdEntries
      have hpos := nwords_pos bw r.1 hbw hr.1
      by_cases hgt : nwords bw r.1 > 1
      · rcases hr.2 with hc | h1
        · simp [hc, hgt]
        · omega
      · have : nwords bw r.1 = 1 := by omega
        simp [this]
    simp only [svdOffsetsK, hn, List.map_cons, regAddrs, flatWordAddrs, List.flatMap_cons, List.map_append, List.map_map]
    congr 1
    · apply List.map_congr_left
      intro j _
      simp only [Function.comp, wordAddr]; omega
    · have := ih (a + 4 * nwords bw r.1) (fun x hx => h x (by simp [hx]))
      simp only [flatWordAddrs] at this
      rw [this, Nat.add_assoc]

/-- Without kinds every register is a compound one. -/
theorem svdOffsets_eq_K (bw : Nat) : ∀ (regs : List Nat) (a : Nat),
    svdOffsets bw a regs = svdOffsetsK bw a (regs.map (·, true))
  | [], _ => rfl
  | s :: rest, a => by
    have e : svdEntries bw (s, true) = if nwords bw s > 1 then nwords bw s else 1 := by simp [svdEntries]
    rw [svdOffsets, List.map_cons, svdOffsetsK, svdOffsets_eq_K bw rest, e]

theorem svdOffsets_flat (bw org : Nat) (hbw : 0 < bw) (regs : List Nat) (a : Nat) (h : ∀ s ∈ regs, 0 < s) :
    (svdOffsets bw a regs).map (org + ·) = flatWordAddrs 4 (regAddrs 4 bw (org + a) regs) := by
  have := svdOffsetsK_flat bw org hbw (regs.map (·, true)) a fun r hr => by
    obtain ⟨s, hs, rfl⟩ := List.mem_map.1 hr
    exact ⟨h s hs, .inl rfl⟩
  rwa [← svdOffsets_eq_K, List.map_map, show ((·.1) ∘ fun s : Nat => (s, true)) = id from rfl, List.map_id] at this

theorem addConstant_nodup {ν : Type} [DecidableEq ν] (cs cs' : List (ν × Int)) (n : ν) (v : Int)
    (h : addConstant cs n v = some cs') (hnd : (cs.map (·.1)).Nodup) :
    (cs'.map (·.1)).Nodup ∧ cs' = cs ++ [(n, v)] := by
  unfold addConstant at h
  split at h
  · cases h
  · cases h
    rw [List.map_append]
    exact ⟨nodup_concat.2 ⟨hnd, (any_beq_eq_false _ _ n).1 (Bool.eq_false_iff.2 ‹_›)⟩, rfl⟩

theorem addConstants_nodup {ν : Type} [DecidableEq ν] : ∀ (l cs cs' : List (ν × Int)),
    addConstants cs l = some cs' → (cs.map (·.1)).Nodup → (cs'.map (·.1)).Nodup ∧ cs' = cs ++ l := by
  intro l
  induction l with
  | nil => intro cs cs' h hnd; simp [addConstants] at h; subst h; exact ⟨hnd, by simp⟩
  | cons p rest ih =>
    intro cs cs' h hnd
    obtain ⟨n, v⟩ := p
    simp only [addConstants] at h
    cases h1 : addConstant cs n v with
    | none => rw [h1] at h; cases h
    | some c1 =>
      rw [h1] at h
      obtain ⟨hnd1, hc1⟩ := addConstant_nodup cs c1 n v h1 hnd
      obtain ⟨hnd', hc'⟩ := ih c1 cs' h hnd1
      exact ⟨hnd', by rw [hc', hc1, List.append_assoc]; rfl⟩

end Litex.Export
