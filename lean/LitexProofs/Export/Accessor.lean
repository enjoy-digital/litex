import LitexModel.Export.Accessor
import Mathlib.Tactic.Ring
import Mathlib.Tactic.Linarith
import LitexProofs.Export.Addr
/-
  The generated reader as a Horner fold over the words a big-ordered register presents, the words of a register
  reassembling its value, and what the generated writer's stores leave in a register, atomic or not: a store above word 0
  lands in `RegSt.pend`, the store to word 0 commits it.  Then `hwWords` and `accWriteWords` as descending lists, the C type
  that fits (`ctype_fits`) and what a simple CSR keeps of a store (`store_word`).
-/
namespace Litex.Export

/-- `F (n-1), F (n-2), …, F 0`: the order in which a big-ordered register presents its words at ascending
    addresses, and the order in which the generated writer stores them. -/
def descList (F : Nat → Nat) (n : Nat) : List Nat := (List.range n).map fun j => F (n - 1 - j)

theorem descList_succ (F : Nat → Nat) (n : Nat) : descList F (n + 1) = F n :: descList F n := by
  unfold descList
  rw [List.range_succ_eq_map, List.map_cons, List.map_map]
  congr 1
  apply List.map_congr_left
  intro j _
  simp only [Function.comp, Nat.succ_eq_add_one]
  congr 1
  omega

theorem accStep_eq {bw ct r x : Nat} (hbw : bw ≤ 32) (hx : x < 2 ^ bw) (hfit : (r + 1) * 2 ^ bw ≤ 2 ^ ct) :
    accStep bw ct r x = r * 2 ^ bw + x := by
  have hx32 : x < 2 ^ 32 := Nat.lt_of_lt_of_le hx (Nat.pow_le_pow_right (by decide) hbw)
  rw [Nat.add_mul, Nat.one_mul] at hfit
  have h2 := Nat.shiftLeft_add_eq_or_of_lt hx r
  rw [Nat.shiftLeft_eq] at h2
  rw [accStep, Nat.shiftLeft_eq, Nat.mod_eq_of_lt hx32, Nat.mod_eq_of_lt (show r * 2 ^ bw < 2 ^ ct by omega), ← h2]
  exact Nat.mod_eq_of_lt (by omega)

theorem accRead_eq_foldl (bw ct : Nat) (l : List Nat) : accRead bw ct l = l.foldl (accStep bw ct) 0 := by
  cases l with
  | nil => rfl
  | cons w rest => rw [accRead, List.foldl_cons, accStep, Nat.zero_shiftLeft, Nat.zero_mod, Nat.zero_or]

/-- Horner evaluation by the generated reader: no truncation happens while the value fits the C type.  The hypothesis
    `(r0 + 1) · 2^(n·bw) ≤ 2^ct` says that `r0` followed by ANY `n` words still to come fits; the `+ 1` is what lets the induction
    hand the bound on to `r0 · 2^bw + g n`. -/
theorem foldl_accStep (bw ct : Nat) (g : Nat → Nat) (hbw : bw ≤ 32) :
    ∀ (n r0 : Nat), (∀ i, i < n → g i < 2 ^ bw) → (r0 + 1) * 2 ^ (n * bw) ≤ 2 ^ ct →
      (descList g n).foldl (accStep bw ct) r0 = r0 * 2 ^ (n * bw) + sumWords bw g n := by
  intro n
  induction n with
  | zero => intro r0 _ _; rw [Nat.zero_mul, Nat.pow_zero, Nat.mul_one]; rfl
  | succ n ih =>
    intro r0 hg hfit
    have hx : g n < 2 ^ bw := hg n (Nat.lt_succ_self n)
    have hpow : 2 ^ ((n + 1) * bw) = 2 ^ bw * 2 ^ (n * bw) := by rw [Nat.succ_mul, Nat.add_comm, Nat.pow_add]
    rw [hpow, ← Nat.mul_assoc] at hfit
    have hstep := accStep_eq (ct := ct) hbw hx (Nat.le_trans (Nat.le_mul_of_pos_right _ (Nat.two_pow_pos _)) hfit)
    have hle : r0 * 2 ^ bw + g n + 1 ≤ (r0 + 1) * 2 ^ bw := by rw [Nat.add_mul, Nat.one_mul]; omega
    rw [descList_succ, List.foldl_cons, hstep, ih _ (fun i hi => hg i (Nat.lt_succ_of_lt hi))
      (Nat.le_trans (Nat.mul_le_mul_right _ hle) hfit), sumWords, hpow, Nat.add_mul, Nat.mul_assoc]
    omega

theorem accRead_descList (bw ct n : Nat) (g : Nat → Nat) (hbw : bw ≤ 32)
    (hg : ∀ i, i < n → g i < 2 ^ bw) (hfit : 2 ^ (n * bw) ≤ 2 ^ ct) :
    accRead bw ct (descList g n) = sumWords bw g n := by
  rw [accRead_eq_foldl, foldl_accStep bw ct g hbw n 0 hg (by rwa [Nat.zero_add, Nat.one_mul]), Nat.zero_mul,
    Nat.zero_add]

theorem nwords_spec (bw size : Nat) (hbw : 0 < bw) (hs : 0 < size) :
    (nwords bw size - 1) * bw < size ∧ size ≤ nwords bw size * bw ∧ 0 < nwords bw size :=
  have hpos := nwords_pos bw size hbw hs
  ⟨mul_lt_of_lt_nwords bw size _ hbw (Nat.sub_lt hpos Nat.one_pos), le_nwords_mul bw size hbw, hpos⟩

theorem nbits_full (bw size i : Nat) (h : (i + 1) * bw ≤ size) : nbits bw size i = bw := by
  unfold nbits
  rw [Nat.add_mul, Nat.one_mul] at h
  omega

theorem hwWord_lt (bw size v i : Nat) : hwWord bw size v i < 2 ^ bw := by
  unfold hwWord
  apply Nat.lt_of_lt_of_le (Nat.mod_lt _ (Nat.two_pow_pos _))
  apply Nat.pow_le_pow_right (by decide)
  unfold nbits; omega

theorem sumWords_low (bw size v : Nat) : ∀ m, m * bw ≤ size → sumWords bw (hwWord bw size v) m = v % 2 ^ (m * bw) := by
  intro m
  induction m with
  | zero => intro _; simp [sumWords, Nat.mod_one]
  | succ m ih =>
    intro h
    have hm : m * bw ≤ size := by rw [Nat.add_mul, Nat.one_mul] at h; omega
    simp only [sumWords]
    rw [ih hm]
    unfold hwWord
    rw [nbits_full bw size m h]
    have : 2 ^ ((m + 1) * bw) = 2 ^ (m * bw) * 2 ^ bw := by rw [Nat.add_mul, Nat.one_mul, Nat.pow_add]
    rw [this, Nat.mod_mul, Nat.mul_comm (2 ^ (m * bw))]

theorem sumWords_hwWord (bw size v : Nat) (hbw : 0 < bw) (hs : 0 < size) (hv : v < 2 ^ size) :
    sumWords bw (hwWord bw size v) (nwords bw size) = v := by
  obtain ⟨h1, h2, h3⟩ := nwords_spec bw size hbw hs
  obtain ⟨m, hm⟩ : ∃ m, nwords bw size = m + 1 := ⟨_, (Nat.sub_add_cancel h3).symm⟩
  rw [hm] at h1 h2 ⊢
  rw [Nat.add_sub_cancel] at h1
  -- the top word holds the remaining `size - m·bw` bits, i.e. all of `v / 2^(m·bw)`
  have hnb : nbits bw size m = size - m * bw := by rw [Nat.succ_mul] at h2; rw [nbits]; omega
  rw [sumWords, sumWords_low bw size v m (Nat.le_of_lt h1), hwWord, hnb,
    Nat.mod_eq_of_lt (Nat.div_lt_of_lt_mul (by rwa [← Nat.pow_add, Nat.add_sub_cancel' (Nat.le_of_lt h1)])),
    Nat.mod_add_div']

/-- Where the simple CSRs above word 0 write: the storage, or the back-buffer of an atomic multi-word register. -/
def RegSt.pend (bw size : Nat) (atomic : Bool) (st : RegSt) : Nat → Nat :=
  if atomic && decide (nwords bw size > 1) then st.back else st.words

theorem RegSt.pend_write_succ (bw size : Nat) (atomic : Bool) (st : RegSt) (i x k : Nat) :
    (st.write bw size atomic (i + 1) x).pend bw size atomic k =
      if k = i + 1 then x % 2 ^ nbits bw size (i + 1) else st.pend bw size atomic k := by
  unfold RegSt.write RegSt.pend
  cases atomic && decide (nwords bw size > 1) <;> rfl

/-- The store to word 0 makes `pend`, with its own data in word 0, the storage (the commit of an atomic register). -/
theorem RegSt.words_write_zero (bw size : Nat) (atomic : Bool) (st : RegSt) (x k : Nat) :
    (st.write bw size atomic 0 x).words k =
      if k = 0 then x % 2 ^ nbits bw size 0 else st.pend bw size atomic k := by
  unfold RegSt.write RegSt.pend
  cases atomic && decide (nwords bw size > 1) <;> rfl

theorem wordIdx_big {nw j0 n : Nat} (h : j0 + (n + 1) = nw) : wordIdx true nw j0 = n := by
  rw [wordIdx, if_pos rfl, ← h]
  omega

/-- The stores `X n, …, X 0` of the generated writer at the last `n + 1` positions of a big-ordered register. -/
theorem hwWriteFrom_desc_words (atomic : Bool) (bw size : Nat) (X : Nat → Nat) (k : Nat) :
    ∀ (n : Nat) (st : RegSt) (j0 : Nat), j0 + (n + 1) = nwords bw size →
      (hwWriteFrom true atomic bw size st j0 (descList X (n + 1))).words k =
        if k < n + 1 then X k % 2 ^ nbits bw size k else st.pend bw size atomic k
  | 0, st, j0, h => by
    show ((st.write bw size atomic (wordIdx true (nwords bw size) j0) (X 0)).words k) = _
    rw [wordIdx_big h, RegSt.words_write_zero]
    by_cases h : k = 0 <;> simp [h]
  | n + 1, st, j0, h => by
    rw [descList_succ, hwWriteFrom, wordIdx_big h,
      hwWriteFrom_desc_words atomic bw size X k n _ (j0 + 1) (by rw [← h, Nat.add_assoc, Nat.add_comm 1]),
      RegSt.pend_write_succ]
    by_cases h1 : k < n + 1
    · rw [if_pos h1, if_pos (Nat.lt_succ_of_lt h1)]
    · by_cases h2 : k = n + 1
      · rw [if_neg h1, if_pos h2, if_pos (h2 ▸ Nat.lt_succ_self _), h2]
      · rw [if_neg h1, if_neg h2, if_neg (by omega)]

theorem sumWords_congr (bw : Nat) (f g : Nat → Nat) : ∀ n, (∀ i, i < n → f i = g i) → sumWords bw f n = sumWords bw g n := by
  intro n
  induction n with
  | zero => intro _; rfl
  | succ n ih =>
    intro h
    simp only [sumWords]
    rw [ih (fun i hi => h i (Nat.lt_succ_of_lt hi)), h n (Nat.lt_succ_self n)]

theorem hwWords_big (bw size v : Nat) :
    hwWords true bw size v = descList (hwWord bw size v) (nwords bw size) := by
  simp [hwWords, descList, wordIdx]

theorem hwWords_little (bw size v : Nat) :
    hwWords false bw size v = (List.range (nwords bw size)).map (hwWord bw size v) := by
  simp [hwWords, wordIdx]

theorem ctype_fits (nw bw ct : Nat) (hbw8 : bw % 8 = 0) (h : ctypeBits nw bw = some ct) :
    nw * bw ≤ ct ∧ ct ≤ 64 := by
  -- in bytes: `nw * bw = 8 * b`, and the C type is the smallest of 1, 2, 4, 8 bytes holding `b`
  obtain ⟨b, hb⟩ : 8 ∣ nw * bw := Nat.dvd_of_mod_eq_zero (by rw [Nat.mul_mod, hbw8, Nat.mul_zero, Nat.zero_mod])
  rw [ctypeBits, hb, Nat.mul_div_cancel_left _ (by decide)] at h
  simp only [ite_eq_iff, Option.some.injEq, reduceCtorEq, and_false, false_or] at h
  omega

theorem accWriteWords_desc (bw ct nw v : Nat) :
    accWriteWords bw ct nw v = descList (fun i => ((v % 2 ^ ct) >>> (i * bw)) % 2 ^ 32) nw := by
  unfold accWriteWords descList
  apply List.map_congr_left
  intro j _
  have : nw - j - 1 = nw - 1 - j := by omega
  rw [this]

/-- Data stored by the writer, as seen by the simple CSR of word `k` (`c.r = dat_w[:c.size]`). -/
theorem store_word (bw size ct v k : Nat) (hbw32 : bw ≤ 32) (hvct : v < 2 ^ ct) :
    ((v % 2 ^ ct) >>> (k * bw)) % 2 ^ 32 % 2 ^ nbits bw size k = hwWord bw size v k := by
  unfold hwWord
  rw [Nat.mod_eq_of_lt hvct, Nat.shiftRight_eq_div_pow]
  apply Nat.mod_mod_of_dvd
  apply Nat.pow_dvd_pow
  unfold nbits; omega

theorem hwWrite_single (big atomic : Bool) (bw size : Nat) (st : RegSt) (x : Nat) (h : nwords bw size = 1) :
    hwWrite big atomic bw size st [x] = hwWrite true atomic bw size st [x] := by
  cases big
  · simp [hwWrite, hwWriteFrom, wordIdx, h]
  · rfl

theorem hwWords_single (big : Bool) (bw size v : Nat) (h : nwords bw size = 1) :
    hwWords big bw size v = hwWords true bw size v := by
  cases big
  · simp [hwWords, wordIdx, h]
  · rfl

end Litex.Export
