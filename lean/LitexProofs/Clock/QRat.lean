import LitexModel.Clock.Q
import Mathlib.Algebra.Order.Field.Basic
import Mathlib.Algebra.Order.AbsoluteValue.Basic
import Mathlib.Data.Rat.Cast.Order
import Mathlib.Tactic.FieldSimp
import Mathlib.Tactic.Linarith
import Mathlib.Tactic.Positivity
import Mathlib.Tactic.Ring
/-
  The hand-rolled rationals of the clock models against Mathlib's ℚ: `Q.toRat ⟨n, d⟩ = n / d`, and for positive
  denominators every Boolean comparison of the model is the corresponding inequality of rationals.  `le_iff`, `toRat_mul`
  and `toRat_absDiff` carry the two theorems of LitexProps/C20.lean on the margin test and the window test; the other
  lemmas complete the dictionary for whoever reads a whole `…Valid` over ℚ: no theorem here does that, and every
  denominator has to be shown positive on the way.
-/
namespace Litex.Clock

def Q.toRat (a : Q) : ℚ := (a.num : ℚ) / (a.den : ℚ)

namespace Q

theorem toRat_nonneg (a : Q) : 0 ≤ a.toRat := by unfold toRat; positivity

theorem le_iff (a b : Q) (ha : 0 < a.den) (hb : 0 < b.den) : a.le b = true ↔ a.toRat ≤ b.toRat := by
  unfold le toRat
  have ha' : (0 : ℚ) < a.den := by exact_mod_cast ha
  have hb' : (0 : ℚ) < b.den := by exact_mod_cast hb
  rw [decide_eq_true_iff, div_le_div_iff₀ ha' hb']
  constructor
  · intro h; exact_mod_cast h
  · intro h; exact_mod_cast h

theorem lt_iff (a b : Q) (ha : 0 < a.den) (hb : 0 < b.den) : a.lt b = true ↔ a.toRat < b.toRat := by
  unfold lt toRat
  have ha' : (0 : ℚ) < a.den := by exact_mod_cast ha
  have hb' : (0 : ℚ) < b.den := by exact_mod_cast hb
  rw [decide_eq_true_iff, div_lt_div_iff₀ ha' hb']
  constructor
  · intro h; exact_mod_cast h
  · intro h; exact_mod_cast h

theorem toRat_mul (a b : Q) : (a.mul b).toRat = a.toRat * b.toRat := by
  unfold mul toRat; push_cast; rw [mul_div_mul_comm]

theorem toRat_mulNat (a : Q) (n : Nat) : (a.mulNat n).toRat = a.toRat * n := by
  unfold mulNat toRat; push_cast; rw [div_mul_eq_mul_div]

theorem toRat_divNat (a : Q) (n : Nat) : (a.divNat n).toRat = a.toRat / n := by
  unfold divNat toRat; push_cast; rw [div_div]

theorem toRat_div (a b : Q) : (a.div b).toRat = a.toRat / b.toRat := by
  unfold div toRat; push_cast
  rw [div_div_div_eq]

theorem toRat_absDiff (a b : Q) (ha : 0 < a.den) (hb : 0 < b.den) : (a.absDiff b).toRat = |a.toRat - b.toRat| := by
  unfold absDiff toRat
  have ha' : (a.den : ℚ) ≠ 0 := by exact_mod_cast Nat.pos_iff_ne_zero.mp ha
  have hb' : (b.den : ℚ) ≠ 0 := by exact_mod_cast Nat.pos_iff_ne_zero.mp hb
  have hpos : (0 : ℚ) < (a.den : ℚ) * (b.den : ℚ) := by positivity
  have key : (a.num : ℚ) / a.den - (b.num : ℚ) / b.den = ((a.num : ℚ) * b.den - (b.num : ℚ) * a.den) / ((a.den : ℚ) * b.den) := by
    field_simp
  rw [key, abs_div, abs_of_pos hpos]
  simp only
  push_cast
  congr 1
  split
  · rename_i h
    have h' : (a.num : ℚ) * b.den ≤ (b.num : ℚ) * a.den := by exact_mod_cast h
    rw [Nat.cast_sub h, abs_of_nonpos (by linarith)]
    push_cast; ring
  · rename_i h
    have h1 : b.num * a.den ≤ a.num * b.den := Nat.le_of_lt (Nat.lt_of_not_le h)
    have h' : (b.num : ℚ) * a.den ≤ (a.num : ℚ) * b.den := by exact_mod_cast h1
    rw [Nat.cast_sub h1, abs_of_nonneg (by linarith)]
    push_cast; ring

end Q

end Litex.Clock
