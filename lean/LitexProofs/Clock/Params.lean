import LitexModel.Clock.Spec
import Mathlib.Tactic.Ring
/-
  Instance-parameter mappings (`do_finalize`): the ECP5 phase words, the NX and Xilinx parameters with the frequency the
  primitive computes from them.
-/
namespace Litex.Clock

theorem ePhase_split (p : SQ) (div : Nat) :
    8 * (eCPhase p div - ((div : Int) - 1)) + eFPhase p div = ePhaseWord p div ∧
    0 ≤ eFPhase p div ∧ eFPhase p div < 8 := by
  unfold eCPhase eFPhase
  omega

theorem eParams_length (r : EReq) (c : ECfg) : (eParams r c).length = c.divs.length := by
  simp [eParams]

theorem eParams_getElem (r : EReq) (c : ECfg) (n : Nat) (h : n < c.divs.length) :
    (eParams r c)[n]? = some ((c.divs[n] : Int),
      eFPhase (match r.outs[n]? with | some o => o.out.phase | none => SQ.zero) c.divs[n],
      eCPhase (match r.outs[n]? with | some o => o.out.phase | none => SQ.zero) c.divs[n]) := by
  simp [eParams, h]
  exact ⟨rfl, rfl⟩

theorem nParams_spec (r : NReq) (c : NCfg) :
    (nParams r c).1 = 1 ∧ (nParams r c).2.1 + 1 = c.clkfbDiv ∧
    (nParams r c).2.2 = (c.divs.zip r.outs).map fun (dv, o) => ((dv : Int) - 1, nDel o.phase dv) := by
  simp [nParams]

/-- DCM_CLKGEN: `clkin * CLKFX_MULTIPLY / CLKFX_DIVIDE` is the configured output frequency `vco / d₀`. -/
theorem s6dcm_freq (r : XReq) (c : XCfg) (d0 : Q) :
    ((r.clkin.mul c.mult).div (d0.mulNat c.divclk)).beq ((c.vco r).div d0) = true := by
  unfold Q.beq
  apply decide_eq_true
  simp only [Q.mul, Q.div, Q.mulNat, Q.divNat, XCfg.vco, xVco]
  ring

/-- PLL/MMCM primitives: `clkin * CLKFBOUT_MULT / (DIVCLK_DIVIDE * CLKOUTn_DIVIDE)` is the configured `vco / dₙ`. -/
theorem pll_freq (r : XReq) (c : XCfg) (dn : Q) :
    ((r.clkin.mul c.mult).div ((Q.ofNat c.divclk).mul dn)).beq ((c.vco r).div dn) = true := by
  unfold Q.beq
  apply decide_eq_true
  simp only [Q.mul, Q.div, Q.ofNat, Q.divNat, XCfg.vco, xVco]
  ring

end Litex.Clock
