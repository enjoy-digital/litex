import LitexProofs.Clock.Basic
/-
  The ECP5 / iCE40 / NX search models: the per-output loops through `firstDivs`, the loop bodies `eTry` / `iTry` / `nTry`
  against `EValid` / `IValid` / `NValidNoPfd`, and soundness of `nSearch`; the other search theorems are proved from these
  in LitexProps/C20.lean.
-/
namespace Litex.Clock

theorem eOuts_eq (d : EDev) (vco : Q) : ∀ outs, eOuts d vco outs = firstDivs (eOut d vco) outs
  | [] => rfl
  | o :: os => by rw [eOuts, firstDivs, eOuts_eq d vco os]; cases eOut d vco o <;> rfl

theorem eOuts_some {d : EDev} {vco : Q} {outs : List EOut} {ds : List Nat} (h : eOuts d vco outs = some ds) :
    ds.length = outs.length ∧ (∀ dv ∈ ds, dv ∈ d.clkos) ∧
    (∀ p ∈ outs.zip ds, within (vco.divNat p.2) p.1.out = true) :=
  firstDivs_find?_some (p := fun (o : EOut) dv => within (vco.divNat dv) o.out) (eOuts_eq d vco outs ▸ h)

theorem eOuts_none {d : EDev} {vco : Q} {outs : List EOut} (h : eOuts d vco outs = none) (ds : List Nat)
    (hl : outs.length ≤ ds.length) (hmem : ∀ dv ∈ ds, dv ∈ d.clkos) :
    ¬ (∀ p ∈ outs.zip ds, within (vco.divNat p.2) p.1.out = true) :=
  firstDivs_find?_none (p := fun (o : EOut) dv => within (vco.divNat dv) o.out) (eOuts_eq d vco outs ▸ h) ds hl hmem

theorem eFbSel_spec {r : EReq} {ofb k : Nat} : ∀ {outs : List EOut} {ds : List Nat} {n : Nat} {acc : Option Nat},
    eFbSel r ofb n outs ds acc = some k →
    acc = some k ∨ ∃ j o, k = n + j ∧ ds[j]? = some ofb ∧ outs[j]? = some o ∧ ¬ (o.dpa = true ∧ r.dpaEn = true)
  | [], _, _, _, h => by simp only [eFbSel] at h; exact Or.inl h
  | _ :: _, [], _, _, h => by simp only [eFbSel] at h; exact Or.inl h
  | o :: os, dv :: ds, n, acc, h => by
    rw [eFbSel] at h
    rcases eFbSel_spec h with h | ⟨j, o', rfl, h1, h2, h3⟩
    · split at h
      · rename_i hc
        cases h
        exact Or.inr ⟨0, o, rfl, by rw [hc.1]; rfl, rfl, hc.2⟩
      · exact Or.inl h
    · exact Or.inr ⟨j + 1, o', by omega, h1, h2, h3⟩

theorem zip_append_right_of_le {α β : Type} : ∀ (l₁ : List α) (l₂ l₃ : List β), l₁.length ≤ l₂.length →
    l₁.zip (l₂ ++ l₃) = l₁.zip l₂
  | [], _, _, _ => by simp
  | _ :: _, [], _, h => by simp at h
  | a :: l₁, b :: l₂, l₃, h => by
    simp only [List.cons_append, List.zip_cons_cons]
    rw [zip_append_right_of_le l₁ l₂ l₃ (by simpa using h)]

theorem eTry_some {d : EDev} {r : EReq} {clki ofb fb : Nat} {c : ECfg} (hn : r.outs.length ≤ d.nmax)
    (hofb : ofb ∈ d.clkos) (h : eTry d r clki ofb fb = some c) :
    c.clkiDiv = clki ∧ c.clkfbDiv = fb ∧ c.divs.getD c.clkfb 0 = ofb ∧
    (∀ dv ∈ c.divs, dv ∈ d.clkos) ∧ c.clkfb < c.divs.length ∧ c.divs.length ≤ d.nmax ∧
    inRange d.vcoMin d.vcoMax (eVco r clki fb ofb) = true ∧
    (c.divs.length = r.outs.length ∨ (c.divs.length = r.outs.length + 1 ∧ c.clkfb = r.outs.length)) ∧
    (∀ p ∈ r.outs.zip c.divs, within ((eVco r clki fb ofb).divNat p.2) p.1.out = true) ∧
    (r.outs[c.clkfb]?.all fun o => !(o.dpa && r.dpaEn)) = true := by
  unfold eTry at h
  simp only at h
  -- VCO in its window and every output with a divider `ds`; then either an output `n` carries the feedback
  -- (`eFbSel = some n`: ten conjuncts from `eOuts_some` and `eFbSel_spec`) or a spare output is appended (`ds ++ [ofb]`)
  split at h
  · rename_i hv
    cases ho : eOuts d (eVco r clki fb ofb) r.outs with
    | none => simp [ho] at h
    | some ds =>
      simp only [ho] at h
      obtain ⟨hl, hmem, hw⟩ := eOuts_some ho
      cases hs : eFbSel r ofb 0 r.outs ds none with
      | some n =>
        simp only [hs] at h
        cases h
        obtain h0 | ⟨j, o, rfl, g1, g2, g3⟩ := eFbSel_spec hs
        · cases h0
        · obtain ⟨hj, _⟩ := List.getElem?_eq_some_iff.mp g1
          rw [Nat.zero_add]
          refine ⟨rfl, rfl, ?_, hmem, hj, by simpa [hl] using hn, hv, Or.inl hl, hw, ?_⟩
          · simp [List.getD, g1]
          · rw [g2, Option.all_some]; revert g3; cases o.dpa <;> cases r.dpaEn <;> decide
      | none =>
        simp only [hs] at h
        split at h
        · cases h
        · rename_i hne
          cases h
          refine ⟨rfl, rfl, ?_, ?_, by simp [hl], by simp [hl]; omega, hv, Or.inr ⟨by simp [hl], rfl⟩, ?_, ?_⟩
          · simp [List.getD, ← hl]
          · intro dv hdv
            rcases List.mem_append.mp hdv with h1 | h1
            · exact hmem dv h1
            · simp at h1; subst h1; exact hofb
          · intro p hp
            rw [zip_append_right_of_le] at hp
            · exact hw p hp
            · omega
          · simp
  · cases h

theorem eTry_ne_none {d : EDev} {r : EReq} {clki ofb fb : Nat} (hsp : r.outs.length < d.nmax)
    (hv : inRange d.vcoMin d.vcoMax (eVco r clki fb ofb) = true)
    (ds : List Nat) (hl : r.outs.length ≤ ds.length) (hmem : ∀ dv ∈ ds, dv ∈ d.clkos)
    (hw : ∀ p ∈ r.outs.zip ds, within ((eVco r clki fb ofb).divNat p.2) p.1.out = true) :
    eTry d r clki ofb fb ≠ none := by
  unfold eTry
  simp only [hv, if_true]
  cases ho : eOuts d (eVco r clki fb ofb) r.outs with
  | none => exact absurd hw (eOuts_none ho ds hl hmem)
  | some ds' =>
    simp only
    cases eFbSel r ofb 0 r.outs ds' none with
    | some n => simp
    | none =>
      simp only
      rw [if_neg (by omega)]
      simp

theorem eTry_ne_none_of_valid {d : EDev} {r : EReq} {c : ECfg} (hsp : r.outs.length < d.nmax) (hv : EValid d r c) :
    c.divs.getD c.clkfb 0 ∈ d.clkos ∧ eTry d r c.clkiDiv (c.divs.getD c.clkfb 0) c.clkfbDiv ≠ none := by
  -- of the ten conjuncts of `EValid`: dividers in the CLKO range, feedback index in range, VCO window, the two shapes
  -- of `divs`, margins
  obtain ⟨_, _, _, h4, h5, _, h7, h8, h9, _⟩ := hv
  refine ⟨h4 _ ?_, eTry_ne_none hsp h7 c.divs ?_ h4 h9⟩
  · rw [List.getD_eq_getElem?_getD, List.getElem?_eq_getElem h5]
    exact List.getElem_mem h5
  · rcases h8 with h8 | h8 <;> omega

theorem eSearch_clki_none {d : EDev} {r : EReq} {clki : Nat} (hsp : r.outs.length < d.nmax)
    (h : (if inRange d.pfdMin d.pfdMax (ePfd r clki) then
        d.clkos.findSome? fun ofb => d.clkfbs.findSome? fun fb => eTry d r clki ofb fb else none) = none)
    {c : ECfg} (hv : EValid d r c) : c.clkiDiv ≠ clki := by
  rintro rfl
  obtain ⟨hofb, hne⟩ := eTry_ne_none_of_valid hsp hv
  rw [if_pos hv.2.1, List.findSome?_eq_none_iff] at h
  exact hne (List.findSome?_eq_none_iff.mp (h _ hofb) _ hv.2.2.1)

theorem iTry_some {d : IDev} {clkin : Q} {o : Out} {divr divf : Nat} {c : ICfg} (h : iTry d clkin o divr divf = some c) :
    c.divr = divr ∧ c.divf = divf ∧ c.divq ∈ pyRange d.divqLo d.divqHi ∧
    inRange d.vcoMin d.vcoMax (iVco clkin divr divf) = true ∧
    within ((iVco clkin divr divf).divNat (2 ^ c.divq)) o = true := by
  obtain ⟨hv, q, hq, rfl⟩ := ite_map_eq_some.mp h
  exact ⟨rfl, rfl, (find?_first hq).1, hv, (find?_first hq).2.1⟩

theorem iTry_none_not_valid {d : IDev} {clkin : Q} {o : Out} {divr divf : Nat} (h : iTry d clkin o divr divf = none)
    (c : ICfg) (h1 : c.divr = divr) (h2 : c.divf = divf) : ¬ IValid d clkin o c := by
  rintro ⟨_, _, hq, hv, hw⟩
  subst h1 h2
  unfold iTry at h
  simp only [hv, if_true] at h
  simp only [Option.map_eq_none_iff] at h
  have := List.find?_eq_none.mp h c.divq hq
  simp [hw] at this

theorem nOuts_eq (d : NDev) (vco : Q) : ∀ outs, nOuts d vco outs = firstDivs (nOut d vco) outs
  | [] => rfl
  | o :: os => by rw [nOuts, firstDivs, nOuts_eq d vco os]; cases nOut d vco o <;> rfl

theorem nOuts_some {d : NDev} {vco : Q} {outs : List Out} {ds : List Nat} (h : nOuts d vco outs = some ds) :
    ds.length = outs.length ∧ (∀ dv ∈ ds, dv ∈ d.clkos) ∧ (∀ p ∈ outs.zip ds, within (vco.divNat p.2) p.1 = true) :=
  firstDivs_find?_some (p := fun o dv => within (vco.divNat dv) o) (nOuts_eq d vco outs ▸ h)

theorem nOuts_none {d : NDev} {vco : Q} {outs : List Out} (h : nOuts d vco outs = none) (ds : List Nat)
    (hl : outs.length ≤ ds.length) (hmem : ∀ dv ∈ ds, dv ∈ d.clkos) :
    ¬ (∀ p ∈ outs.zip ds, within (vco.divNat p.2) p.1 = true) :=
  firstDivs_find?_none (p := fun o dv => within (vco.divNat dv) o) (nOuts_eq d vco outs ▸ h) ds hl hmem

theorem nTry_some {d : NDev} {r : NReq} {clki fb : Nat} {c : NCfg} (h : nTry d r clki fb = some c) :
    c.clkiDiv = clki ∧ c.clkfbDiv = fb ∧ inRange d.vcoMin d.vcoMax (nVco r clki fb) = true ∧
    nOuts d (nVco r clki fb) r.outs = some c.divs := by
  obtain ⟨hv, ds, ho, rfl⟩ := ite_map_eq_some.mp h
  exact ⟨rfl, rfl, hv, ho⟩

theorem nTry_none_not_valid {d : NDev} {r : NReq} {clki fb : Nat} (h : nTry d r clki fb = none)
    (c : NCfg) (h1 : c.clkiDiv = clki) (h2 : c.clkfbDiv = fb) : ¬ NValidNoPfd d r c := by
  rintro ⟨_, _, hm, hv, hl, hw⟩
  have e : c.vco r = nVco r clki fb := by unfold NCfg.vco; rw [h1, h2]
  rw [e] at hv hw
  unfold nTry at h
  simp only [hv, if_true, Option.map_eq_none_iff] at h
  exact nOuts_none h c.divs (by omega) hm hw

theorem nSearch_sound {d : NDev} {r : NReq} {c : NCfg} (h : nSearch d r = some c) : NValidNoPfd d r c := by
  unfold nSearch at h
  obtain ⟨clki, hi, h⟩ := List.exists_of_findSome?_eq_some h
  obtain ⟨fb, hf, h⟩ := List.exists_of_findSome?_eq_some h
  obtain ⟨h1, h2, h3, h4⟩ := nTry_some h
  obtain ⟨g1, g2, g3⟩ := nOuts_some h4
  have e : c.vco r = nVco r clki fb := by unfold NCfg.vco; rw [h1, h2]
  exact ⟨h1 ▸ hi, h2 ▸ hf, g2, e ▸ h3, g1, e ▸ g3⟩

end Litex.Clock
