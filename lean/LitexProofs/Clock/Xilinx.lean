import LitexProofs.Clock.Basic
/-
  The Xilinx search model: the scan of one output (`ScanLike`: the generic code's scan with its misplaced `break` and
  USPMMCM's plain first match behind one interface), the loop body `xTry` against `XValid`, and soundness of `xSearch`
  (completeness and first-ness are proved from these in LitexProps/C20.lean).
-/
namespace Litex.Clock

theorem scanQuirk_isSome {ok : Q → Bool} {x : Q} (r : List Q) : (scanQuirk ok (some x) r).isSome = true := by
  unfold scanQuirk
  cases r with
  | nil => rfl
  | cons d0 _ => simp only; split <;> rfl

theorem scanPlain_isSome {ok : Q → Bool} {x : Q} (r : List Q) : (scanPlain ok (some x) r).isSome = true := rfl

/-- What `foldl_scan_sound`, `foldl_scan_none` and `xOut_single` need of a scan; `some_sound` is the only place where the
    misplaced `break` of the generic code shows. -/
structure ScanLike (scan : (Q → Bool) → Option Q → List Q → Option Q) : Prop where
  none_eq : ∀ ok r, scan ok none r = r.find? ok
  some_isSome : ∀ ok x r, (scan ok (some x) r).isSome = true
  some_sound : ∀ ok x r dv, scan ok (some x) r = some dv → dv = x ∨ (dv ∈ r ∧ ok dv = true)

theorem scanQuirk_like : ScanLike scanQuirk where
  none_eq _ _ := rfl
  some_isSome _ _ r := scanQuirk_isSome r
  some_sound ok x r dv h := by
    unfold scanQuirk at h
    cases r with
    | nil => simp at h; exact Or.inl h.symm
    | cons d0 rest =>
      simp only at h
      split at h
      · rename_i hd; simp at h; subst h; exact Or.inr ⟨List.mem_cons_self, hd⟩
      · simp at h; exact Or.inl h.symm

theorem scanPlain_like : ScanLike scanPlain where
  none_eq _ _ := rfl
  some_isSome _ _ _ := rfl
  some_sound _ x _ dv h := by simp [scanPlain] at h; exact Or.inl h.symm

theorem foldl_scan_some_isSome {scan} (hl : ScanLike scan) (ok : Q → Bool) (rs : List (List Q)) (x : Q) :
    (rs.foldl (scan ok) (some x)).isSome = true :=
  List.foldlRecOn rs _ (motive := fun b : Option Q => b.isSome = true) rfl fun b hb r _ => by
    obtain ⟨y, rfl⟩ := Option.isSome_iff_exists.mp hb
    exact hl.some_isSome ok y r

theorem foldl_scan_sound {scan} (hl : ScanLike scan) (ok : Q → Bool) (rs : List (List Q)) (dv : Q)
    (P : Q → Prop) (hP : ∀ r ∈ rs, ∀ x ∈ r, ok x = true → P x) (h : rs.foldl (scan ok) none = some dv) : P dv := by
  refine List.foldlRecOn rs _ (motive := fun acc => ∀ x, acc = some x → P x) (by intro _ h; cases h)
    (fun acc ih r hr x hx => ?_) dv h
  cases acc with
  | none =>
    rw [hl.none_eq] at hx
    exact hP r hr x (List.mem_of_find?_eq_some hx) (List.find?_some hx)
  | some a =>
    rcases hl.some_sound ok a r x hx with rfl | ⟨hm, hok⟩
    · exact ih _ rfl
    · exact hP r hr x hm hok

theorem foldl_scan_none {scan} (hl : ScanLike scan) (ok : Q → Bool) (rs : List (List Q))
    (h : rs.foldl (scan ok) none = none) : ∀ r ∈ rs, ∀ x ∈ r, ok x = false := by
  induction rs with
  | nil => intro r hr; cases hr
  | cons r rs ih =>
    simp only [List.foldl_cons] at h
    cases hs : scan ok none r with
    | some y =>
      rw [hs] at h
      have := foldl_scan_some_isSome hl ok rs y
      simp [h] at this
    | none =>
      rw [hs] at h
      rw [hl.none_eq] at hs
      intro r' hr' x hx
      rcases List.mem_cons.mp hr' with rfl | hr'
      · have := List.find?_eq_none.mp hs x hx
        simpa using this
      · exact ih h r' hr' x hx

theorem xOut_scanLike (d : XDev) : ScanLike (if d.usp then scanPlain else scanQuirk) := by
  cases d.usp
  · exact scanQuirk_like
  · exact scanPlain_like

theorem xOut_eq (d : XDev) (vco : Q) (n : Nat) (o : Out) :
    xOut d vco n o = (d.rangesFor n).foldl ((if d.usp then scanPlain else scanQuirk) (d.ok vco o)) none := by
  unfold xOut
  cases d.usp <;> rfl

theorem xOut_sound {d : XDev} {vco : Q} {n : Nat} {o : Out} {dv : Q} (h : xOut d vco n o = some dv) :
    (∃ r ∈ d.rangesFor n, dv ∈ r) ∧ d.ok vco o dv = true := by
  rw [xOut_eq] at h
  refine foldl_scan_sound (xOut_scanLike d) (d.ok vco o) (d.rangesFor n) dv
    (fun x => (∃ r ∈ d.rangesFor n, x ∈ r) ∧ d.ok vco o x = true) ?_ h
  intro r hr x hx hok
  exact ⟨⟨r, hr, hx⟩, hok⟩

theorem xOut_complete {d : XDev} {vco : Q} {n : Nat} {o : Out} (h : xOut d vco n o = none) :
    ∀ r ∈ d.rangesFor n, ∀ x ∈ r, d.ok vco o x = false := by
  rw [xOut_eq] at h
  exact foldl_scan_none (xOut_scanLike d) _ _ h

theorem xOut_single {d : XDev} {vco : Q} {n : Nat} {o : Out} {r : List Q} (h : d.rangesFor n = [r]) :
    xOut d vco n o = r.find? (d.ok vco o) := by
  rw [xOut_eq, h]
  simp only [List.foldl_cons, List.foldl_nil]
  exact (xOut_scanLike d).none_eq _ _

theorem xOuts_sound {d : XDev} {vco : Q} : ∀ {n : Nat} {outs : List Out} {ds : List Q},
    xOuts d vco n outs = some ds → XValidOuts d vco n outs ds
  | _, [], ds, h => by
    simp [xOuts] at h; subst h; trivial
  | n, o :: os, ds, h => by
    unfold xOuts at h
    cases ho : xOut d vco n o with
    | none => simp [ho] at h
    | some dv =>
      simp only [ho] at h
      cases hr : xOuts d vco (n + 1) os with
      | none => simp [hr] at h
      | some ds' =>
        simp [hr] at h
        subst h
        obtain ⟨h1, h2⟩ := xOut_sound ho
        rw [XDev.ok_eq] at h2
        exact ⟨h1, h2, xOuts_sound hr⟩

theorem xOuts_complete {d : XDev} {vco : Q} : ∀ {n : Nat} {outs : List Out},
    xOuts d vco n outs = none → ∀ ds, ¬ XValidOuts d vco n outs ds
  | _, [], h => by simp [xOuts] at h
  | n, o :: os, h => by
    intro ds hv
    cases ds with
    | nil => exact hv
    | cons dv ds' =>
      obtain ⟨⟨r, hr, hm⟩, hok, hrest⟩ := hv
      unfold xOuts at h
      cases ho : xOut d vco n o with
      | none =>
        have := xOut_complete ho r hr dv hm
        rw [XDev.ok_eq] at this
        rw [this] at hok
        cases hok
      | some dv0 =>
        simp only [ho] at h
        cases hr' : xOuts d vco (n + 1) os with
        | none => exact xOuts_complete hr' ds' hrest
        | some x => simp [hr'] at h

theorem XValidOuts.length_eq {d : XDev} {vco : Q} : ∀ {n : Nat} {outs : List Out} {ds : List Q},
    XValidOuts d vco n outs ds → ds.length = outs.length
  | _, [], [], _ => rfl
  | _, [], _ :: _, h => by cases h
  | _, _ :: _, [], h => by cases h
  | _, _ :: _, _ :: _, h => by simp [XValidOuts.length_eq h.2.2]

theorem xTry_some {d : XDev} {r : XReq} {dc : Nat} {m : Q} {c : XCfg} (h : xTry d r dc m = some c) :
    c.divclk = dc ∧ c.mult = m ∧ xVcoOk d r (xVco r dc m) = true ∧ xOuts d (xVco r dc m) 0 r.outs = some c.ds := by
  obtain ⟨hv, ds, ho, rfl⟩ := ite_map_eq_some.mp h
  exact ⟨rfl, rfl, hv, ho⟩

theorem xTry_none {d : XDev} {r : XReq} {dc : Nat} {m : Q} (h : xTry d r dc m = none) :
    xVcoOk d r (xVco r dc m) = false ∨ xOuts d (xVco r dc m) 0 r.outs = none :=
  ite_map_eq_none.mp h

theorem xTry_none_not_valid {d : XDev} {r : XReq} {dc : Nat} {m : Q} (h : xTry d r dc m = none)
    (c : XCfg) (hc : c.divclk = dc) (hm : c.mult = m) : ¬ XValid d r c := by
  rintro ⟨_, _, hv, ho⟩
  have e : c.vco r = xVco r dc m := by unfold XCfg.vco; rw [hc, hm]
  rw [e] at hv ho
  rcases xTry_none h with h1 | h1
  · rw [h1] at hv; cases hv
  · exact xOuts_complete h1 _ ho

theorem xSearch_sound {d : XDev} {r : XReq} {c : XCfg} (h : xSearch d r = some c) : XValid d r c := by
  unfold xSearch at h
  obtain ⟨dc, hdc, h⟩ := List.exists_of_findSome?_eq_some h
  obtain ⟨m, hm, h⟩ := List.exists_of_findSome?_eq_some h
  obtain ⟨h1, h2, h3, h4⟩ := xTry_some h
  have e : c.vco r = xVco r dc m := by unfold XCfg.vco; rw [h1, h2]
  refine ⟨h1 ▸ hdc, h2 ▸ hm, e ▸ h3, e ▸ xOuts_sound h4⟩

end Litex.Clock
