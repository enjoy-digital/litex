import LitexModel.Clock.Gw5a
import LitexProofs.Clock.IntelGowin
import Mathlib.Tactic.Ring
/-
  The GW5A PLL search (`LitexModel/Clock/Gw5a.lean`), in the order of the model.  The loop nest is a fold of `wMerge` over
  the grid `wGrid` (`wSearchAcc_eq_grid`), and the facts about the fold come from the one-step relation `wMerge_cases`.
  The witnesses at the end are evaluated on the 15 grid points up to the first exact hit instead of the whole grid
  (`wSearch_of_first_zero`).
-/
namespace Litex.Clock

/-- The code's frequency test `not (diff > m)` with `diff = |vco/odiv - f| / f` is the usual `|vco/odiv - f| <= f*m`
    (identical cross-multiplied inequality: no positivity hypothesis needed). -/
theorem within_eq_wDiff_le (vco : Q) (odiv : Nat) (o : Out) :
    within (vco.divNat odiv) o = (wDiff vco odiv o.freq).le o.margin := by
  unfold within wDiff Q.le Q.div Q.mul
  generalize (vco.divNat odiv).absDiff o.freq = ad
  simp only
  have e1 : ad.num * (o.freq.den * o.margin.den) = ad.num * o.freq.den * o.margin.den := by ring
  have e2 : o.freq.num * o.margin.num * ad.den = o.margin.num * (ad.den * o.freq.num) := by ring
  rw [e1, e2]

theorem wOut_ok {vco : Q} {o : Out} {w : WOut} (h : wOut vco o = .ok w) : WOutOk vco o w := by
  unfold wOut at h
  simp only at h
  split at h
  · cases h
  · rename_i h0
    split at h
    · cases h
    · rename_i ht
      simp only [Res.ok.injEq] at h
      subst h
      simp only [Bool.or_eq_true, not_or, Bool.not_eq_true] at ht
      refine ⟨Nat.pos_of_ne_zero h0, ?_, ht.1, rfl, rfl, rfl⟩
      rw [within_eq_wDiff_le, ← Q.not_lt_eq_le, ht.2]; rfl

theorem wOut_ne_assertion {vco : Q} {o : Out} : wOut vco o ≠ .assertion := by
  unfold wOut
  simp only
  split
  · simp
  · split <;> simp

theorem wOut_crash {vco : Q} {o : Out} : wOut vco o = .crash ↔ wOdiv vco o.freq = 0 := by
  unfold wOut
  simp only
  split
  · rename_i h; simp [h]
  · rename_i h
    split <;> simp [h]

theorem wOut_rejected {vco : Q} {o : Out} (h : wOut vco o = .rejected) :
    1 ≤ wOdiv vco o.freq ∧
    (o.margin.lt (wPhaseErr o.phase (wOdiv vco o.freq)) = true ∨ within (vco.divNat (wOdiv vco o.freq)) o = false) := by
  unfold wOut at h
  simp only at h
  split at h
  · cases h
  · rename_i h0
    refine ⟨Nat.pos_of_ne_zero h0, ?_⟩
    split at h
    · rename_i ht
      simp only [Bool.or_eq_true] at ht
      rcases ht with ht | ht
      · exact Or.inl ht
      · right
        rw [within_eq_wDiff_le, ← Q.not_lt_eq_le, ht]; rfl
    · cases h

theorem wOuts_ok {vco : Q} : ∀ {outs : List Out} {l : List WOut}, wOuts vco outs = .ok l →
    l.length = outs.length ∧ ∀ p ∈ outs.zip l, wOut vco p.1 = .ok p.2
  | [], l, h => by simp [wOuts] at h; subst h; simp
  | o :: os, l, h => by
    unfold wOuts at h
    obtain ⟨a, l', h1, h2, rfl⟩ := consW_ok h
    obtain ⟨i1, i2⟩ := wOuts_ok h2
    refine ⟨by simp [i1], ?_⟩
    intro p hp
    simp only [List.zip_cons_cons, List.mem_cons] at hp
    rcases hp with rfl | hp
    · exact h1
    · exact i2 p hp

theorem wOuts_ne_assertion {vco : Q} : ∀ {outs : List Out}, wOuts vco outs ≠ .assertion
  | [] => by simp [wOuts]
  | o :: os => by unfold wOuts; exact consW_ne_assertion

theorem wOuts_crash {vco : Q} : ∀ {outs : List Out}, wOuts vco outs = .crash ↔ ∃ o ∈ outs, wOdiv vco o.freq = 0
  | [] => by simp [wOuts]
  | o :: os => by
    unfold wOuts
    rw [consW_crash, wOut_crash, wOuts_crash]
    simp

theorem wOuts_rejected {vco : Q} : ∀ {outs : List Out}, wOuts vco outs = .rejected →
    (∀ o ∈ outs, wOdiv vco o.freq ≠ 0) ∧ ∃ o ∈ outs, wOut vco o = .rejected
  | [], h => by simp [wOuts] at h
  | o :: os, h => by
    unfold wOuts at h
    obtain ⟨h1, h2, h3⟩ := consW_rejected h
    have hc : ∀ o' ∈ o :: os, wOdiv vco o'.freq ≠ 0 := by
      intro o' ho'
      rcases List.mem_cons.mp ho' with rfl | ho'
      · exact fun e => h1 (wOut_crash.mpr e)
      · exact fun e => h2 (wOuts_crash.mpr ⟨o', ho', e⟩)
    refine ⟨hc, ?_⟩
    rcases h3 with h3 | h3
    · exact ⟨o, List.mem_cons_self, Res.eq_rejected_of h3 h1 wOut_ne_assertion⟩
    · obtain ⟨_, o', ho', hr⟩ := wOuts_rejected (Res.eq_rejected_of h3 h2 wOuts_ne_assertion)
      exact ⟨o', List.mem_cons_of_mem _ ho', hr⟩

theorem wTry_ok {r : WReq} {lo hi : Q} {idiv fdiv mdiv : Nat} {x : WCfg × Q}
    (h : wTry r lo hi idiv fdiv mdiv = .ok x) :
    x.1.idiv = idiv ∧ x.1.fdiv = fdiv ∧ x.1.mdiv = mdiv ∧
    (lo.le (wVco r.clkin idiv fdiv mdiv) && (wVco r.clkin idiv fdiv mdiv).le hi) = true ∧
    wOuts (wVco r.clkin idiv fdiv mdiv) r.outs = .ok x.1.outs ∧ x.2 = wSum x.1.outs := by
  unfold wTry at h
  simp only at h
  split at h
  · rename_i hv
    split at h
    · rename_i outs ho
      simp only [Res.ok.injEq] at h
      subst h
      exact ⟨rfl, rfl, rfl, hv, ho, rfl⟩
    · cases h
    · cases h
  · cases h

theorem wTry_ne_assertion {r : WReq} {lo hi : Q} {idiv fdiv mdiv : Nat} :
    wTry r lo hi idiv fdiv mdiv ≠ .assertion := by
  unfold wTry
  simp only
  split
  · split <;> simp
  · simp

theorem wTry_crash {r : WReq} {lo hi : Q} {idiv fdiv mdiv : Nat} :
    wTry r lo hi idiv fdiv mdiv = .crash ↔
    (lo.le (wVco r.clkin idiv fdiv mdiv) && (wVco r.clkin idiv fdiv mdiv).le hi) = true ∧
    ∃ o ∈ r.outs, wOdiv (wVco r.clkin idiv fdiv mdiv) o.freq = 0 := by
  rw [← wOuts_crash]
  unfold wTry
  simp only
  split
  · rename_i hv
    split
    · rename_i outs ho; simp [ho]
    · rename_i ho; simp [ho, hv]
    · rename_i h1 h2
      constructor
      · intro h; cases h
      · intro h; exact absurd h.2 h2
  · rename_i hv
    simp [hv]

theorem wTry_rejected {r : WReq} {lo hi : Q} {idiv fdiv mdiv : Nat}
    (h : wTry r lo hi idiv fdiv mdiv = .rejected)
    (hv : (lo.le (wVco r.clkin idiv fdiv mdiv) && (wVco r.clkin idiv fdiv mdiv).le hi) = true) :
    wOuts (wVco r.clkin idiv fdiv mdiv) r.outs = .rejected := by
  unfold wTry at h
  simp only [hv, if_true] at h
  refine Res.eq_rejected_of (fun l ho => ?_) (fun ho => ?_) wOuts_ne_assertion <;> simp [ho] at h

def wTryT (d : WDev) (r : WReq) (t : Nat × Nat × Nat) : Res (WCfg × Q) :=
  wTry r (wLo d r) (wHi d r) t.1 t.2.1 t.2.2

theorem wSearchAcc_eq_grid (d : WDev) (r : WReq) :
    wSearchAcc d r = ((wGrid d r).map (wTryT d r)).foldl wMerge .rejected := by
  unfold wSearchAcc wGrid
  simp only [List.foldl_map, List.foldl_flatMap]
  congr 1
  funext acc idiv
  unfold wIdiv
  split
  · rfl
  · simp only [List.foldl_map, List.foldl_flatMap]
    rfl

theorem mem_wGrid {d : WDev} {r : WReq} {t : Nat × Nat × Nat} :
    t ∈ wGrid d r ↔ t.1 ∈ pyRange 1 64 ∧ wPfdSkip d r t.1 = false ∧ t.2.1 ∈ pyRange 1 64 ∧ t.2.2 ∈ pyRange 2 128 := by
  obtain ⟨i, f, m⟩ := t
  simp only [wGrid, List.mem_flatMap, List.mem_ite_nil_left, List.mem_map, Prod.mk.injEq, Bool.not_eq_true]
  exact ⟨fun ⟨_, hi, hp, _, hf, _, hm, e1, e2, e3⟩ => by subst e1 e2 e3; exact ⟨hi, hp, hf, hm⟩,
    fun ⟨hi, hp, hf, hm⟩ => ⟨i, hi, hp, f, hf, m, hm, rfl, rfl, rfl⟩⟩

theorem wWindow_eq (d : WDev) (r : WReq) (x : Q) :
    ((wLo d r).le x && x.le (wHi d r)) = inRangeM d.vcoMin d.vcoMax r.vcoMargin x := rfl

theorem wMerge_cases (acc x : Res (WCfg × Q)) :
    (wMerge acc x = .crash ∧ (acc = .crash ∨ x = .crash)) ∨
    (wMerge acc x = acc ∧ acc ≠ .crash ∧ x ≠ .crash ∧ ∀ y, x = .ok y → ∃ b, acc = .ok b ∧ y.2.lt b.2 = false) ∨
    (wMerge acc x = x ∧ acc ≠ .crash ∧ ∃ y, x = .ok y ∧ ∀ b, acc = .ok b → y.2.lt b.2 = true) := by
  cases acc with
  | crash => exact Or.inl ⟨rfl, Or.inl rfl⟩
  | ok b =>
    cases x with
    | crash => exact Or.inl ⟨rfl, Or.inr rfl⟩
    | ok y =>
      cases hlt : y.2.lt b.2 with
      | true => exact Or.inr (Or.inr ⟨by simp [wMerge, hlt], nofun, y, rfl, fun _ e => by cases e; exact hlt⟩)
      | false => exact Or.inr (Or.inl ⟨by simp [wMerge, hlt], nofun, nofun, fun _ e => by cases e; exact ⟨b, rfl, hlt⟩⟩)
    | rejected => exact Or.inr (Or.inl ⟨rfl, nofun, nofun, nofun⟩)
    | assertion => exact Or.inr (Or.inl ⟨rfl, nofun, nofun, nofun⟩)
  | rejected =>
    cases x with
    | crash => exact Or.inl ⟨rfl, Or.inr rfl⟩
    | ok y => exact Or.inr (Or.inr ⟨rfl, nofun, y, rfl, nofun⟩)
    | rejected => exact Or.inr (Or.inl ⟨rfl, nofun, nofun, nofun⟩)
    | assertion => exact Or.inr (Or.inl ⟨rfl, nofun, nofun, nofun⟩)
  | assertion =>
    cases x with
    | crash => exact Or.inl ⟨rfl, Or.inr rfl⟩
    | ok y => exact Or.inr (Or.inr ⟨rfl, nofun, y, rfl, nofun⟩)
    | rejected => exact Or.inr (Or.inl ⟨rfl, nofun, nofun, nofun⟩)
    | assertion => exact Or.inr (Or.inl ⟨rfl, nofun, nofun, nofun⟩)

theorem wMerge_crash {acc x : Res (WCfg × Q)} : wMerge acc x = .crash ↔ acc = .crash ∨ x = .crash := by
  constructor
  · intro h
    rcases wMerge_cases acc x with ⟨_, hc⟩ | ⟨e, hn, _⟩ | ⟨e, _, y, rfl, _⟩
    · exact hc
    · exact absurd (e.symm.trans h) hn
    · exact absurd (e.symm.trans h) nofun
  · rintro (rfl | rfl)
    · rfl
    · cases acc <;> rfl

theorem foldl_wMerge_crash : ∀ (xs : List (Res (WCfg × Q))) (acc : Res (WCfg × Q)),
    xs.foldl wMerge acc = .crash ↔ acc = .crash ∨ .crash ∈ xs
  | [], acc => by simp
  | x :: xs, acc => by
    simp only [List.foldl_cons, List.mem_cons]
    rw [foldl_wMerge_crash xs, wMerge_crash]
    constructor
    · rintro ((h | h) | h)
      · exact Or.inl h
      · exact Or.inr (Or.inl h.symm)
      · exact Or.inr (Or.inr h)
    · rintro (h | h | h)
      · exact Or.inl (Or.inl h)
      · exact Or.inl (Or.inr h.symm)
      · exact Or.inr h

theorem wMerge_ok {acc x : Res (WCfg × Q)} {y : WCfg × Q} (h : wMerge acc x = .ok y) :
    acc = .ok y ∨ x = .ok y := by
  rcases wMerge_cases acc x with ⟨e, _⟩ | ⟨e, _⟩ | ⟨e, _⟩
  · exact absurd (e.symm.trans h) nofun
  · exact Or.inl (e.symm.trans h)
  · exact Or.inr (e.symm.trans h)

theorem foldl_wMerge_ok (xs : List (Res (WCfg × Q))) {y : WCfg × Q} (h : xs.foldl wMerge .rejected = .ok y) :
    .ok y ∈ xs :=
  List.foldlRecOn xs _ (motive := fun acc => ∀ y, acc = Res.ok y → Res.ok y ∈ xs) (by intro _ h; cases h)
    (fun _ ih _ hx _ h => (wMerge_ok h).elim (ih _) (· ▸ hx)) y h

/-- `s`: the accumulator without a candidate, `.rejected`; `.assertion` never arises but is idle under `wMerge` as well. -/
theorem wMerge_idle {acc x s : Res (WCfg × Q)} (hs : s = .rejected ∨ s = .assertion) (h : wMerge acc x = s) :
    acc = s ∧ (x = .rejected ∨ x = .assertion) := by
  rcases wMerge_cases acc x with ⟨e, _⟩ | ⟨e, _, hx, hy⟩ | ⟨e, _, y, rfl, _⟩
  · rcases hs with rfl | rfl <;> exact absurd (e.symm.trans h) nofun
  · obtain rfl := e.symm.trans h
    refine ⟨rfl, ?_⟩
    cases x with
    | ok y => obtain ⟨b, rfl, _⟩ := hy y rfl; rcases hs with hs | hs <;> cases hs
    | crash => exact absurd rfl hx
    | rejected => exact Or.inl rfl
    | assertion => exact Or.inr rfl
  · rcases hs with rfl | rfl <;> exact absurd (e.symm.trans h) nofun

theorem foldl_wMerge_idle {s : Res (WCfg × Q)} (hs : s = .rejected ∨ s = .assertion) :
    ∀ (xs : List (Res (WCfg × Q))) (acc : Res (WCfg × Q)),
    xs.foldl wMerge acc = s → acc = s ∧ ∀ x ∈ xs, x = .rejected ∨ x = .assertion
  | [], acc, h => ⟨h, fun _ hx => by cases hx⟩
  | x :: xs, acc, h => by
    obtain ⟨h1, h2⟩ := foldl_wMerge_idle hs xs _ h
    obtain ⟨g1, g2⟩ := wMerge_idle hs h1
    exact ⟨g1, List.forall_mem_cons.mpr ⟨g2, h2⟩⟩

theorem wSearch_ok_grid {d : WDev} {r : WReq} {c : WCfg} (h : wSearch d r = .ok c) :
    ∃ t ∈ wGrid d r, ∃ s, wTryT d r t = .ok (c, s) := by
  unfold wSearch at h
  obtain ⟨⟨c', s⟩, hx, rfl⟩ := mapW_ok h
  rw [wSearchAcc_eq_grid] at hx
  obtain ⟨t, ht, he⟩ := List.mem_map.mp (foldl_wMerge_ok _ hx)
  exact ⟨t, ht, s, he⟩

theorem wSearch_sound {d : WDev} {r : WReq} {c : WCfg} (h : wSearch d r = .ok c) : WValidNoOdiv d r c := by
  obtain ⟨t, ht, s, he⟩ := wSearch_ok_grid h
  obtain ⟨m1, m2, m3, m4⟩ := mem_wGrid.mp ht
  obtain ⟨g1, g2, g3, g4, g5, _⟩ := wTry_ok he
  simp only at g1 g2 g3 g5
  have e : c.vco r = wVco r.clkin t.1 t.2.1 t.2.2 := by unfold WCfg.vco; rw [g1, g2, g3]
  obtain ⟨o1, o2⟩ := wOuts_ok g5
  refine ⟨g1 ▸ m1, g2 ▸ m3, g3 ▸ m4, g1 ▸ lt_or_lt_eq_false.mp m2, ?_, o1, ?_⟩
  · rw [e, ← wWindow_eq]; exact g4
  · intro p hp
    rw [e]; exact wOut_ok (o2 p hp)

theorem wSearch_sound_partial {d : WDev} {r : WReq} {c : WCfg} (h : wSearch d r = .ok c)
    (ho : ∀ o ∈ c.outs, o.odiv ≤ 128) : WValid d r c :=
  ⟨wSearch_sound h, ho⟩

theorem wSearch_within {d : WDev} {r : WReq} {c : WCfg} (h : wSearch d r = .ok c) :
    ∀ p ∈ r.outs.zip c.outs, 1 ≤ p.2.odiv ∧ within ((c.vco r).divNat p.2.odiv) p.1 = true ∧
      (wDiff (c.vco r) p.2.odiv p.1.freq).le p.1.margin = true := by
  intro p hp
  obtain ⟨a, b, _⟩ := (wSearch_sound h).2.2.2.2.2.2 p hp
  exact ⟨a, b, by rw [← within_eq_wDiff_le]; exact b⟩

theorem wSearch_crash_iff {d : WDev} {r : WReq} :
    wSearch d r = .crash ↔
    ∃ t ∈ wGrid d r, inRangeM d.vcoMin d.vcoMax r.vcoMargin (wVco r.clkin t.1 t.2.1 t.2.2) = true ∧
      ∃ o ∈ r.outs, wOdiv (wVco r.clkin t.1 t.2.1 t.2.2) o.freq = 0 := by
  rw [wSearch, mapW_eq_crash, wSearchAcc_eq_grid, foldl_wMerge_crash]
  simp only [reduceCtorEq, false_or, List.mem_map]
  constructor
  · rintro ⟨t, ht, hc⟩
    exact ⟨t, ht, wTry_crash.mp hc⟩
  · rintro ⟨t, ht, hc⟩
    exact ⟨t, ht, wTry_crash.mpr hc⟩

theorem wSearch_ok_of_kept {d : WDev} {r : WReq} (hc : wSearch d r ≠ .crash)
    {t : Nat × Nat × Nat} (ht : t ∈ wGrid d r) {x : WCfg × Q} (hx : wTryT d r t = .ok x) :
    ∃ c, wSearch d r = .ok c := by
  have idle : ∀ s, s = .rejected ∨ s = .assertion → wSearchAcc d r ≠ s := fun s hs e => by
    rw [wSearchAcc_eq_grid] at e
    rcases (foldl_wMerge_idle hs _ _ e).2 _ (List.mem_map.mpr ⟨t, ht, rfl⟩) with h1 | h1 <;> rw [hx] at h1 <;> cases h1
  rw [wSearch, Ne, mapW_eq_crash] at hc
  unfold wSearch
  cases ha : wSearchAcc d r with
  | ok a => exact ⟨a.1, rfl⟩
  | crash => exact absurd ha hc
  | rejected => exact absurd ha (idle _ (Or.inl rfl))
  | assertion => exact absurd ha (idle _ (Or.inr rfl))

theorem wMerge_le {acc y : Res (WCfg × Q)} {w : WCfg × Q} (hw : wMerge acc y = .ok w) :
    (∀ b, acc = .ok b → w.2.le b.2 = true) ∧ ∀ z, y = .ok z → w.2.le z.2 = true := by
  rcases wMerge_cases acc y with ⟨e, _⟩ | ⟨e, _, _, hy⟩ | ⟨e, _, z, rfl, hb⟩
  · exact absurd (e.symm.trans hw) nofun
  · obtain rfl := e.symm.trans hw
    refine ⟨fun _ e => by cases e; exact Q.le_refl _, fun z hz => ?_⟩
    obtain ⟨b, hb, hlt⟩ := hy z hz
    cases hb
    exact Q.lt_eq_false_iff.mp hlt
  · cases e.symm.trans hw
    exact ⟨fun b e => Q.le_of_lt (hb b e), fun _ e => by cases e; exact Q.le_refl _⟩

theorem foldl_wMerge_best : ∀ (xs : List (Res (WCfg × Q))) (acc : Res (WCfg × Q)) (x : WCfg × Q),
    (∀ y, .ok y ∈ xs → 0 < y.2.den) → (∀ b, acc = .ok b → 0 < b.2.den) → xs.foldl wMerge acc = .ok x →
    (∀ b, acc = .ok b → x.2.le b.2 = true) ∧ ∀ y, .ok y ∈ xs → x.2.le y.2 = true
  | [], acc, x, _, _, h => by
    cases h
    exact ⟨fun b hb => by cases hb; exact Q.le_refl _, fun y hy => by cases hy⟩
  | y :: ys, acc, x, hp, ha, h => by
    simp only [List.foldl_cons] at h
    have ha' : ∀ b, wMerge acc y = .ok b → 0 < b.2.den := fun b hb =>
      (wMerge_ok hb).elim (ha b) fun h1 => hp b (h1 ▸ List.mem_cons_self)
    obtain ⟨i1, i2⟩ := foldl_wMerge_best ys _ x (fun z hz => hp z (List.mem_cons_of_mem _ hz)) ha' h
    -- `x ≤ w ≤ acc, y` where `w` is the best after this step; without such a `w` neither `acc` nor `y` is a candidate
    have fin : (∀ b, acc = .ok b → x.2.le b.2 = true) ∧ ∀ z, y = .ok z → x.2.le z.2 = true := by
      cases hw : wMerge acc y with
      | ok w =>
        obtain ⟨l1, l2⟩ := wMerge_le hw
        exact ⟨fun b hb => Q.le_trans (ha' w hw) (i1 w hw) (l1 b hb),
          fun z hz => Q.le_trans (ha' w hw) (i1 w hw) (l2 z hz)⟩
      | crash => rw [hw, (foldl_wMerge_crash _ _).mpr (Or.inl rfl)] at h; cases h
      | rejected =>
        obtain ⟨rfl, h2⟩ := wMerge_idle (Or.inl rfl) hw
        exact ⟨nofun, fun z hz => by subst hz; simp at h2⟩
      | assertion =>
        obtain ⟨rfl, h2⟩ := wMerge_idle (Or.inr rfl) hw
        exact ⟨nofun, fun z hz => by subst hz; simp at h2⟩
    exact ⟨fin.1, fun z hz => (List.mem_cons.mp hz).elim (fun e => fin.2 z e.symm) (i2 z)⟩

theorem wSum_den_pos (l : List WOut) (h : ∀ w ∈ l, 0 < w.diff.den) : 0 < (wSum l).den :=
  List.foldlRecOn l _ (motive := fun s : Q => 0 < s.den) Nat.one_pos fun _ hs w hw => Nat.mul_pos hs (h w hw)

theorem wOuts_diff_den_pos {vco : Q} (hv : 0 < vco.den) : ∀ {outs : List Out} {l : List WOut},
    (∀ o ∈ outs, 0 < o.freq.num ∧ 0 < o.freq.den) → wOuts vco outs = .ok l → ∀ w ∈ l, 0 < w.diff.den
  | [], l, _, h => by simp [wOuts] at h; subst h; intro w hw; cases hw
  | o :: os, l, ho, h => by
    unfold wOuts at h
    obtain ⟨a, l', h1, h2, rfl⟩ := consW_ok h
    intro w hw
    rcases List.mem_cons.mp hw with rfl | hw
    · obtain ⟨p1, _, _, p4, _⟩ := wOut_ok h1
      obtain ⟨f1, f2⟩ := ho o List.mem_cons_self
      rw [p4]
      show 0 < vco.den * w.odiv * o.freq.den * o.freq.num
      exact Nat.mul_pos (Nat.mul_pos (Nat.mul_pos hv p1) f2) f1
    · exact wOuts_diff_den_pos hv (fun o' ho' => ho o' (List.mem_cons_of_mem _ ho')) h2 w hw

/-
  Not proved: the returned candidate is the FIRST grid point attaining the minimal diff
  sum, i.e.  wSearchAcc d r = .ok x → ∃ pre suf, (wGrid d r).map (wTryT d r) = pre ++ .ok x :: suf ∧
  ∀ y, .ok y ∈ pre → x.2.lt y.2 = true   (same positivity hypotheses as `gw5a_search_best` of LitexProps/C20.lean,
  which proves minimality).
  The special case "first grid point with diff sum exactly 0" IS proved: `wSearch_of_first_zero`.
-/

theorem SQ.floor_le_round (a : SQ) : a.floor ≤ a.round := by
  unfold SQ.round
  simp only
  split
  · exact Int.le_refl _
  · split
    · omega
    · split <;> omega

/-- `h` says `k ≤ vco/f`; then `k ≤ ⌊vco/f⌋ ≤ round(vco/f)`. -/
theorem wOdiv_ge {vco f : Q} {k : Nat} (hf : 0 < f.num) (hd : 0 < vco.den)
    (h : k * (vco.den * f.num) ≤ vco.num * f.den) : k ≤ wOdiv vco f := by
  unfold wOdiv
  rw [if_neg (by omega)]
  have h1 := SQ.floor_le_round (vco.div f).toSQ
  have h2 : (vco.div f).toSQ.floor = ((vco.num * f.den / (vco.den * f.num) : Nat) : Int) := by
    unfold SQ.floor Q.toSQ Q.div
    simp only
    exact (Int.natCast_ediv _ _).symm
  have h3 : k ≤ vco.num * f.den / (vco.den * f.num) :=
    (Nat.le_div_iff_mul_le (Nat.mul_pos hd hf)).mpr h
  omega


/-- `wLo` is `vco_min*(1+vco_margin)`: a frequency not above it has `vco/f ≥ 1` on every in-window triple, so
    `round(vco/f) ≥ 1`. -/
theorem wSearch_no_crash {d : WDev} {r : WReq} (hc : 0 < r.clkin.den) (hl : 0 < (wLo d r).den)
    (ho : ∀ o ∈ r.outs, 0 < o.freq.num ∧ o.freq.le (wLo d r) = true) : wSearch d r ≠ .crash := by
  intro h
  obtain ⟨t, ht, hv, o, hoo, hz⟩ := wSearch_crash_iff.mp h
  obtain ⟨m1, _, _, _⟩ := mem_wGrid.mp ht
  rw [mem_pyRange] at m1
  obtain ⟨hf, hle⟩ := ho o hoo
  rw [← wWindow_eq] at hv
  simp only [Bool.and_eq_true] at hv
  have hlo := hv.1
  generalize hvco : wVco r.clkin t.1 t.2.1 t.2.2 = vco at *
  have hd : 0 < vco.den := by
    rw [← hvco]
    show 0 < r.clkin.den * t.1
    exact Nat.mul_pos hc (by omega)
  have key : 1 * (vco.den * o.freq.num) ≤ vco.num * o.freq.den :=
    Nat.le_trans (Nat.le_of_eq (by ac_rfl)) (of_decide_eq_true (Q.le_trans hl hle hlo))
  have := wOdiv_ge hf hd key
  omega

theorem foldl_wMerge_zero {x : WCfg × Q} (hz : x.2.num = 0) (xs : List (Res (WCfg × Q))) (h : .crash ∉ xs) :
    xs.foldl wMerge (.ok x) = .ok x :=
  List.foldlRecOn xs _ (motive := (· = Res.ok x)) rfl fun _ hb y hy => by
    -- a sum 0 cannot be beaten: the third case of `wMerge_cases` would need `y.2 < 0`
    rw [hb]
    rcases wMerge_cases (.ok x) y with ⟨_, hc | hc⟩ | ⟨e, _⟩ | ⟨_, _, z, rfl, hlt⟩
    · cases hc
    · exact absurd (hc ▸ hy) h
    · exact e
    · have := hlt x rfl
      simp [Q.lt, hz] at this

theorem foldl_wMerge_rejected_all (xs : List (Res (WCfg × Q))) (h : ∀ y ∈ xs, y = .rejected) :
    xs.foldl wMerge .rejected = .rejected :=
  List.foldlRecOn xs _ (motive := (· = Res.rejected)) rfl fun _ hb y hy => by rw [hb, h y hy]; rfl

/-- A grid point with `diff` sum 0 preceded only by discarded points is the answer (nothing can be strictly better,
    and later ties do not replace it), provided no exception is raised. -/
theorem wSearch_of_first_zero {d : WDev} {r : WReq} {n : Nat} {t : Nat × Nat × Nat} {x : WCfg × Q}
    (hc : wSearch d r ≠ .crash) (hn : (wGrid d r)[n]? = some t)
    (hpre : ∀ u ∈ (wGrid d r).take n, wTryT d r u = .rejected)
    (ht : wTryT d r t = .ok x) (hz : x.2.num = 0) : wSearch d r = .ok x.1 := by
  have hnc : .crash ∉ (wGrid d r).map (wTryT d r) := by
    intro hm
    apply hc
    have : wSearchAcc d r = .crash := by
      rw [wSearchAcc_eq_grid, foldl_wMerge_crash]; exact Or.inr hm
    unfold wSearch; rw [this]; rfl
  obtain ⟨hlt, e⟩ := List.getElem?_eq_some_iff.mp hn
  have hsplit : wGrid d r = (wGrid d r).take n ++ t :: (wGrid d r).drop (n + 1) := by
    rw [← e, List.getElem_cons_drop, List.take_append_drop]
  unfold wSearch
  rw [wSearchAcc_eq_grid]
  rw [hsplit] at hnc ⊢
  simp only [List.map_append, List.map_cons, List.foldl_append, List.foldl_cons, List.mem_append,
    List.mem_cons, not_or] at hnc ⊢
  rw [foldl_wMerge_rejected_all _ (by
    intro y hy
    obtain ⟨u, hu, rfl⟩ := List.mem_map.mp hy
    exact hpre u hu)]
  rw [ht]
  have : wMerge .rejected (.ok x) = .ok x := rfl
  rw [this, foldl_wMerge_zero hz _ hnc.2.2]
  rfl

/-- `compute_config` on a GW5A-25, 50 MHz in, 5 MHz out: returns ODIV0_SEL = 160.  (The 14 grid points before
    (1,1,16) are evaluated by the kernel; the rest of the 15876-point grid is handled by `wSearch_of_first_zero`:
    the diff sum is already 0 and `wSearch_no_crash` excludes the exception.) -/
theorem wSearch_witness : wSearch gw5a25 wWitReq = .ok wWitCfg :=
  wSearch_of_first_zero (n := 14) (t := (1, 1, 16)) (x := (wWitCfg, ⟨0, 800000000⟩))
    (wSearch_no_crash (by decide) (by decide) (by decide +kernel))
    (by decide +kernel) (by decide +kernel) (by decide +kernel) rfl

/-- … which is outside the primitive's ODIVx_SEL range 1..128: the returned configuration is NOT valid, although it
    satisfies everything else. -/
theorem wWitness_not_valid : ¬ WValid gw5a25 wWitReq wWitCfg := by decide +kernel

theorem wWitness_valid_no_odiv : WValidNoOdiv gw5a25 wWitReq wWitCfg := wSearch_sound wSearch_witness

example : ∃ c, wSearch gw5a25 wWitReq = .ok c ∧ WValidNoOdiv gw5a25 wWitReq c ∧ ¬ WValid gw5a25 wWitReq c ∧
    (c.outs.map (·.odiv)) = [160] :=
  ⟨wWitCfg, wSearch_witness, wWitness_valid_no_odiv, wWitness_not_valid, rfl⟩

theorem wWitness_all_invalid {c : WCfg} (h : wSearch gw5a25 wWitReq = .ok c) : ¬ WValid gw5a25 wWitReq c := by
  rw [wSearch_witness] at h
  cases h
  exact wWitness_not_valid

/-- Non-vacuity: an accepted request whose configuration is fully valid. -/
theorem wSearch_ok_example : wSearch gw5a25 wOkReq = .ok wOkCfg :=
  wSearch_of_first_zero (n := 14) (t := (1, 1, 16)) (x := (wOkCfg, ⟨0, 800000000⟩))
    (wSearch_no_crash (by decide) (by decide) (by decide +kernel))
    (by decide +kernel) (by decide +kernel) (by decide +kernel) rfl

example : WValid gw5a25 wOkReq wOkCfg := wSearch_sound_partial wSearch_ok_example (by decide)
example : WValid gw5a25 wOkReq wOkCfg := by decide +kernel

/-- A crash witness: adding a 4 GHz output (> 2 * max VCO) makes `round(vco/f) = 0`. -/
example : wTryT gw5a25 ⟨⟨50000000, 1⟩, ⟨0, 1⟩, [⟨⟨4000000000, 1⟩, ⟨0, 1⟩, wMargin1e2⟩]⟩ (1, 1, 16) = .crash := by
  decide +kernel


end Litex.Clock
