import LitexModel.Clock.Emit
/-
  "The parameters placed on the emitted primitive equal the configuration": facts about the complete item lists of
  LitexModel/Clock/Emit.lean, for all requests and configurations; fixed items by key, per-output items by membership
  (the Gowin rPLL and iCE40 items by key are proved in LitexProps/C20.lean itself; the GW5A facts are beside their model in
  LitexModel/Clock/EmitB.lean).
-/
namespace Litex.Clock

theorem gPinClock_some {pins : List Nat} {pin i : Nat} (h : gPinClock pins pin = some i) : pins[i]? = some pin := by
  refine List.mem_zipIdx_iff_getElem?.mp <| List.foldlRecOn pins.zipIdx _
    (motive := fun acc => ∀ i, acc = some i → (pin, i) ∈ pins.zipIdx) (by intro _ h; cases h) (fun acc ih pn hm i h => ?_) i h
  split at h
  · rename_i hp; cases h; cases hp; exact hm
  · exact ih i h

theorem mem_items_of_getElem? {α β : Type} {l : List α} {n : Nat} {a : α} (h : l[n]? = some a) {pre : List β}
    {f : α × Nat → List β} {kv : β} (hkv : kv ∈ f (a, n)) : kv ∈ pre ++ l.zipIdx.flatMap f :=
  List.mem_append_right _ (List.mem_flatMap.mpr ⟨_, List.mem_zipIdx_iff_getElem?.mpr h, hkv⟩)

theorem eEmit_outs (r : EReq) (c : ECfg) (n dv : Nat) (h : c.divs[n]? = some dv) :
    ∀ kv ∈ eOutItems r n dv, kv ∈ eEmit r c := by
  unfold eEmit; exact fun _ hkv => mem_items_of_getElem? h hkv

theorem nEmit_get (r : NReq) (c : NCfg) :
    (nEmit r c).get "p_DIVF" = some (.str (toString ((c.clkfbDiv : Int) - 1))) ∧
    (nEmit r c).get "p_DELF" = some (.str (toString ((c.clkfbDiv : Int) - 1))) ∧
    (nEmit r c).get "p_SEL_FBK" = some (.str "FBKCLK5") ∧ (nEmit r c).get "p_FBK_MMD_DIG" = some (.str "1") :=
  ⟨rfl, rfl, rfl, rfl⟩

theorem nEmit_outs (r : NReq) (c : NCfg) (n dv : Nat) (o : Out) (h : (c.divs.zip r.outs)[n]? = some (dv, o)) :
    ∀ kv ∈ nOutItems n dv o, kv ∈ nEmit r c := by
  unfold nEmit; exact fun _ hkv => mem_items_of_getElem? h hkv

theorem aEmit_outs (nmax : Nat) (r : AReq) (c : ACfg) (n : Nat) (cv : Q) (o : Out)
    (h : (c.cs.zip r.outs)[n]? = some (cv, o)) :
    ∀ kv ∈ aOutItems r c n cv o, kv ∈ aEmit nmax r c := by
  unfold aEmit; exact fun _ hkv => mem_items_of_getElem? h hkv

theorem aOutItems_spec (r : AReq) (c : ACfg) (n : Nat) (cv : Q) (o : Out) :
    (s!"p_CLK{n}_DIVIDE_BY", pvDiv (cv.mulNat c.n)) ∈ aOutItems r c n cv o ∧
    (s!"p_CLK{n}_MULTIPLY_BY", PV.int (c.m : Int)) ∈ aOutItems r c n cv o := by
  simp [aOutItems, pvNat]

theorem xEmit_get (k : XKind) (of : String) (usp : Bool) (r : XReq) (c : XCfg) (hk : k ≠ .s6dcm) :
    (xEmit k of usp r c).get "p_DIVCLK_DIVIDE" = some (.int (c.divclk : Int)) ∧
    (xEmit k of usp r c).get "of" = some (.str of) ∧
    (xEmit k of usp r c).get "i_CLKFBIN" = (xEmit k of usp r c).get "o_CLKFBOUT" := by
  cases k <;> first | exact absurd rfl hk | exact ⟨rfl, rfl, rfl⟩

theorem xEmit_outs (k : XKind) (of : String) (usp : Bool) (r : XReq) (c : XCfg) (hk : k ≠ .s6dcm) (n : Nat) (dv : Q)
    (o : Out) (h : (c.ds.zip r.outs)[n]? = some (dv, o)) :
    ∀ kv ∈ xOutItems k usp n dv o, kv ∈ xEmit k of usp r c := by
  cases k <;> first | exact absurd rfl hk | (unfold xEmit; exact fun _ hkv => mem_items_of_getElem? h hkv)

theorem xOutItems_spec (k : XKind) (usp : Bool) (n : Nat) (dv : Q) (o : Out) :
    (s!"o_CLKOUT{n}", PV.tok (clkTok n)) ∈ xOutItems k usp n dv o ∧
    ((if k = .mmcm ∧ n = 0 then s!"p_CLKOUT{n}_DIVIDE_F" else s!"p_CLKOUT{n}_DIVIDE"),
      if usp ∧ n = 0 then PV.flt dv.toSQ else pvDiv dv) ∈ xOutItems k usp n dv o := by
  simp [xOutItems]

theorem mEmit_get (r : MReq) :
    (mEmit r).get "p_OUT_CLK" = some (.fstr ⟨((mBase r.outs).getD Q.zero).num, ((mBase r.outs).getD Q.zero).den * 1000000⟩) ∧
    (mEmit r).get "p_CLK180_DOUB" = some (.int (match mFreqOf r 180 with
      | some f => if f.beq (((mBase r.outs).getD Q.zero).mulNat 2) then 1 else 0 | none => 0)) ∧
    (mEmit r).get "p_CLK270_DOUB" = some (.int (match mFreqOf r 270 with
      | some f => if f.beq (((mBase r.outs).getD Q.zero).mulNat 2) then 1 else 0 | none => 0)) :=
  ⟨rfl, rfl, rfl⟩

theorem mLegal_spec (r : MReq) (h : mLegal r = true) :
    ∃ base, mBase r.outs = some base ∧ ∀ o ∈ r.outs, o.1 ∈ [0, 90, 180, 270] ∧
      (o.2.beq base = true ∨ ((o.1 = 180 ∨ o.1 = 270) ∧ o.2.beq (base.mulNat 2) = true)) := by
  unfold mLegal at h
  cases hm : mMaxFreq r.perf with
  | none => simp [hm] at h
  | some mx =>
    cases hb : mBase r.outs with
    | none => simp [hm, hb] at h
    | some base =>
      simp only [hm, hb, Bool.and_eq_true, List.all_eq_true] at h
      refine ⟨base, rfl, fun o ho => ?_⟩
      obtain ⟨⟨_, h2⟩, h3⟩ := h
      have h2' := h2 o ho
      have h3' := h3 o ho
      have hmem : o.1 ∈ [0, 90, 180, 270] := by simpa using h2'.1
      refine ⟨hmem, ?_⟩
      by_cases hp : o.1 = 0 ∨ o.1 = 90
      · simp only [hp, if_true] at h3'
        exact Or.inl h3'
      · simp only [hp, if_false, Bool.or_eq_true] at h3'
        rcases h3' with h3' | h3'
        · exact Or.inl h3'
        · right
          refine ⟨?_, h3'⟩
          simp only [List.mem_cons, List.not_mem_nil, or_false] at hmem
          omega

end Litex.Clock
