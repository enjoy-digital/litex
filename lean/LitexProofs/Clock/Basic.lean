import LitexModel.Clock.Spec
import LitexModel.Clock.Gw5a
/-
  What more than one vendor file of this directory uses: loops (`find?`, two nested `findSome?`, the guarded loop body,
  `firstDivs`), quotients, the order of `Q` (by cross-multiplication: reflexive always, transitive only through a positive
  denominator), and at the end the combinators of the outcome type `Res` of the Gowin and Efinix models.
-/
namespace Litex.Clock

theorem mem_pyRange {lo hi x : Nat} : x ∈ pyRange lo hi ↔ lo ≤ x ∧ x < hi := by
  unfold pyRange
  rw [List.mem_range'_1]
  omega

theorem find?_first {α : Type} {l : List α} {p : α → Bool} {a : α} (h : l.find? p = some a) :
    a ∈ l ∧ p a = true ∧ ∃ pre suf, l = pre ++ a :: suf ∧ ∀ x ∈ pre, p x = false :=
  let ⟨hok, pre, suf, e, hpre⟩ := List.find?_eq_some_iff_append.mp h
  ⟨List.mem_of_find?_eq_some h, hok, pre, suf, e, fun x hx => by simpa using hpre x hx⟩

theorem find?_none {α : Type} {l : List α} {p : α → Bool} (h : l.find? p = none) : ∀ x ∈ l, p x = false :=
  fun x hx => by simpa using List.find?_eq_none.mp h x hx

/-- Two nested first-match loops refuse only if the body refuses everywhere. -/
theorem findSome?₂_none {α β γ : Type} {l₁ : List α} {l₂ : List β} {f : α → β → Option γ}
    (h : (l₁.findSome? fun a => l₂.findSome? fun b => f a b) = none) : ∀ a ∈ l₁, ∀ b ∈ l₂, f a b = none :=
  fun a ha b hb => List.findSome?_eq_none_iff.mp (List.findSome?_eq_none_iff.mp h a ha) b hb

/-- … and what they return comes from a pair before which, in lexicographic order, the body refuses. -/
theorem findSome?₂_first {α β γ : Type} {l₁ : List α} {l₂ : List β} {f : α → β → Option γ} {c : γ}
    (h : (l₁.findSome? fun a => l₂.findSome? fun b => f a b) = some c) :
    ∃ p₁ a s₁ p₂ b s₂, l₁ = p₁ ++ a :: s₁ ∧ l₂ = p₂ ++ b :: s₂ ∧ f a b = some c ∧
      (∀ a' ∈ p₁, ∀ b' ∈ l₂, f a' b' = none) ∧ ∀ b' ∈ p₂, f a b' = none := by
  obtain ⟨p₁, a, s₁, e₁, hin, hpre⟩ := List.findSome?_eq_some_iff.mp h
  obtain ⟨p₂, b, s₂, e₂, hin2, hpre2⟩ := List.findSome?_eq_some_iff.mp hin
  exact ⟨p₁, a, s₁, p₂, b, s₂, e₁, e₂, hin2, fun a' ha' => List.findSome?_eq_none_iff.mp (hpre a' ha'), hpre2⟩

/-- The body of the first-match loops is `if window then (per-output loop).map mk else none`. -/
theorem ite_map_eq_some {α β : Type} {c : Bool} {o : Option α} {f : α → β} {b : β} :
    (if c = true then o.map f else none) = some b ↔ c = true ∧ ∃ a, o = some a ∧ f a = b := by
  cases c <;> simp

theorem ite_map_eq_none {α β : Type} {c : Bool} {o : Option α} {f : α → β} :
    (if c = true then o.map f else none) = none ↔ c = false ∨ o = none := by
  cases c <;> simp

theorem ceilDiv_le {A B n : Nat} (h : A ≤ n * B) : (A + B - 1) / B ≤ n := by
  rcases Nat.eq_zero_or_pos B with rfl | hB
  · simp
  · rw [← Nat.lt_succ_iff, Nat.div_lt_iff_lt_mul hB, Nat.succ_mul]; omega

theorem le_of_ceilDiv_le {A B n : Nat} (hB : 0 < B) (h : (A + B - 1) / B ≤ n) : A ≤ n * B := by
  rw [← Nat.lt_succ_iff, Nat.div_lt_iff_lt_mul hB, Nat.succ_mul] at h; omega

theorem mul_le_of_le_div {A B n : Nat} (h : n ≤ A / B) : n * B ≤ A :=
  Nat.le_trans (Nat.mul_le_mul_right B h) (Nat.div_mul_le_self A B)

theorem DivRange.mem_toList {r : DivRange} (hs : 0 < r.s) {q : Q} :
    q ∈ r.toList ↔ ∃ i, r.a + i * r.s < r.b ∧ q = ⟨r.a + i * r.s, r.k⟩ := by
  unfold DivRange.toList DivRange.count
  simp only [List.mem_map, List.mem_range]
  constructor
  · rintro ⟨i, hi, rfl⟩
    refine ⟨i, ?_, rfl⟩
    have h1 : i + 1 ≤ (r.b - r.a + r.s - 1) / r.s := hi
    rw [Nat.le_div_iff_mul_le hs, Nat.succ_mul] at h1
    omega
  · rintro ⟨i, hi, rfl⟩
    refine ⟨i, ?_, rfl⟩
    show i + 1 ≤ (r.b - r.a + r.s - 1) / r.s
    rw [Nat.le_div_iff_mul_le hs, Nat.succ_mul]
    omega

/-- The loop of `eOuts`, `nOuts` and `aOuts` (ECP5, NX, Intel): one divider per output, `none` as soon as an output has none. -/
def firstDivs {α β : Type} (f : α → Option β) : List α → Option (List β)
  | [] => some []
  | o :: os =>
    match f o with
    | none => none
    | some dv => (firstDivs f os).map (dv :: ·)

theorem firstDivs_some {α β : Type} {f : α → Option β} : ∀ {l : List α} {ds : List β}, firstDivs f l = some ds →
    ds.length = l.length ∧ (∀ dv ∈ ds, ∃ o ∈ l, f o = some dv) ∧ ∀ p ∈ l.zip ds, f p.1 = some p.2
  | [], ds, h => by cases h; simp
  | o :: os, ds, h => by
    rw [firstDivs] at h
    split at h
    · cases h
    · rename_i dv ho
      obtain ⟨ds', hr, rfl⟩ := Option.map_eq_some_iff.mp h
      obtain ⟨h1, h2, h3⟩ := firstDivs_some hr
      refine ⟨by simp [h1], ?_, ?_⟩
      · intro x hx
        rcases List.mem_cons.mp hx with rfl | hx
        · exact ⟨o, List.mem_cons_self, ho⟩
        · obtain ⟨o', ho', e⟩ := h2 x hx
          exact ⟨o', List.mem_cons_of_mem _ ho', e⟩
      · intro p hp
        rcases List.mem_cons.mp hp with rfl | hp
        · exact ho
        · exact h3 p hp

theorem firstDivs_none {α β γ : Type} {f : α → Option β} : ∀ {l : List α}, firstDivs f l = none →
    ∀ ds : List γ, l.length ≤ ds.length → ∃ p ∈ l.zip ds, f p.1 = none
  | [], h => by cases h
  | o :: os, h => by
    intro ds hl
    match ds, hl with
    | dv :: ds', hl =>
      rw [firstDivs] at h
      split at h
      · rename_i ho
        exact ⟨(o, dv), List.mem_cons_self, ho⟩
      · obtain ⟨p, hp, e⟩ := firstDivs_none (Option.map_eq_none_iff.mp h) ds' (Nat.le_of_succ_le_succ hl)
        exact ⟨p, List.mem_cons_of_mem _ hp, e⟩

/-- `eOut` and `nOut` are `l.find? (p o)`: the divider range scanned for the first value that meets the request. -/
theorem firstDivs_find?_some {α β : Type} {l : List β} {p : α → β → Bool} {outs : List α} {ds : List β}
    (h : firstDivs (fun o => l.find? (p o)) outs = some ds) :
    ds.length = outs.length ∧ (∀ dv ∈ ds, dv ∈ l) ∧ ∀ q ∈ outs.zip ds, p q.1 q.2 = true := by
  obtain ⟨h1, h2, h3⟩ := firstDivs_some h
  exact ⟨h1, fun dv hdv => let ⟨_, _, e⟩ := h2 dv hdv; (find?_first e).1, fun q hq => (find?_first (h3 q hq)).2.1⟩

theorem firstDivs_find?_none {α β : Type} {l : List β} {p : α → β → Bool} {outs : List α}
    (h : firstDivs (fun o => l.find? (p o)) outs = none) (ds : List β) (hl : outs.length ≤ ds.length)
    (hmem : ∀ dv ∈ ds, dv ∈ l) : ¬ ∀ q ∈ outs.zip ds, p q.1 q.2 = true := by
  obtain ⟨q, hq, e⟩ := firstDivs_none h ds hl
  intro hall
  have := find?_none e q.2 (hmem _ (List.of_mem_zip hq).2)
  rw [hall q hq] at this
  cases this

theorem mem_zip_of_getElem? {α β : Type} {l₁ : List α} {l₂ : List β} {i : Nat} {a : α} {b : β}
    (h1 : l₁[i]? = some a) (h2 : l₂[i]? = some b) : (a, b) ∈ l₁.zip l₂ := by
  apply List.mem_of_getElem? (i := i)
  rw [List.getElem?_zip_eq_some]
  exact ⟨h1, h2⟩

theorem Q.not_lt_eq_le (a b : Q) : (!(a.lt b)) = b.le a := by
  unfold Q.lt Q.le
  by_cases h : a.num * b.den < b.num * a.den
  · simp [h]
  · simp [h]; omega

/-- The same as an equivalence, for hypotheses (the Boolean equation is for rewriting). -/
theorem Q.lt_eq_false_iff {a b : Q} : a.lt b = false ↔ b.le a = true := by
  rw [← Q.not_lt_eq_le]; cases a.lt b <;> simp

theorem Q.le_refl (a : Q) : a.le a = true := by unfold Q.le; simp

theorem Q.le_trans {a b c : Q} (hb : 0 < b.den) (h1 : a.le b = true) (h2 : b.le c = true) : a.le c = true := by
  unfold Q.le at *
  have x := of_decide_eq_true h1
  have y := of_decide_eq_true h2
  apply decide_eq_true
  have k : a.num * c.den * b.den ≤ c.num * a.den * b.den := by
    calc a.num * c.den * b.den = (a.num * b.den) * c.den := Nat.mul_right_comm ..
      _ ≤ (b.num * a.den) * c.den := Nat.mul_le_mul_right _ x
      _ = (b.num * c.den) * a.den := Nat.mul_right_comm ..
      _ ≤ (c.num * b.den) * a.den := Nat.mul_le_mul_right _ y
      _ = c.num * a.den * b.den := Nat.mul_right_comm ..
  exact Nat.le_of_mul_le_mul_right k hb

theorem Q.le_of_lt {a b : Q} (h : a.lt b = true) : a.le b = true := by
  unfold Q.lt at h; unfold Q.le
  have := of_decide_eq_true h
  exact decide_eq_true (Nat.le_of_lt this)

theorem lt_or_lt_eq_false {lo hi x : Q} : (x.lt lo || hi.lt x) = false ↔ inRange lo hi x = true := by
  unfold inRange
  rw [← Q.not_lt_eq_le x lo, ← Q.not_lt_eq_le hi x]
  cases x.lt lo <;> cases hi.lt x <;> simp

theorem inRange_congr {lo hi x y : Q} (hy : 0 < y.den) (heq : x.num * y.den = y.num * x.den)
    (h : inRange lo hi y = true) : inRange lo hi x = true := by
  simp only [inRange, Bool.and_eq_true] at h ⊢
  exact ⟨Q.le_trans hy h.1 (decide_eq_true (Nat.le_of_eq heq.symm)), Q.le_trans hy (decide_eq_true (Nat.le_of_eq heq)) h.2⟩

theorem Res.eq_rejected_of {α : Type} {x : Res α} (h1 : ∀ a, x ≠ .ok a) (h2 : x ≠ .crash) (h3 : x ≠ .assertion) :
    x = .rejected := by
  cases x <;> simp_all

theorem consPin_ok {pin : Nat} {x : Res (List Nat)} {l : List Nat} (h : Res.consPin pin x = .ok l) :
    ∃ l', x = .ok l' ∧ l = pin :: l' := by
  cases x <;> simp [Res.consPin] at h
  exact ⟨_, rfl, h.symm⟩

theorem consPin_eq_rejected {pin : Nat} {x : Res (List Nat)} : Res.consPin pin x = .rejected ↔ x = .rejected := by
  cases x <;> simp [Res.consPin]

theorem consPin_eq_assertion {pin : Nat} {x : Res (List Nat)} : Res.consPin pin x = .assertion ↔ x = .assertion := by
  cases x <;> simp [Res.consPin]

theorem consW_ok {α : Type} {x : Res α} {y : Res (List α)} {l : List α} (h : x.consW y = .ok l) :
    ∃ a l', x = .ok a ∧ y = .ok l' ∧ l = a :: l' := by
  cases x <;> cases y <;> simp [Res.consW] at h
  exact ⟨_, _, rfl, rfl, h.symm⟩

theorem consW_crash {α : Type} {x : Res α} {y : Res (List α)} :
    x.consW y = .crash ↔ x = .crash ∨ y = .crash := by
  cases x <;> cases y <;> simp [Res.consW]

theorem consW_ne_assertion {α : Type} {x : Res α} {y : Res (List α)} : x.consW y ≠ .assertion := by
  cases x <;> cases y <;> simp [Res.consW]

theorem consW_rejected {α : Type} {x : Res α} {y : Res (List α)} (h : x.consW y = .rejected) :
    x ≠ .crash ∧ y ≠ .crash ∧ ((∀ a, x ≠ .ok a) ∨ (∀ l, y ≠ .ok l)) := by
  cases x <;> cases y <;> simp [Res.consW] at h ⊢

theorem mapW_eq_crash {α β : Type} {f : α → β} {x : Res α} : x.mapW f = .crash ↔ x = .crash := by
  cases x <;> simp [Res.mapW]

theorem mapW_eq_rejected {α β : Type} {f : α → β} {x : Res α} : x.mapW f = .rejected ↔ x = .rejected := by
  cases x <;> simp [Res.mapW]

theorem mapW_ok {α β : Type} {f : α → β} {x : Res α} {b : β} (h : x.mapW f = .ok b) : ∃ a, x = .ok a ∧ b = f a := by
  cases x <;> simp [Res.mapW] at h
  exact ⟨_, rfl, h.symm⟩

end Litex.Clock
