import LitexProofs.Clock.Lattice
/-
  Windows for the divider loops.  The searches walk `range(lo, hi)` and do nothing at a value unless a test holds there;
  the test (a frequency inside a window, or within a margin `|x − f| ≤ f·m`, hence inside `[f(1−m), f(1+m)]`) confines the
  value to an interval that one ceiling and one floor give, and the loop is the loop over that window.  A request is then
  evaluated (by the kernel, in LitexProps/C20.lean) on a few values per loop instead of the whole range.  The ECP5 and NX
  loops are here, GW1N in IntelGowin.lean, Trion in Efinix.lean.
-/
namespace Litex.Clock

theorem pyRange_append {lo a hi : Nat} (h1 : lo ≤ a) (h2 : a ≤ hi) : pyRange lo a ++ pyRange a hi = pyRange lo hi := by
  obtain ⟨m, rfl⟩ := Nat.exists_eq_add_of_le h1
  obtain ⟨n, rfl⟩ := Nat.exists_eq_add_of_le h2
  unfold pyRange
  rw [Nat.add_sub_cancel_left, Nat.add_sub_cancel_left, List.range'_append_1, Nat.add_assoc, Nat.add_sub_cancel_left]

/-- `P x`: the body of the loop does something at `x`.  When the window is empty the first stretch is the whole range. -/
theorem pyRange_window {lo hi a b : Nat} {P : Nat → Prop} (h : ∀ x ∈ pyRange lo hi, P x → a ≤ x ∧ x < b) :
    ∃ pre post, pyRange lo hi = pre ++ (pyRange (max lo a) (min hi b) ++ post) ∧ ∀ x ∈ pre ++ post, ¬ P x := by
  simp only [mem_pyRange] at h
  by_cases hab : max lo a ≤ min hi b
  · refine ⟨pyRange lo (max lo a), pyRange (min hi b) hi, ?_, fun x hx hp => ?_⟩
    · rw [pyRange_append hab (Nat.min_le_left hi b),
        pyRange_append (Nat.le_max_left lo a) (Nat.le_trans hab (Nat.min_le_left hi b))]
    · simp only [List.mem_append, mem_pyRange] at hx
      have := h x (by omega) hp
      omega
  · refine ⟨pyRange lo hi, [], ?_, fun x hx hp => ?_⟩
    · rw [show pyRange (max lo a) (min hi b) = [] by unfold pyRange; rw [Nat.sub_eq_zero_of_le (by omega)]; rfl]; simp
    · simp only [List.append_nil, mem_pyRange] at hx
      have := h x hx hp
      omega

theorem findSome?_pyRange_window {α : Type} {f : Nat → Option α} {lo hi a b : Nat}
    (h : ∀ x ∈ pyRange lo hi, f x ≠ none → a ≤ x ∧ x < b) :
    (pyRange lo hi).findSome? f = (pyRange (max lo a) (min hi b)).findSome? f := by
  obtain ⟨pre, post, e, hn⟩ := pyRange_window h
  simp only [List.mem_append, ne_eq, Classical.not_not] at hn
  rw [e, List.findSome?_append, List.findSome?_append, List.findSome?_eq_none_iff.mpr fun x hx => hn x (Or.inl hx),
    List.findSome?_eq_none_iff.mpr fun x hx => hn x (Or.inr hx)]
  simp

theorem flatMap_pyRange_window {β : Type} {g : Nat → List β} {lo hi a b : Nat}
    (h : ∀ x ∈ pyRange lo hi, g x ≠ [] → a ≤ x ∧ x < b) :
    (pyRange lo hi).flatMap g = (pyRange (max lo a) (min hi b)).flatMap g := by
  obtain ⟨pre, post, e, hn⟩ := pyRange_window h
  simp only [List.mem_append, ne_eq, Classical.not_not] at hn
  rw [e, List.flatMap_append, List.flatMap_append, List.flatMap_eq_nil_iff.mpr fun x hx => hn x (Or.inl hx),
    List.flatMap_eq_nil_iff.mpr fun x hx => hn x (Or.inr hx)]
  simp

/- `⌈q/hi⌉ ≤ n ≤ ⌊q/lo⌋` iff `lo ≤ q/n ≤ hi`, and likewise for `q·n`; of the four implications behind each, the one from the
   test to the floor and the one from the ceiling to the test need a positive denominator. -/

theorem inRange_divNat_bounds {lo hi q : Q} {n : Nat} (h : inRange lo hi (q.divNat n) = true) :
    (q.div hi).ceil ≤ n ∧ (0 < (q.div lo).den → n ≤ (q.div lo).floor) := by
  simp only [inRange, Bool.and_eq_true] at h
  exact ⟨ceilDiv_le (Nat.le_trans (of_decide_eq_true h.2) (Nat.le_of_eq (by simp only [Q.divNat]; ac_rfl))),
    fun hD => (Nat.le_div_iff_mul_le hD).mpr
      (Nat.le_trans (Nat.le_of_eq (by simp only [Q.divNat]; ac_rfl)) (of_decide_eq_true h.1))⟩

theorem inRange_divNat_of_bounds {lo hi q : Q} {n : Nat} (hp : 0 < (q.div hi).den) (h1 : (q.div hi).ceil ≤ n)
    (h2 : n ≤ (q.div lo).floor) : inRange lo hi (q.divNat n) = true :=
  Bool.and_eq_true_iff.mpr
    ⟨decide_eq_true (Nat.le_trans (Nat.le_of_eq (by simp only [Q.divNat]; ac_rfl)) (mul_le_of_le_div h2)),
     decide_eq_true (Nat.le_trans (le_of_ceilDiv_le hp h1) (Nat.le_of_eq (by simp only [Q.divNat]; ac_rfl)))⟩

theorem inRange_mulNat_bounds {lo hi q : Q} {n : Nat} (h : inRange lo hi (q.mulNat n) = true) :
    (lo.div q).ceil ≤ n ∧ (0 < (hi.div q).den → n ≤ (hi.div q).floor) := by
  simp only [inRange, Bool.and_eq_true] at h
  exact ⟨ceilDiv_le (Nat.le_trans (of_decide_eq_true h.1) (Nat.le_of_eq (by simp only [Q.mulNat]; ac_rfl))),
    fun hD => (Nat.le_div_iff_mul_le hD).mpr
      (Nat.le_trans (Nat.le_of_eq (by simp only [Q.mulNat]; ac_rfl)) (of_decide_eq_true h.2))⟩

/-- A `b` with denominator 0 gives no upper bound (its `floor` is 0 in Lean and would close the window); an `a` with
    denominator 0 has `ceil` 0 and only opens it. -/
def qWindow (lo hi : Nat) (a b : Q) : List Nat :=
  pyRange (max lo a.ceil) (min hi (if b.den = 0 then hi else b.floor + 1))

theorem mem_qWindow_of {lo hi n : Nat} {a b : Q} (hn : n ∈ pyRange lo hi) (h : a.ceil ≤ n ∧ (0 < b.den → n ≤ b.floor)) :
    a.ceil ≤ n ∧ n < if b.den = 0 then hi else b.floor + 1 := by
  refine ⟨h.1, ?_⟩
  split
  · exact (mem_pyRange.mp hn).2
  · exact Nat.lt_succ_of_le (h.2 (by omega))

/-- `n` with `vlo ≤ q·n ≤ vhi`. -/
abbrev mulWindow (lo hi : Nat) (vlo vhi q : Q) : List Nat := qWindow lo hi (vlo.div q) (vhi.div q)
/-- `n` with `vlo ≤ q/n ≤ vhi`. -/
abbrev divWindow (lo hi : Nat) (vlo vhi q : Q) : List Nat := qWindow lo hi (q.div vhi) (q.div vlo)

theorem findSome?_mulWindow {α : Type} {f : Nat → Option α} {lo hi : Nat} {vlo vhi q : Q}
    (h : ∀ n, f n ≠ none → inRange vlo vhi (q.mulNat n) = true) :
    (pyRange lo hi).findSome? f = (mulWindow lo hi vlo vhi q).findSome? f :=
  findSome?_pyRange_window fun n hn hf => mem_qWindow_of hn (inRange_mulNat_bounds (h n hf))

theorem flatMap_mulWindow {β : Type} {g : Nat → List β} {lo hi : Nat} {vlo vhi q : Q}
    (h : ∀ n, g n ≠ [] → inRange vlo vhi (q.mulNat n) = true) :
    (pyRange lo hi).flatMap g = (mulWindow lo hi vlo vhi q).flatMap g :=
  flatMap_pyRange_window fun n hn hf => mem_qWindow_of hn (inRange_mulNat_bounds (h n hf))

/-- Written without the factored sums `P·(md ± mn)`: in either case of the `if` the products `X·md`, `P·md`, `P·mn` are
    atoms of a linear problem. -/
theorem absDiff_mul_le {X P md mn : Nat} (h : (if X ≤ P then P - X else X - P) * md ≤ P * mn) :
    X * md ≤ P * md + P * mn ∧ P * md - P * mn ≤ X * md := by
  by_cases hle : X ≤ P
  · have := Nat.mul_le_mul_right md hle
    simp only [hle, ↓reduceIte, Nat.sub_mul] at h
    omega
  · have := Nat.mul_le_mul_right md (Nat.le_of_not_le hle)
    simp only [hle, ↓reduceIte, Nat.sub_mul] at h
    omega

def Out.lo (o : Out) : Q := o.freq.mul (Q.one.subT o.margin)
def Out.hi (o : Out) : Q := o.freq.mul (Q.one.add o.margin)

/-- (An `f` with denominator 0 passes the margin test at every `x`.) -/
theorem inRange_of_within {x : Q} {o : Out} (hf : 0 < o.freq.den) (h : within x o = true) : inRange o.lo o.hi x = true := by
  obtain ⟨xn, xd⟩ := x
  obtain ⟨⟨fn, fd⟩, _, ⟨mn, md⟩⟩ := o
  simp only [within, Q.le, Q.absDiff, Q.mul] at h hf
  replace h := of_decide_eq_true h
  -- the test is `|X − P|·(fd·md) ≤ fn·mn·(xd·fd)` with X = xn·fd and P = fn·xd; cancelling `fd` leaves `|X − P|·md ≤ P·mn`
  have k := absDiff_mul_le (X := xn * fd) (P := fn * xd) (md := md) (mn := mn) <| Nat.le_of_mul_le_mul_right (by
    calc _ * md * fd = _ * (fd * md) := by ac_rfl
      _ ≤ fn * mn * (xd * fd) := h
      _ = fn * xd * mn * fd := by ac_rfl) hf
  simp only [inRange, Out.lo, Out.hi, Q.le, Q.mul, Q.one, Q.add, Q.subT, Nat.one_mul, Nat.mul_one, Bool.and_eq_true,
    decide_eq_true_eq]
  refine ⟨?_, ?_⟩
  · calc fn * (md - mn) * xd = fn * xd * md - fn * xd * mn := by rw [← Nat.mul_sub]; ac_rfl
      _ ≤ xn * fd * md := k.2
      _ = xn * (fd * md) := by ac_rfl
  · calc xn * (fd * md) = xn * fd * md := by ac_rfl
      _ ≤ fn * xd * md + fn * xd * mn := k.1
      _ = fn * (md + mn) * xd := by rw [← Nat.mul_add]; ac_rfl

theorem find?_within_window (lo hi : Nat) (vco : Q) (o : Out) :
    (pyRange lo hi).find? (fun dv => within (vco.divNat dv) o) =
      (if o.freq.den = 0 then pyRange lo hi else divWindow lo hi o.lo o.hi vco).find? fun dv => within (vco.divNat dv) o := by
  split
  · rfl
  · simp only [List.find?_eq_findSome?_guard]
    exact findSome?_pyRange_window fun dv hdv h => mem_qWindow_of hdv <|
      inRange_divNat_bounds (inRange_of_within (by omega) (by simpa [Option.guard] using h))

/- `eTry` and `nTry` are `if VCO in its window then … else none`: that is all `eFb_window` and `nFb_window` use. -/

theorem Q.mulNat_right_comm (a : Q) (m n : Nat) : (a.mulNat m).mulNat n = (a.mulNat n).mulNat m := by
  simp only [Q.mulNat, Nat.mul_right_comm]

theorem eOut_window (d : EDev) (vco : Q) :
    eOut d vco = fun o => (if o.out.freq.den = 0 then d.clkos else divWindow d.clkoLo d.clkoHi o.out.lo o.out.hi vco).find?
      fun dv => within (vco.divNat dv) o.out :=
  funext fun _ => find?_within_window _ _ _ _

theorem eFb_window (d : EDev) (r : EReq) (clki ofb : Nat) :
    (d.clkfbs.findSome? fun fb => eTry d r clki ofb fb) =
      (mulWindow d.clkfbLo d.clkfbHi d.vcoMin d.vcoMax ((r.clkin.divNat clki).mulNat ofb)).findSome? fun fb =>
        eTry d r clki ofb fb := by
  refine findSome?_mulWindow fun fb h => ?_
  rw [Q.mulNat_right_comm]
  exact Classical.not_not.mp fun hv => h (if_neg hv)

theorem nOut_window (d : NDev) (vco : Q) :
    nOut d vco = fun o => (if o.freq.den = 0 then d.clkos else divWindow d.clkoLo d.clkoHi o.lo o.hi vco).find?
      fun dv => within (vco.divNat dv) o :=
  funext fun _ => find?_within_window _ _ _ _

theorem nFb_window (d : NDev) (r : NReq) (clki : Nat) :
    (d.clkfbs.findSome? fun fb => nTry d r clki fb) =
      (mulWindow d.clkfbLo d.clkfbHi d.vcoMin d.vcoMax (r.clkin.divNat clki)).findSome? fun fb => nTry d r clki fb :=
  findSome?_mulWindow fun _ h => Classical.not_not.mp fun hv => h (if_neg hv)

end Litex.Clock
