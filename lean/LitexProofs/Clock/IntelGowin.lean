import LitexProofs.Clock.Window
import Mathlib.Tactic.Ring
/-
  Proofs about the Intel best-of search and the Gowin GW1N/GW2A search (with the candidate enumeration on its FBDIV
  window, `gCandidates_window`, on which LitexProps/C20.lean evaluates its GW1N test vectors); the GW1NOSC acceptance window.
-/
namespace Litex.Clock

theorem aBestGo_cons (vco : Q) (o : Out) (lim : Q) (c : Q) (rest : List Q) (acc : Option (Q × Q)) :
    ∃ acc', aBestGo vco o lim (c :: rest) acc = aBestGo vco o lim rest acc' ∧
      (acc' = acc ∨ acc' = some (c, (vco.div c).absDiff o.freq) ∧ ((vco.div c).absDiff o.freq).le lim = true) := by
  cases acc with
  | none =>
    simp only [aBestGo]
    split
    · rename_i hc; exact ⟨_, rfl, Or.inr ⟨rfl, (Bool.and_eq_true_iff.mp hc).1⟩⟩
    · exact ⟨_, rfl, Or.inl rfl⟩
  | some a =>
    simp only [aBestGo]
    split
    · rename_i hc; exact ⟨_, rfl, Or.inr ⟨rfl, (Bool.and_eq_true_iff.mp hc).1⟩⟩
    · exact ⟨_, rfl, Or.inl rfl⟩

theorem aBestGo_some {vco : Q} {o : Out} {lim : Q} : ∀ (cs : List Q) (acc : Option (Q × Q)) (res : Q × Q),
    aBestGo vco o lim cs acc = some res →
    acc = some res ∨ (res.1 ∈ cs ∧ res.2 = (vco.div res.1).absDiff o.freq ∧ res.2.le lim = true)
  | [], acc, res, h => Or.inl h
  | c :: rest, acc, res, h => by
    obtain ⟨acc', e, ha⟩ := aBestGo_cons vco o lim c rest acc
    rcases aBestGo_some rest _ res (e ▸ h) with h1 | ⟨h1, h2, h3⟩
    · rcases ha with rfl | ⟨rfl, hl⟩
      · exact Or.inl h1
      · cases h1; exact Or.inr ⟨List.mem_cons_self, rfl, hl⟩
    · exact Or.inr ⟨List.mem_cons_of_mem _ h1, h2, h3⟩

theorem aBest_some {cs : List Q} {vco : Q} {o : Out} {x : Q × Q} (h : aBest cs vco o = some x) :
    x.1 ∈ cs ∧ within (vco.div x.1) o = true := by
  unfold aBest at h
  simp only [Option.map_eq_some_iff] at h
  obtain ⟨⟨c, diff⟩, hgo, rfl⟩ := h
  rcases aBestGo_some cs none (c, diff) hgo with h1 | ⟨h1, h2, h3⟩
  · cases h1
  · simp only at h1 h2 h3
    refine ⟨h1, ?_⟩
    unfold within
    rw [← h2]; exact h3

theorem aOuts_eq (cs : List Q) (vco : Q) : ∀ outs, aOuts cs vco outs = firstDivs (aBest cs vco) outs
  | [] => rfl
  | o :: os => by rw [aOuts, firstDivs, aOuts_eq cs vco os]; cases aBest cs vco o <;> rfl

theorem aOuts_some {cs : List Q} {vco : Q} {outs : List Out} {l : List (Q × Q)} (h : aOuts cs vco outs = some l) :
    l.length = outs.length ∧ ∀ p ∈ outs.zip (l.map (·.1)), p.2 ∈ cs ∧ within (vco.div p.2) p.1 = true := by
  obtain ⟨h1, -, h3⟩ := firstDivs_some (aOuts_eq cs vco outs ▸ h)
  refine ⟨h1, fun p hp => ?_⟩
  rw [← List.map_id outs, List.zip_map, List.mem_map] at hp
  obtain ⟨q, hq, rfl⟩ := hp
  exact aBest_some (h3 q hq)

theorem aTry_some {d : ADev} {r : AReq} {cs : List Q} {n m : Nat} {x : ACfg × Q} (h : aTry d r cs n m = some x) :
    x.1.n = n ∧ x.1.m = m ∧ inRangeM d.vcoMin d.vcoMax r.vcoMargin ((r.clkin.mulNat m).divNat n) = true ∧
    x.1.cs.length = r.outs.length ∧
    ∀ p ∈ r.outs.zip x.1.cs, p.2 ∈ cs ∧ within (((r.clkin.mulNat m).divNat n).div p.2) p.1 = true := by
  obtain ⟨hv, l, hl, rfl⟩ := ite_map_eq_some.mp h
  obtain ⟨h1, h2⟩ := aOuts_some hl
  exact ⟨rfl, rfl, hv, by simp [h1], h2⟩

theorem foldl_aStep_some {d : ADev} {r : AReq} {cs : List Q} (grid : List (Nat × Nat)) {x : ACfg × Q}
    (h : grid.foldl (aStep d r cs) none = some x) : ∃ nm ∈ grid, aTry d r cs nm.1 nm.2 = some x := by
  refine List.foldlRecOn grid _ (motive := fun acc => ∀ x, acc = some x → ∃ nm ∈ grid, aTry d r cs nm.1 nm.2 = some x)
    (by intro _ h; cases h) (fun acc ih nm hm x h => ?_) x h
  unfold aStep at h
  split at h
  · exact ih x h
  · rename_i c key ht
    split at h
    · exact ⟨nm, hm, ht.trans h⟩
    · split at h
      · exact ⟨nm, hm, ht.trans h⟩
      · exact ih x h

theorem mem_aGrid {d : ADev} {r : AReq} {nm : Nat × Nat} (h : nm ∈ aGrid d r) :
    nm.1 ∈ aNRange d r ∧ nm.2 ∈ pyRange d.mLo d.mHi := by
  unfold aGrid at h
  simp only [List.mem_flatMap, List.mem_map] at h
  obtain ⟨n, hn, m, hm, rfl⟩ := h
  exact ⟨hn, hm⟩

/-- `h1`, `h2`: the PFD limits and the input frequency are positive. -/
theorem mem_aNRange {d : ADev} {r : AReq} {n : Nat} (h1 : 0 < r.clkin.den * d.pfdMax.num)
    (h2 : 0 < r.clkin.den * d.pfdMin.num) :
    n ∈ aNRange d r ↔ d.nLo ≤ n ∧ n < d.nHi ∧ inRange d.pfdMin d.pfdMax (r.clkin.divNat n) = true := by
  simp only [aNRange, mem_pyRange, Nat.max_le, Nat.lt_min, Nat.lt_succ_iff]
  exact ⟨fun ⟨⟨hc, hlo⟩, hf, hhi⟩ => ⟨hlo, hhi, inRange_divNat_of_bounds h1 hc hf⟩,
    fun ⟨hlo, hhi, h⟩ => ⟨⟨(inRange_divNat_bounds h).1, hlo⟩, (inRange_divNat_bounds h).2 h2, hhi⟩⟩

theorem aBestGo_isSome {vco : Q} {o : Out} {lim : Q} : ∀ (cs : List Q) (x : Q × Q),
    (aBestGo vco o lim cs (some x)).isSome = true
  | [], _ => rfl
  | c :: rest, x => by
    simp only [aBestGo]
    split
    · exact aBestGo_isSome rest _
    · exact aBestGo_isSome rest _

theorem aBestGo_none {vco : Q} {o : Out} {lim : Q} : ∀ (cs : List Q), aBestGo vco o lim cs none = none →
    ∀ c ∈ cs, ((vco.div c).absDiff o.freq).le lim = false
  | [], _ => by intro c hc; cases hc
  | c :: rest, h => by
    simp only [aBestGo, Bool.and_true] at h
    split at h
    · have := aBestGo_isSome (vco := vco) (o := o) (lim := lim) rest (c, (vco.div c).absDiff o.freq)
      rw [h] at this; cases this
    · rename_i hc
      intro c' hc'
      rcases List.mem_cons.mp hc' with rfl | hc'
      · simpa using hc
      · exact aBestGo_none rest h c' hc'

theorem aBest_none {cs : List Q} {vco : Q} {o : Out} (h : aBest cs vco o = none) :
    ∀ c ∈ cs, within (vco.div c) o = false := by
  unfold aBest at h
  simp only [Option.map_eq_none_iff] at h
  exact aBestGo_none cs h

theorem aOuts_none {cs : List Q} {vco : Q} {outs : List Out} (h : aOuts cs vco outs = none) (l : List Q)
    (hl : outs.length ≤ l.length) : ¬ (∀ p ∈ outs.zip l, p.2 ∈ cs ∧ within (vco.div p.2) p.1 = true) := by
  obtain ⟨p, hp, e⟩ := firstDivs_none (aOuts_eq cs vco outs ▸ h) l hl
  intro hall
  obtain ⟨h1, h2⟩ := hall p hp
  rw [aBest_none e p.2 h1] at h2
  cases h2

theorem aStep_none {d : ADev} {r : AReq} {cs : List Q} {acc : Option (ACfg × Q)} {nm : Nat × Nat}
    (h : aStep d r cs acc nm = none) : acc = none ∧ aTry d r cs nm.1 nm.2 = none := by
  unfold aStep at h
  cases ht : aTry d r cs nm.1 nm.2 with
  | none => simp only [ht] at h; exact ⟨h, rfl⟩
  | some y =>
    obtain ⟨c, key⟩ := y
    simp only [ht] at h
    cases acc with
    | none => cases h
    | some a => simp only at h; split at h <;> cases h

theorem foldl_aStep_none {d : ADev} {r : AReq} {cs : List Q} : ∀ (grid : List (Nat × Nat)) (acc : Option (ACfg × Q)),
    grid.foldl (aStep d r cs) acc = none → acc = none ∧ ∀ nm ∈ grid, aTry d r cs nm.1 nm.2 = none
  | [], acc, h => ⟨h, fun _ hm => by cases hm⟩
  | nm :: rest, acc, h => by
    simp only [List.foldl_cons] at h
    obtain ⟨h1, h2⟩ := foldl_aStep_none rest _ h
    obtain ⟨g1, g2⟩ := aStep_none h1
    refine ⟨g1, ?_⟩
    intro nm' hm
    rcases List.mem_cons.mp hm with rfl | hm
    · exact g2
    · exact h2 nm' hm

/-- ALTPLL: `clkin * MULTIPLY_BY / DIVIDE_BY` (DIVIDE_BY = c*n) is the configured `vco/c`. -/
theorem altpll_freq (r : AReq) (c : ACfg) (cv : Q) :
    ((r.clkin.mulNat c.m).div (cv.mulNat c.n)).beq ((c.vco r).div cv) = true := by
  unfold Q.beq
  apply decide_eq_true
  simp only [Q.mul, Q.div, Q.mulNat, Q.divNat, ACfg.vco]
  ring

theorem aParams_spec (r : AReq) (c : ACfg) :
    aParams r c = (c.cs.zip r.outs).map fun (cv, o) => (cv.mulNat c.n, c.m, aPhasePs ((c.vco r).div cv) o.phase) := rfl

theorem aPhasePs_full_turn (f : Q) : aPhasePs f ⟨360, 1⟩ = ((10 ^ 12 * f.den / f.num : Nat) : Int) := by
  unfold aPhasePs SQ.trunc
  simp only
  rw [Int.tdiv_eq_ediv_of_nonneg (Int.mul_nonneg (Int.natCast_nonneg _) (by decide))]
  have e : ((f.num * 1 * 360 : Nat) : Int) = (f.num : Int) * 360 := by push_cast; ring
  rw [e, Int.mul_ediv_mul_of_pos_left _ _ (by decide : (0 : Int) < 360)]
  norm_cast

theorem aPhasePs_zero (f : Q) (k : Nat) : aPhasePs f ⟨0, k⟩ = 0 := by
  unfold aPhasePs SQ.trunc
  simp

/-- The acceptance test of `GW1NOSC`: the test inside `gOscDiv`. -/
def gOscOk (osc : Q) (o : Out) (dv : Nat) : Bool :=
  (o.freq.mul (Q.one.subT o.margin)).le (osc.divNat dv) && (osc.divNat dv).le (o.freq.mul (Q.one.add o.margin))

theorem gOscDiv_eq (lo hi : Nat) (osc : Q) (o : Out) :
    gOscDiv lo hi osc o = (pyRange lo hi).reverse.find? (gOscOk osc o) := rfl

theorem gPick_mem : ∀ {l : List (Q × Nat × Nat × Nat)} {x}, gPick l = some x → x ∈ l
  | c :: cs, _, h => by
    cases h
    exact List.foldlRecOn cs _ (motive := (· ∈ c :: cs)) List.mem_cons_self fun b hb y hy => by
      split
      · exact List.mem_cons_of_mem _ hy
      · exact hb

theorem gPick_none {l : List (Q × Nat × Nat × Nat)} (h : gPick l = none) : l = [] := by
  cases l with
  | nil => rfl
  | cons c cs => simp [gPick] at h

theorem mem_gCandidates {d : GDev} {r : GReq} {fm : Out} {x : Q × Nat × Nat × Nat} :
    x ∈ gCandidates d r fm ↔
      x.2.1 ∈ pyRange 1 64 ∧ x.2.2.1 ∈ pyRange 1 64 ∧ x.2.2.2 ∈ gOdivs ∧
      inRange d.pfdMin d.pfdMax (r.clkin.divNat x.2.1) = true ∧
      inRangeM d.vcoMin d.vcoMax r.vcoMargin ((gOutF r x.2.1 x.2.2.1).mulNat x.2.2.2) = true ∧
      ((gOutF r x.2.1 x.2.2.1).absDiff fm.freq).le (fm.freq.mul fm.margin) = true ∧
      x.1 = (gOutF r x.2.1 x.2.2.1).absDiff fm.freq := by
  obtain ⟨df, i, f, o⟩ := x
  simp only [gCandidates, gOutF, List.mem_flatMap, List.mem_ite_nil_left, List.mem_filterMap, Bool.not_eq_true,
    lt_or_lt_eq_false, Option.ite_none_right_eq_some, Bool.and_eq_true, Option.some.injEq, Prod.mk.injEq]
  exact ⟨fun ⟨_, hi, hp, _, hf, _, ho, ⟨hv, hd⟩, e0, e1, e2, e3⟩ => by subst e1 e2 e3; exact ⟨hi, hf, ho, hp, hv, hd, e0.symm⟩,
    fun ⟨hi, hf, ho, hp, hv, hd, e0⟩ => ⟨i, hi, hp, f, hf, o, ho, ⟨hv, hd⟩, e0.symm, rfl, rfl, rfl⟩⟩

/-- A candidate needs CLKOUT = `clkin/idiv·fdiv` within the margin of the highest requested frequency `fm`, which leaves a
    window of FBDIV values for each IDIV.  Unconditional (a frequency with denominator 0 keeps the whole range) because
    `gSearch` binds `fm` only inside. -/
theorem gCandidates_window (d : GDev) (r : GReq) (fm : Out) :
    gCandidates d r fm = (pyRange 1 64).flatMap fun idiv =>
      let pfd := r.clkin.divNat idiv
      if pfd.lt d.pfdMin || d.pfdMax.lt pfd then [] else
      (if fm.freq.den = 0 then pyRange 1 64 else mulWindow 1 64 fm.lo fm.hi pfd).flatMap fun fdiv =>
        let outF := (r.clkin.mulNat fdiv).divNat idiv
        let diff := outF.absDiff fm.freq
        gOdivs.filterMap fun odiv =>
          if inRangeM d.vcoMin d.vcoMax r.vcoMargin (outF.mulNat odiv) && diff.le (fm.freq.mul fm.margin)
          then some (diff, idiv, fdiv, odiv) else none := by
  unfold gCandidates
  congr 1; funext idiv
  dsimp only
  split
  · rfl
  · split
    · rfl
    refine flatMap_mulWindow fun fdiv h => inRange_of_within (by omega) ?_
    obtain ⟨x, hx⟩ := List.exists_mem_of_ne_nil _ h
    obtain ⟨odiv, -, ho⟩ := List.mem_filterMap.mp hx
    split at ho
    · rename_i hc; exact (Bool.and_eq_true_iff.mp hc).2
    · cases ho

theorem gSdiv_spec {fm : Out} {outs : List Out} {sdiv : Nat} (h : gSdiv fm outs = some sdiv) :
    sdiv % 2 = 0 ∧ ∀ o ∈ outs, gTh fm o ≠ 1 → gTh fm o ≠ 3 → gTh fm o = sdiv := by
  unfold gSdiv at h
  simp only at h
  -- two refusals (more than two dividers ≠ 1; an illegal pair or an odd CLKOUTD divider), then the accepted case, where
  -- `dd` (the dividers other than 1 and 3) has at most one element: no element gives SDIV 2, one element is SDIV
  split at h
  · cases h
  · split at h
    · cases h
    · rename_i hlen hcond
      simp only [Option.some.injEq] at h
      simp only [not_or, not_and_or] at hcond
      obtain ⟨_, hd2, hd1⟩ := hcond
      generalize hdd : (List.filter (fun x => decide (x ≠ 3)) (List.filter (fun x => decide (x ≠ 1)) (List.map (gTh fm) outs))) = dd at *
      have hmem : ∀ o ∈ outs, gTh fm o ≠ 1 → gTh fm o ≠ 3 → gTh fm o ∈ dd := by
        intro o ho h1 h3
        rw [← hdd]
        simp only [List.mem_filter, List.mem_map, decide_eq_true_eq]
        exact ⟨⟨⟨o, ho, rfl⟩, h1⟩, h3⟩
      have hle : dd.length ≤ 2 := by
        rw [← hdd]
        exact Nat.le_trans (List.length_filter_le _ _) (by omega)
      match dd, hmem, hle, hd2, hd1, h with
      | [], hmem, _, _, _, h =>
        simp at h; subst h
        exact ⟨rfl, fun o ho h1 h3 => absurd (hmem o ho h1 h3) (by simp)⟩
      | [a], hmem, _, _, hd1, h =>
        simp at h hd1; subst h
        refine ⟨by omega, fun o ho h1 h3 => ?_⟩
        simpa using hmem o ho h1 h3
      | [_, _], _, _, hd2, _, _ => simp at hd2
      | _ :: _ :: _ :: _, _, hle, _, _, _ => simp at hle

theorem gPins_ok {outF : Q} {fm : Out} {sdiv : Nat} : ∀ {outs : List Out} {hasP : Bool} {pins : List Nat},
    gPins outF fm outs hasP = .ok pins →
    (∀ o ∈ outs, gTh fm o ≠ 1 → gTh fm o ≠ 3 → gTh fm o = sdiv) →
    pins.length = outs.length ∧ ∀ p ∈ outs.zip pins, p.2 ≤ 3 ∧ gMiss (gPinFreq outF sdiv p.2) p.1 = false
  | [], _, pins, h, _ => by simp [gPins] at h; subst h; simp
  | o :: os, hasP, pins, h, hs => by
    have hs' : ∀ o' ∈ os, gTh fm o' ≠ 1 → gTh fm o' ≠ 3 → gTh fm o' = sdiv :=
      fun o' ho' => hs o' (List.mem_cons_of_mem _ ho')
    unfold gPins at h
    simp only at h
    -- the code's branches in order: th = 0 (crash) and a missed frequency (rejected) give no pins; then by `th`:
    -- 1 → CLKOUT (phase 0) or CLKOUTP (once), 3 → CLKOUTD3, anything else → CLKOUTD.  `fin` is the common ending.
    split at h
    · cases h
    · split at h
      · cases h
      · rename_i hth hmiss
        have hmiss' : gMiss (outF.divNat (gTh fm o)) o = false := by simpa using hmiss
        have fin : ∀ (pin : Nat) (hp : Bool), pin ≤ 3 → gPinFreq outF sdiv pin = outF.divNat (gTh fm o) →
            (gPins outF fm os hp).consPin pin = .ok pins →
            pins.length = (o :: os).length ∧
              ∀ p ∈ (o :: os).zip pins, p.2 ≤ 3 ∧ gMiss (gPinFreq outF sdiv p.2) p.1 = false := by
          intro pin hp hpin hfreq hc
          obtain ⟨l', hl', rfl⟩ := consPin_ok hc
          obtain ⟨i1, i2⟩ := gPins_ok hl' hs'
          refine ⟨by simp [i1], fun p hp' => ?_⟩
          rcases List.mem_cons.mp hp' with rfl | hp'
          · exact ⟨hpin, by simp only; rw [hfreq]; exact hmiss'⟩
          · exact i2 p hp'
        split at h
        · rename_i h1
          -- th = 1: CLKOUT / CLKOUTP carry outF = outF/1
          have e1 : outF.divNat (gTh fm o) = outF := by
            rw [h1]; cases outF; simp [Q.divNat]
          split at h
          · exact fin 0 hasP (by omega) (by simp [gPinFreq, e1]) h
          · split at h
            · cases h
            · exact fin 1 true (by omega) (by simp [gPinFreq, e1]) h
        · split at h
          · rename_i h3
            exact fin 2 hasP (by omega) (by simp [gPinFreq, h3]) h
          · rename_i h1 h3
            exact fin 3 hasP (by omega) (by simp [gPinFreq, hs o List.mem_cons_self h1 h3]) h

theorem gSearch_sound {d : GDev} {r : GReq} {c : GCfg} (h : gSearch d r = .ok c) : GValid d r c := by
  unfold gSearch at h
  cases hfm : gFreqMax r.outs with
  | none => simp [hfm] at h
  | some fm =>
    simp only [hfm] at h
    cases hp : gPick (gCandidates d r fm) with
    | none => simp [hp] at h
    | some x =>
      obtain ⟨df, idiv, fdiv, odiv⟩ := x
      simp only [hp] at h
      split at h
      · cases h
      · cases hsd : gSdiv fm r.outs with
        | none => simp [hsd] at h
        | some sdiv =>
          simp only [hsd] at h
          cases hpin : gPins (gOutF r idiv fdiv) fm r.outs false with
          | ok pins =>
            simp only [hpin] at h
            cases h
            obtain ⟨m1, m2, m3, m4, m5, _⟩ := mem_gCandidates.mp (gPick_mem hp)
            obtain ⟨s1, s2⟩ := gSdiv_spec hsd
            obtain ⟨p1, p2⟩ := gPins_ok (sdiv := sdiv) hpin s2
            exact ⟨m1, m2, m3, m4, m5, s1, p1, p2⟩
          | rejected => simp [hpin] at h
          | assertion => simp [hpin] at h
          | crash => simp [hpin] at h

theorem gParams_spec (r : GReq) (c : GCfg) (hi : 1 ≤ c.idiv) (hf : 1 ≤ c.fdiv) :
    (gParams c).1 + 1 = c.idiv ∧ (gParams c).2.1 + 1 = c.fdiv ∧ (gParams c).2.2.1 = c.odiv ∧ (gParams c).2.2.2 = c.sdiv ∧
    gOutF r ((gParams c).1 + 1) ((gParams c).2.1 + 1) = gOutF r c.idiv c.fdiv := by
  have a : (gParams c).1 + 1 = c.idiv := by show c.idiv - 1 + 1 = c.idiv; omega
  have b : (gParams c).2.1 + 1 = c.fdiv := by show c.fdiv - 1 + 1 = c.fdiv; omega
  exact ⟨a, b, rfl, rfl, by rw [a, b]⟩

end Litex.Clock
