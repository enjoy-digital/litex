import LitexModel.Fhdl.Print
import LitexProofs.Verilog.Eval
/-
  The expression printer.  First stage of the printer theorem: the text printed by `printE`, read over unbounded
  integers (`ideal`), denotes exactly `evalF` — under the printer-side side condition `fitsP` (`printE_ideal`).
  Composed with the Verilog sizing theorem (`evalV_ideal`) this is the printer theorem `printE_correct`.  Last, the
  printer's own sign flag (second component of `_generate_expression`, which decides where `$signed({1'd0, x})`
  promotions are inserted) agrees with the self-determined type IEEE 1364 gives the printed text (`printE_sign`).
  On the way: what the constant printers `printConst` / `printConstU` give (`selfWidth_`, `selfSigned_`, `ideal_`,
  `fitsV_`, `evalV_printConstU`), which the statement level needs for case keys and reset values.
-/
namespace Litex.C01

theorem idealBin_vop (o : Op2) (x y : Int) : idealBin (vop o) x y = evalOp2 o x y := by
  cases o <;> rfl

/-- `$signed({1'd0, r})` denotes `r` when `r` is a non-negative number of its own width. -/
theorem ideal_toSignedV (ρ : Env) (r : VExpr) (h : inRange (selfWidth r) false (ideal ρ r) = true) :
    ideal ρ (toSignedV r) = ideal ρ r := by
  have hx := inRange_unsigned.1 h
  -- the concatenation has the value of `r`, a non-negative number below `2^w`: in signed range of `w + 1` bits
  have hcat : idealConcat ρ [.lit 1 false 0, r] = ideal ρ r := by
    show 0 * p2 (selfWidth r + 0) + (tn (selfWidth r) (ideal ρ r) * p2 0 + 0) = _
    rw [tn_of_range hx.1 hx.2, Int.zero_mul, Int.zero_add, p2_zero, Int.mul_one, Int.add_zero]
  show toS (1 + (selfWidth r + 0)) (tn (1 + (selfWidth r + 0)) (idealConcat ρ [.lit 1 false 0, r])) = _
  rw [hcat, Nat.add_zero, Nat.add_comm 1]
  exact toS_tn_of_inRange (Nat.succ_pos _)
    (inRange_signed.2 ⟨Int.le_trans (Int.neg_nonpos_of_nonneg (Int.le_of_lt (p2_pos _))) hx.1, hx.2⟩)

theorem selfWidth_toSignedV (r : VExpr) : selfWidth (toSignedV r) = selfWidth r + 1 :=
  Nat.add_comm 1 (selfWidth r)

theorem idealConcat_append (ρ : Env) (xs : List VExpr) (e : VExpr) :
    idealConcat ρ (xs ++ [e]) = idealConcat ρ xs * p2 (selfWidth e) + tn (selfWidth e) (ideal ρ e) := by
  induction xs with
  | nil => simp [idealConcat, concatWidth, p2_zero]
  | cons x xs ih =>
    simp only [List.cons_append, idealConcat, ih, concatWidth_append, p2_add]
    ring

theorem ideal_prom (ρ : Env) (e : Expr) (b : Bool) (hi : ideal ρ (printE e).1 = evalF ρ e)
    (h : promOk ρ b e = true) :
    ideal ρ (if b then toSignedV (printE e).1 else (printE e).1) = evalF ρ e := by
  cases b
  · exact hi
  · exact (ideal_toSignedV ρ _ (hi ▸ h)).trans hi

theorem printE_slice_sig (i w : Nat) (s : Bool) (lo hi : Nat) :
    printE (.slice (.sig i w s) lo hi) =
      if w = 1 then (if s then .concat [.id i w s] else .id i w s, false)
      else if hi - lo > 1 then (.psel (.id i w s) (hi - 1) lo, false) else (.bsel (.id i w s) lo, false) :=
  rfl

/-- The three forms `_generate_slice` gives an in-range slice of a signal: nothing for a 1-bit signal (wrapped in
    `{…}` when it is signed), a part-select, a bit-select.  Each disjunct carries, besides the printed text, the
    rewrites its users need: in the first `w`, `lo`, `hi` are replaced by `1`, `0`, `1`; in the second the width
    `hi - 1 - lo + 1` that Verilog gives `[hi-1:lo]` is the slice's `hi - lo`; in the third that width is 1. -/
theorem printE_slice_forms (i w : Nat) (s : Bool) {lo hi : Nat} (hlo : lo < hi) (hhi : hi ≤ w) :
    (w = 1 ∧ lo = 0 ∧ hi = 1 ∧
      (printE (.slice (.sig i w s) lo hi)).1 = if s then .concat [.id i 1 s] else .id i 1 s) ∨
    (hi - 1 - lo + 1 = hi - lo ∧ (printE (.slice (.sig i w s) lo hi)).1 = .psel (.id i w s) (hi - 1) lo) ∨
    (hi - lo = 1 ∧ (printE (.slice (.sig i w s) lo hi)).1 = .bsel (.id i w s) lo) := by
  rw [printE_slice_sig]
  by_cases hw1 : w = 1
  · subst hw1
    obtain ⟨rfl, rfl⟩ : lo = 0 ∧ hi = 1 := by omega
    exact Or.inl ⟨rfl, rfl, rfl, rfl⟩
  · by_cases hgt : hi - lo > 1
    · exact Or.inr (Or.inl ⟨by rw [Nat.sub_right_comm, Nat.sub_add_cancel (Nat.le_of_lt hgt)],
        by rw [if_neg hw1, if_pos hgt]⟩)
    · exact Or.inr (Or.inr ⟨Nat.le_antisymm (Nat.not_lt.1 hgt) (Nat.sub_pos_of_lt hlo), by rw [if_neg hw1, if_neg hgt]⟩)

theorem ideal_print_slice (ρ : Env) (i w : Nat) (s : Bool) {lo hi : Nat} (hlo : lo < hi) (hhi : hi ≤ w)
    (hv : truncS w s (ρ i) = ρ i) :
    ideal ρ (printE (.slice (.sig i w s) lo hi)).1 = tn (hi - lo) (ρ i / p2 lo) := by
  rcases printE_slice_forms i w s hlo hhi with ⟨rfl, rfl, rfl, h⟩ | ⟨he, h⟩ | ⟨he, h⟩ <;> rw [h]
  · rw [p2_zero, Int.ediv_one, ← tn_truncS 1 s]
    cases s
    · exact (tn_tn_same 1 (ρ i)).symm
    · -- signed 1-bit operand: `{x}` is the unsigned 1-bit view
      show tn 1 (truncS 1 true (ρ i)) * p2 0 + 0 = _
      rw [p2_zero, Int.mul_one, Int.add_zero]
  · rw [ideal, ideal, hv, he]
  · rw [ideal, ideal, hv, he]

theorem selfWidth_printConstU (k : Int) (kw : Nat) : selfWidth (printConstU k kw) = kw := by
  unfold printConstU; split <;> simp [selfWidth]

theorem selfWidth_printConst (k : Int) (kw : Nat) (ks : Bool) : selfWidth (printConst k kw ks).1 = kw := by
  cases ks <;> simp [printConst, selfWidth, selfWidth_printConstU]

theorem selfSigned_printConstU (k : Int) (kw : Nat) : selfSigned (printConstU k kw) = false := by
  unfold printConstU; split <;> simp [selfSigned]

theorem ideal_printConstU (ρ : Env) (v : Int) (w : Nat) (h : v.natAbs < 2 ^ w) :
    ideal ρ (printConstU v w) = v := by
  have hlt : (v.natAbs : Int) < p2 w := natCast_lt_p2.2 h
  unfold printConstU
  split
  · rename_i hv
    show tn w (v.toNat : Int) = v
    rw [Int.toNat_of_nonneg hv]
    exact tn_of_range hv (Int.lt_of_le_of_lt Int.le_natAbs hlt)
  · rename_i hv
    show -tn w (v.natAbs : Int) = v
    rw [tn_of_range (Int.natCast_nonneg _) hlt, Int.ofNat_natAbs_of_nonpos (Int.le_of_lt (Int.not_le.1 hv)),
      Int.neg_neg]

theorem ideal_printConst (ρ : Env) (v : Int) (w : Nat) (s : Bool) (h : constOk v w s = true) :
    ideal ρ (printConst v w s).1 = v := by
  have h := Bool.and_eq_true_iff.1 h
  cases s
  · exact ideal_printConstU ρ v w (of_decide_eq_true h.1)
  · show toS w (tn w ((tn w v).toNat : Int)) = v
    rw [Int.toNat_of_nonneg (tn_nonneg w v), tn_tn_same]
    exact toS_tn_of_inRange (of_decide_eq_true h.2) h.1

theorem fitsV_printConstU (ρ : Nat → Int) (k : Int) (kw W : Nat) (hkw : 0 < kw) :
    fitsV ρ (printConstU k kw) W false = true := by
  have key : ∀ n : Nat, fitsAt kw W false (truncS kw false n) = true := fun n =>
    Bool.and_eq_true_iff.2 ⟨decide_eq_true hkw, Bool.or_eq_true_iff.2 (Or.inr (inRange_truncS hkw false _))⟩
  unfold printConstU
  split <;> exact key _

theorem evalV_printConstU (ρ : Nat → Int) (k : Int) (kw : Nat) (W : Nat) (hW : kw ≤ W) (hkw : 0 < kw)
    (hk : k.natAbs < 2 ^ kw) : evalV ρ W false (printConstU k kw) = tn W k := by
  rw [evalV_ideal ρ _ W false (by rw [selfWidth_printConstU]; exact hW) (fitsV_printConstU ρ k kw W hkw),
    ideal_printConstU ρ k kw hk]

theorem fitsV_printConst (ρ : Nat → Int) (v : Int) (w : Nat) (s sg : Bool) (hw : 0 < w) :
    fitsV ρ (printConst v w s).1 w sg = true := by
  cases s
  · simp only [printConst, Bool.false_eq_true, if_false]
    unfold printConstU
    split <;> simp [fitsV, fitsAt, hw]
  · simp [printConst, fitsV, fitsAt, hw]

mutual
theorem printE_ideal (ρ : Env) : ∀ (e : Expr), fitsP ρ e = true → ideal ρ (printE e).1 = evalF ρ e
  | .const v w s, h => ideal_printConst ρ v w s h
  | .sig i w s, h =>
    truncS_of_inRange (of_decide_eq_true (Bool.and_eq_true_iff.1 h).2) (Bool.and_eq_true_iff.1 h).1
  | .op1 .neg a, h => by
    have h := Bool.and_eq_true_iff.1 h
    have := ideal_prom ρ a (!(printE a).2) (printE_ideal ρ a h.1) h.2
    show -ideal ρ (if (printE a).2 then (printE a).1 else toSignedV (printE a).1) = -evalF ρ a
    cases hs : (printE a).2 <;> rw [hs] at this <;> exact congrArg _ this
  | .op1 .not a, h => congrArg notI (printE_ideal ρ a h)
  | .op2 o a b, h => by
    simp only [fitsP, Bool.and_eq_true, Bool.or_eq_true] at h
    obtain ⟨⟨ha, hb⟩, hprom⟩ := h
    have iha := printE_ideal ρ a ha
    have ihb := printE_ideal ρ b hb
    simp only [printE, evalF]
    split
    · rw [ideal, iha, ihb, idealBin_vop]
    · rename_i hs
      have hprom := hprom.resolve_left hs
      rw [ideal, ideal_prom ρ a _ iha hprom.1, ideal_prom ρ b _ ihb hprom.2, idealBin_vop]
  | .mux c a b, h => by
    simp only [fitsP, Bool.and_eq_true] at h
    obtain ⟨⟨⟨⟨⟨hc, ha⟩, hb⟩, hpa⟩, hpb⟩, hcond⟩ := h
    simp only [condOk, beq_iff_eq, decide_eq_decide] at hcond
    simp only [printE, evalF]
    rw [ideal, printE_ideal ρ c hc, ideal_prom ρ a _ (printE_ideal ρ a ha) hpa,
      ideal_prom ρ b _ (printE_ideal ρ b hb) hpb]
    exact if_congr (not_congr hcond) rfl rfl
  | .slice a lo hi, h => by
    simp only [fitsP, Bool.and_eq_true, decide_eq_true_eq] at h
    obtain ⟨⟨⟨ha, hsig⟩, hlo⟩, hhi⟩ := h
    cases a with
    | sig i w s =>
      simp only [fitsP, Bool.and_eq_true, decide_eq_true_eq] at ha
      exact ideal_print_slice ρ i w s hlo hhi (truncS_of_inRange ha.2 ha.1)
    | _ => cases hsig
  | .cat l, h => printList_ideal ρ l h
  | .rep a n, h => by
    simp only [fitsP, Bool.and_eq_true, decide_eq_true_eq] at h
    rw [printE, ideal, evalF, printE_ideal ρ a h.1.1, h.1.2]
theorem printList_ideal (ρ : Env) :
    ∀ (l : List Expr), fitsPList ρ l = true → idealConcat ρ (printList l).reverse = evalCat ρ l
  | [], _ => rfl
  | e :: es, h => by
    simp only [fitsPList, Bool.and_eq_true, decide_eq_true_eq] at h
    simp only [printList, List.reverse_cons, idealConcat_append, evalCat,
      printList_ideal ρ es h.2, printE_ideal ρ e h.1.1, h.1.2]
    ring
end

theorem printE_correct (ρ : Env) (e : Expr) (W : Nat)
    (hW : selfWidth (printE e).1 ≤ W) (h : Fits ρ e W = true) :
    evalV ρ W (selfSigned (printE e).1) (printE e).1 = tn W (evalF ρ e) := by
  simp only [Fits, Bool.and_eq_true] at h
  rw [evalV_ideal ρ _ W _ hW h.2, printE_ideal ρ e h.1]

theorem assign_correct (ρ : Env) (e : Expr) (lw : Nat)
    (h : Fits ρ e (max lw (selfWidth (printE e).1)) = true) :
    assignV ρ lw (printE e).1 = storeF ρ lw e := by
  unfold assignV storeF
  rw [printE_correct ρ e _ (Nat.le_max_right _ _) h, tn_tn (Nat.le_max_left _ _)]

theorem selfSigned_toSignedV (r : VExpr) : selfSigned (toSignedV r) = true := rfl

theorem selfSigned_prom (b : Bool) (r : VExpr) (s : Bool) (h : s = selfSigned r) :
    selfSigned (if b then toSignedV r else r) = (b || s) := by
  cases b
  · exact h.symm
  · rfl

theorem vop_isCmp (o : Op2) : (vop o).isCmp = o.isCmp := by cases o <;> rfl

theorem vop_isShift (o : Op2) : (vop o).isShift = o.isShift := by cases o <;> rfl

theorem Op2.not_cmp_of_shift {o : Op2} (h : o.isShift = true) : o.isCmp = false := by
  cases o <;> first | rfl | cases h

theorem printE_sign : ∀ (e : Expr), (printE e).2 = selfSigned (printE e).1
  | .const v w s => by
    cases s
    · exact (selfSigned_printConstU v w).symm
    · rfl
  | .sig i w s => rfl
  | .op1 .neg a => by
    have ih := printE_sign a
    show true = selfSigned (if (printE a).2 then (printE a).1 else toSignedV (printE a).1)
    cases hs : (printE a).2
    · rfl
    · exact hs.symm.trans ih
  | .op1 .not a => printE_sign a
  | .op2 o a b => by
    have iha := printE_sign a
    have ihb := printE_sign b
    simp only [printE]
    split
    · rename_i hs
      rw [selfSigned, vop_isCmp, vop_isShift, Op2.not_cmp_of_shift hs, hs, if_neg Bool.false_ne_true, if_pos rfl]
      exact iha
    · rename_i hs
      rw [selfSigned, vop_isCmp, vop_isShift, if_neg hs, selfSigned_prom _ _ _ iha, selfSigned_prom _ _ _ ihb]
      cases o.isCmp <;> cases (printE a).2 <;> cases (printE b).2 <;> rfl
  | .mux c a b => by
    simp only [printE]
    rw [selfSigned, selfSigned_prom _ _ _ (printE_sign a), selfSigned_prom _ _ _ (printE_sign b)]
    cases (printE a).2 <;> cases (printE b).2 <;> rfl
  | .slice a lo hi => by
    have ih := printE_sign a
    simp only [printE]
    split
    · cases hs : (printE a).2
      · exact hs.symm.trans ih
      · rfl
    · split <;> rfl
  | .cat l => rfl
  | .rep a n => rfl

end Litex.C01
