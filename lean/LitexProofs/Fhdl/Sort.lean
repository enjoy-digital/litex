import LitexModel.Fhdl.SimBackend
import LitexProofs.Fhdl.WfExpr
/-
  The printer sorts the items of every `Case` by key (`sortSs`).  With pairwise distinct keys the simulator executes
  the sorted statements like the statements as written (`execFs_sortSs`); and the side conditions and
  well-formedness predicates do not depend on the order of the items, so they may be stated on the statements as
  written (dictionary order).  The hypothesis itself is defined here: `keysOf`, `distinctS`.
-/
namespace Litex.C01

def keysOf : Items → List Int
  | .nil => []
  | .cons k _ _ _ rest => k :: keysOf rest

mutual
/-- Keys of every `Case` are pairwise distinct (they are dictionary keys hashed by value). -/
def distinctS : Stmt → Prop
  | .assign _ _ => True
  | .ite _ t f => distinctSs t ∧ distinctSs f
  | .case _ items _ d => (keysOf items).Nodup ∧ distinctItems items ∧ distinctSs d
def distinctSs : Stmts → Prop
  | .nil => True
  | .cons s ss => distinctS s ∧ distinctSs ss
def distinctItems : Items → Prop
  | .nil => True
  | .cons _ _ _ body rest => distinctSs body ∧ distinctItems rest
end

theorem keysOf_insertItem (k : Int) (kw : Nat) (ks : Bool) (body : Stmts) (x : Int) :
    ∀ (items : Items), x ∈ keysOf (insertItem k kw ks body items) ↔ x = k ∨ x ∈ keysOf items
  | .nil => by simp [insertItem, keysOf]
  | .cons k' kw' ks' body' rest => by
    rw [insertItem]
    split
    · exact List.mem_cons
    · rw [keysOf, keysOf, List.mem_cons, keysOf_insertItem k kw ks body x rest, List.mem_cons]
      exact or_left_comm

theorem keysOf_sortItems (x : Int) : ∀ (items : Items), x ∈ keysOf (sortItems items) ↔ x ∈ keysOf items
  | .nil => by simp [sortItems]
  | .cons k kw ks body rest => by
    simp [sortItems, keysOf, keysOf_insertItem, keysOf_sortItems x rest]

theorem keysOf_sortBodies : ∀ (items : Items), keysOf (sortBodies items) = keysOf items
  | .nil => by simp [sortBodies, keysOf]
  | .cons k kw ks body rest => by simp [sortBodies, keysOf, keysOf_sortBodies rest]

theorem execItems_insertItem (ρ : Env) (k : Int) (kw : Nat) (ks : Bool) (body : Stmts) (v : Int) (m : Mods) :
    ∀ (items : Items), k ∉ keysOf items →
    execItems ρ (insertItem k kw ks body items) v m =
      if k = v then some (execFs ρ body m) else execItems ρ items v m
  | .nil, _ => by simp [insertItem, execItems]
  | .cons k' kw' ks' body' rest, hk => by
    simp only [keysOf, List.mem_cons, not_or] at hk
    have ih := execItems_insertItem ρ k kw ks body v m rest hk.2
    simp only [insertItem]
    split
    · simp [execItems]
    · simp only [execItems, ih]
      by_cases h1 : k' = v
      · have : k ≠ v := fun h => hk.1 (h.trans h1.symm)
        simp [h1, this]
      · simp [h1]

theorem execItems_sortItems (ρ : Env) (v : Int) (m : Mods) :
    ∀ (items : Items), (keysOf items).Nodup → execItems ρ (sortItems items) v m = execItems ρ items v m
  | .nil, _ => by simp [sortItems]
  | .cons k kw ks body rest, hd => by
    simp only [keysOf, List.nodup_cons] at hd
    simp only [sortItems]
    rw [execItems_insertItem ρ k kw ks body v m _ (by rw [keysOf_sortItems]; exact hd.1),
      execItems_sortItems ρ v m rest hd.2]
    simp [execItems]

mutual
theorem execF_sortS (ρ : Env) : ∀ (s : Stmt), distinctS s → ∀ m, execF ρ (sortS s) m = execF ρ s m
  | .assign l r, _, m => rfl
  | .ite c t f, hd, m => by
    simp only [distinctS] at hd
    simp only [sortS, execF, execFs_sortSs ρ t hd.1, execFs_sortSs ρ f hd.2]
  | .case test items hasD d, hd, m => by
    simp only [distinctS] at hd
    simp only [sortS, execF]
    rw [execItems_sortItems ρ _ _ _ (by rw [keysOf_sortBodies]; exact hd.1), execItems_sortBodies ρ items hd.2.1,
      execFs_sortSs ρ d hd.2.2]
theorem execFs_sortSs (ρ : Env) : ∀ (ss : Stmts), distinctSs ss → ∀ m, execFs ρ (sortSs ss) m = execFs ρ ss m
  | .nil, _, m => rfl
  | .cons s ss, hd, m => by
    simp only [distinctSs] at hd
    simp only [sortSs, execFs, execF_sortS ρ s hd.1, execFs_sortSs ρ ss hd.2]
theorem execItems_sortBodies (ρ : Env) :
    ∀ (items : Items), distinctItems items → ∀ v m, execItems ρ (sortBodies items) v m = execItems ρ items v m
  | .nil, _, v, m => rfl
  | .cons k kw ks body rest, hd, v, m => by
    simp only [distinctItems] at hd
    simp only [sortBodies, execItems, execFs_sortSs ρ body hd.1, execItems_sortBodies ρ rest hd.2]
end

/-! `g` folds a step `f` over the items (`hg`), and two steps commute (`hf`): then `g` does not see the order. -/

section
variable {α : Type} {g : Items → α} {f : Int → Nat → Bool → Stmts → α → α}
  (hg : ∀ k kw ks b r, g (.cons k kw ks b r) = f k kw ks b (g r))
  (hf : ∀ k kw ks b k' kw' ks' b' x, f k kw ks b (f k' kw' ks' b' x) = f k' kw' ks' b' (f k kw ks b x))
include hg hf

theorem fold_insertItem (k : Int) (kw : Nat) (ks : Bool) (body : Stmts) :
    ∀ items, g (insertItem k kw ks body items) = f k kw ks body (g items)
  | .nil => hg ..
  | .cons k' kw' ks' body' rest => by
    rw [insertItem]
    split
    · rw [hg]
    · rw [hg, fold_insertItem k kw ks body rest, hf, ← hg]

theorem fold_sortItems : ∀ items, g (sortItems items) = g items
  | .nil => rfl
  | .cons k kw ks body rest => by
    rw [sortItems, fold_insertItem hg hf, fold_sortItems rest, hg]
end

theorem itemsOk_sortItems (items : Items) : itemsOk (sortItems items) = itemsOk items :=
  fold_sortItems (f := fun k kw _ _ x => decide (k.natAbs < 2 ^ kw) && decide (0 < kw) && x)
    (fun _ _ _ _ _ => rfl) (fun _ _ _ _ _ _ _ _ _ => Bool.and_left_comm ..) items

theorem itemsIn_sortItems (W : Nat) (sg : Bool) (items : Items) : itemsIn W sg (sortItems items) = itemsIn W sg items :=
  fold_sortItems (f := fun k _ _ _ x => inRange W sg k && x)
    (fun _ _ _ _ _ => rfl) (fun _ _ _ _ _ _ _ _ _ => Bool.and_left_comm ..) items

theorem itemsWidth_sortItems (items : Items) : itemsWidth (printItems (sortItems items)) = itemsWidth (printItems items) :=
  fold_sortItems (g := fun it => itemsWidth (printItems it)) (f := fun k kw _ _ x => max (selfWidth (printConstU k kw)) x)
    (fun _ _ _ _ _ => rfl) (fun _ _ _ _ _ _ _ _ _ => Nat.max_left_comm ..) items

theorem itemsSigned_sortItems (items : Items) :
    itemsSigned (printItems (sortItems items)) = itemsSigned (printItems items) :=
  fold_sortItems (g := fun it => itemsSigned (printItems it)) (f := fun k kw _ _ x => selfSigned (printConstU k kw) && x)
    (fun _ _ _ _ _ => rfl) (fun _ _ _ _ _ _ _ _ _ => Bool.and_left_comm ..) items

theorem fitsItems_sortItems (ρ : Env) (items : Items) : fitsItems ρ (sortItems items) = fitsItems ρ items :=
  fold_sortItems (f := fun _ _ _ b x => fitsSs ρ b && x)
    (fun _ _ _ _ _ => rfl) (fun _ _ _ _ _ _ _ _ _ => Bool.and_left_comm ..) items

theorem wfItems_sortItems (wd : Nat → Nat) (items : Items) : wfItems wd (sortItems items) ↔ wfItems wd items :=
  Iff.of_eq (fold_sortItems (f := fun _ _ _ b x => wfSs wd b ∧ x)
    (fun _ _ _ _ _ => rfl) (fun _ _ _ _ _ _ _ _ _ => propext and_left_comm) items)

/-- Apply `f` to every body, keys untouched: what `sortBodies` (`f = sortSs`) and `filterItems t` (`f = filterSs t`) do.
    The `Case`-level side condition looks at the keys only. -/
def mapBodies (f : Stmts → Stmts) : Items → Items
  | .nil => .nil
  | .cons k kw ks body rest => .cons k kw ks (f body) (mapBodies f rest)

theorem sortBodies_eq : ∀ items, sortBodies items = mapBodies sortSs items
  | .nil => rfl
  | .cons k kw ks body rest => by rw [sortBodies, mapBodies, sortBodies_eq rest]

section
variable (f : Stmts → Stmts)

theorem itemsOk_mapBodies : ∀ items, itemsOk (mapBodies f items) = itemsOk items
  | .nil => rfl
  | .cons k kw ks body rest => by simp only [mapBodies, itemsOk, itemsOk_mapBodies rest]

theorem itemsIn_mapBodies (W : Nat) (sg : Bool) : ∀ items, itemsIn W sg (mapBodies f items) = itemsIn W sg items
  | .nil => rfl
  | .cons k kw ks body rest => by simp only [mapBodies, itemsIn, itemsIn_mapBodies W sg rest]

theorem itemsWidth_mapBodies : ∀ items, itemsWidth (printItems (mapBodies f items)) = itemsWidth (printItems items)
  | .nil => rfl
  | .cons k kw ks body rest => by simp only [mapBodies, printItems, itemsWidth, itemsWidth_mapBodies rest]

theorem itemsSigned_mapBodies : ∀ items, itemsSigned (printItems (mapBodies f items)) = itemsSigned (printItems items)
  | .nil => rfl
  | .cons k kw ks body rest => by simp only [mapBodies, printItems, itemsSigned, itemsSigned_mapBodies rest]

theorem fitsCase_mapBodies (ρ : Env) (test : Expr) (items : Items) :
    fitsCase ρ test (mapBodies f items) = fitsCase ρ test items := by
  simp only [fitsCase, itemsWidth_mapBodies, itemsSigned_mapBodies, itemsOk_mapBodies, itemsIn_mapBodies]
end

theorem fitsCase_sort (ρ : Env) (test : Expr) (items : Items) :
    fitsCase ρ test (sortItems (sortBodies items)) = fitsCase ρ test items := by
  rw [← fitsCase_mapBodies sortSs ρ test items, ← sortBodies_eq]
  simp only [fitsCase, itemsWidth_sortItems, itemsSigned_sortItems, itemsOk_sortItems, itemsIn_sortItems]

mutual
theorem fitsS_sortS (ρ : Env) : ∀ s, fitsS ρ (sortS s) = fitsS ρ s
  | .assign l r => rfl
  | .ite c t f => by simp only [sortS, fitsS, fitsSs_sortSs ρ t, fitsSs_sortSs ρ f]
  | .case test items hasD d => by
    simp only [sortS, fitsS, fitsCase_sort, fitsItems_sortItems, fitsItems_sortBodies ρ items, fitsSs_sortSs ρ d]
theorem fitsSs_sortSs (ρ : Env) : ∀ ss, fitsSs ρ (sortSs ss) = fitsSs ρ ss
  | .nil => rfl
  | .cons s ss => by simp only [sortSs, fitsSs, fitsS_sortS ρ s, fitsSs_sortSs ρ ss]
theorem fitsItems_sortBodies (ρ : Env) : ∀ items, fitsItems ρ (sortBodies items) = fitsItems ρ items
  | .nil => rfl
  | .cons k kw ks body rest => by
    simp only [sortBodies, fitsItems, fitsSs_sortSs ρ body, fitsItems_sortBodies ρ rest]
end

mutual
theorem wfS_sortS (wd : Nat → Nat) : ∀ s, wfS wd (sortS s) ↔ wfS wd s
  | .assign l r => Iff.rfl
  | .ite c t f => by simp only [sortS, wfS, wfSs_sortSs wd t, wfSs_sortSs wd f]
  | .case test items hasD d => by
    simp only [sortS, wfS, wfItems_sortItems, wfItems_sortBodies wd items, wfSs_sortSs wd d]
theorem wfSs_sortSs (wd : Nat → Nat) : ∀ ss, wfSs wd (sortSs ss) ↔ wfSs wd ss
  | .nil => Iff.rfl
  | .cons s ss => by simp only [sortSs, wfSs, wfS_sortS wd s, wfSs_sortSs wd ss]
theorem wfItems_sortBodies (wd : Nat → Nat) : ∀ items, wfItems wd (sortBodies items) ↔ wfItems wd items
  | .nil => Iff.rfl
  | .cons k kw ks body rest => by
    simp only [sortBodies, wfItems, wfSs_sortSs wd body, wfItems_sortBodies wd rest]
end

theorem wfSEItems_sortItems (wd : Nat → Nat) (items : Items) : wfSEItems wd (sortItems items) ↔ wfSEItems wd items :=
  Iff.of_eq (fold_sortItems (f := fun _ _ _ b x => wfSEs wd b ∧ x)
    (fun _ _ _ _ _ => rfl) (fun _ _ _ _ _ _ _ _ _ => propext and_left_comm) items)

mutual
theorem wfSE_sortS (wd : Nat → Nat) : ∀ s, wfSE wd (sortS s) ↔ wfSE wd s
  | .assign l r => Iff.rfl
  | .ite c t f => by simp only [sortS, wfSE, wfSEs_sortSs wd t, wfSEs_sortSs wd f]
  | .case test items hasD d => by
    simp only [sortS, wfSE, wfSEItems_sortItems, wfSEItems_sortBodies wd items, wfSEs_sortSs wd d]
theorem wfSEs_sortSs (wd : Nat → Nat) : ∀ ss, wfSEs wd (sortSs ss) ↔ wfSEs wd ss
  | .nil => Iff.rfl
  | .cons s ss => by simp only [sortSs, wfSEs, wfSE_sortS wd s, wfSEs_sortSs wd ss]
theorem wfSEItems_sortBodies (wd : Nat → Nat) : ∀ items, wfSEItems wd (sortBodies items) ↔ wfSEItems wd items
  | .nil => Iff.rfl
  | .cons k kw ks body rest => by
    simp only [sortBodies, wfSEItems, wfSEs_sortSs wd body, wfSEItems_sortBodies wd rest]
end

theorem leafTargetsItems_sortItems (items : Items) : leafTargetsItems (sortItems items) = leafTargetsItems items :=
  fold_sortItems (f := fun _ _ _ b x => leafTargetsSs b && x)
    (fun _ _ _ _ _ => rfl) (fun _ _ _ _ _ _ _ _ _ => Bool.and_left_comm ..) items

mutual
theorem leafTargetsS_sortS : ∀ s, leafTargetsS (sortS s) = leafTargetsS s
  | .assign l r => rfl
  | .ite c a b => by simp only [sortS, leafTargetsS, leafTargetsSs_sortSs a, leafTargetsSs_sortSs b]
  | .case test items hasD d => by
    simp only [sortS, leafTargetsS, leafTargetsItems_sortItems, leafTargetsItems_sortBodies items,
      leafTargetsSs_sortSs d]
theorem leafTargetsSs_sortSs : ∀ ss, leafTargetsSs (sortSs ss) = leafTargetsSs ss
  | .nil => rfl
  | .cons s ss => by simp only [sortSs, leafTargetsSs, leafTargetsS_sortS s, leafTargetsSs_sortSs ss]
theorem leafTargetsItems_sortBodies : ∀ items, leafTargetsItems (sortBodies items) = leafTargetsItems items
  | .nil => rfl
  | .cons k kw ks body rest => by
    simp only [sortBodies, leafTargetsItems, leafTargetsSs_sortSs body, leafTargetsItems_sortBodies rest]
end

end Litex.C01
