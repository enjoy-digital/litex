import LitexModel.Fhdl.IntBits
import Mathlib.Tactic.Ring
import Mathlib.Tactic.Linarith
/-
  Arithmetic facts about `p2`, `tn` (truncation to `w` bits), `toS` / `truncS` (two's-complement reading),
  `inRange` and `replV` of `LitexModel/Fhdl/IntBits.lean`, and about bit fields of an integer.  At the end: the
  componentwise implications between Boolean conjunctions (`band_imp` …) through which the side-condition proofs of
  the whole directory go.
-/
namespace Litex.C01

theorem p2_pos (w : Nat) : 0 < p2 w := Int.pow_pos (by decide)

theorem p2_ne (w : Nat) : p2 w ≠ 0 := Int.ne_of_gt (p2_pos w)

theorem p2_add (a b : Nat) : p2 (a + b) = p2 a * p2 b := Int.pow_add 2 a b

theorem p2_zero : p2 0 = 1 := rfl

theorem p2_succ (w : Nat) : p2 (w + 1) = 2 * p2 w := (Int.pow_succ 2 w).trans (Int.mul_comm _ _)

theorem p2_dvd {a b : Nat} (h : a ≤ b) : p2 a ∣ p2 b := by
  obtain ⟨k, rfl⟩ := Nat.exists_eq_add_of_le h
  exact ⟨p2 k, p2_add a k⟩

theorem p2_le {a b : Nat} (h : a ≤ b) : p2 a ≤ p2 b := Int.le_of_dvd (p2_pos b) (p2_dvd h)

theorem p2_pred {w : Nat} (h : 0 < w) : p2 w = 2 * p2 (w - 1) := by
  cases w with
  | zero => exact absurd h (Nat.lt_irrefl 0)
  | succ k => exact p2_succ k

theorem p2_natCast (w : Nat) : ((2 ^ w : Nat) : Int) = p2 w := by
  unfold p2; exact Int.natCast_pow 2 w

theorem natCast_lt_p2 {a n : Nat} : (a : Int) < p2 n ↔ a < 2 ^ n := by
  rw [← p2_natCast]; exact Int.ofNat_lt

theorem tn_nonneg (w : Nat) (x : Int) : 0 ≤ tn w x := Int.emod_nonneg _ (p2_ne w)

theorem tn_lt (w : Nat) (x : Int) : tn w x < p2 w := Int.emod_lt_of_pos _ (p2_pos w)

theorem tn_of_range {w : Nat} {x : Int} (h0 : 0 ≤ x) (h1 : x < p2 w) : tn w x = x :=
  Int.emod_eq_of_lt h0 h1

@[simp] theorem tn_tn_same (w : Nat) (x : Int) : tn w (tn w x) = tn w x := Int.emod_emod _ _

theorem tn_tn {w W : Nat} (h : w ≤ W) (x : Int) : tn w (tn W x) = tn w x :=
  Int.emod_emod_of_dvd x (p2_dvd h)

theorem tn_add (W : Nat) (x y : Int) : tn W (tn W x + tn W y) = tn W (x + y) := (Int.add_emod x y _).symm

theorem tn_sub (W : Nat) (x y : Int) : tn W (tn W x - tn W y) = tn W (x - y) := (Int.sub_emod x y _).symm

theorem tn_mul (W : Nat) (x y : Int) : tn W (tn W x * tn W y) = tn W (x * y) := (Int.mul_emod x y _).symm

theorem tn_mul_left (W : Nat) (x y : Int) : tn W (tn W x * y) = tn W (x * y) := by
  unfold tn; rw [Int.mul_emod, Int.emod_emod, ← Int.mul_emod]

theorem tn_neg (W : Nat) (x : Int) : tn W (- tn W x) = tn W (- x) := by
  have h := tn_sub W 0 x
  rwa [show tn W 0 = 0 from Int.zero_emod _, Int.zero_sub, Int.zero_sub] at h

theorem tn_eq_add_mul (W : Nat) (x : Int) : ∃ k : Int, tn W x = x + k * p2 W :=
  ⟨-(x / p2 W), (Int.emod_def x (p2 W)).trans (by rw [Int.sub_eq_add_neg, Int.mul_comm, Int.neg_mul])⟩

theorem tn_add_mul (W : Nat) (x k : Int) : tn W (x + k * p2 W) = tn W x :=
  Int.add_mul_emod_self_right x k (p2 W)

theorem tn_unique {W : Nat} {x r : Int} (h0 : 0 ≤ r) (h1 : r < p2 W) (k : Int) (h : x = r + k * p2 W) :
    tn W x = r := by
  rw [h, tn_add_mul, tn_of_range h0 h1]

theorem tn_of_neg {W : Nat} {x : Int} (h0 : -(p2 W) ≤ x) (h1 : x < 0) : tn W x = x + p2 W := by
  rw [← tn_add_mul W x 1, Int.one_mul]
  exact tn_of_range (by omega) (by omega)

theorem tn_not (W : Nat) (x : Int) : p2 W - 1 - tn W x = tn W (notI x) := by
  obtain ⟨k, hk⟩ := tn_eq_add_mul W x
  have h0 := tn_nonneg W x
  have h1 := tn_lt W x
  exact (tn_unique (by omega) (by omega) (k - 1) (by unfold notI; rw [hk]; ring)).symm

theorem digits_range {a b P Q : Int} (ha : 0 ≤ a ∧ a < P) (hb : 0 ≤ b ∧ b < Q) :
    0 ≤ a + P * b ∧ a + P * b < P * Q := by
  have hP : 0 ≤ P := Int.le_trans ha.1 (Int.le_of_lt ha.2)
  have h := Int.mul_le_mul_of_nonneg_left (Int.le_sub_one_of_lt hb.2) hP
  rw [Int.mul_sub, Int.mul_one] at h
  exact ⟨Int.add_nonneg ha.1 (Int.mul_nonneg hP hb.1), by omega⟩

theorem inRange_unsigned {w : Nat} {x : Int} : inRange w false x = true ↔ 0 ≤ x ∧ x < p2 w := by
  simp only [inRange, Bool.false_eq_true, if_false, Bool.and_eq_true, decide_eq_true_eq]

theorem inRange_signed {w : Nat} {x : Int} : inRange w true x = true ↔ -(p2 (w - 1)) ≤ x ∧ x < p2 (w - 1) := by
  simp only [inRange, if_true, Bool.and_eq_true, decide_eq_true_eq]

theorem toS_tn_of_inRange {w : Nat} (hw : 0 < w) {x : Int} (h : inRange w true x = true) :
    toS w (tn w x) = x := by
  have h := inRange_signed.1 h
  have hle := p2_le (Nat.sub_le w 1)
  unfold toS
  by_cases hx : 0 ≤ x
  · rw [tn_of_range hx (Int.lt_of_lt_of_le h.2 hle), if_neg (Int.not_le.2 h.2)]
  · rw [tn_of_neg (Int.le_trans (Int.neg_le_neg hle) h.1) (Int.not_le.1 hx),
      if_pos (by have := p2_pred hw; omega), Int.add_sub_cancel]

theorem tn_of_inRange_unsigned {w : Nat} {x : Int} (h : inRange w false x = true) : tn w x = x :=
  tn_of_range (inRange_unsigned.1 h).1 (inRange_unsigned.1 h).2

theorem tn_toS (w : Nat) (v : Int) : tn w (toS w v) = tn w v := by
  unfold toS
  split
  · rw [Int.sub_eq_add_neg, ← Int.neg_one_mul, tn_add_mul]
  · rfl

theorem tn_truncS (w : Nat) (s : Bool) (x : Int) : tn w (truncS w s x) = tn w x := by
  unfold truncS; split
  · rw [tn_toS, tn_tn_same]
  · rw [tn_tn_same]

theorem truncS_of_inRange {w : Nat} (hw : 0 < w) {s : Bool} {x : Int} (h : inRange w s x = true) :
    truncS w s x = x := by
  cases s
  · exact tn_of_inRange_unsigned h
  · exact toS_tn_of_inRange hw h

theorem inRange_truncS {w : Nat} (hw : 0 < w) (s : Bool) (x : Int) : inRange w s (truncS w s x) = true := by
  have h0 := tn_nonneg w x
  have h1 := tn_lt w x
  cases s
  · exact inRange_unsigned.2 ⟨h0, h1⟩
  · have hp := p2_pred hw
    refine inRange_signed.2 ?_
    show _ ≤ toS w (tn w x) ∧ toS w (tn w x) < _
    unfold toS
    split <;> omega

theorem tn_eq_zero_iff {w : Nat} (hw : 0 < w) {s : Bool} {x : Int} (h : inRange w s x = true) :
    tn w x = 0 ↔ x = 0 := by
  constructor
  · intro hz
    have := truncS_of_inRange hw h
    unfold truncS at this
    rw [hz] at this
    cases s
    · exact this.symm
    · have hpos := p2_pos (w - 1)
      rw [if_pos rfl, toS, if_neg (by omega)] at this
      exact this.symm
  · rintro rfl; exact Int.zero_emod _

/-- Numbers representable in `W` bits in one common reading — all unsigned, or all signed — are equal iff their
    patterns are (what a `case` compares are patterns, what the simulator compares are numbers). -/
theorem tn_inj {W : Nat} (hW : 0 < W) {a b : Int}
    (h : (inRange W false a = true ∧ inRange W false b = true) ∨ (inRange W true a = true ∧ inRange W true b = true)) :
    tn W a = tn W b ↔ a = b := by
  constructor
  · intro hab
    rcases h with ⟨ha, hb⟩ | ⟨ha, hb⟩
    · rw [tn_of_inRange_unsigned ha, tn_of_inRange_unsigned hb] at hab; exact hab
    · have h1 := toS_tn_of_inRange hW ha
      have h2 := toS_tn_of_inRange hW hb
      rw [← h1, ← h2, hab]
  · rintro rfl; rfl

/-! ### bit fields: the `len` bits of `x` from bit `st` up are `tn len (x / p2 st)` -/

theorem slice_low {n st len : Nat} (h : st + len ≤ n) {a : Int} (R : Int) :
    tn len ((a + p2 n * R) / p2 st) = tn len (a / p2 st) := by
  obtain ⟨d, rfl⟩ := Nat.exists_eq_add_of_le h
  rw [show p2 (st + len + d) * R = p2 st * ((p2 d * R) * p2 len) by rw [p2_add, p2_add]; ring,
    Int.add_mul_ediv_left _ _ (p2_ne st), tn_add_mul]

theorem tn_div_tn {w lo n : Nat} (h : lo + n ≤ w) (x : Int) :
    tn n (tn w x / p2 lo) = tn n (x / p2 lo) := by
  obtain ⟨k, hk⟩ := tn_eq_add_mul w x
  rw [hk, Int.mul_comm, slice_low h]

theorem tn_split {a b : Nat} {x y : Int} (h : tn (a + b) x = tn (a + b) y) :
    tn a x = tn a y ∧ tn b (x / p2 a) = tn b (y / p2 a) :=
  ⟨by rw [← tn_tn (Nat.le_add_right a b) x, h, tn_tn (Nat.le_add_right a b)],
    by rw [← tn_div_tn (Nat.le_refl _) x, h, tn_div_tn (Nat.le_refl _)]⟩

theorem slice_skip {n st : Nat} (h : n ≤ st) {a : Int} (ha0 : 0 ≤ a) (ha1 : a < p2 n) (R : Int) :
    (a + p2 n * R) / p2 st = R / p2 (st - n) := by
  obtain ⟨d, rfl⟩ := Nat.exists_eq_add_of_le h
  rw [p2_add, ← Int.ediv_ediv_of_nonneg (Int.le_of_lt (p2_pos n)), Int.add_mul_ediv_left _ _ (p2_ne n),
    Int.ediv_eq_zero_of_lt ha0 ha1, Int.zero_add]
  congr 2; omega

theorem replV_range {w : Nat} {v : Int} (h0 : 0 ≤ v) (h1 : v < p2 w) :
    ∀ n : Nat, 0 ≤ replV w v n ∧ replV w v n < p2 (n * w)
  | 0 => ⟨Int.le_refl 0, by rw [Nat.zero_mul]; exact p2_pos 0⟩
  | n + 1 => by
    rw [Nat.succ_mul, Nat.add_comm (n * w), p2_add]
    exact digits_range ⟨h0, h1⟩ (replV_range h0 h1 n)

theorem slice_replV {w len r : Nat} (h : r + len ≤ w) {t : Int} (ht0 : 0 ≤ t) (ht1 : t < p2 w) :
    ∀ (q n : Nat), q < n → tn len (replV w t n / p2 (q * w + r)) = tn len (t / p2 r)
  | 0, n + 1, _ => by rw [replV, Nat.zero_mul, Nat.zero_add, slice_low h]
  | q + 1, n + 1, hq => by
    rw [replV, Nat.succ_mul, Nat.add_right_comm, slice_skip (Nat.le_add_left w _) ht0 ht1, Nat.add_sub_cancel]
    exact slice_replV h ht0 ht1 q n (Nat.lt_of_succ_lt_succ hq)

theorem band_imp {a b a' b' : Bool} (ha : a = true → a' = true) (hb : b = true → b' = true)
    (h : (a && b) = true) : (a' && b') = true :=
  Bool.and_eq_true_iff.2 ⟨ha (Bool.and_eq_true_iff.1 h).1, hb (Bool.and_eq_true_iff.1 h).2⟩

theorem band_imp₂ {a b e f a' b' : Bool} (ha : a = true → e = true → a' = true)
    (hb : b = true → f = true → b' = true) (h : (a && b) = true) (he : (e && f) = true) : (a' && b') = true :=
  Bool.and_eq_true_iff.2 ⟨ha (Bool.and_eq_true_iff.1 h).1 (Bool.and_eq_true_iff.1 he).1,
    hb (Bool.and_eq_true_iff.1 h).2 (Bool.and_eq_true_iff.1 he).2⟩

theorem bor_imp {a b b' : Bool} (hb : b = true → b' = true) (h : (a || b) = true) : (a || b') = true :=
  Bool.or_eq_true_iff.2 ((Bool.or_eq_true_iff.1 h).imp_right hb)

end Litex.C01
