import LitexProofs.Fhdl.Wf
/-
  `wfSE`: every signal node of every expression of a statement carries its declared width (what the printer carries
  over to the Verilog text, `WfPrint.lean`); it implies the target-only `wfS`.
-/
namespace Litex.C01

mutual
def wfE (wd : Nat → Nat) : Expr → Prop
  | .const _ _ _ => True
  | .sig i w _ => w = wd i
  | .op1 _ a => wfE wd a
  | .op2 _ a b => wfE wd a ∧ wfE wd b
  | .mux c a b => wfE wd c ∧ wfE wd a ∧ wfE wd b
  | .slice a _ _ => wfE wd a
  | .cat l => wfEL wd l
  | .rep a _ => wfE wd a
def wfEL (wd : Nat → Nat) : List Expr → Prop
  | [] => True
  | e :: es => wfE wd e ∧ wfEL wd es
end

mutual
def wfSE (wd : Nat → Nat) : Stmt → Prop
  | .assign l r => wfE wd l ∧ wfE wd r
  | .ite c t f => wfE wd c ∧ wfSEs wd t ∧ wfSEs wd f
  | .case test items _ d => wfE wd test ∧ wfSEItems wd items ∧ wfSEs wd d
def wfSEs (wd : Nat → Nat) : Stmts → Prop
  | .nil => True
  | .cons s ss => wfSE wd s ∧ wfSEs wd ss
def wfSEItems (wd : Nat → Nat) : Items → Prop
  | .nil => True
  | .cons _ _ _ body rest => wfSEs wd body ∧ wfSEItems wd rest
end

theorem wfLeaf_of_wfE (wd : Nat → Nat) (e : Expr) (h : wfE wd e) : wfLeaf wd e := by
  cases e with
  | sig i w s => exact h
  | slice a lo hi => cases a <;> first | exact h | trivial
  | _ => trivial

theorem wfTarget_of_wfE (wd : Nat → Nat) (l : Expr) (h : wfE wd l) : wfTarget wd l := by
  cases l with
  | cat es =>
    induction es with
    | nil => exact fun _ hx => nomatch hx
    | cons e es ih =>
      intro x hx
      rcases List.mem_cons.1 hx with rfl | hx
      · exact wfLeaf_of_wfE wd _ h.1
      · exact ih h.2 x hx
  | _ => exact wfLeaf_of_wfE wd _ h

mutual
theorem wfS_of_wfSE (wd : Nat → Nat) : ∀ s, wfSE wd s → wfS wd s
  | .assign l _, h => wfTarget_of_wfE wd l h.1
  | .ite _ t f, h => ⟨wfSs_of_wfSEs wd t h.2.1, wfSs_of_wfSEs wd f h.2.2⟩
  | .case _ items _ d, h => ⟨wfItems_of_wfSEItems wd items h.2.1, wfSs_of_wfSEs wd d h.2.2⟩
theorem wfSs_of_wfSEs (wd : Nat → Nat) : ∀ ss, wfSEs wd ss → wfSs wd ss
  | .nil, _ => trivial
  | .cons s ss, h => ⟨wfS_of_wfSE wd s h.1, wfSs_of_wfSEs wd ss h.2⟩
theorem wfItems_of_wfSEItems (wd : Nat → Nat) : ∀ items, wfSEItems wd items → wfItems wd items
  | .nil, _ => trivial
  | .cons _ _ _ body rest, h => ⟨wfSs_of_wfSEs wd body h.1, wfItems_of_wfSEItems wd rest h.2⟩
end

end Litex.C01
