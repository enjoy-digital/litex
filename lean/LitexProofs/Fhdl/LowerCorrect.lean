import LitexModel.Fhdl.Lower
import LitexProofs.Fhdl.IntLemmas
/-
  `_ComplexSliceLowerer`: the index arithmetic of `_lower_slice_cat` and `_lower_slice_replicate` preserves the
  value of the slice (`lowerCat_correct`, `lowerRep_correct`); and a `Cat` evaluates to a non-negative number of its
  own width (`evalCat_range`), which is why the slice that `visit_Slice` drops altogether was the identity.
-/
namespace Litex.C01

theorem lowerCatList_past (orig : Expr) (st len : Nat) :
    ∀ (l : List Expr) (cs : Nat), st < cs → lowerCatList l orig cs st len = (orig, st)
  | [], _, _ => rfl
  | e :: es, cs, h => by
    simp only [lowerCatList]
    rw [if_neg (by omega)]
    exact lowerCatList_past orig st len es _ (by omega)

mutual
theorem lowerCat_correct (ρ : Env) : ∀ (e : Expr) (st len : Nat),
    sliceVal ρ (lowerCat e st len).1 (lowerCat e st len).2 len = sliceVal ρ e st len
  | .cat l, st, len => by
    simp only [lowerCat]
    rcases lowerCatList_correct ρ l (.cat l) 0 st len (Nat.zero_le _) with h | h
    · rw [h]
    · rw [h]; simp only [sliceVal, evalF, Nat.sub_zero]
  | .const _ _ _, _, _ => rfl
  | .sig _ _ _, _, _ => rfl
  | .op1 _ _, _, _ => rfl
  | .op2 _ _ _, _, _ => rfl
  | .mux _ _ _, _, _ => rfl
  | .slice _ _ _, _, _ => rfl
  | .rep _ _, _, _ => rfl
theorem lowerCatList_correct (ρ : Env) : ∀ (l : List Expr) (orig : Expr) (cs st len : Nat), cs ≤ st →
    lowerCatList l orig cs st len = (orig, st) ∨
    sliceVal ρ (lowerCatList l orig cs st len).1 (lowerCatList l orig cs st len).2 len
      = tn len (evalCat ρ l / p2 (st - cs))
  | [], _, _, _, _, _ => Or.inl rfl
  | e :: es, orig, cs, st, len, hcs => by
    simp only [lowerCatList]
    split
    · rename_i hc
      right
      rw [lowerCat_correct ρ e (st - cs) len]
      simp only [sliceVal, evalCat]
      rw [slice_low (by omega), tn_div_tn (by omega)]
    · rename_i hc
      by_cases hnext : cs + (bitsSign e).1 ≤ st
      · rcases lowerCatList_correct ρ es orig (cs + (bitsSign e).1) st len hnext with h | h
        · exact Or.inl h
        · right
          rw [h]
          simp only [evalCat]
          rw [slice_skip (by omega) (tn_nonneg _ _) (tn_lt _ _)]
          congr 3; omega
      · left
        exact lowerCatList_past orig st len es _ (by omega)
end

/-- `st + len ≤ len(e)` is what `_Value.__getitem__` guarantees of every slice. -/
theorem lowerRep_correct (ρ : Env) : ∀ (e : Expr) (st len : Nat), 0 < len → st + len ≤ (bitsSign e).1 →
    sliceVal ρ (lowerRep e st len).1 (lowerRep e st len).2 len = sliceVal ρ e st len
  | .rep v n, st, len, hl, hb => by
    simp only [lowerRep]
    split
    · rename_i hsame
      simp only [bitsSign] at hb
      have hw : 0 < (bitsSign v).1 := Nat.pos_of_ne_zero (fun h0 => by rw [h0, Nat.zero_mul] at hb; omega)
      -- first and last bit in the same copy: the slice fits in it
      have hin : st % (bitsSign v).1 + len ≤ (bitsSign v).1 := by
        have h1 := Nat.div_add_mod st (bitsSign v).1
        have h2 := Nat.div_add_mod (st + len - 1) (bitsSign v).1
        have h3 := Nat.mod_lt (st + len - 1) hw
        rw [← hsame] at h2
        omega
      rw [lowerRep_correct ρ v (st % (bitsSign v).1) len hl hin]
      simp only [sliceVal, evalF]
      rw [← tn_div_tn hin (evalF ρ v), ← slice_replV hin (tn_nonneg _ _) (tn_lt _ _) (st / (bitsSign v).1) n
        (Nat.div_lt_of_lt_mul (by omega)), Nat.div_add_mod']
    · rfl
  | .const _ _ _, _, _, _, _ => rfl
  | .sig _ _ _, _, _, _, _ => rfl
  | .op1 _ _, _, _, _, _ => rfl
  | .op2 _ _ _, _, _, _, _ => rfl
  | .mux _ _ _, _, _, _, _ => rfl
  | .slice _ _ _, _, _, _, _ => rfl
  | .cat _, _, _, _, _ => rfl

theorem evalCat_range (ρ : Env) : ∀ (l : List Expr), 0 ≤ evalCat ρ l ∧ evalCat ρ l < p2 (catBits l)
  | [] => ⟨Int.le_refl 0, p2_pos 0⟩
  | e :: es => by
    rw [evalCat, catBits, p2_add]
    exact digits_range ⟨tn_nonneg _ _, tn_lt _ _⟩ (evalCat_range ρ es)

end Litex.C01
