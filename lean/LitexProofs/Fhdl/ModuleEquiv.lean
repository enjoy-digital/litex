import LitexProofs.Fhdl.BlockEquiv
import LitexProofs.Fhdl.ExecBasics
/-
  Comb groups and sync domains: the item printed by
  `_generate_combinatorial_logic_synth` / `_generate_synchronous_logic` keeps the update queue in correspondence
  with the simulator's modifications.  Here the text is evaluated on the simulator's own values `ρ` (hypothesis `wfSs`);
  a module executes it on the Verilog state, for which `ModuleStep.lean` uses the forms `rel_printSs_bits`,
  `rel_wire_bits` (hypothesis `wfSEs`).
-/
namespace Litex.C01

/-- The declared widths, as the argument `wd` of `Rel`, `wfS`, `bitsEnv`. -/
def wdOf (sigs : Array SigDecl) : Nat → Nat := widthOf sigs

/-- The reset value of every listed signal is printable in its declared width/sign (`constOk`). -/
def resetsOk (sigs : Array SigDecl) : List Nat → Bool
  | [] => true
  | i :: is =>
    constOk (sigs.getD i default).reset (sigs.getD i default).w (sigs.getD i default).s && resetsOk sigs is

theorem resetsOk_iff (sigs : Array SigDecl) : ∀ (l : List Nat), resetsOk sigs l = true ↔
    ∀ i ∈ l, constOk (sigs.getD i default).reset (sigs.getD i default).w (sigs.getD i default).s = true
  | [] => ⟨fun _ _ h => (nomatch h), fun _ => rfl⟩
  | i :: is => by rw [resetsOk, Bool.and_eq_true, resetsOk_iff sigs is, List.forall_mem_cons]

theorem resetsOk_of_subset (sigs : Array SigDecl) {l l' : List Nat} (h : ∀ t ∈ l', t ∈ l)
    (hr : resetsOk sigs l = true) : resetsOk sigs l' = true :=
  (resetsOk_iff sigs l').2 fun t ht => (resetsOk_iff sigs l).1 hr t (h t ht)

theorem fitsAssign_const (ρ : Env) (i : Nat) (v : Int) (w : Nat) (s : Bool) (h : constOk v w s = true) :
    fitsAssign ρ (.sig i w s) (.const v w s) = true := by
  have hw0 : 0 < w := of_decide_eq_true (Bool.and_eq_true_iff.1 h).2
  refine Bool.and_eq_true_iff.2 ⟨decide_eq_true hw0, ?_⟩
  show Fits ρ (.const v w s) (max w (selfWidth (printConst v w s).1)) = true
  rw [selfWidth_printConst, Nat.max_self]
  exact Bool.and_eq_true_iff.2 ⟨h, fitsV_printConst ρ v w s _ hw0⟩

theorem fits_resetStmts (ρ : Env) (sigs : Array SigDecl) :
    ∀ (l : List Nat), resetsOk sigs l = true → fitsSs ρ (resetStmts sigs l) = true
  | [], _ => rfl
  | i :: is, h => band_imp (fitsAssign_const ρ i _ _ _) (fits_resetStmts ρ sigs is) h

theorem wfSEs_resetStmts (sigs : Array SigDecl) : ∀ (l : List Nat), wfSEs (wdOf sigs) (resetStmts sigs l)
  | [] => trivial
  | _ :: is => ⟨⟨rfl, trivial⟩, wfSEs_resetStmts sigs is⟩

/-- A group printed as `always @(*)`: defaults (reset values, sorted by name) then the
    statements, all non-blocking. -/
theorem comb_block_equiv (sigs : Array SigDecl) (ρ : Env) (g : CombGroup) (m : Mods) (p : Pending)
    (body : VStmts) (hprint : printCombGroup sigs g = .comb body)
    (h : Rel (wdOf sigs) ρ m p)
    (hr : resetsOk sigs (sortByName sigs g.targets) = true)
    (hd : distinctSs g.stmts) (hf : fitsSs ρ g.stmts = true) (hw : wfSs (wdOf sigs) g.stmts) :
    Rel (wdOf sigs) ρ
      (execFs ρ g.stmts (execFs ρ (resetStmts sigs (sortByName sigs g.targets)) m))
      (execVs ρ body p) := by
  unfold printCombGroup at hprint
  split at hprint
  · cases hprint
  · injection hprint with hb
    subst hb
    rw [execVs_append]
    exact rel_printStmts _ ρ g.stmts _ _ (rel_execSs _ ρ _ m p h (fits_resetStmts ρ sigs _ hr)
      (wfSs_of_wfSEs _ _ (wfSEs_resetStmts sigs _))) hd hf hw

theorem readPost_shadow (ρ : Env) (m : Mods) (i : Nat) (v v0 : Int) (j : Nat) :
    readPost ρ ((i, v) :: (i, v0) :: m) j = readPost ρ ((i, v) :: m) j := by
  simp only [readPost_cons]; split <;> rfl

theorem rel_congr {wd : Nat → Nat} {ρ : Env} {m m' : Mods} {p : Pending}
    (hv : ∀ i, readPost ρ m i = readPost ρ m' i) (h : Rel wd ρ m p) : Rel wd ρ m' p := by
  intro i; rw [← hv i]; exact h i

theorem rel_wire {wd : Nat → Nat} {ρ : Env} {m : Mods} {p : Pending} (h : Rel wd ρ m p) (i w : Nat) (s : Bool)
    (r : Expr) (hwd : w = wd i) (hw0 : 0 < w) (hf : Fits ρ r (max w (selfWidth (printE r).1)) = true) :
    Rel wd ρ (assignT ρ (.sig i w s) (evalF ρ r) m) (nbaAssign (.id i w s) (assignV ρ w (printE r).1) p) := by
  refine rel_target h (.sig i w s) (decide_eq_true hw0) hwd _ _ ?_
  rw [assign_correct ρ r w hf]
  exact (tn_tn_same _ _).symm

/-- `rel_printStmts` at the statements of one clock domain (the body of its `always @(posedge clk)`). -/
theorem sync_block_equiv (wd : Nat → Nat) (ρ : Env) (d : SyncDom) (m : Mods) (p : Pending)
    (h : Rel wd ρ m p) (hd : distinctSs d.stmts) (hf : fitsSs ρ d.stmts = true) (hw : wfSs wd d.stmts) :
    Rel wd ρ (execFs ρ d.stmts m) (execVs ρ (printStmts d.stmts) p) :=
  rel_printStmts wd ρ d.stmts m p h hd hf hw

end Litex.C01
