import LitexModel.Fhdl.Instance
import Mathlib.Data.List.Perm.Basic
/-
  `instance.py`: the emitted connection list is a permutation of the Instance's ports (inputs, outputs, inouts
  grouped), the parameter list is the parameters in order.
-/
namespace Litex.C01

theorem filter_dirs_perm (l : List InstPort) :
    (l.filter (fun p => p.dir == .input) ++ (l.filter (fun p => p.dir == .output) ++
      l.filter (fun p => p.dir == .inout))).Perm l := by
  induction l with
  | nil => simp
  | cons p ps ih =>
    cases hd : p.dir <;> simp only [List.filter_cons, hd, beq_self_eq_true, if_true, reduceCtorEq, beq_iff_eq,
      if_false, List.cons_append]
    · exact List.Perm.cons p ih
    · exact (List.perm_middle).trans (List.Perm.cons p ih)
    · refine List.Perm.trans ?_ (List.Perm.cons p ih)
      rw [← List.append_assoc]
      exact (List.perm_middle).trans (by rw [List.append_assoc])

theorem printInstance_ports_perm (ps : List InstParam) (qs : List InstPort) :
    (printInstance ps qs).ports.Perm (qs.map printPort) :=
  (filter_dirs_perm qs).map printPort

theorem printInstance_params (ps : List InstParam) (qs : List InstPort) :
    (printInstance ps qs).params = ps.map fun p => (p.name, printParam p.v) := rfl

end Litex.C01
