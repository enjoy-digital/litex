import LitexModel.Fhdl.ArraySel
import LitexProofs.Fhdl.IntLemmas
/-
  The items `Case(key, {0: b0, …})` of a lowered array access (`arrayItems`): a key below the first one matches nothing,
  the key `i + j` matches body `j` — what `array_select_correct` needs for every key value.
-/
namespace Litex.C01

theorem execItems_arrayItems_lt (ρ : Env) (k : Int) (m : Mods) : ∀ (bs : List Stmts) (i : Nat), k < i →
    execItems ρ (arrayItems i bs) k m = none
  | [], _, _ => rfl
  | b :: bs, i, h => by
    rw [arrayItems, execItems, if_neg (by omega), execItems_arrayItems_lt ρ k m bs (i + 1) (by omega)]

theorem execItems_arrayItems_add (ρ : Env) (m : Mods) : ∀ (bs : List Stmts) (i j : Nat),
    execItems ρ (arrayItems i bs) ((i + j : Nat) : Int) m = bs[j]?.map (execFs ρ · m)
  | [], _, _ => rfl
  | b :: bs, i, 0 => by rw [arrayItems, execItems]; exact if_pos rfl
  | b :: bs, i, j + 1 => by
    rw [arrayItems, execItems, if_neg (by omega), ← Nat.add_assoc, Nat.add_right_comm,
      execItems_arrayItems_add ρ m bs (i + 1) j]
    rfl

end Litex.C01
