import LitexProofs.Fhdl.Filter
import LitexProofs.Fhdl.ModuleStep
/-
  The simulation-flavoured comb back-end (`convert(regular_comb=False)`): the per-target `always @(*)` blocks /
  continuous assignments emitted by `_generate_combinatorial_logic_sim` together compute what the simulator
  computes on the unfiltered statement list — per target, per group, and over the whole comb pass, which makes the
  module body follow the simulator (`follows_printModuleSim`; settle loop and whole runs are `Follows.settle/.run`).
-/
namespace Litex.C01

theorem itemsWidth_printItemsF (t : Nat) : ∀ items,
    itemsWidth (printItemsF t items) = itemsWidth (printItems (filterItems t items))
  | .nil => rfl
  | .cons k kw ks body rest => by
    simp only [printItemsF, filterItems, printItems, itemsWidth, itemsWidth_printItemsF t rest]

theorem itemsSigned_printItemsF (t : Nat) : ∀ items,
    itemsSigned (printItemsF t items) = itemsSigned (printItems (filterItems t items))
  | .nil => rfl
  | .cons k kw ks body rest => by
    simp only [printItemsF, filterItems, printItems, itemsSigned, itemsSigned_printItemsF t rest]

theorem printSs_cons_filterS (t : Nat) (s : Stmt) (ht : t ∈ targetsS s) (rest : Stmts) :
    printSs (.cons (filterS t s) rest) = .cons (printS (filterS t s)) (printSs rest) := by
  rcases printSs_cons (filterS t s) rest with ⟨c, d, he, _⟩ | he
  · -- a kept statement is not an empty `Case` without default: that one has no targets
    cases s with
    | case c' items hasD d' =>
      cases items <;> cases hasD <;> first | cases ht | cases he
    | _ => cases he
  · exact he

mutual
theorem execV_printSF (ρ : Nat → Int) (t : Nat) : ∀ (s : Stmt) (p : Pending),
    execV ρ (printSF t s) p = execV ρ (printS (filterS t s)) p
  | .assign l r, p => rfl
  | .ite c a b, p => by
    simp only [printSF, filterS, printS, execV, execVs_printSsF ρ t a, execVs_printSsF ρ t b]
  | .case test items hasD d, p => by
    simp only [printSF, filterS, printS, execV, itemsWidth_printItemsF, itemsSigned_printItemsF,
      execVItems_printItemsF ρ t, execVs_printSsF ρ t d]
theorem execVs_printSsF (ρ : Nat → Int) (t : Nat) : ∀ (ss : Stmts) (p : Pending),
    execVs ρ (printSsF t ss) p = execVs ρ (printSs (filterSs t ss)) p
  | .nil, p => rfl
  | .cons s ss, p => by
    by_cases ht : t ∈ targetsS s
    · simp only [printSsF, filterSs, if_pos ht]
      rw [printSs_cons_filterS t s ht]
      simp only [execVs, execV_printSF ρ t s, execVs_printSsF ρ t ss]
    · simp only [printSsF, filterSs, if_neg ht]
      exact execVs_printSsF ρ t ss p
theorem execVItems_printItemsF (ρ : Nat → Int) (t : Nat) : ∀ (items : Items) (W : Nat) (sg : Bool) (tv : Int)
    (p : Pending), execVItems ρ W sg tv (printItemsF t items) p =
      execVItems ρ W sg tv (printItems (filterItems t items)) p
  | .nil, _, _, _, _ => rfl
  | .cons k kw ks body rest, W, sg, tv, p => by
    simp only [printItemsF, filterItems, printItems, execVItems, execVs_printSsF ρ t body,
      execVItems_printItemsF ρ t rest]
end

theorem useWire_some {x : Stmts} {l r : Expr} (h : useWire x = some (l, r)) :
    x = .cons (.assign l r) .nil ∧ ∀ a lo hi, l ≠ .slice a lo hi := by
  unfold useWire at h
  split at h
  · rename_i l' r'
    split at h
    · cases h
    · rename_i hns
      injection h with h
      injection h with h1 h2
      subst h1; subst h2
      exact ⟨rfl, fun a lo hi he => hns a lo hi he⟩
  · cases h

def GroupOkSim (sigs : Array SigDecl) (ρ : Env) (g : CombGroup) : Prop :=
  wfSEs (wdOf sigs) g.stmts ∧ distinctSs g.stmts ∧ fitsSs ρ g.stmts = true ∧
  resetsOk sigs g.targets = true ∧ leafTargetsSs g.stmts = true ∧
  g.targets.Nodup ∧ ∀ u ∈ targetsSs g.stmts, u ∈ g.targets

section
variable (sigs : Array SigDecl) (ρ : Env)

/-- `m0` occurs in the last conjunct only: what a group leaves on one of its targets does not depend on the table it
    starts from (its defaults overwrite it), which is what lets the per-target blocks be folded from any table `M`. -/
theorem target_step (g : CombGroup) (hg : GroupOkSim sigs ρ g) (m0 : Mods)
    (t : Nat) (ht : t ∈ g.targets) (M : Mods) (p : Pending) (h : Rel (wdOf sigs) ρ M p) :
    ∃ M', Rel (wdOf sigs) ρ M' (combStepV (bitsEnv (wdOf sigs) ρ) p (printTargetSim sigs g.stmts t)) ∧
      (∀ u, u ≠ t → lookupM M' u = lookupM M u) ∧
      lookupM M' t = lookupM (combStepF sigs ρ m0 g) t := by
  obtain ⟨hwf, hd, hf, hr, hleaf, _, _⟩ := hg
  unfold printTargetSim
  cases hw : useWire (stmtsFor t g.stmts) with
  | none =>
    -- `always @(*)`: the default of `t`, then the sorted statements filtered to `t`
    have hblock := filter_block sigs ρ t (sortSs g.stmts) (by rw [leafTargetsSs_sortSs]; exact hleaf) M
    refine ⟨_, ?_, hblock.1, ?_⟩
    · simp only [combStepV]
      unfold printStmtsF
      rw [execVs_append, execVs_printSsF]
      exact rel_printSs_bits _ ρ _ _ _
        (rel_printSs_bits _ ρ _ M p h (fits_resetStmts ρ sigs _ (resetsOk_of_subset sigs (fun _ hu => List.mem_singleton.1 hu ▸ ht) hr)) (wfSEs_resetStmts sigs _))
        (fitsSs_filterSs ρ t _ (by rw [fitsSs_sortSs]; exact hf)) (wfSEs_filterSs _ t _ ((wfSEs_sortSs _ _).2 hwf))
    · unfold combStepF
      rw [← execFs_sortSs ρ g.stmts hd]
      exact hblock.2 _ m0 ((mem_sortByName sigs t _).2 ht)
  | some lr =>
    -- `assign`: the only statement for `t` is a whole-signal assignment to `t`
    obtain ⟨l, r⟩ := lr
    obtain ⟨hx, hns⟩ := useWire_some hw
    obtain ⟨hmem, htl⟩ := stmtsFor_single t _ _ hx
    have hfs := of_memSs (P := (fitsS ρ · = true)) (Ps := (fitsSs ρ · = true)) (fun _ _ => Bool.and_eq_true_iff.1) _ hmem hf
    have hws := of_memSs (P := wfSE (wdOf sigs)) (Ps := wfSEs (wdOf sigs)) (fun _ _ => id) _ hmem hwf
    have hls : leafOk l = true :=
      of_memSs (P := (leafTargetsS · = true)) (Ps := (leafTargetsSs · = true)) (fun _ _ => Bool.and_eq_true_iff.1) _ hmem hleaf
    obtain ⟨i, w, s, rfl⟩ | ⟨i, w, s, lo, hi, rfl, _, _⟩ := leafOk_cases hls
    · obtain rfl : t = i := List.mem_singleton.1 htl
      have hfs := Bool.and_eq_true_iff.1 hfs
      refine ⟨_, rel_wire_bits sigs h t w s r hws.1 hws.2 (of_decide_eq_true hfs.1) hfs.2,
        fun u hu => if_neg (fun hh => hu hh.symm), ?_⟩
      unfold combStepF
      rw [lookup_of_stmtsFor_assign ρ t w s r _ hleaf hx]
      exact if_pos rfl
    · exact absurd rfl (hns _ lo hi)

theorem targets_fold (g : CombGroup) (hg : GroupOkSim sigs ρ g) (m0 : Mods) :
    ∀ (ts : List Nat), (∀ t ∈ ts, t ∈ g.targets) → ts.Nodup → ∀ (M : Mods) (p : Pending),
      Rel (wdOf sigs) ρ M p →
      ∃ M', Rel (wdOf sigs) ρ M'
          ((ts.map (printTargetSim sigs g.stmts)).foldl (combStepV (bitsEnv (wdOf sigs) ρ)) p) ∧
        ∀ u, lookupM M' u = if u ∈ ts then lookupM (combStepF sigs ρ m0 g) u else lookupM M u
  | [], _, _, M, p, h => ⟨M, by simpa using h, by simp⟩
  | t :: ts, hsub, hnd, M, p, h => by
    simp only [List.nodup_cons] at hnd
    obtain ⟨M1, hr1, ho1, hs1⟩ := target_step sigs ρ g hg m0 t (hsub t (by simp)) M p h
    obtain ⟨M2, hr2, hl2⟩ := targets_fold g hg m0 ts (fun x hx => hsub x (by simp [hx])) hnd.2 M1 _ hr1
    refine ⟨M2, by simpa [List.map_cons, List.foldl_cons] using hr2, ?_⟩
    intro u
    rw [hl2 u]
    by_cases hu : u ∈ ts
    · simp [hu]
    · by_cases hut : u = t
      · subst hut; simp [hu, hs1]
      · simp [hu, hut, ho1 u hut]

theorem sim_group_step (g : CombGroup) (m : Mods) (p : Pending)
    (h : Rel (wdOf sigs) ρ m p) (hg : GroupOkSim sigs ρ g) :
    Rel (wdOf sigs) ρ (combStepF sigs ρ m g)
      ((printCombGroupSim sigs g).foldl (combStepV (bitsEnv (wdOf sigs) ρ)) p) := by
  have ⟨_, _, _, _, hleaf, hnodup, hcover⟩ := hg
  obtain ⟨M', hr, hl⟩ := targets_fold sigs ρ g hg m g.targets (fun _ h => h) hnodup m p h
  unfold printCombGroupSim
  apply rel_congr _ hr
  intro u
  apply readPost_of_lookup
  rw [hl u]
  by_cases hu : u ∈ g.targets
  · simp [hu]
  · -- a signal outside the group's targets is written by neither side
    simp only [hu, if_false]
    unfold combStepF
    rw [nowriteSs ρ u g.stmts hleaf (fun hh => hu (hcover u hh)), lookup_resetStmts,
      if_neg (fun hh => hu ((mem_sortByName sigs u _).1 hh))]

end

theorem isSync_printTargetSim (sigs : Array SigDecl) (ss : Stmts) (t : Nat) :
    isSync (printTargetSim sigs ss t) = false := by
  unfold printTargetSim
  split <;> rfl

/-- The simulation back-end prints one item per target of each group. -/
theorem follows_printModuleSim (f : FModule) :
    Follows f (printModuleSim f) fun a => ∀ g ∈ f.comb, GroupOkSim f.sigs (envA a) g :=
  follows_of_groups f _ _
    (fun g it hit => by obtain ⟨t, _, rfl⟩ := List.mem_map.1 hit; exact isSync_printTargetSim f.sigs g.stmts t)
    fun ρ g m p => sim_group_step f.sigs ρ g m p

def SettleOkSim (f : FModule) : Nat → Array Int → Prop
  | 0, _ => True
  | fuel + 1, a => (∀ g ∈ f.comb, GroupOkSim f.sigs (envA a) g) ∧ SettleOkSim f fuel (iterF f a)

def RunOkSim (f : FModule) (fuel : Nat) : Array Int → List Cycle → Prop
  | _, [] => True
  | a, c :: cs =>
    SettleOkSim f fuel (setInputsF f.sigs a c.ins) ∧
    iterF f (settledF f fuel a c) = settledF f fuel a c ∧
    (∀ d ∈ sortDoms f.sync, DomOk f.sigs (envA (settledF f fuel a c)) d) ∧
    RunOkSim f fuel (edgeF f (settledF f fuel a c) c) cs

end Litex.C01
