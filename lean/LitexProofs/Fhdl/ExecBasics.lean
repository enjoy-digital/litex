import LitexModel.Fhdl.Module
/-
  Basic facts about executing statement lists on both sides: appended lists, looking up a pending modification,
  and what the reset defaults (`resetStmts`) leave in the modification table.
-/
namespace Litex.C01

theorem execFs_append (ρ : Env) : ∀ (a b : Stmts) (m : Mods), execFs ρ (a.append b) m = execFs ρ b (execFs ρ a m)
  | .nil, _, _ => rfl
  | .cons s ss, b, m => by simp only [Stmts.append, execFs, execFs_append ρ ss b]

theorem execVs_append (ρ : Nat → Int) : ∀ (a b : VStmts) (p : Pending),
    execVs ρ (VStmts.append a b) p = execVs ρ b (execVs ρ a p)
  | .nil, b, p => rfl
  | .cons s ss, b, p => by simp only [VStmts.append, execVs, execVs_append ρ ss b]

theorem lookupM_cons (m : Mods) (i u : Nat) (v : Int) :
    lookupM ((i, v) :: m) u = if i = u then some v else lookupM m u := rfl

theorem mem_insertByName (sigs : Array SigDecl) (i u : Nat) : ∀ (l : List Nat),
    u ∈ insertByName sigs i l ↔ u = i ∨ u ∈ l
  | [] => by simp [insertByName]
  | j :: js => by
    rw [insertByName]
    split
    · exact List.mem_cons
    · rw [List.mem_cons, mem_insertByName sigs i u js, List.mem_cons]
      exact or_left_comm

theorem mem_sortByName (sigs : Array SigDecl) (u : Nat) : ∀ (l : List Nat), u ∈ sortByName sigs l ↔ u ∈ l
  | [] => by simp [sortByName]
  | i :: is => by simp [sortByName, mem_insertByName, mem_sortByName sigs u is]

def resetVal (sigs : Array SigDecl) (u : Nat) : Int :=
  truncS (sigs.getD u default).w (sigs.getD u default).s (sigs.getD u default).reset

theorem lookup_resetStmts (sigs : Array SigDecl) (ρ : Env) (u : Nat) : ∀ (l : List Nat) (m : Mods),
    lookupM (execFs ρ (resetStmts sigs l) m) u = if u ∈ l then some (resetVal sigs u) else lookupM m u
  | [], m => by simp [resetStmts, execFs]
  | i :: is, m => by
    simp only [resetStmts, execFs, execF, assignT, evalF]
    rw [lookup_resetStmts sigs ρ u is, lookupM_cons]
    by_cases h1 : u ∈ is
    · simp [h1]
    · by_cases h2 : i = u
      · subst h2; simp [h1, resetVal]
      · have : ¬ u = i := fun h => h2 h.symm
        simp [h1, h2, this]

end Litex.C01
