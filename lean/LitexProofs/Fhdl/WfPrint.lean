import LitexProofs.Verilog.Congr
import LitexProofs.Fhdl.BlockEquiv
/-
  Well-formedness (every signal node carries its declared width) is carried by the printer from the FHDL
  tree to the Verilog text; hence the block theorem holds with the text evaluated on the bit-vector state
  (`rel_printSs_bits`, `rel_printStmts_bits`).
-/
namespace Litex.C01

theorem wfV_toSignedV (wd : Nat → Nat) (r : VExpr) (h : wfV wd r) : wfV wd (toSignedV r) :=
  ⟨trivial, h, trivial⟩

theorem wfV_ite (wd : Nat → Nat) (b : Bool) {x y : VExpr} (hx : wfV wd x) (hy : wfV wd y) :
    wfV wd (if b then x else y) := by
  cases b
  · exact hy
  · exact hx

theorem wfV_ite_prom (wd : Nat → Nat) (b : Bool) (r : VExpr) (h : wfV wd r) :
    wfV wd (if b then toSignedV r else r) :=
  wfV_ite wd b (wfV_toSignedV wd r h) h

theorem wfVL_append (wd : Nat → Nat) : ∀ (xs : List VExpr) (e : VExpr), wfVL wd xs → wfV wd e → wfVL wd (xs ++ [e])
  | [], _, _, he => ⟨he, trivial⟩
  | _ :: xs, e, h, he => ⟨h.1, wfVL_append wd xs e h.2 he⟩

theorem wfV_printConstU (wd : Nat → Nat) (v : Int) (w : Nat) : wfV wd (printConstU v w) := by
  unfold printConstU; split <;> trivial

theorem wfV_printConst (wd : Nat → Nat) (v : Int) (w : Nat) (s : Bool) : wfV wd (printConst v w s).1 := by
  cases s
  · exact wfV_printConstU wd v w
  · trivial

mutual
theorem wfV_printE (wd : Nat → Nat) : ∀ (e : Expr), wfE wd e → wfV wd (printE e).1
  | .const v w s, _ => wfV_printConst wd v w s
  | .sig i w s, h => Nat.le_of_eq h
  | .op1 .neg a, h => wfV_ite wd _ (wfV_printE wd a h) (wfV_toSignedV wd _ (wfV_printE wd a h))
  | .op1 .not a, h => wfV_printE wd a h
  | .op2 o a b, h => by
    simp only [printE]
    split
    · exact ⟨wfV_printE wd a h.1, wfV_printE wd b h.2⟩
    · exact ⟨wfV_ite_prom wd _ _ (wfV_printE wd a h.1), wfV_ite_prom wd _ _ (wfV_printE wd b h.2)⟩
  | .mux c a b, h =>
    ⟨wfV_printE wd c h.1, wfV_ite_prom wd _ _ (wfV_printE wd a h.2.1), wfV_ite_prom wd _ _ (wfV_printE wd b h.2.2)⟩
  | .slice a lo hi, h => by
    have ha : wfV wd (printE a).1 := wfV_printE wd a h
    simp only [printE]
    split
    · exact wfV_ite wd _ ⟨ha, trivial⟩ ha
    · split <;> exact ha
  | .cat l, h => wfVL_printList wd l h
  | .rep a n, h => wfV_printE wd a h
theorem wfVL_printList (wd : Nat → Nat) : ∀ (l : List Expr), wfEL wd l → wfVL wd (printList l).reverse
  | [], _ => trivial
  | e :: es, h => by
    rw [printList, List.reverse_cons]
    exact wfVL_append wd _ _ (wfVL_printList wd es h.2) (wfV_printE wd e h.1)
end

mutual
theorem wfVS_printS (wd : Nat → Nat) : ∀ s, wfSE wd s → wfVS wd (printS s)
  | .assign _ r, h => wfV_printE wd r h.2
  | .ite c t f, h => ⟨wfV_printE wd c h.1, wfVSs_printSs wd t h.2.1, wfVSs_printSs wd f h.2.2⟩
  | .case test items _ d, h =>
    ⟨wfV_printE wd test h.1, wfVItems_printItems wd items h.2.1, wfVSs_printSs wd d h.2.2⟩
theorem wfVSs_printSs (wd : Nat → Nat) : ∀ ss, wfSEs wd ss → wfVSs wd (printSs ss)
  | .nil, _ => trivial
  | .cons s ss, h => by
    rcases printSs_cons s ss with ⟨t, d, rfl, he⟩ | he <;> rw [he]
    · exact wfVSs_printSs wd ss h.2
    · exact ⟨wfVS_printS wd s h.1, wfVSs_printSs wd ss h.2⟩
theorem wfVItems_printItems (wd : Nat → Nat) : ∀ items, wfSEItems wd items → wfVItems wd (printItems items)
  | .nil, _ => trivial
  | .cons k kw _ body rest, h =>
    ⟨wfV_printConstU wd k kw, wfVSs_printSs wd body h.1, wfVItems_printItems wd rest h.2⟩
end

/-! A module body is executed on the Verilog state, which holds `bitsEnv wd ρ`; the printed text reads every identifier
  through its declared width, so this is `rel_execSs` / `rel_printStmts` with the text evaluated there. -/

theorem rel_printSs_bits (wd : Nat → Nat) (ρ : Env) (ss : Stmts) (m : Mods) (p : Pending)
    (h : Rel wd ρ m p) (hf : fitsSs ρ ss = true) (hw : wfSEs wd ss) :
    Rel wd ρ (execFs ρ ss m) (execVs (bitsEnv wd ρ) (printSs ss) p) := by
  rw [execVs_congr wd ρ _ p (wfVSs_printSs wd ss hw)]
  exact rel_execSs wd ρ ss m p h hf (wfSs_of_wfSEs wd ss hw)

theorem rel_printStmts_bits (wd : Nat → Nat) (ρ : Env) (ss : Stmts) (m : Mods) (p : Pending)
    (h : Rel wd ρ m p) (hd : distinctSs ss) (hf : fitsSs ρ ss = true) (hw : wfSEs wd ss) :
    Rel wd ρ (execFs ρ ss m) (execVs (bitsEnv wd ρ) (printStmts ss) p) := by
  rw [← execFs_sortSs ρ ss hd m]
  exact rel_printSs_bits wd ρ _ m p h (by rw [fitsSs_sortSs]; exact hf) ((wfSEs_sortSs wd ss).2 hw)

end Litex.C01
