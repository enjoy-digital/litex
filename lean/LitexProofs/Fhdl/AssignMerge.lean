import LitexModel.Fhdl.FitsStmt
import LitexProofs.Fhdl.PrintExpr
import LitexProofs.Fhdl.Wf
/-
  `assign_slices_merge`: the simulator's assignment with pending-modification read-back and the Verilog
  non-blocking update queue stay in correspondence, for one assignment to a legal target (`rel_target`).

  `Rel wd ρ m p`: applying the scheduled Verilog updates `p` (oldest first) to the bit patterns of the committed
  values gives, for every signal, the bit pattern of the simulator's post-commit view `readPost ρ m`.
-/
namespace Litex.C01

def Rel (wd : Nat → Nat) (ρ : Env) (m : Mods) (p : Pending) : Prop :=
  ∀ i, applyPending i (wd i) (tn (wd i) (ρ i)) p = tn (wd i) (readPost ρ m i)

theorem rel_nil (wd : Nat → Nat) (ρ : Env) : Rel wd ρ [] [] := by
  intro i; simp [applyPending, readPost, lookupM]

theorem readPost_cons (ρ : Env) (m : Mods) (i j : Nat) (v : Int) :
    readPost ρ ((i, v) :: m) j = if i = j then v else readPost ρ m j := by
  unfold readPost
  simp only [lookupM]
  split <;> simp

variable {wd : Nat → Nat} {ρ : Env} {m : Mods} {p : Pending}

/-- Verilog's part-select update is the simulator's read-modify-write, on `w`-bit patterns. -/
theorem applyUpd1_eq_setBits (w : Nat) (cur : Int) (u : Upd) :
    applyUpd1 w cur u = tn w (setBits cur u.lo u.len u.bits) := rfl

theorem setBits_tn {w lo len : Nat} (h : lo + len ≤ w) (full v : Int) :
    tn w (setBits (tn w full) lo len v) = tn w (setBits full lo len v) := by
  unfold setBits
  rw [tn_div_tn h]
  obtain ⟨k, hk⟩ := tn_eq_add_mul w full
  rw [hk, ← tn_add_mul w (full - _ + _) k]
  congr 1; ring

theorem setBits_whole (w : Nat) (full v : Int) : tn w (setBits full 0 w v) = tn w v := by
  obtain ⟨k, hk⟩ := tn_eq_add_mul w full
  rw [setBits, p2_zero, Int.ediv_one, Int.mul_one, Int.mul_one, hk,
    show full - (full + k * p2 w) + tn w v = tn w v + -k * p2 w by ring, tn_add_mul, tn_tn_same]

/-- `v`: what the simulator stores for `i`; `x`: the value it put into bits `[lo, lo+len)` of the pending one; `y`: Verilog's
    right-hand side, which need agree with `x` on those `len` bits only. -/
theorem rel_upd (h : Rel wd ρ m p) {i w lo len : Nat}
    (hw : w = wd i) (hfit : lo + len ≤ w) {v x y : Int}
    (hv : tn w v = tn w (setBits (readPost ρ m i) lo len x)) (hxy : tn len x = tn len y) :
    Rel wd ρ ((i, v) :: m) (⟨i, lo, len, tn len y⟩ :: p) := by
  intro j
  rw [readPost_cons, applyPending]
  by_cases hij : i = j
  · subst hij hw
    rw [if_pos rfl, if_pos rfl, h i, hv, applyUpd1_eq_setBits, setBits_tn hfit]
    unfold setBits
    rw [tn_tn_same, hxy]
  · rw [if_neg hij, if_neg hij]
    exact h j

/-- 1-bit signals are printed without a select; as an assignment target that text still schedules one update of the
    sliced bit. -/
theorem print_slice_leaf {i w : Nat} {s : Bool} {lo hi : Nat} (hlo : lo < hi) (hhi : hi ≤ w) :
    selfWidth (printE (.slice (.sig i w s) lo hi)).1 = hi - lo ∧
    ∀ y p, nbaLeaf (printE (.slice (.sig i w s) lo hi)).1 y p = ⟨i, lo, hi - lo, tn (hi - lo) y⟩ :: p ∧
      nbaAssign (printE (.slice (.sig i w s) lo hi)).1 y p = ⟨i, lo, hi - lo, tn (hi - lo) y⟩ :: p := by
  rcases printE_slice_forms i w s hlo hhi with ⟨rfl, rfl, rfl, h⟩ | ⟨he, h⟩ | ⟨he, h⟩ <;> rw [h]
  · cases s <;> exact ⟨rfl, fun _ _ => ⟨rfl, rfl⟩⟩
  · rw [← he]
    exact ⟨rfl, fun _ _ => ⟨rfl, rfl⟩⟩
  · rw [he]
    exact ⟨rfl, fun _ _ => ⟨rfl, rfl⟩⟩

theorem selfWidth_print_leaf (e : Expr) (hl : leafOk e = true) : selfWidth (printE e).1 = (bitsSign e).1 := by
  obtain ⟨i, w, s, rfl⟩ | ⟨i, w, s, lo, hi, rfl, hlo, hhi⟩ := leafOk_cases hl
  · rfl
  · exact (print_slice_leaf hlo hhi).1

theorem nbaAssign_leaf (e : Expr) (hl : leafOk e = true) (y : Int) (p : Pending) :
    nbaAssign (printE e).1 y p = nbaLeaf (printE e).1 y p := by
  obtain ⟨i, w, s, rfl⟩ | ⟨i, w, s, lo, hi, rfl, hlo, hhi⟩ := leafOk_cases hl
  · rfl
  · rw [((print_slice_leaf hlo hhi).2 y p).1, ((print_slice_leaf hlo hhi).2 y p).2]

theorem rel_leaf (h : Rel wd ρ m p)
    (e : Expr) (hl : leafOk e = true) (hw : wfLeaf wd e) (x y : Int)
    (hxy : tn (bitsSign e).1 x = tn (bitsSign e).1 y) :
    Rel wd ρ (assignT ρ e x m) (nbaLeaf (printE e).1 y p) := by
  obtain ⟨i, w, s, rfl⟩ | ⟨i, w, s, lo, hi, rfl, hlo, hhi⟩ := leafOk_cases hl
  · exact rel_upd h hw (Nat.le_of_eq (Nat.zero_add w)) ((tn_truncS w s x).trans (setBits_whole w _ x).symm) hxy
  · rw [((print_slice_leaf hlo hhi).2 y p).1]
    exact rel_upd h hw (by omega) (tn_truncS w s _) hxy

/-- `Cat` targets: both sides walk the elements from the least significant end. -/
theorem rel_cat :
    ∀ (l : List Expr) {m : Mods} {p : Pending}, Rel wd ρ m p → l.all leafOk = true → (∀ e ∈ l, wfLeaf wd e) →
      ∀ (x y : Int), tn (catBits l) x = tn (catBits l) y →
      Rel wd ρ (assignCat ρ l x m) (nbaConcatL (printList l) y p)
  | [], _, _, h, _, _, _, _, _ => by simpa [assignCat, printList, nbaConcatL] using h
  | e :: es, m, p, h, hl, hw, x, y, hxy => by
    have hl := Bool.and_eq_true_iff.1 hl
    obtain ⟨hlow, hhigh⟩ := tn_split hxy
    rw [assignCat, printList, nbaConcatL, selfWidth_print_leaf e hl.1]
    exact rel_cat es (rel_leaf h e hl.1 (hw e List.mem_cons_self) _ _ ((tn_tn_same _ _).trans hlow)) hl.2
      (fun e' he' => hw e' (List.mem_cons_of_mem _ he')) _ _ hhigh

theorem selfWidth_printList (l : List Expr) (hl : l.all leafOk = true) :
    concatWidth (printList l).reverse = catBits l := by
  induction l with
  | nil => simp [printList, concatWidth, catBits]
  | cons e es ih =>
    simp only [List.all_cons, Bool.and_eq_true] at hl
    simp only [printList, List.reverse_cons, concatWidth_append, catBits, ih hl.2, selfWidth_print_leaf e hl.1]
    omega

theorem selfWidth_print_target (l : Expr) (hl : targetOk l = true) : selfWidth (printE l).1 = (bitsSign l).1 := by
  rcases targetOk_cases hl with ⟨es, rfl, hes⟩ | hl
  · exact selfWidth_printList es hes
  · exact selfWidth_print_leaf l hl

theorem rel_target (h : Rel wd ρ m p)
    (l : Expr) (hl : targetOk l = true) (hw : wfTarget wd l) (x y : Int)
    (hxy : tn (bitsSign l).1 x = tn (bitsSign l).1 y) :
    Rel wd ρ (assignT ρ l x m) (nbaAssign (printE l).1 y p) := by
  rcases targetOk_cases hl with ⟨es, rfl, hes⟩ | hl
  · rw [printE, nbaAssign, List.reverse_reverse]
    exact rel_cat es h hes hw x y hxy
  · rw [nbaAssign_leaf l hl]
    refine rel_leaf h l hl ?_ x y hxy
    obtain ⟨i, w, s, rfl⟩ | ⟨i, w, s, lo, hi, rfl, _, _⟩ := leafOk_cases hl <;> exact hw

end Litex.C01
