import LitexModel.Fhdl.MemoryN
import LitexProofs.Fhdl.MemoryEquiv
/-
  Memories with several ports: one instant (any set of rising clocks) of the memory.py templates = one instant of
  the simulator's MemoryToArray semantics, and whole runs.  The facts are proved per port (`portWrite_equiv`,
  `portReg_equiv`, and `writeF_eq_writeV`, `nc_read`, `memRead_equiv` of `MemoryEquiv.lean`) and carried along the
  port list.  The one-port theorems of `MemoryEquiv.lean` are not instances of these: `memEdgeF` has the reset
  branch that `edgeFN` has not, and a port here has a `hasWe` flag; they share the per-port lemmas instead.
-/
namespace Litex.C01

variable (c : MemCfgN)

theorem effMode_of_kept (p : PortCfg) (h : modeKept c p = true) : effMode c p = p.mode := by
  simp only [modeKept, Bool.or_eq_true, Bool.not_eq_true', decide_eq_true_eq] at h
  unfold effMode
  rcases h with (h | h) | h
  · simp [h]
  · simp [h]
  · simp [h]

theorem portOk_elim {c : MemCfgN} {p : PortCfg} (h : portOk c p = true) :
    memCfgOk (p.cfg c) = true ∧ effMode c p = p.mode ∧ (p.mode ≠ .noChange ∨ p.hasWe = true) := by
  simp only [portOk, Bool.and_eq_true, Bool.or_eq_true, decide_eq_true_eq] at h
  exact ⟨h.1.1, effMode_of_kept c p h.1.2, h.2⟩

theorem memCfgOkN_of_all {c : MemCfgN} {q : PortCfg → Bool} (hq : ∀ p, q p = true → portOk c p = true)
    (h : c.ports.all q = true) : memCfgOkN c = true :=
  List.all_eq_true.2 fun p hp => hq p (List.all_eq_true.1 h p hp)

theorem portWriteV_length (pc : MemCfg) (hw : Bool) (words : List Int) (i : MemIn) :
    (portWriteV pc hw words i).length = words.length := by
  unfold portWriteV
  split
  · rw [List.length_set]
  · rfl

theorem tickWrite_length (b : Bool) (pc : MemCfg) (hw : Bool) (words : List Int) (i : MemIn) :
    (if b then portWriteV pc hw words i else words).length = words.length := by
  split
  · exact portWriteV_length pc hw words i
  · rfl

theorem portWrite_equiv (pc : MemCfg) (hw : Bool) (words : List Int) (i : MemIn) (hc : memCfgOk pc = true)
    (ha : i.adr < pc.depth) (hl : words.length = pc.depth) :
    portWriteF pc hw words i = portWriteV pc hw words i := by
  unfold portWriteF portWriteV
  rw [idxF_of_lt pc ha, writeF_eq_writeV pc i _ hc]
  cases hw
  · simp
  · simp [hl, ha]

theorem portReg_equiv (pc : MemCfg) (hw : Bool) (old : List Int) (s : PortSt) (i : MemIn)
    (hc : memCfgOk pc = true) (hi : memInOk pc i = true) (hnc : pc.mode ≠ .noChange ∨ hw = true) :
    portRegF pc hw old s i = portRegV pc pc.mode old s i := by
  unfold portRegF portRegV
  rw [idxF_of_lt pc (memInOk_adr hi)]
  cases hm : pc.mode <;> simp only []
  -- NO_CHANGE: such a port is write capable
  rw [hnc.resolve_left (fun h => h hm), if_pos rfl, nc_read hc hi hm]

/-- `old`: the committed words, which the register logic of every port reads; `words`: the pending words, which the
    ports write one after the other — two arguments on purpose (a READ_FIRST port sees `old` whoever wrote before). -/
theorem stepPorts_equiv (old : List Int) (clks : List Nat) :
    ∀ (ports : List PortCfg) (ss : List PortSt) (is : List MemIn) (words : List Int),
      ports.all (portOk c) = true → insOk c ports is = true → words.length = c.depth →
      stepPortsF c old clks ports ss is words = stepPortsV c old clks ports ss is words
  | [], _, _, _, _, _, _ => rfl
  | _ :: _, [], _, _, _, _, _ => rfl
  | _ :: _, _ :: _, [], _, _, _, _ => rfl
  | p :: ps, s :: ss, i :: is, words, hp, hi, hl => by
    have hp := Bool.and_eq_true_iff.1 hp
    have hi := Bool.and_eq_true_iff.1 hi
    obtain ⟨hcfg, hmode, hnc'⟩ := portOk_elim hp.1
    have hmode : effMode c p = (p.cfg c).mode := hmode
    have hrest := hp.2
    have hadr : i.adr < c.depth := memInOk_adr hi.1
    have hW := portWrite_equiv (p.cfg c) p.hasWe words i hcfg hadr hl
    have hR := portReg_equiv (p.cfg c) p.hasWe old s i hcfg hi.1 hnc'
    simp only [stepPortsF, stepPortsV, hmode, hW, hR]
    have hl' := (tickWrite_length (clks.contains p.clk) (p.cfg c) p.hasWe words i).trans hl
    rw [stepPorts_equiv old clks ps ss is _ hrest hi.2 hl']

theorem memEdgeN_equiv (st : MemStN) (clks : List Nat) (ins : List MemIn)
    (hc : memCfgOkN c = true) (hs : memStOkN c st = true) (hi : insOk c c.ports ins = true) :
    edgeFN c st clks ins = edgeVN c st clks ins := by
  simp only [memStOkN, Bool.and_eq_true, decide_eq_true_eq] at hs
  unfold edgeFN edgeVN
  rw [stepPorts_equiv c st.words clks c.ports st.ps ins st.words hc hi hs.1.1]

theorem reads_equiv (words : List Int) (hl : words.length = c.depth) :
    ∀ (ports : List PortCfg) (ss : List PortSt) (is : List MemIn),
      ports.all (portOk c) = true → insOk c ports is = true → portsStOk c.depth ss = true →
      readsF c words ports ss is = readsV c words ports ss is
  | [], _, _, _, _, _ => rfl
  | _ :: _, [], _, _, _, _ => rfl
  | _ :: _, _ :: _, [], _, _, _ => rfl
  | p :: ps, s :: ss, i :: is, hp, hi, hs => by
    have hp := Bool.and_eq_true_iff.1 hp
    have hi := Bool.and_eq_true_iff.1 hi
    simp only [portsStOk, Bool.and_eq_true, decide_eq_true_eq] at hs
    have hcfg : { p.cfg c with mode := effMode c p } = p.cfg c := by rw [(portOk_elim hp.1).2.1]; rfl
    simp only [readsF, readsV, hcfg]
    rw [memRead_equiv (p.cfg c) _ i.adr (by simp [memStOk, hl, hs.1, PortCfg.cfg]) (memInOk_adr hi.1),
      reads_equiv words hl ps ss is hp.2 hi.2 hs.2]

theorem stepPortsV_ok (old : List Int) (clks : List Nat) :
    ∀ (ports : List PortCfg) (ss : List PortSt) (is : List MemIn) (words : List Int),
      insOk c ports is = true → words.length = c.depth → ss.length = ports.length → portsStOk c.depth ss = true →
      (stepPortsV c old clks ports ss is words).1.length = c.depth ∧
      (stepPortsV c old clks ports ss is words).2.length = ports.length ∧
      portsStOk c.depth (stepPortsV c old clks ports ss is words).2 = true
  | [], [], _, words, _, hl, _, _ => by simp [stepPortsV, hl, portsStOk]
  | [], _ :: _, _, _, _, _, hlen, _ => by simp at hlen
  | _ :: _, [], _, _, _, _, hlen, _ => by simp at hlen
  | p :: ps, s :: ss, [], _, hi, _, _, _ => by simp [insOk] at hi
  | p :: ps, s :: ss, i :: is, words, hi, hl, hlen, hs => by
    simp only [insOk, Bool.and_eq_true] at hi
    simp only [portsStOk, Bool.and_eq_true, decide_eq_true_eq] at hs
    simp only [List.length_cons, Nat.add_right_cancel_iff] at hlen
    have hadr : i.adr < c.depth := memInOk_adr hi.1
    have hl' := (tickWrite_length (clks.contains p.clk) (p.cfg c) p.hasWe words i).trans hl
    have ih := stepPortsV_ok old clks ps ss is _ hi.2 hl' hlen hs.2
    simp only [stepPortsV, List.length_cons, portsStOk, Bool.and_eq_true, decide_eq_true_eq]
    refine ⟨ih.1, by rw [ih.2.1], ?_, ih.2.2⟩
    -- only a WRITE_FIRST port moves its registered address, to the in-range address input
    split
    · unfold portRegV
      cases effMode c p <;> simp only []
      · split
        · exact hadr
        · exact hs.1
      all_goals exact hs.1
    · exact hs.1

theorem memStOkN_edgeV (st : MemStN) (clks : List Nat) (ins : List MemIn)
    (hs : memStOkN c st = true) (hi : insOk c c.ports ins = true) : memStOkN c (edgeVN c st clks ins) = true := by
  simp only [memStOkN, Bool.and_eq_true, decide_eq_true_eq] at hs ⊢
  have := stepPortsV_ok c st.words clks c.ports st.ps ins st.words hi hs.1.1 hs.1.2 hs.2
  unfold edgeVN
  exact ⟨⟨this.1, this.2.1⟩, this.2.2⟩

theorem memReadN_equiv (st : MemStN) (ins : List MemIn) (hc : memCfgOkN c = true)
    (hs : memStOkN c st = true) (hi : insOk c c.ports ins = true) : readFN c st ins = readVN c st ins := by
  simp only [memStOkN, Bool.and_eq_true, decide_eq_true_eq] at hs
  exact reads_equiv c st.words hs.1.1 c.ports st.ps ins hc hi hs.2

theorem memRunN_equiv (hc : memCfgOkN c = true) :
    ∀ (sched : List (List Nat × List MemIn)) (st : MemStN), memStOkN c st = true →
      (∀ x ∈ sched, insOk c c.ports x.2 = true) → runFN c st sched = runVN c st sched
  | [], _, _, _ => rfl
  | (clks, ins) :: rest, st, hs, hi => by
    have hi0 := hi (clks, ins) (by simp)
    have he := memEdgeN_equiv c st clks ins hc hs hi0
    have hs' := memStOkN_edgeV c st clks ins hs hi0
    simp only [runFN, runVN, he]
    rw [memReadN_equiv c _ ins hc hs' hi0, memRunN_equiv hc rest _ hs' (fun x hx => hi x (by simp [hx]))]

theorem portsStOk_init (depth : Nat) (hd : 0 < depth) : ∀ (ports : List PortCfg),
    portsStOk depth (ports.map fun _ => (⟨0, 0⟩ : PortSt)) = true
  | [] => rfl
  | _ :: ps => by simp [portsStOk, hd, portsStOk_init depth hd ps]

theorem memStOkN_init (hd : 0 < c.depth) : memStOkN c (memInitN c) = true :=
  Bool.and_eq_true_iff.2 ⟨Bool.and_eq_true_iff.2
    ⟨decide_eq_true (padInit_length _), decide_eq_true (List.length_map _)⟩, portsStOk_init c.depth hd c.ports⟩

end Litex.C01
