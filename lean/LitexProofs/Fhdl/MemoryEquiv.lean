import LitexModel.Fhdl.Memory
import LitexProofs.Fhdl.IntLemmas
/-
  One clock edge of the memory.py port template = one edge of the simulator's MemoryToArray semantics.
-/
namespace Litex.C01

variable (c : MemCfg)

theorem writeF_eq_writeV (i : MemIn) (word : Int) (hc : memCfgOk c = true) :
    writeF c i word = writeV c i word := by
  simp only [memCfgOk, Bool.and_eq_true, Bool.or_eq_true, decide_eq_true_eq] at hc
  unfold writeF writeV MemCfg.gran
  by_cases hg : c.g = 0
  · simp [hg]
  · have hlt : c.g < c.w := by rcases hc.1 with h | h; exact absurd h hg; exact h
    have hne : c.g ≠ c.w := by omega
    simp only [hg, if_false, hne]
    -- chunk by chunk: Verilog's part-select update `applyUpd1` is `tn ∘ setBits` by definition
    rfl

theorem idxF_of_lt {a : Nat} (h : a < c.depth) : idxF c a = a :=
  Nat.min_eq_left (Nat.le_sub_one_of_lt h)

theorem memInOk_adr {c : MemCfg} {i : MemIn} (h : memInOk c i = true) : i.adr < c.depth := by
  simp only [memInOk, Bool.and_eq_true, decide_eq_true_eq] at h
  exact h.1.1

/-- NO_CHANGE read condition: the simulator's `~we` (masked) and the text's `!we` agree when the enables are
    all clear or all set. -/
theorem nc_cond (n : Nat) (hn : 0 < n) (we : Int) (h : tn n we = 0 ∨ tn n we = p2 n - 1) :
    (tn n (notI we) ≠ 0) ↔ (tn n we = 0) := by
  have hnot := tn_not n we
  have hp : p2 (0 + 1) ≤ p2 n := p2_le hn
  rw [p2_succ, p2_zero] at hp
  rcases h with h | h <;> rw [h] at hnot <;> constructor <;> intro _ <;> omega

theorem nc_read {c : MemCfg} {i : MemIn} (hc : memCfgOk c = true) (hi : memInOk c i = true)
    (hm : c.mode = .noChange) : decide (tn c.nwe (notI i.we) ≠ 0) = decide (tn c.nwe i.we = 0) := by
  simp only [memCfgOk, Bool.and_eq_true, decide_eq_true_eq] at hc
  simp only [memInOk, hm, ne_eq, not_true_eq_false, decide_false, Bool.false_or, Bool.and_eq_true,
    Bool.or_eq_true, decide_eq_true_eq] at hi
  exact decide_eq_decide.2 (nc_cond c.nwe hc.2 i.we hi.2)

theorem memEdge_equiv (st : MemSt) (i : MemIn) (hc : memCfgOk c = true)
    (hs : memStOk c st = true) (hi : memInOk c i = true) : memEdgeF c st i = memEdgeV c st i := by
  have hadr := memInOk_adr hi
  have hrst : i.rst = false := by
    simp only [memInOk, Bool.and_eq_true, Bool.not_eq_true'] at hi
    exact hi.1.2
  simp only [memStOk, Bool.and_eq_true, decide_eq_true_eq] at hs
  unfold memEdgeF memEdgeV
  simp only [hrst, Bool.false_eq_true, if_false, idxF_of_lt c hadr, writeF_eq_writeV c i _ hc, hs.1, hadr, if_true]
  cases hm : c.mode <;> simp only []
  rw [nc_read hc hi hm]

theorem memStOk_edgeV (st : MemSt) (i : MemIn) (hs : memStOk c st = true) (hi : memInOk c i = true) :
    memStOk c (memEdgeV c st i) = true := by
  simp only [memStOk, Bool.and_eq_true, decide_eq_true_eq] at hs ⊢
  have hadr := memInOk_adr hi
  have hlen : (st.words.set i.adr (writeV c i (st.words.getD i.adr 0))).length = c.depth := by
    rw [List.length_set]; exact hs.1
  unfold memEdgeV
  cases hm : c.mode <;> simp only [hs.1, hadr, if_true, hlen, true_and]
  · split
    · exact hadr
    · exact hs.2
  · exact hs.2
  · exact hs.2
  · exact hs.2

theorem memRead_equiv (st : MemSt) (adr : Nat) (hs : memStOk c st = true) (ha : adr < c.depth) :
    memReadF c st adr = memReadV c st adr := by
  simp only [memStOk, Bool.and_eq_true, decide_eq_true_eq] at hs
  unfold memReadF memReadV
  cases c.mode <;> simp only [idxF_of_lt c ha, idxF_of_lt c hs.2]

theorem memRun_equiv (hc : memCfgOk c = true) :
    ∀ (is : List MemIn) (st : MemSt), memStOk c st = true → (∀ i ∈ is, memInOk c i = true) →
      memRunF c st is = memRunV c st is
  | [], _, _, _ => rfl
  | i :: is, st, hs, hi => by
    have hi0 := hi i (by simp)
    have he := memEdge_equiv c st i hc hs hi0
    have hs' := memStOk_edgeV c st i hs hi0
    simp only [memRunF, memRunV, he]
    rw [memRead_equiv c _ i.adr hs' (memInOk_adr hi0), memRun_equiv hc is _ hs' (fun j hj => hi j (by simp [hj]))]

theorem padInit_length : (padInit c).length = c.depth := by
  simp only [padInit, List.length_append, List.length_map, List.length_take, List.length_replicate]
  omega

theorem memStOk_init (hd : 0 < c.depth) : memStOk c (memInit c) = true :=
  Bool.and_eq_true_iff.2 ⟨decide_eq_true (padInit_length c), decide_eq_true hd⟩

end Litex.C01
