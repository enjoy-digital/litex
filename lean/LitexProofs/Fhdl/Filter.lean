import LitexModel.Fhdl.SimBackend
import LitexProofs.Fhdl.Sort
import LitexProofs.Fhdl.ExecBasics
/-
  The per-target filter of the simulation-flavoured comb back-end (`_generate_node(..., target_filter=t)`):
  FHDL-level facts.  For statements whose assignments each drive ONE signal (`leafTargetsSs`):
    * `filter_otherSs`  the statements kept for target `t` write `t` only;
    * `filter_sameSs`   on `t` they compute what the unfiltered list computes;
    * `nowriteSs`       statements that do not have `u` among their targets do not write `u`
  (each with its twins `…S`, `…Items` for one statement and for the items of a `Case`);
  and the side conditions survive the filter (`fitsSs_filterSs`, `wfSEs_filterSs`).
-/
namespace Litex.C01

theorem readPost_of_lookup {ρ : Env} {m m' : Mods} {i : Nat} (h : lookupM m i = lookupM m' i) :
    readPost ρ m i = readPost ρ m' i := by
  simp only [readPost, h]

/-- An assignment to a leaf records one modification, of the leaf's signal, computed from the pending value of
    that signal alone. -/
theorem assignT_leaf {l : Expr} (hl : leafOk l = true) (ρ : Env) (x : Int) :
    ∃ i, targetsE l = [i] ∧ ∃ g : Option Int → Int, ∀ m, assignT ρ l x m = (i, g (lookupM m i)) :: m := by
  obtain ⟨i, w, s, rfl⟩ | ⟨i, w, s, lo, hi, rfl, _, _⟩ := leafOk_cases hl
  · exact ⟨i, rfl, fun _ => truncS w s x, fun _ => rfl⟩
  · exact ⟨i, rfl, fun o => truncS w s (setBits (o.getD (ρ i)) lo (hi - lo) x), fun _ => rfl⟩

theorem assignT_other (ρ : Env) (l : Expr) (hl : leafOk l = true) (u : Nat) (hu : u ∉ targetsE l) (x : Int)
    (m : Mods) : lookupM (assignT ρ l x m) u = lookupM m u := by
  obtain ⟨i, hi, g, hg⟩ := assignT_leaf hl ρ x
  rw [hi, List.mem_singleton] at hu
  rw [hg, lookupM_cons, if_neg (fun h => hu h.symm)]

theorem assignT_same (ρ : Env) (l : Expr) (hl : leafOk l = true) (t : Nat) (ht : t ∈ targetsE l) (x : Int)
    (m m' : Mods) (h : lookupM m t = lookupM m' t) :
    lookupM (assignT ρ l x m) t = lookupM (assignT ρ l x m') t := by
  obtain ⟨i, hi, g, hg⟩ := assignT_leaf hl ρ x
  obtain rfl : t = i := List.mem_singleton.1 (hi ▸ ht)
  rw [hg, hg, lookupM_cons, lookupM_cons, h]

theorem execF_case_inv {ρ : Env} {test : Expr} {items : Items} {hasD : Bool} {d : Stmts} {m : Mods}
    {P : Mods → Prop} (hm : P m) (hitems : ∀ v m', execItems ρ items v m = some m' → P m')
    (hd : hasD = true → P (execFs ρ d m)) : P (execF ρ (.case test items hasD d) m) := by
  rw [execF]
  cases h : execItems ρ items _ m with
  | some m' => exact hitems _ m' h
  | none =>
    cases hasD with
    | false => exact hm
    | true => exact hd rfl

mutual
theorem nowriteS (ρ : Env) (u : Nat) : ∀ (s : Stmt), leafTargetsS s = true → u ∉ targetsS s → ∀ m,
    lookupM (execF ρ s m) u = lookupM m u
  | .assign l _, hl, hu, m => assignT_other ρ l hl u hu _ m
  | .ite _ a b, hl, hu, m => by
    have hl := Bool.and_eq_true_iff.1 hl
    have hu := not_or.1 (mt List.mem_append.2 hu)
    rw [execF]
    split
    · exact nowriteSs ρ u a hl.1 hu.1 m
    · exact nowriteSs ρ u b hl.2 hu.2 m
  | .case _ items hasD d, hl, hu, m => by
    have hl := Bool.and_eq_true_iff.1 hl
    have hu := not_or.1 (mt List.mem_append.2 hu)
    exact execF_case_inv (P := fun m' => lookupM m' u = lookupM m u) rfl
      (fun v m' => nowriteItems ρ u items hl.1 hu.1 v m m')
      (fun hD => nowriteSs ρ u d hl.2 (by subst hD; exact hu.2) m)
theorem nowriteSs (ρ : Env) (u : Nat) : ∀ (ss : Stmts), leafTargetsSs ss = true → u ∉ targetsSs ss → ∀ m,
    lookupM (execFs ρ ss m) u = lookupM m u
  | .nil, _, _, _ => rfl
  | .cons s ss, hl, hu, m => by
    have hl := Bool.and_eq_true_iff.1 hl
    have hu := not_or.1 (mt List.mem_append.2 hu)
    rw [execFs, nowriteSs ρ u ss hl.2 hu.2, nowriteS ρ u s hl.1 hu.1]
theorem nowriteItems (ρ : Env) (u : Nat) : ∀ (items : Items), leafTargetsItems items = true →
    u ∉ targetsItems items → ∀ v m m', execItems ρ items v m = some m' → lookupM m' u = lookupM m u
  | .nil, _, _, _, _, _, h => nomatch h
  | .cons _ _ _ body rest, hl, hu, v, m, m', h => by
    have hl := Bool.and_eq_true_iff.1 hl
    have hu := not_or.1 (mt List.mem_append.2 hu)
    rw [execItems] at h
    split at h
    · exact Option.some.inj h ▸ nowriteSs ρ u body hl.1 hu.1 m
    · exact nowriteItems ρ u rest hl.2 hu.2 v m m' h
end

mutual
theorem filter_otherS (ρ : Env) (t u : Nat) (hut : u ≠ t) : ∀ (s : Stmt), leafTargetsS s = true →
    t ∈ targetsS s → ∀ m, lookupM (execF ρ (filterS t s) m) u = lookupM m u
  | .assign l _, hl, ht, m => by
    obtain ⟨i, hi, _⟩ := assignT_leaf hl ρ 0
    refine assignT_other ρ l hl u (fun hu => hut ?_) _ m
    rw [targetsS, hi] at ht
    rw [hi] at hu
    exact (List.mem_singleton.1 hu).trans (List.mem_singleton.1 ht).symm
  | .ite _ a b, hl, _, m => by
    have hl := Bool.and_eq_true_iff.1 hl
    rw [filterS, execF]
    split
    · exact filter_otherSs ρ t u hut a hl.1 m
    · exact filter_otherSs ρ t u hut b hl.2 m
  | .case _ items _ d, hl, _, m =>
    have hl := Bool.and_eq_true_iff.1 hl
    execF_case_inv (P := fun m' => lookupM m' u = lookupM m u) rfl
      (fun v m' => filter_otherItems ρ t u hut items hl.1 v m m') (fun _ => filter_otherSs ρ t u hut d hl.2 m)
theorem filter_otherSs (ρ : Env) (t u : Nat) (hut : u ≠ t) : ∀ (ss : Stmts), leafTargetsSs ss = true → ∀ m,
    lookupM (execFs ρ (filterSs t ss) m) u = lookupM m u
  | .nil, _, _ => rfl
  | .cons s ss, hl, m => by
    have hl := Bool.and_eq_true_iff.1 hl
    rw [filterSs]
    split
    · rename_i ht
      rw [execFs, filter_otherSs ρ t u hut ss hl.2, filter_otherS ρ t u hut s hl.1 ht]
    · exact filter_otherSs ρ t u hut ss hl.2 m
theorem filter_otherItems (ρ : Env) (t u : Nat) (hut : u ≠ t) : ∀ (items : Items), leafTargetsItems items = true →
    ∀ v m m', execItems ρ (filterItems t items) v m = some m' → lookupM m' u = lookupM m u
  | .nil, _, _, _, _, h => nomatch h
  | .cons _ _ _ body rest, hl, v, m, m', h => by
    have hl := Bool.and_eq_true_iff.1 hl
    rw [filterItems, execItems] at h
    split at h
    · exact Option.some.inj h ▸ filter_otherSs ρ t u hut body hl.1 m
    · exact filter_otherItems ρ t u hut rest hl.2 v m m' h
end

mutual
theorem filter_sameS (ρ : Env) (t : Nat) : ∀ (s : Stmt), leafTargetsS s = true → ∀ m m',
    lookupM m t = lookupM m' t → lookupM (execF ρ (filterS t s) m) t = lookupM (execF ρ s m') t
  | .assign l _, hl, m, m', h => by
    by_cases ht : t ∈ targetsE l
    · exact assignT_same ρ l hl t ht _ m m' h
    · exact (assignT_other ρ l hl t ht _ m).trans (h.trans (assignT_other ρ l hl t ht _ m').symm)
  | .ite _ a b, hl, m, m', h => by
    have hl := Bool.and_eq_true_iff.1 hl
    rw [filterS, execF, execF]
    split
    · exact filter_sameSs ρ t a hl.1 m m' h
    · exact filter_sameSs ρ t b hl.2 m m' h
  | .case test items hasD d, hl, m, m', h => by
    obtain ⟨hli, hld⟩ := Bool.and_eq_true_iff.1 hl
    have hi := filter_sameItems ρ t items hli
      (truncS (bitsSign test).1 (bitsSign test).2 (evalF ρ test)) m m' h
    rw [filterS, execF, execF]
    -- both sides find a matching item, or neither does
    generalize execItems ρ (filterItems t items) _ m = ro at hi
    generalize execItems ρ items _ m' = ro' at hi
    cases ro <;> cases ro' <;> first | cases hi | skip
    · cases hasD with
      | false => exact h
      | true => exact filter_sameSs ρ t d hld m m' h
    · exact Option.some.inj hi
theorem filter_sameSs (ρ : Env) (t : Nat) : ∀ (ss : Stmts), leafTargetsSs ss = true → ∀ m m',
    lookupM m t = lookupM m' t → lookupM (execFs ρ (filterSs t ss) m) t = lookupM (execFs ρ ss m') t
  | .nil, _, _, _, h => h
  | .cons s ss, hl, m, m', h => by
    have hl := Bool.and_eq_true_iff.1 hl
    rw [filterSs]
    split
    · exact filter_sameSs ρ t ss hl.2 _ _ (filter_sameS ρ t s hl.1 m m' h)
    · rename_i ht
      exact filter_sameSs ρ t ss hl.2 _ _ (h.trans (nowriteS ρ t s hl.1 ht m').symm)
theorem filter_sameItems (ρ : Env) (t : Nat) : ∀ (items : Items), leafTargetsItems items = true → ∀ v m m',
    lookupM m t = lookupM m' t →
    (execItems ρ (filterItems t items) v m).map (fun x => lookupM x t) =
      (execItems ρ items v m').map (fun x => lookupM x t)
  | .nil, _, _, _, _, _ => rfl
  | .cons _ _ _ body rest, hl, v, m, m', h => by
    have hl := Bool.and_eq_true_iff.1 hl
    rw [filterItems, execItems, execItems]
    split
    · exact congrArg some (filter_sameSs ρ t body hl.1 m m' h)
    · exact filter_sameItems ρ t rest hl.2 v m m' h
end

def memSs (s : Stmt) : Stmts → Prop
  | .nil => False
  | .cons s' ss => s = s' ∨ memSs s ss

/-- `Ps` holds of every member of a list it holds of (`hcons`; e.g. `fitsSs`, `wfSEs`, `leafTargetsSs`): so of a member. -/
theorem of_memSs {P : Stmt → Prop} {Ps : Stmts → Prop} (hcons : ∀ s ss, Ps (.cons s ss) → P s ∧ Ps ss) {s : Stmt} :
    ∀ ss, memSs s ss → Ps ss → P s
  | .nil, h, _ => h.elim
  | .cons s' ss, h, hp => by
    rcases h with rfl | h
    · exact (hcons _ _ hp).1
    · exact of_memSs hcons ss h (hcons _ _ hp).2

theorem stmtsFor_single (t : Nat) (s : Stmt) : ∀ (ss : Stmts), stmtsFor t ss = .cons s .nil →
    memSs s ss ∧ t ∈ targetsS s
  | .nil, h => nomatch h
  | .cons s' ss, h => by
    rw [stmtsFor] at h
    split at h
    · rename_i ht
      injection h with h1 _
      exact ⟨Or.inl h1.symm, h1 ▸ ht⟩
    · exact (stmtsFor_single t s ss h).imp_left Or.inr

theorem filterSs_of_stmtsFor_nil (t : Nat) : ∀ (ss : Stmts), stmtsFor t ss = .nil → filterSs t ss = .nil
  | .nil, _ => rfl
  | .cons s ss, h => by
    rw [stmtsFor] at h
    split at h
    · cases h
    · rename_i ht
      rw [filterSs, if_neg ht]
      exact filterSs_of_stmtsFor_nil t ss h

theorem filterSs_of_stmtsFor_assign (t : Nat) (l r : Expr) : ∀ (ss : Stmts),
    stmtsFor t ss = .cons (.assign l r) .nil → filterSs t ss = .cons (.assign l r) .nil
  | .nil, h => nomatch h
  | .cons s ss, h => by
    rw [stmtsFor] at h
    split at h
    · rename_i ht
      injection h with h1 h2
      rw [filterSs, if_pos ht, h1, filterSs_of_stmtsFor_nil t ss h2]
      rfl
    · rename_i ht
      rw [filterSs, if_neg ht]
      exact filterSs_of_stmtsFor_assign t l r ss h

/-- The simulator-side meaning of the block emitted for target `t` (default, then the statements kept for `t`): it
    writes `t` only, and on `t` it computes what the whole group computes after the defaults of a list containing `t`. -/
theorem filter_block (sigs : Array SigDecl) (ρ : Env) (t : Nat) (ss : Stmts) (hl : leafTargetsSs ss = true) (M : Mods) :
    (∀ u, u ≠ t → lookupM (execFs ρ (filterSs t ss) (execFs ρ (resetStmts sigs [t]) M)) u = lookupM M u) ∧
    ∀ (l : List Nat) (m0 : Mods), t ∈ l →
      lookupM (execFs ρ (filterSs t ss) (execFs ρ (resetStmts sigs [t]) M)) t =
        lookupM (execFs ρ ss (execFs ρ (resetStmts sigs l) m0)) t := by
  refine ⟨fun u hu => ?_, fun l m0 ht => filter_sameSs ρ t ss hl _ _ ?_⟩
  · rw [filter_otherSs ρ t u hu ss hl, lookup_resetStmts, if_neg (fun h => hu (List.mem_singleton.1 h))]
  · rw [lookup_resetStmts, lookup_resetStmts, if_pos List.mem_cons_self, if_pos ht]

theorem lookup_of_stmtsFor_assign (ρ : Env) (t w : Nat) (s : Bool) (r : Expr) (ss : Stmts)
    (hl : leafTargetsSs ss = true) (hx : stmtsFor t ss = .cons (.assign (.sig t w s) r) .nil) (m : Mods) :
    lookupM (execFs ρ ss m) t = some (truncS w s (evalF ρ r)) := by
  rw [← filter_sameSs ρ t ss hl m m rfl, filterSs_of_stmtsFor_assign t _ _ _ hx]
  exact if_pos rfl

theorem filterItems_eq (t : Nat) : ∀ items, filterItems t items = mapBodies (filterSs t) items
  | .nil => rfl
  | .cons k kw ks body rest => by rw [filterItems, mapBodies, filterItems_eq t rest]

theorem fitsCase_filter (ρ : Env) (t : Nat) (test : Expr) (items : Items) :
    fitsCase ρ test (filterItems t items) = fitsCase ρ test items := by
  rw [filterItems_eq, fitsCase_mapBodies]

mutual
theorem fitsS_filterS (ρ : Env) (t : Nat) : ∀ s, fitsS ρ s = true → fitsS ρ (filterS t s) = true
  | .assign _ _, h => h
  | .ite _ a b, h => band_imp (band_imp id (fitsSs_filterSs ρ t a)) (fitsSs_filterSs ρ t b) h
  | .case test items hasD d, h => by
    rw [filterS, fitsS, fitsCase_filter]
    exact band_imp (band_imp id (fitsItems_filterItems ρ t items)) (fitsSs_filterSs ρ t d) h
theorem fitsSs_filterSs (ρ : Env) (t : Nat) : ∀ ss, fitsSs ρ ss = true → fitsSs ρ (filterSs t ss) = true
  | .nil, _ => rfl
  | .cons s ss, h => by
    have h := Bool.and_eq_true_iff.1 h
    rw [filterSs]
    split
    · exact Bool.and_eq_true_iff.2 ⟨fitsS_filterS ρ t s h.1, fitsSs_filterSs ρ t ss h.2⟩
    · exact fitsSs_filterSs ρ t ss h.2
theorem fitsItems_filterItems (ρ : Env) (t : Nat) : ∀ items, fitsItems ρ items = true →
    fitsItems ρ (filterItems t items) = true
  | .nil, _ => rfl
  | .cons _ _ _ body rest, h => band_imp (fitsSs_filterSs ρ t body) (fitsItems_filterItems ρ t rest) h
end

mutual
theorem wfSE_filterS (wd : Nat → Nat) (t : Nat) : ∀ s, wfSE wd s → wfSE wd (filterS t s)
  | .assign _ _, h => h
  | .ite _ a b, h => ⟨h.1, wfSEs_filterSs wd t a h.2.1, wfSEs_filterSs wd t b h.2.2⟩
  | .case _ items _ d, h => ⟨h.1, wfSEItems_filterItems wd t items h.2.1, wfSEs_filterSs wd t d h.2.2⟩
theorem wfSEs_filterSs (wd : Nat → Nat) (t : Nat) : ∀ ss, wfSEs wd ss → wfSEs wd (filterSs t ss)
  | .nil, _ => trivial
  | .cons s ss, h => by
    rw [filterSs]
    split
    · exact ⟨wfSE_filterS wd t s h.1, wfSEs_filterSs wd t ss h.2⟩
    · exact wfSEs_filterSs wd t ss h.2
theorem wfSEItems_filterItems (wd : Nat → Nat) (t : Nat) : ∀ items, wfSEItems wd items →
    wfSEItems wd (filterItems t items)
  | .nil, _ => trivial
  | .cons _ _ _ body rest, h => ⟨wfSEs_filterSs wd t body h.1, wfSEItems_filterItems wd t rest h.2⟩
end

end Litex.C01
