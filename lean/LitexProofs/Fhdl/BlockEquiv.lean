import LitexProofs.Fhdl.AssignMerge
import LitexProofs.Fhdl.Sort
/-
  Block equivalence: executing the printed statements under the Verilog rules keeps the update queue in
  correspondence with the simulator's modifications (`Rel`), given the side condition `fitsSs` — for the statements
  printed in the order given (`rel_execSs`) and, the keys of every `Case` being distinct, with the items sorted as
  `_generate_node` prints them (`rel_printStmts`).
-/
namespace Litex.C01

theorem itemsSigned_printItems_cons (k : Int) (kw : Nat) (ks : Bool) (body : Stmts) (rest : Items) :
    itemsSigned (printItems (.cons k kw ks body rest)) = false := by
  simp [printItems, itemsSigned, selfSigned_printConstU]

theorem printSs_cons (s : Stmt) (ss : Stmts) :
    (∃ t d, s = .case t .nil false d ∧ printSs (.cons s ss) = printSs ss) ∨
    printSs (.cons s ss) = .cons (printS s) (printSs ss) := by
  cases s with
  | case t items hasD d =>
    cases items with
    | nil =>
      cases hasD with
      | false => exact Or.inl ⟨t, d, rfl, rfl⟩
      | true => exact Or.inr rfl
    | cons k kw ks body rest => exact Or.inr rfl
  | _ => exact Or.inr rfl

/-- The two outcomes of a `case` lookup correspond. -/
def RelOpt (wd : Nat → Nat) (ρ : Env) : Option Mods → Option Pending → Prop
  | some m, some p => Rel wd ρ m p
  | none, none => True
  | _, _ => False

mutual
theorem rel_execS (wd : Nat → Nat) (ρ : Env) :
    ∀ (s : Stmt) (m : Mods) (p : Pending), Rel wd ρ m p → fitsS ρ s = true → wfS wd s →
      Rel wd ρ (execF ρ s m) (execV ρ (printS s) p)
  | .assign l r, m, p, h, hf, hw => by
    have hf := Bool.and_eq_true_iff.1 hf
    rw [execF, printS, execV, assign_correct ρ r _ hf.2]
    refine rel_target h l hf.1 hw _ _ ?_
    rw [storeF, selfWidth_print_target l hf.1, tn_tn_same]
  | .ite c t f, m, p, h, hf, hw => by
    simp only [fitsS, fitsCond, condOk, Bool.and_eq_true, beq_iff_eq, decide_eq_decide] at hf
    simp only [wfS] at hw
    obtain ⟨⟨⟨hfit, hz⟩, hft⟩, hff⟩ := hf
    simp only [execF, printS, execV]
    rw [printE_correct ρ c _ (Nat.le_refl _) hfit]
    by_cases hc : tn (bitsSign c).1 (evalF ρ c) = 0
    · rw [if_neg (by simpa using hc), if_neg (by simpa using hz.2 hc)]
      exact rel_execSs wd ρ f m p h hff hw.2
    · rw [if_pos hc, if_pos (fun hh => hc (hz.1 hh))]
      exact rel_execSs wd ρ t m p h hft hw.1
  | .case test items hasD d, m, p, h, hf, hw => by
    simp only [fitsS, Bool.and_eq_true] at hf
    obtain ⟨⟨hcase, hitems⟩, hd⟩ := hf
    -- what both sides do when no item matches
    have hdflt : Rel wd ρ (if hasD then execFs ρ d m else m) (if hasD then execVs ρ (printSs d) p else p) := by
      cases hasD
      · exact h
      · exact rel_execSs wd ρ d m p h hd hw.2
    simp only [execF, printS, execV]
    cases items with
    | nil => exact hdflt
    | cons k kw ks body rest =>
      simp only [fitsCase, Bool.and_eq_true, Bool.or_eq_true, decide_eq_true_eq] at hcase
      obtain ⟨⟨⟨⟨⟨⟨hP, hV⟩, hW0⟩, hok⟩, hn0⟩, hrange⟩, hcommon⟩ := hcase
      rw [itemsSigned_printItems_cons] at hV ⊢
      simp only [Bool.and_false] at hV ⊢
      rw [evalV_ideal ρ _ _ _ (Nat.le_max_left _ _) hV, printE_ideal ρ test hP, truncS_of_inRange hn0 hrange]
      have hopt := rel_execItems wd ρ _ (evalF ρ test) hW0 (.cons k kw ks body rest) m p h hitems hw.1
        (Nat.le_max_right _ _) hok hcommon
      generalize execItems ρ (.cons k kw ks body rest) (evalF ρ test) m = ro at hopt
      generalize execVItems ρ _ false _ (printItems (.cons k kw ks body rest)) p = vo at hopt
      cases ro <;> cases vo
      · exact hdflt
      · exact hopt.elim
      · exact hopt.elim
      · exact hopt
theorem rel_execSs (wd : Nat → Nat) (ρ : Env) :
    ∀ (ss : Stmts) (m : Mods) (p : Pending), Rel wd ρ m p → fitsSs ρ ss = true → wfSs wd ss →
      Rel wd ρ (execFs ρ ss m) (execVs ρ (printSs ss) p)
  | .nil, m, p, h, _, _ => by simpa [execFs, printSs, execVs] using h
  | .cons s ss, m, p, h, hf, hw => by
    have hf := Bool.and_eq_true_iff.1 hf
    rcases printSs_cons s ss with ⟨t, d, rfl, he⟩ | he <;> rw [he]
    · exact rel_execSs wd ρ ss m p h hf.2 hw.2
    · exact rel_execSs wd ρ ss _ _ (rel_execS wd ρ s m p h hf.1 hw.1) hf.2 hw.2
/-- The items of a non-empty `case`, compared in `W` bits.  The context is unsigned (`false`) because the printed keys
    are unsigned literals (`itemsSigned_printItems_cons`), whatever the test is; `W` is any width that holds every
    remaining key — the `max` over test and ALL items that `execV` computes stays fixed while the recursion drops
    items.  `hcommon`: test value and keys are representable in one common reading (`tn_inj`). -/
theorem rel_execItems (wd : Nat → Nat) (ρ : Env) (W : Nat) (t : Int) (hW0 : 0 < W) :
    ∀ (items : Items) (m : Mods) (p : Pending), Rel wd ρ m p → fitsItems ρ items = true → wfItems wd items →
      itemsWidth (printItems items) ≤ W → itemsOk items = true →
      ((inRange W false t = true ∧ itemsIn W false items = true) ∨
       (inRange W true t = true ∧ itemsIn W true items = true)) →
      RelOpt wd ρ (execItems ρ items t m) (execVItems ρ W false (tn W t) (printItems items) p)
  | .nil, m, p, _, _, _, _, _, _ => by simp [execItems, printItems, execVItems, RelOpt]
  | .cons k kw ks body rest, m, p, h, hf, hw, hWi, hok, hcommon => by
    simp only [fitsItems, Bool.and_eq_true] at hf
    simp only [wfItems] at hw
    simp only [itemsOk, Bool.and_eq_true, decide_eq_true_eq] at hok
    simp only [printItems, itemsWidth, selfWidth_printConstU] at hWi
    simp only [execItems, printItems, execVItems]
    rw [evalV_printConstU ρ k kw W (Nat.le_trans (Nat.le_max_left _ _) hWi) hok.1.2 hok.1.1]
    -- in either common reading, `t`, `k` and the remaining keys are representable
    have hc := hcommon.imp (And.imp_right Bool.and_eq_true_iff.1) (And.imp_right Bool.and_eq_true_iff.1)
    have hiff : tn W k = tn W t ↔ k = t :=
      tn_inj hW0 (hc.imp (fun h => ⟨h.2.1, h.1⟩) (fun h => ⟨h.2.1, h.1⟩))
    by_cases hk : k = t
    · rw [if_pos hk, if_pos (hiff.2 hk)]
      exact rel_execSs wd ρ body m p h hf.1 hw.1
    · rw [if_neg hk, if_neg (fun hh => hk (hiff.1 hh))]
      exact rel_execItems wd ρ W t hW0 rest m p h hf.2 hw.2 (Nat.le_trans (Nat.le_max_right _ _) hWi) hok.2
        (hc.imp (fun h => ⟨h.1, h.2.2⟩) (fun h => ⟨h.1, h.2.2⟩))
end

theorem rel_printStmts (wd : Nat → Nat) (ρ : Env) (ss : Stmts) (m : Mods) (p : Pending)
    (h : Rel wd ρ m p) (hd : distinctSs ss) (hf : fitsSs ρ ss = true) (hw : wfSs wd ss) :
    Rel wd ρ (execFs ρ ss m) (execVs ρ (printStmts ss) p) := by
  rw [← execFs_sortSs ρ ss hd m]
  exact rel_execSs wd ρ (sortSs ss) m p h (by rw [fitsSs_sortSs]; exact hf) ((wfSs_sortSs wd ss).2 hw)

end Litex.C01
