import LitexProofs.Fhdl.WfPrint
import LitexProofs.Fhdl.ModuleEquiv
/-
  Module level: one comb evaluation + commit, the settle loop and a clock edge of the printed module keep the
  Verilog bit-vector state equal to the bit patterns of the simulator state.  The settle loop and whole runs are
  argued once, for any module body that follows the simulator step by step (`Follows`).
-/
namespace Litex.C01

variable (sigs : Array SigDecl)

/-- The Verilog state holds, for every signal, the declared-width bit pattern of the simulator's value. -/
def StRel (sigs : Array SigDecl) (aF aV : Array Int) : Prop :=
  aV.size = aF.size ∧ ∀ i, aV.getD i 0 = tn (wdOf sigs i) (aF.getD i 0)

theorem getD_setIfInBounds (a : Array Int) (i j : Nat) (v : Int) :
    (a.setIfInBounds i v).getD j 0 = if i = j ∧ i < a.size then v else a.getD j 0 := by
  simp only [Array.getD_eq_getD_getElem?, Array.getElem?_setIfInBounds]
  by_cases hij : i = j
  · subst hij
    by_cases hi : i < a.size
    · simp [hi]
    · simp [hi]
  · simp [hij]

theorem commitF_size (a : Array Int) : ∀ (m : Mods), (commitF a m).size = a.size
  | [] => rfl
  | iv :: m => by
    simp only [commitF, List.foldr_cons, Array.size_setIfInBounds]
    exact commitF_size a m

theorem commitF_getD (a : Array Int) (i : Nat) (hi : i < a.size) :
    ∀ (m : Mods), (commitF a m).getD i 0 = readPost (envA a) m i
  | [] => by simp [commitF, readPost, lookupM, envA]
  | (j, v) :: m => by
    have ih := commitF_getD a i hi m
    have hs := commitF_size a m
    simp only [commitF, List.foldr_cons] at ih hs ⊢
    rw [getD_setIfInBounds, readPost_cons, hs]
    by_cases hji : j = i
    · subst hji; simp [hi]
    · simp [hji, ih]

theorem commitV_size (a : Array Int) : ∀ (p : Pending), (commitV sigs a p).size = a.size
  | [] => rfl
  | u :: p => by
    simp only [commitV, List.foldr_cons, Array.size_setIfInBounds]
    exact commitV_size a p

theorem commitV_getD (a : Array Int) (i : Nat) (hi : i < a.size) :
    ∀ (p : Pending), (commitV sigs a p).getD i 0 = applyPending i (wdOf sigs i) (a.getD i 0) p
  | [] => by simp [commitV, applyPending]
  | u :: p => by
    have ih := commitV_getD a i hi p
    have hs := commitV_size sigs a p
    simp only [commitV, List.foldr_cons] at ih hs ⊢
    rw [getD_setIfInBounds, hs]
    simp only [applyPending]
    by_cases hui : u.id = i
    · simp only [hui, true_and, hi, if_true, ih, wdOf]
    · simp only [hui, false_and, if_false]
      exact ih

theorem getD_of_ge (a : Array Int) (i : Nat) (hi : ¬ i < a.size) : a.getD i 0 = 0 := by
  simp [Array.getD_eq_getD_getElem?, Array.getElem?_eq_none (Nat.le_of_not_lt hi)]

theorem stRel_commit {sigs : Array SigDecl} {aF aV : Array Int} {m : Mods} {p : Pending}
    (h : StRel sigs aF aV) (hr : Rel (wdOf sigs) (envA aF) m p) :
    StRel sigs (commitF aF m) (commitV sigs aV p) := by
  refine ⟨by rw [commitV_size, commitF_size]; exact h.1, ?_⟩
  intro i
  by_cases hi : i < aF.size
  · rw [commitV_getD sigs aV i (by rw [h.1]; exact hi), commitF_getD aF i hi, h.2 i]
    exact hr i
  · rw [getD_of_ge _ i (by rw [commitV_size, h.1]; exact hi), getD_of_ge _ i (by rw [commitF_size]; exact hi)]
    simp [tn]

theorem envA_bits {sigs : Array SigDecl} {aF aV : Array Int} (h : StRel sigs aF aV) :
    envA aV = bitsEnv (wdOf sigs) (envA aF) := by
  funext i
  simp only [envA, bitsEnv]
  exact h.2 i

/-- What `group_step` asks of one comb group in one state `ρ`: declared widths everywhere, distinct case keys, the
    dynamic side condition `fitsSs`, printable reset values of its targets — and its shape: either it is printed as
    `always @(*)`, or (printed as `assign`) it is ONE whole-signal assignment to its only target.  A single
    `Cat(a, b).eq(r)`, which `_use_wire` accepts as well, is thereby excluded. -/
def GroupOk (sigs : Array SigDecl) (ρ : Env) (g : CombGroup) : Prop :=
  wfSEs (wdOf sigs) g.stmts ∧ distinctSs g.stmts ∧ fitsSs ρ g.stmts = true ∧
  resetsOk sigs (sortByName sigs g.targets) = true ∧
  (useWire g.stmts = none ∨
    ∃ i w s r, g.stmts = .cons (.assign (.sig i w s) r) .nil ∧ g.targets = [i])

/-- One group of `combPassF`: the defaults of its targets (in the order of the text), then its statements. -/
def combStepF (sigs : Array SigDecl) (ρ : Env) (m : Mods) (g : CombGroup) : Mods :=
  execFs ρ g.stmts (execFs ρ (resetStmts sigs (sortByName sigs g.targets)) m)

/-- One item of `combPassV` (`always @(posedge)` items do nothing in a comb evaluation). -/
def combStepV (ρ : Nat → Int) (p : Pending) (it : VItem) : Pending :=
  match it with
  | .assign l r => nbaAssign l (assignV ρ (selfWidth l) r) p
  | .comb body => execVs ρ body p
  | .sync _ _ => p

theorem combPassF_eq (f : FModule) (a : Array Int) :
    combPassF f a = f.comb.foldl (combStepF f.sigs (envA a)) [] := rfl

theorem combPassV_eq (items : List VItem) (a : Array Int) :
    combPassV items a = items.foldl (combStepV (envA a)) [] := by
  unfold combPassV
  congr 1

theorem rel_wire_bits {ρ : Env} {m : Mods} {p : Pending} (h : Rel (wdOf sigs) ρ m p) (i w : Nat) (s : Bool) (r : Expr)
    (hwd : w = wdOf sigs i) (hwr : wfE (wdOf sigs) r) (hw0 : 0 < w)
    (hf : Fits ρ r (max w (selfWidth (printE r).1)) = true) :
    Rel (wdOf sigs) ρ (assignT ρ (.sig i w s) (evalF ρ r) m)
      (combStepV (bitsEnv (wdOf sigs) ρ) p (.assign (.id i w s) (printE r).1)) := by
  show Rel _ _ _ (nbaAssign (.id i w s) (assignV (bitsEnv (wdOf sigs) ρ) w (printE r).1) p)
  rw [assignV_congr _ ρ _ _ (wfV_printE _ r hwr)]
  exact rel_wire h i w s r hwd hw0 hf

theorem group_step (ρ : Env) (g : CombGroup) (m : Mods) (p : Pending)
    (h : Rel (wdOf sigs) ρ m p) (hg : GroupOk sigs ρ g) :
    Rel (wdOf sigs) ρ (combStepF sigs ρ m g)
      (combStepV (bitsEnv (wdOf sigs) ρ) p (printCombGroup sigs g)) := by
  obtain ⟨hwf, hd, hf, hr, hshape⟩ := hg
  rcases hshape with hnone | ⟨i, w, s, r, hst, htg⟩
  · -- always @(*) block: the defaults, then the statements
    simp only [printCombGroup, hnone, combStepV, combStepF]
    rw [execVs_append]
    exact rel_printStmts_bits _ ρ _ _ _
      (rel_printSs_bits _ ρ _ m p h (fits_resetStmts ρ sigs _ hr) (wfSEs_resetStmts sigs _)) hd hf hwf
  · -- continuous assignment: the default assignment to `i` is shadowed by the one that follows it
    obtain ⟨ts, ss⟩ := g
    subst hst htg
    have hf := Bool.and_eq_true_iff.1 (Bool.and_eq_true_iff.1 hf).1
    exact rel_congr (fun j => (readPost_shadow ρ m i _ _ j).symm)
      (rel_wire_bits sigs h i w s r hwf.1.1 hwf.1.2 (of_decide_eq_true hf.1) hf.2)

/-- What a clock edge asks of one clock domain in the settled state `ρ` (as `GroupOk`, without defaults and shape). -/
def DomOk (sigs : Array SigDecl) (ρ : Env) (d : SyncDom) : Prop :=
  wfSEs (wdOf sigs) d.stmts ∧ distinctSs d.stmts ∧ fitsSs ρ d.stmts = true

/-- One domain of `syncPassF`, one item of `syncPassV`: executed iff its clock is among the rising ones. -/
def syncStepF (ρ : Env) (clks : List Nat) (m : Mods) (d : SyncDom) : Mods :=
  if clks.contains d.clk then execFs ρ d.stmts m else m

def syncStepV (ρ : Nat → Int) (clks : List Nat) (p : Pending) (it : VItem) : Pending :=
  match it with
  | .sync clk body => if clks.contains clk then execVs ρ body p else p
  | _ => p

theorem syncPassV_eq (items : List VItem) (a : Array Int) (clks : List Nat) :
    syncPassV items a clks = items.foldl (syncStepV (envA a) clks) [] := by
  unfold syncPassV
  congr 1

theorem rel_sync_fold (ρ : Env) (clks : List Nat) :
    ∀ (ds : List SyncDom) (m : Mods) (p : Pending), Rel (wdOf sigs) ρ m p → (∀ d ∈ ds, DomOk sigs ρ d) →
      Rel (wdOf sigs) ρ (ds.foldl (syncStepF ρ clks) m)
        ((ds.map (fun d => VItem.sync d.clk (printStmts d.stmts))).foldl (syncStepV (bitsEnv (wdOf sigs) ρ) clks) p)
  | [], m, p, h, _ => by simpa using h
  | d :: ds, m, p, h, hd => by
    simp only [List.foldl_cons, List.map_cons]
    apply rel_sync_fold ρ clks ds _ _ _ (fun d' hd' => hd d' (by simp [hd']))
    obtain ⟨hwf, hdist, hf⟩ := hd d (by simp)
    simp only [syncStepF, syncStepV]
    split
    · exact rel_printStmts_bits _ ρ _ m p h hdist hf hwf
    · exact h

theorem StRel.unique_right {sigs : Array SigDecl} {aF aV aV' : Array Int}
    (h : StRel sigs aF aV) (h' : StRel sigs aF aV') : aV' = aV := by
  apply Array.ext (by rw [h.1, h'.1])
  intro i h1 h2
  have e1 := h.2 i
  have e2 := h'.2 i
  simp only [Array.getD_eq_getD_getElem?, Array.getElem?_eq_getElem h1, Array.getElem?_eq_getElem h2,
    Option.getD_some] at e1 e2
  rw [e1, e2]

theorem settleV_fix (items : List VItem) (b : Array Int) (hfix : iterV sigs items b = b) :
    ∀ fuel, settleV sigs items fuel b = b
  | 0 => rfl
  | fuel + 1 => by simp [settleV, hfix]

/-- The comb side conditions hold in every state the simulator's settle loop visits. -/
def SettleOk (f : FModule) : Nat → Array Int → Prop
  | 0, _ => True
  | fuel + 1, a => (∀ g ∈ f.comb, GroupOk f.sigs (envA a) g) ∧ SettleOk f fuel (iterF f a)

theorem stRel_setInputs :
    ∀ (ins : List (Nat × Int)) (aF aV : Array Int), StRel sigs aF aV →
      StRel sigs (setInputsF sigs aF ins) (setInputsV sigs aV ins)
  | [], aF, aV, h => h
  | (i, x) :: ins, aF, aV, h => by
    simp only [setInputsF, setInputsV, List.foldl_cons]
    apply stRel_setInputs ins
    refine ⟨by simp only [Array.size_setIfInBounds]; exact h.1, ?_⟩
    intro j
    rw [getD_setIfInBounds, getD_setIfInBounds, h.1]
    by_cases hc : i = j ∧ i < aF.size
    · rw [if_pos hc, if_pos hc, ← hc.1, wdOf, widthOf, tn_truncS]
    · rw [if_neg hc, if_neg hc]
      exact h.2 j

/-- The side conditions hold along the simulator's run (in every state its settle loops visit and at every
    clock edge), and every settle loop reaches its fix-point within `fuel` rounds. -/
def RunOk (f : FModule) (fuel : Nat) : Array Int → List Cycle → Prop
  | _, [] => True
  | a, c :: cs =>
    SettleOk f fuel (setInputsF f.sigs a c.ins) ∧
    iterF f (settledF f fuel a c) = settledF f fuel a c ∧
    (∀ d ∈ sortDoms f.sync, DomOk f.sigs (envA (settledF f fuel a c)) d) ∧
    RunOk f fuel (edgeF f (settledF f fuel a c) c) cs

def isSync : VItem → Bool
  | .sync _ _ => true
  | _ => false

theorem syncStepV_of_not_sync (ρ : Nat → Int) (clks : List Nat) {it : VItem} (h : isSync it = false) (p : Pending) :
    syncStepV ρ clks p it = p := by
  cases it <;> first | rfl | cases h

theorem foldl_fixed {α β : Type} {f : α → β → α} : ∀ (l : List β), (∀ b ∈ l, ∀ a, f a b = a) → ∀ a, l.foldl f a = a
  | [], _, _ => rfl
  | b :: l, h, a => by
    rw [List.foldl_cons, h b List.mem_cons_self, foldl_fixed l fun b' hb' => h b' (List.mem_cons_of_mem _ hb')]

/-- The module body `items` follows the simulator of `f` through one comb evaluation (in states satisfying `ok`)
    and through a clock edge.  The two back-ends (`follows_printModule`, `follows_printModuleSim`) instantiate `ok` with `GroupOk` / `GroupOkSim`
    on every comb group; `SettleOk`/`RunOk` and `SettleOkSim`/`RunOkSim` differ in nothing else, and enter `Follows.settle` and
    `Follows.run` as the parameters `S` and `R`. -/
structure Follows (f : FModule) (items : List VItem) (ok : Array Int → Prop) : Prop where
  iter : ∀ {aF aV}, StRel f.sigs aF aV → ok aF → StRel f.sigs (iterF f aF) (iterV f.sigs items aV)
  edge : ∀ {aF aV} (clks : List Nat), StRel f.sigs aF aV → (∀ d ∈ sortDoms f.sync, DomOk f.sigs (envA aF) d) →
    StRel f.sigs (commitF aF (syncPassF f aF clks)) (commitV f.sigs aV (syncPassV items aV clks))

/-- A comb back-end is a printer `P` from comb groups to items (no `always @(posedge)` among them) that keeps `Rel`
    group by group, under its side condition `ok ρ g` on one group in one state.  The module body is then the items
    of all groups followed by the clock domains printed as `always @(posedge)` blocks. -/
theorem follows_of_groups (f : FModule) (P : CombGroup → List VItem) (ok : Env → CombGroup → Prop)
    (hP : ∀ g, ∀ it ∈ P g, isSync it = false)
    (hstep : ∀ ρ g m p, Rel (wdOf f.sigs) ρ m p → ok ρ g →
      Rel (wdOf f.sigs) ρ (combStepF f.sigs ρ m g) ((P g).foldl (combStepV (bitsEnv (wdOf f.sigs) ρ)) p)) :
    Follows f (f.comb.flatMap P ++ (sortDoms f.sync).map fun d => .sync d.clk (printStmts d.stmts))
      fun a => ∀ g ∈ f.comb, ok (envA a) g where
  iter {aF aV} h hok := by
    refine stRel_commit h ?_
    rw [combPassF_eq, combPassV_eq, envA_bits h, List.foldl_append, foldl_fixed (List.map _ _)]
    · generalize envA aF = ρ at hok
      -- group by group, from any pair of corresponding tables
      suffices hfold : ∀ (gs : List CombGroup) m p, Rel (wdOf f.sigs) ρ m p → (∀ g ∈ gs, ok ρ g) →
          Rel (wdOf f.sigs) ρ (gs.foldl (combStepF f.sigs ρ) m)
            ((gs.flatMap P).foldl (combStepV (bitsEnv (wdOf f.sigs) ρ)) p) from hfold f.comb [] [] (rel_nil _ _) hok
      intro gs
      induction gs with
      | nil => exact fun _ _ h _ => h
      | cons g gs ih =>
        intro m p h hg
        rw [List.foldl_cons, List.flatMap_cons, List.foldl_append]
        exact ih _ _ (hstep ρ g m p h (hg g List.mem_cons_self)) fun g' hg' => hg g' (List.mem_cons_of_mem _ hg')
    · intro it hit p
      obtain ⟨d, _, rfl⟩ := List.mem_map.1 hit
      rfl
  edge {aF aV} clks h hd := by
    refine stRel_commit h ?_
    rw [syncPassV_eq, envA_bits h, List.foldl_append, foldl_fixed (f.comb.flatMap P) fun it hit p => by
      obtain ⟨g, _, hg⟩ := List.mem_flatMap.1 hit
      exact syncStepV_of_not_sync _ clks (hP g it hg) p]
    exact rel_sync_fold f.sigs (envA aF) clks (sortDoms f.sync) [] [] (rel_nil _ _) hd

theorem isSync_printCombGroup (g : CombGroup) : isSync (printCombGroup sigs g) = false := by
  unfold printCombGroup
  split <;> rfl

/-- The synthesis back-end prints one item per group. -/
theorem follows_printModule (f : FModule) :
    Follows f (printModule f) fun a => ∀ g ∈ f.comb, GroupOk f.sigs (envA a) g := by
  rw [printModule, List.map_eq_flatMap]
  exact follows_of_groups f _ _ (fun g it hit => by rw [List.mem_singleton.1 hit]; exact isSync_printCombGroup f.sigs g)
    fun ρ g m p => group_step f.sigs ρ g m p

variable {f : FModule} {items : List VItem} {ok : Array Int → Prop}

/-- `S fuel a`: `ok` holds in every state the simulator's settle loop visits from `a` (`hS` unrolls it).
    The two loops need not stop in the same round: two simulator states with the same bit patterns are one Verilog
    state, so the text may be stable a round before the simulator — then it stays where it is (`settleV_fix`) while
    the simulator goes on; a stable simulator, conversely, means a stable text, the Verilog state being determined
    by the simulator's (`StRel.unique_right`). -/
theorem Follows.settle (h : Follows f items ok) (S : Nat → Array Int → Prop)
    (hS : ∀ fuel a, S (fuel + 1) a → ok a ∧ S fuel (iterF f a)) :
    ∀ (fuel : Nat) (aF aV : Array Int), StRel f.sigs aF aV → S fuel aF →
      iterF f (settleF f fuel aF) = settleF f fuel aF →
      StRel f.sigs (settleF f fuel aF) (settleV f.sigs items fuel aV)
  | 0, _, _, hr, _, _ => hr
  | fuel + 1, aF, aV, hr, hok, hfix => by
    have hstep := h.iter hr (hS fuel aF hok).1
    rw [settleF] at hfix ⊢
    rw [settleV]
    by_cases hF : iterF f aF = aF
    · -- simulator already stable: so is the text
      rw [if_pos (beq_iff_eq.2 hF), if_pos (beq_iff_eq.2 (StRel.unique_right hr (hF ▸ hstep)))]
      exact hr
    · rw [if_neg (mt beq_iff_eq.1 hF)] at hfix ⊢
      have ih := h.settle S hS fuel _ _ hstep (hS fuel aF hok).2 hfix
      by_cases hV : iterV f.sigs items aV = aV
      · -- the text stabilised earlier: it stays there
        rw [if_pos (beq_iff_eq.2 hV)]
        rwa [hV, settleV_fix _ _ aV hV fuel] at ih
      · rwa [if_neg (mt beq_iff_eq.1 hV)]

/-- `R a cs`: the side conditions hold along the simulator's run from `a` (`hR` unrolls it). -/
theorem Follows.run (h : Follows f items ok) (fuel : Nat) (S : Nat → Array Int → Prop)
    (hS : ∀ fuel a, S (fuel + 1) a → ok a ∧ S fuel (iterF f a)) (R : Array Int → List Cycle → Prop)
    (hR : ∀ a c cs, R a (c :: cs) → S fuel (setInputsF f.sigs a c.ins) ∧
      iterF f (settledF f fuel a c) = settledF f fuel a c ∧
      (∀ d ∈ sortDoms f.sync, DomOk f.sigs (envA (settledF f fuel a c)) d) ∧
      R (edgeF f (settledF f fuel a c) c) cs) :
    ∀ (cs : List Cycle) (aF aV : Array Int), StRel f.sigs aF aV → R aF cs →
      List.Forall₂ (StRel f.sigs) (runF f fuel aF cs) (runV f.sigs items fuel aV cs)
  | [], _, _, _, _ => List.Forall₂.nil
  | c :: cs, aF, aV, hr, hok => by
    obtain ⟨hs, hfix, hd, hrest⟩ := hR aF c cs hok
    have h1 : StRel f.sigs (settledF f fuel aF c) (settledV f.sigs items fuel aV c) :=
      h.settle S hS fuel _ _ (stRel_setInputs f.sigs c.ins aF aV hr) hs hfix
    exact List.Forall₂.cons h1 (h.run fuel S hS R hR cs _ _ (h.edge c.clks h1 hd) hrest)

end Litex.C01
