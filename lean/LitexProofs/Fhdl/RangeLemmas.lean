import LitexModel.Fhdl.Static
import LitexProofs.Fhdl.BitLemmas
/-
  Interval arithmetic behind the value-range analysis `bounds`: for every binary operator, the result on
  operands inside two intervals lies inside the interval `bndBin` computes from them.  The bitwise operators
  are bounded through the signed power-of-two hull `[-2^n, 2^n)`, which an operator that acts bit by bit never
  leaves (`hull_bitwise`), and through `[0, 2^n)` where the operands are known to be non-negative (`nonneg_bitwise`).
-/
namespace Litex.C01

theorem blen_spec (x : Int) : -(p2 (blen x)) < x ∧ x < p2 (blen x) := by
  have h : (x.natAbs : Int) < p2 (blen x) := natCast_lt_p2.2 Nat.lt_log2_self
  omega

theorem hull_of_blen {n : Nat} {lo hi x : Int} (h1 : blen lo ≤ n) (h2 : blen hi ≤ n) (hx : lo ≤ x ∧ x ≤ hi) :
    InHull n x := by
  have := (blen_spec lo).1
  have := (blen_spec hi).2
  have := p2_le h1
  have := p2_le h2
  omega

theorem hullS_spec {a b : Int × Int} {x y : Int} (hx : a.1 ≤ x ∧ x ≤ a.2) (hy : b.1 ≤ y ∧ y ≤ b.2) :
    ∃ n, hullS a b = (-(p2 n), p2 n - 1) ∧ InHull n x ∧ InHull n y :=
  ⟨_, rfl,
    hull_of_blen (Nat.le_trans (Nat.le_max_left _ _) (Nat.le_max_left _ _))
      (Nat.le_trans (Nat.le_max_right _ _) (Nat.le_max_left _ _)) hx,
    hull_of_blen (Nat.le_trans (Nat.le_max_left _ _) (Nat.le_max_right _ _))
      (Nat.le_trans (Nat.le_max_right _ _) (Nat.le_max_right _ _)) hy⟩

theorem b2i_le (c : Bool) : 0 ≤ b2i c ∧ b2i c ≤ 1 := by cases c <;> decide

theorem natAbs_le_max {lo hi x : Int} (h : lo ≤ x ∧ x ≤ hi) : x.natAbs ≤ max lo.natAbs hi.natAbs := by
  rcases Int.le_total 0 x with h0 | h0
  · refine Nat.le_trans (Int.ofNat_le.1 ?_) (Nat.le_max_right _ _)
    rw [Int.natAbs_of_nonneg h0, Int.natAbs_of_nonneg (Int.le_trans h0 h.2)]
    exact h.2
  · refine Nat.le_trans (Int.ofNat_le.1 ?_) (Nat.le_max_left _ _)
    rw [Int.ofNat_natAbs_of_nonpos h0, Int.ofNat_natAbs_of_nonpos (Int.le_trans h.1 h0)]
    exact Int.neg_le_neg h.1

theorem mul_between {c P L H : Int} (hLP : L ≤ P) (hPH : P ≤ H) :
    (if c < 0 then c * H else c * L) ≤ c * P ∧ c * P ≤ (if c < 0 then c * L else c * H) := by
  split
  · rename_i hc
    exact ⟨Int.mul_le_mul_of_nonpos_left (Int.le_of_lt hc) hPH, Int.mul_le_mul_of_nonpos_left (Int.le_of_lt hc) hLP⟩
  · rename_i hc
    exact ⟨Int.mul_le_mul_of_nonneg_left hLP (Int.not_lt.1 hc), Int.mul_le_mul_of_nonneg_left hPH (Int.not_lt.1 hc)⟩

theorem ediv_between {lo hi x P : Int} (hP : 0 < P) (hx : lo ≤ x ∧ x ≤ hi) :
    min lo 0 ≤ x / P ∧ x / P ≤ max hi 0 := by
  rcases Int.le_total 0 x with hx0 | hx0
  · exact ⟨Int.le_trans (Int.min_le_right _ _) (Int.ediv_nonneg hx0 (Int.le_of_lt hP)),
      Int.le_trans (Int.le_trans (Int.ediv_le_self P hx0) hx.2) (Int.le_max_left _ _)⟩
  · have h1 : x ≤ x / P := Int.le_ediv_of_mul_le hP (by
      have := Int.mul_le_mul_of_nonpos_left hx0 (Int.add_one_le_of_lt hP)
      omega)
    have h2 : x / P ≤ 0 := Int.ediv_le_of_le_mul hP (by rw [Int.zero_mul]; exact hx0)
    exact ⟨Int.le_trans (Int.le_trans (Int.min_le_left _ _) hx.1) h1, Int.le_trans h2 (Int.le_max_right _ _)⟩

/-- The shape in which `bndBin` gives the bound of a bitwise result. -/
theorem pair_of_lt {lo hi z : Int} (h : lo ≤ z ∧ z < hi) : (lo, hi - 1).1 ≤ z ∧ z ≤ (lo, hi - 1).2 :=
  ⟨h.1, Int.le_sub_one_of_lt h.2⟩

variable {a b : Int × Int} {x y : Int} (hx : a.1 ≤ x ∧ x ≤ a.2) (hy : b.1 ≤ y ∧ y ≤ b.2)
include hx hy

theorem bnd_mul :
    (bndBin .mul a b).1 ≤ x * y ∧ x * y ≤ (bndBin .mul a b).2 := by
  simp only [bndBin]
  split
  · rename_i h
    exact ⟨Int.mul_le_mul hx.1 hy.1 h.2 (Int.le_trans h.1 hx.1),
      Int.mul_le_mul hx.2 hy.2 (Int.le_trans h.2 hy.1) (Int.le_trans (Int.le_trans h.1 hx.1) hx.2)⟩
  · -- `|x * y| = |x| * |y| ≤ max |a| * max |b|`
    have : ((x * y).natAbs : Int) ≤ ((max a.1.natAbs a.2.natAbs * max b.1.natAbs b.2.natAbs : Nat) : Int) :=
      Int.ofNat_le.2 (by rw [Int.natAbs_mul]; exact Nat.mul_le_mul (natAbs_le_max hx) (natAbs_le_max hy))
    exact ⟨Int.le_trans (Int.neg_le_neg this) (Int.neg_le_of_neg_le (Int.natAbs_neg (x * y) ▸ Int.le_natAbs)),
      Int.le_trans Int.le_natAbs this⟩

theorem bnd_shl :
    (bndBin .shl a b).1 ≤ shlI x y ∧ shlI x y ≤ (bndBin .shl a b).2 := by
  have hL := p2_le (Int.toNat_le_toNat hy.1)
  have hH := p2_le (Int.toNat_le_toNat hy.2)
  have hP := Int.le_of_lt (p2_pos y.toNat)
  exact ⟨Int.le_trans (mul_between hL hH).1 (Int.mul_le_mul_of_nonneg_right hx.1 hP),
    Int.le_trans (Int.mul_le_mul_of_nonneg_right hx.2 hP) (mul_between hL hH).2⟩

theorem bnd_shr :
    (bndBin .shr a b).1 ≤ shrI x y ∧ shrI x y ≤ (bndBin .shr a b).2 := by
  simp only [bndBin, shrI]
  split
  · -- a constant amount: division is monotone
    rename_i heq
    rw [Nat.le_antisymm (heq ▸ Int.toNat_le_toNat hy.2) (Int.toNat_le_toNat hy.1)]
    exact ⟨Int.ediv_le_ediv (p2_pos _) hx.1, Int.ediv_le_ediv (p2_pos _) hx.2⟩
  · exact ediv_between (p2_pos _) hx

theorem bnd_and :
    (bndBin .and a b).1 ≤ landI x y ∧ landI x y ≤ (bndBin .and a b).2 := by
  simp only [bndBin]
  split
  · -- a non-negative left operand clears the high bits of the result, whatever the right one is
    rename_i h
    have hb := nonneg_iff_ibit.1 ⟨Int.le_trans h hx.1, Int.lt_of_le_of_lt hx.2 (blen_spec a.2).2⟩
    exact pair_of_lt (nonneg_bitwise ibit_landI fun i hi => by rw [hb i hi, Bool.false_and])
  · split
    · rename_i h
      have hb := nonneg_iff_ibit.1 ⟨Int.le_trans h hy.1, Int.lt_of_le_of_lt hy.2 (blen_spec b.2).2⟩
      exact pair_of_lt (nonneg_bitwise ibit_landI fun i hi => by rw [hb i hi, Bool.and_false])
    · obtain ⟨n, hn, h1, h2⟩ := hullS_spec hx hy
      rw [hn]
      exact pair_of_lt (hull_bitwise ibit_landI h1 h2)

/-- `|` and `^` share their bound: below `2^max` on non-negative operands, inside the hull otherwise. -/
theorem bnd_orxor {f : Int → Int → Int} {g : Bool → Bool → Bool}
    (hf : ∀ x y i, ibit (f x y) i = g (ibit x i) (ibit y i)) (hg : g false false = false) :
    (bndBin .or a b).1 ≤ f x y ∧ f x y ≤ (bndBin .or a b).2 := by
  simp only [bndBin]
  split
  · rename_i h
    have hbx := nonneg_iff_ibit.1 ⟨Int.le_trans h.1 hx.1,
      Int.lt_of_le_of_lt hx.2 (Int.lt_of_lt_of_le (blen_spec a.2).2 (p2_le (Nat.le_max_left _ (blen b.2))))⟩
    have hby := nonneg_iff_ibit.1 ⟨Int.le_trans h.2 hy.1,
      Int.lt_of_le_of_lt hy.2 (Int.lt_of_lt_of_le (blen_spec b.2).2 (p2_le (Nat.le_max_right (blen a.2) _)))⟩
    exact pair_of_lt (nonneg_bitwise hf fun i hi => by rw [hbx i hi, hby i hi, hg])
  · obtain ⟨n, hn, h1, h2⟩ := hullS_spec hx hy
    rw [hn]
    exact pair_of_lt (hull_bitwise hf h1 h2)

theorem bndBin_sound (o : VBin) :
    (bndBin o a b).1 ≤ idealBin o x y ∧ idealBin o x y ≤ (bndBin o a b).2 := by
  cases o
  case add => exact ⟨Int.add_le_add hx.1 hy.1, Int.add_le_add hx.2 hy.2⟩
  case sub => exact ⟨Int.sub_le_sub hx.1 hy.2, Int.sub_le_sub hx.2 hy.1⟩
  case mul => exact bnd_mul hx hy
  case shl => exact bnd_shl hx hy
  case shr => exact bnd_shr hx hy
  case and => exact bnd_and hx hy
  case xor => exact bnd_orxor hx hy ibit_xorI rfl
  case or => exact bnd_orxor hx hy ibit_lorI rfl
  all_goals exact b2i_le _

end Litex.C01
