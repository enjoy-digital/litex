import LitexModel.Fhdl.ResetInsert
import LitexProofs.Fhdl.ExecBasics
/-
  Reset insertion: with the reset signal low the inserted statement list executes like the original one; with it
  high every non-reset-less target of the domain ends with its reset value and nothing else changes.
-/
namespace Litex.C01

theorem mem_insertNat (i u : Nat) : ∀ (l : List Nat), u ∈ insertNat i l ↔ u = i ∨ u ∈ l
  | [] => by simp [insertNat]
  | j :: js => by
    rw [insertNat]
    split
    · exact List.mem_cons
    · split
      · rename_i h
        rw [h, List.mem_cons, ← or_assoc, or_self]
      · rw [List.mem_cons, mem_insertNat i u js, List.mem_cons]
        exact or_left_comm

theorem mem_sortDedup (u : Nat) : ∀ (l : List Nat), u ∈ sortDedup l ↔ u ∈ l
  | [] => by simp [sortDedup]
  | i :: is => by simp [sortDedup, mem_insertNat, mem_sortDedup u is]

theorem mem_resetTargets (rl : List Nat) (ss : Stmts) (u : Nat) :
    u ∈ resetTargets rl ss ↔ u ∈ targetsSs ss ∧ u ∉ rl := by
  simp [resetTargets, mem_sortDedup]

theorem insertReset_inactive (sigs : Array SigDecl) (ρ : Env) (rst : Nat) (rl : List Nat) (ss : Stmts) (m : Mods)
    (h : tn (sigs.getD rst default).w (ρ rst) = 0) :
    execFs ρ (insertReset sigs rst rl ss) m = execFs ρ ss m := by
  unfold insertReset
  rw [execFs_append]
  simp only [execFs, execF, sigExpr, bitsSign, evalF, h, ne_eq, not_true_eq_false, if_false]

theorem insertReset_active (sigs : Array SigDecl) (ρ : Env) (rst : Nat) (rl : List Nat) (ss : Stmts) (m : Mods)
    (h : tn (sigs.getD rst default).w (ρ rst) ≠ 0) (u : Nat) :
    lookupM (execFs ρ (insertReset sigs rst rl ss) m) u =
      if u ∈ targetsSs ss ∧ u ∉ rl then some (resetVal sigs u) else lookupM (execFs ρ ss m) u := by
  unfold insertReset
  rw [execFs_append]
  simp only [execFs, execF, sigExpr, bitsSign, evalF, h, ne_eq, not_false_eq_true, if_true]
  rw [lookup_resetStmts]
  simp only [mem_resetTargets]

end Litex.C01
