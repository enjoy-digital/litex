import LitexModel.Fhdl.FitsStmt
import LitexProofs.Fhdl.RangeLemmas
import LitexProofs.Fhdl.PrintExpr
/-
  Soundness of `staticallyFits` and of its statement-level version `sfitsSs`: the static side condition implies the
  dynamic one (`Fits`, `fitsSs`) for every valuation whose signal values are in their declared ranges.  The static
  predicates are the dynamic ones with every range test made on `bounds`, so each soundness proof goes conjunct by
  conjunct (`band_imp`).
-/
namespace Litex.C01

theorem toS_bounds (w : Nat) (x : Int) :
    -(p2 (w - 1)) ≤ toS w (tn w x) ∧ toS w (tn w x) ≤ p2 (w - 1) - 1 := by
  cases w with
  | zero => rw [show tn 0 x = 0 from Int.emod_one x]; decide
  | succ k =>
    have := inRange_signed.1 (inRange_truncS (Nat.succ_pos k) true x)
    exact ⟨this.1, Int.le_sub_one_of_lt this.2⟩

theorem truncS_bounds (w : Nat) (s : Bool) (x : Int) :
    (if s then (-(p2 (w - 1)), p2 (w - 1) - 1) else ((0 : Int), p2 w - 1)).1 ≤ truncS w s x ∧
    truncS w s x ≤ (if s then (-(p2 (w - 1)), p2 (w - 1) - 1) else ((0 : Int), p2 w - 1)).2 := by
  cases s
  · exact ⟨tn_nonneg w x, Int.le_sub_one_of_lt (tn_lt w x)⟩
  · exact toS_bounds w x

/-- `inRange` is convex. -/
theorem inRange_of_bounds {w : Nat} {s : Bool} {b : Int × Int} {x : Int} (h : inRangeB w s b = true)
    (hx : b.1 ≤ x ∧ x ≤ b.2) : inRange w s x = true := by
  have h := Bool.and_eq_true_iff.1 h
  cases s
  · exact inRange_unsigned.2 ⟨Int.le_trans (inRange_unsigned.1 h.1).1 hx.1,
      Int.lt_of_le_of_lt hx.2 (inRange_unsigned.1 h.2).2⟩
  · exact inRange_signed.2 ⟨Int.le_trans (inRange_signed.1 h.1).1 hx.1,
      Int.lt_of_le_of_lt hx.2 (inRange_signed.1 h.2).2⟩

mutual
theorem bounds_sound (ρ : Nat → Int) : ∀ (v : VExpr), (bounds v).1 ≤ ideal ρ v ∧ ideal ρ v ≤ (bounds v).2
  | .lit w s v => ⟨Int.le_refl _, Int.le_refl _⟩
  | .id i w s => by rw [bounds, ideal]; exact truncS_bounds w s (ρ i)
  | .un .neg a => ⟨Int.neg_le_neg (bounds_sound ρ a).2, Int.neg_le_neg (bounds_sound ρ a).1⟩
  | .un .not a =>
    ⟨Int.sub_le_sub_right (Int.neg_le_neg (bounds_sound ρ a).2) 1,
      Int.sub_le_sub_right (Int.neg_le_neg (bounds_sound ρ a).1) 1⟩
  | .bin o a b => bndBin_sound (bounds_sound ρ a) (bounds_sound ρ b) o
  | .cond c a b => by
    have ha := bounds_sound ρ a
    have hb := bounds_sound ρ b
    rw [bounds, ideal]
    split
    · exact ⟨Int.le_trans (Int.min_le_left _ _) ha.1, Int.le_trans ha.2 (Int.le_max_left _ _)⟩
    · exact ⟨Int.le_trans (Int.min_le_right _ _) hb.1, Int.le_trans hb.2 (Int.le_max_right _ _)⟩
  | .psel a hi lo => ⟨tn_nonneg _ _, Int.le_sub_one_of_lt (tn_lt _ _)⟩
  | .bsel a i => ⟨tn_nonneg _ _, Int.le_sub_one_of_lt (tn_lt 1 _)⟩
  | .concat l => ⟨(idealConcat_range ρ l).1, concatHi_sound ρ l⟩
  | .repl n a =>
    have h := replV_range (tn_nonneg (selfWidth a) (ideal ρ a)) (tn_lt (selfWidth a) (ideal ρ a)) n
    ⟨h.1, Int.le_sub_one_of_lt h.2⟩
  | .signed a => by
    rw [bounds, ideal]
    split
    · -- the operand is known to be in signed range: `$signed` is the identity
      rename_i h
      have h := Bool.and_eq_true_iff.1 h
      rw [toS_tn_of_inRange (of_decide_eq_true h.1) (inRange_of_bounds h.2 (bounds_sound ρ a))]
      exact bounds_sound ρ a
    · exact toS_bounds _ _
theorem concatHi_sound (ρ : Nat → Int) : ∀ (l : List VExpr), idealConcat ρ l ≤ concatHi l
  | [] => Int.le_refl 0
  | e :: es => by
    have he := bounds_sound ρ e
    rw [idealConcat, concatHi]
    refine Int.add_le_add (Int.mul_le_mul_of_nonneg_right ?_ (Int.le_of_lt (p2_pos _))) (concatHi_sound ρ es)
    split
    · rename_i h
      rw [tn_of_range (Int.le_trans h.1 he.1) (Int.lt_of_le_of_lt he.2 h.2)]
      exact he.2
    · exact Int.le_sub_one_of_lt (tn_lt _ _)
end

theorem fitsAt_of_sfitsAt {w W : Nat} {sg : Bool} {b : Int × Int} {x : Int} (h : sfitsAt w W sg b = true)
    (hx : b.1 ≤ x ∧ x ≤ b.2) : fitsAt w W sg x = true :=
  band_imp id (bor_imp (inRange_of_bounds · hx)) h

mutual
theorem sfitsV_sound (ρ : Nat → Int) :
    ∀ (e : VExpr) (W : Nat) (sg : Bool), sfitsV e W sg = true → fitsV ρ e W sg = true
  | .lit w s v, W, sg, h => fitsAt_of_sfitsAt h (bounds_sound ρ (.lit w s v))
  | .id i w s, W, sg, h => fitsAt_of_sfitsAt h (bounds_sound ρ (.id i w s))
  | .un _ a, W, sg, h => sfitsV_sound ρ a W sg h
  | .bin o a b, W, sg, h => by
    have ba := bounds_sound ρ a
    have bb := bounds_sound ρ b
    simp only [sfitsV] at h
    simp only [fitsV]
    split
    · rename_i hc
      rw [if_pos hc] at h
      rw [idealBin_cmp hc]
      -- conjuncts in the order of `fitsV`: `0 < w'`, operand `a`, operand `b`, range of `a`, range of `b`, the result
      exact band_imp (band_imp (band_imp (band_imp (band_imp id (sfitsV_sound ρ a _ _)) (sfitsV_sound ρ b _ _))
        (inRange_of_bounds · ba)) (inRange_of_bounds · bb)) (fitsAt_of_sfitsAt · (b2i_le _)) h
    · rename_i hc
      rw [if_neg hc] at h
      split
      · rename_i hs
        rw [if_pos hs] at h
        -- operand `a`, amount `b`, range of the amount, and for `>>>` the range of `a`
        exact band_imp (band_imp (band_imp (sfitsV_sound ρ a _ _) (sfitsV_sound ρ b _ _)) (inRange_of_bounds · bb))
          (fun h4 => by cases o <;> first | exact h4 | exact band_imp id (inRange_of_bounds · ba) h4) h
      · rename_i hs
        rw [if_neg hs] at h
        exact band_imp (sfitsV_sound ρ a _ _) (sfitsV_sound ρ b _ _) h
  | .cond c a b, W, sg, h =>
    band_imp (band_imp (sfitsV_sound ρ c _ _) (sfitsV_sound ρ a W sg)) (sfitsV_sound ρ b W sg) h
  | .psel a hi lo, W, sg, h =>
    band_imp (band_imp (band_imp (sfitsV_sound ρ a _ _) id) id)
      (fitsAt_of_sfitsAt · (bounds_sound ρ (.psel a hi lo))) h
  | .bsel a i, W, sg, h =>
    band_imp (band_imp (sfitsV_sound ρ a _ _) id) (fitsAt_of_sfitsAt · (bounds_sound ρ (.bsel a i))) h
  | .concat l, W, sg, h =>
    band_imp (sfitsConcat_sound ρ l) (fitsAt_of_sfitsAt · (bounds_sound ρ (.concat l))) h
  | .repl n a, W, sg, h =>
    band_imp (sfitsV_sound ρ a _ _) (fitsAt_of_sfitsAt · (bounds_sound ρ (.repl n a))) h
  | .signed a, W, sg, h =>
    band_imp (sfitsV_sound ρ a _ _) (fitsAt_of_sfitsAt · (bounds_sound ρ (.signed a))) h
theorem sfitsConcat_sound (ρ : Nat → Int) : ∀ (l : List VExpr), sfitsConcat l = true → fitsConcat ρ l = true
  | [], _ => rfl
  | e :: es, h => band_imp (sfitsV_sound ρ e _ _) (sfitsConcat_sound ρ es) h
end

theorem promOk_of_spromOk (ρ : Env) (e : Expr) (b : Bool) (hf : fitsP ρ e = true) (h : spromOk b e = true) :
    promOk ρ b e = true := by
  have hb := bounds_sound ρ (printE e).1
  rw [printE_ideal ρ e hf] at hb
  exact bor_imp (inRange_of_bounds · hb) h

theorem condOk_of_scondOk (ρ : Env) (c : Expr) (hf : fitsP ρ c = true) (h : scondOk c = true) :
    condOk ρ c = true := by
  simp only [scondOk, Bool.or_eq_true, decide_eq_true_eq] at h
  simp only [condOk, beq_iff_eq, decide_eq_decide]
  rcases h with heq | hb
  · rw [heq]
  · -- the value is a non-negative number of the narrower width: both truncations leave it alone
    have hb' := bounds_sound ρ (printE c).1
    rw [printE_ideal ρ c hf] at hb'
    have hr := inRange_unsigned.1 (inRange_of_bounds hb hb')
    rw [tn_of_range hr.1 (Int.lt_of_lt_of_le hr.2 (p2_le (Nat.min_le_left _ _))),
      tn_of_range hr.1 (Int.lt_of_lt_of_le hr.2 (p2_le (Nat.min_le_right _ _)))]

mutual
theorem sfitsP_sound (ρ : Env) : ∀ (e : Expr), sfitsP e = true → envOk ρ e = true → fitsP ρ e = true
  | .const v w s, h, _ => h
  | .sig i w s, h, he => Bool.and_eq_true_iff.2 ⟨he, h⟩
  | .op1 .neg a, h, he => by
    have h := Bool.and_eq_true_iff.1 h
    have ha := sfitsP_sound ρ a h.1 he
    exact Bool.and_eq_true_iff.2 ⟨ha, promOk_of_spromOk ρ a _ ha h.2⟩
  | .op1 .not a, h, he => sfitsP_sound ρ a h he
  | .op2 o a b, h, he => by
    have h := Bool.and_eq_true_iff.1 h
    have he := Bool.and_eq_true_iff.1 he
    have ha := sfitsP_sound ρ a (Bool.and_eq_true_iff.1 h.1).1 he.1
    have hb := sfitsP_sound ρ b (Bool.and_eq_true_iff.1 h.1).2 he.2
    exact Bool.and_eq_true_iff.2 ⟨Bool.and_eq_true_iff.2 ⟨ha, hb⟩,
      bor_imp (band_imp (promOk_of_spromOk ρ a _ ha) (promOk_of_spromOk ρ b _ hb)) h.2⟩
  | .mux c a b, h, he => by
    simp only [sfitsP, Bool.and_eq_true] at h
    simp only [envOk, Bool.and_eq_true] at he
    obtain ⟨⟨⟨⟨⟨h1, h2⟩, h3⟩, h4⟩, h5⟩, h6⟩ := h
    have hc := sfitsP_sound ρ c h1 he.1.1
    have ha := sfitsP_sound ρ a h2 he.1.2
    have hb := sfitsP_sound ρ b h3 he.2
    simp only [fitsP, Bool.and_eq_true]
    exact ⟨⟨⟨⟨⟨hc, ha⟩, hb⟩, promOk_of_spromOk ρ a _ ha h4⟩, promOk_of_spromOk ρ b _ hb h5⟩,
      condOk_of_scondOk ρ c hc h6⟩
  | .slice a lo hi, h, he =>
    band_imp (band_imp (band_imp (sfitsP_sound ρ a · he) id) id) id h
  | .cat l, h, he => sfitsPList_sound ρ l h he
  | .rep a n, h, he => band_imp (band_imp (sfitsP_sound ρ a · he) id) id h
theorem sfitsPList_sound (ρ : Env) :
    ∀ (l : List Expr), sfitsPList l = true → envOkList ρ l = true → fitsPList ρ l = true
  | [], _, _ => rfl
  | e :: es, h, he =>
    have he := Bool.and_eq_true_iff.1 he
    band_imp (band_imp (sfitsP_sound ρ e · he.1) id) (sfitsPList_sound ρ es · he.2) h
end

mutual
def envOkS (ρ : Env) : Stmt → Bool
  | .assign _ r => envOk ρ r
  | .ite c t f => envOk ρ c && envOkSs ρ t && envOkSs ρ f
  | .case test items _ d => envOk ρ test && envOkItems ρ items && envOkSs ρ d
def envOkSs (ρ : Env) : Stmts → Bool
  | .nil => true
  | .cons s ss => envOkS ρ s && envOkSs ρ ss
def envOkItems (ρ : Env) : Items → Bool
  | .nil => true
  | .cons _ _ _ body rest => envOkSs ρ body && envOkItems ρ rest
end

theorem staticallyFits_Fits (e : Expr) (W : Nat) (h : staticallyFits e W = true) (ρ : Env) (hρ : envOk ρ e = true) :
    Fits ρ e W = true :=
  band_imp (sfitsP_sound ρ e · hρ) (sfitsV_sound ρ _ _ _) h

theorem sfitsCond_sound (ρ : Env) (c : Expr) (h : sfitsCond c = true) (hρ : envOk ρ c = true) :
    fitsCond ρ c = true := by
  have h := Bool.and_eq_true_iff.1 h
  have hfit := staticallyFits_Fits c _ h.1 ρ hρ
  exact Bool.and_eq_true_iff.2 ⟨hfit, condOk_of_scondOk ρ c (Bool.and_eq_true_iff.1 hfit).1 h.2⟩

theorem sfitsCase_sound (ρ : Env) (test : Expr) (items : Items) (h : sfitsCase test items = true)
    (hρ : envOk ρ test = true) : fitsCase ρ test items = true := by
  simp only [sfitsCase, Bool.and_eq_true, Bool.or_eq_true, decide_eq_true_eq] at h
  obtain ⟨⟨⟨⟨⟨⟨hP, hV⟩, hW⟩, hok⟩, hn⟩, hr⟩, hc⟩ := h
  have hP' := sfitsP_sound ρ test hP hρ
  have hb := bounds_sound ρ (printE test).1
  rw [printE_ideal ρ test hP'] at hb
  simp only [fitsCase, Bool.and_eq_true, Bool.or_eq_true, decide_eq_true_eq]
  exact ⟨⟨⟨⟨⟨⟨hP', sfitsV_sound ρ _ _ _ hV⟩, hW⟩, hok⟩, hn⟩, inRange_of_bounds hr hb⟩,
    hc.imp (And.imp_left (inRange_of_bounds · hb)) (And.imp_left (inRange_of_bounds · hb))⟩

mutual
theorem sfitsS_sound (ρ : Env) : ∀ s, sfitsS s = true → envOkS ρ s = true → fitsS ρ s = true
  | .assign _ r, h, he => band_imp id (staticallyFits_Fits r _ · ρ he) h
  | .ite c t f, h, he => band_imp₂ (band_imp₂ (sfitsCond_sound ρ c) (sfitsSs_sound ρ t)) (sfitsSs_sound ρ f) h he
  | .case test items _ d, h, he =>
    band_imp₂ (band_imp₂ (sfitsCase_sound ρ test items) (sfitsItems_sound ρ items)) (sfitsSs_sound ρ d) h he
theorem sfitsSs_sound (ρ : Env) : ∀ ss, sfitsSs ss = true → envOkSs ρ ss = true → fitsSs ρ ss = true
  | .nil, _, _ => rfl
  | .cons s ss, h, he => band_imp₂ (sfitsS_sound ρ s) (sfitsSs_sound ρ ss) h he
theorem sfitsItems_sound (ρ : Env) : ∀ items, sfitsItems items = true → envOkItems ρ items = true →
    fitsItems ρ items = true
  | .nil, _, _ => rfl
  | .cons _ _ _ body rest, h, he => band_imp₂ (sfitsSs_sound ρ body) (sfitsItems_sound ρ rest) h he
end

end Litex.C01
