import LitexProofs.Fhdl.IntLemmas
/-
  Integers as infinite two's-complement bit strings: `ibit x i` is bit `i` of `x`.  The integer and/or/xor of
  `IntBits.lean` act bit by bit (`ibit_landI/lorI/xorI`), truncation keeps the low bits (`ibit_tn`), and a number lies in
  `[0, 2^n)` / `[-2^n, 0)` / `[-2^n, 2^n)` iff its bits from `n` up are all 0 / all 1 / all equal.  What the sizing
  theorem and the range analysis need of `&`, `|`, `^` is then proved once, for any operator that acts bit by bit
  (`tn_bitwise`, `hull_bitwise`, `nonneg_bitwise`).
-/
namespace Litex.C01

/-- Bit `i` of the infinite two's-complement expansion. -/
def ibit : Int → Nat → Bool
  | .ofNat a, i => a.testBit i
  | .negSucc n, i => !n.testBit i

/-- The `W`-bit pattern of `x` as a natural number. -/
def tnNat (W : Nat) : Int → Nat
  | .ofNat a => a % 2 ^ W
  | .negSucc n => 2 ^ W - (n % 2 ^ W + 1)

theorem tn_eq_tnNat (W : Nat) (x : Int) : tn W x = (tnNat W x : Int) := by
  cases x with
  | ofNat a =>
    show (a : Int) % p2 W = ((a % 2 ^ W : Nat) : Int)
    rw [← p2_natCast]; exact (Int.natCast_mod a (2 ^ W)).symm
  | negSucc n =>
    show Int.negSucc n % p2 W = ((2 ^ W - (n % 2 ^ W + 1) : Nat) : Int)
    rw [Int.negSucc_emod n (p2_pos W), ← p2_natCast, ← Int.natCast_mod]
    have : n % 2 ^ W < 2 ^ W := Nat.mod_lt _ (Nat.two_pow_pos W)
    omega

theorem testBit_tnNat (W : Nat) (x : Int) (i : Nat) :
    (tnNat W x).testBit i = (decide (i < W) && ibit x i) := by
  cases x with
  | ofNat a => simp [tnNat, ibit, Nat.testBit_mod_two_pow]
  | negSucc n =>
    have h : n % 2 ^ W < 2 ^ W := Nat.mod_lt _ (Nat.two_pow_pos W)
    simp only [tnNat, ibit, Nat.testBit_two_pow_sub_succ h, Nat.testBit_mod_two_pow]
    cases decide (i < W) <;> simp

theorem ibit_tn (W : Nat) (x : Int) (i : Nat) : ibit (tn W x) i = (decide (i < W) && ibit x i) := by
  rw [tn_eq_tnNat]; exact testBit_tnNat W x i

-- The four sign combinations of the two operands: `landI`/`lorI` compute each by a natural-number formula on
-- the complements (`-[n+1] = ~n`); after unfolding, what is left is a Boolean identity in the two bits.
theorem ibit_landI (x y : Int) (i : Nat) : ibit (landI x y) i = (ibit x i && ibit y i) := by
  cases x <;> cases y <;> simp [landI, ibit, Nat.testBit_and, Nat.testBit_or, Nat.testBit_xor] <;>
    (rename_i a b; cases a.testBit i <;> cases b.testBit i <;> rfl)

theorem ibit_lorI (x y : Int) (i : Nat) : ibit (lorI x y) i = (ibit x i || ibit y i) := by
  cases x <;> cases y <;> simp [lorI, ibit, Nat.testBit_and, Nat.testBit_or, Nat.testBit_xor] <;>
    (rename_i a b; cases a.testBit i <;> cases b.testBit i <;> rfl)

theorem ibit_xorI (x y : Int) (i : Nat) : ibit (xorI x y) i = (ibit x i ^^ ibit y i) := by
  cases x <;> cases y <;> simp [xorI, ibit, Nat.testBit_xor]

theorem tnNat_natCast (W : Nat) (a : Nat) : tnNat W (a : Int) = a % 2 ^ W := rfl

theorem lt_two_pow_iff_testBit {a n : Nat} : a < 2 ^ n ↔ ∀ i, n ≤ i → a.testBit i = false :=
  ⟨fun h i hi => Nat.testBit_lt_two_pow (Nat.lt_of_lt_of_le h (Nat.pow_le_pow_right (by decide) hi)),
    Nat.lt_pow_two_of_testBit a⟩

theorem exists_clear (a n : Nat) : ∃ i, n ≤ i ∧ a.testBit i = false :=
  ⟨max n a, Nat.le_max_left _ _, Nat.testBit_lt_two_pow (Nat.lt_of_lt_of_le Nat.lt_two_pow_self
    (Nat.pow_le_pow_right (by decide) (Nat.le_max_right _ _)))⟩

theorem negSucc_eq (m : Nat) : Int.negSucc m = -((m : Int) + 1) := rfl

theorem nonneg_iff_ibit {n : Nat} {x : Int} : (0 ≤ x ∧ x < p2 n) ↔ ∀ i, n ≤ i → ibit x i = false := by
  cases x with
  | ofNat a =>
    exact ⟨fun h => lt_two_pow_iff_testBit.1 (natCast_lt_p2.1 h.2),
      fun h => ⟨Int.natCast_nonneg a, natCast_lt_p2.2 (lt_two_pow_iff_testBit.2 h)⟩⟩
  | negSucc m =>
    refine ⟨fun h => absurd h.1 (by rw [negSucc_eq]; omega), fun h => ?_⟩
    obtain ⟨i, hi, hc⟩ := exists_clear m n
    exact absurd (h i hi) (by simp [ibit, hc])

theorem neg_iff_ibit {n : Nat} {x : Int} : (-(p2 n) ≤ x ∧ x < 0) ↔ ∀ i, n ≤ i → ibit x i = true := by
  cases x with
  | ofNat a =>
    refine ⟨fun h => absurd h.2 (Int.not_lt.2 (Int.natCast_nonneg a)), fun h => ?_⟩
    obtain ⟨i, hi, hc⟩ := exists_clear a n
    exact absurd ((h i hi).symm.trans hc) (by decide)
  | negSucc m =>
    -- `-(m+1) ∈ [-2^n, 0)` iff `m < 2^n`, and the bits of `-(m+1)` are the complemented bits of `m`
    have hc := natCast_lt_p2 (a := m) (n := n)
    have hl : (-(p2 n) ≤ Int.negSucc m ∧ Int.negSucc m < 0) ↔ m < 2 ^ n := by
      rw [negSucc_eq]; exact ⟨fun h => hc.1 (by omega), fun h => by have := hc.2 h; omega⟩
    exact hl.trans (lt_two_pow_iff_testBit.trans (forall_congr' fun i => imp_congr_right fun _ => by simp [ibit]))

abbrev InHull (n : Nat) (x : Int) : Prop := -(p2 n) ≤ x ∧ x < p2 n

theorem hull_iff_ibit {n : Nat} {x : Int} : InHull n x ↔ ∃ b, ∀ i, n ≤ i → ibit x i = b := by
  have hp := p2_pos n
  constructor
  · intro h
    by_cases h0 : 0 ≤ x
    · exact ⟨false, nonneg_iff_ibit.1 ⟨h0, h.2⟩⟩
    · exact ⟨true, neg_iff_ibit.1 ⟨h.1, Int.not_le.1 h0⟩⟩
  · rintro ⟨_ | _, hb⟩
    · have := nonneg_iff_ibit.2 hb
      exact ⟨by omega, this.2⟩
    · have := neg_iff_ibit.2 hb
      exact ⟨this.1, by omega⟩

theorem eq_of_ibit_eq {x y : Int} (hx : 0 ≤ x) (hy : 0 ≤ y) (h : ∀ i, ibit x i = ibit y i) : x = y := by
  obtain ⟨a, rfl⟩ := Int.eq_ofNat_of_zero_le hx
  obtain ⟨b, rfl⟩ := Int.eq_ofNat_of_zero_le hy
  exact congrArg _ (Nat.eq_of_testBit_eq h)

section
variable {f : Int → Int → Int} {g : Bool → Bool → Bool} (hf : ∀ x y i, ibit (f x y) i = g (ibit x i) (ibit y i))
include hf

theorem hull_bitwise {n : Nat} {x y : Int} (hx : InHull n x) (hy : InHull n y) : InHull n (f x y) := by
  obtain ⟨b, hb⟩ := hull_iff_ibit.1 hx
  obtain ⟨c, hc⟩ := hull_iff_ibit.1 hy
  exact hull_iff_ibit.2 ⟨g b c, fun i hi => by rw [hf, hb i hi, hc i hi]⟩

/-- `hg` may use what is known of the high bits of either operand: for `&` one non-negative operand is enough. -/
theorem nonneg_bitwise {n : Nat} {x y : Int} (hg : ∀ i, n ≤ i → g (ibit x i) (ibit y i) = false) :
    0 ≤ f x y ∧ f x y < p2 n :=
  nonneg_iff_ibit.2 fun i hi => by rw [hf, hg i hi]

theorem tn_bitwise (hg : g false false = false) (W : Nat) (x y : Int) : f (tn W x) (tn W y) = tn W (f x y) := by
  have hhi : ∀ z i, W ≤ i → ibit (tn W z) i = false := fun z =>
    nonneg_iff_ibit.1 ⟨tn_nonneg W z, tn_lt W z⟩
  refine eq_of_ibit_eq (nonneg_bitwise hf (n := W) fun i hi => ?_).1 (tn_nonneg _ _) fun i => ?_
  · rw [hhi x i hi, hhi y i hi, hg]
  · rw [hf, ibit_tn, ibit_tn, ibit_tn, hf]
    cases decide (i < W)
    · exact hg
    · rfl
end

theorem tn_landI : ∀ (W : Nat) (x y : Int), landI (tn W x) (tn W y) = tn W (landI x y) := tn_bitwise ibit_landI rfl

theorem tn_lorI : ∀ (W : Nat) (x y : Int), lorI (tn W x) (tn W y) = tn W (lorI x y) := tn_bitwise ibit_lorI rfl

theorem tn_xorI : ∀ (W : Nat) (x y : Int), xorI (tn W x) (tn W y) = tn W (xorI x y) := tn_bitwise ibit_xorI rfl

end Litex.C01
