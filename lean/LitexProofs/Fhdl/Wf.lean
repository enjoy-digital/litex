import LitexModel.Fhdl.FitsStmt
import LitexProofs.Fhdl.IntLemmas
/-
  Assignment targets: the shapes `leafOk` / `targetOk` of the model admit, and `wfS`: the signal nodes of every
  assignment target carry the declared widths.  This is all the block theorem (`rel_execSs`, text evaluated on the
  simulator's own values) needs of a statement; to evaluate the text on the Verilog state instead, every expression
  has to be annotated right: `wfSE` of `WfExpr.lean`, which implies `wfS`.
-/
namespace Litex.C01

theorem leafOk_cases {e : Expr} (h : leafOk e = true) :
    (∃ i w s, e = .sig i w s) ∨ (∃ i w s lo hi, e = .slice (.sig i w s) lo hi ∧ lo < hi ∧ hi ≤ w) := by
  cases e with
  | sig i w s => exact Or.inl ⟨i, w, s, rfl⟩
  | slice a lo hi =>
    cases a with
    | sig i w s =>
      simp only [leafOk, Bool.and_eq_true, decide_eq_true_eq] at h
      exact Or.inr ⟨i, w, s, lo, hi, rfl, h.1.1, h.1.2⟩
    | _ => cases h
  | _ => cases h

theorem targetOk_cases {l : Expr} (h : targetOk l = true) :
    (∃ es, l = .cat es ∧ es.all leafOk = true) ∨ leafOk l = true := by
  cases l with
  | cat es => exact Or.inl ⟨es, rfl, h⟩
  | _ => exact Or.inr h

/-- The width annotation of the signal node of a target is the declared width (the sign annotation is not
    constrained: a target is written through its bits). -/
def wfLeaf (wd : Nat → Nat) : Expr → Prop
  | .sig i w _ => w = wd i
  | .slice (.sig i w _) _ _ => w = wd i
  | _ => True

def wfTarget (wd : Nat → Nat) : Expr → Prop
  | .cat l => ∀ e ∈ l, wfLeaf wd e
  | e => wfLeaf wd e

mutual
def wfS (wd : Nat → Nat) : Stmt → Prop
  | .assign l _ => wfTarget wd l
  | .ite _ t f => wfSs wd t ∧ wfSs wd f
  | .case _ items _ d => wfItems wd items ∧ wfSs wd d
def wfSs (wd : Nat → Nat) : Stmts → Prop
  | .nil => True
  | .cons s ss => wfS wd s ∧ wfSs wd ss
def wfItems (wd : Nat → Nat) : Items → Prop
  | .nil => True
  | .cons _ _ _ body rest => wfSs wd body ∧ wfItems wd rest
end

end Litex.C01
