import LitexProofs.Codes.Defs
import LitexModel.Codes.Build8b10b
/-
  Bit lists of a word, for every width and every word: the splits of `bitsMsb 10`, additivity and bounds of `bal`, the
  prefix sums between two running disparities (`block_inside`), the three ways of counting (`bal`, `disparity`,
  `ones10`) related, bit reversal (`rev10`), and the recursions the kernel evaluates in the place of the folds
  `ones10` and `rev10` (`popLow`, `revFast`).
-/
namespace Litex.Code8b10b

@[simp] theorem bitsMsb_length (n w : Nat) : (bitsMsb n w).length = n := by
  induction n with
  | zero => rfl
  | succ n ih => simp [bitsMsb, ih]

theorem bits10_split (w : Nat) : bitsMsb 10 w = bitsMsb 6 (w / 16) ++ bitsMsb 4 (w % 16) := by
  simp only [bitsMsb, Nat.testBit_div_two_pow (n := 4) w, Nat.testBit_mod_two_pow w 4]; simp

theorem bits10_tail (w : Nat) : bitsMsb 10 w = bitsMsb 4 (w / 64) ++ bitsMsb 6 (w % 64) := by
  simp only [bitsMsb, Nat.testBit_div_two_pow (n := 6) w, Nat.testBit_mod_two_pow w 6]; simp

theorem bits10_mid (w : Nat) : bitsMsb 10 w = bitsMsb 2 (w / 256) ++ (bitsMsb 6 (w / 4 % 64) ++ bitsMsb 2 (w % 4)) := by
  simp only [bitsMsb, Nat.testBit_mod_two_pow w 2, Nat.testBit_mod_two_pow (w / 4) 6,
    Nat.testBit_div_two_pow (n := 2) w, Nat.testBit_div_two_pow (n := 8) w]; simp

theorem bal_append (a b : List Bool) : bal (a ++ b) = bal a + bal b := by
  induction a with
  | nil => simp [bal]
  | cons x xs ih => simp only [List.cons_append, bal, ih]; omega

theorem rd_cases (b : Bool) : rd b = 1 ∨ rd b = -1 := by cases b <;> simp [rd]

theorem rd_b2n (a b : Bool) : rd a - rd b = 2 * ((b2n a : Int) - b2n b) := by cases a <;> cases b <;> rfl

theorem bal_rep6 (b : Bool) : bal (rep6 b) = 6 ∨ bal (rep6 b) = -6 := by cases b <;> simp [rep6, bal]

theorem bal_abs_le : ∀ l : List Bool, -(l.length : Int) ≤ bal l ∧ bal l ≤ l.length
  | [] => by simp [bal]
  | b :: l => by have := bal_abs_le l; simp only [bal, List.length_cons]; cases b <;> simp <;> omega

theorem prefixOK_take (lo hi : Int) : ∀ (l : List Bool) (acc : Int), prefixOK lo hi acc l = true →
    ∀ n, lo ≤ acc + bal (l.take n) ∧ acc + bal (l.take n) ≤ hi
  | [], acc, h, n => by
    simp [prefixOK] at h
    simp [bal]; omega
  | b :: rest, acc, h, n => by
    simp only [prefixOK, Bool.and_eq_true, decide_eq_true_eq] at h
    cases n with
    | zero => simp [bal]; omega
    | succ n =>
      have := prefixOK_take lo hi rest _ h.2 n
      simp only [List.take_succ_cons, bal]
      omega

/-- From `s = ±1` to `e = ±1` over at most six bits: every prefix is as near to `s` as it is long and as near to `e`
    as what follows it is long, hence within ±3, unless three bits precede and three follow. -/
theorem block_inside (l : List Bool) (s e : Int) (hs : s = 1 ∨ s = -1) (he : e = 1 ∨ e = -1) (hb : bal l = e - s)
    (hl : l.length ≤ 6) (h3 : l.length = 6 → -3 ≤ s + bal (l.take 3) ∧ s + bal (l.take 3) ≤ 3) (j : Nat) :
    -3 ≤ s + bal (l.take j) ∧ s + bal (l.take j) ≤ 3 := by
  by_cases h : l.length = 6 ∧ j = 3
  · exact h.2 ▸ h3 h.1
  · have hp := bal_abs_le (l.take j)
    have hq := bal_abs_le (l.drop j)
    rw [← List.take_append_drop j l, bal_append] at hb
    rw [List.length_take] at hp
    rw [List.length_drop] at hq
    rcases hs with rfl | rfl <;> rcases he with rfl | rfl <;> omega

/-- `ones10 w` is `onesBelow 10 w` by definition. -/
def onesBelow (n w : Nat) : Nat := (List.range n).foldl (fun acc i => acc + (if w.testBit i then 1 else 0)) 0

theorem onesBelow_succ (n w : Nat) : onesBelow (n + 1) w = onesBelow n w + (if w.testBit n then 1 else 0) := by
  simp only [onesBelow, List.range_succ, List.foldl_append, List.foldl_cons, List.foldl_nil]

/-- Rewritten into the place of `ones10` before the kernel evaluates (`ones10_fast`): the fold over `List.range 10` is
    slow to evaluate. -/
def popLow : Nat → Nat → Nat
  | 0, _ => 0
  | n + 1, w => w % 2 + popLow n (w / 2)

theorem onesBelow_shift (n w : Nat) : onesBelow (n + 1) w = w % 2 + onesBelow n (w / 2) := by
  induction n with
  | zero => simp [onesBelow, Nat.testBit_zero]; split <;> omega
  | succ n ih =>
    rw [onesBelow_succ, ih, onesBelow_succ, Nat.testBit_succ]
    omega

theorem onesBelow_eq_popLow (n w : Nat) : onesBelow n w = popLow n w := by
  induction n generalizing w with
  | zero => rfl
  | succ n ih => rw [onesBelow_shift, popLow, ih]

theorem ones10_fast (w : Nat) : ones10 w = popLow 10 w := onesBelow_eq_popLow 10 w

theorem disparity_succ (w n : Nat) :
    disparity w (n + 1) = if w.testBit n then disparity w n + 1 else disparity w n - 1 := by
  simp only [disparity, List.range_succ, List.foldl_append, List.foldl_cons, List.foldl_nil]

theorem disparity_eq_ones (w n : Nat) : disparity w n = 2 * (onesBelow n w : Int) - n := by
  induction n with
  | zero => rfl
  | succ n ih =>
    rw [disparity_succ, onesBelow_succ, ih]
    cases w.testBit n <;> simp <;> omega

theorem bal_bitsMsb (n w : Nat) : bal (bitsMsb n w) = 2 * (onesBelow n w : Int) - n := by
  induction n with
  | zero => rfl
  | succ n ih =>
    rw [bitsMsb, bal, onesBelow_succ, ih]
    cases w.testBit n <;> simp <;> omega

/-- `rev10` is `revBits 10` by definition. -/
def revBits (n w : Nat) : Nat :=
  (List.range n).foldl (fun acc i => acc + (if w.testBit i then 2 ^ (n - 1 - i) else 0)) 0

theorem rev10_eq (w : Nat) : rev10 w = revBits 10 w := rfl

theorem foldl_add_double (l : List Nat) (f g : Nat → Nat) (h : ∀ i ∈ l, f i = 2 * g i) (a : Nat) :
    l.foldl (fun acc i => acc + f i) (2 * a) = 2 * l.foldl (fun acc i => acc + g i) a := by
  induction l generalizing a with
  | nil => rfl
  | cons x xs ih =>
    rw [List.foldl_cons, List.foldl_cons, h x (by simp), ← Nat.mul_add]
    exact ih (fun i hi => h i (by simp [hi])) _

theorem revBits_succ (n w : Nat) : revBits (n + 1) w = 2 * revBits n w + (if w.testBit n then 1 else 0) := by
  have h := foldl_add_double (List.range n) (fun i => if w.testBit i then 2 ^ (n + 1 - 1 - i) else 0)
    (fun i => if w.testBit i then 2 ^ (n - 1 - i) else 0) (fun i hi => by
      have := List.mem_range.mp hi
      rw [show n + 1 - 1 - i = n - 1 - i + 1 by omega, Nat.pow_succ]
      split <;> omega) 0
  simp only [revBits, List.range_succ, List.foldl_append, List.foldl_cons, List.foldl_nil]
  rw [Nat.mul_zero] at h
  rw [h, show n + 1 - 1 - n = 0 by omega, Nat.pow_zero]

/-- `revBits` by the recursion `revBits_succ`; rewritten into the place of `rev10` before the kernel evaluates. -/
def revFast : Nat → Nat → Nat
  | 0, _ => 0
  | n + 1, w => 2 * revFast n w + (if w.testBit n then 1 else 0)

theorem revBits_eq_fast (n w : Nat) : revBits n w = revFast n w := by
  induction n with
  | zero => rfl
  | succ n ih => rw [revBits_succ, ih, revFast]

theorem rev10_fast (w : Nat) : rev10 w = revFast 10 w := revBits_eq_fast 10 w

theorem revBits_lt (n w : Nat) : revBits n w < 2 ^ n := by
  induction n with
  | zero => exact Nat.one_pos
  | succ n ih => rw [revBits_succ, Nat.pow_succ]; split <;> omega

theorem bitsLsb_revBits (n w : Nat) : bitsLsb n (revBits n w) = bitsMsb n w := by
  induction n with
  | zero => rfl
  | succ n ih =>
    rw [revBits_succ, bitsLsb, bitsMsb, Nat.testBit_zero]
    cases w.testBit n
    · rw [show (2 * revBits n w + if false = true then 1 else 0) / 2 = revBits n w by simp, ih]
      simp
    · rw [show (2 * revBits n w + if true = true then 1 else 0) / 2 = revBits n w by simp; omega, ih]
      simp

theorem bitsLsb_succ_last (n x : Nat) : bitsLsb (n + 1) x = bitsLsb n x ++ [x.testBit n] := by
  induction n generalizing x with
  | zero => rfl
  | succ n ih => rw [bitsLsb, ih, bitsLsb, Nat.testBit_succ, List.cons_append]

theorem bitsMsb_eq_reverse (n x : Nat) : bitsMsb n x = (bitsLsb n x).reverse := by
  induction n with
  | zero => rfl
  | succ n ih => rw [bitsMsb, ih, bitsLsb_succ_last, List.reverse_append]; rfl

theorem bitsLsb_inj (n x y : Nat) (h : bitsLsb n x = bitsLsb n y) : x % 2 ^ n = y % 2 ^ n := by
  induction n generalizing x y with
  | zero => simp [Nat.mod_one]
  | succ n ih =>
    simp only [bitsLsb, List.cons.injEq, Nat.testBit_zero, decide_eq_decide] at h
    have := ih _ _ h.2
    rw [Nat.pow_succ, Nat.mul_comm, Nat.mod_mul, Nat.mod_mul, this]
    have := h.1
    omega

theorem revBits_revBits (n w : Nat) (hw : w < 2 ^ n) : revBits n (revBits n w) = w := by
  have h : bitsLsb n (revBits n (revBits n w)) = bitsLsb n w := by
    rw [bitsLsb_revBits, bitsMsb_eq_reverse, bitsLsb_revBits, bitsMsb_eq_reverse, List.reverse_reverse]
  have := bitsLsb_inj n _ _ h
  rwa [Nat.mod_eq_of_lt (revBits_lt n _), Nat.mod_eq_of_lt hw] at this

theorem testBit_foldl_or {α : Type} (f : α → Nat) (w : Nat) : ∀ (l : List α) (m : Nat),
    (l.foldl (fun m x => m ||| 2 ^ f x) m).testBit w = (m.testBit w || l.any fun x => f x == w)
  | [], m => by simp
  | x :: l, m => by
    rw [List.foldl_cons, testBit_foldl_or f w l, Nat.testBit_or, Nat.testBit_two_pow, List.any_cons, Bool.or_assoc]
    congr 2

end Litex.Code8b10b
