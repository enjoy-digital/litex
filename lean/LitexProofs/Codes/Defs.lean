import LitexModel.Codes.Code8b10b
/-
  Vocabulary for the finite facts and the sequence theorems of C17: integer running disparity, balance of a
  bit list, window occurrence, and the tail/head class sets used to reason across symbol boundaries.
-/
namespace Litex.Code8b10b

/-- Running disparity as an integer: RD− = −1, RD+ = +1. -/
def rd (b : Bool) : Int := if b then 1 else -1

/-- Ones minus zeros of a bit list. -/
def bal : List Bool → Int
  | [] => 0
  | b :: rest => (if b then 1 else -1) + bal rest

/-- Tails (last 6 bits, as a number) that a word leaving the running disparity at `c` may have:
    bit `t` of the mask is set iff `t` is allowed.  Proof artefact (checked against every symbol in `fin_encoder`, `LitexProofs/Codes/Finite.lean`). -/
def tailMask (c : Bool) : Nat := if c then 3380073464913751784 else 1690564506091394932
/-- Heads (first 6 bits = the 6b sub-block) of words emitted from running disparity `c`. -/
def headMask (c : Bool) : Nat := if c then 6499754791829216 else 540008542357743616
/-- The same for data symbols only (no theorem uses these two: the comma theorems go through `vTailMask`,
    `LitexProofs/Codes/Finite.lean`, and `headMask`). -/
def dataTailMask (c : Bool) : Nat := if c then 3380072915149549160 else 1618505812525062004
def dataHeadMask (c : Bool) : Nat := if c then 6218279815118560 else 540008542357710848

def rep6 (b : Bool) : List Bool := [b, b, b, b, b, b]
def commaP : List Bool := [false, false, true, true, true, true, true]
def commaN : List Bool := [true, true, false, false, false, false, false]

/-- `p` occurs as a contiguous window of `l` (Boolean, structural — evaluated by the kernel). -/
def occurs (p : List Bool) : List Bool → Bool
  | [] => p.isEmpty
  | b :: rest => p.isPrefixOf (b :: rest) || occurs p rest

/-- Every prefix sum `acc + bal (take n l)` stays within `[lo, hi]` (one pass, evaluated by the kernel). -/
def prefixOK (lo hi : Int) : Int → List Bool → Bool
  | acc, [] => decide (lo ≤ acc) && decide (acc ≤ hi)
  | acc, b :: rest => decide (lo ≤ acc) && decide (acc ≤ hi) && prefixOK lo hi (acc + (if b then 1 else -1)) rest

end Litex.Code8b10b
