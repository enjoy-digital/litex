import LitexProofs.Codes.Finite
/-
  Defines the hypotheses of the sequence theorems (`Bytes`, `AllValid`, `NoK287Inside`).  From single symbols to
  symbol sequences of any length, by induction over the sequence: running disparity at and between symbol boundaries,
  lsb-first order, no run of six behind any allowed tail (`run_window`); with control symbols: alternation of the
  non-zero word disparities, comma alignment (and, as its special case, no comma without control symbols), and exactly
  which successors of K.28.7 build a comma across the word boundary.
-/
namespace Litex.Code8b10b

theorem serial_cons (w : Nat) (ws : List Nat) : serial (w :: ws) = bitsMsb 10 w ++ serial ws := by
  simp [serial]

theorem serial_append (a b : List Nat) : serial (a ++ b) = serial a ++ serial b := by
  simp [serial]

/-- Every symbol of the sequence is a byte (K flag arbitrary, also on undefined control symbols). -/
def Bytes (syms : List Sym) : Prop := ∀ s ∈ syms, s.d < 256

/-- Every symbol is a byte or one of the 12 defined control symbols. -/
def AllValid (syms : List Sym) : Prop := ∀ s ∈ syms, s.Valid

def dataSyms (ds : List Nat) : List Sym := ds.map fun d => ⟨d, false⟩

theorem AllValid.bytes {syms : List Sym} (h : AllValid syms) : Bytes syms := fun s hs => (h s hs).1

theorem Bytes.head {s : Sym} {rest : List Sym} (h : Bytes (s :: rest)) : s.d < 256 := h s (by simp)
theorem Bytes.tail {s : Sym} {rest : List Sym} (h : Bytes (s :: rest)) : Bytes rest := fun x hx => h x (by simp [hx])
theorem AllValid.head {s : Sym} {rest : List Sym} (h : AllValid (s :: rest)) : s.Valid := h s (by simp)
theorem AllValid.tail {s : Sym} {rest : List Sym} (h : AllValid (s :: rest)) : AllValid rest :=
  fun x hx => h x (by simp [hx])

theorem seq_disparity (c : Bool) (syms : List Sym) (h : Bytes syms) :
    bal (serial (encodeSeq c syms)) = rd (dispAfter c syms) - rd c := by
  induction syms generalizing c with
  | nil => simp [encodeSeq, dispAfter, serial, bal]
  | cons s rest ih =>
    have hs := h.head
    simp only [encodeSeq, dispAfter, serial_cons, bal_append]
    rw [ih _ h.tail, encode1_bal s.d hs s.k c]
    omega

theorem seq_disparity_inside (c : Bool) (syms : List Sym) (h : Bytes syms) (m : Nat) :
    -3 ≤ rd c + bal ((serial (encodeSeq c syms)).take m) ∧
    rd c + bal ((serial (encodeSeq c syms)).take m) ≤ 3 := by
  induction syms generalizing c m with
  | nil => simp [encodeSeq, serial, bal, rd]; cases c <;> simp
  | cons s rest ih =>
    have hs := h.head
    simp only [encodeSeq, serial_cons, List.take_append, bitsMsb_length, bal_append]
    by_cases hm : m ≤ 10
    · have h0 : m - 10 = 0 := by omega
      have := encode1_inside s.d hs s.k c m
      simp only [h0, List.take_zero, bal]
      omega
    · have hfull : (bitsMsb 10 (encode1 s.d s.k c).1).take m = bitsMsb 10 (encode1 s.d s.k c).1 :=
        List.take_of_length_le (by simp; omega)
      have := ih (encode1 s.d s.k c).2 h.tail (m - 10)
      rw [hfull, encode1_bal s.d hs s.k c]
      omega

theorem serial_take : ∀ (syms : List Sym) (c : Bool) (k : Nat),
    (serial (encodeSeq c syms)).take (10 * k) = serial (encodeSeq c (syms.take k))
  | [], c, k => by simp [encodeSeq, serial]
  | s :: rest, c, 0 => by simp [encodeSeq, serial]
  | s :: rest, c, k + 1 => by
    rw [List.take_succ_cons, encodeSeq, encodeSeq, serial_cons, serial_cons, List.take_append,
      List.take_of_length_le (by simp; omega), bitsMsb_length, show 10 * (k + 1) - 10 = 10 * k by omega,
      serial_take rest]

theorem seq_disparity_boundary (c : Bool) (syms : List Sym) (h : Bytes syms) (k : Nat) :
    rd c + bal ((serial (encodeSeq c syms)).take (10 * k)) = rd (dispAfter c (syms.take k)) := by
  rw [serial_take, seq_disparity c _ fun s hs => h s (List.mem_of_mem_take hs)]
  omega

theorem serialLsb_fmt (ws : List Nat) : serialLsb (ws.map (fmt true)) = serial ws := by
  induction ws with
  | nil => rfl
  | cons w rest ih =>
    simp only [serialLsb, serial, List.map_cons, List.flatMap_cons] at *
    rw [ih, fmt, if_pos rfl, rev10_eq, bitsLsb_revBits]

/-- Stated with any allowed 6-bit tail `t` in front, so that the induction goes through: a window lies across the
    boundary to the first word, inside that word, or further on behind that word's tail. -/
theorem run_window (b : Bool) : ∀ (syms : List Sym) (c : Bool) (t : Nat), Bytes syms → t < 64 →
    (tailMask c).testBit t = true → ¬ rep6 b <:+: bitsMsb 6 t ++ serial (encodeSeq c syms)
  | [], c, t, _, ht, htm => by simpa [encodeSeq, serial] using not_infix_of_occurs (fin_run_tail c b t ht htm)
  | s :: rest, c, t, hP, ht, htm => by
    intro hin
    have hs := hP.head
    have hw := encode1_lt s.d s.k c
    have hrow := fin_encoder s.d hs s.k c
    have h4w := encode1_no_run s.d hs s.k c b
    rw [encodeSeq, serial_cons, bits10_tail, ← List.append_assoc, ← List.append_assoc] at hin
    rcases infix_append_split (by simp [rep6]) hin with h1 | h2
    · -- inside the old tail and this word: across their boundary, or inside the word
      rw [List.append_assoc, ← bits10_tail, bits10_split, ← List.append_assoc] at h1
      rcases infix_append_split (by simp [rep6]) h1 with h3 | h4
      · have h6 : occurs (rep6 b) (bitsMsb 6 ((encode1 s.d s.k c).1 / 16)) = false := by
          rw [Bool.eq_false_iff]
          intro ho
          exact h4w (((occurs_iff _ _).mp ho).trans (bits10_split _ ▸ List.prefix_append _ _).isInfix)
        exact not_infix_of_occurs
          (occurs_seam (fin_run_seam c b) ht (by omega) htm hrow.head (fin_run_tail c b t ht htm) h6) h3
      · rw [← bits10_split] at h4
        exact h4w h4
    · exact run_window b rest _ _ hP.tail (Nat.mod_lt _ (by decide)) hrow.tail h2

def wordBal (w : Nat) : Int := bal (bitsMsb 10 w)

/-- `2s, −2s, 2s, …` (`n` entries). -/
def altList : Int → Nat → List Int
  | _, 0 => []
  | s, n + 1 => 2 * s :: altList (-s) n

def nonzero (l : List Int) : List Int := l.filter (· != 0)

theorem seq_word_bal (c : Bool) (syms : List Sym) (h : Bytes syms) :
    ∀ w ∈ encodeSeq c syms, wordBal w = 0 ∨ wordBal w = 2 ∨ wordBal w = -2 := by
  induction syms generalizing c with
  | nil => simp [encodeSeq]
  | cons s rest ih =>
    intro w hw
    simp only [encodeSeq, List.mem_cons] at hw
    rcases hw with rfl | hw
    · have := encode1_bal s.d (h s (by simp)) s.k c
      unfold wordBal
      rw [this]
      cases c <;> cases (encode1 s.d s.k _).2 <;> simp [rd]
    · exact ih _ h.tail w hw

theorem seq_alternation (c : Bool) (syms : List Sym) (h : Bytes syms) :
    nonzero ((encodeSeq c syms).map wordBal) =
      altList (-(rd c)) (nonzero ((encodeSeq c syms).map wordBal)).length := by
  induction syms generalizing c with
  | nil => simp [encodeSeq, nonzero, altList]
  | cons s rest ih =>
    have hw := encode1_bal s.d (h s (by simp)) s.k c
    have ih' := ih (encode1 s.d s.k c).2 h.tail
    simp only [encodeSeq, List.map_cons, nonzero, wordBal, hw] at ih' ⊢
    generalize (encode1 s.d s.k c).2 = c' at ih' ⊢
    cases c <;> cases c' <;> simp [rd, altList] at ih' ⊢ <;> exact ih'

/-- Symbols allowed before the end of a sequence: not K.28.7. -/
def NoK287Inside (syms : List Sym) : Prop := ∀ s ∈ syms.dropLast, isK287 s = false

instance (syms : List Sym) : Decidable (NoK287Inside syms) := by unfold NoK287Inside; exact inferInstance
instance (syms : List Sym) : Decidable (AllValid syms) := by unfold AllValid; exact inferInstance
instance (syms : List Sym) : Decidable (Bytes syms) := by unfold Bytes; exact inferInstance

/-- A window starting in the last six bits of a word would lie in the 6-bit tail of that word followed by the 6-bit
    head of the next (`vcomma_boundary`). -/
theorem comma_boundary (p : List Bool) (hp : p = commaP ∨ p = commaN) (c : Bool) (s s' : Sym) (hs : s.Valid)
    (hs' : s'.Valid) (hk : isK287 s = false) (rest : List Sym) (i : Nat) (h4 : 4 ≤ i) (h10 : i < 10) :
    commaAt p (serial (encodeSeq c (s :: s' :: rest))) i = false := by
  have hlen : p.length = 7 := by rcases hp with rfl | rfl <;> rfl
  have hb := vcomma_boundary (encode1 s.d s.k c).2 _ (Nat.mod_lt _ (by decide))
    ((fin_valid s.d hs.1 s.k c hs).vtail hk) _ (by have := encode1_lt s'.d s'.k (encode1 s.d s.k c).2; omega)
    (fin_encoder s'.d hs'.1 s'.k (encode1 s.d s.k c).2).head
  rw [Bool.eq_false_iff]
  intro hc
  rw [encodeSeq, serial_cons, encodeSeq, serial_cons, bits10_tail, bits10_split (encode1 s'.d _ _).1,
    List.append_assoc, commaAt_append_right _ _ _ _ (by simp; omega), List.append_assoc,
    ← List.append_assoc (bitsMsb 6 _), commaAt_append_left _ _ _ _ (by simp [hlen]; omega)] at hc
  have hinf : p <:+: _ := (List.isPrefixOf_iff_prefix.mp hc).isInfix.trans (List.drop_suffix _ _).isInfix
  rcases hp with rfl | rfl
  · exact not_infix_of_occurs hb.1 hinf
  · exact not_infix_of_occurs hb.2 hinf

theorem comma_aligned (p : List Bool) (hp : p = commaP ∨ p = commaN) :
    ∀ (syms : List Sym) (c : Bool) (i : Nat), AllValid syms → NoK287Inside syms →
      commaAt p (serial (encodeSeq c syms)) i = true →
      i % 10 = 0 ∧ ∃ s, syms[i / 10]? = some s ∧ isCommaSym s = true := by
  have hlen : p.length = 7 := by rcases hp with rfl | rfl <;> rfl
  intro syms
  induction syms with
  | nil =>
    intro c i _ _ hc
    rw [commaAt_short p _ i (by omega) (by simp [encodeSeq, serial, hlen])] at hc
    exact Bool.noConfusion hc
  | cons s rest ih =>
    intro c i hv hk hc
    have hs := hv.head
    by_cases h4 : i < 4
    · -- the window lies inside this word
      have hin := fin_valid s.d hs.1 s.k c hs
      rw [encodeSeq, serial_cons, commaAt_append_left _ _ _ _ (by simp [hlen]; omega)] at hc
      by_cases h0 : i = 0
      · subst h0
        refine ⟨rfl, s, by simp, ?_⟩
        rw [← hin.comma0]
        rcases hp with rfl | rfl <;> simp [hc]
      · have := hin.commaIn i (by simp; omega)
        rcases hp with rfl | rfl
        · rw [this.1] at hc; exact Bool.noConfusion hc
        · rw [this.2] at hc; exact Bool.noConfusion hc
    by_cases h10 : 10 ≤ i
    · -- the window starts in a later word
      have hk' : NoK287Inside rest := by
        intro x hx
        cases rest with
        | nil => simp at hx
        | cons r rs => exact hk x (by simp [List.dropLast_cons_cons, hx])
      rw [encodeSeq, serial_cons, commaAt_append_right _ _ _ _ (by simpa using h10), bitsMsb_length] at hc
      obtain ⟨h1, t, h2, h3⟩ := ih _ (i - 10) hv.tail hk' hc
      refine ⟨by omega, t, ?_, h3⟩
      rw [show i / 10 = (i - 10) / 10 + 1 by omega, List.getElem?_cons_succ]
      exact h2
    · -- the window would span the boundary to the next word
      exfalso
      cases rest with
      | nil =>
        rw [commaAt_short p _ i (by omega) (by simp [encodeSeq, serial, hlen]; omega)] at hc
        exact Bool.noConfusion hc
      | cons s' rest' =>
        rw [comma_boundary p hp c s s' hs (hv s' (by simp)) (hk s (by simp [List.dropLast_cons_cons])) rest' i
          (by omega) (by omega)] at hc
        exact Bool.noConfusion hc

/-- By `comma_aligned` a comma window would mark a control symbol. -/
theorem seq_no_comma (c : Bool) (syms : List Sym) (hb : Bytes syms) (hk : ∀ s ∈ syms, s.k = false) :
    ¬ commaP <:+: serial (encodeSeq c syms) ∧ ¬ commaN <:+: serial (encodeSeq c syms) := by
  have hv : AllValid syms := fun s hs => ⟨hb s hs, fun h1 => by rw [hk s hs] at h1; cases h1⟩
  have hn : NoK287Inside syms := fun s hs => by
    rw [isK287, hk s ((List.dropLast_sublist _).subset hs)]; rfl
  have key : ∀ p, p = commaP ∨ p = commaN → ¬ p <:+: serial (encodeSeq c syms) := by
    intro p hp hin
    obtain ⟨i, hi⟩ := commaAt_of_infix hin
    obtain ⟨_, s, hs, hcs⟩ := comma_aligned p hp _ c i hv hn hi
    rw [isCommaSym, hk s (List.mem_of_getElem? hs)] at hcs
    cases hcs
  exact ⟨key _ (Or.inl rfl), key _ (Or.inr rfl)⟩

/-- A comma window starting at bits 4..9 ends before bit 16: it does not reach the 4b sub-block of the second word. -/
theorem commaAcross_head (c : Bool) (s s' : Sym) :
    commaAcross c s s' =
      acrossHead (encode1 s.d s.k c).1 ((encode1 s'.d s'.k (encode1 s.d s.k c).2).1 / 16) := by
  have key : ∀ (p W H T : List Bool) (j : Nat), 4 + j + p.length ≤ W.length + H.length →
      commaAt p (W ++ (H ++ T ++ [])) (4 + j) = commaAt p (W ++ H) (4 + j) := by
    intro p W H T j h
    rw [List.append_nil, ← List.append_assoc, commaAt_append_left _ _ _ _ (by simpa using h)]
  simp only [commaAcross, acrossHead, encodeSeq, serial, List.flatMap_cons, List.flatMap_nil,
    bits10_split (encode1 s'.d _ _).1]
  rw [Bool.eq_iff_iff, List.any_eq_true, List.any_eq_true]
  constructor <;> rintro ⟨j, hj, h⟩ <;> refine ⟨j, hj, ?_⟩ <;> have hj6 := List.mem_range.1 hj
  · rwa [key _ _ _ _ j (by simp [commaP]; omega), key _ _ _ _ j (by simp [commaN]; omega)] at h
  · rwa [key _ _ _ _ j (by simp [commaP]; omega), key _ _ _ _ j (by simp [commaN]; omega)]

theorem k287_exact (d : Nat) (k c : Bool) : commaAcross c ⟨252, true⟩ ⟨d, k⟩ = k287Successor c ⟨d, k⟩ := by
  rw [commaAcross_head, head_mod32,
    fin_k287_head (d % 32) (Nat.mod_lt _ (by decide)) _ c (by simp)]
  simp [k287Successor]

end Litex.Code8b10b
