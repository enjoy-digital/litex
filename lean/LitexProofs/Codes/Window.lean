import LitexProofs.Codes.Bits
/-
  Windows of a bit list: `occurs` against the infix relation, the window at a given position (`commaAt`) under `++`,
  and where a window of `A ++ B` can lie.  A window cut by the seam is excluded class-wise: no tail of the class before
  the seam ends with the first part while a head of the class after it starts with the second.
-/
namespace Litex.Code8b10b

theorem occurs_iff (p : List Bool) : ∀ l, occurs p l = true ↔ p <:+: l
  | [] => by simp [occurs, List.infix_nil]
  | b :: rest => by
    rw [occurs, Bool.or_eq_true, List.infix_cons_iff, occurs_iff p rest, List.isPrefixOf_iff_prefix]

theorem not_infix_of_occurs {p l : List Bool} (h : occurs p l = false) : ¬ p <:+: l := by
  intro hi
  rw [(occurs_iff p l).mpr hi] at h
  exact Bool.noConfusion h

theorem occurs_short {p l : List Bool} (h : l.length < p.length) : occurs p l = false := by
  rw [Bool.eq_false_iff]
  intro ho
  have := ((occurs_iff p l).mp ho).length_le
  omega

/-- `p` is the window of `l` starting at bit position `i`. -/
def commaAt (p l : List Bool) (i : Nat) : Bool := p.isPrefixOf (l.drop i)

theorem commaAt_of_infix {p l : List Bool} (h : p <:+: l) : ∃ i, commaAt p l i = true := by
  obtain ⟨s, t, rfl⟩ := h
  refine ⟨s.length, ?_⟩
  rw [commaAt, List.append_assoc, List.drop_left, List.isPrefixOf_iff_prefix]
  exact List.prefix_append p t

theorem isPrefixOf_append_left (p A B : List Bool) (h : p.length ≤ A.length) :
    p.isPrefixOf (A ++ B) = p.isPrefixOf A := by
  rw [Bool.eq_iff_iff, List.isPrefixOf_iff_prefix, List.isPrefixOf_iff_prefix]
  constructor
  · intro hp
    exact List.prefix_of_prefix_length_le hp (List.prefix_append A B) h
  · intro hp
    exact hp.trans (List.prefix_append A B)

theorem commaAt_short (p l : List Bool) (i : Nat) (hp : 0 < p.length) (h : l.length < i + p.length) :
    commaAt p l i = false := by
  unfold commaAt
  rw [Bool.eq_false_iff]
  intro hp
  have := (List.isPrefixOf_iff_prefix.mp hp).length_le
  rw [List.length_drop] at this
  omega

theorem commaAt_append_right (p A R : List Bool) (i : Nat) (h : A.length ≤ i) :
    commaAt p (A ++ R) i = commaAt p R (i - A.length) := by
  rw [commaAt, commaAt, List.drop_append, List.drop_of_length_le h, List.nil_append]

theorem commaAt_append_left (p A R : List Bool) (i : Nat) (h : i + p.length ≤ A.length) :
    commaAt p (A ++ R) i = commaAt p A i := by
  rw [commaAt, commaAt, List.drop_append_of_le_length (by omega),
    isPrefixOf_append_left _ _ _ (by rw [List.length_drop]; omega)]

theorem infix_append_cases {α : Type} {p A B : List α} (h : p <:+: A ++ B) :
    p <:+: A ∨ p <:+: B ∨ ∃ j, 0 < j ∧ j < p.length ∧ p.take j <:+ A ∧ p.drop j <+: B := by
  obtain ⟨s, t, e⟩ := h
  rcases List.append_eq_append_iff.mp e with ⟨a', hA, _⟩ | ⟨c', hsp, hB⟩
  · exact Or.inl ⟨s, a', hA.symm⟩
  · rcases List.append_eq_append_iff.mp hsp with ⟨a'', hA, hp⟩ | ⟨c'', _, hc⟩
    · cases a'' with
      | nil => exact Or.inr (Or.inl ⟨[], t, by rw [hB, hp]; rfl⟩)
      | cons x xs =>
        cases c' with
        | nil => exact Or.inl ⟨s, [], by rw [hA, hp]; simp⟩
        | cons y ys =>
          refine Or.inr (Or.inr ⟨(x :: xs).length, by simp, by rw [hp]; simp, ?_, ?_⟩)
          · rw [hp, List.take_left]; exact ⟨s, hA.symm⟩
          · rw [hp, List.drop_left]; exact ⟨t, hB.symm⟩
    · exact Or.inr (Or.inl ⟨c'', t, by rw [hB, hc]⟩)

theorem infix_append_split {α : Type} {p A₁ A₂ B : List α} (hp : p.length ≤ A₂.length + 1)
    (h : p <:+: A₁ ++ A₂ ++ B) : p <:+: A₁ ++ A₂ ∨ p <:+: A₂ ++ B := by
  rcases infix_append_cases h with h1 | h2 | ⟨j, _, hj, hsuf, ⟨v, hv⟩⟩
  · exact Or.inl h1
  · exact Or.inr (h2.trans (List.suffix_append _ _).isInfix)
  · obtain ⟨u, hu⟩ := List.suffix_of_suffix_length_le hsuf (List.suffix_append A₁ A₂) (by simp; omega)
    exact Or.inr ⟨u, v, by rw [← hu, ← hv, List.append_assoc, List.append_assoc, ← List.append_assoc (p.take j),
      List.take_append_drop]⟩

/-- Some 6-bit tail of the class `M` (a bit mask over 0..63) ends with `q` / some head starts with `q`. -/
def tailEnds (M : Nat) (q : List Bool) : Bool := (List.range 64).any fun t => M.testBit t && q.isSuffixOf (bitsMsb 6 t)
def headStarts (M : Nat) (q : List Bool) : Bool := (List.range 64).any fun h => M.testBit h && q.isPrefixOf (bitsMsb 6 h)

/-- No cut of `p` into two non-empty parts has the first at the end of a tail of class `T` and the second at the start
    of a head of class `H`. -/
def noSeam (p : List Bool) (T H : Nat) : Bool :=
  (List.range p.length).all fun j => j == 0 || !(tailEnds T (p.take j) && headStarts H (p.drop j))

theorem occurs_seam {p : List Bool} {T H : Nat} (hs : noSeam p T H = true) {t h : Nat} (ht : t < 64) (hh : h < 64)
    (htm : T.testBit t = true) (hhm : H.testBit h = true)
    (h1 : occurs p (bitsMsb 6 t) = false) (h2 : occurs p (bitsMsb 6 h) = false) :
    occurs p (bitsMsb 6 t ++ bitsMsb 6 h) = false := by
  rw [Bool.eq_false_iff]
  intro ho
  rcases infix_append_cases ((occurs_iff p _).mp ho) with hA | hB | ⟨j, hj0, hj, hsuf, hpre⟩
  · exact not_infix_of_occurs h1 hA
  · exact not_infix_of_occurs h2 hB
  · have := List.all_eq_true.mp hs j (List.mem_range.mpr hj)
    have e1 : tailEnds T (p.take j) = true :=
      List.any_eq_true.mpr ⟨t, List.mem_range.mpr ht, by rw [htm, List.isSuffixOf_iff_suffix.mpr hsuf]; rfl⟩
    have e2 : headStarts H (p.drop j) = true :=
      List.any_eq_true.mpr ⟨h, List.mem_range.mpr hh, by rw [hhm, List.isPrefixOf_iff_prefix.mpr hpre]; rfl⟩
    rw [e1, e2] at this
    simp at this
    omega

end Litex.Code8b10b
