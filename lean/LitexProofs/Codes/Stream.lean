import LitexProofs.Codes.Seq
import LitexProofs.Codes.Machines
/-
  `StreamEncoder`/`StreamDecoder`: the history relations (accepted against delivered and in-flight tokens) with their
  step lemmas, which rest on the round trip; and `StreamEncoder` in the region "every enabled cycle carries a valid
  token" (no bubbles), where the delivered words are exactly the chained encoding, from RD−, of the accepted symbols.
-/
namespace Litex.Code8b10b
open Litex.Stream Litex.Stream.Elem

/-- What `Decoder(lsb_first=True)` shows one enabled cycle after `w`. -/
def decodeSym (w : Nat) : Sym := ⟨(decOut (decStep true w)).1, (decOut (decStep true w)).2.1⟩

def decTok (t : Tok (List Nat)) : Tok (List Sym) :=
  { data := t.data.map decodeSym, first := t.first, last := t.last }

theorem decode_encodeSeq (c : Bool) (syms : List Sym) (h : AllValid syms) :
    ((encodeSeq c syms).map (fmt true)).map decodeSym = syms := by
  induction syms generalizing c with
  | nil => rfl
  | cons s rest ih =>
    have hs := h.head
    simp only [encodeSeq, List.map_cons]
    rw [ih _ h.tail]
    have := encode1_roundtrip_lsb s.d hs.1 s.k c hs
    simp [decodeSym, this]

def decInflight (n : Nat) (s : P1State (List DecState)) : List (Tok (List Sym)) :=
  if s.v1 then [{ data := (decDatapath n).out s.dp, first := s.f1, last := s.l1 }] else []

/-- accepted words, decoded, = delivered ++ the token in the output stage. -/
def decRel (n : Nat) (s : P1State (List DecState)) (a : List (Tok (List Nat))) (d : List (Tok (List Sym))) : Prop :=
  a.map decTok = d ++ decInflight n s

theorem streamDecoder_step (n : Nat) (s : P1State (List DecState)) (a : List (Tok (List Nat)))
    (d : List (Tok (List Sym))) (i : In (List Nat)) (h : decRel n s a d) :
    decRel n ((streamDecoder n).step s i) (a ++ (streamDecoder n).accNow s i)
      (d ++ (streamDecoder n).delNow s i) := by
  cases hce : i.ready || !s.v1
  · obtain ⟨h1, h2, h3⟩ := pipe1_stall (decDatapath n) s i hce
    rw [streamDecoder, h1, h2, h3, List.append_nil, List.append_nil]
    exact h
  · obtain ⟨h1, h2, h3⟩ := pipe1_move (decDatapath n) s i hce
    rw [streamDecoder, h1, h2, h3, decRel, List.map_append, h, decInflight, List.append_assoc]
    -- the token of the output stage is handed over; the sink token, decoded, is what the registers show next
    cases i.valid <;> simp [decInflight, decTok, decDatapath, decodeSym]
/-- Tokens in flight in `StreamEncoder`, oldest first: the output registers (stage 2) and the stage-1 registers,
    whose words are determined by the current disparity register. -/
def encInflight (s : P2State EncState) : List (Tok (List Nat)) :=
  (if s.v2 then [{ data := s.dp.outs, first := s.f2, last := s.l2 }] else []) ++
  (if s.v1 then [{ data := (chain s.dp.st1 s.dp.disp).1.map (fun r => fmt true r.1),
                   first := s.f1, last := s.l1 }] else [])

/-- If every accepted token consists of bytes / defined control symbols, then decoding everything delivered or in
    flight gives back exactly the accepted tokens, in order. -/
def encRel (s : P2State EncState) (a : List (Tok (List Sym))) (d : List (Tok (List Nat))) : Prop :=
  (∀ t ∈ a, AllValid t.data) → a = (d ++ encInflight s).map decTok

theorem decTok_stage1 (c : Bool) (t : Tok (List Sym)) (h : AllValid t.data) :
    decTok { data := (chain (t.data.map fun x => stage1 x.d x.k) c).1.map (fun r => fmt true r.1),
             first := t.first, last := t.last } = t := by
  have h1 : (chain (t.data.map fun x => stage1 x.d x.k) c).1.map (fun r => fmt true r.1) =
      (encodeSeq c t.data).map (fmt true) := by
    rw [← chain_words t.data, List.map_map]; rfl
  simp only [decTok, h1, decode_encodeSeq c t.data h]

theorem streamEncoder_step (n : Nat) (s : P2State EncState) (a : List (Tok (List Sym)))
    (d : List (Tok (List Nat))) (i : In (List Sym)) (h : encRel s a d) :
    encRel ((streamEncoder n).step s i) (a ++ (streamEncoder n).accNow s i)
      (d ++ (streamEncoder n).delNow s i) := by
  cases hce : i.ready || !s.v2
  · obtain ⟨h1, h2, h3⟩ := pipe2_stall (encDatapath n) s i hce
    rw [streamEncoder, h1, h2, h3, List.append_nil, List.append_nil]
    exact h
  · obtain ⟨h1, h2, h3⟩ := pipe2_move (encDatapath n) s i hce
    rw [streamEncoder, h1, h2, h3]
    intro hv
    rw [h fun t ht => hv t (List.mem_append_left _ ht)]
    -- the old stage-1 token is the new output-stage token; the new stage-1 token decodes to the sink token
    simp only [encInflight, encDatapath, encStep, List.map_append, List.append_assoc, List.append_cancel_left_eq]
    cases hiv : i.valid
    · rfl
    · have := decTok_stage1 (chain s.dp.st1 s.dp.disp).2 i.tok (hv i.tok (by simp [hiv]))
      simp [this]

/-- Without bubbles the encoder registers are a function of the accepted tokens, the pipeline fills and stays
    full, and everything delivered so far is the chained encoding of all but the last two accepted tokens. -/
def nbRel (n : Nat) (s : P2State EncState) (a : List (Tok (List Sym))) (d : List (Tok (List Nat))) : Prop :=
  s.dp = encRun true n (a.map (·.data)) ∧ s.v1 = decide (1 ≤ a.length) ∧ s.v2 = decide (2 ≤ a.length) ∧
  d.flatMap (·.data) = (encodeSeq false (a.dropLast.dropLast.flatMap (·.data))).map (fmt true)

theorem mem_dropLast2_flatMap {acc : List (Tok (List Sym))} {s : Sym}
    (h : s ∈ acc.dropLast.dropLast.flatMap (·.data)) : ∃ t ∈ acc, s ∈ t.data := by
  obtain ⟨t, ht, hst⟩ := List.mem_flatMap.mp h
  exact ⟨t, (List.dropLast_sublist acc).subset ((List.dropLast_sublist _).subset ht), hst⟩

theorem dropLast2_three {α : Type} (pre : List α) (g last t : α) :
    (pre ++ [g, last] ++ [t]).dropLast.dropLast = pre ++ [g] := by
  have : pre ++ [g, last] ++ [t] = (pre ++ [g]) ++ [last] ++ [t] := by simp
  rw [this, List.dropLast_concat, List.dropLast_concat]

theorem dropLast2_two {α : Type} (pre : List α) (g last : α) :
    (pre ++ [g, last]).dropLast.dropLast = pre := by
  have : pre ++ [g, last] = pre ++ [g] ++ [last] := by simp
  rw [this, List.dropLast_concat, List.dropLast_concat]

theorem streamEncoder_nb_step (n : Nat) (s : P2State EncState) (a : List (Tok (List Sym)))
    (d : List (Tok (List Nat))) (i : In (List Sym)) (hH : NoBubbleAt (streamEncoder n) s i)
    (h : nbRel n s a d) :
    nbRel n ((streamEncoder n).step s i) (a ++ (streamEncoder n).accNow s i)
      (d ++ (streamEncoder n).delNow s i) := by
  cases hce : i.ready || !s.v2
  · obtain ⟨h1, h2, h3⟩ := pipe2_stall (encDatapath n) s i hce
    rw [streamEncoder, h1, h2, h3, List.append_nil, List.append_nil]
    exact h
  · obtain ⟨h1, h2, h3⟩ := pipe2_move (encDatapath n) s i hce
    obtain ⟨hdp, hv1, hv2, hd⟩ := h
    rw [streamEncoder, h1, h2, h3, hH hce, if_pos rfl]
    have hdp' : encStep true s.dp i.tok.data = encRun true n ((a ++ [i.tok]).map (·.data)) := by
      rw [List.map_append, List.map_singleton, encRun_concat, hdp]
    refine ⟨hdp', by simp, by simp [hv1], ?_⟩
    cases h2' : s.v2
    · -- the pipeline is still filling: nothing delivered yet, fewer than two tokens accepted before
      have hlen : a.length < 2 := by simpa [h2'] using hv2.symm
      have e : ∀ l : List (Tok (List Sym)), l.length < 3 → l.dropLast.dropLast = [] :=
        fun l hl => List.eq_nil_of_length_eq_zero (by simp; omega)
      rw [e _ (by simp; omega)]; rw [e a (by omega)] at hd
      simpa using hd
    · -- the pipeline is full: the output registers hold the encoding of the last-but-one accepted token
      have hlen : 2 ≤ a.length := by simpa [h2'] using hv2.symm
      obtain ⟨pre, g, last, rfl⟩ := exists_two_last a hlen
      have houts := (encRun_two true n (pre.map (·.data)) g.data last.data).1
      have hdpouts : s.dp.outs = (encodeSeq (dispAfter false (pre.flatMap (·.data))) g.data).map (fmt true) := by
        rw [hdp]
        simpa [List.flatMap_def] using houts
      rw [dropLast2_three, if_pos rfl, List.flatMap_append, List.flatMap_append, hd, dropLast2_two]
      simp [encDatapath, hdpouts, encodeSeq_append]

theorem nb_delivered (n : Nat) (ins : List (In (List Sym))) (hnb : NoBubble (streamEncoder n) ins) :
    serialLsb (((streamEncoder n).delivered (streamEncoder n).init ins).flatMap (·.data)) =
      serial (encodeSeq false
        (((streamEncoder n).accepted (streamEncoder n).init ins).dropLast.dropLast.flatMap (·.data))) := by
  have h := rel_run_along (streamEncoder n) (nbRel n) (NoBubbleAt (streamEncoder n))
    (streamEncoder_nb_step n) ins (streamEncoder n).init [] []
    (by simp [nbRel, streamEncoder, pipe2, encDatapath, encRun, encodeSeq]) hnb
  simp only [List.nil_append] at h
  rw [h.2.2.2, serialLsb_fmt]

end Litex.Code8b10b
