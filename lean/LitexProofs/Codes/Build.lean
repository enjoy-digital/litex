import LitexProofs.Codes.Bits
/-
  The eight derived tables dumped from the repository are what the build-time constructions of `code_8b10b.py`
  give from the two primary tables `table_5b6b` and `table_3b4b` (kernel-evaluated).
-/
namespace Litex.Code8b10b
open Tables

theorem build_unbalanced6 :
    table_5b6b_unbalanced = table_5b6b.map fun c => b2n (disparity c 6 != 0) := by decide +kernel
theorem build_flip6 : table_5b6b_flip = table_5b6b_unbalanced.set 7 1 := by decide +kernel
theorem build_6b5b :
    (reverseTableFlip table_5b6b (table_5b6b_flip.map (· != 0)) 6).map
      (fun t => (t.set 0b001111 0b11100).set 0b110000 0b11100) = some table_6b5b := by decide +kernel
theorem build_unbalanced4 :
    table_3b4b_unbalanced = table_3b4b.map fun c => b2n (disparity c 4 != 0) := by decide +kernel
theorem build_flip4 : table_3b4b_flip = table_3b4b_unbalanced.set 3 1 := by decide +kernel
theorem build_4b3b :
    (reverseTableFlip table_3b4b (table_3b4b_flip.map (· != 0)) 4).map
      (fun t => (t.set 0b0111 0b0111).set 0b1000 0b0111) = some table_4b3b := by decide +kernel
theorem build_4b3b_kn :
    (reverseTable table_3b4b 4).map (fun t => (t.set 0b0001 0b000).set 0b1000 0b111) = some table_4b3b_kn := by
  decide +kernel
theorem build_4b3b_kp :
    (reverseTable (table_3b4b.map fun x => 15 - x) 4).map
      (fun t => (t.set 0b1110 0b000).set 0b0111 0b111) = some table_4b3b_kp := by decide +kernel

/-- `disparity` is `ones − zeros` whatever the width (the helper agrees with the bit-list balance used in the
    theorems, here on all 10-bit words). -/
theorem build_disparity10 : ∀ w < 1024, disparity w 10 =
    2 * ((List.range 10).foldl (fun acc i => acc + (if w.testBit i then 1 else 0)) 0 : Nat) - 10 :=
  fun w _ => disparity_eq_ones w 10

theorem build_kList :
    kList = (List.range 8).map (symK 28) ++ [symK 23 7, symK 27 7, symK 29 7, symK 30 7] := by decide

end Litex.Code8b10b
