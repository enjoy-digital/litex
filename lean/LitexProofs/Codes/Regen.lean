import LitexProofs.Codes.Bits
import LitexProofs.Codes.Machines
import LitexModel.Codes.Regen8b10b
/-
  The regeneration tie: the hand-written `encode1` / `decode1` / `encoder n` equal, on their WHOLE finite domains,
  the truth tables obtained on this run by evaluating the real elaborated netlists (`Generated/Netlist8b10b.lean`):
  complete input spaces for `SingleEncoder`, `Decoder` (both bit orders) and per lane for `Encoder(2)`, the 16 probe
  symbols for `Encoder(3)`, `Encoder(4)`.  Checked by the kernel; a change of the code changes a table and breaks one
  of these `decide`s, so every theorem stated about `encode1`/`decode1` is re-checked against what the code computes
  now.  For n = 2 the chain probe is reduced, by the chaining theorem `encRun_two`, to two successive `encode1`, which
  is what `regen_enc` compares with the table.
-/
namespace Litex.Code8b10b

/-- `output + 1024*disp_out` of one encoding. -/
def pk (r : Nat × Bool) : Nat := r.1 + 1024 * b2n r.2

/-- The `SingleEncoder` tables of both bit orders and the `Encoder(2)` table (lane 0 probed: the entry's encoding, then
    D0.0 from its output disparity; lane 1 probed: D0.0, then the entry's encoding — see `chainProbe2`), evaluated
    together because all four lists range over the same 1024 `encode1` terms. -/
theorem regen_enc :
    ((List.range 1024).map (encEntry false) = Netlist.encMsb ∧
     (List.range 1024).map (encEntry true) = Netlist.encLsb) ∧
    (List.range 1024).map (fun j => pk (encode1 (j % 256) (ibit j 8) (ibit j 9)) +
      2048 * pk (encode1 0 false (encode1 (j % 256) (ibit j 8) (ibit j 9)).2)) = Netlist.chain2.take 1024 ∧
    (List.range 1024).map (fun j => pk (encode1 0 false (ibit j 9)) +
      2048 * pk (encode1 (j % 256) (ibit j 8) (ibit j 9))) = Netlist.chain2.drop 1024 := by
  unfold encEntry
  simp only [fmt, rev10_fast]
  decide +kernel

theorem regen_dec : (List.range 1024).map (decEntry false) = Netlist.decMsb ∧
    (List.range 1024).map (decEntry true) = Netlist.decLsb := by
  unfold decEntry
  simp only [decOut, decStep, decStepMsb, fmt, rev10_fast, ones10_fast]
  decide +kernel

theorem regen_encReset : [false, true].map resetEntry = Netlist.encReset := by decide +kernel

/-- D0.0 in the other lane keeps the running disparity. -/
theorem chainProbe2 (lane d : Nat) (hlane : lane < 2) (k c : Bool) :
    chainProbe 2 lane d k c =
      if lane = 0 then pk (encode1 d k c) + 2048 * pk (encode1 0 false (encode1 d k c).2)
      else pk (encode1 0 false c) + 2048 * pk (encode1 d k c) := by
  have h0 : (encode1 0 false c).2 = c := by cases c <;> decide
  -- the prefix group (D3.0 or D0.0 in lane 0, D0.0 in lane 1) leaves the running disparity at `c`
  have hc : dispAfter false [⟨if c then 3 else 0, false⟩, ⟨0, false⟩] = c := by cases c <;> decide
  -- the three enabled groups of the probe, written out: prefix, probed group (`(d, k)` in `lane`, D0.0 in the other
  -- lane), flush
  have hrun : (encoder 2 false).run (probeGroups 2 lane d k c) =
      encRun false 2 ([[⟨if c then 3 else 0, false⟩, ⟨0, false⟩]] ++
        [[if 0 = lane then ⟨d, k⟩ else ⟨0, false⟩, if 1 = lane then ⟨d, k⟩ else ⟨0, false⟩], [⟨0, false⟩, ⟨0, false⟩]]) := by
    rw [Machine.run, encoder_runFrom]
    cases c <;> simp [probeGroups, enabledGroups, encRun, encoder, List.range, List.range.loop]
  -- after the flush edge the registers hold the chained encoding of the probed group, from `c`
  obtain ⟨h1, h2, -, -⟩ := encRun_two false 2 [[⟨if c then 3 else 0, false⟩, ⟨0, false⟩]]
    [if 0 = lane then ⟨d, k⟩ else ⟨0, false⟩, if 1 = lane then ⟨d, k⟩ else ⟨0, false⟩] [⟨0, false⟩, ⟨0, false⟩]
  rw [chainProbe, hrun, h1, h2]
  simp only [List.flatten_cons, List.flatten_nil, List.append_nil, hc]
  -- lane 0 probed: `(d, k)` then D0.0; lane 1 probed: D0.0 (which keeps `c`, `h0`) then `(d, k)`; pack both words
  by_cases hl : lane = 0
  · subst hl; simp [encodeSeq, dispSeq, packLanes, pk, fmt]
  · have hl' : ¬ 0 = lane := fun h => hl h.symm
    have h1 : 1 = lane := by omega
    simp [encodeSeq, dispSeq, packLanes, pk, fmt, hl, hl', h1, h0]

theorem regen_chain3 : chainProbeTable 3 = Netlist.chain3 := by decide +kernel
theorem regen_chain4 : chainProbeTable 4 = Netlist.chain4 := by decide +kernel

theorem getD_of_map_range {f : Nat → Nat} {t : List Nat} {n : Nat} (h : (List.range n).map f = t)
    (i : Nat) (hi : i < n) : t.getD i 0 = f i := by
  subst h
  simp [List.getD_eq_getElem?_getD, hi]

theorem idx_fields (m d : Nat) (hd : d < 256) (k c : Bool) :
    (1024 * m + (d + 256 * b2n k + 512 * b2n c)) / 1024 = m ∧
    (1024 * m + (d + 256 * b2n k + 512 * b2n c)) % 256 = d ∧
    ibit (1024 * m + (d + 256 * b2n k + 512 * b2n c)) 8 = k ∧
    ibit (1024 * m + (d + 256 * b2n k + 512 * b2n c)) 9 = c ∧ d + 256 * b2n k + 512 * b2n c < 1024 := by
  cases k <;> cases c <;> simp [ibit, b2n] <;> omega

theorem net_chain2 (lane : Nat) (hl : lane < 2) (d : Nat) (hd : d < 256) (k c : Bool) :
    Netlist.chain2.getD (1024 * lane + (d + 256 * b2n k + 512 * b2n c)) 0 = chainProbe 2 lane d k c := by
  obtain ⟨_, h1, h2, h3, h4⟩ := idx_fields 0 d hd k c
  simp only [Nat.mul_zero, Nat.zero_add] at h1 h2 h3
  rw [chainProbe2 lane d hl k c]
  by_cases h0 : lane = 0
  · have := getD_of_map_range regen_enc.2.1 _ h4
    rw [List.getD_eq_getElem?_getD, List.getElem?_take_of_lt h4, ← List.getD_eq_getElem?_getD, h1, h2, h3] at this
    rw [h0, if_pos rfl, Nat.mul_zero, Nat.zero_add, this]
  · have := getD_of_map_range regen_enc.2.2 _ h4
    rw [List.getD_eq_getElem?_getD, List.getElem?_drop, ← List.getD_eq_getElem?_getD, h1, h2, h3] at this
    rw [show lane = 1 by omega, if_neg (by omega), Nat.mul_one, this]

end Litex.Code8b10b
