import LitexModel.Codes.Stream8b10b
/-
  The machines as functions of their input history, whatever the tables hold: successive encoding of a concatenation,
  the combinational chain of `Encoder(n)` as successive single encoding, its registers after a history of enabled
  inputs (`encRun_two`), `Encoder(n)` as the iterated `Encoder(1)`, the decoder's registers, one cycle of the two
  pipelines, and the history-relation induction under a per-cycle hypothesis on the environment (`rel_run_along`).
-/
namespace Litex.Code8b10b

theorem encodeSeq_append (c : Bool) (a b : List Sym) :
    encodeSeq c (a ++ b) = encodeSeq c a ++ encodeSeq (dispAfter c a) b := by
  induction a generalizing c with
  | nil => rfl
  | cons s rest ih => simp [encodeSeq, dispAfter, ih]

theorem dispAfter_append (c : Bool) (a b : List Sym) :
    dispAfter c (a ++ b) = dispAfter (dispAfter c a) b := by
  induction a generalizing c with
  | nil => rfl
  | cons s rest ih => simp [dispAfter, ih]

theorem dispSeq_append (c : Bool) (a b : List Sym) :
    dispSeq c (a ++ b) = dispSeq c a ++ dispSeq (dispAfter c a) b := by
  induction a generalizing c with
  | nil => rfl
  | cons s rest ih => simp [dispSeq, dispAfter, ih]

open Litex.Stream Litex.Stream.Elem

theorem stage2_reset (c : Bool) : stage2 Stage1.reset c = (0, c) := by cases c <;> rfl

theorem chain_reset (n : Nat) (c : Bool) :
    chain (List.replicate n Stage1.reset) c = (List.replicate n (0, c), c) := by
  induction n with
  | zero => rfl
  | succ n ih => simp [List.replicate_succ, chain, stage2_reset, ih]

theorem chain_words (syms : List Sym) (c : Bool) :
    (chain (syms.map fun x => stage1 x.d x.k) c).1.map (·.1) = encodeSeq c syms := by
  induction syms generalizing c with
  | nil => rfl
  | cons s rest ih => simp [chain, encodeSeq, encode1, ih]

theorem chain_disps (syms : List Sym) (c : Bool) :
    (chain (syms.map fun x => stage1 x.d x.k) c).1.map (·.2) = dispSeq c syms := by
  induction syms generalizing c with
  | nil => rfl
  | cons s rest ih => simp [chain, dispSeq, encode1, ih]

theorem chain_final (syms : List Sym) (c : Bool) :
    (chain (syms.map fun x => stage1 x.d x.k) c).2 = dispAfter c syms := by
  induction syms generalizing c with
  | nil => rfl
  | cons s rest ih => simp [chain, dispAfter, encode1, ih]

/-- State after the given groups of symbols were presented at successive enabled clock edges. -/
def encRun (lsb : Bool) (n : Nat) (hist : List (List Sym)) : EncState :=
  hist.foldl (encStep lsb) (EncState.init n)

/-- The symbol groups presented at the enabled (`ce = 1`) edges of an input sequence. -/
def enabledGroups (ins : List (Bool × List Sym)) : List (List Sym) := (ins.filter (·.1)).map (·.2)

theorem encoder_runFrom (n : Nat) (lsb : Bool) (ins : List (Bool × List Sym)) (s : EncState) :
    (encoder n lsb).runFrom s ins = (enabledGroups ins).foldl (encStep lsb) s := by
  induction ins generalizing s with
  | nil => rfl
  | cons i is ih =>
    obtain ⟨ce, g⟩ := i
    cases ce <;> simp [Machine.runFrom, encoder, enabledGroups] <;> exact ih _

theorem encRun_concat (lsb : Bool) (n : Nat) (hist : List (List Sym)) (g : List Sym) :
    encRun lsb n (hist ++ [g]) = encStep lsb (encRun lsb n hist) g := by
  simp [encRun, List.foldl_append]

theorem foldl_last (lsb : Bool) (hist : List (List Sym)) (g : List Sym) (s0 : EncState) (c1 : Bool)
    (h : (chain s0.st1 s0.disp).2 = c1) :
    ((hist ++ [g]).foldl (encStep lsb) s0).st1 = g.map (fun x => stage1 x.d x.k) ∧
    ((hist ++ [g]).foldl (encStep lsb) s0).disp = dispAfter c1 hist.flatten := by
  induction hist generalizing s0 c1 with
  | nil => simpa [encStep, dispAfter] using h
  | cons h0 rest ih =>
    have := ih (encStep lsb s0 h0) (dispAfter c1 h0) (by simp [encStep, chain_final, h])
    simpa [dispAfter_append] using this

theorem encRun_two (lsb : Bool) (n : Nat) (pre : List (List Sym)) (g last : List Sym) :
    (encRun lsb n (pre ++ [g, last])).outs = (encodeSeq (dispAfter false pre.flatten) g).map (fmt lsb) ∧
    (encRun lsb n (pre ++ [g, last])).disps = dispSeq (dispAfter false pre.flatten) g ∧
    (encRun lsb n (pre ++ [g, last])).disp = dispAfter false (pre.flatten ++ g) ∧
    (encRun lsb n (pre ++ [g, last])).st1 = last.map (fun x => stage1 x.d x.k) := by
  -- after `pre ++ [g]`: stage 1 holds `g`, the disparity register the running disparity after `pre`
  obtain ⟨h1, h2⟩ := foldl_last lsb pre g (EncState.init n) false (by simp [EncState.init, chain_reset])
  rw [← encRun] at h1 h2
  have : pre ++ [g, last] = (pre ++ [g]) ++ [last] := by simp
  rw [this, encRun_concat]
  simp only [encStep, h1, h2, chain_final, dispAfter_append, and_true]
  refine ⟨?_, chain_disps g _⟩
  rw [← chain_words g, List.map_map]
  rfl

theorem exists_two_last {α : Type} : ∀ (l : List α), 2 ≤ l.length → ∃ pre g last, l = pre ++ [g, last]
  | [], h => by simp at h
  | [_], h => by simp at h
  | [a, b], _ => ⟨[], a, b, rfl⟩
  | a :: b :: c :: rest, _ => by
    obtain ⟨pre, g, last, h⟩ := exists_two_last (b :: c :: rest) (by simp)
    exact ⟨a :: pre, g, last, by rw [h]; rfl⟩

/-- The last input presented at an enabled edge, if any. -/
def lastEnabled (ins : List (Bool × Nat)) : Option Nat := ((ins.filter (·.1)).map (·.2)).getLast?

theorem decoder_runFrom (lsb : Bool) (ins : List (Bool × Nat)) (s : DecState) :
    (decoder lsb).runFrom s ins = match lastEnabled ins with
      | some w => decStep lsb w
      | none => s := by
  induction ins generalizing s with
  | nil => rfl
  | cons i is ih =>
    obtain ⟨ce, w⟩ := i
    rw [Machine.runFrom, ih]
    cases ce
    · simp [decoder, lastEnabled]
    · simp only [decoder, lastEnabled, List.filter_cons_of_pos, List.map_cons, ite_true, List.getLast?_cons]
      cases (List.map (fun x => x.2) (List.filter (fun x => x.1) is)).getLast? <;> rfl

/-- A symbol sequence as a history of one-symbol groups (the inputs of `Encoder(1)` at successive enabled edges). -/
def singles (l : List Sym) : List (List Sym) := l.map fun s => [s]

theorem singles_flatten (l : List Sym) : (singles l).flatten = l := by
  induction l with
  | nil => rfl
  | cons s rest ih => simp [singles] at ih ⊢; exact ih

/-- What `Encoder(1, lsb)` shows for each symbol of `g` in turn (the edge after the symbol went through stage 1),
    after the symbols `pre` were presented from reset: `(output[0], disparity[0])` per symbol. -/
def iterSingle (lsb : Bool) : List Sym → List Sym → List (Nat × Bool)
  | _, [] => []
  | pre, s :: rest =>
    ((encRun lsb 1 (singles pre ++ [[s], [s]])).outs.zip (encRun lsb 1 (singles pre ++ [[s], [s]])).disps) ++
      iterSingle lsb (pre ++ [s]) rest

theorem iterSingle_eq (lsb : Bool) (g pre : List Sym) :
    iterSingle lsb pre g =
      ((encodeSeq (dispAfter false pre) g).map (fmt lsb)).zip (dispSeq (dispAfter false pre) g) := by
  induction g generalizing pre with
  | nil => rfl
  | cons s rest ih =>
    obtain ⟨h1, h2, _, _⟩ := encRun_two lsb 1 (singles pre) [s] [s]
    rw [iterSingle, h1, h2, ih, singles_flatten, dispAfter_append]
    simp [encodeSeq, dispSeq, dispAfter]

/-- `i.ready || !s.v1` is `pipe_ce`; at 0 the output stage is full and the consumer not ready. -/
theorem pipe1_stall {α β δ : Type} (D : Datapath α β δ) (s : P1State δ) (i : In α)
    (h : (i.ready || !s.v1) = false) :
    (pipe1 D).step s i = s ∧ (pipe1 D).accNow s i = [] ∧ (pipe1 D).delNow s i = [] := by
  refine ⟨if_neg (by simp [h]), ?_, ?_⟩
  · simp [pipe1, Elem.accNow, Elem.out, h]
  · simp only [Bool.or_eq_false_iff] at h
    simp [pipe1, Elem.delNow, Elem.out, h.1]

theorem pipe1_move {α β δ : Type} (D : Datapath α β δ) (s : P1State δ) (i : In α)
    (h : (i.ready || !s.v1) = true) :
    (pipe1 D).step s i = { v1 := i.valid, f1 := i.valid && i.tok.first, l1 := i.valid && i.tok.last,
                           dp := D.next s.dp i.tok.data } ∧
    (pipe1 D).accNow s i = (if i.valid then [i.tok] else []) ∧
    (pipe1 D).delNow s i = if s.v1 then [{ data := D.out s.dp, first := s.f1, last := s.l1 }] else [] := by
  refine ⟨if_pos h, by simp [pipe1, Elem.accNow, Elem.out, h], ?_⟩
  cases h1 : s.v1
  · simp [pipe1, Elem.delNow, Elem.out, h1]
  · simp only [h1, Bool.not_true, Bool.or_false] at h
    simp [pipe1, Elem.delNow, Elem.out, h1, h]

theorem pipe2_stall {α β δ : Type} (D : Datapath α β δ) (s : P2State δ) (i : In α)
    (h : (i.ready || !s.v2) = false) :
    (pipe2 D).step s i = s ∧ (pipe2 D).accNow s i = [] ∧ (pipe2 D).delNow s i = [] := by
  refine ⟨if_neg (by simp [h]), ?_, ?_⟩
  · simp [pipe2, Elem.accNow, Elem.out, h]
  · simp only [Bool.or_eq_false_iff] at h
    simp [pipe2, Elem.delNow, Elem.out, h.1]

theorem pipe2_move {α β δ : Type} (D : Datapath α β δ) (s : P2State δ) (i : In α)
    (h : (i.ready || !s.v2) = true) :
    (pipe2 D).step s i = { v1 := i.valid, v2 := s.v1, f1 := i.valid && i.tok.first, f2 := s.f1,
                           l1 := i.valid && i.tok.last, l2 := s.l1, dp := D.next s.dp i.tok.data } ∧
    (pipe2 D).accNow s i = (if i.valid then [i.tok] else []) ∧
    (pipe2 D).delNow s i = if s.v2 then [{ data := D.out s.dp, first := s.f2, last := s.l2 }] else [] := by
  refine ⟨if_pos h, by simp [pipe2, Elem.accNow, Elem.out, h], ?_⟩
  cases h2 : s.v2
  · simp [pipe2, Elem.delNow, Elem.out, h2]
  · simp only [h2, Bool.not_true, Bool.or_false] at h
    simp [pipe2, Elem.delNow, Elem.out, h2, h]

/-- A per-cycle hypothesis holds in every cycle of the run of `ins` from `s`. -/
def AllAlong {α β σ : Type} (e : Elem α β σ) (H : σ → In α → Prop) : σ → List (In α) → Prop
  | _, [] => True
  | s, i :: is => H s i ∧ AllAlong e H (e.step s i) is

theorem rel_run_along {α β σ : Type} (e : Elem α β σ) (R : σ → List (Tok α) → List (Tok β) → Prop)
    (H : σ → In α → Prop)
    (hstep : ∀ s a d i, H s i → R s a d → R (e.step s i) (a ++ e.accNow s i) (d ++ e.delNow s i)) :
    ∀ (ins : List (In α)) (s : σ) (a : List (Tok α)) (d : List (Tok β)), R s a d → AllAlong e H s ins →
      R (e.runFrom s ins) (a ++ e.accepted s ins) (d ++ e.delivered s ins) := by
  intro ins
  induction ins with
  | nil => intro s a d h _; simpa [accepted, delivered] using h
  | cons i is ih =>
    intro s a d h hall
    have := ih (e.step s i) _ _ (hstep s a d i hall.1 h) hall.2
    simpa [accepted, delivered, List.append_assoc] using this

/-- "Every enabled cycle carries a valid token": whenever `pipe_ce` (= `sink.ready`) is 1, `sink.valid` is 1. -/
def NoBubbleAt {α β σ : Type} (e : Elem α β σ) (s : σ) (i : In α) : Prop :=
  (e.out s i).ready = true → i.valid = true

def NoBubble {α β σ : Type} (e : Elem α β σ) (ins : List (In α)) : Prop := AllAlong e (NoBubbleAt e) e.init ins

instance {α β σ : Type} (e : Elem α β σ) (s : σ) (i : In α) : Decidable (NoBubbleAt e s i) := by
  unfold NoBubbleAt; exact inferInstance

def AllAlong.dec {α β σ : Type} (e : Elem α β σ) (H : σ → In α → Prop) [∀ s i, Decidable (H s i)] :
    ∀ s ins, Decidable (AllAlong e H s ins)
  | _, [] => isTrue trivial
  | s, i :: is =>
    match (inferInstance : Decidable (H s i)), AllAlong.dec e H (e.step s i) is with
    | isTrue h1, isTrue h2 => isTrue ⟨h1, h2⟩
    | isFalse h1, _ => isFalse fun h => h1 h.1
    | _, isFalse h2 => isFalse fun h => h2 h.2

instance {α β σ : Type} (e : Elem α β σ) (ins : List (In α)) : Decidable (NoBubble e ins) :=
  AllAlong.dec e (NoBubbleAt e) e.init ins

end Litex.Code8b10b
