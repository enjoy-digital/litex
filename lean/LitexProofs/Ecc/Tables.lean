import LitexProofs.Ecc.TablesClosed
import LitexModel.Generated.EccTables
/-
  The matrices of the model against the tables regenerated from the REAL `ECCEncoder` / `ECCDecoder` netlists:
  the closed forms of `TablesClosed.lean` (theorems for every `k`) are compared with the tables by the kernel, the
  decoder matrices for EVERY width in the table (1..16, 32, 64, 128), the generator matrix and the encoder's answer to
  the zero word for the widths 1..16.  A change of ecc.py alters `Generated/EccTables.lean` and breaks
  `closed_tables_check` or `encRows_check`.
-/
namespace Litex.Ecc

def smallWidths : List Nat := List.range' 1 16

def bigWidths : List Nat := [32, 64, 128]

theorem tables_widths : Tables.widths = smallWidths ++ bigWidths := by decide +kernel

theorem widths_pos : ∀ k ∈ smallWidths ++ bigWidths, 1 ≤ k := by decide

theorem encRows_check : ∀ k ∈ smallWidths,
    Tables.encRows k = ((List.range k).map fun b => bitsToNat (rowWord k b)) ∧ encVal k 0 = Tables.encZero k := by
  decide +kernel

theorem small_encRows : ∀ k ∈ smallWidths, mEncRows k = Tables.encRows k ∧ encVal k 0 = Tables.encZero k :=
  fun k hk => ⟨by rw [mEncRows_closed k (widths_pos k (List.mem_append_left _ hk)), (encRows_check k hk).1],
    (encRows_check k hk).2⟩

theorem closed_tables_check : ∀ k ∈ smallWidths ++ bigWidths,
    Tables.codeLen k = computeN k + 1 ∧
    Tables.decSingle k = ((List.range (computeN k + 1)).map fun j => if j = 0 then 0 else 2) ∧
    Tables.synCols k = List.range (computeN k + 1) ∧
    Tables.flipCols k = ((List.range (computeN k + 1)).map fun j => if j = 0 then 0 else 2 ^ j) ∧
    Tables.decPass k = (List.range (computeN k + 1)).map (passRow (dataPositions (computeN k))) ∧
    Tables.encZero k = 0 ∧ Tables.decPassZero k = 0 ∧ Tables.decClean k = 0 := by
  decide +kernel

theorem decoder_tables_match : ∀ k ∈ Tables.widths,
    mDecSingle k = Tables.decSingle k ∧ mSynCols k = Tables.synCols k ∧ mFlipCols k = Tables.flipCols k ∧
    mDecPass k = Tables.decPass k := by
  intro k hk
  rw [tables_widths] at hk
  have hk1 := widths_pos k hk
  obtain ⟨_, h1, h2, h3, h4, _⟩ := closed_tables_check k hk
  exact ⟨by rw [mDecSingle_closed k hk1, h1], by rw [mSynCols_closed k hk1, h2],
    by rw [mFlipCols_closed k hk1, h3], by rw [mDecPass_closed k, h4]⟩

theorem small_widths {k : Nat} (hk : k ∈ smallWidths) : k ∈ Tables.widths := by
  rw [tables_widths]
  exact List.mem_append_left _ hk

/-! The comparison of `decoder_tables_match` table by table for the widths 1..16, with the decoder's answer to the
    zero word.  Nothing rests on these four statements. -/

theorem small_decPass : ∀ k ∈ smallWidths, mDecPass k = Tables.decPass k ∧ pack (decVal k false 0) = Tables.decPassZero k := by
  intro k hk
  obtain ⟨_, _, _, _, _, _, hz, _⟩ := closed_tables_check k (List.mem_append_left _ hk)
  exact ⟨(decoder_tables_match k (small_widths hk)).2.2.2, by rw [hz, decPassZero_closed]⟩

theorem small_decSingle : ∀ k ∈ smallWidths,
    mDecSingle k = Tables.decSingle k ∧ pack (decVal k true (encVal k 0)) = Tables.decClean k := by
  intro k hk
  have hw := List.mem_append_left bigWidths hk
  obtain ⟨_, _, _, _, _, _, _, hz⟩ := closed_tables_check k hw
  exact ⟨(decoder_tables_match k (small_widths hk)).1, by rw [hz, decClean_closed k (widths_pos k hw)]⟩

theorem small_synCols : ∀ k ∈ smallWidths, mSynCols k = Tables.synCols k := by
  intro k hk
  exact (decoder_tables_match k (small_widths hk)).2.1

theorem small_flipCols : ∀ k ∈ smallWidths, mFlipCols k = Tables.flipCols k := by
  intro k hk
  exact (decoder_tables_match k (small_widths hk)).2.2.1

end Litex.Ecc
