import LitexModel.Ecc.Geometry
/-
  Geometry of the SECDED code: the Python loops of `ecc.py` (modelled with fuel in
  `LitexModel/Ecc/Geometry.lean`) never run out of fuel and equal their closed forms, for every `k` / `n`.
-/
namespace Litex.Ecc

/-! ### `compute_m_n` -/

theorem two_mul_le_two_pow (m : Nat) (h : 1 ≤ m) : 2 * m ≤ 2 ^ m := by
  obtain ⟨a, rfl⟩ : ∃ a, m = a + 1 := ⟨m - 1, by omega⟩
  have := @Nat.lt_two_pow_self a
  rw [Nat.pow_succ]; omega

/-- The loop from `m` with `fuel` iterations left: `k + 2 ≤ m + fuel` is enough fuel (at `m = k + 2` the test fails,
    `two_mul_le_two_pow`), and the invariant says that every smaller `m'` failed the exit test. -/
theorem computeMLoop_spec (k : Nat) : ∀ fuel m, 1 ≤ m → k + 2 ≤ m + fuel →
    (∀ m', 1 ≤ m' → m' < m → 2 ^ m' < m' + k + 1) →
    m ≤ computeMLoop k fuel m ∧ computeMLoop k fuel m + k + 1 ≤ 2 ^ computeMLoop k fuel m ∧
      ∀ m', 1 ≤ m' → m' < computeMLoop k fuel m → 2 ^ m' < m' + k + 1 := by
  intro fuel
  induction fuel with
  | zero =>
    intro m hm hf hinv
    simp only [computeMLoop]
    refine ⟨Nat.le_refl _, ?_, hinv⟩
    have := two_mul_le_two_pow m hm
    omega
  | succ fuel ih =>
    intro m hm hf hinv
    simp only [computeMLoop]
    split
    · next hlt =>
      have := ih (m + 1) (by omega) (by omega) (by
        intro m' h1 h2
        by_cases h : m' = m
        · subst h; exact hlt
        · exact hinv m' h1 (by omega))
      exact ⟨by omega, this.2⟩
    · next hge => exact ⟨Nat.le_refl _, by omega, hinv⟩

theorem computeM_spec (k : Nat) :
    1 ≤ computeM k ∧ computeM k + k + 1 ≤ 2 ^ computeM k ∧
      ∀ m', 1 ≤ m' → m' < computeM k → 2 ^ m' < m' + k + 1 := by
  have := computeMLoop_spec k (k + 1) 1 (Nat.le_refl _) (by omega) (by intro m' h1 h2; omega)
  exact this

theorem computeN_lt (k : Nat) : computeN k < 2 ^ computeM k := by
  have := (computeM_spec k).2.1
  unfold computeN; omega

theorem two_le_computeM (k : Nat) (hk : 1 ≤ k) : 2 ≤ computeM k := by
  have h := computeM_spec k
  by_cases h1 : computeM k = 1
  · have := h.2.1; rw [h1] at this; omega
  · omega

theorem half_le_computeN (k : Nat) (hk : 1 ≤ k) : 2 ^ (computeM k - 1) ≤ computeN k := by
  have h := computeM_spec k
  have h2 := two_le_computeM k hk
  have := h.2.2 (computeM k - 1) (by omega) (by omega)
  unfold computeN; omega

/-! ### `compute_syndrome_positions` -/

/-- The loop at `i = 2 ^ a` with `c` powers of two still to come (`2 ^ (a + j) ≤ n` for `j < c`, the next one beyond
    `n`) and fuel for them. -/
theorem synLoop_eq (n : Nat) : ∀ c fuel a, c ≤ fuel → (∀ j, j < c → 2 ^ (a + j) ≤ n) → n < 2 ^ (a + c) →
    synLoop n fuel (2 ^ a) = (List.range' a c).map (2 ^ ·) := by
  intro c
  induction c with
  | zero =>
    intro fuel a _ _ hn
    cases fuel with
    | zero => simp [synLoop]
    | succ f =>
      have : ¬ 2 ^ a ≤ n := by simpa using hn
      simp [synLoop, this]
  | succ c ih =>
    intro fuel a hf hle hn
    cases fuel with
    | zero => omega
    | succ f =>
      have h0 : 2 ^ a ≤ n := by simpa using hle 0 (by omega)
      have hs : 2 ^ a <<< 1 = 2 ^ (a + 1) := by simp [Nat.shiftLeft_eq, Nat.pow_succ]
      simp only [synLoop, h0, if_true, hs, List.range'_succ, List.map_cons]
      congr 1
      apply ih f (a + 1) (by omega)
      · intro j hj
        have := hle (j + 1) (by omega)
        rwa [show a + 1 + j = a + (j + 1) by omega]
      · rwa [show a + 1 + c = a + (c + 1) by omega]

/-- `L` = number of powers of two `≤ n`. -/
theorem syndromePositions_eq (n L : Nat) (h1 : ∀ j, j < L → 2 ^ j ≤ n) (h2 : n < 2 ^ L) :
    syndromePositions n = (List.range L).map (2 ^ ·) := by
  have hL : L ≤ n + 1 := by
    cases L with
    | zero => omega
    | succ l =>
      have := h1 l (by omega)
      have := @Nat.lt_two_pow_self l
      omega
  have := synLoop_eq n L (n + 1) 0 hL (by simpa using h1) (by simpa using h2)
  simpa [syndromePositions, List.range_eq_range'] using this

/-- Number of powers of two `≤ n`. -/
def numCheck (n : Nat) : Nat := if n = 0 then 0 else n.log2 + 1

theorem numCheck_spec (n : Nat) : (∀ j, j < numCheck n → 2 ^ j ≤ n) ∧ n < 2 ^ numCheck n := by
  unfold numCheck
  split
  · next h => subst h; simp
  · next h =>
    refine ⟨fun j hj => ?_, (Nat.log2_lt h).1 (by omega)⟩
    have h1 : 2 ^ n.log2 ≤ n := Nat.log2_self_le h
    have h2 : 2 ^ j ≤ 2 ^ n.log2 := Nat.pow_le_pow_right (by omega) (by omega)
    omega

theorem syndromePositions_closed (n : Nat) : syndromePositions n = (List.range (numCheck n)).map (2 ^ ·) :=
  syndromePositions_eq n _ (numCheck_spec n).1 (numCheck_spec n).2

theorem numCheck_unique (n L : Nat) (h1 : ∀ j, j < L → 2 ^ j ≤ n) (h2 : n < 2 ^ L) : numCheck n = L := by
  have a := syndromePositions_eq n L h1 h2
  have b := syndromePositions_closed n
  have := congrArg List.length (a.symm.trans b)
  simpa using this.symm

theorem numCheck_computeN (k : Nat) (hk : 1 ≤ k) : numCheck (computeN k) = computeM k := by
  apply numCheck_unique
  · intro j hj
    have h1 := half_le_computeN k hk
    have h2 : 2 ^ j ≤ 2 ^ (computeM k - 1) := Nat.pow_le_pow_right (by omega) (by omega)
    omega
  · exact computeN_lt k

theorem syndromePositions_length (n : Nat) : (syndromePositions n).length = numCheck n := by
  simp [syndromePositions_closed]

theorem mem_syndromePositions {n q : Nat} : q ∈ syndromePositions n ↔ q ≤ n ∧ ∃ j, q = 2 ^ j := by
  rw [syndromePositions_closed]
  simp only [List.mem_map, List.mem_range]
  constructor
  · rintro ⟨j, hj, rfl⟩
    exact ⟨(numCheck_spec n).1 j hj, j, rfl⟩
  · rintro ⟨hq, j, rfl⟩
    refine ⟨j, ?_, rfl⟩
    have := (numCheck_spec n).2
    exact (Nat.pow_lt_pow_iff_right (by omega : 1 < 2)).1 (by omega)

theorem syndromePositions_getElem? (n i : Nat) (hi : i < numCheck n) : (syndromePositions n)[i]? = some (2 ^ i) := by
  rw [syndromePositions_closed]
  simp [hi]

theorem syndromePositions_nodup (n : Nat) : (syndromePositions n).Nodup := by
  rw [syndromePositions_closed]
  refine List.pairwise_map.2 (List.nodup_range.imp ?_)
  intro a b hab h
  exact hab ((Nat.pow_right_inj (by omega : 1 < 2)).1 h)

/-! ### `compute_data_positions` -/

theorem mem_dataPositions {n q : Nat} : q ∈ dataPositions n ↔ 1 ≤ q ∧ q ≤ n ∧ ∀ j, q ≠ 2 ^ j := by
  unfold dataPositions
  simp only [List.mem_filter, List.mem_range'_1, Bool.not_eq_true', ← Bool.not_eq_true,
    List.contains_iff_mem, mem_syndromePositions]
  constructor
  · rintro ⟨⟨h1, h2⟩, h3⟩
    refine ⟨h1, by omega, fun j hj => h3 ⟨by omega, j, hj⟩⟩
  · rintro ⟨h1, h2, h3⟩
    exact ⟨⟨h1, by omega⟩, fun ⟨_, j, hj⟩ => h3 j hj⟩

theorem dataPositions_sorted (n : Nat) : (dataPositions n).Pairwise (· < ·) :=
  List.Pairwise.filter _ (List.pairwise_lt_range' 1)

theorem dataPositions_nodup (n : Nat) : (dataPositions n).Nodup :=
  (dataPositions_sorted n).imp (fun h => Nat.ne_of_lt h)

theorem dataPositions_length (n : Nat) : (dataPositions n).length = n - numCheck n := by
  have hsplit := List.length_eq_countP_add_countP (fun i => (syndromePositions n).contains i) (l := List.range' 1 n)
  rw [List.countP_eq_length_filter, List.countP_eq_length_filter] at hsplit
  have hperm : ((List.range' 1 n).filter fun i => (syndromePositions n).contains i).Perm (syndromePositions n) := by
    rw [List.perm_ext_iff_of_nodup ((List.nodup_range' 1).filter _) (syndromePositions_nodup n)]
    intro a
    simp only [List.mem_filter, List.mem_range'_1, List.contains_iff_mem]
    constructor
    · exact fun h => h.2
    · intro h
      have := mem_syndromePositions.1 h
      obtain ⟨h1, j, rfl⟩ := this
      have : 0 < 2 ^ j := Nat.two_pow_pos j
      exact ⟨⟨by omega, by omega⟩, h⟩
  have hlen := hperm.length_eq
  rw [syndromePositions_length] at hlen
  have hd : (dataPositions n).length =
      ((List.range' 1 n).filter fun a => decide ¬(syndromePositions n).contains a = true).length := by
    unfold dataPositions
    congr 1
    apply List.filter_congr
    intro a _
    cases (syndromePositions n).contains a <;> simp
  simp only [List.length_range'] at hsplit
  omega

theorem dataPositions_length_computeN (k : Nat) (hk : 1 ≤ k) : (dataPositions (computeN k)).length = k := by
  rw [dataPositions_length, numCheck_computeN k hk]
  unfold computeN; omega

/-! ### `compute_cover_positions` -/

theorem testBit_block_true (b q j : Nat) (hj : j < 2 ^ b) : (2 ^ b * (2 * q + 1) + j).testBit b = true := by
  rw [Nat.testBit_eq_decide_div_mod_eq, Nat.add_comm, Nat.add_mul_div_left _ _ (Nat.two_pow_pos b),
    Nat.div_eq_of_lt hj]
  simp

theorem testBit_block_false (b q j : Nat) (hj : j < 2 ^ b) : (2 ^ b * (2 * q + 2) + j).testBit b = false := by
  rw [Nat.testBit_eq_decide_div_mod_eq, Nat.add_comm, Nat.add_mul_div_left _ _ (Nat.two_pow_pos b),
    Nat.div_eq_of_lt hj]
  simp

/-- Either part may be empty. -/
theorem range'_split (s L p : Nat) : List.range' s L = List.range' s (min p L) ++ List.range' (s + p) (L - p) := by
  by_cases h : L ≤ p
  · rw [Nat.min_eq_right h, Nat.sub_eq_zero_of_le h, List.range'_zero, List.append_nil]
  · rw [Nat.min_eq_left (by omega), List.range'_append_1, show p + (L - p) = L by omega]

/-- The loop at the start `2 ^ b * (2 * q + 1)` of the `q`-th covered block, with fuel to reach `n`: what it lists is
    the rest of `1..n` filtered by bit `b`. -/
theorem coverLoop_eq (n b : Nat) : ∀ fuel q, n + 1 ≤ 2 ^ b * (2 * q + 1) + fuel →
    coverLoop n (2 ^ b) fuel (2 ^ b * (2 * q + 1)) =
      (List.range' (2 ^ b * (2 * q + 1)) (n + 1 - 2 ^ b * (2 * q + 1))).filter (·.testBit b) := by
  intro fuel
  induction fuel with
  | zero =>
    intro q h
    have : n + 1 - 2 ^ b * (2 * q + 1) = 0 := by omega
    simp [coverLoop, this]
  | succ fuel ih =>
    intro q h
    have hP : 0 < 2 ^ b := Nat.two_pow_pos b
    have hnext : 2 ^ b * (2 * (q + 1) + 1) = 2 ^ b * (2 * q + 1) + 2 ^ b + 2 ^ b := by
      rw [Nat.mul_add, Nat.mul_add, Nat.mul_add, Nat.mul_add]; omega
    have h2 : 2 ^ b * (2 * q + 2) = 2 ^ b * (2 * q + 1) + 2 ^ b := by rw [Nat.mul_add, Nat.mul_add]; omega
    -- the positions from `s` on: a covered block (bit `b` set), an uncovered block (bit `b` clear), the rest
    rw [range'_split _ _ (2 ^ b), range'_split (_ + 2 ^ b) _ (2 ^ b), List.filter_append, List.filter_append,
      List.filter_eq_self.2, List.filter_eq_nil_iff.2, List.nil_append, ← hnext]
    · generalize hs : 2 ^ b * (2 * q + 1) = s at *
      simp only [coverLoop]
      split
      · rw [show s + 2 * 2 ^ b = 2 ^ b * (2 * (q + 1) + 1) by omega, ih (q + 1) (by omega), List.range_eq_range',
          List.map_add_range', Nat.add_zero]
        congr 3 <;> omega
      · simp [show n + 1 - s = 0 by omega]
    · intro a ha
      rw [List.mem_range'_1, ← h2] at ha
      rw [show a = 2 ^ b * (2 * q + 2) + (a - 2 ^ b * (2 * q + 2)) by omega, testBit_block_false b q _ (by omega)]
      simp
    · intro a ha
      rw [List.mem_range'_1] at ha
      rw [show a = 2 ^ b * (2 * q + 1) + (a - 2 ^ b * (2 * q + 1)) by omega]
      exact testBit_block_true b q _ (by omega)
theorem cover_eq_filter (n b : Nat) :
    coverPositions n (2 ^ b) = (List.range' 1 n).filter (·.testBit b) := by
  have h := coverLoop_eq n b (n + 1) 0 (by omega)
  simp only [Nat.mul_zero, Nat.zero_add, Nat.mul_one] at h
  have hP : 0 < 2 ^ b := Nat.two_pow_pos b
  -- positions 1 .. 2^b - 1 have bit b clear
  have e : (List.range' 1 (min (2 ^ b - 1) n)).filter (·.testBit b) = [] := List.filter_eq_nil_iff.2 fun a ha => by
    rw [List.mem_range'_1] at ha
    rw [Nat.testBit_lt_two_pow (by omega)]
    simp
  rw [coverPositions, h, range'_split 1 n (2 ^ b - 1), List.filter_append, e, List.nil_append]
  congr 2 <;> omega

theorem mem_cover {n b c : Nat} : c ∈ coverPositions n (2 ^ b) ↔ 1 ≤ c ∧ c ≤ n ∧ c.testBit b = true := by
  rw [cover_eq_filter]
  simp only [List.mem_filter, List.mem_range'_1]
  constructor
  · rintro ⟨⟨h1, h2⟩, h3⟩; exact ⟨h1, by omega, h3⟩
  · rintro ⟨h1, h2, h3⟩; exact ⟨⟨h1, by omega⟩, h3⟩

theorem cover_nodup (n b : Nat) : (coverPositions n (2 ^ b)).Nodup := by
  rw [cover_eq_filter]
  exact (List.nodup_range' 1).filter _

end Litex.Ecc
