import LitexModel.Ecc.Matrix
import LitexProofs.Ecc.Multi
/-
  The model on signal VALUES (driver level) and the closed forms of its GF(2) matrices, for EVERY `k ≥ 1`.
-/
namespace Litex.Ecc

theorem natToBits_bitsToNat (w : Word) : natToBits w.length (bitsToNat w) = w := by
  apply List.ext_getElem?
  intro i
  unfold natToBits
  rw [List.getElem?_map]
  by_cases h : i < w.length
  · rw [List.getElem?_range h, Option.map_some, bitsToNat_testBit, List.getD_eq_getElem?_getD,
      List.getElem?_eq_getElem h]
    simp
  · rw [List.getElem?_eq_none_iff.2 (by simpa using h), List.getElem?_eq_none_iff.2 (by omega)]
    rfl

/-- `ECCDecoder.i = ECCEncoder.o ^ (1 << j)` on values is `flipAt` on the bit lists. -/
theorem decVal_flip1 (k : Nat) (x j : Nat) (hj : j ≤ computeN k) :
    natToBits (computeN k + 1) (encVal k x ^^^ 2 ^ j) = flipAt (encode k (natToBits k x)) j := by
  unfold encVal
  have hl := encode_length k (natToBits k x)
  rw [← bitsToNat_flipAt _ _ (by omega)]
  have := natToBits_bitsToNat (flipAt (encode k (natToBits k x)) j)
  rwa [flipAt_length, hl] at this

theorem decVal_flip2 (k : Nat) (x j1 j2 : Nat) (h1 : j1 ≤ computeN k) (h2 : j2 ≤ computeN k) :
    natToBits (computeN k + 1) (encVal k x ^^^ 2 ^ j1 ^^^ 2 ^ j2) =
      flipAt (flipAt (encode k (natToBits k x)) j1) j2 := by
  unfold encVal
  have hl := encode_length k (natToBits k x)
  rw [← bitsToNat_flipAt _ _ (by omega), ← bitsToNat_flipAt _ _ (by rw [flipAt_length]; omega)]
  have := natToBits_bitsToNat (flipAt (flipAt (encode k (natToBits k x)) j1) j2)
  rwa [flipAt_length, flipAt_length, hl] at this

theorem decVal_clean (k x : Nat) : natToBits (computeN k + 1) (encVal k x) = encode k (natToBits k x) := by
  unfold encVal
  have := natToBits_bitsToNat (encode k (natToBits k x))
  rwa [encode_length] at this

theorem bitsToNat_zeroWord (k : Nat) : bitsToNat (natToBits k 0) = 0 :=
  bitsToNat_natToBits k 0 (Nat.two_pow_pos k)

theorem synOf_flip (k : Nat) (hk : 1 ≤ k) (d : Word) (j : Nat) (hj : j ≤ computeN k) :
    synOf true (flipAt (encode k d) j) = j := by
  simpa [synOf, xorPos] using (decode_flips_flags k hk d [j] (by simpa using hj)).1

theorem flipMaskOf_flip (k : Nat) (hk : 1 ≤ k) (d : Word) (j : Nat) (hj : j ≤ computeN k) :
    flipMaskOf true (flipAt (encode k d) j) = if j = 0 then 0 else 2 ^ j := by
  unfold flipMaskOf
  simp only [synOf_flip k hk d j hj]
  cases j with
  | zero => simp
  | succ j =>
    have hlen : j < ((flipAt (encode k d) (j + 1)).drop 1).length := by
      rw [List.length_drop, flipAt_length, encode_length]; omega
    rw [if_neg (by omega), if_neg (by omega), Nat.add_sub_cancel, bitsToNat_flipAt _ _ hlen]
    rw [Nat.xor_comm, ← Nat.xor_assoc, Nat.xor_self, Nat.zero_xor, Nat.pow_succ, Nat.mul_comm]

theorem mDecSingle_closed (k : Nat) (hk : 1 ≤ k) :
    mDecSingle k = (List.range (computeN k + 1)).map fun j => if j = 0 then 0 else 2 := by
  unfold mDecSingle
  apply List.map_congr_left
  intro j hj
  have hj' : j ≤ computeN k := by have := List.mem_range.1 hj; omega
  unfold decVal
  rw [decVal_flip1 k 0 j hj', decode_flipAt_encode k hk _ (natToBits_length k 0) j hj']
  cases j <;> simp [pack, bitsToNat_zeroWord]

theorem decClean_closed (k : Nat) (hk : 1 ≤ k) : pack (decVal k true (encVal k 0)) = 0 := by
  unfold decVal
  rw [decVal_clean, decode_encode k hk _ (natToBits_length k 0)]
  simp [pack, bitsToNat_zeroWord]

theorem decPassZero_closed (k : Nat) : pack (decVal k false 0) = 0 := by
  unfold decVal
  rw [decode_false, natToBits_length, Nat.add_sub_cancel]
  have : ((dataPositions (computeN k)).map fun p => (natToBits (computeN k + 1) 0).getD p false) =
      (dataPositions (computeN k)).map fun _ => false := by
    apply List.map_congr_left
    intro p _
    unfold natToBits
    rw [getD_range_map]
    simp
  rw [pack, this, bitsToNat_map_false]
  rfl

theorem mSynCols_closed (k : Nat) (hk : 1 ≤ k) : mSynCols k = List.range (computeN k + 1) := by
  unfold mSynCols
  conv => rhs; rw [← List.map_id (List.range (computeN k + 1))]
  apply List.map_congr_left
  intro j hj
  have hj' : j ≤ computeN k := by have := List.mem_range.1 hj; omega
  unfold synVal
  rw [decVal_flip1 k 0 j hj', synOf_flip k hk _ j hj']
  rfl

theorem mFlipCols_closed (k : Nat) (hk : 1 ≤ k) :
    mFlipCols k = (List.range (computeN k + 1)).map fun j => if j = 0 then 0 else 2 ^ j := by
  unfold mFlipCols
  apply List.map_congr_left
  intro j hj
  have hj' : j ≤ computeN k := by have := List.mem_range.1 hj; omega
  unfold flipMaskVal
  rw [decVal_flip1 k 0 j hj', flipMaskOf_flip k hk _ j hj']

theorem bitsToNat_onehot (j : Nat) : ∀ (ps : List Nat), ps.Nodup →
    bitsToNat (ps.map fun p => decide (j = p)) = match ps.idxOf? j with | some i => 2 ^ i | none => 0
  | [], _ => rfl
  | p :: ps, hnd => by
    have ih := bitsToNat_onehot j ps (List.nodup_cons.mp hnd).2
    rw [List.map_cons, bitsToNat, ih, List.idxOf?_cons]
    by_cases h : p = j
    · subst h
      have : ps.idxOf? p = none := List.idxOf?_eq_none_iff.mpr (List.nodup_cons.mp hnd).1
      simp [this]
    · have h' : ¬ j = p := fun e => h e.symm
      simp only [h', decide_false, Bool.false_eq_true, if_false, beq_iff_eq, h]
      cases ps.idxOf? j <;> simp [Nat.pow_succ, Nat.mul_comm]

/-- Row `j` of the extraction matrix for the data positions `ps`: output bit `i` (as `4 * 2^i`: `o` sits above the two
    flags in `pack`) iff `j` is the `i`-th data position. -/
def passRow (ps : List Nat) (j : Nat) : Nat :=
  match ps.idxOf? j with
  | some i => 4 * 2 ^ i
  | none => 0

theorem mDecPass_closed (k : Nat) :
    mDecPass k = (List.range (computeN k + 1)).map (passRow (dataPositions (computeN k))) := by
  unfold mDecPass
  apply List.map_congr_left
  intro j hj
  unfold decVal
  rw [decode_false, natToBits_length]
  simp only [pack, Bool.false_eq_true, if_false, Nat.add_zero, Nat.add_sub_cancel]
  have : ((dataPositions (computeN k)).map fun p => (natToBits (computeN k + 1) (2 ^ j)).getD p false) =
      (dataPositions (computeN k)).map fun p => decide (j = p) := by
    apply List.map_congr_left
    intro p hp
    have hp' := (dataPositions_bounds _ p hp).2
    unfold natToBits
    rw [getD_range_map, if_pos (by omega), Nat.testBit_two_pow]
  rw [this, bitsToNat_onehot j _ (dataPositions_nodup _), passRow]
  cases (dataPositions (computeN k)).idxOf? j <;> rfl

theorem bitAt_placeData_unit (k b p c : Nat) (hk : 1 ≤ k) (hp : (dataPositions (computeN k))[b]? = some p)
    (hc : 1 ≤ c) : bitAt (placeData (natToBits k (2 ^ b)) (computeN k)) c = decide (c = p) := by
  by_cases hm : c ∈ dataPositions (computeN k)
  · obtain ⟨i, hi⟩ := List.getElem?_of_mem hm
    have hik : i < k := by
      have := (List.getElem?_eq_some_iff.1 hi).1
      rwa [dataPositions_length_computeN k hk] at this
    rw [bitAt_placeData_data _ _ i c hi, natToBits, getD_range_map, if_pos hik, Nat.testBit_two_pow]
    congr 1
    apply propext
    constructor
    · rintro rfl; exact Option.some.inj (hi.symm.trans hp)
    · rintro rfl
      exact (List.getElem?_inj (List.getElem?_eq_some_iff.1 hp).1 (dataPositions_nodup _)).1 (hp.trans hi.symm)
  · rw [bitAt_placeData_other _ _ _ hc hm]
    exact (decide_eq_false fun h : c = p => hm (h ▸ List.mem_of_getElem? hp)).symm

theorem synBit_placeData_unit (k b p i : Nat) (hk : 1 ≤ k) (hp : (dataPositions (computeN k))[b]? = some p) :
    synBit (placeData (natToBits k (2 ^ b)) (computeN k)) i = p.testBit i := by
  have hb := dataPositions_bounds _ p (List.mem_of_getElem? hp)
  rw [synBit, placeData_length, xorFold_eq_xsum,
    xsum_congr (g := fun c => decide (c = p) && true) fun c hc => by
      rw [bitAt_placeData_unit k b p c hk hp (mem_cover.1 hc).1, Bool.and_true],
    xsum_single _ _ _ (cover_nodup _ _), Bool.and_true]
  rw [Bool.eq_iff_iff, decide_eq_true_eq, mem_cover]
  exact ⟨fun h => h.2.2, fun h => ⟨hb.1, hb.2, h⟩⟩

/-- Bit `c` of the code word of a unit vector whose data bit sits at position `p`: the data bit itself, and the
    check bits `2^i` for the binary digits `i` of `p`. -/
def rowBit (m p c : Nat) : Bool := c == p || (List.range m).any fun i => c == 2 ^ i && p.testBit i

theorem bitAt_codeword_unit (k b p c : Nat) (hk : 1 ≤ k) (hp : (dataPositions (computeN k))[b]? = some p)
    (hc1 : 1 ≤ c) (hcn : c ≤ computeN k) :
    bitAt (codeword k (natToBits k (2 ^ b))) c = rowBit (computeM k) p c := by
  have hpd := (mem_dataPositions.1 (List.mem_of_getElem? hp)).2.2
  unfold rowBit
  by_cases h : ∃ i, c = 2 ^ i
  · obtain ⟨i, rfl⟩ := h
    have hi : i < numCheck (computeN k) :=
      (Nat.pow_lt_pow_iff_right (by decide : 1 < 2)).1 (Nat.lt_of_le_of_lt hcn (numCheck_spec _).2)
    rw [bitAt_codeword_check k _ i hi, synBit_placeData_unit k b p i hk hp, beq_false_of_ne (hpd i).symm,
      Bool.false_or, Bool.eq_iff_iff, List.any_eq_true, ← numCheck_computeN k hk]
    constructor
    · exact fun h => ⟨i, List.mem_range.2 hi, by simp [h]⟩
    · rintro ⟨j, _, hj⟩
      rw [Bool.and_eq_true, beq_iff_eq] at hj
      rw [(Nat.pow_right_inj (by decide : 1 < 2)).1 hj.1]
      exact hj.2
  · rw [bitAt_codeword_other k _ c hc1 fun j hj => h ⟨j, hj⟩, bitAt_placeData_unit k b p c hk hp hc1]
    have : ((List.range (computeM k)).any fun i => c == 2 ^ i && p.testBit i) = false := by
      rw [List.any_eq_false]
      intro i _ hi
      rw [Bool.and_eq_true, beq_iff_eq] at hi
      exact h ⟨i, hi.1⟩
    rw [this, Bool.or_false]
    rfl

/-- The encoder's word for the unit vector `1 <<< b`. -/
def rowWord (k b : Nat) : Word :=
  let cw := (List.range (computeN k)).map fun j =>
    rowBit (computeM k) ((dataPositions (computeN k)).getD b 0) (j + 1)
  xorAll cw :: cw

theorem encode_unit (k b : Nat) (hk : 1 ≤ k) (hb : b < k) : encode k (natToBits k (2 ^ b)) = rowWord k b := by
  have hp : (dataPositions (computeN k))[b]? = some ((dataPositions (computeN k)).getD b 0) := by
    rw [List.getD_eq_getElem?_getD, List.getElem?_eq_getElem (by rw [dataPositions_length_computeN k hk]; exact hb)]
    rfl
  have hcw : codeword k (natToBits k (2 ^ b)) = (List.range (computeN k)).map fun j =>
      rowBit (computeM k) ((dataPositions (computeN k)).getD b 0) (j + 1) := by
    apply List.ext_getElem (by rw [codeword_length, List.length_map, List.length_range])
    intro j h1 _
    rw [codeword_length] at h1
    rw [List.getElem_map, List.getElem_range, ← bitAt_codeword_unit k b _ (j + 1) hk hp (by omega) (by omega), bitAt,
      Nat.add_sub_cancel, List.getD_eq_getElem?_getD, List.getElem?_eq_getElem, Option.getD_some]
  rw [encode_eq, hcw, rowWord]

theorem mEncRows_closed (k : Nat) (hk : 1 ≤ k) : mEncRows k = (List.range k).map fun b => bitsToNat (rowWord k b) :=
  List.map_congr_left fun b hb => by rw [encVal, encode_unit k b hk (List.mem_range.1 hb)]
end Litex.Ecc
