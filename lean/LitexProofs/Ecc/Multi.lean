import LitexProofs.Ecc.Secded
/-
  ANY number of inverted bits: the syndrome is the XOR of the inverted positions, the overall parity counts
  them (`flips_effect`, for any word).  This characterises the flags of the decoder for every error pattern (1, 2,
  3, … errors), every `k ≥ 1` (`decode_flips_flags`); the correction of one inverted bit is its instance
  (`decode_flipAt_encode`).
-/
namespace Litex.Ecc

/-- XOR of the inverted bit positions (the overall parity bit, position 0, contributes nothing). -/
def xorPos (errs : List Nat) : Nat := errs.foldl (· ^^^ ·) 0

theorem foldl_xor_init (errs : List Nat) (a : Nat) : errs.foldl (· ^^^ ·) a = a ^^^ xorPos errs := by
  unfold xorPos
  induction errs generalizing a with
  | nil => simp
  | cons j rest ih => rw [List.foldl_cons, List.foldl_cons, ih, ih (0 ^^^ j), Nat.zero_xor, Nat.xor_assoc]

theorem xor_ne_zero {a b : Nat} (h : a ≠ b) : a ^^^ b ≠ 0 := by
  intro h0
  apply h
  apply Nat.eq_of_testBit_eq
  intro i
  have := congrArg (·.testBit i) h0
  simp only [Nat.testBit_xor, Nat.zero_testBit] at this
  cases h1 : a.testBit i <;> cases h2 : b.testBit i <;> simp_all

theorem xorPos_cons (j : Nat) (rest : List Nat) : xorPos (j :: rest) = j ^^^ xorPos rest := by
  conv => lhs; unfold xorPos
  rw [List.foldl_cons, foldl_xor_init, Nat.zero_xor]

theorem xorPos_lt (L : Nat) (errs : List Nat) (h : ∀ j, j ∈ errs → j < 2 ^ L) : xorPos errs < 2 ^ L := by
  induction errs with
  | nil => exact Nat.two_pow_pos L
  | cons j rest ih =>
    rw [xorPos_cons]
    exact Nat.xor_lt_two_pow (h j (by simp)) (ih fun j hj => h j (by simp [hj]))

/-- One more inverted bit: the parity flips, and so does "an odd number of bits inverted". -/
theorem parity_step (b : Bool) (n : Nat) : ((!b) ^^ decide (n % 2 = 1)) = (b ^^ decide ((n + 1) % 2 = 1)) := by
  rcases Nat.mod_two_eq_zero_or_one n with h | h <;> cases b <;> simp [h, Nat.add_mod]

/-- Bit 0 of `w` is the parity bit, bit `p` is position `p` of `w.drop 1`. -/
theorem synBit_drop_flipAt (w : Word) (j i : Nat) (hj : j < w.length) :
    synBit ((flipAt w j).drop 1) i = (synBit (w.drop 1) i ^^ j.testBit i) := by
  cases w with
  | nil => simp at hj
  | cons x c =>
    cases j with
    | zero => simp [flipAt_cons_zero]
    | succ p => simpa [flipAt_cons_succ] using synBit_flipAt c (p + 1) i (by omega) (Nat.le_of_lt_succ hj)

theorem flips_effect (errs : List Nat) : ∀ w : Word, (∀ j, j ∈ errs → j < w.length) →
    (errs.foldl flipAt w).length = w.length ∧
    (∀ i, synBit ((errs.foldl flipAt w).drop 1) i = (synBit (w.drop 1) i ^^ (xorPos errs).testBit i)) ∧
    xorAll (errs.foldl flipAt w) = (xorAll w ^^ decide (errs.length % 2 = 1)) := by
  induction errs with
  | nil => intro w _; simp [xorPos]
  | cons j rest ih =>
    intro w h
    have hj := h j (by simp)
    obtain ⟨hl, hs, hp⟩ := ih (flipAt w j) fun j' hj' => by rw [flipAt_length]; exact h j' (by simp [hj'])
    rw [List.foldl_cons]
    refine ⟨by rw [hl, flipAt_length], fun i => ?_, ?_⟩
    · rw [hs i, synBit_drop_flipAt w j i hj, xorPos_cons, Nat.testBit_xor, Bool.xor_assoc]
    · rw [hp, xorAll_flipAt w j hj, List.length_cons, parity_step]

/-- Repetitions in `errs` are allowed: they cancel, exactly as in the XOR of the positions. -/
theorem decode_flips_flags (k : Nat) (hk : 1 ≤ k) (d : Word) (errs : List Nat) (h : ∀ j, j ∈ errs → j ≤ computeN k) :
    let w := errs.foldl flipAt (encode k d)
    bitsToNat (computeSyndrome (w.drop 1)) = xorPos errs ∧
    (decode true w).sec = (xorPos errs != 0 && decide (errs.length % 2 = 1)) ∧
    (decode true w).ded = (xorPos errs != 0 && decide (errs.length % 2 = 0)) ∧
    (decode true w).o = extractData (if xorPos errs = 0 then w.drop 1 else flipAt (w.drop 1) (xorPos errs - 1)) := by
  intro w
  obtain ⟨hl, hs, hp⟩ := flips_effect errs (encode k d) fun j hj => by
    rw [encode_length]; exact Nat.lt_succ_of_le (h j hj)
  have hsyn : bitsToNat (computeSyndrome (w.drop 1)) = xorPos errs := by
    rw [computeSyndrome_eq, List.length_drop, hl, encode_length, Nat.add_sub_cancel, numCheck_computeN k hk,
      List.map_congr_left (g := (xorPos errs).testBit) fun i hi => by
        rw [hs i, encode_eq, List.drop_one, List.tail_cons,
          synBit_codeword k d i (by rw [numCheck_computeN k hk]; exact List.mem_range.1 hi), Bool.false_xor]]
    exact bitsToNat_map_testBit _ _ (xorPos_lt _ _ fun j hj => Nat.lt_of_le_of_lt (h j hj) (computeN_lt k))
  have hpar : xorAll w = decide (errs.length % 2 = 1) := by
    rw [hp, encode_eq, xorAll_cons, Bool.xor_self, Bool.false_xor]
  refine ⟨hsyn, ?_⟩
  simp only [decode, if_true, hsyn, hpar, true_and]
  rcases Nat.mod_two_eq_zero_or_one errs.length with h0 | h0 <;> simp [h0]

theorem decode_flipAt_encode (k : Nat) (hk : 1 ≤ k) (d : Word) (hd : d.length = k) (j : Nat) (hj : j ≤ computeN k) :
    decode true (flipAt (encode k d) j) = { o := d, sec := decide (j ≠ 0), ded := false } := by
  -- one flip: the syndrome is `j` itself (`hx`), so `h3` reads the data after bit `j` has been inverted a second time
  obtain ⟨-, h1, h2, h3⟩ := decode_flips_flags k hk d [j] (by simpa using hj)
  have hx : xorPos [j] = j := by simp [xorPos]
  simp only [List.foldl_cons, List.foldl_nil, hx, List.length_singleton] at h1 h2 h3
  generalize decode true (flipAt (encode k d) j) = r at h1 h2 h3
  obtain ⟨o, sec, ded⟩ := r
  simp only at h1 h2 h3
  rw [h1, h2, h3, encode_eq]
  cases j <;> simp [flipAt_cons_zero, flipAt_cons_succ, flipAt_flipAt, extractData_codeword k hk d hd]

end Litex.Ecc
