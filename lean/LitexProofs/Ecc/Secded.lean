import LitexProofs.Ecc.Geometry
import LitexProofs.Ecc.Xor
/-
  Structural facts about the encoder's code word and the decoder's syndrome, for every `k ≥ 1`.
-/
namespace Litex.Ecc

/-- Bit `i` of `compute_syndrome(codeword)`. -/
def synBit (cw : Word) (i : Nat) : Bool := xorFold cw (coverPositions cw.length (2 ^ i))

theorem computeSyndrome_eq (cw : Word) :
    computeSyndrome cw = (List.range (numCheck cw.length)).map (synBit cw) := by
  unfold computeSyndrome
  rw [syndromePositions_length]
  rfl

theorem computeSyndrome_length (cw : Word) : (computeSyndrome cw).length = numCheck cw.length := by
  simp [computeSyndrome_eq]

theorem synBit_flipAt (cw : Word) (p i : Nat) (hp1 : 1 ≤ p) (hp : p ≤ cw.length) :
    synBit (flipAt cw (p - 1)) i = (synBit cw i ^^ p.testBit i) := by
  unfold synBit
  rw [flipAt_length, xorFold_eq_xsum, xorFold_eq_xsum,
    xsum_congr (g := fun c => bitAt cw c ^^ (decide (c = p) && true))]
  · rw [xsum_xor, xsum_single _ _ _ (cover_nodup _ _)]
    congr 1
    simp [mem_cover, hp1, hp]
  · intro c hc
    have h1 := (mem_cover.1 hc).1
    rw [bitAt_flipAt _ _ _ h1 (by omega)]
    have : (c = p - 1 + 1) = (c = p) := by rw [show p - 1 + 1 = p by omega]
    simp [this]

/-- `codeword_d_p` of `ECCEncoder(k)`: the `n`-bit Hamming code word (without the overall parity bit). -/
def codeword (k : Nat) (d : Word) : Word :=
  placeSyndrome (computeSyndrome (placeData d (computeN k))) (placeData d (computeN k))

theorem encode_eq (k : Nat) (d : Word) : encode k d = xorAll (codeword k d) :: codeword k d := rfl

theorem dataPositions_bounds (n : Nat) : ∀ p, p ∈ dataPositions n → 1 ≤ p ∧ p ≤ n :=
  fun _ hp => ⟨(mem_dataPositions.1 hp).1, (mem_dataPositions.1 hp).2.1⟩

theorem syndromePositions_bounds (n : Nat) : ∀ p, p ∈ syndromePositions n → 1 ≤ p ∧ p ≤ n := by
  intro p hp
  obtain ⟨h, j, rfl⟩ := mem_syndromePositions.1 hp
  exact ⟨Nat.two_pow_pos j, h⟩

theorem placeData_length (d : Word) (n : Nat) : (placeData d n).length = n := by
  simp [placeData, scatter_length]

theorem bitAt_placeData_data (d : Word) (n i p : Nat) (h : (dataPositions n)[i]? = some p) :
    bitAt (placeData d n) p = d.getD i false := by
  unfold placeData
  rw [bitAt_scatter_getElem _ _ _ 0 i p (dataPositions_nodup n) (by simpa using dataPositions_bounds n) h]
  simp

theorem bitAt_placeData_other (d : Word) (n c : Nat) (hc : 1 ≤ c) (h : c ∉ dataPositions n) :
    bitAt (placeData d n) c = false := by
  unfold placeData
  rw [bitAt_scatter_of_not_mem _ _ _ _ _ hc (by simpa using dataPositions_bounds n) h]
  exact bitAt_replicate n c

theorem codeword_length (k : Nat) (d : Word) : (codeword k d).length = computeN k := by
  simp [codeword, placeSyndrome, scatter_length, placeData_length]

theorem encode_length (k : Nat) (d : Word) : (encode k d).length = computeN k + 1 := by
  simp [encode_eq, codeword_length]

theorem bitAt_codeword_check (k : Nat) (d : Word) (i : Nat) (hi : i < numCheck (computeN k)) :
    bitAt (codeword k d) (2 ^ i) = synBit (placeData d (computeN k)) i := by
  unfold codeword placeSyndrome
  rw [placeData_length]
  rw [bitAt_scatter_getElem _ _ _ 0 i (2 ^ i) (syndromePositions_nodup _)
    (by simpa [placeData_length] using syndromePositions_bounds (computeN k))
    (syndromePositions_getElem? _ _ hi)]
  rw [computeSyndrome_eq, placeData_length, Nat.zero_add, getD_range_map]
  simp [hi]

theorem bitAt_codeword_other (k : Nat) (d : Word) (c : Nat) (hc : 1 ≤ c) (h : ∀ j, c ≠ 2 ^ j) :
    bitAt (codeword k d) c = bitAt (placeData d (computeN k)) c := by
  unfold codeword placeSyndrome
  rw [placeData_length]
  apply bitAt_scatter_of_not_mem _ _ _ _ _ hc
  · simpa [placeData_length] using syndromePositions_bounds (computeN k)
  · intro hm
    obtain ⟨_, j, hj⟩ := mem_syndromePositions.1 hm
    exact h j hj

/-- Each check bit cancels the XOR of the data bits it covers. -/
theorem synBit_codeword (k : Nat) (d : Word) (i : Nat) (hi : i < numCheck (computeN k)) :
    synBit (codeword k d) i = false := by
  have hle : 2 ^ i ≤ computeN k := (numCheck_spec _).1 i hi
  have hpos : 0 < 2 ^ i := Nat.two_pow_pos i
  have key : synBit (codeword k d) i =
      xsum (fun c => bitAt (placeData d (computeN k)) c ^^
        (decide (c = 2 ^ i) && synBit (placeData d (computeN k)) i)) (coverPositions (computeN k) (2 ^ i)) := by
    conv => lhs; unfold synBit
    rw [codeword_length, xorFold_eq_xsum]
    apply xsum_congr
    intro c hc
    obtain ⟨h1, h2, h3⟩ := mem_cover.1 hc
    by_cases hc2 : c = 2 ^ i
    · subst hc2
      rw [bitAt_codeword_check k d i hi, bitAt_placeData_other _ _ _ h1]
      · simp
      · intro hm
        exact (mem_dataPositions.1 hm).2.2 i rfl
    · rw [bitAt_codeword_other k d c h1]
      · simp [hc2]
      · intro j hj
        subst hj
        rw [Nat.testBit_two_pow] at h3
        have : j = i := by simpa using h3
        exact hc2 (by rw [this])
  rw [key, xsum_xor, xsum_single _ _ _ (cover_nodup _ _)]
  have hmem : 2 ^ i ∈ coverPositions (computeN k) (2 ^ i) :=
    mem_cover.2 ⟨hpos, hle, by simp⟩
  have : xsum (bitAt (placeData d (computeN k))) (coverPositions (computeN k) (2 ^ i)) =
      synBit (placeData d (computeN k)) i := by
    unfold synBit
    rw [placeData_length, xorFold_eq_xsum]
  rw [this]
  simp [hmem]

theorem computeSyndrome_codeword (k : Nat) (d : Word) :
    computeSyndrome (codeword k d) = (List.range (numCheck (computeN k))).map fun _ => false := by
  rw [computeSyndrome_eq, codeword_length]
  apply List.map_congr_left
  intro i hi
  exact synBit_codeword k d i (List.mem_range.1 hi)

theorem extractData_codeword (k : Nat) (hk : 1 ≤ k) (d : Word) (hd : d.length = k) :
    extractData (codeword k d) = d := by
  unfold extractData
  rw [codeword_length]
  apply List.ext_getElem?
  intro i
  rw [List.getElem?_map]
  have hlen := dataPositions_length_computeN k hk
  cases hp : (dataPositions (computeN k))[i]? with
  | none =>
    have : k ≤ i := by
      have := List.getElem?_eq_none_iff.1 hp
      omega
    simp [List.getElem?_eq_none_iff.2 (by omega : d.length ≤ i)]
  | some p =>
    have hi : i < k := by
      have := (List.getElem?_eq_some_iff.1 hp).1
      omega
    have hmem : p ∈ dataPositions (computeN k) := List.mem_of_getElem? hp
    have hm := mem_dataPositions.1 hmem
    simp only [Option.map_some]
    rw [bitAt_codeword_other k d p hm.1 hm.2.2, bitAt_placeData_data d _ i p hp]
    rw [List.getD_eq_getElem?_getD, List.getElem?_eq_getElem (by omega : i < d.length)]
    simp

/-! ### the decoder on a word `x :: c` (`x` = received overall parity bit, `c` = received code word) -/

theorem decode_cons (x : Bool) (c : Word) :
    decode true (x :: c) =
      { o := extractData (if bitsToNat (computeSyndrome c) = 0 then c
                          else flipAt c (bitsToNat (computeSyndrome c) - 1))
        sec := bitsToNat (computeSyndrome c) != 0 && xorAll (x :: c)
        ded := bitsToNat (computeSyndrome c) != 0 && !xorAll (x :: c) } := by
  simp [decode]

theorem syndrome_value_zero (k : Nat) (d : Word) : bitsToNat (computeSyndrome (codeword k d)) = 0 := by
  rw [computeSyndrome_codeword, bitsToNat_map_false]

theorem decode_encode (k : Nat) (hk : 1 ≤ k) (d : Word) (hd : d.length = k) :
    decode true (encode k d) = { o := d, sec := false, ded := false } := by
  rw [encode_eq, decode_cons, syndrome_value_zero]
  simp [extractData_codeword k hk d hd]

theorem decode_false (w : Word) :
    decode false w = { o := (dataPositions (w.length - 1)).map fun p => w.getD p false, sec := false, ded := false } := by
  simp only [decode, bitsToNat_map_false, if_true, Bool.false_eq_true, if_false, bne_self_eq_false, Bool.false_and,
    DecOut.mk.injEq, and_true]
  unfold extractData
  rw [List.length_drop]
  apply List.map_congr_left
  intro p hp
  exact bitAt_drop_one w p (dataPositions_bounds _ p hp).1

end Litex.Ecc
