import LitexModel.Ecc.Secded
import LitexProofs.Lists
import LitexProofs.Bits
/-
  GF(2) facts about the XOR folds of `ecc.py` (`compute_syndrome` chains, `compute_parity` reduce) and
  about single-bit updates of a code word; number <-> bit-list conversion of the syndrome.
-/
namespace Litex.Ecc

/-- `pn = 0; for c in ps: pn = pn ^ f(c)`. -/
def xsum (f : Nat → Bool) (ps : List Nat) : Bool := ps.foldl (fun a c => a ^^ f c) false

theorem foldl_bxor {α : Type} (f : α → Bool) (l : List α) (b : Bool) :
    l.foldl (fun a c => a ^^ f c) b = (b ^^ l.foldl (fun a c => a ^^ f c) false) := by
  induction l generalizing b with
  | nil => simp
  | cons c l ih =>
    simp only [List.foldl_cons]
    rw [ih, ih (false ^^ f c)]
    cases b <;> cases f c <;> simp

@[simp] theorem xsum_nil (f : Nat → Bool) : xsum f [] = false := rfl

theorem xsum_cons (f : Nat → Bool) (c : Nat) (ps : List Nat) : xsum f (c :: ps) = (f c ^^ xsum f ps) := by
  simp only [xsum, List.foldl_cons]
  rw [foldl_bxor]
  simp

theorem xsum_congr {f g : Nat → Bool} {ps : List Nat} (h : ∀ c, c ∈ ps → f c = g c) : xsum f ps = xsum g ps := by
  induction ps with
  | nil => rfl
  | cons c ps ih =>
    rw [xsum_cons, xsum_cons, h c (by simp), ih (fun c hc => h c (by simp [hc]))]

theorem xsum_xor (f g : Nat → Bool) (ps : List Nat) :
    xsum (fun c => f c ^^ g c) ps = (xsum f ps ^^ xsum g ps) := by
  induction ps with
  | nil => rfl
  | cons c ps ih =>
    rw [xsum_cons, xsum_cons, xsum_cons, ih]
    cases f c <;> cases g c <;> cases xsum f ps <;> cases xsum g ps <;> rfl

theorem xsum_single (p : Nat) (b : Bool) (ps : List Nat) (hnd : ps.Nodup) :
    xsum (fun c => decide (c = p) && b) ps = (decide (p ∈ ps) && b) := by
  induction ps with
  | nil => simp
  | cons c ps ih =>
    have hnd' := List.nodup_cons.1 hnd
    rw [xsum_cons, ih hnd'.2]
    by_cases hc : c = p
    · subst hc
      simp [hnd'.1]
    · have : ¬ p = c := fun h => hc h.symm
      simp [hc, this]

theorem xsum_false (ps : List Nat) : xsum (fun _ => false) ps = false := by
  induction ps with
  | nil => rfl
  | cons c ps ih => rw [xsum_cons, ih]; rfl

theorem xorFold_eq_xsum (cw : Word) (ps : List Nat) : xorFold cw ps = xsum (bitAt cw) ps := rfl

theorem xorAll_cons (x : Bool) (w : Word) : xorAll (x :: w) = (x ^^ xorAll w) := by
  simp only [xorAll, List.foldl_cons]
  rw [show (false ^^ x) = x by simp]
  exact foldl_bxor id w x

theorem flipAt_length (cw : Word) (j : Nat) : (flipAt cw j).length = cw.length := by simp [flipAt]

theorem setAt_length (cw : Word) (c : Nat) (v : Bool) : (setAt cw c v).length = cw.length := by simp [setAt]

theorem flipAt_cons_zero (x : Bool) (w : Word) : flipAt (x :: w) 0 = (!x) :: w := by simp [flipAt]

theorem flipAt_cons_succ (x : Bool) (w : Word) (j : Nat) : flipAt (x :: w) (j + 1) = x :: flipAt w j := by
  simp [flipAt]

theorem xorAll_flipAt (w : Word) (j : Nat) (hj : j < w.length) : xorAll (flipAt w j) = !xorAll w := by
  induction w generalizing j with
  | nil => simp at hj
  | cons x w ih =>
    cases j with
    | zero => rw [flipAt_cons_zero, xorAll_cons, xorAll_cons]; cases x <;> simp
    | succ j =>
      rw [flipAt_cons_succ, xorAll_cons, xorAll_cons, ih j (by simpa using hj)]
      cases x <;> simp

theorem getD_flipAt (w : Word) (j i : Nat) (hj : j < w.length) :
    (flipAt w j).getD i false = (w.getD i false ^^ decide (j = i)) := by
  unfold flipAt
  simp only [List.getD_eq_getElem?_getD, List.getElem?_set]
  by_cases h : j = i
  · subst h; simp [hj]
  · simp [h]

/-- `flipAt cw j` inverts position `j+1` and nothing else. -/
theorem bitAt_flipAt (cw : Word) (j c : Nat) (hc : 1 ≤ c) (hj : j < cw.length) :
    bitAt (flipAt cw j) c = (bitAt cw c ^^ decide (c = j + 1)) := by
  rw [bitAt, getD_flipAt cw j _ hj, bitAt, decide_eq_decide.mpr (by omega : j = c - 1 ↔ c = j + 1)]

theorem flipAt_flipAt (cw : Word) (j : Nat) : flipAt (flipAt cw j) j = cw := by
  apply List.ext_getElem?
  intro i
  unfold flipAt
  simp only [List.getD_eq_getElem?_getD, List.getElem?_set, List.length_set]
  by_cases h : j = i
  · subst h
    by_cases hl : j < cw.length
    · simp [hl]
    · simp [hl]
  · simp [h]

theorem bitAt_setAt (cw : Word) (p c : Nat) (v : Bool) (hc : 1 ≤ c) (hp : 1 ≤ p) (hpl : p ≤ cw.length) :
    bitAt (setAt cw p v) c = if c = p then v else bitAt cw c := by
  unfold bitAt setAt
  simp only [List.getD_eq_getElem?_getD, List.getElem?_set]
  by_cases h : c = p
  · subst h
    have : c - 1 < cw.length := by omega
    simp [this]
  · have : ¬ p - 1 = c - 1 := by omega
    simp [h, this]

theorem bitAt_replicate (n c : Nat) : bitAt (List.replicate n false) c = false := by
  unfold bitAt
  simp only [List.getD_eq_getElem?_getD, List.getElem?_replicate]
  split <;> rfl

theorem bitAt_drop_one (w : Word) (p : Nat) (hp : 1 ≤ p) : bitAt (w.drop 1) p = w.getD p false := by
  unfold bitAt
  simp only [List.getD_eq_getElem?_getD, List.getElem?_drop]
  rw [show 1 + (p - 1) = p by omega]

/-! ### `for i, p in enumerate(pos): codeword[p-1].eq(vals[i])` -/

theorem scatter_cons (p : Nat) (ps : List Nat) (vals base : Word) (start : Nat) :
    scatter (p :: ps) vals base start = scatter ps vals (setAt base p (vals.getD start false)) (start + 1) := by
  simp [scatter, List.zipIdx_cons]

theorem scatter_length (ps : List Nat) (vals base : Word) (start : Nat) :
    (scatter ps vals base start).length = base.length := by
  induction ps generalizing base start with
  | nil => simp [scatter]
  | cons p ps ih => rw [scatter_cons, ih, setAt_length]

theorem bitAt_scatter_of_not_mem (ps : List Nat) (vals base : Word) (start c : Nat) (hc : 1 ≤ c)
    (hps : ∀ p, p ∈ ps → 1 ≤ p ∧ p ≤ base.length) (hn : c ∉ ps) :
    bitAt (scatter ps vals base start) c = bitAt base c := by
  induction ps generalizing base start with
  | nil => simp [scatter]
  | cons p ps ih =>
    have hp := hps p (by simp)
    rw [scatter_cons, ih]
    · rw [bitAt_setAt _ _ _ _ hc hp.1 hp.2]
      have : ¬ c = p := fun h => hn (by simp [h])
      simp [this]
    · intro q hq
      rw [setAt_length]
      exact hps q (by simp [hq])
    · exact fun h => hn (by simp [h])

theorem bitAt_scatter_getElem (ps : List Nat) (vals base : Word) (start i p : Nat) (hnd : ps.Nodup)
    (hps : ∀ p, p ∈ ps → 1 ≤ p ∧ p ≤ base.length) (hi : ps[i]? = some p) :
    bitAt (scatter ps vals base start) p = vals.getD (start + i) false := by
  induction ps generalizing base start i with
  | nil => simp at hi
  | cons q ps ih =>
    have hq := hps q (by simp)
    have hnd' := List.nodup_cons.1 hnd
    rw [scatter_cons]
    cases i with
    | zero =>
      simp only [List.getElem?_cons_zero, Option.some.injEq] at hi
      subst hi
      rw [bitAt_scatter_of_not_mem _ _ _ _ _ hq.1 _ hnd'.1, bitAt_setAt _ _ _ _ hq.1 hq.1 hq.2]
      · simp
      · intro r hr
        rw [setAt_length]
        exact hps r (by simp [hr])
    | succ i =>
      simp only [List.getElem?_cons_succ] at hi
      rw [ih _ _ _ hnd'.2 _ hi]
      · congr 1; omega
      · intro r hr
        rw [setAt_length]
        exact hps r (by simp [hr])

theorem bitsToNat_testBit (l : Word) (i : Nat) : (bitsToNat l).testBit i = l.getD i false := by
  induction l generalizing i with
  | nil => simp [bitsToNat]
  | cons b bs ih =>
    rw [bitsToNat, testBit_bit]
    cases i with
    | zero => rfl
    | succ i => exact ih i

theorem bitsToNat_map_testBit (L p : Nat) (hp : p < 2 ^ L) : bitsToNat ((List.range L).map p.testBit) = p := by
  apply Nat.eq_of_testBit_eq
  intro i
  rw [bitsToNat_testBit, getD_range_map]
  split
  · rfl
  · next h =>
    have : 2 ^ L ≤ 2 ^ i := Nat.pow_le_pow_right (by omega) (by omega)
    exact (Nat.testBit_lt_two_pow (by omega)).symm

theorem bitsToNat_map_false {α : Type} (l : List α) : bitsToNat (l.map fun _ => false) = 0 := by
  induction l with
  | nil => rfl
  | cons a l ih => simp [bitsToNat, ih]

/-! ### number view used by the driver / the harness (signals travel as decimal numbers) -/

theorem natToBits_length (w x : Nat) : (natToBits w x).length = w := by simp [natToBits]

theorem bitsToNat_natToBits (w x : Nat) (hx : x < 2 ^ w) : bitsToNat (natToBits w x) = x :=
  bitsToNat_map_testBit w x hx

theorem bitsToNat_flipAt (w : Word) (j : Nat) (hj : j < w.length) :
    bitsToNat (flipAt w j) = bitsToNat w ^^^ 2 ^ j := by
  apply Nat.eq_of_testBit_eq
  intro i
  rw [bitsToNat_testBit, getD_flipAt w j i hj, Nat.testBit_xor, bitsToNat_testBit, Nat.testBit_two_pow]

end Litex.Ecc
