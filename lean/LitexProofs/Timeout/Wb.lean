import LitexModel.Timeout.Wb
import LitexProofs.Lists
import LitexProofs.WaitTimer
import LitexProofs.RoundRobin
/-
  The Wishbone timeout (`LitexProps/C11.lean` states the property theorems).

  Central invariant: along every run of `InterconnectShared` the timer register equals
  `t - streak` (saturating), where `streak` counts the consecutive preceding cycles in which the bus owner had
  `cyc & stb` and saw no `ack` (an observation at the owner's port).
-/
namespace Litex.Timeout.Wb
open Litex

theorem orAll_false {k : Nat} {f : Nat → Bool} (h : ∀ j, f j = false) : orAll k f = false := by
  induction k with
  | zero => rfl
  | succ k ih => simp [orAll, ih, h]

theorem orAll_congr {k : Nat} {f g : Nat → Bool} (h : ∀ j, j < k → f j = g j) : orAll k f = orAll k g := by
  induction k with
  | zero => rfl
  | succ k ih =>
    simp only [orAll]
    rw [ih (fun j hj => h j (by omega)), h k (by omega)]

theorem orDat_zero {k : Nat} {f : Nat → Nat} (h : ∀ j, f j = 0) : orDat k f = 0 := by
  induction k with
  | zero => rfl
  | succ k ih => simp [orDat, ih, h]

/-- Per-cycle observation "the watched bus carries a request that is not acknowledged" (after the override). -/
def tObsWait (x : TIn) (o : TOut) : Bool := x.stb && x.cyc && !o.ack

def tWaits (t dw : Nat) : Nat → List TIn → List Bool
  | _, [] => []
  | c, x :: xs => tObsWait x (tOut dw c x) :: tWaits t dw (tNext t dw c x) xs

/-- The module's own `timer.wait`, `tWait dw c x`, is `tObsWait x (tOut dw c x)` by unfolding: the observation is phrased
    on (input, output) so that it can be read off the bus without knowing the register; the third `rfl` is this. -/
theorem timeout_run_count (t dw : Nat) (xs : List TIn) :
    (timeout t dw).run xs = t - WaitTimer.streak (tWaits t dw t xs) :=
  WaitTimer.embedded_runFrom (timeout t dw) (cnt := id) (fun _ => rfl) (fun _ _ _ => rfl) (fun _ _ => rfl) xs t 0 rfl

theorem tWait_done {dw cnt : Nat} (x : TIn) (h : WaitTimer.done cnt = true) : tWait dw cnt x = false := by
  simp [tWait, tOut, h]

namespace Shared
variable (c : Cfg)

/-- Port-level observation: the bus owner (`grant`) has `cyc & stb` and does not see `ack` in this cycle. -/
def ownerWaits (s : State) (x : BusIn) : Bool :=
  (x.ms s.grant).cyc && (x.ms s.grant).stb && !((out c s x).toM s.grant).ack

def waits : State → List BusIn → List Bool
  | _, [] => []
  | s, x :: xs => ownerWaits c s x :: waits (next c s x) xs

/-- Number of consecutive cycles, up to the end of history `xs` from reset, in which the owner waited. -/
def waited (xs : List BusIn) : Nat := WaitTimer.streak (waits c (init c) xs)

theorem tRes_some {t : Nat} (ht : c.t = some t) (s : State) (x : BusIn) :
    tRes c s x = tOut c.dw s.count (tIn c s x) := by
  simp [tRes, ht]

theorem next_count {t : Nat} (ht : c.t = some t) (s : State) (x : BusIn) :
    (next c s x).count = tNext t c.dw s.count (tIn c s x) := by
  simp [next, ht]

theorem ownerWaits_eq {t : Nat} (ht : c.t = some t) (s : State) (x : BusIn) :
    ownerWaits c s x = tWait c.dw s.count (tIn c s x) := by
  simp only [ownerWaits, out, tRes_some c ht, tWait, tIn, bus, beq_self_eq_true, Bool.and_true]
  cases (x.ms s.grant).cyc <;> cases (x.ms s.grant).stb <;> simp

theorem run_count_spec {t : Nat} (ht : c.t = some t) (xs : List BusIn) :
    ((machine c).run xs).count = t - waited c xs :=
  WaitTimer.embedded_runFrom (machine c) (cnt := (·.count)) (fun _ => rfl) (fun _ _ _ => rfl)
    (fun s x => by rw [ownerWaits_eq c ht]; exact next_count c ht s x) xs (init c) 0
    (by simp [init, ht])

theorem run_done_iff {t : Nat} (ht : c.t = some t) (xs : List BusIn) :
    WaitTimer.done ((machine c).run xs).count = true ↔ t ≤ waited c xs := by
  rw [run_count_spec c ht]; exact WaitTimer.done_sub_iff t _

theorem run_not_done {t : Nat} (ht : c.t = some t) (xs : List BusIn) (h : waited c xs < t) :
    WaitTimer.done ((machine c).run xs).count = false :=
  Bool.eq_false_iff.mpr fun hd => Nat.not_le_of_lt h ((run_done_iff c ht xs).mp hd)

theorem waited_step (xs : List BusIn) (x : BusIn) :
    waited c (xs ++ [x]) = WaitTimer.streakStep (waited c xs) (ownerWaits c ((machine c).run xs) x) :=
  WaitTimer.streak_snoc (machine c) (fun _ => rfl) (fun _ _ _ => rfl) xs x

/-- `≤ t` because the owner is not left waiting in a cycle in which the timer is done. -/
theorem waited_le {t : Nat} (ht : c.t = some t) (xs : List BusIn) : waited c xs ≤ t := by
  induction xs using snoc_induction with
  | nil => exact Nat.zero_le _
  | snoc ys y ih =>
    rw [waited_step]
    cases hw : ownerWaits c ((machine c).run ys) y
    · exact Nat.zero_le _
    · have hlt : ¬ t ≤ waited c ys := fun h => by
        rw [ownerWaits_eq c ht, tWait_done _ ((run_done_iff c ht ys).mpr h)] at hw; cases hw
      exact Nat.lt_of_not_le hlt

theorem grant_lt (hn : 0 < c.n) (xs : List BusIn) : ((machine c).run xs).grant < c.n := by
  refine Machine.invariant_runFrom (machine c) (fun s => s.grant < c.n) ?_ xs (machine c).init hn
  intro s x h
  exact RoundRobin.next_lt .withdraw (fun i => (x.ms i).cyc) true h

theorem out_of_done {t : Nat} (ht : c.t = some t) (s : State) (x : BusIn) (hd : WaitTimer.done s.count = true) :
    (out c s x).error = true ∧ ((out c s x).toM s.grant).ack = true ∧
    ((out c s x).toM s.grant).datR = ones c.dw := by
  simp [out, tRes_some c ht, tOut, hd]

theorem out_of_not_done {t : Nat} (ht : c.t = some t) (s : State) (x : BusIn)
    (hd : WaitTimer.done s.count = false) :
    (out c s x).error = false ∧ ((out c s x).toM s.grant).ack = orAll c.k fun j => (x.ss j).ack := by
  simp [out, tRes_some c ht, tOut, hd, tIn]

/-- Wishbone `InterconnectShared(timeout_cycles=None)` with otherwise the same parameters. -/
def noT (c : Cfg) : Cfg := { c with t := none }

/-- Wishbone `InterconnectShared` with (`s`) and without (`s0`) timeout: same arbiter and decoder registers (the
    timer register is the only other state). -/
def Sim (s s0 : State) : Prop := s.grant = s0.grant ∧ s.selR = s0.selR

theorem sim_next (s s0 : State) (x : BusIn) (h : Sim s s0) : Sim (next c s x) (next (noT c) s0 x) := by
  obtain ⟨hg, hs⟩ := h
  refine ⟨?_, ?_⟩
  · simp [next, noT, hg]
  · have : sel c s x = sel (noT c) s0 x := funext fun j => by simp [sel, bus, hg, noT]
    simp only [next, hs, this, noT]; rfl

theorem sim_out {t : Nat} (ht : c.t = some t) (s s0 : State) (x : BusIn) (h : Sim s s0)
    (hd : WaitTimer.done s.count = false) :
    (∀ i, (out c s x).toM i = (out (noT c) s0 x).toM i) ∧ (∀ j, (out c s x).toS j = (out (noT c) s0 x).toS j) ∧
    (out c s x).error = false ∧ ownerWaits c s x = ownerWaits (noT c) s0 x := by
  obtain ⟨hg, hs⟩ := h
  have hres : tRes c s x = tRes (noT c) s0 x := by
    rw [tRes_some c ht]
    simp [tRes, noT, tOut, hd, tIn, selMux, sel, bus, hg, hs]
  refine ⟨?_, ?_, (out_of_not_done c ht s x hd).1, ?_⟩
  · intro i; simp only [out, hres, hg]; rfl
  · intro j; simp [out, sel, bus, hg, noT]
  · simp only [ownerWaits, out, hres, hg]

/-- `< t`, where the AXI directions have `≤ t` (`Axi.TimedDir.healthy_sim`): Wishbone forces the acknowledge in the
    expiry cycle itself (the cycle after `t` waiting ones), whatever the bus does then; AXI raises `error` only if the wait
    goes on in that cycle. -/
theorem healthy_sim {t : Nat} (ht : c.t = some t) (xs : List BusIn)
    (hh : ∀ ys zs, xs = ys ++ zs → waited (noT c) ys < t) :
    Sim ((machine c).run xs) ((machine (noT c)).run xs) ∧ waited c xs = waited (noT c) xs := by
  induction xs using snoc_induction with
  | nil => exact ⟨⟨rfl, rfl⟩, rfl⟩
  | snoc ys y ih =>
    obtain ⟨hs, hw⟩ := ih (fun a b hab => hh a (b ++ [y]) (by rw [hab, List.append_assoc]))
    have hd := run_not_done c ht ys (hw ▸ hh ys [y] rfl)
    refine ⟨?_, ?_⟩
    · rw [Machine.run_snoc, Machine.run_snoc]; exact sim_next c _ _ y hs
    · rw [waited_step, waited_step, hw, (sim_out c ht _ _ y hs hd).2.2.2]

/-- The waiting master's potential `d * B - a` (`d` owners still ahead at `B` cycles each, less the progress `a` of the
    access under way) drops when the order advances (`a < B`) or, with the same owner, the access progresses. -/
theorem lex_decrease {B d d' a a' : Nat} (hd : 1 ≤ d) (ha : a + 1 ≤ B)
    (h : d' + 1 ≤ d ∨ d' = d ∧ a + 1 ≤ a') : d' * B - a' + 1 ≤ d * B - a := by
  have h1 := Nat.mul_le_mul_right B hd
  rcases h with h | ⟨rfl, h⟩
  · have h2 := Nat.mul_le_mul_right B h
    rw [Nat.succ_mul] at h2
    omega
  · omega

/-- One cycle of a bus whose masters release `cyc` after the acknowledge and never hold `cyc` without `stb`, seen
    from a master `i` that requests without owning the bus.  Lexicographic progress: the owner withdraws and the grant
    moves towards `i`, or the owner stays and its access advances (credit `t + 1` once acknowledged, else the cycles
    waited so far: it waits and the timer counts down, or it is acknowledged).  `rel`: the owner was acknowledged in
    the previous cycle. -/
theorem waiting_master_step {t : Nat} (ht : c.t = some t) {i : Nat} (hi : i < c.n) (s : State) (x : BusIn)
    (rel : Bool) (hg : s.grant < c.n) (hne : s.grant ≠ i) (hc : s.count ≤ t) (hreq : (x.ms i).cyc = true)
    (hrel : rel = true → (x.ms s.grant).cyc = false)
    (hstb : (x.ms s.grant).cyc = true → (x.ms s.grant).stb = true) :
    (next c s x).grant < c.n ∧ (next c s x).count ≤ t ∧
    (RoundRobin.dist c.n (next c s x).grant i + 1 ≤ RoundRobin.dist c.n s.grant i ∨
      RoundRobin.dist c.n (next c s x).grant i = RoundRobin.dist c.n s.grant i ∧
      (if rel = true then t + 1 else t - s.count) + 1 ≤
        (if ((x.ms s.grant).cyc && ((out c s x).toM s.grant).ack) = true then t + 1
         else t - (next c s x).count)) := by
  have hcnt : (next c s x).count = WaitTimer.next t s.count (ownerWaits c s x) := by
    rw [ownerWaits_eq c ht]; exact next_count c ht s x
  have hc' : (next c s x).count ≤ t := by
    rw [hcnt]; unfold WaitTimer.next; split <;> (try split) <;> omega
  refine ⟨RoundRobin.next_lt .withdraw (fun m => (x.ms m).cyc) true hg, hc', ?_⟩
  cases hcyc : (x.ms s.grant).cyc
  · -- the owner has withdrawn: the grant moves towards `i`
    exact Or.inl (RoundRobin.next_ne_self_of_other_req .withdraw (fun m => (x.ms m).cyc) true hg hi (Ne.symm hne) hreq
      (by simp [RoundRobin.enabled, hcyc])).2
  · have hrf : rel = false := Bool.eq_false_iff.mpr fun h => by rw [hrel h] at hcyc; cases hcyc
    have hkeep : (next c s x).grant = s.grant :=
      RoundRobin.next_withdraw_keep (fun m => (x.ms m).cyc) true hg hcyc
    refine Or.inr ⟨by rw [hkeep], ?_⟩
    rw [hrf]
    simp only [Bool.true_and, Bool.false_eq_true, if_false]
    cases hack : ((out c s x).toM s.grant).ack
    · -- still waiting: the timer counts down from `n + 1` to `n`, the credit grows by one
      have hw : ownerWaits c s x = true := by simp [ownerWaits, hcyc, hstb hcyc, hack]
      have hnd : WaitTimer.done s.count = false := Bool.eq_false_iff.mpr fun h => by
        rw [ownerWaits_eq c ht, tWait_done _ h] at hw; cases hw
      obtain ⟨n, hn⟩ : ∃ n, s.count = n + 1 :=
        Nat.exists_eq_succ_of_ne_zero (by simpa [WaitTimer.done] using hnd)
      have hcn : (next c s x).count = n := by rw [hcnt, hw, hn]; rfl
      rw [hn] at hc
      rw [hcn, hn]
      simp only [Bool.false_eq_true, if_false]
      omega
    · -- acknowledged: the credit jumps from `t - count ≤ t` to `t + 1`
      simp only [if_true]
      omega

end Shared
end Litex.Timeout.Wb
