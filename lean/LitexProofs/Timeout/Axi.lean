import LitexModel.Timeout.Axi
import LitexProofs.Lists
import LitexProofs.WaitTimer
import LitexProofs.RoundRobin
import LitexProofs.Timeout.Wb
/-
  The AXI-Lite / AXI timeout FSMs and the shared interconnects built on them.

  Invariant of each direction: `timer.count = t - streak` (saturating), `streak` = number of consecutive preceding
  cycles in which the FSM was in WAIT and its `wait_cond` held (an address/data beat pending, not accepted).
  The two directions are separate models (own input and output types) with the same shape.  What holds of whole runs
  (stall bound, healthy-bus simulation) is proved once, over `TimedDir`/`Reference`, from five step facts that each
  direction supplies (`SharedW.timed`, `SharedR.timed`, `.reference`).  What speaks of single cycles names the ports of
  its direction and is stated per direction: the simulation step `sim_wait` and the silent-slave steps.  Of the latter
  the write side has more (`idle_wait_step` for the unwatched response phase, `silent_b_step` for `lock ≤ 1` because a
  lone W is absorbed without an AW, and the assembly `silent_timeout`, which two theorems of C11 share; the read
  assembly has one user and is done there).
-/
namespace Litex.Timeout.Axi
open Litex
open Litex.Timeout.Wb (orAll orDat gate ones orAll_false orDat_zero)

def wWaits (t : Nat) : FState → List WIn → List Bool
  | _, [] => []
  | s, x :: xs => wWait s x :: wWaits t (wNext t s x) xs

/-- Consecutive preceding WAIT cycles with a pending, unaccepted AW/W beat. -/
def wWaited (t : Nat) (xs : List WIn) : Nat := WaitTimer.streak (wWaits t (fInit t) xs)

theorem wRun_count_spec (t : Nat) (xs : List WIn) :
    ((wTimeout t).run xs).count = t - wWaited t xs :=
  WaitTimer.embedded_runFrom (wTimeout t) (cnt := (·.count)) (fun _ => rfl) (fun _ _ _ => rfl) (fun _ _ => rfl) xs
    (fInit t) 0 rfl

theorem not_and_not_of_or {a b : Bool} (h : (a || b) = true) : (!a && !b) = false := by
  rw [← Bool.not_or, h]; rfl

theorem wOut_wait {s : FState} (x : WIn) (h : s.respond = false) :
    wOut s x = { awr := x.awr, wr := x.wr, bv := x.bv, bresp := x.bresp,
                 error := WaitTimer.done s.count && wWaitCond x } := by
  simp [wOut, h]

theorem wOut_respond {s : FState} (x : WIn) (h : s.respond = true) :
    wOut s x = { awr := x.awv, wr := x.wv, bv := !x.awv && !x.wv, bresp := RESP_SLVERR, error := false } := by
  simp [wOut, h]

theorem wNext_wait (t : Nat) {s : FState} (x : WIn) (h : s.respond = false) :
    wNext t s x = { count := WaitTimer.next t s.count (wWaitCond x),
                    respond := WaitTimer.done s.count && wWaitCond x } := by
  simp [wNext, wWait, h]

theorem wNext_respond (t : Nat) {s : FState} (x : WIn) (h : s.respond = true) :
    wNext t s x = { count := t, respond := !(!x.awv && !x.wv && x.br) } := by
  simp [wNext, wWait, wOut, h, WaitTimer.next]

def rWaits (full : Bool) (dw t : Nat) : FState → List RIn → List Bool
  | _, [] => []
  | s, x :: xs => rWait s x :: rWaits full dw t (rNext full dw t s x) xs

def rWaited (full : Bool) (dw t : Nat) (xs : List RIn) : Nat :=
  WaitTimer.streak (rWaits full dw t (fInit t) xs)

theorem rRun_count_spec (full : Bool) (dw t : Nat) (xs : List RIn) :
    ((rTimeout full dw t).run xs).count = t - rWaited full dw t xs :=
  WaitTimer.embedded_runFrom (rTimeout full dw t) (cnt := (·.count)) (fun _ => rfl) (fun _ _ _ => rfl) (fun _ _ => rfl) xs
    (fInit t) 0 rfl

theorem rOut_wait (full : Bool) (dw : Nat) {s : FState} (x : RIn) (h : s.respond = false) :
    rOut full dw s x = { arr := x.arr, rv := x.rv, rresp := x.rresp, rdata := x.rdata, rlast := x.rlast,
                         error := WaitTimer.done s.count && rWaitCond x } := by
  simp [rOut, h]

theorem rOut_respond (full : Bool) (dw : Nat) {s : FState} (x : RIn) (h : s.respond = true) :
    rOut full dw s x = { arr := x.arv, rv := !x.arv, rresp := RESP_SLVERR, rdata := ones dw,
                         rlast := if full then true else x.rlast, error := false } := by
  simp [rOut, h]

theorem rNext_wait (full : Bool) (dw t : Nat) {s : FState} (x : RIn) (h : s.respond = false) :
    rNext full dw t s x = { count := WaitTimer.next t s.count (rWaitCond x),
                            respond := WaitTimer.done s.count && rWaitCond x } := by
  simp [rNext, rWait, h]

theorem rNext_respond (full : Bool) (dw t : Nat) {s : FState} (x : RIn) (h : s.respond = true) :
    rNext full dw t s x = { count := t, respond := !(!x.arv && x.rr) } := by
  simp [rNext, rWait, rOut, h, WaitTimer.next]

theorem ctrNext_idle (c : Nat) : ctrNext c false false = c := by simp [ctrNext]

theorem ctrNext_req0 : ctrNext 0 true false = 1 := by decide
theorem ctrNext_resp1 : ctrNext 1 false true = 0 := by decide

/-- One direction of the AXI interconnect with (`s`) and without (`s0`) timeout: same arbiter, lock and select
    registers, both FSMs in WAIT.  The reference has no timeout, but its state still has the FSM register, `ownerWaits`
    reads it, and `next` leaves it alone (`Reference.tm`): hence the last conjunct. -/
def Sim (s s0 : DState) : Prop :=
  s.grant = s0.grant ∧ s.lock = s0.lock ∧ s.selReg = s0.selReg ∧ s.tm.respond = false ∧ s0.tm.respond = false

/-- One direction `m` of the shared interconnect: a timer stepped by `ow` ("the owner is left waiting", the `timer.wait`
    of this direction; `ws s xs` lists it along the run over `xs` from `s`), an error pulse (`err` reads it off the
    outputs) when the timer is done and the owner still waits, RESPOND entered on that pulse, no waiting in RESPOND. -/
structure TimedDir {ι ο : Type} (m : Machine ι DState ο) (t : Nat) (ow : DState → ι → Bool)
    (ws : DState → List ι → List Bool) (err : ο → Bool) : Prop where
  nil : ∀ s, ws s [] = []
  cons : ∀ s x xs, ws s (x :: xs) = ow s x :: ws (m.next s x) xs
  init : m.init.tm = fInit t
  count : ∀ s x, (m.next s x).tm.count = WaitTimer.next t s.tm.count (ow s x)
  error : ∀ s x, err (m.out s x) = (WaitTimer.done s.tm.count && ow s x)
  respond : ∀ s x, s.tm.respond = false → (m.next s x).tm.respond = err (m.out s x)
  wait_only : ∀ s x, ow s x = true → s.tm.respond = false

/-- The same direction built without a timeout (`m0`, observed through `ow0`/`ws0`): it steps like `m` as long as the
    FSM of `m` stays in WAIT, and its own FSM register never moves. -/
structure Reference {ι ο : Type} (m : Machine ι DState ο) (ow : DState → ι → Bool) (m0 : Machine ι DState ο)
    (ow0 : DState → ι → Bool) (ws0 : DState → List ι → List Bool) : Prop where
  nil : ∀ s, ws0 s [] = []
  cons : ∀ s x xs, ws0 s (x :: xs) = ow0 s x :: ws0 (m0.next s x) xs
  init : Sim m.init m0.init
  step : ∀ s s0 x, Sim s s0 → ow s x = ow0 s0 x ∧ (m.next s x).grant = (m0.next s0 x).grant ∧
    (m.next s x).lock = (m0.next s0 x).lock ∧ (m.next s x).selReg = (m0.next s0 x).selReg
  tm : ∀ s0 x, (m0.next s0 x).tm = s0.tm

namespace TimedDir
variable {ι ο : Type} {m : Machine ι DState ο} {t : Nat} {ow : DState → ι → Bool} {ws : DState → List ι → List Bool}
  {err : ο → Bool} (D : TimedDir m t ow ws err)
include D

theorem run_done_iff (xs : List ι) :
    WaitTimer.done (m.run xs).tm.count = true ↔ t ≤ WaitTimer.streak (ws m.init xs) := by
  have h : (m.run xs).tm.count = t - WaitTimer.streak (ws m.init xs) :=
    WaitTimer.embedded_runFrom m (cnt := (·.tm.count)) D.nil D.cons D.count xs m.init 0 (by rw [D.init]; rfl)
  rw [h]; exact WaitTimer.done_sub_iff t _

theorem waited_step (xs : List ι) (x : ι) : WaitTimer.streak (ws m.init (xs ++ [x])) =
    WaitTimer.streakStep (WaitTimer.streak (ws m.init xs)) (ow (m.run xs) x) :=
  WaitTimer.streak_snoc m D.nil D.cons xs x

theorem stall_bounded (xs : List ι) : WaitTimer.streak (ws m.init xs) ≤ t + 1 ∧
    (WaitTimer.streak (ws m.init xs) = t + 1 → (m.run xs).tm.respond = true) := by
  induction xs using snoc_induction with
  | nil => rw [D.nil]; exact ⟨Nat.zero_le _, fun h => absurd h.symm (Nat.succ_ne_zero t)⟩
  | snoc ys y ih =>
    rw [D.waited_step, Machine.run_snoc]
    cases how : ow (m.run ys) y
    · exact ⟨Nat.zero_le _, fun h => absurd h.symm (Nat.succ_ne_zero t)⟩
    · -- the owner waits only in WAIT, so the streak was at most `t`; at `t` the timer is done and RESPOND follows
      have hr := D.wait_only _ _ how
      have hne : WaitTimer.streak (ws m.init ys) ≠ t + 1 := fun h => by rw [ih.2 h] at hr; cases hr
      refine ⟨Nat.succ_le_succ (by omega), fun heq => ?_⟩
      rw [D.respond _ _ hr, D.error, (D.run_done_iff ys).mpr (Nat.le_of_eq (Nat.succ.inj heq).symm), how]; rfl

variable {m0 : Machine ι DState ο} {ow0 : DState → ι → Bool} {ws0 : DState → List ι → List Bool}
  (R : Reference m ow m0 ow0 ws0)
include R

/-- An error pulse in cycle `y` would complete a streak of `t + 1`, in the reference system as well. -/
theorem no_error_of_healthy (ys : List ι) (y : ι) (hs : Sim (m.run ys) (m0.run ys))
    (hw : WaitTimer.streak (ws m.init ys) = WaitTimer.streak (ws0 m0.init ys))
    (hle : WaitTimer.streak (ws0 m0.init (ys ++ [y])) ≤ t) : err (m.out (m.run ys) y) = false :=
  Bool.eq_false_iff.mpr fun he => by
    rw [D.error, Bool.and_eq_true, D.run_done_iff] at he
    rw [WaitTimer.streak_snoc m0 R.nil R.cons, ← (R.step _ _ y hs).1, ← hw, he.2] at hle
    exact Nat.not_succ_le_self _ (Nat.le_trans (Nat.succ_le_succ he.1) hle)

/-- `≤ t`: the error pulse needs the wait to go on in cycle `t + 1`.  Wishbone forces the acknowledge in the expiry
    cycle itself, hence `< t` in `Wb.Shared.healthy_sim`. -/
theorem healthy_sim (xs : List ι) (hh : ∀ ys zs, xs = ys ++ zs → WaitTimer.streak (ws0 m0.init ys) ≤ t) :
    Sim (m.run xs) (m0.run xs) ∧ WaitTimer.streak (ws m.init xs) = WaitTimer.streak (ws0 m0.init xs) := by
  induction xs using snoc_induction with
  | nil => exact ⟨R.init, by rw [D.nil, R.nil]⟩
  | snoc ys y ih =>
    obtain ⟨hs, hw⟩ := ih (fun a b hab => hh a (b ++ [y]) (by rw [hab, List.append_assoc]))
    obtain ⟨how, hg, hl, hsr⟩ := R.step _ _ y hs
    have hne := D.no_error_of_healthy R ys y hs hw (hh (ys ++ [y]) [] (List.append_nil _).symm)
    rw [Machine.run_snoc, Machine.run_snoc]
    exact ⟨⟨hg, hl, hsr, (D.respond _ y hs.2.2.2.1).trans hne, by rw [R.tm]; exact hs.2.2.2.2⟩,
      by rw [D.waited_step, WaitTimer.streak_snoc m0 R.nil R.cons, hw, how]⟩

end TimedDir

namespace SharedW
variable (c : Cfg)

theorem tRes_some {t : Nat} (ht : c.t = some t) (s : DState) (x : WBusIn) :
    tRes c s x = wOut s.tm (tIn c s x) := by simp [tRes, ht]

theorem next_tm {t : Nat} (ht : c.t = some t) (s : DState) (x : WBusIn) :
    (next c s x).tm = wNext t s.tm (tIn c s x) := by simp [next, ht]

/-- Port-level observation: the FSM is in WAIT and the write-channel owner has an AW or W beat that is not
    accepted in this cycle. -/
def ownerWaits (s : DState) (x : WBusIn) : Bool :=
  !s.tm.respond &&
    (((x.ms s.grant).awv && !((out c s x).toM s.grant).awr) ||
     ((x.ms s.grant).wv && !((out c s x).toM s.grant).wr))

def waits : DState → List WBusIn → List Bool
  | _, [] => []
  | s, x :: xs => ownerWaits c s x :: waits (next c s x) xs

/-- Consecutive preceding cycles in which the owner waited (history from reset). -/
def waited (xs : List WBusIn) : Nat := WaitTimer.streak (waits c (dInit c) xs)

theorem ownerWaits_eq {t : Nat} (ht : c.t = some t) (s : DState) (x : WBusIn) :
    ownerWaits c s x = wWait s.tm (tIn c s x) := by
  cases hr : s.tm.respond
  · simp [ownerWaits, out, tRes_some c ht, wWait, wWaitCond, wOut, hr, tIn, bus]
  · simp [ownerWaits, wWait, hr]

theorem not_respond_of_ownerWaits {s : DState} {x : WBusIn} (h : ownerWaits c s x = true) : s.tm.respond = false := by
  cases hr : s.tm.respond
  · rfl
  · simp [ownerWaits, hr] at h

theorem out_error {t : Nat} (ht : c.t = some t) (s : DState) (x : WBusIn) :
    (out c s x).error = (WaitTimer.done s.tm.count && ownerWaits c s x) := by
  show (tRes c s x).error = _
  rw [ownerWaits_eq c ht, tRes_some c ht]
  cases hr : s.tm.respond <;> simp [wOut, wWait, hr]

theorem next_respond_of_wait {t : Nat} (ht : c.t = some t) (s : DState) (x : WBusIn) (hr : s.tm.respond = false) :
    (next c s x).tm.respond = (out c s x).error := by
  show _ = (tRes c s x).error
  rw [next_tm c ht, tRes_some c ht, wNext_wait t _ hr, wOut_wait _ hr]

theorem timed {t : Nat} (ht : c.t = some t) : TimedDir (machine c) t (ownerWaits c) (waits c) (·.error) where
  nil _ := rfl
  cons _ _ _ := rfl
  init := by simp [machine, dInit, ht]
  count s x := by rw [ownerWaits_eq c ht]; exact congrArg FState.count (next_tm c ht s x)
  error := out_error c ht
  respond := next_respond_of_wait c ht
  wait_only _ _ := not_respond_of_ownerWaits c

theorem grant_lt_step (s : DState) (x : WBusIn) (h : s.grant < c.n) : (next c s x).grant < c.n :=
  RoundRobin.next_lt .ce _ _ h

theorem grant_lt (hn : 0 < c.n) (xs : List WBusIn) : ((machine c).run xs).grant < c.n :=
  Machine.invariant_runFrom (machine c) (fun s => s.grant < c.n) (fun s x h => grant_lt_step c s x h)
    xs (machine c).init hn

/-- Write direction: `AXI(Lite)InterconnectShared(timeout_cycles=None)` with otherwise the same parameters. -/
def noT (c : Cfg) : Cfg := { c with t := none }

/-- In WAIT only `error` depends on the timeout. -/
theorem sim_wait {t : Nat} (ht : c.t = some t) (s s0 : DState) (x : WBusIn) (h : Sim s s0) :
    (∀ i, (out c s x).toM i = (out (noT c) s0 x).toM i) ∧ (∀ j, (out c s x).toS j = (out (noT c) s0 x).toS j) ∧
    ownerWaits c s x = ownerWaits (noT c) s0 x ∧
    (next c s x).grant = (next (noT c) s0 x).grant ∧ (next c s x).lock = (next (noT c) s0 x).lock ∧
    (next c s x).selReg = (next (noT c) s0 x).selReg := by
  obtain ⟨hg, hl, hs, hr, hr0⟩ := h
  have e : tRes c s x =
      { tRes (noT c) s0 x with error := WaitTimer.done s.tm.count && wWaitCond (tIn c s x) } := by
    have hin : tIn c s x = tIn (noT c) s0 x := by simp only [tIn, sel, selOf, bus, hg, hl, hs, noT]
    rw [tRes_some c ht, wOut_wait _ hr, hin]; rfl
  have hrr : rrReq c s x = rrReq (noT c) s0 x := by funext i; simp only [rrReq, e, hg]
  refine ⟨?_, ?_, ?_, ?_, ?_, ?_⟩
  · intro i; simp only [out, e, hg]
  · intro j; simp [out, sel, selOf, bus, hg, hl, hs, noT]
  · simp only [ownerWaits, out, e, hg, hr, hr0]
  · simp only [next, ce, hrr, e, bus, hg, hl]; rfl
  · simp only [next, req, resp, e, bus, hg, hl]
  · simp [next, selRegNext, bus, hg, hl, hs, noT]

theorem reference {t : Nat} (ht : c.t = some t) :
    Reference (machine c) (ownerWaits c) (machine (noT c)) (ownerWaits (noT c)) (waits (noT c)) where
  nil _ := rfl
  cons _ _ _ := rfl
  init := ⟨rfl, rfl, rfl, rfl, rfl⟩
  step s s0 x h := (sim_wait c ht s s0 x h).2.2
  tm _ _ := rfl

def Silent (x : WBusIn) : Prop := ∀ j, (x.ss j).awr = false ∧ (x.ss j).wr = false ∧ (x.ss j).bv = false

theorem tIn_silent (s : DState) (x : WBusIn) (h : Silent x) :
    (tIn c s x).awr = false ∧ (tIn c s x).wr = false ∧ (tIn c s x).bv = false :=
  ⟨orAll_false (fun j => by simp [(h j).1]), orAll_false (fun j => by simp [(h j).2.1]),
   orAll_false (fun j => by simp [(h j).2.2])⟩

/-- `ce = 0` throughout RESPOND: a beat is offered or the forced `b.valid` is up. -/
theorem respond_holds_grant {t : Nat} (ht : c.t = some t) (s : DState) (x : WBusIn)
    (hr : s.tm.respond = true) (hg : s.grant < c.n) : (next c s x).grant = s.grant := by
  have hce : ce c s x = false := by
    simp only [ce, tRes_some c ht, wOut_respond _ hr, tIn]
    cases (bus s x).awv <;> cases (bus s x).wv <;> simp
  simp only [next, hce]
  exact RoundRobin.next_ce_hold _ hg

/-- The cycle of the unwatched response phase (`C11.axl_response_phase_hangs`). -/
theorem idle_wait_step {t : Nat} (ht : c.t = some t) (s : DState) (x : WBusIn) (hr : s.tm.respond = false)
    (hm : ∀ i, (x.ms i).awv = false ∧ (x.ms i).wv = false) (hs : ∀ j, (x.ss j).bv = false) :
    ((out c s x).error = false ∧ ∀ i, ((out c s x).toM i).bv = false) ∧
    (next c s x).lock = s.lock ∧ (next c s x).tm.respond = false ∧
    (s.lock ≠ 0 → s.grant < c.n → (next c s x).grant = s.grant) := by
  have hwc : wWaitCond (tIn c s x) = false := by simp [wWaitCond, tIn, bus, hm]
  have hres : (tRes c s x).bv = false ∧ (tRes c s x).error = false := by
    rw [tRes_some c ht, wOut_wait _ hr, hwc, Bool.and_false]
    exact ⟨orAll_false fun j => by simp [hs j], rfl⟩
  refine ⟨⟨hres.2, fun i => by simp [out, hres.1]⟩, ?_, ?_, fun hl hg => ?_⟩
  · simp [next, req, resp, hres.1, bus, (hm _).1, ctrNext_idle]
  · rw [next_respond_of_wait c ht s x hr]; exact hres.2
  · have hce : ce c s x = false := by simp [ce, ctrReady, hl]
    simp only [next, hce]; exact RoundRobin.next_ce_hold _ hg

variable {c} {t g : Nat}

/-- The owner may offer a lone W before its AW.  `cnt` is arbitrary, so that the lemma serves the countdown and the
    expiry cycle alike: `error` and the entry into RESPOND are the same condition, the timer being done. -/
theorem silent_wait_step (ht : c.t = some t) (hgn : g < c.n) {s : DState} {cnt : Nat} {x : WBusIn}
    (hg : s.grant = g) (hl : s.lock = 0) (htm : s.tm = { count := cnt, respond := false })
    (hoff : ((x.ms g).awv || (x.ms g).wv) = true) (hsil : Silent x) :
    ((out c s x).toM g).awr = false ∧ ((out c s x).toM g).wr = false ∧ ((out c s x).toM g).bv = false ∧
    (out c s x).error = WaitTimer.done cnt ∧
    (next c s x).grant = g ∧ (next c s x).lock = 0 ∧
    (next c s x).tm = { count := WaitTimer.next t cnt true, respond := WaitTimer.done cnt } := by
  subst hg
  obtain ⟨h1, h2, h3⟩ := tIn_silent c s x hsil
  have hwc : wWaitCond (tIn c s x) = true := by
    simp only [wWaitCond, h1, h2]; simpa [tIn, bus] using hoff
  have hres : tRes c s x = { awr := false, wr := false, bv := false, bresp := (tIn c s x).bresp,
                             error := WaitTimer.done cnt } := by
    rw [tRes_some c ht, htm, wOut_wait _ rfl, h1, h2, h3, hwc, Bool.and_true]
  have hce : ce c s x = false := by
    have : ((bus s x).awv || (bus s x).wv) = true := hoff
    simp [ce, this]
  refine ⟨by simp [out, hres], by simp [out, hres], by simp [out, hres], by simp [out, hres], ?_, ?_, ?_⟩
  · simp only [next, hce]; exact RoundRobin.next_ce_hold _ hgn
  · simp [next, req, resp, hres, hl, ctrNext_idle]
  · rw [next_tm c ht, htm, wNext_wait t _ rfl, hwc, Bool.and_true]

/-- The lock counts an absorbed AW, not a lone W. -/
theorem silent_absorb_step (ht : c.t = some t) (hgn : g < c.n) {s : DState} {x : WBusIn}
    (hg : s.grant = g) (hl : s.lock = 0) (hr : s.tm.respond = true)
    (hoff : ((x.ms g).awv || (x.ms g).wv) = true) :
    ((out c s x).toM g).awr = (x.ms g).awv ∧ ((out c s x).toM g).wr = (x.ms g).wv ∧
    ((out c s x).toM g).bv = false ∧ (out c s x).error = false ∧
    (next c s x).grant = g ∧ (next c s x).lock = (if (x.ms g).awv then 1 else 0) ∧
    (next c s x).tm = { count := t, respond := true } := by
  subst hg
  have hbv := not_and_not_of_or hoff
  have hres : tRes c s x = { awr := (x.ms s.grant).awv, wr := (x.ms s.grant).wv, bv := false,
                             bresp := RESP_SLVERR, error := false } := by
    rw [tRes_some c ht, wOut_respond _ hr, ← hbv]; rfl
  refine ⟨by simp [out, hres], by simp [out, hres], by simp [out, hres], by simp [out, hres],
          respond_holds_grant c ht s x hr hgn, ?_, ?_⟩
  · cases ha : (x.ms s.grant).awv <;> simp [next, req, resp, hres, hl, bus, ha, ctrNext]
  · rw [next_tm c ht, wNext_respond t _ hr]
    show FState.mk t (!((!(x.ms s.grant).awv && !(x.ms s.grant).wv) && (x.ms s.grant).br)) = _
    rw [hbv]; rfl

/-- `lock ∈ {0, 1}`: a `B` delivered while nothing was accepted (`lock = 0`) does not make the counter underflow
    (`response & ~empty`). -/
theorem silent_b_step (ht : c.t = some t) (hgn : g < c.n) {s : DState} {x : WBusIn}
    (hg : s.grant = g) (hl : s.lock ≤ 1) (hr : s.tm.respond = true)
    (haw : (x.ms g).awv = false) (hw : (x.ms g).wv = false) (hb : (x.ms g).br = true) :
    ((out c s x).toM g).bv = true ∧ ((out c s x).toM g).bresp = RESP_SLVERR ∧ (out c s x).error = false ∧
    (next c s x).grant = g ∧ (next c s x).lock = 0 ∧ (next c s x).tm = fInit t := by
  subst hg
  have hi : (tIn c s x).awv = false ∧ (tIn c s x).wv = false ∧ (tIn c s x).br = true := ⟨haw, hw, hb⟩
  have hres : tRes c s x = { awr := false, wr := false, bv := true, bresp := RESP_SLVERR, error := false } := by
    rw [tRes_some c ht, wOut_respond _ hr, hi.1, hi.2.1]; rfl
  refine ⟨by simp [out, hres], by simp [out, hres], by simp [out, hres],
          respond_holds_grant c ht s x hr hgn, ?_, ?_⟩
  · have : s.lock = 0 ∨ s.lock = 1 := by omega
    rcases this with h | h <;> simp [next, req, resp, hres, h, bus, haw, hb, ctrNext]
  · rw [next_tm c ht, wNext_respond t _ hr, hi.1, hi.2.1, hi.2.2]; rfl

theorem silent_waiting (ht : c.t = some t) (hgn : g < c.n) (ys : List WBusIn) (n : Nat) (s : DState)
    (hg : s.grant = g) (hl : s.lock = 0) (htm : s.tm = { count := n + ys.length, respond := false })
    (hreq : ∀ y ∈ ys, ((y.ms g).awv || (y.ms g).wv) = true ∧ Silent y) :
    (((machine c).runFrom s ys).grant = g ∧ ((machine c).runFrom s ys).lock = 0 ∧
      ((machine c).runFrom s ys).tm = { count := n, respond := false }) ∧
    ∀ o ∈ (machine c).traceFrom s ys, o.error = false ∧ (o.toM g).awr = false ∧
      (o.toM g).wr = false ∧ (o.toM g).bv = false :=
  Machine.runFrom_countdown (machine c)
    (Inv := fun n s => s.grant = g ∧ s.lock = 0 ∧ s.tm = { count := n, respond := false })
    (fun n _ _ ⟨hg, hl, htm⟩ ⟨hoff, hsil⟩ => by
      obtain ⟨hawr, hwr, hbv, herr, hgrant, hlock, htm'⟩ := silent_wait_step ht hgn hg hl htm hoff hsil
      rw [WaitTimer.done_succ] at herr htm'
      rw [WaitTimer.next_succ_true] at htm'
      exact ⟨⟨hgrant, hlock, htm'⟩, herr, hawr, hwr, hbv⟩)
    ys n s ⟨hg, hl, htm⟩ hreq

/-- `ys`: the `t` quiet cycles; `x0`: the error pulse; `x1`: the offered beats are absorbed; `x2`: the forced `B` is
    taken. -/
theorem silent_timeout (ht : c.t = some t) {s : DState} (hgn : s.grant < c.n) (hl : s.lock = 0)
    (htm : s.tm = fInit t) {ys : List WBusIn} {x0 x1 x2 : WBusIn} (hlen : ys.length = t)
    (hreq : ∀ y ∈ ys ++ [x0, x1], ((y.ms s.grant).awv || (y.ms s.grant).wv) = true)
    (hsil : ∀ y ∈ ys ++ [x0], Silent y)
    (h2 : (x2.ms s.grant).awv = false ∧ (x2.ms s.grant).wv = false ∧ (x2.ms s.grant).br = true) :
    let g := s.grant
    let s0 := (machine c).runFrom s ys
    let s1 := next c s0 x0
    let s2 := next c s1 x1
    let s3 := next c s2 x2
    (∀ o ∈ (machine c).traceFrom s ys, o.error = false ∧ (o.toM g).awr = false ∧ (o.toM g).wr = false ∧
      (o.toM g).bv = false) ∧
    ((out c s0 x0).error = true ∧ ((out c s0 x0).toM g).awr = false ∧ ((out c s0 x0).toM g).wr = false ∧
      ((out c s0 x0).toM g).bv = false) ∧
    (((out c s1 x1).toM g).awr = (x1.ms g).awv ∧ ((out c s1 x1).toM g).wr = (x1.ms g).wv ∧
      ((out c s1 x1).toM g).bv = false ∧ (out c s1 x1).error = false ∧
      s2.lock = (if (x1.ms g).awv then 1 else 0)) ∧
    (((out c s2 x2).toM g).bv = true ∧ ((out c s2 x2).toM g).bresp = RESP_SLVERR ∧ (out c s2 x2).error = false) ∧
    (s3.grant = g ∧ s3.lock = 0 ∧ s3.tm = fInit t) := by
  intro g s0 s1 s2 s3
  -- `g_`, `l_`, `tm_`: grant, lock and FSM of state `s_`; `q`, `a_`, `b_`, `d_`: what `ys`, `x0`, `x1`, `x2` show
  obtain ⟨⟨g0, l0, tm0⟩, q⟩ := silent_waiting ht hgn ys 0 s rfl hl (by rw [htm, Nat.zero_add, hlen]; rfl)
    fun y hy => ⟨hreq y (by simp [hy]), hsil y (by simp [hy])⟩
  obtain ⟨a1, a2, a3, a4, g1, l1, tm1⟩ :=
    silent_wait_step ht hgn g0 l0 tm0 (hreq x0 (by simp)) (hsil x0 (by simp))
  obtain ⟨b1, b2, b3, b4, g2, l2, tm2⟩ :=
    silent_absorb_step ht hgn g1 l1 (by rw [tm1]; rfl) (hreq x1 (by simp))
  obtain ⟨d1, d2, d3, g3, l3, tm3⟩ :=
    silent_b_step ht hgn g2 (by rw [l2]; split <;> omega) (by rw [tm2]) h2.1 h2.2.1 h2.2.2
  exact ⟨q, ⟨a4, a1, a2, a3⟩, ⟨b1, b2, b3, b4, l2⟩, ⟨d1, d2, d3⟩, g3, l3, tm3⟩

end SharedW

namespace SharedR
variable (c : Cfg)

theorem tRes_some {t : Nat} (ht : c.t = some t) (s : DState) (x : RBusIn) :
    tRes c s x = rOut c.full c.dw s.tm (tIn c s x) := by simp [tRes, ht]

theorem next_tm {t : Nat} (ht : c.t = some t) (s : DState) (x : RBusIn) :
    (next c s x).tm = rNext c.full c.dw t s.tm (tIn c s x) := by simp [next, ht]

def ownerWaits (s : DState) (x : RBusIn) : Bool :=
  !s.tm.respond && ((x.ms s.grant).arv && !((out c s x).toM s.grant).arr)

def waits : DState → List RBusIn → List Bool
  | _, [] => []
  | s, x :: xs => ownerWaits c s x :: waits (next c s x) xs

def waited (xs : List RBusIn) : Nat := WaitTimer.streak (waits c (dInit c) xs)

theorem ownerWaits_eq {t : Nat} (ht : c.t = some t) (s : DState) (x : RBusIn) :
    ownerWaits c s x = rWait s.tm (tIn c s x) := by
  cases hr : s.tm.respond
  · simp [ownerWaits, out, tRes_some c ht, rWait, rWaitCond, rOut, hr, tIn, bus]
  · simp [ownerWaits, rWait, hr]

theorem not_respond_of_ownerWaits {s : DState} {x : RBusIn} (h : ownerWaits c s x = true) : s.tm.respond = false := by
  cases hr : s.tm.respond
  · rfl
  · simp [ownerWaits, hr] at h

theorem out_error {t : Nat} (ht : c.t = some t) (s : DState) (x : RBusIn) :
    (out c s x).error = (WaitTimer.done s.tm.count && ownerWaits c s x) := by
  show (tRes c s x).error = _
  rw [ownerWaits_eq c ht, tRes_some c ht]
  cases hr : s.tm.respond <;> simp [rOut, rWait, hr]

theorem next_respond_of_wait {t : Nat} (ht : c.t = some t) (s : DState) (x : RBusIn) (hr : s.tm.respond = false) :
    (next c s x).tm.respond = (out c s x).error := by
  show _ = (tRes c s x).error
  rw [next_tm c ht, tRes_some c ht, rNext_wait _ _ t _ hr, rOut_wait _ _ _ hr]

theorem timed {t : Nat} (ht : c.t = some t) : TimedDir (machine c) t (ownerWaits c) (waits c) (·.error) where
  nil _ := rfl
  cons _ _ _ := rfl
  init := by simp [machine, dInit, ht]
  count s x := by rw [ownerWaits_eq c ht]; exact congrArg FState.count (next_tm c ht s x)
  error := out_error c ht
  respond := next_respond_of_wait c ht
  wait_only _ _ := not_respond_of_ownerWaits c

theorem grant_lt_step (s : DState) (x : RBusIn) (h : s.grant < c.n) : (next c s x).grant < c.n :=
  RoundRobin.next_lt .ce _ _ h

theorem grant_lt (hn : 0 < c.n) (xs : List RBusIn) : ((machine c).run xs).grant < c.n :=
  Machine.invariant_runFrom (machine c) (fun s => s.grant < c.n) (fun s x h => grant_lt_step c s x h)
    xs (machine c).init hn

/-- Read direction: `AXI(Lite)InterconnectShared(timeout_cycles=None)` with otherwise the same parameters. -/
def noT (c : Cfg) : Cfg := { c with t := none }

theorem sim_wait {t : Nat} (ht : c.t = some t) (s s0 : DState) (x : RBusIn) (h : Sim s s0) :
    (∀ i, (out c s x).toM i = (out (noT c) s0 x).toM i) ∧ (∀ j, (out c s x).toS j = (out (noT c) s0 x).toS j) ∧
    ownerWaits c s x = ownerWaits (noT c) s0 x ∧
    (next c s x).grant = (next (noT c) s0 x).grant ∧ (next c s x).lock = (next (noT c) s0 x).lock ∧
    (next c s x).selReg = (next (noT c) s0 x).selReg := by
  obtain ⟨hg, hl, hs, hr, hr0⟩ := h
  have e : tRes c s x =
      { tRes (noT c) s0 x with error := WaitTimer.done s.tm.count && rWaitCond (tIn c s x) } := by
    have hin : tIn c s x = tIn (noT c) s0 x := by simp only [tIn, sel, selOf, bus, hg, hl, hs, noT]
    rw [tRes_some c ht, rOut_wait _ _ _ hr, hin]; rfl
  have hrr : rrReq c s x = rrReq (noT c) s0 x := by funext i; simp only [rrReq, e, hg]
  refine ⟨?_, ?_, ?_, ?_, ?_, ?_⟩
  · intro i; simp only [out, e, hg]
  · intro j; simp [out, sel, selOf, bus, hg, hl, hs, noT]
  · simp only [ownerWaits, out, e, hg, hr, hr0]
  · simp only [next, ce, hrr, e, bus, hg, hl]; rfl
  · simp only [next, req, resp, e, bus, hg, hl]; rfl
  · simp [next, selRegNext, bus, hg, hl, hs, noT]

theorem reference {t : Nat} (ht : c.t = some t) :
    Reference (machine c) (ownerWaits c) (machine (noT c)) (ownerWaits (noT c)) (waits (noT c)) where
  nil _ := rfl
  cons _ _ _ := rfl
  init := ⟨rfl, rfl, rfl, rfl, rfl⟩
  step s s0 x h := (sim_wait c ht s s0 x h).2.2
  tm _ _ := rfl

def Silent (x : RBusIn) : Prop := ∀ j, (x.ss j).arr = false ∧ (x.ss j).rv = false

theorem tIn_silent (s : DState) (x : RBusIn) (h : Silent x) :
    (tIn c s x).arr = false ∧ (tIn c s x).rv = false :=
  ⟨orAll_false (fun j => by simp [(h j).1]), orAll_false (fun j => by simp [(h j).2])⟩

theorem respond_holds_grant {t : Nat} (ht : c.t = some t) (s : DState) (x : RBusIn)
    (hr : s.tm.respond = true) (hg : s.grant < c.n) : (next c s x).grant = s.grant := by
  have hce : ce c s x = false := by
    simp only [ce, tRes_some c ht, rOut_respond _ _ _ hr, tIn]
    cases (bus s x).arv <;> simp
  simp only [next, hce]
  exact RoundRobin.next_ce_hold _ hg

variable {c} {t g : Nat}

theorem silent_wait_step (ht : c.t = some t) (hgn : g < c.n) {s : DState} {cnt : Nat} {x : RBusIn}
    (hg : s.grant = g) (hl : s.lock = 0) (htm : s.tm = { count := cnt, respond := false })
    (har : (x.ms g).arv = true) (hsil : Silent x) :
    ((out c s x).toM g).arr = false ∧ ((out c s x).toM g).rv = false ∧ (out c s x).error = WaitTimer.done cnt ∧
    (next c s x).grant = g ∧ (next c s x).lock = 0 ∧
    (next c s x).tm = { count := WaitTimer.next t cnt true, respond := WaitTimer.done cnt } := by
  subst hg
  obtain ⟨h1, h2⟩ := tIn_silent c s x hsil
  have hwc : rWaitCond (tIn c s x) = true := by simp only [rWaitCond, h1]; simpa [tIn, bus] using har
  have hres : (tRes c s x).arr = false ∧ (tRes c s x).rv = false ∧ (tRes c s x).error = WaitTimer.done cnt := by
    rw [tRes_some c ht, htm, rOut_wait _ _ _ rfl, hwc, Bool.and_true]; exact ⟨h1, h2, rfl⟩
  have hce : ce c s x = false := by simp [ce, bus, har]
  refine ⟨by simp [out, hres.1], by simp [out, hres.2.1], hres.2.2, ?_, ?_, ?_⟩
  · simp only [next, hce]; exact RoundRobin.next_ce_hold _ hgn
  · simp [next, req, resp, hres.1, hres.2.1, hl, ctrNext_idle]
  · rw [next_tm c ht, htm, rNext_wait _ _ t _ rfl, hwc, Bool.and_true]

theorem silent_absorb_step (ht : c.t = some t) (hgn : g < c.n) {s : DState} {x : RBusIn}
    (hg : s.grant = g) (hl : s.lock = 0) (hr : s.tm.respond = true) (har : (x.ms g).arv = true) :
    ((out c s x).toM g).arr = true ∧ ((out c s x).toM g).rv = false ∧ (out c s x).error = false ∧
    (next c s x).grant = g ∧ (next c s x).lock = 1 ∧ (next c s x).tm = { count := t, respond := true } := by
  subst hg
  have hi : (tIn c s x).arv = true := har
  have hres : (tRes c s x).arr = true ∧ (tRes c s x).rv = false ∧ (tRes c s x).error = false := by
    rw [tRes_some c ht, rOut_respond _ _ _ hr, hi]; exact ⟨rfl, rfl, rfl⟩
  refine ⟨by simp [out, hres.1], by simp [out, hres.2.1], hres.2.2,
          respond_holds_grant c ht s x hr hgn, ?_, ?_⟩
  · simp [next, req, resp, hres.1, hres.2.1, hl, bus, har, ctrNext]
  · rw [next_tm c ht, rNext_respond _ _ t _ hr, hi]; rfl

theorem silent_r_step (ht : c.t = some t) (hgn : g < c.n) {s : DState} {x : RBusIn}
    (hg : s.grant = g) (hl : s.lock = 1) (hr : s.tm.respond = true)
    (har : (x.ms g).arv = false) (hb : (x.ms g).rr = true) :
    ((out c s x).toM g).rv = true ∧ ((out c s x).toM g).rresp = RESP_SLVERR ∧
    ((out c s x).toM g).rdata = ones c.dw ∧ (c.full = true → ((out c s x).toM g).rlast = true) ∧
    (out c s x).error = false ∧
    (next c s x).grant = g ∧ (next c s x).lock = 0 ∧ (next c s x).tm = fInit t := by
  subst hg
  have hi : (tIn c s x).arv = false ∧ (tIn c s x).rr = true := ⟨har, hb⟩
  have hres : tRes c s x = { arr := false, rv := true, rresp := RESP_SLVERR, rdata := ones c.dw,
                             rlast := if c.full then true else (tIn c s x).rlast, error := false } := by
    rw [tRes_some c ht, rOut_respond _ _ _ hr, hi.1]; rfl
  have hresp : resp c s x = true := by cases hf : c.full <;> simp [resp, hres, bus, hb, hf]
  refine ⟨by simp [out, hres], by simp [out, hres], by simp [out, hres], fun hf => by simp [out, hres, hf],
          by simp [out, hres], respond_holds_grant c ht s x hr hgn, ?_, ?_⟩
  · simp [next, req, hresp, hres, hl, bus, har, ctrNext]
  · rw [next_tm c ht, rNext_respond _ _ t _ hr, hi.1, hi.2]; rfl

theorem silent_waiting (ht : c.t = some t) (hgn : g < c.n) (ys : List RBusIn) (n : Nat) (s : DState)
    (hg : s.grant = g) (hl : s.lock = 0) (htm : s.tm = { count := n + ys.length, respond := false })
    (hreq : ∀ y ∈ ys, (y.ms g).arv = true ∧ Silent y) :
    (((machine c).runFrom s ys).grant = g ∧ ((machine c).runFrom s ys).lock = 0 ∧
      ((machine c).runFrom s ys).tm = { count := n, respond := false }) ∧
    ∀ o ∈ (machine c).traceFrom s ys, o.error = false ∧ (o.toM g).arr = false ∧ (o.toM g).rv = false :=
  Machine.runFrom_countdown (machine c)
    (Inv := fun n s => s.grant = g ∧ s.lock = 0 ∧ s.tm = { count := n, respond := false })
    (fun n _ _ ⟨hg, hl, htm⟩ ⟨har, hsil⟩ => by
      obtain ⟨harr, hrv, herr, hgrant, hlock, htm'⟩ := silent_wait_step ht hgn hg hl htm har hsil
      rw [WaitTimer.done_succ] at herr htm'
      rw [WaitTimer.next_succ_true] at htm'
      exact ⟨⟨hgrant, hlock, htm'⟩, herr, harr, hrv⟩)
    ys n s ⟨hg, hl, htm⟩ hreq

end SharedR

end Litex.Timeout.Axi
