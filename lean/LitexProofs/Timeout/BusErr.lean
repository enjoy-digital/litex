import LitexModel.Timeout.Soc
/-
  The saturating bus error counter: value after a history = min (start + pulses) max, for the counter alone and
  for any machine that carries one; then the SoC-level models (`LitexModel/Timeout/Soc.lean`), where the counter is
  fed by the interconnect's `timeout.error`.
-/
namespace Litex.Timeout.BusErr
open Litex

theorem next_le (w c : Nat) (p : Bool) (h : c ≤ maxVal w) : next w c p ≤ maxVal w := by
  unfold next
  by_cases hc : c = maxVal w
  · simp [hc]
  · cases p <;> simp [hc] <;> omega

/-- One step under the saturating `min`; `k` = the pulses still to come, so that the lemma chains along a run
    (`counter_runFrom`). -/
theorem next_spec (w c : Nat) (p : Bool) (k : Nat) :
    min (next w c p + k) (maxVal w) = min (c + ((if p then 1 else 0) + k)) (maxVal w) := by
  unfold next
  by_cases hc : c = maxVal w
  · rw [hc, Nat.min_eq_right (Nat.le_add_right _ _)]; simp
  · cases p <;> simp [hc, Nat.add_assoc]

theorem pulses_cons (b : Bool) (l : List Bool) : pulses (b :: l) = (if b then 1 else 0) + pulses l := by
  cases b <;> simp [pulses] <;> omega

/-- A machine whose state holds the counter (`errs`), pulsed by `e s x`; `es s xs` lists the pulses along the run
    over `xs` from `s`. -/
theorem counter_runFrom {ι σ ο : Type} (m : Machine ι σ ο) {w : Nat} {errs : σ → Nat} {e : σ → ι → Bool}
    {es : σ → List ι → List Bool} (hnil : ∀ s, es s [] = [])
    (hcons : ∀ s x xs, es s (x :: xs) = e s x :: es (m.next s x) xs)
    (hstep : ∀ s x, errs (m.next s x) = next w (errs s) (e s x)) :
    ∀ (xs : List ι) (s : σ), errs s ≤ maxVal w →
      errs (m.runFrom s xs) = min (errs s + pulses (es s xs)) (maxVal w) := by
  intro xs
  induction xs with
  | nil => intro s h; rw [hnil]; exact (Nat.min_eq_left h).symm
  | cons x xs ih =>
    intro s h
    show errs (m.runFrom (m.next s x) xs) = _
    rw [ih _ (hstep s x ▸ next_le w _ _ h), hstep, next_spec, hcons, pulses_cons]

theorem runFrom_spec (w : Nat) (l : List Bool) (i c0 : Nat) (h : c0 ≤ maxVal w) :
    (machine w i).runFrom c0 l = min (c0 + pulses l) (maxVal w) :=
  counter_runFrom (machine w i) (errs := id) (es := fun _ l => l) (fun _ => rfl) (fun _ _ _ => rfl)
    (fun _ _ => rfl) l c0 h

theorem pulses_or_and (a b : List Bool) :
    pulses (List.zipWith (· || ·) a b) + pulses (List.zipWith (· && ·) a b) =
      pulses (a.take b.length) + pulses (b.take a.length) := by
  induction a generalizing b with
  | nil => simp [pulses]
  | cons x a ih =>
    cases b with
    | nil => simp [pulses]
    | cons y b =>
      simp only [List.zipWith_cons_cons, List.length_cons, List.take_succ_cons, pulses_cons]
      have hxy : (if (x || y) = true then 1 else 0) + (if (x && y) = true then 1 else 0) =
          (if x = true then 1 else 0) + (if y = true then 1 else 0) := by cases x <;> cases y <;> rfl
      have := ih b
      omega

end Litex.Timeout.BusErr

namespace Litex.Timeout
open Litex

def Wb.Soc.errors (c : Wb.Cfg) (s : Wb.State) (xs : List Wb.BusIn) : List Bool :=
  ((Wb.Shared.machine c).traceFrom s xs).map (·.error)

theorem Wb.Soc.runFrom_errs (c : Wb.Cfg) (wd e0 : Nat) (xs : List Wb.BusIn) (s : Wb.SocState)
    (h : s.errs ≤ BusErr.maxVal wd) :
    ((Wb.Soc.machine c wd e0).runFrom s xs).errs =
      min (s.errs + BusErr.pulses (Wb.Soc.errors c s.ic xs)) (BusErr.maxVal wd) :=
  BusErr.counter_runFrom (Wb.Soc.machine c wd e0) (errs := (·.errs))
    (e := fun s x => (Wb.Shared.out c s.ic x).error) (es := fun s => Wb.Soc.errors c s.ic)
    (fun _ => rfl) (fun _ _ _ => rfl) (fun _ _ => rfl) xs s h

/-- `ctrl.bus_error = wr_error | rd_error`. -/
def Axi.Soc.errors (c : Axi.Cfg) (s : Axi.SocState) (xs : List Axi.SocIn) : List Bool :=
  List.zipWith (· || ·) (((Axi.SharedW.machine c).traceFrom s.w (xs.map (·.xw))).map (·.error))
                        (((Axi.SharedR.machine c).traceFrom s.r (xs.map (·.xr))).map (·.error))

theorem Axi.Soc.runFrom_errs (c : Axi.Cfg) (wd e0 : Nat) (xs : List Axi.SocIn) (s : Axi.SocState)
    (h : s.errs ≤ BusErr.maxVal wd) :
    ((Axi.Soc.machine c wd e0).runFrom s xs).errs =
      min (s.errs + BusErr.pulses (Axi.Soc.errors c s xs)) (BusErr.maxVal wd) :=
  BusErr.counter_runFrom (Axi.Soc.machine c wd e0) (errs := (·.errs)) (e := Axi.Soc.busError c)
    (es := Axi.Soc.errors c) (fun _ => rfl) (fun _ _ _ => rfl) (fun _ _ => rfl) xs s h

end Litex.Timeout
