import LitexModel.Csr.Layout
import Mathlib.Data.List.Forall2
/-
  `CSRFieldAggregate.check_ordering_overlap`: resolved fields keep their declared offsets, are sorted and do not
  overlap; a declared offset below the end of the preceding field is rejected.
-/
namespace Litex.Csr
open Litex

/-- First free bit after the resolved fields `fs` (which started at `off`). -/
def fieldsEnd : Nat → List FieldSpec → Nat
  | off, [] => off
  | _, f :: fs => fieldsEnd (f.offset + f.size) fs

/-- For a whole register (`off = 0`) this is `CSRFieldAggregate.get_size`. -/
theorem fieldsEnd_eq_size (fs : List FieldSpec) : fieldsEnd 0 fs = fieldsSize fs := by
  have key : ∀ (fs : List FieldSpec) (off : Nat),
      fieldsEnd off fs = match fs.getLast? with
        | some f => f.offset + f.size
        | none => off := by
    intro fs
    induction fs with
    | nil => intro off; rfl
    | cons f fs ih =>
      intro off
      simp only [fieldsEnd, ih, List.getLast?_cons]
      cases fs.getLast? <;> rfl
  exact key fs 0

def FieldMatches (d : FieldDecl) (f : FieldSpec) : Prop :=
  f.size = d.size ∧ f.reset = d.reset ∧ f.pulse = d.pulse ∧ ∀ o, d.offset = some o → f.offset = o

/-- The field `check_ordering_overlap` makes of declaration `d` when the running offset is `off`. -/
def placeField (off : Nat) (d : FieldDecl) : FieldSpec :=
  { size := d.size, offset := d.offset.getD off, reset := d.reset, pulse := d.pulse }

/-- Both branches at once: only a declared offset can lie below the running one, so one test serves both. -/
theorem resolve_step (off : Nat) (d : FieldDecl) (ds : List FieldDecl) :
    resolveFieldsFrom off (d :: ds) =
      if (placeField off d).offset < off then none
      else (resolveFieldsFrom ((placeField off d).offset + d.size) ds).map (placeField off d :: ·) := by
  cases h : d.offset <;> simp [resolveFieldsFrom, placeField, h]

theorem placeField_matches (off : Nat) (d : FieldDecl) : FieldMatches d (placeField off d) :=
  ⟨rfl, rfl, rfl, fun o h => by rw [placeField, h]; rfl⟩

theorem placeField_mono {off off' : Nat} (h : off ≤ off') (d : FieldDecl) :
    (placeField off d).offset ≤ (placeField off' d).offset ∧
    ((placeField off d).offset < off → (placeField off' d).offset < off') := by
  unfold placeField
  cases d.offset with
  | none => exact ⟨h, fun h' => absurd h' (Nat.lt_irrefl _)⟩
  | some o => exact ⟨Nat.le_refl _, fun h' => Nat.lt_of_lt_of_le h' h⟩

theorem resolve_cons (off : Nat) (d : FieldDecl) (ds : List FieldDecl) (fs : List FieldSpec)
    (h : resolveFieldsFrom off (d :: ds) = some fs) :
    ∃ rest, fs = placeField off d :: rest ∧ off ≤ (placeField off d).offset ∧
      resolveFieldsFrom ((placeField off d).offset + d.size) ds = some rest := by
  rw [resolve_step] at h
  split at h
  · cases h
  · rename_i hlt
    obtain ⟨rest, hr, rfl⟩ := Option.map_eq_some_iff.mp h
    exact ⟨rest, rfl, Nat.le_of_not_lt hlt, hr⟩

theorem resolve_lower_bound (ds : List FieldDecl) :
    ∀ off fs, resolveFieldsFrom off ds = some fs → ∀ f ∈ fs, off ≤ f.offset := by
  induction ds with
  | nil => intro off fs h; simp [resolveFieldsFrom] at h; subst h; simp
  | cons d ds ih =>
    intro off fs h f hf
    obtain ⟨rest, rfl, hle, hr⟩ := resolve_cons off d ds fs h
    cases hf with
    | head => exact hle
    | tail _ hm => exact Nat.le_trans (Nat.le_trans hle (Nat.le_add_right _ _)) (ih _ _ hr f hm)

theorem resolve_spec (ds : List FieldDecl) :
    ∀ off fs, resolveFieldsFrom off ds = some fs →
      List.Forall₂ FieldMatches ds fs ∧ List.Pairwise (fun f g => f.offset + f.size ≤ g.offset) fs := by
  induction ds with
  | nil => intro off fs h; simp [resolveFieldsFrom] at h; subst h; simp
  | cons d ds ih =>
    intro off fs h
    obtain ⟨rest, rfl, _, hr⟩ := resolve_cons off d ds fs h
    obtain ⟨h1, h2⟩ := ih _ _ hr
    exact ⟨List.Forall₂.cons (placeField_matches off d) h1,
      List.pairwise_cons.mpr ⟨fun g hg => resolve_lower_bound ds _ _ hr g hg, h2⟩⟩

theorem resolve_none_mono (ds : List FieldDecl) :
    ∀ off off', off ≤ off' → resolveFieldsFrom off ds = none → resolveFieldsFrom off' ds = none := by
  induction ds with
  | nil => intro off off' _ h; cases h
  | cons d ds ih =>
    intro off off' hle h
    obtain ⟨h1, h2⟩ := placeField_mono hle d
    rw [resolve_step] at h ⊢
    split
    · rfl
    · -- not rejected at `off'`, hence not at `off`: the tail is rejected, from a start that is not later
      rename_i hlt'
      rw [if_neg fun hlt => hlt' (h2 hlt), Option.map_eq_none_iff] at h
      rw [ih _ _ (Nat.add_le_add_right h1 _) h]
      rfl

theorem resolve_overlap_rejected (pre : List FieldDecl) :
    ∀ (off : Nat) (fs : List FieldSpec) (d : FieldDecl) (post : List FieldDecl) (o : Nat),
      resolveFieldsFrom off pre = some fs → d.offset = some o → o < fieldsEnd off fs →
      resolveFieldsFrom off (pre ++ d :: post) = none := by
  induction pre with
  | nil =>
    intro off fs d post o h ho hlt
    cases h
    rw [List.nil_append, resolve_step, if_pos (by rw [placeField, ho]; exact hlt)]
  | cons p pre ih =>
    intro off fs d post o h ho hlt
    obtain ⟨rest, rfl, hle, hr⟩ := resolve_cons off p pre fs h
    rw [List.cons_append, resolve_step, if_neg (Nat.not_lt.mpr hle), ih _ rest d post o hr ho hlt]
    rfl

theorem fieldOut_pulse (f : FieldSpec) (storage : Nat) (re : Bool) (hp : f.pulse = true) (hr : f.reset = 0)
    (h : fieldOut f storage re ≠ 0) : re = true ∧ fieldOut f storage re = slice f.offset f.size storage := by
  cases re
  · simp [fieldOut, hp, hr, trunc] at h
  · simp [fieldOut, hp]

end Litex.Csr
