import LitexModel.Csr.Bank
import LitexProofs.Csr.Layout
import LitexProofs.Bits
import Mathlib.Tactic.Ring
/-
  Step lemmas for the CSR bank: address decode (`hit`), per-register next state, strobes.  Half of them assume
  `c.Fits`: the decode indexes the simple CSRs by `adr % 2 ^ pbits`, so words beyond one page cannot be reached.
-/
namespace Litex.Csr
open Litex

namespace BankCfg

/-! ### `wordAdr` and the interface of `ValidWord` -/

theorem wordAdr_eq (c : BankCfg) (k j : Nat) : c.wordAdr k j = c.lowAdr k + posIn c.bw c.ord (c.spec k) j := by
  rw [wordAdr, lowAdr, addrOf, Nat.add_assoc]; rfl

/-- `ValidWord` is stated with `c.regs.getD k default`; everything else speaks of `c.spec k`. -/
theorem ValidWord.lt_nwords {c : BankCfg} {k j : Nat} (hv : c.ValidWord k j) (hraw : (c.spec k).kind ≠ .raw) :
    j < nwords c.bw (c.spec k).size :=
  regWords_of_not_raw c.bw (c.spec k) hraw ▸ hv.2

theorem validWord_of_lt {c : BankCfg} {k j : Nat} (hk : k < c.regs.length) (hraw : (c.spec k).kind ≠ .raw)
    (hj : j < nwords c.bw (c.spec k).size) : c.ValidWord k j :=
  ⟨hk, (regWords_of_not_raw c.bw (c.spec k) hraw).symm ▸ hj⟩

theorem validWord_raw_iff {c : BankCfg} {k j : Nat} (hk : k < c.regs.length) (hkind : (c.spec k).kind = .raw) :
    c.ValidWord k j ↔ j = 0 := by
  have : regWords c.bw (c.spec k) = 1 := by rw [regWords, hkind]
  exact ⟨fun hv => Nat.lt_one_iff.mp (this ▸ hv.2), fun hj => ⟨hk, hj ▸ this ▸ Nat.one_pos⟩⟩

/-! ### Decode (`hit_wordAdr` one way, `hit_coords` back; `hit_inv` is the ∃-form of the latter) -/

theorem wordAdr_div (c : BankCfg) (k j : Nat) (hfit : c.Fits) (hv : c.ValidWord k j) :
    c.wordAdr k j / 2 ^ c.pbits = c.address ∧ c.wordAdr k j % 2 ^ c.pbits = addrOf c.bw c.ord c.regs k j := by
  have hlt : addrOf c.bw c.ord c.regs k j < 2 ^ c.pbits :=
    Nat.lt_of_lt_of_le (addrOf_lt _ _ _ _ _ hv.1 hv.2) hfit
  exact ⟨mul_add_div_of_lt c.address hlt, mul_add_mod_of_lt c.address hlt⟩

theorem hit_wordAdr (c : BankCfg) (k j : Nat) (hfit : c.Fits) (hv : c.ValidWord k j) :
    c.hit (c.wordAdr k j) = some (c.simple k j) := by
  obtain ⟨h1, h2⟩ := wordAdr_div c k j hfit hv
  unfold hit sel
  rw [h1, h2]
  simp only [beq_self_eq_true, if_true]
  exact simpleCsrs_lookup _ _ _ _ _ hv.1 hv.2

theorem hit_inv (c : BankCfg) (a : Nat) (sc : Simple) (h : c.hit a = some sc) :
    ∃ k j, c.ValidWord k j ∧ sc = c.simple k j ∧ a = c.wordAdr k j := by
  unfold hit sel at h
  by_cases hs : a / 2 ^ c.pbits = c.address
  · simp only [hs, beq_self_eq_true, if_true] at h
    obtain ⟨k, j, hk, hj, hsc, ha⟩ := simpleCsrs_inv _ _ _ _ _ h
    refine ⟨k, j, ⟨hk, hj⟩, hsc, ?_⟩
    unfold wordAdr
    rw [← ha, ← hs, Nat.mul_comm]
    exact (Nat.div_add_mod a (2 ^ c.pbits)).symm
  · simp [hs] at h

theorem simple_reg (c : BankCfg) (k j : Nat) : (c.simple k j).reg = k := mkSimple_reg _ _ _ _ _

theorem simple_word (c : BankCfg) (k j : Nat) (hv : c.ValidWord k j) : (c.simple k j).word = j :=
  mkSimple_word _ _ _ _ _ hv.2

theorem hit_coords (c : BankCfg) {a : Nat} {sc : Simple} (h : c.hit a = some sc) :
    c.ValidWord sc.reg sc.word ∧ sc = c.simple sc.reg sc.word ∧ a = c.wordAdr sc.reg sc.word := by
  obtain ⟨k, j, hv, rfl, ha⟩ := c.hit_inv a sc h
  rw [c.simple_reg, c.simple_word k j hv]
  exact ⟨hv, rfl, ha⟩

theorem wordAdr_injective (c : BankCfg) (k j k' j' : Nat) (hv : c.ValidWord k j) (hv' : c.ValidWord k' j')
    (h : c.wordAdr k j = c.wordAdr k' j') : k = k' ∧ j = j' := by
  unfold wordAdr at h
  exact addrOf_injective c.bw c.ord c.regs k j k' j' hv.1 hv.2 hv'.1 hv'.2 (by omega)

theorem hitReg_wordAdr (c : BankCfg) (k j : Nat) (hfit : c.Fits) (hv : c.ValidWord k j) :
    c.hitReg (c.wordAdr k j) k = some (c.simple k j) := by
  unfold hitReg
  rw [hit_wordAdr c k j hfit hv]
  simp [simple_reg]

theorem hitReg_wordAdr_other (c : BankCfg) (k j k' : Nat) (hfit : c.Fits) (hv : c.ValidWord k j)
    (hne : k' ≠ k) : c.hitReg (c.wordAdr k j) k' = none := by
  unfold hitReg
  rw [hit_wordAdr c k j hfit hv]
  simp [simple_reg, Ne.symm hne]

theorem hitReg_inv (c : BankCfg) (a k : Nat) (sc : Simple) (h : c.hitReg a k = some sc) :
    ∃ j, c.ValidWord k j ∧ sc = c.simple k j ∧ a = c.wordAdr k j := by
  unfold hitReg at h
  split at h
  · split at h
    · rename_i sc' hh hr
      cases h
      exact hr ▸ ⟨_, c.hit_coords hh⟩
    · cases h
  · cases h

theorem hitReg_none_of_ne (c : BankCfg) (a k : Nat)
    (h : ∀ j, c.ValidWord k j → a ≠ c.wordAdr k j) : c.hitReg a k = none := by
  cases hh : c.hitReg a k with
  | none => rfl
  | some sc =>
    obtain ⟨j, hv, _, ha⟩ := hitReg_inv c a k sc hh
    exact absurd ha (h j hv)

theorem hit_none_of_unselected (c : BankCfg) (a : Nat) (h : c.sel a = false) : c.hit a = none := by
  rw [hit, h]
  rfl

theorem hitReg_none_of_unselected (c : BankCfg) (a k : Nat) (h : c.sel a = false) : c.hitReg a k = none := by
  rw [hitReg, hit_none_of_unselected c a h]

theorem write_hit_none (c : BankCfg) (i : BankIn) (k : Nat)
    (h : i.bus.we = false ∨ ∀ j, c.ValidWord k j → i.bus.adr ≠ c.wordAdr k j) :
    (if i.bus.we then c.hitReg i.bus.adr k else none) = none := by
  cases h with
  | inl h => rw [h]; rfl
  | inr h => rw [c.hitReg_none_of_ne _ _ h, ite_self]

end BankCfg

theorem next_reg (c : BankCfg) (s : BankState) (i : BankIn) (k : Nat) (hk : k < c.regs.length) :
    ((bank c).next s i).reg k =
      regNext c.bw (c.spec k) (s.reg k) (if i.bus.we then c.hitReg i.bus.adr k else none) i.bus.datW
        (i.devOf k) :=
  getD_mapIdx _ c.regs k hk default default

theorem next_reg_write (c : BankCfg) (hfit : c.Fits) (s : BankState) (i : BankIn) (k j : Nat) (hv : c.ValidWord k j)
    (hwe : i.bus.we = true) (hadr : i.bus.adr = c.wordAdr k j) :
    ((bank c).next s i).reg k =
      regNext c.bw (c.spec k) (s.reg k) (some (c.simple k j)) i.bus.datW (i.devOf k) := by
  rw [next_reg c s i k hv.1, hwe, if_pos rfl, hadr, c.hitReg_wordAdr k j hfit hv]

theorem next_reg_cases (c : BankCfg) (s : BankState) (i : BankIn) (k : Nat) (hk : k < c.regs.length) :
    ((bank c).next s i).reg k = regNext c.bw (c.spec k) (s.reg k) none i.bus.datW (i.devOf k) ∨
    ∃ j, c.ValidWord k j ∧
      ((bank c).next s i).reg k = regNext c.bw (c.spec k) (s.reg k) (some (c.simple k j)) i.bus.datW (i.devOf k) := by
  rw [next_reg c s i k hk]
  split
  · cases hh : c.hitReg i.bus.adr k with
    | none => exact .inl rfl
    | some sc =>
      obtain ⟨j, hv, rfl, -⟩ := c.hitReg_inv _ _ _ hh
      exact .inr ⟨j, hv, rfl⟩
  · exact .inl rfl

theorem next_datR (c : BankCfg) (s : BankState) (i : BankIn) :
    ((bank c).next s i).datR =
      match c.hit i.bus.adr with
      | some sc => wordVal (c.spec sc.reg) (s.reg sc.reg) (i.devOf sc.reg) sc
      | none => 0 := rfl

theorem next_regs_length (c : BankCfg) (s : BankState) (i : BankIn) :
    ((bank c).next s i).regs.length = c.regs.length :=
  List.length_mapIdx

theorem simple_last (c : BankCfg) (k j : Nat) (hkind : (c.spec k).kind ≠ .raw) :
    (c.simple k j).last = (j == lastWord c.ord (nwords c.bw (c.spec k).size)) := by
  unfold BankCfg.simple mkSimple
  cases h : (c.spec k).kind <;> simp_all

theorem simple_lo (c : BankCfg) (k j : Nat) (hkind : (c.spec k).kind ≠ .raw) :
    (c.simple k j).lo = j * c.bw ∧ (c.simple k j).nbits = wordBits c.bw (c.spec k).size j := by
  unfold BankCfg.simple mkSimple
  cases h : (c.spec k).kind <;> simp_all

/-! ### The branches of `regNext`, one equation each -/

section
variable {bw : Nat} {r : RegSpec} {s : RegState} {sc : Simple} {datW : Nat} {d : Dev}

theorem regNext_none_storage (hk : r.kind = .storage) :
    regNext bw r s none datW d = { s with val := devVal r s d, re := false } := by
  simp only [regNext, hk]

theorem regNext_plain (hk : r.kind = .storage) (hna : isAtomic bw r = false) :
    regNext bw r s (some sc) datW d =
      { s with val := setSlice sc.lo sc.nbits (devVal r s d) datW, re := sc.last } := by
  simp only [regNext, hk, hna]; rfl

theorem regNext_stage (hk : r.kind = .storage) (hat : isAtomic bw r = true) (hw : sc.word ≠ 0) :
    regNext bw r s (some sc) datW d =
      { val := devVal r s d, back := s.back.set (sc.word - 1) (trunc sc.nbits datW), re := sc.last } := by
  simp only [regNext, hk, hat, hw, if_true, if_false]

theorem regNext_commit (hk : r.kind = .storage) (hat : isAtomic bw r = true) (hw : sc.word = 0) :
    regNext bw r s (some sc) datW d =
      { s with val := trunc r.size (cat ((bw, datW) :: backPairs bw r.size s.back 1)), re := sc.last } := by
  simp only [regNext, hk, hat, hw, if_true]

theorem regNext_status_write (hk : r.kind = .status) :
    regNext bw r s (some sc) datW d =
      { s with val := if r.wfd then setSlice sc.lo sc.nbits s.val datW else s.val, re := sc.last } := by
  simp only [regNext, hk]

end

theorem next_reg_no_write (c : BankCfg) (s : BankState) (i : BankIn) (k : Nat) (hk : k < c.regs.length)
    (hkind : (c.spec k).kind ≠ .raw) (h : (if i.bus.we then c.hitReg i.bus.adr k else none) = none) :
    (((bank c).next s i).reg k).re = false ∧ (((bank c).next s i).reg k).back = (s.reg k).back ∧
    (((bank c).next s i).reg k).val =
      if (c.spec k).kind = .storage then devVal (c.spec k) (s.reg k) (i.devOf k) else (s.reg k).val := by
  rw [next_reg c s i k hk, h]
  unfold regNext
  cases hkd : (c.spec k).kind
  · exact ⟨rfl, rfl, (if_pos rfl).symm⟩
  · exact ⟨rfl, rfl, (if_neg (by decide)).symm⟩
  · exact absurd hkd hkind

theorem regNext_re (bw : Nat) (r : RegSpec) (s : RegState) (w : Option Simple) (datW : Nat) (d : Dev)
    (hkind : r.kind ≠ .raw) :
    (regNext bw r s w datW d).re = match w with | some sc => sc.last | none => false := by
  unfold regNext
  cases hkd : r.kind
  · cases w with
    | none => rfl
    | some sc =>
      simp only []
      split
      · split <;> rfl
      · rfl
  · cases w <;> rfl
  · exact absurd hkd hkind

theorem hitReg_last (c : BankCfg) (hfit : c.Fits) (a k : Nat) (hk : k < c.regs.length)
    (hkind : (c.spec k).kind ≠ .raw) (hsz : 0 < nwords c.bw (c.spec k).size) :
    (match c.hitReg a k with | some sc => sc.last | none => false) =
      decide (a = c.wordAdr k (lastWord c.ord (nwords c.bw (c.spec k).size))) := by
  have hvl : c.ValidWord k (lastWord c.ord (nwords c.bw (c.spec k).size)) :=
    BankCfg.validWord_of_lt hk hkind (lastWord_lt _ _ hsz)
  cases hh : c.hitReg a k with
  | none =>
    refine (decide_eq_false fun h => ?_).symm
    rw [h, c.hitReg_wordAdr k _ hfit hvl] at hh
    cases hh
  | some sc =>
    obtain ⟨j, hv, hsc, ha⟩ := c.hitReg_inv _ _ _ hh
    simp only [hsc, simple_last c k j hkind, ha]
    by_cases hj : j = lastWord c.ord (nwords c.bw (c.spec k).size)
    · rw [hj, beq_self_eq_true, decide_eq_true rfl]
    · rw [beq_false_of_ne hj, decide_eq_false fun h => hj (c.wordAdr_injective _ _ _ _ hv hvl h).2]

theorem nwords_gt_of_atomic {bw : Nat} {r : RegSpec} (h : isAtomic bw r = true) : 1 < nwords bw r.size := by
  unfold isAtomic at h
  simp only [Bool.and_eq_true, decide_eq_true_eq] at h
  exact h.2

theorem size_gt_of_atomic (bw : Nat) (r : RegSpec) (h : isAtomic bw r = true) : bw < r.size :=
  Nat.one_mul bw ▸ word_lo_lt bw r.size 1 (nwords_gt_of_atomic h)

end Litex.Csr
