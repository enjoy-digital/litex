import LitexModel.Csr.Sram
import LitexProofs.Bits
import Mathlib.Tactic.Ring
/-
  The CSR memory window.  `sram_next_mem` and `sram_next_read` are the clock edge written out (which word is written
  when, which sub-word is read); everything else reads them.  For one bus word per memory word: the stored word and the
  read data (`sram_commit_word_narrow`, `sram_read_narrow`); for `cpm` bus words per memory word: the order in which the
  staged sub-words end up in the memory word (`sram_staging_order`).
-/
namespace Litex.Csr
open Litex

theorem sram_next_mem (c : SramCfg) (s : SramState) (i : SramIn) :
    ((sram c).next s i).mem =
      if (c.sel i.bus.adr && i.bus.we && !c.readOnly) && (i.bus.adr % 2 ^ c.wb == c.cpm - 1) then
        s.mem.set (c.clampAdr (c.portAdr i.bus.adr i.page))
          (trunc c.width (cat ((c.bw, i.bus.datW) :: s.wregs.reverse.map fun w => (c.bw, w))))
      else s.mem := rfl

theorem sram_next_read (c : SramCfg) (s : SramState) (i : SramIn) :
    sramDatR c ((sram c).next s i) =
      if c.sel i.bus.adr then
        slice ((c.cpm - 1 - i.bus.adr % 2 ^ c.wb) * c.bw) c.bw
          (trunc (c.cpm * c.bw) (((sram c).next s i).mem.getD (c.clampAdr (c.portAdr i.bus.adr i.page)) 0))
      else 0 := rfl

theorem trunc_trunc_ge (a b n : Nat) (h : a ≤ b) : trunc a (trunc b n) = trunc a n := by
  unfold trunc
  exact Nat.mod_mod_of_dvd n (Nat.pow_dvd_pow 2 h)

theorem wb_of_cpm_one {c : SramCfg} (hcpm : c.cpm = 1) : c.wb = 0 := by simp [SramCfg.wb, hcpm, log2ceil]

theorem sram_commit_word_narrow (c : SramCfg) (s : SramState) (i : SramIn) (hcpm : c.cpm = 1) (hw : c.width ≤ c.bw)
    (hro : c.readOnly = false) (hsel : c.sel i.bus.adr = true) (hwe : i.bus.we = true)
    (hin : c.clampAdr (c.portAdr i.bus.adr i.page) < s.mem.length) :
    ((sram c).next s i).mem.getD (c.clampAdr (c.portAdr i.bus.adr i.page)) 0 = trunc c.width i.bus.datW := by
  rw [sram_next_mem]
  simp only [hsel, hwe, hro, hcpm, wb_of_cpm_one hcpm, Nat.pow_zero, Nat.mod_one, Bool.not_false, Bool.and_self,
    Nat.sub_self, beq_self_eq_true, if_true]
  rw [List.getD_eq_getElem?_getD, List.getElem?_set_self hin, Option.getD_some, trunc_cat_head _ _ hw]

/-- Migen write-first port: the word read is the word as it is after the cycle. -/
theorem sram_read_narrow (c : SramCfg) (s : SramState) (i : SramIn) (hcpm : c.cpm = 1)
    (hsel : c.sel i.bus.adr = true) :
    sramDatR c ((sram c).next s i) =
      trunc c.bw (((sram c).next s i).mem.getD (c.clampAdr (c.portAdr i.bus.adr i.page)) 0) := by
  rw [sram_next_read]
  simp only [hsel, if_true, hcpm, wb_of_cpm_one hcpm, Nat.pow_zero, Nat.mod_one, Nat.sub_self, Nat.zero_mul,
    Nat.one_mul, slice_zero, trunc_trunc]

/-- Entry `k` of the staging registers is chunk `length - k` of `Cat(dat_w, wregs[last], …, wregs[0])`. -/
theorem getD_cons_reverse (d : Nat) (l : List Nat) (k : Nat) (hk : k < l.length) :
    (d :: l.reverse).getD (l.length - k) 0 = l.getD k 0 := by
  obtain ⟨p, hp⟩ := Nat.exists_eq_add_of_lt hk
  rw [hp, Nat.add_assoc, Nat.add_sub_cancel_left, List.getD_cons_succ, List.getD_eq_getElem?_getD,
    List.getD_eq_getElem?_getD, List.getElem?_reverse (hp ▸ Nat.lt_succ_of_le (Nat.le_add_left p k)),
    hp, Nat.add_sub_cancel, Nat.add_sub_cancel]

theorem sram_staging_order (c : SramCfg) (s : SramState) (i : SramIn)
    (hw : c.width = c.cpm * c.bw) (hcpm : 0 < c.cpm) (hlen : s.wregs.length = c.cpm - 1)
    (hro : c.readOnly = false) (hsel : c.sel i.bus.adr = true) (hwe : i.bus.we = true)
    (hsub : i.bus.adr % 2 ^ c.wb = c.cpm - 1)
    (hin : c.clampAdr (c.portAdr i.bus.adr i.page) < s.mem.length) :
    let word := ((sram c).next s i).mem.getD (c.clampAdr (c.portAdr i.bus.adr i.page)) 0
    slice 0 c.bw word = i.bus.datW % 2 ^ c.bw ∧
    ∀ k, k < c.cpm - 1 → slice ((c.cpm - 1 - k) * c.bw) c.bw word = (s.wregs.getD k 0) % 2 ^ c.bw := by
  intro word
  have hword : word = trunc c.width (cat ((i.bus.datW :: s.wregs.reverse).map fun v => (c.bw, v))) := by
    simp only [word, sram_next_mem, hsel, hwe, hro, hsub, Bool.not_false, Bool.and_self, beq_self_eq_true, if_true]
    rw [List.getD_eq_getElem?_getD, List.getElem?_set_self hin, Option.getD_some, List.map_cons]
  -- `hw`: the Cat is exactly `width` bits wide, truncation changes nothing (memories narrower than `cpm * bw` lose the
  -- top bits of `dat_w` here and are not covered)
  have hlt := cat_uniform_lt c.bw (i.bus.datW :: s.wregs.reverse)
  rw [List.length_cons, List.length_reverse, hlen, Nat.sub_add_cancel hcpm, ← hw] at hlt
  rw [hword, trunc_of_lt hlt, ← hlen]
  refine ⟨?_, fun k hk => ?_⟩
  · rw [← Nat.zero_mul c.bw, slice_cat_uniform]
    rfl
  · rw [slice_cat_uniform, getD_cons_reverse _ _ k hk]

end Litex.Csr
