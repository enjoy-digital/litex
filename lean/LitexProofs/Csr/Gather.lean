import LitexModel.Csr.Gather
import Mathlib.Data.List.Perm.Subperm
/-
  `_sort_gathered_items`: when it returns, the slot list is a permutation of the items (plus `reserved` fillers)
  with every fixed item at its location.  Both loops of the method only ever fill empty slots (`Ext`: so many more
  slots filled, none overwritten); an item is `(fixed location, index)`, a member of `fx.zipIdx`, so that neither loop
  needs arithmetic on indices; the free-slot count shows that the second loop finds room for every item.  The request
  list `fx` has the type of a slot list, and is counted with the same words: `somes fx` are the fixed locations asked
  for, `nFree fx` the number of items without one.
-/
namespace Litex.Csr

abbrev Slots := List (Option Nat)

def nFree (l : Slots) : Nat := l.count none

def somes (l : Slots) : List Nat := l.filterMap id

theorem somes_length_add_free (l : Slots) : (somes l).length + nFree l = l.length := by
  induction l with
  | nil => rfl
  | cons a r ih =>
    unfold somes nFree at ih ⊢
    cases a with
    | none => rw [List.filterMap_cons_none rfl, List.count_cons_self, List.length_cons, ← Nat.add_assoc, ih]
    | some x =>
      rw [List.filterMap_cons_some (f := id) (a := some x) rfl, List.count_cons_of_ne (by simp), List.length_cons, List.length_cons,
        Nat.add_right_comm, ih]

theorem mem_of_free_pos (l : Slots) (h : 0 < nFree l) : none ∈ l := List.count_pos_iff.mp h

theorem nFree_cons_none (l : Slots) : nFree (none :: l) = nFree l + 1 := List.count_cons_self

theorem mem_somes (l : Slots) (x : Nat) : x ∈ somes l ↔ ∃ p : Nat, l[p]? = some (some x) := by
  unfold somes
  rw [List.mem_filterMap]
  constructor
  · rintro ⟨a, ha, hx⟩
    simp only [id] at hx
    subst hx
    exact List.mem_iff_getElem?.mp ha
  · rintro ⟨p, hp⟩
    exact ⟨some x, List.mem_iff_getElem?.mpr ⟨p, hp⟩, rfl⟩

theorem itemsLength_ge (fx : List (Option Nat)) : ∀ l, l ≤ itemsLength l fx := by
  induction fx with
  | nil => intro l; exact Nat.le_refl _
  | cons a r ih =>
    intro l
    cases a with
    | none => exact ih l
    | some n =>
      simp only [itemsLength]
      split
      · exact Nat.le_trans (by omega) (ih (n + 1))
      · exact ih l

/-- `l'` is `l` with `n` more slots filled and none overwritten: what each step of both loops does to the slots. -/
structure Ext (n : Nat) (l l' : Slots) : Prop where
  length : l'.length = l.length
  free : nFree l' + n = nFree l
  keeps : ∀ (p x : Nat), l[p]? = some (some x) → l'[p]? = some (some x)

theorem Ext.refl (l : Slots) : Ext 0 l l := ⟨rfl, rfl, fun _ _ h => h⟩

theorem Ext.trans {a b : Nat} {l l' l'' : Slots} (h₁ : Ext a l l') (h₂ : Ext b l' l'') : Ext (b + a) l l'' :=
  ⟨h₂.length.trans h₁.length, by rw [← h₁.free, ← h₂.free, Nat.add_assoc],
    fun p x h => h₂.keeps p x (h₁.keeps p x h)⟩

theorem Ext.set {l : Slots} {p : Nat} (h : l[p]? = some none) (v : Nat) :
    Ext 1 l (l.set p (some v)) ∧ (l.set p (some v))[p]? = some (some v) := by
  obtain ⟨hp, hs⟩ := List.getElem?_eq_some_iff.mp h
  refine ⟨⟨List.length_set, ?_, fun q x hq => ?_⟩, List.getElem?_set_self hp⟩
  · have hpos : 0 < List.count none l := List.count_pos_iff.mpr (hs ▸ List.getElem_mem hp)
    unfold nFree
    rw [List.count_set hp, hs]
    simp
    omega
  · rw [List.getElem?_set_ne (by rintro rfl; rw [h] at hq; cases hq)]
    exact hq

theorem placeFixed_spec : ∀ (fx : List (Option Nat)) (i : Nat) (slots slots' : Slots),
    placeFixed i fx slots = .ok slots' →
    Ext (somes fx).length slots slots' ∧ ∀ (j n : Nat), (some n, j) ∈ fx.zipIdx i → slots'[n]? = some (some j)
  | [], _, slots, _, h => by cases h; exact ⟨Ext.refl slots, fun _ _ h => nomatch h⟩
  | none :: r, i, slots, slots', h => by
    obtain ⟨h1, h2⟩ := placeFixed_spec r (i + 1) slots slots' h
    refine ⟨h1, fun j n hj => h2 j n ?_⟩
    rw [List.zipIdx_cons, List.mem_cons] at hj
    exact hj.resolve_left (by simp)
  | some n :: r, i, slots, slots', h => by
    simp only [placeFixed] at h
    split at h
    · rename_i hn
      split at h
      · cases h
      · -- slot `n` is empty: item `i` goes there and stays
        rename_i hs
        rw [List.getD_eq_getElem?_getD, List.getElem?_eq_getElem hn, Option.getD_some] at hs
        obtain ⟨e1, e2⟩ := Ext.set (List.getElem?_eq_some_iff.mpr ⟨hn, hs⟩) i
        obtain ⟨h1, h2⟩ := placeFixed_spec r (i + 1) _ slots' h
        refine ⟨e1.trans h1, fun j m hj => ?_⟩
        rw [List.zipIdx_cons, List.mem_cons] at hj
        rcases hj with hj | hj
        · cases hj; exact h1.keeps n i e2
        · exact h2 j m hj
    · cases h

theorem fillFirst_eq_set (v : Nat) : ∀ l : Slots, none ∈ l → ∃ p : Nat, l[p]? = some none ∧ fillFirst v l = l.set p (some v)
  | none :: _, _ => ⟨0, rfl, rfl⟩
  | some y :: r, h => by
    obtain ⟨p, hp, he⟩ := fillFirst_eq_set v r (by simpa using h)
    exact ⟨p + 1, hp, by rw [fillFirst, he]; rfl⟩

theorem fillVariable_spec : ∀ (fx : List (Option Nat)) (i : Nat) (slots : Slots), nFree fx ≤ nFree slots →
    Ext (nFree fx) slots (fillVariable i fx slots) ∧
    ∀ j : Nat, (none, j) ∈ fx.zipIdx i → ∃ p : Nat, (fillVariable i fx slots)[p]? = some (some j)
  | [], _, slots, _ => ⟨Ext.refl slots, fun _ h => nomatch h⟩
  | some n :: r, i, slots, hcap => by
    obtain ⟨h1, h2⟩ := fillVariable_spec r (i + 1) slots hcap
    refine ⟨h1, fun j hj => h2 j ?_⟩
    rw [List.zipIdx_cons, List.mem_cons] at hj
    exact hj.resolve_left (by simp)
  | none :: r, i, slots, hcap => by
    -- there is room (`hcap`), so item `i` gets a slot and keeps it
    rw [nFree_cons_none] at hcap ⊢
    obtain ⟨p0, hp0, he⟩ := fillFirst_eq_set i slots (mem_of_free_pos slots (Nat.lt_of_lt_of_le (Nat.succ_pos _) hcap))
    obtain ⟨e1, e2⟩ := Ext.set hp0 i
    rw [← he] at e1 e2
    obtain ⟨h1, h2⟩ := fillVariable_spec r (i + 1) (fillFirst i slots) (by have := e1.free; omega)
    refine ⟨e1.trans h1, fun j hj => ?_⟩
    rw [List.zipIdx_cons, List.mem_cons] at hj
    rcases hj with hj | hj
    · cases hj; exact ⟨p0, h1.keeps p0 i e2⟩
    · exact h2 j hj

theorem sortGathered_spec (fx : List (Option Nat)) (slots : Slots) (h : sortGathered fx = .ok slots) :
    (somes slots).Perm (List.range fx.length) ∧
    (∀ (i n : Nat), fx[i]? = some (some n) → slots[n]? = some (some i)) ∧
    fx.length ≤ slots.length := by
  unfold sortGathered at h
  simp only at h
  cases hp : placeFixed 0 fx (List.replicate (itemsLength fx.length fx) none) with
  | conflict => simp [hp] at h
  | indexError => simp [hp] at h
  | ok s1 =>
    simp only [hp, SortResult.ok.injEq] at h
    obtain ⟨a1, a2⟩ := placeFixed_spec fx 0 _ s1 hp
    have hL := itemsLength_ge fx fx.length
    have hsum := somes_length_add_free fx
    have hfree := a1.free
    rw [show nFree (List.replicate (itemsLength fx.length fx) (none : Option Nat)) = itemsLength fx.length fx by
      simp [nFree]] at hfree
    obtain ⟨b1, b2⟩ := fillVariable_spec fx 0 s1 (by omega)
    rw [h] at b1 b2
    have hlen : slots.length = itemsLength fx.length fx := by rw [b1.length, a1.length, List.length_replicate]
    have hidx : ∀ {a : Option Nat} {i : Nat}, fx[i]? = some a → (a, i) ∈ fx.zipIdx 0 := fun ha =>
      List.mem_zipIdx_iff_getElem?.mpr ha
    have hfixed : ∀ (i n : Nat), fx[i]? = some (some n) → slots[n]? = some (some i) := fun i n hi =>
      b1.keeps n i (a2 i n (hidx hi))
    refine ⟨?_, hfixed, by omega⟩
    -- every item is in some slot, and the free-slot count leaves room for no more than `fx.length` items
    have hsub : List.range fx.length ⊆ somes slots := by
      intro x hx
      have hx' : x < fx.length := List.mem_range.mp hx
      rw [mem_somes]
      cases hfx : fx[x]'hx' with
      | some n => exact ⟨n, hfixed x n (by rw [List.getElem?_eq_getElem hx', hfx])⟩
      | none => exact b2 x (hidx (by rw [List.getElem?_eq_getElem hx', hfx]))
    have hsl := somes_length_add_free slots
    have := b1.free
    exact ((List.subperm_of_subset List.nodup_range hsub).perm_of_length_le (by simp; omega)).symm

/-- The `IndexError` of the real code: a fixed location equal to the current length is neither inside the list
    nor extends it (`item.n > items_length` is strict). -/
theorem sortGathered_indexError_witness : sortGathered [some 1] = .indexError := by decide

theorem sortGathered_conflict_witness : sortGathered [some 0, some 0] = .conflict := by decide

theorem placeFixed_ok (fx : List (Option Nat)) :
    ∀ (i : Nat) (slots : Slots),
      (∀ n : Nat, some n ∈ fx → n < slots.length ∧ slots[n]? = some none) → (fx.filterMap id).Nodup →
      ∃ s', placeFixed i fx slots = .ok s' := by
  induction fx with
  | nil => intro i slots _ _; exact ⟨slots, rfl⟩
  | cons a r ih =>
    intro i slots h hd
    cases a with
    | none =>
      simp only [placeFixed]
      exact ih (i + 1) slots (fun n hn => h n (List.mem_cons_of_mem _ hn)) (by simpa using hd)
    | some n =>
      obtain ⟨hn, hs⟩ := h n (List.mem_cons_self ..)
      simp only [List.filterMap_cons, id, List.nodup_cons] at hd
      have hget : slots.getD n none = none := by
        simp [List.getD_eq_getElem?_getD, hs]
      simp only [placeFixed, hn, if_true, hget]
      apply ih (i + 1) (slots.set n (some i))
      · intro m hm
        obtain ⟨hm1, hm2⟩ := h m (List.mem_cons_of_mem _ hm)
        have hne : n ≠ m := by
          intro e
          subst e
          exact hd.1 (List.mem_filterMap.mpr ⟨some n, hm, rfl⟩)
        refine ⟨by rw [List.length_set]; exact hm1, ?_⟩
        rw [List.getElem?_set_ne hne]
        exact hm2
      · exact hd.2

theorem sortGathered_ok (fx : List (Option Nat))
    (hin : ∀ n : Nat, some n ∈ fx → n < itemsLength fx.length fx) (hd : (fx.filterMap id).Nodup) :
    ∃ slots, sortGathered fx = .ok slots := by
  obtain ⟨s', hs⟩ := placeFixed_ok fx 0 (List.replicate (itemsLength fx.length fx) none)
    (fun n hn => ⟨by simpa using hin n hn, by simp [hin n hn]⟩) hd
  exact ⟨fillVariable 0 fx s', by simp [sortGathered, hs]⟩

end Litex.Csr
