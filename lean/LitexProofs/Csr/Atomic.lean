import LitexProofs.Csr.Invariant
/-
  Atomic multi-word writes as software performs them: the words are written in ascending address order,
  with arbitrary other bus traffic in between.  Under ordering "big" the register never shows a torn value.
-/
namespace Litex.Csr
open Litex

/-- A cycle in which neither the bus writes a word of register `k` nor the device writes register `k`.
    (Reads anywhere, writes to other registers / banks / unpopulated words, idle cycles; any device activity on
    other registers.) -/
def Quiet (c : BankCfg) (k : Nat) (i : BankIn) : Prop :=
  (i.bus.we = false ∨ ∀ j, c.ValidWord k j → i.bus.adr ≠ c.wordAdr k j) ∧ (i.devOf k).we = false

/-- A write cycle of the protocol also requires that the device does not write register `k` in it: a real restriction
    of the property, and what makes "old or new" true. -/
def IsWrite (k : Nat) (a d : Nat) (i : BankIn) : Prop :=
  i.bus.we = true ∧ i.bus.adr = a ∧ i.bus.datW = d ∧ (i.devOf k).we = false

/-- Software writes the data words `ds` to consecutive ascending addresses starting at `a0 + m`, with any number
    of quiet cycles before, between and after the writes. -/
inductive AscWrites (c : BankCfg) (k a0 : Nat) : Nat → List Nat → List BankIn → Prop
  | done (m : Nat) : AscWrites c k a0 m [] []
  | quiet (m : Nat) (ds : List Nat) (i : BankIn) (ins : List BankIn) :
      Quiet c k i → AscWrites c k a0 m ds ins → AscWrites c k a0 m ds (i :: ins)
  | write (m d : Nat) (ds : List Nat) (i : BankIn) (ins : List BankIn) :
      IsWrite k (a0 + m) d i → AscWrites c k a0 (m + 1) ds ins → AscWrites c k a0 m (d :: ds) (i :: ins)

theorem devVal_quiet (r : RegSpec) (s : RegState) (d : Dev) (h : d.we = false) : devVal r s d = s.val := by
  simp [devVal, h]

theorem next_reg_quiet (c : BankCfg) (s : BankState) (i : BankIn) (k : Nat) (hk : k < c.regs.length)
    (hkind : (c.spec k).kind = .storage) (hq : Quiet c k i) :
    (((bank c).next s i).reg k).val = (s.reg k).val ∧ (((bank c).next s i).reg k).back = (s.reg k).back := by
  obtain ⟨-, hb, hv⟩ := next_reg_no_write c s i k hk (ne_raw_of_storage hkind) (c.write_hit_none i k hq.1)
  exact ⟨by rw [hv, if_pos hkind, devVal_quiet _ _ _ hq.2], hb⟩

theorem next_reg_stage (c : BankCfg) (hfit : c.Fits) (s : BankState) (i : BankIn) (k j : Nat)
    (hv : c.ValidWord k j) (hkind : (c.spec k).kind = .storage) (hat : isAtomic c.bw (c.spec k) = true)
    (hj : j ≠ 0) (hwe : i.bus.we = true) (hadr : i.bus.adr = c.wordAdr k j) :
    (((bank c).next s i).reg k).val = devVal (c.spec k) (s.reg k) (i.devOf k) ∧
    (((bank c).next s i).reg k).back =
      (s.reg k).back.set (j - 1) (trunc (wordBits c.bw (c.spec k).size j) i.bus.datW) := by
  rw [next_reg_write c hfit s i k j hv hwe hadr, regNext_stage hkind hat (by rw [c.simple_word k j hv]; exact hj),
    c.simple_word k j hv, (simple_lo c k j (ne_raw_of_storage hkind)).2]
  exact ⟨rfl, rfl⟩

theorem next_reg_commit (c : BankCfg) (hfit : c.Fits) (s : BankState) (i : BankIn) (k : Nat)
    (hv : c.ValidWord k 0) (hkind : (c.spec k).kind = .storage) (hat : isAtomic c.bw (c.spec k) = true)
    (hwe : i.bus.we = true) (hadr : i.bus.adr = c.wordAdr k 0) :
    (((bank c).next s i).reg k).val =
        trunc (c.spec k).size (cat ((c.bw, i.bus.datW) :: backPairs c.bw (c.spec k).size (s.reg k).back 1)) ∧
    (((bank c).next s i).reg k).back = (s.reg k).back := by
  rw [next_reg_write c hfit s i k 0 hv hwe hadr, regNext_commit hkind hat (c.simple_word k 0 hv)]
  exact ⟨rfl, rfl⟩

theorem wordAdr_big (c : BankCfg) (k j m : Nat) (hbig : c.ord = .big) (hkind : (c.spec k).kind ≠ .raw)
    (hjm : nwords c.bw (c.spec k).size = m + j + 1) : c.wordAdr k j = c.lowAdr k + m := by
  have hpos : posIn c.bw .big (c.spec k) j = m := by
    unfold posIn
    cases hkd : (c.spec k).kind
    · simp only [wordPos, hjm, Nat.add_sub_cancel]
    · simp only [wordPos, hjm, Nat.add_sub_cancel]
    · exact absurd hkd hkind
  rw [c.wordAdr_eq, hbig, hpos]

/-- The words of the value software intends, least significant first: word `j` is the `j`-th entry counted from the
    *end* of the ascending write list (ordering big: highest address = least significant word). -/
def wordPairsBig (bw size n : Nat) (ds : List Nat) : List (Nat × Nat) :=
  (List.range n).map fun j => (wordBits bw size j, ds.getD (n - 1 - j) 0)

/-- The back-store holds truncated words; `cat` truncates each entry again, so nothing is lost by that. -/
theorem cat_backPairs (bw size : Nat) (g : Nat → Nat) : ∀ (back : List Nat) (j0 : Nat),
    (∀ q, q < back.length → back[q]? = some (trunc (wordBits bw size (q + j0)) (g (q + j0)))) →
    cat (backPairs bw size back j0) = cat ((List.range' j0 back.length).map fun j => (wordBits bw size j, g j))
  | [], _, _ => rfl
  | b :: bs, j0, h => by
    have hb := h 0 (Nat.zero_lt_succ _)
    rw [List.getElem?_cons_zero, Nat.zero_add, Option.some.injEq] at hb
    have ih := cat_backPairs bw size g bs (j0 + 1) fun q hq => by
      have := h (q + 1) (Nat.succ_lt_succ hq)
      rwa [List.getElem?_cons_succ, Nat.add_right_comm] at this
    simp only [backPairs, List.length_cons, List.range'_succ, List.map_cons, cat, ih, hb, trunc, Nat.mod_mod]

theorem commit_value (bw size : Nat) (g : Nat → Nat) (back : List Nat) (hbw : bw ≤ size)
    (hback : ∀ q, q < back.length → back[q]? = some (trunc (wordBits bw size (q + 1)) (g (q + 1)))) :
    cat ((bw, g 0) :: backPairs bw size back 1) =
      cat ((List.range (back.length + 1)).map fun j => (wordBits bw size j, g j)) := by
  have hw0 : wordBits bw size 0 = bw := by simp [wordBits, hbw]
  rw [List.range_eq_range', List.range'_succ, List.map_cons]
  simp only [cat, hw0, Nat.zero_add, cat_backPairs bw size g back 1 hback]

/-- Register contents after `m` of the `n` words have been written, highest word first (the `m`-th write goes to
    word `n-1-m`; `g j` is the data meant for word `j`): the upper words written so far are staged, and the visible
    value is still `old` until the write of word 0 commits. -/
def Staged (bw size n : Nat) (g : Nat → Nat) (old m val : Nat) (back : List Nat) : Prop :=
  back.length + 1 = n ∧
  (∀ q, q < back.length → n ≤ q + 1 + m → back[q]? = some (trunc (wordBits bw size (q + 1)) (g (q + 1)))) ∧
  val = if m < n then old else trunc size (cat ((List.range n).map fun j => (wordBits bw size j, g j)))

namespace Staged
variable {bw size n : Nat} {g : Nat → Nat} {old m val : Nat} {back : List Nat}

theorem stage (h : Staged bw size n g old m val back) {q d : Nat} (hq : n = m + (q + 1) + 1) (hd : g (q + 1) = d) :
    Staged bw size n g old (m + 1) val (back.set q (trunc (wordBits bw size (q + 1)) d)) := by
  subst hd
  have hlen := h.1
  refine ⟨by rw [List.length_set]; exact hlen, fun q' hq' hqm => ?_, by
    rw [h.2.2, if_pos (show m + 1 < n by omega), if_pos (show m < n by omega)]⟩
  rw [List.length_set] at hq'
  by_cases hqq : q = q'
  · rw [hqq, List.getElem?_set_self hq']
  · rw [List.getElem?_set_ne hqq]
    exact h.2.1 q' hq' (by omega)

theorem commit (h : Staged bw size n g old m val back) {d : Nat} (hm : m + 1 = n) (hd : g 0 = d)
    (hbw : bw ≤ size) :
    Staged bw size n g old (m + 1) (trunc size (cat ((bw, d) :: backPairs bw size back 1))) back := by
  subst hd
  have hall := fun q hq => h.2.1 q hq (by omega)
  refine ⟨h.1, fun q hq _ => hall q hq, ?_⟩
  rw [if_neg (by omega), commit_value bw size g back hbw hall, h.1]

end Staged

/-- Induction along `AscWrites`; `P m` reads "`m` words written". -/
theorem AscWrites.run_inv {c : BankCfg} {k a0 : Nat} (ds : List Nat) (P : Nat → BankState → Prop)
    (hq : ∀ m s i, Quiet c k i → P m s → P m ((bank c).next s i))
    (hw : ∀ m s i, m < ds.length → IsWrite k (a0 + m) (ds.getD m 0) i → P m s → P (m + 1) ((bank c).next s i))
    {m : Nat} {rest : List Nat} {ins : List BankIn} (h : AscWrites c k a0 m rest ins)
    (hrest : rest = ds.drop m) (hm : m ≤ ds.length) (s : BankState) (hP : P m s) :
    (∀ pre, pre <+: ins → ∃ m', P m' ((bank c).runFrom s pre)) ∧ P ds.length ((bank c).runFrom s ins) := by
  induction h generalizing s with
  | done m =>
    have hlen : ds.length = m := by have := congrArg List.length hrest; simp at this; omega
    exact ⟨fun pre hpre => ⟨m, by rw [List.prefix_nil.mp hpre]; exact hP⟩, hlen ▸ hP⟩
  | quiet m rest i ins hqi _ ih =>
    obtain ⟨ih1, ih2⟩ := ih hrest hm _ (hq m s i hqi hP)
    refine ⟨fun pre hpre => ?_, ih2⟩
    rcases List.prefix_cons_iff.mp hpre with rfl | ⟨t, rfl, ht⟩
    · exact ⟨m, hP⟩
    · exact ih1 t ht
  | write m d rest i ins hwi _ ih =>
    have hlt : m < ds.length := by have := congrArg List.length hrest; simp at this; omega
    rw [List.drop_eq_getElem_cons hlt, List.cons.injEq] at hrest
    rw [hrest.1, show ds[m] = ds.getD m 0 by simp [hlt]] at hwi
    obtain ⟨ih1, ih2⟩ := ih hrest.2 hlt _ (hw m s i hlt hwi hP)
    refine ⟨fun pre hpre => ?_, ih2⟩
    rcases List.prefix_cons_iff.mp hpre with rfl | ⟨t, rfl, ht⟩
    · exact ⟨m, hP⟩
    · exact ih1 t ht

theorem atomic_seq (c : BankCfg) (hfit : c.Fits) (k : Nat) (hk : k < c.regs.length)
    (hkind : (c.spec k).kind = .storage) (hat : isAtomic c.bw (c.spec k) = true) (hbig : c.ord = .big)
    (ds : List Nat) (hds : ds.length = nwords c.bw (c.spec k).size) (s : BankState)
    (hback : (s.reg k).back.length = nwords c.bw (c.spec k).size - 1)
    (ins : List BankIn) (h : AscWrites c k (c.lowAdr k) 0 ds ins) :
    let new := trunc (c.spec k).size
      (cat (wordPairsBig c.bw (c.spec k).size (nwords c.bw (c.spec k).size) ds))
    (∀ pre, pre <+: ins → (((bank c).runFrom s pre).reg k).val = (s.reg k).val ∨
        (((bank c).runFrom s pre).reg k).val = new) ∧
    (((bank c).runFrom s ins).reg k).val = new := by
  have hraw := ne_raw_of_storage hkind
  have hn := nwords_gt_of_atomic hat
  generalize hnw : nwords c.bw (c.spec k).size = n at hds hback hn
  have hvalid : ∀ j, j < n → c.ValidWord k j := fun j hj => BankCfg.validWord_of_lt hk hraw (hnw ▸ hj)
  have hlen : (s.reg k).back.length + 1 = n := by omega
  obtain ⟨h1, h2⟩ := h.run_inv ds
    (fun m s' => Staged c.bw (c.spec k).size n (fun j => ds.getD (n - 1 - j) 0) (s.reg k).val m
      (s'.reg k).val (s'.reg k).back)
    (fun m s' i hq hP => by
      obtain ⟨hval, hbk⟩ := next_reg_quiet c s' i k hk hkind hq
      rw [hval, hbk]; exact hP)
    (fun m s' i hm ⟨hwe, hadr, hd, hdev⟩ hP => by
      -- the `m`-th write goes to word `j = n-1-m`: it commits if `j = 0` and is staged otherwise
      obtain ⟨j, hj⟩ := Nat.exists_eq_add_of_lt (hds ▸ hm)
      rw [← wordAdr_big c k j m hbig hraw (hnw.trans hj)] at hadr
      have hv := hvalid j (hj ▸ Nat.lt_succ_of_le (Nat.le_add_left j m))
      have hdj : ds.getD (n - 1 - j) 0 = ds.getD m 0 := by rw [hj, Nat.add_sub_cancel, Nat.add_sub_cancel]
      cases j with
      | zero =>
        obtain ⟨hval, hbk⟩ := next_reg_commit c hfit s' i k hv hkind hat hwe hadr
        rw [hval, hbk, hd]
        exact hP.commit hj.symm hdj (Nat.le_of_lt (size_gt_of_atomic _ _ hat))
      | succ q =>
        obtain ⟨hval, hbk⟩ := next_reg_stage c hfit s' i k _ hv hkind hat (Nat.succ_ne_zero q) hwe hadr
        rw [hval, hbk, hd, devVal_quiet _ _ _ hdev, Nat.add_sub_cancel]
        exact hP.stage hj hdj)
    rfl (Nat.zero_le _) s ⟨hlen, fun q _ hq => by omega, by rw [if_pos (Nat.zero_lt_of_lt hn)]⟩
  intro new
  refine ⟨fun pre hpre => ?_, by rw [h2.2.2, hds, if_neg (Nat.lt_irrefl n)]; rfl⟩
  obtain ⟨m', hm'⟩ := h1 pre hpre
  rw [hm'.2.2]
  split
  · exact Or.inl rfl
  · exact Or.inr rfl

end Litex.Csr
