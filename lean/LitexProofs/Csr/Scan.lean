import LitexModel.Csr.Scan
/-
  `CSRBankArray.scan`: the banks are exactly the objects with a non-empty description, in scan order; the page
  registers follow an object's own registers and the memory windows point at them.
-/
namespace Litex.Csr
open Litex

/-- The bank `scan` builds for object `o`: its gathered registers, then its page registers, at `o.loc`. -/
def objBank (bw : Nat) (ord : WordOrdering) (pbits : Nat) (o : ObjDesc) : BankCfg :=
  { bw := bw, ord := ord, pbits := pbits, address := o.loc, regs := objRegs bw pbits o }

theorem scanFrom_banks (bw : Nat) (ord : WordOrdering) (pbits : Nat) (objs : List ObjDesc) (bi : Nat) :
    (scanFrom bw ord pbits bi objs).1 =
      (objs.filter fun o => !(objRegs bw pbits o).isEmpty).map (objBank bw ord pbits) := by
  induction objs generalizing bi with
  | nil => rfl
  | cons o os ih =>
    unfold scanFrom
    by_cases h : (objRegs bw pbits o).isEmpty
    · simp only [h, if_true, List.filter_cons, Bool.not_true]
      exact ih bi
    · simp only [h, List.filter_cons, Bool.not_false, if_true, List.map_cons]
      simp only [Bool.false_eq_true, if_false, ih (bi + 1), objBank]

/-- A window with a page register is the `(r - k)`-th paged memory of its object, `k` being the index the first page
    register gets. -/
theorem objSlots_page (bw pbits bi : Nat) : ∀ (mems : List MemDesc) (k : Nat) (slot : SramSlot) (b r : Nat),
    slot ∈ objSlots bw pbits bi k mems → slot.page = some (b, r) →
    b = bi ∧ slot.cfg.pageBits ≠ 0 ∧ k ≤ r ∧
      (pageRegs bw pbits mems)[r - k]? = some { kind := .storage, size := slot.cfg.pageBits }
  | [], _, _, _, _, h, _ => nomatch h
  | m :: ms, k, slot, b, r, hmem, hpage => by
    unfold objSlots at hmem
    by_cases hz : (m.cfg bw pbits).pageBits = 0
    · rw [if_pos hz] at hmem
      rcases List.mem_cons.mp hmem with rfl | h
      · cases hpage
      · rw [show pageRegs bw pbits (m :: ms) = pageRegs bw pbits ms by simp [pageRegs, pageReg, hz]]
        exact objSlots_page bw pbits bi ms k slot b r h hpage
    · rw [if_neg hz] at hmem
      rw [show pageRegs bw pbits (m :: ms) =
        { kind := .storage, size := (m.cfg bw pbits).pageBits } :: pageRegs bw pbits ms by simp [pageRegs, pageReg, hz]]
      rcases List.mem_cons.mp hmem with rfl | h
      · cases hpage
        exact ⟨rfl, hz, Nat.le_refl _, by rw [Nat.sub_self]; rfl⟩
      · obtain ⟨hb, hp, hk, hr⟩ := objSlots_page bw pbits bi ms (k + 1) slot b r h hpage
        refine ⟨hb, hp, Nat.le_of_succ_le hk, ?_⟩
        rw [← Nat.sub_add_cancel (Nat.sub_pos_of_lt hk), Nat.sub_sub]
        exact hr

/- `bi` counts the banks emitted before this call, so bank `b` of the whole scan is entry `b - bi` of this result. -/
theorem scanFrom_page (bw : Nat) (ord : WordOrdering) (pbits : Nat) :
    ∀ (objs : List ObjDesc) (bi : Nat) (slot : SramSlot) (b r : Nat),
      slot ∈ (scanFrom bw ord pbits bi objs).2 → slot.page = some (b, r) →
      bi ≤ b ∧ slot.cfg.pageBits ≠ 0 ∧
      ((scanFrom bw ord pbits bi objs).1[b - bi]?).bind (fun c => c.regs[r]?) =
        some { kind := .storage, size := slot.cfg.pageBits }
  | [], _, _, _, _, h, _ => nomatch h
  | o :: os, bi, slot, b, r, hmem, hpage => by
    unfold scanFrom at hmem ⊢
    by_cases he : (objRegs bw pbits o).isEmpty
    · simp only [he, if_true, List.mem_append] at hmem ⊢
      rcases hmem with h | h
      · -- an object without registers has no paged memory
        have hr := (objSlots_page bw pbits bi o.mems _ slot b r h hpage).2.2.2
        rw [(List.append_eq_nil_iff.mp (List.isEmpty_iff.mp he)).2] at hr
        cases hr
      · exact scanFrom_page bw ord pbits os bi slot b r h hpage
    · simp only [he, Bool.false_eq_true, if_false, List.mem_append] at hmem ⊢
      rcases hmem with h | h
      · -- the object's own bank: its page registers follow its `o.regs.length` gathered registers
        obtain ⟨rfl, hz, hk, hr⟩ := objSlots_page bw pbits bi o.mems _ slot b r h hpage
        refine ⟨Nat.le_refl _, hz, ?_⟩
        rw [Nat.sub_self, List.getElem?_cons_zero, Option.bind_some]
        exact (List.getElem?_append_right hk).trans hr
      · obtain ⟨hb, hz, hr⟩ := scanFrom_page bw ord pbits os (bi + 1) slot b r h hpage
        refine ⟨Nat.le_of_succ_le hb, hz, ?_⟩
        rw [← Nat.sub_add_cancel (Nat.sub_pos_of_lt hb), Nat.sub_sub, List.getElem?_cons_succ]
        exact hr

end Litex.Csr
