import LitexProofs.Csr.Bank
/-
  Invariants of reachable bank states: every storage value fits its declared size, the back-store of an atomic
  storage has one entry per upper word.
-/
namespace Litex.Csr
open Litex

/-- What every reachable state of a storage satisfies.  The second part (one back-store entry per upper word) is what
    `atomic_seq` assumes of its start state (`hback`). -/
def RegWF (bw : Nat) (r : RegSpec) (s : RegState) : Prop :=
  r.kind = .storage → (s.val < 2 ^ r.size ∧ (isAtomic bw r = true → s.back.length = nwords bw r.size - 1))

def BankWF (c : BankCfg) (s : BankState) : Prop :=
  ∀ k, k < c.regs.length → RegWF c.bw (c.spec k) (s.reg k)

theorem devVal_lt (r : RegSpec) (s : RegState) (d : Dev) (h : s.val < 2 ^ r.size) : devVal r s d < 2 ^ r.size := by
  unfold devVal
  split
  · exact trunc_lt _ _
  · exact h

theorem init_reg (c : BankCfg) (k : Nat) (hk : k < c.regs.length) :
    ((bank c).init.reg k) = initReg c.bw (c.spec k) := by
  simp only [bank, BankState.reg, BankCfg.spec, List.getD_eq_getElem?_getD, List.getElem?_map,
    List.getElem?_eq_getElem hk, Option.map_some, Option.getD_some]

theorem init_wf (c : BankCfg) : BankWF c (bank c).init := by
  intro k hk hkind
  rw [init_reg c k hk]
  unfold initReg
  simp only [hkind, true_and]
  refine ⟨trunc_lt _ _, fun hat => ?_⟩
  simp [hat]

theorem next_wf (c : BankCfg) (s : BankState) (i : BankIn) (h : BankWF c s) : BankWF c ((bank c).next s i) := by
  intro k hk hkind
  obtain ⟨hval, hback⟩ := h k hk hkind
  have hraw := ne_raw_of_storage hkind
  have hv0 := devVal_lt (c.spec k) (s.reg k) (i.devOf k) hval
  rcases next_reg_cases c s i k hk with e | ⟨j, hv, e⟩ <;> rw [e]
  · rw [regNext_none_storage hkind]; exact ⟨hv0, hback⟩
  · cases hat : isAtomic c.bw (c.spec k)
    · rw [regNext_plain hkind hat, (simple_lo c k j hraw).1, (simple_lo c k j hraw).2]
      exact ⟨setSlice_lt _ _ _ _ _ hv0 (word_window_le _ _ _ (hv.lt_nwords hraw)), fun h => nomatch h⟩
    · by_cases hw : (c.simple k j).word = 0
      · rw [regNext_commit hkind hat hw]; exact ⟨trunc_lt _ _, fun _ => hback hat⟩
      · rw [regNext_stage hkind hat hw]
        exact ⟨hv0, fun _ => by rw [List.length_set]; exact hback hat⟩

theorem run_wf (c : BankCfg) (ins : List BankIn) : BankWF c ((bank c).run ins) := by
  unfold Machine.run
  exact Machine.invariant_runFrom (bank c) (BankWF c) (fun s i h => next_wf c s i h) ins _ (init_wf c)

end Litex.Csr
