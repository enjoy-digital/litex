import LitexModel.Csr.Array
import LitexProofs.Csr.Bank
/-
  OR-combined CSR bus: slaves that were not addressed drive 0, so the OR of all read data is the read data of the
  addressed slave.
-/
namespace Litex.Csr
open Litex

theorem orList_zero : ∀ (l : List Nat), (∀ i, l.getD i 0 = 0) → orList l = 0
  | [], _ => rfl
  | x :: xs, h => by
    have hx : x = 0 := h 0
    rw [orList, hx, orList_zero xs fun i => h (i + 1)]
    rfl

theorem orList_single : ∀ (l : List Nat) (j : Nat), (∀ i, i ≠ j → l.getD i 0 = 0) → orList l = l.getD j 0
  | [], _, _ => rfl
  | x :: xs, 0, h => by
    rw [orList, orList_zero xs fun i => h (i + 1) (Nat.succ_ne_zero i)]
    exact Nat.or_zero x
  | x :: xs, j + 1, h => by
    have hx : x = 0 := h 0 (Nat.succ_ne_zero j).symm
    rw [orList, hx, orList_single xs j fun i hi => h (i + 1) fun e => hi (Nat.succ.inj e)]
    exact Nat.zero_or _

theorem orList_append (a b : List Nat) : orList (a ++ b) = orList a ||| orList b := by
  induction a with
  | nil => simp [orList]
  | cons x xs ih => simp [orList, ih, Nat.or_assoc]

theorem next_datR_unselected (c : BankCfg) (s : BankState) (i : BankIn) (h : c.sel i.bus.adr = false) :
    ((bank c).next s i).datR = 0 := by
  rw [next_datR, c.hit_none_of_unselected _ h]

theorem array_next_bank (c : ArrayCfg) (s : ArrayState) (i : ArrayIn) (j : Nat) (hj : j < c.banks.length) :
    ((bankArray c).next s i).banks.getD j default =
      (bank (c.banks.getD j default)).next (s.banks.getD j default) (ArrayCfg.bankIn i j) :=
  getD_mapIdx _ c.banks j hj default default

theorem array_next_bank_oob (c : ArrayCfg) (s : ArrayState) (i : ArrayIn) (j : Nat) (hj : c.banks.length ≤ j) :
    ((bankArray c).next s i).banks.getD j default = default :=
  getD_mapIdx_of_le _ _ j hj default

theorem array_next_sram (c : ArrayCfg) (s : ArrayState) (i : ArrayIn) (j : Nat) (hj : j < c.srams.length) :
    ((bankArray c).next s i).srams.getD j default =
      (sram (c.srams.getD j default).cfg).next (s.srams.getD j default)
        { bus := orBus i.masters, page := ArrayCfg.pageVal s (c.srams.getD j default) } :=
  getD_mapIdx _ c.srams j hj default default

theorem sram_next_datR_unselected (c : SramCfg) (s : SramState) (i : SramIn) (h : c.sel i.bus.adr = false) :
    sramDatR c ((sram c).next s i) = 0 := by
  simp only [sramDatR, sram, h, Bool.false_eq_true, if_false]

/-- Read data the masters see. -/
def ArrayCfg.datR (c : ArrayCfg) (s : ArrayState) : Nat :=
  orList (s.banks.map (·.datR)) ||| orList (c.srams.mapIdx fun k m => sramDatR m.cfg (s.srams.getD k default))

theorem array_out_datR (c : ArrayCfg) (s : ArrayState) (i : ArrayIn) :
    ((bankArray c).out s i).datR = c.datR s := rfl

theorem getD_map_datR (l : List BankState) (j : Nat) : (l.map (·.datR)).getD j 0 = (l.getD j default).datR := by
  simp only [List.getD_eq_getElem?_getD, List.getElem?_map]
  cases l[j]? <;> rfl

/-- `j` may lie beyond the last bank: then nobody was addressed, and `default.datR = 0`. -/
theorem datR_next_single (c : ArrayCfg) (s : ArrayState) (i : ArrayIn) (j : Nat)
    (hothers : ∀ j', j' < c.banks.length → j' ≠ j → (c.banks.getD j' default).sel (orBus i.masters).adr = false)
    (hsrams : ∀ m, m < c.srams.length → (c.srams.getD m default).cfg.sel (orBus i.masters).adr = false) :
    c.datR ((bankArray c).next s i) = (((bankArray c).next s i).banks.getD j default).datR := by
  have hb : ∀ j', j' ≠ j → (((bankArray c).next s i).banks.map (·.datR)).getD j' 0 = 0 := fun j' hne => by
    rw [getD_map_datR]
    by_cases hj' : j' < c.banks.length
    · rw [array_next_bank c s i j' hj']
      exact next_datR_unselected _ _ _ (hothers j' hj' hne)
    · rw [array_next_bank_oob c s i j' (Nat.le_of_not_lt hj')]
      rfl
  have hm : ∀ m, (c.srams.mapIdx fun k m =>
      sramDatR m.cfg (((bankArray c).next s i).srams.getD k default)).getD m 0 = 0 := fun m => by
    by_cases hm : m < c.srams.length
    · rw [getD_mapIdx _ c.srams m hm default 0, array_next_sram c s i m hm]
      exact sram_next_datR_unselected _ _ _ (hsrams m hm)
    · exact getD_mapIdx_of_le _ _ m (Nat.le_of_not_lt hm) 0
  rw [ArrayCfg.datR, orList_single _ j hb, orList_zero _ hm, Nat.or_zero, getD_map_datR]

theorem orBus_single (b : Bus) : orBus [b] = b := by
  simp [orBus]

def idleBus : Bus := { adr := 0, re := false, we := false, datW := 0 }

theorem orBus_idle_cons (bs : List Bus) : orBus (idleBus :: bs) = orBus bs := by
  simp [orBus, idleBus]

theorem orBus_all_idle (n : Nat) : orBus (List.replicate n idleBus) = idleBus := by
  induction n with
  | zero => rfl
  | succ n ih => rw [List.replicate_succ, orBus_idle_cons, ih]

theorem orBus_cons_idle (b : Bus) (n : Nat) : orBus (b :: List.replicate n idleBus) = b := by
  show ({ adr := b.adr ||| (orBus (List.replicate n idleBus)).adr, re := b.re || (orBus (List.replicate n idleBus)).re,
          we := b.we || (orBus (List.replicate n idleBus)).we,
          datW := b.datW ||| (orBus (List.replicate n idleBus)).datW } : Bus) = b
  rw [orBus_all_idle]
  simp [idleBus]

end Litex.Csr
