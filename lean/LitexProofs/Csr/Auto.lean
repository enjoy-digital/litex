import LitexModel.Csr.Auto
import LitexProofs.Namer.Sort
/-
  The Python-level parts of csr.py (`LitexModel/Csr/Auto.lean`).  The gatherer's `sorted(…, key=duid)` is rewritten to
  the stable insertion sort of `Namer/Sort.lean` (`gatherOrder_eq`), from which permutation and order follow; access
  resolution is read entry by entry (`resolveAccess_some`) and then by cases of the parent's access; `check_names`
  accepts exactly the duplicate-free lists (`checkNames_iff`).
-/
namespace Litex.Csr

theorem insertByDuid_eq (x : GItem) : ∀ l : List GItem,
    insertByDuid x l = Namer.insertBy (fun a b => decide (a.duid ≤ b.duid)) x l
  | [] => rfl
  | y :: ys => by
    rw [insertByDuid, Namer.insertBy, insertByDuid_eq x ys]
    simp only [decide_eq_true_eq]

theorem gatherOrder_eq : ∀ items : List GItem,
    gatherOrder items = Namer.isort (fun a b => decide (a.duid ≤ b.duid)) items
  | [] => rfl
  | x :: xs => by rw [gatherOrder, Namer.isort, insertByDuid_eq, gatherOrder_eq xs]

theorem gatherOrder_perm (items : List GItem) : (gatherOrder items).Perm items :=
  gatherOrder_eq items ▸ Namer.isort_perm _ items

theorem gatherOrder_sorted (items : List GItem) :
    (gatherOrder items).Pairwise (fun a b => a.duid ≤ b.duid) := by
  rw [gatherOrder_eq]
  exact (Namer.isort_pairwise (le := fun a b : GItem => decide (a.duid ≤ b.duid))
    (fun _ _ _ h1 h2 => decide_eq_true (Nat.le_trans (of_decide_eq_true h1) (of_decide_eq_true h2)))
    (fun a b => (Nat.le_total a.duid b.duid).imp decide_eq_true decide_eq_true) items).imp of_decide_eq_true

theorem resolveAccess_map (p : Access) : ∀ (fs : List FieldAcc) (as : List Access),
    resolveAccess p fs = some as → fs.map (resolveAccess1 p) = as.map some
  | [], as, h => by cases h; rfl
  | f :: fs, as, h => by
    unfold resolveAccess at h
    cases h1 : resolveAccess1 p f with
    | none => simp [h1] at h
    | some a =>
      cases h2 : resolveAccess p fs with
      | none => simp [h1, h2] at h
      | some as' =>
        simp only [h1, h2, Option.some.injEq] at h
        rw [← h, List.map_cons, List.map_cons, h1, resolveAccess_map p fs as' h2]

theorem resolveAccess_getElem? {p : Access} {fs : List FieldAcc} {as : List Access}
    (h : resolveAccess p fs = some as) (k : Nat) : (fs[k]?).map (resolveAccess1 p) = (as[k]?).map some := by
  rw [← List.getElem?_map, ← List.getElem?_map, resolveAccess_map p fs as h]

theorem resolveAccess_some {p : Access} {fs : List FieldAcc} {as : List Access} (h : resolveAccess p fs = some as)
    {k : Nat} {a : Access} (hk : as[k]? = some a) : ∃ f, fs[k]? = some f ∧ resolveAccess1 p f = some a := by
  have := resolveAccess_getElem? h k
  rw [hk] at this
  cases hf : fs[k]? with
  | none => rw [hf] at this; cases this
  | some f => rw [hf] at this; exact ⟨f, rfl, Option.some.inj this⟩

theorem resolveAccess1_readOnly {f : FieldAcc} {a : Access} (h : resolveAccess1 .readOnly f = some a) :
    a = .readOnly := by
  obtain ⟨_ | x, pulse⟩ := f <;> simp only [resolveAccess1] at h
  · exact (Option.some.inj h).symm
  · split at h
    · rename_i hc
      rw [← Option.some.inj h]
      exact eq_of_beq (Bool.and_eq_true _ _ ▸ hc).2
    · cases h

theorem resolveAccess1_readWrite {f : FieldAcc} {a : Access} (h : resolveAccess1 .readWrite f = some a) :
    (a = .readWrite ∨ a = .writeOnly) ∧ (f.pulse = true → f.access ≠ none → a = .writeOnly) := by
  obtain ⟨_ | x, pulse⟩ := f <;> simp only [resolveAccess1] at h
  · exact ⟨Or.inl (Option.some.inj h).symm, fun _ hn => absurd rfl hn⟩
  · split at h
    · rename_i hc
      rw [← Option.some.inj h]
      cases pulse
      · exact ⟨by simpa using hc, fun hp => by cases hp⟩
      · exact ⟨Or.inr rfl, fun _ _ => rfl⟩
    · cases h


theorem checkNames_iff : ∀ (ns seen : List Nat),
    checkNames seen ns = true ↔ ns.Nodup ∧ ∀ n ∈ ns, n ∉ seen
  | [], seen => by simp [checkNames]
  | n :: ns, seen => by
    unfold checkNames
    by_cases h : seen.contains n = true
    · simp only [h, if_true]
      constructor
      · intro hf; cases hf
      · intro ⟨_, hall⟩
        exact absurd (List.contains_iff_mem.mp h) (hall n (List.mem_cons_self ..))
    · simp only [h, Bool.false_eq_true, if_false]
      rw [checkNames_iff ns (n :: seen)]
      have hn : n ∉ seen := fun hm => h (List.contains_iff_mem.mpr hm)
      constructor
      · intro ⟨hnd, hall⟩
        refine ⟨List.nodup_cons.mpr ⟨fun hm => (hall n hm) (List.mem_cons_self ..), hnd⟩, ?_⟩
        intro m hm
        rcases List.mem_cons.mp hm with rfl | hm
        · exact hn
        · exact fun hs => hall m hm (List.mem_cons_of_mem _ hs)
      · intro ⟨hnd, hall⟩
        obtain ⟨hnn, hnd'⟩ := List.nodup_cons.mp hnd
        refine ⟨hnd', fun m hm hs => ?_⟩
        rcases List.mem_cons.mp hs with rfl | hs
        · exact hnn hm
        · exact hall m (List.mem_cons_of_mem _ hm) hs

end Litex.Csr
