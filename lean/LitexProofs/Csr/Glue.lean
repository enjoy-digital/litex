import LitexModel.Csr.Glue
import LitexProofs.Csr.Array
/-
  The CSR bus glue is transparent when every interface carries the full address: an assignment between interfaces
  truncates (`IfW.clip`), and truncation is the identity on values that fit (`IfW.clip_of_lt`, `orBus_lt`), so with
  all widths equal (`GlueCfg.Uniform`) the slaves see the masters' signals; plus the arithmetic of locations and pages.
-/
namespace Litex.Csr
open Litex

theorem IfW.like_eq (w : IfW) : IfW.like w = w := rfl

theorem IfW.clip_of_lt (w : IfW) (b : Bus) (ha : b.adr < 2 ^ w.aw) (hd : b.datW < 2 ^ w.dw) : w.clip b = b := by
  cases b
  simp only [IfW.clip, trunc] at *
  rw [Nat.mod_eq_of_lt ha, Nat.mod_eq_of_lt hd]

theorem orBus_lt (bs : List Bus) (a d : Nat) (h : ∀ b ∈ bs, b.adr < 2 ^ a ∧ b.datW < 2 ^ d) :
    (orBus bs).adr < 2 ^ a ∧ (orBus bs).datW < 2 ^ d := by
  induction bs with
  | nil => exact ⟨Nat.two_pow_pos a, Nat.two_pow_pos d⟩
  | cons b bs ih =>
    have hb := h b (List.mem_cons_self ..)
    have ht := ih (fun x hx => h x (List.mem_cons_of_mem _ hx))
    exact ⟨Nat.or_lt_two_pow hb.1 ht.1, Nat.or_lt_two_pow hb.2 ht.2⟩

theorem zipWith_clip_id (w : IfW) : ∀ (ws : List IfW) (ms : List Bus), (∀ m ∈ ws, m = w) → ms.length = ws.length →
    (∀ b ∈ ms, b.adr < 2 ^ w.aw ∧ b.datW < 2 ^ w.dw) → List.zipWith IfW.clip ws ms = ms
  | [], [], _, _, _ => rfl
  | [], _ :: _, _, h, _ => by simp at h
  | _ :: _, [], _, h, _ => by simp at h
  | x :: ws, b :: ms, hw, hl, hb => by
    have hx : x = w := hw x (List.mem_cons_self ..)
    have hb0 := hb b (List.mem_cons_self ..)
    simp only [List.zipWith_cons_cons]
    rw [hx, IfW.clip_of_lt w b hb0.1 hb0.2,
      zipWith_clip_id w ws ms (fun m hm => hw m (List.mem_cons_of_mem _ hm)) (by simpa using hl)
        (fun c hc => hb c (List.mem_cons_of_mem _ hc))]

/-- Every interface of the glue has the widths `w`: what `SoC.do_finalize` builds, where the masters, the intermediate
    `Interface.like(masters[0])` and all slave interfaces get the handler's `address_width`/`data_width`. -/
structure GlueCfg.Uniform (g : GlueCfg) (w : IfW) : Prop where
  masters_ne : g.masters ≠ []
  masters    : ∀ m ∈ g.masters, m = w
  slave      : g.slave = w

theorem GlueCfg.inter_of_uniform (g : GlueCfg) (w : IfW) (hu : g.Uniform w) : g.inter = w := by
  unfold GlueCfg.inter
  cases hm : g.masters with
  | nil => exact absurd hm hu.masters_ne
  | cons m ms =>
    simp only [List.headD_cons, IfW.like_eq]
    exact hu.masters m (by rw [hm]; exact List.mem_cons_self ..)

theorem GlueCfg.slaveBus_shared (g : GlueCfg) (w : IfW) (hu : g.Uniform w) (hk : g.kind = .shared) (ms : List Bus)
    (hl : ms.length = g.masters.length) (hb : ∀ b ∈ ms, b.adr < 2 ^ w.aw ∧ b.datW < 2 ^ w.dw) :
    g.slaveBus ms = orBus ms := by
  unfold GlueCfg.slaveBus GlueCfg.clipMasters viaInter
  rw [hk, zipWith_clip_id w g.masters ms hu.masters hl hb, g.inter_of_uniform w hu, hu.slave]
  obtain ⟨h1, h2⟩ := orBus_lt ms w.aw w.dw hb
  simp only []
  rw [IfW.clip_of_lt w _ h1 h2, IfW.clip_of_lt w _ h1 h2]

theorem GlueCfg.slaveBus_direct (g : GlueCfg) (w : IfW) (hu : g.Uniform w) (hk : g.kind = .direct) (b : Bus)
    (ms : List Bus) (hl : (b :: ms).length = g.masters.length)
    (hb : ∀ x ∈ b :: ms, x.adr < 2 ^ w.aw ∧ x.datW < 2 ^ w.dw) :
    g.slaveBus (b :: ms) = b := by
  unfold GlueCfg.slaveBus GlueCfg.clipMasters
  rw [hk, zipWith_clip_id w g.masters (b :: ms) hu.masters hl hb, hu.slave]
  have hb0 := hb b (List.mem_cons_self ..)
  simp only [List.headD_cons]
  exact IfW.clip_of_lt w b hb0.1 hb0.2

theorem idleBus_eq_zeroBus : idleBus = zeroBus := rfl

theorem loc_adr_lt (aw p loc word : Nat) (hp : p ≤ aw) (hl : loc < 2 ^ (aw - p)) (hw : word < 2 ^ p) :
    loc * 2 ^ p + word < 2 ^ aw :=
  page_lt hw (by rw [Nat.pow_div hp Nat.two_pos]; exact hl)

theorem BankCfg.wordAdr_lt (c : BankCfg) (k j aw : Nat) (hfit : c.Fits) (hv : c.ValidWord k j)
    (hp : c.pbits ≤ aw) (hl : c.address < 2 ^ (aw - c.pbits)) : c.wordAdr k j < 2 ^ aw := by
  unfold BankCfg.wordAdr
  exact loc_adr_lt aw c.pbits c.address _ hp hl
    (Nat.lt_of_lt_of_le (addrOf_lt _ _ _ _ _ hv.1 hv.2) hfit)

/-- `SoCCSRHandler.n_locs` for 32-bit alignment and paging `4·2^p`: exactly the locations a bank select of
    `aw - p` bits can distinguish. -/
theorem csrNLocs_eq (aw p : Nat) (hp : p ≤ aw) : csrNLocs 32 aw (4 * 2 ^ p) = 2 ^ (aw - p) := by
  unfold csrNLocs
  have h4 : (32 : Nat) / 8 = 4 := rfl
  rw [h4, Nat.mul_div_mul_left _ _ (by decide : 0 < 4), Nat.pow_div hp (by decide)]

theorem glue_next (g : GlueCfg) (s : ArrayState) (i : ArrayIn) :
    (glueArray g).next s i = (bankArray g.array).next s (g.inner i) := rfl

theorem glue_next_bank (g : GlueCfg) (s : ArrayState) (i : ArrayIn) (j : Nat) (hj : j < g.array.banks.length) :
    ((glueArray g).next s i).banks.getD j default =
      (bank (g.array.banks.getD j default)).next (s.banks.getD j default)
        { bus := g.slaveBus i.masters, dev := i.dev.getD j [] } := by
  rw [glue_next, array_next_bank g.array s (g.inner i) j hj]
  simp [ArrayCfg.bankIn, GlueCfg.inner, orBus]

end Litex.Csr
