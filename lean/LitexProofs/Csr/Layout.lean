import LitexModel.Csr.Layout
import LitexProofs.Lists
/-
  Lookup lemmas for the flattening of a register list into bus-word simple CSRs:
  word `j` of register `k` is found at `addrOf … k j`, and every populated word index is of that form.
  At the end: facts about the words of one register (`nwords`, `wordBits`, `lastWord`, the kinds).
-/
namespace Litex.Csr
open Litex

theorem wordOrder_length (ord : WordOrdering) (n : Nat) : (wordOrder ord n).length = n := by
  cases ord <;> simp [wordOrder]

theorem wordPos_lt (ord : WordOrdering) (n j : Nat) (h : j < n) : wordPos ord n j < n := by
  cases ord
  · exact Nat.lt_of_le_of_lt (Nat.sub_le _ _) (Nat.sub_lt (Nat.zero_lt_of_lt h) Nat.one_pos)
  · exact h

theorem wordPos_wordPos (ord : WordOrdering) (n j : Nat) (h : j < n) : wordPos ord n (wordPos ord n j) = j := by
  cases ord
  · exact Nat.sub_sub_self (Nat.le_sub_one_of_lt h)
  · rfl

theorem wordOrder_getElem? (ord : WordOrdering) (n p : Nat) (h : p < n) :
    (wordOrder ord n)[p]? = some (wordPos ord n p) := by
  cases ord
  · simp only [wordOrder, wordPos]
    rw [List.getElem?_reverse (by rw [List.length_range]; exact h), List.length_range]
    exact List.getElem?_range (wordPos_lt .big n p h)
  · exact List.getElem?_range h

theorem wordOrder_wordPos (ord : WordOrdering) (n j : Nat) (h : j < n) :
    (wordOrder ord n)[wordPos ord n j]? = some j := by
  rw [wordOrder_getElem? ord n _ (wordPos_lt ord n j h), wordPos_wordPos ord n j h]

theorem wordOrder_inv (ord : WordOrdering) (n p j : Nat) (h : (wordOrder ord n)[p]? = some j) :
    j < n ∧ p = wordPos ord n j := by
  have hp : p < n := wordOrder_length ord n ▸ (List.getElem?_eq_some_iff.mp h).1
  rw [wordOrder_getElem? ord n p hp, Option.some.injEq] at h
  subst h
  exact ⟨wordPos_lt ord n p hp, (wordPos_wordPos ord n p hp).symm⟩

theorem regSimples_length (bw : Nat) (ord : WordOrdering) (k : Nat) (r : RegSpec) :
    (regSimples bw ord k r).length = regWords bw r := by
  unfold regSimples regWords
  cases r.kind <;> simp [wordOrder_length]

theorem posIn_lt (bw : Nat) (ord : WordOrdering) (r : RegSpec) (j : Nat) (h : j < regWords bw r) :
    posIn bw ord r j < regWords bw r := by
  unfold posIn regWords at *
  cases hk : r.kind <;> simp [hk] at h ⊢ <;> exact wordPos_lt _ _ _ h

theorem regSimples_lookup (bw : Nat) (ord : WordOrdering) (k : Nat) (r : RegSpec) (j : Nat)
    (h : j < regWords bw r) :
    (regSimples bw ord k r)[posIn bw ord r j]? = some (mkSimple bw ord k r j) := by
  unfold regSimples posIn regWords at *
  cases hk : r.kind <;> simp [hk] at h ⊢
  · exact ⟨j, wordOrder_wordPos _ _ _ h, rfl⟩
  · exact ⟨j, wordOrder_wordPos _ _ _ h, rfl⟩
  · simp [mkSimple, hk]

theorem regSimples_inv (bw : Nat) (ord : WordOrdering) (k : Nat) (r : RegSpec) (p : Nat) (sc : Simple)
    (h : (regSimples bw ord k r)[p]? = some sc) :
    ∃ j, j < regWords bw r ∧ sc = mkSimple bw ord k r j ∧ p = posIn bw ord r j := by
  unfold regSimples posIn regWords at *
  cases hk : r.kind <;> simp [hk] at h ⊢
  · obtain ⟨j, hj, rfl⟩ := h
    obtain ⟨h1, h2⟩ := wordOrder_inv _ _ _ _ hj
    exact ⟨j, h1, rfl, h2⟩
  · obtain ⟨j, hj, rfl⟩ := h
    obtain ⟨h1, h2⟩ := wordOrder_inv _ _ _ _ hj
    exact ⟨j, h1, rfl, h2⟩
  · have hp : p = 0 := by
      have := (List.getElem?_eq_some_iff.mp h).1
      simpa using this
    subst hp
    simp at h
    exact ⟨h.symm, rfl⟩

theorem simplesFrom_length (bw : Nat) (ord : WordOrdering) (k0 : Nat) (regs : List RegSpec) :
    (simplesFrom bw ord k0 regs).length = regBase bw regs regs.length := by
  induction regs generalizing k0 with
  | nil => simp [simplesFrom, regBase]
  | cons r rs ih => simp [simplesFrom, regBase, regSimples_length, ih]

theorem simplesFrom_lookup (bw : Nat) (ord : WordOrdering) (regs : List RegSpec) (k0 k j : Nat)
    (hk : k < regs.length) (hj : j < regWords bw (regs.getD k default)) :
    (simplesFrom bw ord k0 regs)[regBase bw regs k + posIn bw ord (regs.getD k default) j]? =
      some (mkSimple bw ord (k0 + k) (regs.getD k default) j) := by
  induction regs generalizing k0 k with
  | nil => simp at hk
  | cons r rs ih =>
    cases k with
    | zero =>
      simp only [List.getD_cons_zero] at hj ⊢
      simp only [simplesFrom, regBase, Nat.zero_add, Nat.add_zero]
      rw [List.getElem?_append_left (by rw [regSimples_length]; exact posIn_lt _ _ _ _ hj)]
      exact regSimples_lookup _ _ _ _ _ hj
    | succ k =>
      simp only [List.getD_cons_succ] at hj ⊢
      simp only [simplesFrom, regBase]
      rw [Nat.add_assoc, List.getElem?_append_right (by rw [regSimples_length]; exact Nat.le_add_right _ _),
        regSimples_length, Nat.add_sub_cancel_left, ih (k0 + 1) k (Nat.lt_of_succ_lt_succ hk) hj,
        Nat.add_assoc, Nat.add_comm 1 k]

theorem simplesFrom_inv (bw : Nat) (ord : WordOrdering) (regs : List RegSpec) (k0 a : Nat) (sc : Simple)
    (h : (simplesFrom bw ord k0 regs)[a]? = some sc) :
    ∃ k j, k < regs.length ∧ j < regWords bw (regs.getD k default) ∧
      sc = mkSimple bw ord (k0 + k) (regs.getD k default) j ∧
      a = regBase bw regs k + posIn bw ord (regs.getD k default) j := by
  induction regs generalizing k0 a with
  | nil => simp [simplesFrom] at h
  | cons r rs ih =>
    simp only [simplesFrom] at h
    by_cases ha : a < (regSimples bw ord k0 r).length
    · rw [List.getElem?_append_left ha] at h
      obtain ⟨j, hj, hsc, hp⟩ := regSimples_inv _ _ _ _ _ _ h
      exact ⟨0, j, by simp, by simpa using hj, by simpa using hsc, by simpa [regBase] using hp⟩
    · rw [List.getElem?_append_right (Nat.le_of_not_lt ha)] at h
      obtain ⟨k, j, hk, hj, hsc, hp⟩ := ih (k0 + 1) _ h
      refine ⟨k + 1, j, by simpa using hk, by simpa using hj, ?_, ?_⟩
      · rw [List.getD_cons_succ, hsc, Nat.add_assoc, Nat.add_comm 1 k]
      · rw [regSimples_length] at hp ha
        rw [List.getD_cons_succ, regBase, Nat.add_assoc, ← hp, Nat.add_sub_cancel' (Nat.le_of_not_lt ha)]

theorem simpleCsrs_lookup (bw : Nat) (ord : WordOrdering) (regs : List RegSpec) (k j : Nat)
    (hk : k < regs.length) (hj : j < regWords bw (regs.getD k default)) :
    (simpleCsrs bw ord regs)[addrOf bw ord regs k j]? = some (mkSimple bw ord k (regs.getD k default) j) := by
  have := simplesFrom_lookup bw ord regs 0 k j hk hj
  simpa [simpleCsrs, addrOf] using this

theorem simpleCsrs_inv (bw : Nat) (ord : WordOrdering) (regs : List RegSpec) (a : Nat) (sc : Simple)
    (h : (simpleCsrs bw ord regs)[a]? = some sc) :
    ∃ k j, k < regs.length ∧ j < regWords bw (regs.getD k default) ∧
      sc = mkSimple bw ord k (regs.getD k default) j ∧ a = addrOf bw ord regs k j := by
  obtain ⟨k, j, hk, hj, hsc, ha⟩ := simplesFrom_inv bw ord regs 0 a sc h
  exact ⟨k, j, hk, hj, by simpa using hsc, by simpa [addrOf] using ha⟩

theorem mkSimple_reg (bw : Nat) (ord : WordOrdering) (k : Nat) (r : RegSpec) (j : Nat) :
    (mkSimple bw ord k r j).reg = k := by
  unfold mkSimple; cases r.kind <;> rfl

theorem mkSimple_word (bw : Nat) (ord : WordOrdering) (k : Nat) (r : RegSpec) (j : Nat)
    (hj : j < regWords bw r) : (mkSimple bw ord k r j).word = j := by
  unfold mkSimple regWords at *
  cases hk : r.kind <;> simp [hk] at hj ⊢
  omega

/- Injectivity comes from the lookup, not from arithmetic on `regBase`: equal addresses hold the same `mkSimple`, whose
   fields `reg`, `word` record `k`, `j`. -/
theorem addrOf_injective (bw : Nat) (ord : WordOrdering) (regs : List RegSpec) (k j k' j' : Nat)
    (hk : k < regs.length) (hj : j < regWords bw (regs.getD k default))
    (hk' : k' < regs.length) (hj' : j' < regWords bw (regs.getD k' default))
    (h : addrOf bw ord regs k j = addrOf bw ord regs k' j') : k = k' ∧ j = j' := by
  have h1 := simpleCsrs_lookup bw ord regs k j hk hj
  have h2 := simpleCsrs_lookup bw ord regs k' j' hk' hj'
  rw [h, h2] at h1
  have h3 := Option.some.inj h1
  have hkk : k' = k := by
    have := congrArg Simple.reg h3
    simpa [mkSimple_reg] using this
  subst hkk
  have := congrArg Simple.word h3
  rw [mkSimple_word _ _ _ _ _ hj, mkSimple_word _ _ _ _ _ hj'] at this
  exact ⟨rfl, this.symm⟩

theorem addrOf_lt (bw : Nat) (ord : WordOrdering) (regs : List RegSpec) (k j : Nat)
    (hk : k < regs.length) (hj : j < regWords bw (regs.getD k default)) :
    addrOf bw ord regs k j < (simpleCsrs bw ord regs).length := by
  have h1 := simpleCsrs_lookup bw ord regs k j hk hj
  exact (List.getElem?_eq_some_iff.mp h1).1

theorem ne_raw_of_storage {r : RegSpec} (h : r.kind = .storage) : r.kind ≠ .raw := by rw [h]; decide

theorem ne_raw_of_status {r : RegSpec} (h : r.kind = .status) : r.kind ≠ .raw := by rw [h]; decide

theorem regWords_of_not_raw (bw : Nat) (r : RegSpec) (h : r.kind ≠ .raw) : regWords bw r = nwords bw r.size := by
  unfold regWords; cases hk : r.kind <;> simp_all

theorem lastWord_lt (ord : WordOrdering) (n : Nat) (h : 0 < n) : lastWord ord n < n := by
  cases ord <;> simp [lastWord] <;> omega

theorem word_lo_lt (bw size j : Nat) (hj : j < nwords bw size) : j * bw < size := by
  by_cases hbw : bw = 0
  · subst hbw; simp [nwords] at hj
  · exact (lt_ceilDiv_iff (Nat.pos_of_ne_zero hbw)).1 hj

theorem word_window_le (bw size j : Nat) (hj : j < nwords bw size) : j * bw + wordBits bw size j ≤ size :=
  Nat.le_trans (Nat.add_le_add_left (Nat.min_le_left _ _) _)
    (Nat.le_of_eq (Nat.add_sub_cancel' (Nat.le_of_lt (word_lo_lt bw size j hj))))

end Litex.Csr
