import LitexModel.Verilog.Expr
import LitexProofs.Fhdl.BitLemmas
/-
  Context-determined Verilog evaluation agrees with the unbounded reading of the same expression, modulo
  `2^W`, under the side condition `fitsV` (IEEE 1364-2005 §5.4/5.5 sizing versus exact integers).
-/
namespace Litex.C01

theorem ext_unsigned (w W : Nat) (v : Int) : ext w W false v = v := rfl

theorem ext_signed (w W : Nat) (v : Int) :
    ext w W true v = if p2 (w - 1) ≤ v then v + (p2 W - p2 w) else v := by
  simp only [ext, Bool.true_and, decide_eq_true_eq]

theorem ext_tn {w W : Nat} {sg : Bool} {x : Int} (hwW : w ≤ W) (h : fitsAt w W sg x = true) :
    ext w W sg (tn w x) = tn W x := by
  simp only [fitsAt, Bool.and_eq_true, Bool.or_eq_true, decide_eq_true_eq] at h
  obtain ⟨hw, h⟩ := h
  have hle := p2_le hwW
  rcases h with rfl | h
  · unfold ext
    split
    · rw [Int.sub_self, Int.add_zero]
    · rfl
  · cases sg
    · rw [ext_unsigned, tn_of_inRange_unsigned h]
      have h := inRange_unsigned.1 h
      exact (tn_of_range h.1 (Int.lt_of_lt_of_le h.2 hle)).symm
    · have h := inRange_signed.1 h
      have hH := p2_le (Nat.sub_le w 1)
      rw [ext_signed]
      by_cases hx : 0 ≤ x
      · have hxw := Int.lt_of_lt_of_le h.2 hH
        rw [tn_of_range hx hxw, if_neg (Int.not_le.2 h.2)]
        exact (tn_of_range hx (Int.lt_of_lt_of_le hxw hle)).symm
      · -- a negative `x` has the pattern `x + 2^w`, with the top bit set, and is extended to `x + 2^W`
        have hxw := Int.le_trans (Int.neg_le_neg hH) h.1
        rw [tn_of_neg hxw (Int.not_le.1 hx), if_pos (by have := p2_pred hw; omega),
          tn_of_neg (Int.le_trans (Int.neg_le_neg hle) hxw) (Int.not_le.1 hx)]
        omega

theorem ext_of_range {w W : Nat} {sg : Bool} {v : Int} (hwW : w ≤ W) (h : fitsAt w W sg v = true)
    (hv : 0 ≤ v ∧ v < p2 w) : ext w W sg v = tn W v := by
  have := ext_tn hwW h
  rwa [tn_of_range hv.1 hv.2] at this

theorem concatWidth_append (xs : List VExpr) (e : VExpr) :
    concatWidth (xs ++ [e]) = concatWidth xs + selfWidth e := by
  induction xs with
  | nil => simp only [List.nil_append, concatWidth, Nat.zero_add, Nat.add_zero]
  | cons x xs ih => simp only [List.cons_append, concatWidth, ih, Nat.add_assoc]

theorem idealConcat_range (ρ : Nat → Int) :
    ∀ l : List VExpr, 0 ≤ idealConcat ρ l ∧ idealConcat ρ l < p2 (concatWidth l)
  | [] => ⟨Int.le_refl 0, p2_pos 0⟩
  | e :: es => by
    rw [idealConcat, concatWidth, Nat.add_comm, p2_add, Int.add_comm, Int.mul_comm]
    exact digits_range (idealConcat_range ρ es) ⟨tn_nonneg _ _, tn_lt _ _⟩

theorem idealBin_cmp {o : VBin} (h : o.isCmp = true) (x y : Int) : idealBin o x y = b2i (cmpV o x y) := by
  cases o <;> first | rfl | cases h

theorem b2i_range (b : Bool) : 0 ≤ b2i b ∧ b2i b < p2 1 := by cases b <;> decide

/-- Comparison operands sized to `w` bits and read back in their common type compare as the numbers do. -/
theorem cmp_patterns {w : Nat} (hw : 0 < w) {sg : Bool} {x y : Int} (hx : inRange w sg x = true)
    (hy : inRange w sg y = true) (o : VBin) :
    (if sg then cmpV o (toS w (tn w x)) (toS w (tn w y)) else cmpV o (tn w x) (tn w y)) = cmpV o x y := by
  cases sg
  · rw [if_neg Bool.false_ne_true, tn_of_inRange_unsigned hx, tn_of_inRange_unsigned hy]
  · rw [if_pos rfl, toS_tn_of_inRange hw hx, toS_tn_of_inRange hw hy]

/-- `>>>` on the `W`-bit pattern of an in-range operand: arithmetic shift of the signed reading, logical shift
    (which stays inside `W` bits) of the unsigned one. -/
theorem shr_pattern {W : Nat} (hW : 0 < W) {sg : Bool} {x : Int} (hx : inRange W sg x = true) (k : Nat) :
    (if sg then tn W (toS W (tn W x) / p2 k) else tn W x / p2 k) = tn W (x / p2 k) := by
  cases sg
  · rw [if_neg Bool.false_ne_true, tn_of_inRange_unsigned hx]
    have h := inRange_unsigned.1 hx
    exact (tn_of_range (Int.ediv_nonneg h.1 (Int.le_of_lt (p2_pos k)))
      (Int.lt_of_le_of_lt (Int.ediv_le_self _ h.1) h.2)).symm
  · rw [if_pos rfl, toS_tn_of_inRange hW hx]

theorem arithV_tn {o : VBin} (hc : o.isCmp = false) (hs : o.isShift = false) (W : Nat) (x y : Int) :
    arithV o W (tn W x) (tn W y) = tn W (idealBin o x y) := by
  cases o
  case add => exact tn_add W x y
  case sub => exact tn_sub W x y
  case mul => exact tn_mul W x y
  case and => exact tn_landI W x y
  case xor => exact tn_xorI W x y
  case or => exact tn_lorI W x y
  case shl => cases hs
  case shr => cases hs
  all_goals cases hc

mutual
theorem evalV_ideal (ρ : Nat → Int) :
    ∀ (e : VExpr) (W : Nat) (sg : Bool), selfWidth e ≤ W → fitsV ρ e W sg = true →
      evalV ρ W sg e = tn W (ideal ρ e)
  | .lit w s v, W, sg, hW, h => by
    rw [evalV, ideal, ← tn_truncS w s v]
    exact ext_tn hW h
  | .id i w s, W, sg, hW, h => by
    rw [evalV, ideal, ← tn_truncS w s (ρ i)]
    exact ext_tn hW h
  | .un .neg a, W, sg, hW, h => by
    rw [evalV, ideal, evalV_ideal ρ a W sg hW h, tn_neg]
  | .un .not a, W, sg, hW, h => by
    rw [evalV, ideal, evalV_ideal ρ a W sg hW h, tn_not]
  | .bin o a b, W, sg, hW, h => by
    simp only [selfWidth] at hW
    simp only [fitsV] at h
    simp only [evalV, ideal]
    cases hc : o.isCmp
    · simp only [hc, Bool.false_eq_true, if_false] at h hW ⊢
      cases hs : o.isShift
      · -- arithmetic / bitwise: both operands in the context
        simp only [hs, Bool.false_eq_true, if_false, Bool.and_eq_true] at h hW ⊢
        rw [evalV_ideal ρ a W sg (Nat.le_trans (Nat.le_max_left _ _) hW) h.1,
          evalV_ideal ρ b W sg (Nat.le_trans (Nat.le_max_right _ _) hW) h.2]
        exact arithV_tn hc hs W _ _
      · -- shift: left operand in the context, amount self-determined and unsigned
        simp only [hs, if_true, Bool.and_eq_true] at h hW ⊢
        obtain ⟨⟨⟨ha, hb⟩, hrb⟩, hextra⟩ := h
        rw [evalV_ideal ρ a W sg hW ha, evalV_ideal ρ b _ _ (Nat.le_refl _) hb, tn_of_inRange_unsigned hrb]
        cases o <;> cases hs
        · exact tn_mul_left W _ _
        · simp only [Bool.and_eq_true, decide_eq_true_eq] at hextra
          exact shr_pattern hextra.1 hextra.2 _
    · -- comparison: operands in their own common size and type, the 1-bit result extended to the context
      simp only [hc, if_true] at h hW ⊢
      simp only [Bool.and_eq_true, decide_eq_true_eq] at h
      obtain ⟨⟨⟨⟨⟨hw', ha⟩, hb⟩, hra⟩, hrb⟩, hres⟩ := h
      rw [evalV_ideal ρ a _ _ (Nat.le_max_left _ _) ha, evalV_ideal ρ b _ _ (Nat.le_max_right _ _) hb,
        cmp_patterns hw' hra hrb, idealBin_cmp hc]
      rw [idealBin_cmp hc] at hres
      exact ext_of_range hW hres (b2i_range _)
  | .cond c a b, W, sg, hW, h => by
    have h := Bool.and_eq_true_iff.1 h
    have hca := Bool.and_eq_true_iff.1 h.1
    rw [evalV, ideal, evalV_ideal ρ c _ _ (Nat.le_refl _) hca.1]
    split
    · exact evalV_ideal ρ a W sg (Nat.le_trans (Nat.le_max_left _ _) hW) hca.2
    · exact evalV_ideal ρ b W sg (Nat.le_trans (Nat.le_max_right _ _) hW) h.2
  | .psel a hi lo, W, sg, hW, h => by
    simp only [fitsV, Bool.and_eq_true, decide_eq_true_eq] at h
    obtain ⟨⟨⟨ha, hhi⟩, hlo⟩, hf⟩ := h
    rw [evalV, ideal, evalV_ideal ρ a _ _ (Nat.le_refl _) ha, tn_div_tn (by omega)]
    exact ext_of_range hW hf ⟨tn_nonneg _ _, tn_lt _ _⟩
  | .bsel a i, W, sg, hW, h => by
    simp only [fitsV, Bool.and_eq_true, decide_eq_true_eq] at h
    rw [evalV, ideal, evalV_ideal ρ a _ _ (Nat.le_refl _) h.1.1, tn_div_tn (Nat.succ_le_of_lt h.1.2)]
    exact ext_of_range hW h.2 ⟨tn_nonneg _ _, tn_lt _ _⟩
  | .concat l, W, sg, hW, h => by
    have h := Bool.and_eq_true_iff.1 h
    rw [evalV, ideal, evalConcat_ideal ρ l h.1]
    exact ext_of_range hW h.2 (idealConcat_range ρ l)
  | .repl n a, W, sg, hW, h => by
    have h := Bool.and_eq_true_iff.1 h
    rw [evalV, ideal, evalV_ideal ρ a _ _ (Nat.le_refl _) h.1]
    exact ext_of_range hW h.2 (replV_range (tn_nonneg _ _) (tn_lt _ _) n)
  | .signed a, W, sg, hW, h => by
    have h := Bool.and_eq_true_iff.1 h
    rw [evalV, ideal, evalV_ideal ρ a _ _ (Nat.le_refl _) h.1]
    have := ext_tn (w := selfWidth a) hW h.2
    rwa [tn_toS, tn_tn_same] at this
theorem evalConcat_ideal (ρ : Nat → Int) :
    ∀ (l : List VExpr), fitsConcat ρ l = true → evalConcat ρ l = idealConcat ρ l
  | [], _ => rfl
  | e :: es, h => by
    have h := Bool.and_eq_true_iff.1 h
    rw [evalConcat, idealConcat, evalV_ideal ρ e _ _ (Nat.le_refl _) h.1, evalConcat_ideal ρ es h.2]
end

end Litex.C01
