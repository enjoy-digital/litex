import LitexModel.Fhdl.Module
import LitexProofs.Fhdl.IntLemmas
/-
  Verilog evaluation reads an identifier only through the low `w` bits of its value, so evaluating on the
  bit-vector state (`tn (wd i) (ρ i)`) or on the simulator's signed values `ρ` is the same, provided every
  identifier node carries at most its declared width (`wfV`: `≤` is all the argument needs; the printer gives `=`).
-/
namespace Litex.C01

mutual
def wfV (wd : Nat → Nat) : VExpr → Prop
  | .lit _ _ _ => True
  | .id i w _ => w ≤ wd i
  | .un _ a => wfV wd a
  | .bin _ a b => wfV wd a ∧ wfV wd b
  | .cond c a b => wfV wd c ∧ wfV wd a ∧ wfV wd b
  | .psel a _ _ => wfV wd a
  | .bsel a _ => wfV wd a
  | .concat l => wfVL wd l
  | .repl _ a => wfV wd a
  | .signed a => wfV wd a
def wfVL (wd : Nat → Nat) : List VExpr → Prop
  | [] => True
  | e :: es => wfV wd e ∧ wfVL wd es
end

/-- What the Verilog state holds of the simulator's (signed, unbounded) values: every signal cut to its declared width. -/
def bitsEnv (wd : Nat → Nat) (ρ : Nat → Int) : Nat → Int := fun i => tn (wd i) (ρ i)

mutual
theorem evalV_congr (wd : Nat → Nat) (ρ : Nat → Int) :
    ∀ (v : VExpr) (W : Nat) (sg : Bool), wfV wd v → evalV (bitsEnv wd ρ) W sg v = evalV ρ W sg v
  | .lit w s x, W, sg, _ => by simp only [evalV]
  | .id i w s, W, sg, h => by
    simp only [evalV, bitsEnv, tn_tn h]
  | .un .neg a, W, sg, h => by
    simp only [evalV, evalV_congr wd ρ a W sg h]
  | .un .not a, W, sg, h => by
    simp only [evalV, evalV_congr wd ρ a W sg h]
  | .bin o a b, W, sg, h => by
    simp only [evalV, evalV_congr wd ρ a _ _ h.1, evalV_congr wd ρ b _ _ h.2]
  | .cond c a b, W, sg, h => by
    simp only [evalV, evalV_congr wd ρ c _ _ h.1, evalV_congr wd ρ a _ _ h.2.1, evalV_congr wd ρ b _ _ h.2.2]
  | .psel a hi lo, W, sg, h => by
    simp only [evalV, evalV_congr wd ρ a _ _ h]
  | .bsel a i, W, sg, h => by
    simp only [evalV, evalV_congr wd ρ a _ _ h]
  | .concat l, W, sg, h => by
    simp only [evalV, evalConcat_congr wd ρ l h]
  | .repl n a, W, sg, h => by
    simp only [evalV, evalV_congr wd ρ a _ _ h]
  | .signed a, W, sg, h => by
    simp only [evalV, evalV_congr wd ρ a _ _ h]
theorem evalConcat_congr (wd : Nat → Nat) (ρ : Nat → Int) :
    ∀ (l : List VExpr), wfVL wd l → evalConcat (bitsEnv wd ρ) l = evalConcat ρ l
  | [], _ => rfl
  | e :: es, h => by
    simp only [evalConcat, evalV_congr wd ρ e _ _ h.1, evalConcat_congr wd ρ es h.2]
end

theorem assignV_congr (wd : Nat → Nat) (ρ : Nat → Int) (lw : Nat) (v : VExpr) (h : wfV wd v) :
    assignV (bitsEnv wd ρ) lw v = assignV ρ lw v := by
  simp only [assignV, evalV_congr wd ρ v _ _ h]

mutual
def wfVS (wd : Nat → Nat) : VStmt → Prop
  | .nba _ r => wfV wd r
  | .ite c t _ f => wfV wd c ∧ wfVSs wd t ∧ wfVSs wd f
  | .case test items _ d => wfV wd test ∧ wfVItems wd items ∧ wfVSs wd d
def wfVSs (wd : Nat → Nat) : VStmts → Prop
  | .nil => True
  | .cons s ss => wfVS wd s ∧ wfVSs wd ss
def wfVItems (wd : Nat → Nat) : VItems → Prop
  | .nil => True
  | .cons k body rest => wfV wd k ∧ wfVSs wd body ∧ wfVItems wd rest
end

mutual
theorem execV_congr (wd : Nat → Nat) (ρ : Nat → Int) :
    ∀ (s : VStmt) (p : Pending), wfVS wd s → execV (bitsEnv wd ρ) s p = execV ρ s p
  | .nba l r, p, h => by
    simp only [execV, assignV_congr wd ρ _ r h]
  | .ite c t he f, p, h => by
    simp only [execV, evalV_congr wd ρ c _ _ h.1, execVs_congr wd ρ t p h.2.1, execVs_congr wd ρ f p h.2.2]
  | .case test items hd d, p, h => by
    simp only [execV, evalV_congr wd ρ test _ _ h.1, execVItems_congr wd ρ _ _ _ items p h.2.1,
      execVs_congr wd ρ d p h.2.2]
theorem execVs_congr (wd : Nat → Nat) (ρ : Nat → Int) :
    ∀ (ss : VStmts) (p : Pending), wfVSs wd ss → execVs (bitsEnv wd ρ) ss p = execVs ρ ss p
  | .nil, p, _ => rfl
  | .cons s ss, p, h => by
    simp only [execVs, execV_congr wd ρ s p h.1, execVs_congr wd ρ ss _ h.2]
theorem execVItems_congr (wd : Nat → Nat) (ρ : Nat → Int) (W : Nat) (sg : Bool) (tv : Int) :
    ∀ (items : VItems) (p : Pending), wfVItems wd items →
      execVItems (bitsEnv wd ρ) W sg tv items p = execVItems ρ W sg tv items p
  | .nil, p, _ => rfl
  | .cons k body rest, p, h => by
    simp only [execVItems, evalV_congr wd ρ k _ _ h.1, execVs_congr wd ρ body p h.2.1,
      execVItems_congr wd ρ W sg tv rest p h.2.2]
end

end Litex.C01
