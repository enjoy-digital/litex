import LitexModel.Stream.Core
import LitexProofs.Machine
/-
  Facts about every element: elements that only store tokens (`Elem.Queue`: the token balance of one cycle under an
  invariant lifts to runs and composes through `⟫`), simulation between two elements (`sim_run`, `SimUnder`,
  `Mirrors`), and induction for token relations that hold only under the producer contract (`Elem.Held`,
  `rel_run_held`).
-/
namespace Litex.Stream

theorem append_inflight {τ : Type} {a d f acc del f' : List τ} (h : a = d ++ f) (hc : f ++ acc = del ++ f') :
    a ++ acc = (d ++ del) ++ f' := by
  rw [h, List.append_assoc, hc, List.append_assoc]

namespace Elem
variable {α β σ τ : Type}

theorem mem_accNow {e : Elem α β σ} {s : σ} {i : In α} {t : Tok α} (h : t ∈ e.accNow s i) :
    t = i.tok ∧ i.valid = true ∧ (e.out s i).ready = true := by
  unfold accNow at h
  split at h
  · next hc => exact ⟨List.mem_singleton.mp h, Bool.and_eq_true_iff.mp hc⟩
  · cases h

theorem mem_delNow {e : Elem α β σ} {s : σ} {i : In α} {t : Tok β} (h : t ∈ e.delNow s i) :
    t = (e.out s i).tok ∧ (e.out s i).valid = true ∧ i.ready = true := by
  unfold delNow at h
  split at h
  · next hc => exact ⟨List.mem_singleton.mp h, Bool.and_eq_true_iff.mp hc⟩
  · cases h

/-- An identity-typed element that only stores tokens: `fl s` lists the tokens inside, oldest first. -/
structure Queue (e : Elem α α σ) (Inv : σ → Prop) (fl : σ → List (Tok α)) (cap : Nat) : Prop where
  inv_init : Inv e.init
  fl_init : fl e.init = []
  inv_step : ∀ s i, Inv s → Inv (e.step s i)
  balance : ∀ s i, Inv s → fl s ++ e.accNow s i = e.delNow s i ++ fl (e.step s i)
  bound : ∀ s, Inv s → (fl s).length ≤ cap

namespace Queue
variable {e : Elem α α σ} {Inv : σ → Prop} {fl : σ → List (Tok α)} {cap : Nat}

theorem run (h : Queue e Inv fl cap) : ∀ (ins : List (In α)) (s : σ), Inv s →
    fl s ++ e.accepted s ins = e.delivered s ins ++ fl (e.runFrom s ins) ∧ Inv (e.runFrom s ins) :=
  e.toMachine.balance_run fl Inv e.accNow e.delNow e.accepted e.delivered (fun _ => rfl) (fun _ _ _ => rfl)
    (fun _ => rfl) (fun _ _ _ => rfl) fun s i hs => ⟨h.balance s i hs, h.inv_step s i hs⟩

theorem token_rel (h : Queue e Inv fl cap) (ins : List (In α)) :
    e.accepted e.init ins = e.delivered e.init ins ++ fl (e.runFrom e.init ins) ∧
    (fl (e.runFrom e.init ins)).length ≤ cap ∧ Inv (e.runFrom e.init ins) :=
  have hr := h.run ins e.init h.inv_init
  ⟨by rw [← hr.1, h.fl_init, List.nil_append], h.bound _ hr.2, hr.2⟩

theorem no_loss (h : Queue e Inv fl cap) (ins : List (In α)) :
    e.delivered e.init ins <+: e.accepted e.init ins ∧
    (e.accepted e.init ins).length ≤ (e.delivered e.init ins).length + cap := by
  obtain ⟨h1, h2, _⟩ := h.token_rel ins
  rw [h1, List.length_append]
  exact ⟨List.prefix_append _ _, Nat.add_le_add_left h2 _⟩

/-- Step lemma of the history relation `fun s a d => Inv s ∧ a = d ++ fl s`, the form `rel_run` and `comp_rel` take (for
    pipelines with elements that are not queues). -/
theorem rel (h : Queue e Inv fl cap) (s : σ) (a d : List (Tok α)) (i : In α) (hr : Inv s ∧ a = d ++ fl s) :
    Inv (e.step s i) ∧ a ++ e.accNow s i = (d ++ e.delNow s i) ++ fl (e.step s i) :=
  ⟨h.inv_step s i hr.1, append_inflight hr.2 (h.balance s i hr.1)⟩

theorem comp {a : Elem α α σ} {b : Elem α α τ} {Ia : σ → Prop} {Ib : τ → Prop} {fa : σ → List (Tok α)}
    {fb : τ → List (Tok α)} {ca cb : Nat} (ha : Queue a Ia fa ca) (hb : Queue b Ib fb cb) :
    Queue (a.comp b) (fun s => Ia s.1 ∧ Ib s.2) (fun s => fb s.2 ++ fa s.1) (cb + ca) where
  inv_init := ⟨ha.inv_init, hb.inv_init⟩
  fl_init := by show fb b.init ++ fa a.init = []; rw [ha.fl_init, hb.fl_init]; rfl
  inv_step s i h := ⟨ha.inv_step s.1 (compInA a b s i) h.1, hb.inv_step s.2 (compInB a b s i) h.2⟩
  balance s i h := by
    rw [comp_accNow, comp_delNow, comp_step, List.append_assoc, ha.balance s.1 _ h.1, comp_mid, ← List.append_assoc,
      hb.balance s.2 _ h.2, List.append_assoc]
  bound s h := by
    rw [List.length_append]
    exact Nat.add_le_add (hb.bound s.2 h.2) (ha.bound s.1 h.1)

end Queue

/-- `strip` removes what `e1` adds to the source tokens of `e2`; `Inv` is an invariant of `e2` under which the two agree. -/
theorem sim_run {γ : Type} (e1 : Elem α γ σ) (e2 : Elem α β τ) (f : σ → τ) (strip : Tok γ → Tok β)
    (Inv : τ → Prop) (hinv : ∀ t i, Inv t → Inv (e2.step t i))
    (hf : ∀ s v t, Inv (f s) → ((e1.fwd s v t).1, strip (e1.fwd s v t).2) = e2.fwd (f s) v t)
    (hb : ∀ s v t r, Inv (f s) → e1.bwd s v t r = e2.bwd (f s) v t r)
    (hn : ∀ s v t r, Inv (f s) → f (e1.next s v t r) = e2.next (f s) v t r) :
    ∀ (ins : List (In α)) (s : σ), Inv (f s) →
      e1.accepted s ins = e2.accepted (f s) ins ∧ (e1.delivered s ins).map strip = e2.delivered (f s) ins ∧
      f (e1.runFrom s ins) = e2.runFrom (f s) ins := by
  intro ins
  induction ins with
  | nil => intro s _; exact ⟨rfl, rfl, rfl⟩
  | cons i is ih =>
    intro s hs
    have hv : (e1.out s i).valid = (e2.out (f s) i).valid := congrArg Prod.fst (hf s i.valid i.tok hs)
    have ht : strip (e1.out s i).tok = (e2.out (f s) i).tok := congrArg Prod.snd (hf s i.valid i.tok hs)
    have hr : (e1.out s i).ready = (e2.out (f s) i).ready := hb s i.valid i.tok i.ready hs
    have hstep : f (e1.step s i) = e2.step (f s) i := hn s i.valid i.tok i.ready hs
    obtain ⟨h1, h2, h3⟩ := ih (e1.step s i) (hstep ▸ hinv _ i hs)
    rw [hstep] at h1 h2 h3
    refine ⟨?_, ?_, h3⟩
    · simp only [accepted, accNow, hr, h1]
    · simp only [delivered, delNow, List.map_append, h2, hv]
      congr 1
      split
      · exact congrArg (fun t => [t]) ht
      · rfl

/-- `e1` read through `f` is `e2` wherever `I` (an invariant of `e2`) holds. -/
structure SimUnder (e1 : Elem α β σ) (e2 : Elem α β τ) (f : σ → τ) (I : τ → Prop) : Prop where
  inv : ∀ t i, I t → I (e2.step t i)
  fwd : ∀ s v t, I (f s) → e1.fwd s v t = e2.fwd (f s) v t
  bwd : ∀ s v t r, I (f s) → e1.bwd s v t r = e2.bwd (f s) v t r
  next : ∀ s v t r, I (f s) → f (e1.next s v t r) = e2.next (f s) v t r

namespace SimUnder
variable {e1 : Elem α β σ} {e2 : Elem α β τ} {f : σ → τ} {I : τ → Prop}

theorem out (h : SimUnder e1 e2 f I) (s : σ) (i : In α) (hs : I (f s)) : e1.out s i = e2.out (f s) i := by
  simp only [Elem.out, h.fwd s _ _ hs, h.bwd s _ _ _ hs]

theorem step (h : SimUnder e1 e2 f I) (s : σ) (i : In α) (hs : I (f s)) : f (e1.step s i) = e2.step (f s) i :=
  h.next _ _ _ _ hs

theorem run (h : SimUnder e1 e2 f I) (ins : List (In α)) (s : σ) (hs : I (f s)) :
    e1.accepted s ins = e2.accepted (f s) ins ∧ e1.delivered s ins = e2.delivered (f s) ins ∧
    f (e1.runFrom s ins) = e2.runFrom (f s) ins := by
  have := sim_run e1 e2 f id I h.inv (fun s v t hs => by rw [h.fwd s v t hs]; rfl) h.bwd h.next ins s hs
  rwa [List.map_id] at this

end SimUnder

/-- The case `I = True`: every property of `e2` stated on `fwd`/`bwd`/`step` transfers along `f`. -/
structure Mirrors (e1 : Elem α β σ) (e2 : Elem α β τ) (f : σ → τ) : Prop where
  fwd : ∀ s v t, e1.fwd s v t = e2.fwd (f s) v t
  bwd : ∀ s v t r, e1.bwd s v t r = e2.bwd (f s) v t r
  next : ∀ s v t r, f (e1.next s v t r) = e2.next (f s) v t r

namespace Mirrors
variable {e1 : Elem α β σ} {e2 : Elem α β τ} {f : σ → τ}

theorem out (h : Mirrors e1 e2 f) (s : σ) (i : In α) : e1.out s i = e2.out (f s) i := by
  simp only [Elem.out, h.fwd, h.bwd]

theorem step (h : Mirrors e1 e2 f) (s : σ) (i : In α) : f (e1.step s i) = e2.step (f s) i := h.next _ _ _ _

theorem simUnder (h : Mirrors e1 e2 f) : SimUnder e1 e2 f (fun _ => True) :=
  ⟨fun _ _ _ => trivial, fun s v t _ => h.fwd s v t, fun s v t r _ => h.bwd s v t r, fun s v t r _ => h.next s v t r⟩

theorem run (h : Mirrors e1 e2 f) (ins : List (In α)) (s : σ) :
    e1.accepted s ins = e2.accepted (f s) ins ∧ e1.delivered s ins = e2.delivered (f s) ins ∧
    f (e1.runFrom s ins) = e2.runFrom (f s) ins :=
  h.simUnder.run ins s trivial

end Mirrors

/-! The producer contract: a producer that offered a token which was not accepted offers the same token again in the
  next cycle.  Combinational elements such as `_DownConverter`/`Unpack` read the sink several times before they accept
  it, so their token relation holds only under it.  (C04 states the same contract pairwise, as `StableIn` of
  `Handshake.lean`.) -/

/-- The token the producer is obliged to present again in the next cycle (offered, not accepted). -/
def obl (e : Elem α β σ) (s : σ) (i : In α) : Option (Tok α) :=
  if i.valid && !(e.out s i).ready then some i.tok else none

def Meets (p : Option (Tok α)) (i : In α) : Prop := ∀ t, p = some t → i.valid = true ∧ i.tok = t

/-- The producer honours the contract along the whole run `ins` (started in state `s` with obligation `p`). -/
def Held (e : Elem α β σ) : σ → Option (Tok α) → List (In α) → Prop
  | _, _, [] => True
  | s, p, i :: is => Meets p i ∧ Held e (e.step s i) (e.obl s i) is

/-- The obligation pending after the run `ins` (started in state `s` with obligation `p`). -/
def oblAfter (e : Elem α β σ) : σ → Option (Tok α) → List (In α) → Option (Tok α)
  | _, p, [] => p
  | s, _, i :: is => oblAfter e (e.step s i) (e.obl s i) is

theorem rel_run_held (e : Elem α β σ) (R : σ → Option (Tok α) → List (Tok α) → List (Tok β) → Prop)
    (hstep : ∀ s p a d i, R s p a d → Meets p i →
      R (e.step s i) (e.obl s i) (a ++ e.accNow s i) (d ++ e.delNow s i)) :
    ∀ (ins : List (In α)) (s : σ) (p : Option (Tok α)) (a : List (Tok α)) (d : List (Tok β)),
      R s p a d → e.Held s p ins →
      R (e.runFrom s ins) (e.oblAfter s p ins) (a ++ e.accepted s ins) (d ++ e.delivered s ins) := by
  intro ins
  induction ins with
  | nil => intro s p a d h _; simpa [accepted, delivered, oblAfter] using h
  | cons i is ih =>
    intro s p a d h hh
    have := ih (e.step s i) (e.obl s i) _ _ (hstep s p a d i h hh.1) hh.2
    simpa [accepted, delivered, oblAfter, List.append_assoc] using this

theorem rel_run_held_init (e : Elem α β σ) (R : σ → Option (Tok α) → List (Tok α) → List (Tok β) → Prop)
    (h0 : R e.init none [] [])
    (hstep : ∀ s p a d i, R s p a d → Meets p i →
      R (e.step s i) (e.obl s i) (a ++ e.accNow s i) (d ++ e.delNow s i)) :
    ∀ ins, e.Held e.init none ins →
      R (e.runFrom e.init ins) (e.oblAfter e.init none ins) (e.accepted e.init ins) (e.delivered e.init ins) := by
  intro ins hh
  simpa using rel_run_held e R hstep ins e.init none [] [] h0 hh

end Elem
end Litex.Stream
