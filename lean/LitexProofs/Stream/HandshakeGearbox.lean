import LitexProofs.Stream.HandshakeComp
import LitexProofs.Stream.Gearbox
/-
  C04 for `stream.Gearbox`.  Stability of the source word needs the pointer/level invariant (`gbRel` of `Gearbox.lean`):
  a word written while the source is stalled lands in a slot that holds no unread bit, so the `o` bits selected by
  `o_count` do not move.  Progress: `io_lcm ≥ 2·max(i, o)` makes "not ready" imply "valid".
-/
namespace Litex.Stream
open Elem
variable {α : Type}

/-- Pointer/level invariant of the gearbox (the state part of `gbRel`, for some token history).  Stability needs the
    five pointer/level conjuncts only; the content equation comes along because `gbRel` and its step lemma are reused. -/
def gbInv (L i o : Nat) (z : α) (s : GbState α) : Prop := ∃ a d, gbRel L i o z s a d

theorem gbInv_init (i o : Nat) (hi : 0 < i) (ho : 0 < o) (z : α) :
    gbInv (ioLcm i o) i o z (gearbox (ioLcm i o) i o z).init := by
  obtain ⟨hiL, hoL, h2i, _⟩ := ioLcm_facts i o hi ho
  exact ⟨[], [], gbRel_init _ i o hi ho hiL hoL (by omega) z⟩

theorem gbInv_step (L i o : Nat) (hi : 0 < i) (ho : 0 < o) (hiL : i ∣ L) (hoL : o ∣ L) (z : α)
    (s : GbState α) (x : In (List α)) (h : gbInv L i o z s) : gbInv L i o z ((gearbox L i o z).step s x) := by
  obtain ⟨a, d, h⟩ := h
  exact ⟨_, _, gearbox_step L i o hi ho hiL hoL z s a d x h⟩

theorem gearbox_stepStable (L i o : Nat) (hi : 0 < i) (ho : 0 < o) (hiL : i ∣ L) (hoL : o ∣ L) (z : α) :
    StepStable (gearbox L i o z) (gbInv L i o z) where
  inv_step := gbInv_step L i o hi ho hiL hoL z
  hold s x x' hs _ hv hr := by
    obtain ⟨a, d, h⟩ := hs
    have hv' : o ≤ s.level := of_decide_eq_true hv
    rw [gearbox_step_eq, hr, Bool.and_false, if_neg Bool.false_ne_true]
    split
    · next hacc =>
      -- a word is written while the source word waits: it lands behind the unread bits (`write_sr`), so the `o` bits
      -- at the read pointer are the same
      obtain ⟨hlen, hw⟩ := h.write_sr hi hiL x.tok.data (of_decide_eq_true (Bool.and_eq_true_iff.mp hacc).2)
      obtain ⟨_, _, ho3⟩ := incMod_spec o L s.ocount ho hoL h.2.2.1
      refine ⟨decide_eq_true (show o ≤ s.level + i by omega), congrArg (Tok.mk · false false) ?_⟩
      show ((writeAt s.sr (i * s.icount) (fit i z x.tok.data)).drop (o * s.ocount)).take o = (s.sr.drop (o * s.ocount)).take o
      rw [read_eq_take L z _ (o * s.ocount) (s.level + i) o (by omega) hlen ho3, hw,
        read_eq_take L z s.sr (o * s.ocount) s.level o hv' h.1 ho3, List.take_append_of_le_length (by simp; exact hv')]
    · exact ⟨hv, rfl⟩

/-- `level < o → level + i < io_lcm`, from `io_lcm ≥ 2·max(i, o)`. -/
theorem gearbox_hs_now (L i o : Nat) (h2i : 2 * i ≤ L) (h2o : 2 * o ≤ L) (z : α) (s : GbState α)
    (x : In (List α)) (hc : Coop x) :
    1 ≤ ((gearbox L i o z).accNow s x).length + ((gearbox L i o z).delNow s x).length := by
  by_cases h : s.level + i < L
  · have hr : ((gearbox L i o z).out s x).ready = true := decide_eq_true h
    exact hs_of_ready hc hr
  · have hv : ((gearbox L i o z).out s x).valid = true := decide_eq_true (show o ≤ s.level by omega)
    exact hs_of_valid hc hv

/-- Words still to be accepted before the source word is complete: `⌈(o − level) / i⌉`. -/
def gbMu (i o : Nat) (s : GbState α) : Nat := (o - s.level + (i - 1)) / i

/-- One more word of `i` bits lowers `⌈d / i⌉` while `d > 0`. -/
theorem ceilDiv_sub_lt (i d : Nat) (hi : 0 < i) (hd : 0 < d) : (d - i + (i - 1)) / i < (d + (i - 1)) / i := by
  by_cases hx : i ≤ d
  · have e1 : d + (i - 1) = (d - i + (i - 1)) + i := by omega
    rw [e1, Nat.add_div_right _ hi]
    exact Nat.lt_succ_self _
  · have e0 : d - i = 0 := by omega
    have hlt : (0 + (i - 1)) / i = 0 := Nat.div_eq_of_lt (by omega)
    have e1 : d + (i - 1) = (d - 1) + i := by omega
    rw [e0, hlt, e1, Nat.add_div_right _ hi]
    exact Nat.succ_pos _

theorem gearbox_step_level_short (L i o : Nat) (z : α) (s : GbState α) (x : In (List α)) (hval : ¬ o ≤ s.level) :
    ((gearbox L i o z).step s x).level =
      if (x.valid && decide (s.level + i < L)) = true then s.level + i else s.level := by
  simp only [gearbox, Elem.step, hval, decide_false, Bool.false_and, Bool.not_false, Bool.and_true,
    Bool.and_false, Bool.false_eq_true, if_false]

/-- While the source word is incomplete (`level < o`) there is room for a sink word, and the number of sink words
    still missing never increases. -/
theorem gearbox_live (L i o : Nat) (hi : 0 < i) (ho : 0 < o) (hiL : i ∣ L) (hoL : o ∣ L)
    (h2i : 2 * i ≤ L) (h2o : 2 * o ≤ L) (z : α) :
    Live (gearbox L i o z) (gbInv L i o z) (gbMu i o) ((o + (i - 1)) / i) where
  inv_step := gbInv_step L i o hi ho hiL hoL z
  bound s _ := Nat.div_le_div_right (by omega)
  off s x _ hv := by
    by_cases hval : o ≤ s.level
    · exact Or.inl (decide_eq_true hval)
    · right
      unfold gbMu
      rw [gearbox_step_level_short L i o z s x hval, if_pos (by simp [hv]; omega),
        show o - (s.level + i) = o - s.level - i by omega]
      exact ceilDiv_sub_lt i (o - s.level) hi (by omega)
  mono s x _ := by
    by_cases hval : o ≤ s.level
    · exact Or.inl (decide_eq_true hval)
    · right
      unfold gbMu
      rw [gearbox_step_level_short L i o z s x hval]
      exact Nat.div_le_div_right (by split <;> omega)

theorem gearbox_good (i o : Nat) (hi : 0 < i) (ho : 0 < o) (z : α) :
    Good (gearbox (ioLcm i o) i o z) (gbInv (ioLcm i o) i o z) (gbMu i o) ((o + (i - 1)) / i) := by
  obtain ⟨hiL, hoL, h2i, h2o⟩ := ioLcm_facts i o hi ho
  exact ⟨gearbox_stepStable _ i o hi ho hiL hoL z, gearbox_live _ i o hi ho hiL hoL h2i h2o z⟩

end Litex.Stream
