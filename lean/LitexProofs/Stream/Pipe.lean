import LitexModel.Stream.Pipe
import LitexProofs.Stream.Basic
/-
  Delay n and PipelinedActor (queues, `Elem.Queue`), Shifter.
-/
namespace Litex.Stream
open Elem
variable {α : Type}

def delayInflight : (n : Nat) → DelayState α n → List (Tok α)
  | 0, _ => []
  | n + 1, s => delayInflight n s.2 ++ s.1.inflight

/-- `Delay(layout, n)` is modelled twice, and both are driven against the real code: `delay z n` (state a nested pair,
    dispatcher `delay`) and `stages z (delayStages n)` as the constructor builds it (`delayn`, `stages_queue`).  Their
    state types differ; nothing relates the two. -/
theorem delay_queue (z : Tok α) : ∀ n, Queue (delay z n) (fun _ => True) (delayInflight n) n
  | 0 => wire_queue
  | n + 1 =>
    have h := (pipeValid_queue z).comp (delay_queue z n)
    ⟨trivial, h.fl_init, fun _ _ _ => trivial, fun s i _ => h.balance s i ⟨trivial, trivial⟩,
      fun s _ => h.bound s ⟨trivial, trivial⟩⟩

/-- Tokens in the stages, oldest (last stage) first. -/
def paInflight (s : List (Bool × Tok α)) : List (Tok α) := ((s.filter (·.1)).map (·.2)).reverse

theorem paInflight_concat (s : List (Bool × Tok α)) (x : Bool × Tok α) :
    paInflight (s ++ [x]) = (if x.1 then [x.2] else []) ++ paInflight s := by
  unfold paInflight
  cases hx : x.1 <;> simp [List.filter_append, hx]

theorem paInflight_cons (s : List (Bool × Tok α)) (x : Bool × Tok α) :
    paInflight (x :: s) = paInflight s ++ (if x.1 then [x.2] else []) := by
  unfold paInflight
  cases hx : x.1 <;> simp [List.filter_cons, hx]

theorem paInflight_length_le (s : List (Bool × Tok α)) : (paInflight s).length ≤ s.length := by
  simp only [paInflight, List.length_reverse, List.length_map]
  exact List.length_filter_le _ _

theorem dropLast_cons_concat {β : Type} (y x : β) (l : List β) : (y :: (l ++ [x])).dropLast = y :: l := by
  rw [← List.cons_append, List.dropLast_concat]

/-! The last stage `x` drives the source; `pipe_ce = source.ready | ~x.valid` shifts every stage. -/

theorem pipeActor_fwd_nil (L : Nat) (z : Tok α) (v : Bool) (t : Tok α) : (pipeActor L z).fwd [] v t = paIn v t := rfl

theorem pipeActor_bwd_nil (L : Nat) (z : Tok α) (v : Bool) (t : Tok α) (r : Bool) :
    (pipeActor L z).bwd [] v t r = (r || !v) := by simp [pipeActor, paIn]

theorem pipeActor_step_nil (L : Nat) (z : Tok α) (i : In α) : (pipeActor L z).step [] i = [] := by
  simp [pipeActor, Elem.step]

theorem pipeActor_out_concat (L : Nat) (z : Tok α) (init : List (Bool × Tok α)) (x : Bool × Tok α) (v : Bool) (t : Tok α) :
    (pipeActor L z).fwd (init ++ [x]) v t = x := by
  simp [pipeActor]

theorem pipeActor_next_concat (L : Nat) (z : Tok α) (init : List (Bool × Tok α)) (x : Bool × Tok α) (v : Bool) (t : Tok α)
    (r : Bool) :
    (pipeActor L z).next (init ++ [x]) v t r = if r || !x.1 then paIn v t :: init else init ++ [x] := by
  simp only [pipeActor, List.getLast?_append, List.getLast?_singleton, Option.some_or, Option.getD_some,
    dropLast_cons_concat]

def paInv (L : Nat) (s : List (Bool × Tok α)) : Prop := s.length = L

theorem pipeActor_inv_step (L : Nat) (z : Tok α) (s : List (Bool × Tok α)) (i : In α) (h : paInv L s) :
    paInv L ((pipeActor L z).step s i) := by
  unfold paInv at *
  simp only [pipeActor, Elem.step]
  split
  · simp [List.length_dropLast, h]
  · exact h

theorem pipeActor_queue (L : Nat) (z : Tok α) : Queue (pipeActor L z) (paInv L) paInflight L where
  inv_init := List.length_replicate
  fl_init := by simp [pipeActor, paInflight]
  inv_step := pipeActor_inv_step L z
  balance s i _ := by
    obtain ⟨iv, it, ir⟩ := i
    rcases List.eq_nil_or_concat s with rfl | ⟨init, ⟨xv, xt⟩, rfl⟩
    · -- L = 0: combinational
      cases iv <;> cases ir <;> rfl
    · rw [List.concat_eq_append]
      have hb : (pipeActor L z).bwd (init ++ [(xv, xt)]) iv it ir = (ir || !xv) := by simp [pipeActor]
      simp only [Elem.accNow, Elem.delNow, Elem.out, Elem.step, pipeActor_out_concat, pipeActor_next_concat, hb]
      cases xv <;> cases ir <;> cases iv <;> simp [paInflight_cons, paInflight_concat, paIn]
  bound s h := h ▸ paInflight_length_le s

/-- What the sink token looks like inside the pipeline (data truncated to `dw` bits, `shift` dropped). -/
def shNorm (dw : Nat) (t : Tok (Nat × Nat)) : Tok Nat := { data := t.data.1 % 2 ^ dw, first := t.first, last := t.last }

def ShState.inflight (s : ShState) : List (Tok Nat) :=
  (if s.v2 then [{ data := s.rlo, first := s.f2, last := s.l2 }] else []) ++
  (if s.v1 then [{ data := s.rhi, first := s.f1, last := s.l1 }] else [])

/-- `q` is token `p` seen through the shifter's window: same flags, data = `r[sh : sh+dw]` where the low half of
    `r` is `p.data` and the high half whatever followed on the sink. -/
def ShiftOf (dw : Nat) (p q : Tok Nat) : Prop :=
  q.first = p.first ∧ q.last = p.last ∧ ∃ hi sh, q.data = shOut dw p.data hi sh

def shList (dw : Nat) : List (Tok Nat) → List (Tok Nat) → Prop
  | [], [] => True
  | p :: ps, q :: qs => ShiftOf dw p q ∧ shList dw ps qs
  | _, _ => False

theorem shList_snoc (dw : Nat) : ∀ (ps qs : List (Tok Nat)) (p q : Tok Nat),
    shList dw ps qs → ShiftOf dw p q → shList dw (ps ++ [p]) (qs ++ [q])
  | [], [], p, q, _, h => ⟨h, trivial⟩
  | [], _ :: _, _, _, h, _ => h.elim
  | _ :: _, [], _, _, h, _ => h.elim
  | _ :: ps, _ :: qs, p, q, h, hq => ⟨h.1, shList_snoc dw ps qs p q h.2 hq⟩

theorem shList_length (dw : Nat) : ∀ (ps qs : List (Tok Nat)), shList dw ps qs → ps.length = qs.length
  | [], [], _ => rfl
  | [], _ :: _, h => h.elim
  | _ :: _, [], h => h.elim
  | _ :: ps, _ :: qs, h => by simp [shList_length dw ps qs h.2]

def shRel (dw : Nat) (s : ShState) (a : List (Tok (Nat × Nat))) (d : List (Tok Nat)) : Prop :=
  ∃ dpre, a.map (shNorm dw) = dpre ++ s.inflight ∧ shList dw dpre d

theorem shifter_step (dw : Nat) (s : ShState) (a : List (Tok (Nat × Nat))) (d : List (Tok Nat))
    (i : In (Nat × Nat)) (h : shRel dw s a d) :
    shRel dw ((shifter dw).step s i) (a ++ (shifter dw).accNow s i) (d ++ (shifter dw).delNow s i) := by
  obtain ⟨v1, v2, f1, f2, l1, l2, rlo, rhi⟩ := s
  obtain ⟨iv, ⟨⟨td, tsh⟩, tf, tl⟩, ir⟩ := i
  obtain ⟨dpre, h1, h2⟩ := h
  -- `dpre` grows by the token leaving stage 2, as it is before the window is applied
  refine ⟨dpre ++ (if v2 && ir then [⟨rlo, f2, l2⟩] else []), ?_, ?_⟩
  · rw [List.map_append]
    refine append_inflight h1 ?_
    cases v1 <;> cases v2 <;> cases iv <;> cases ir <;> rfl
  · cases v2 <;> cases ir
    case true.true => exact shList_snoc dw _ _ _ _ h2 ⟨rfl, rfl, rhi, tsh, rfl⟩
    all_goals
      show shList dw (dpre ++ []) (d ++ [])
      rwa [List.append_nil, List.append_nil]

theorem shOut_zero (dw lo hi : Nat) (hdw : 0 < dw) (hlo : lo < 2 ^ dw) : shOut dw lo hi 0 = lo := by
  simp [shOut, hdw, Nat.add_mul_mod_self_right, Nat.mod_eq_of_lt hlo]

theorem shOut_low (dw lo hi sh : Nat) (hsh : sh < dw) (hlo : lo < 2 ^ dw) :
    shOut dw lo hi sh % 2 ^ (dw - sh) = lo / 2 ^ sh := by
  have hpow : 2 ^ dw = 2 ^ (dw - sh) * 2 ^ sh := by rw [← Nat.pow_add]; congr 1; omega
  have hdvd : 2 ^ (dw - sh) ∣ 2 ^ dw := ⟨2 ^ sh, hpow⟩
  have hdiv : (lo + hi * 2 ^ dw) / 2 ^ sh = lo / 2 ^ sh + hi * 2 ^ (dw - sh) := by
    rw [hpow, ← Nat.mul_assoc, Nat.add_mul_div_right _ _ (Nat.two_pow_pos sh)]
  have hsmall : lo / 2 ^ sh < 2 ^ (dw - sh) := by
    rw [Nat.div_lt_iff_lt_mul (Nat.two_pow_pos sh), ← hpow]; exact hlo
  simp only [shOut, hsh, if_true]
  rw [Nat.mod_mod_of_dvd _ hdvd, hdiv, Nat.add_mul_mod_self_right, Nat.mod_eq_of_lt hsmall]

end Litex.Stream
