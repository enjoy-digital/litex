import LitexProofs.Stream.Handshake
import LitexProofs.Stream.Sim
/-
  C04 — progress through serial composition `a ⟫ b`: delivery measures compose when `a` is a *front* element
  (`Front.comp`) or `b` a *back* element (`Back.comp`) — used for `Delay` and the chains `chain3`, `bufferized` of C04 —
  and in general with the product of the windows (`OfferMeasure.comp`).  The class `Live` (one measure for offering and
  delivering) is closed under `⟫`; `Good` = `StepStable` + `Live`; pipelines of stages and `BufferizeEndpoints` are
  members (`HandshakeGlue.lean`).  `AccMeasure`: the sink-side twin of `DelMeasure`.  `Mirrors`, `SimUnder`: membership and measures
  carry over to an element that is another one read through a state map.
-/
namespace Litex.Stream
namespace Elem
variable {α β γ σ τ : Type}

structure DelMeasure (e : Elem α β σ) (Inv : σ → Prop) (μ : σ → Nat) (B : Nat) : Prop where
  inv_step : ∀ s i, Inv s → Inv (e.step s i)
  bound : ∀ s, Inv s → μ s ≤ B
  dec : ∀ s i, Inv s → Coop i → 1 ≤ (e.delNow s i).length ∨ μ (e.step s i) < μ s

theorem DelMeasure.delivers {e : Elem α β σ} {Inv : σ → Prop} {μ : σ → Nat} {B : Nat}
    (h : DelMeasure e Inv μ B) (h0 : Inv e.init) : DeliversWithin e (B + 1) :=
  (Measure.mk (fun s i hs _ => h.inv_step s i hs) h.bound h.dec).deliversC h0 h.inv_step

theorem DelMeasure.congr {e : Elem α β σ} {Inv Inv' : σ → Prop} {μ : σ → Nat} {B : Nat}
    (h : DelMeasure e Inv μ B) (hiff : ∀ s, Inv' s ↔ Inv s) : DelMeasure e Inv' μ B where
  inv_step s i hs := (hiff _).2 (h.inv_step s i ((hiff s).1 hs))
  bound s hs := h.bound s ((hiff s).1 hs)
  dec s i hs hc := h.dec s i ((hiff s).1 hs) hc

/-- The sink-side twin of `DelMeasure`. -/
structure AccMeasure (e : Elem α β σ) (Inv : σ → Prop) (μ : σ → Nat) (B : Nat) : Prop where
  inv_step : ∀ s i, Inv s → Inv (e.step s i)
  bound : ∀ s, Inv s → μ s ≤ B
  dec : ∀ s i, Inv s → Coop i → 1 ≤ (e.accNow s i).length ∨ μ (e.step s i) < μ s

theorem AccMeasure.accepts {e : Elem α β σ} {Inv : σ → Prop} {μ : σ → Nat} {B : Nat}
    (h : AccMeasure e Inv μ B) (h0 : Inv e.init) : AcceptsWithin e (B + 1) :=
  (Measure.mk (fun s i hs _ => h.inv_step s i hs) h.bound h.dec).acceptsC h0 h.inv_step

/-- `hot s`: given `sink.valid`, `a` offers in this cycle; it holds one cycle after any cycle with `sink.valid`. -/
structure Front (a : Elem α β σ) (Ia : σ → Prop) (hot : σ → Bool) : Prop where
  inv_step : ∀ s i, Ia s → Ia (a.step s i)
  offers : ∀ s t, Ia s → hot s = true → (a.fwd s true t).1 = true
  heats : ∀ s i, Ia s → i.valid = true → hot (a.step s i) = true

/-- `full s` is `source.valid`; ready whenever the consumer is; full right after accepting. -/
structure Back (b : Elem β γ τ) (Ib : τ → Prop) (full : τ → Bool) : Prop where
  inv_step : ∀ s i, Ib s → Ib (b.step s i)
  ready : ∀ s v t, Ib s → b.bwd s v t true = true
  valid : ∀ s v t, Ib s → (b.fwd s v t).1 = full s
  fills : ∀ s i, Ib s → 1 ≤ (b.accNow s i).length → full (b.step s i) = true

/-- Measure: one cycle to heat `a`, then `b`'s own count — hence `B + 2` cooperative cycles at most. -/
theorem Front.comp {a : Elem α β σ} {b : Elem β γ τ} {Ia : σ → Prop} {Ib : τ → Prop} {hot : σ → Bool}
    {μ : τ → Nat} {B : Nat} (ha : Front a Ia hot) (hb : DelMeasure b Ib μ B) :
    DelMeasure (a.comp b) (fun s => Ia s.1 ∧ Ib s.2) (fun s => if hot s.1 then μ s.2 else B + 1) (B + 1) where
  inv_step := comp_inv_step ha.inv_step hb.inv_step
  bound s h := by
    have := hb.bound s.2 h.2
    show (if hot s.1 then μ s.2 else B + 1) ≤ B + 1
    split <;> omega
  dec s i h hc := by
    obtain ⟨hv, hr⟩ := hc
    have hhot' : hot (a.step s.1 (compInA a b s i)) = true := ha.heats s.1 (compInA a b s i) h.1 hv
    have := hb.bound _ (hb.inv_step s.2 (compInB a b s i) h.2)
    rw [comp_delNow, comp_step]
    dsimp only
    rw [hhot', if_pos rfl]
    cases hh : hot s.1 with
    | true =>
      have hcoopB : Coop (compInB a b s i) := by
        refine ⟨?_, hr⟩
        show (a.fwd s.1 i.valid i.tok).1 = true
        rw [hv]
        exact ha.offers s.1 i.tok h.1 hh
      exact (hb.dec s.2 (compInB a b s i) h.2 hcoopB).imp_right (by simp)
    | false => exact Or.inr (by simp; omega)

/-- Measure: `a`'s count until it hands over, then one cycle through the register `b`. -/
theorem Back.comp {a : Elem α β σ} {b : Elem β γ τ} {Ia : σ → Prop} {Ib : τ → Prop} {full : τ → Bool}
    {μ : σ → Nat} {B : Nat} (ha : DelMeasure a Ia μ B) (hb : Back b Ib full) :
    DelMeasure (a.comp b) (fun s => Ia s.1 ∧ Ib s.2) (fun s => if full s.2 then 0 else μ s.1 + 1) (B + 1) where
  inv_step := comp_inv_step ha.inv_step hb.inv_step
  bound s h := by
    have := ha.bound s.1 h.1
    show (if full s.2 then 0 else μ s.1 + 1) ≤ B + 1
    split <;> omega
  dec s i h hc := by
    obtain ⟨hv, hr⟩ := hc
    rw [comp_delNow, comp_step]
    dsimp only
    cases hf : full s.2 with
    | true =>
      have hval : (b.out s.2 (compInB a b s i)).valid = true := by
        show (b.fwd s.2 _ _).1 = true
        rw [hb.valid s.2 _ _ h.2]; exact hf
      exact Or.inl (delNow_pos hval hr)
    | false =>
      have hcoopA : Coop (compInA a b s i) := by
        refine ⟨hv, ?_⟩
        show b.bwd s.2 _ _ i.ready = true
        rw [hr]
        exact hb.ready s.2 _ _ h.2
      right
      rcases ha.dec s.1 (compInA a b s i) h.1 hcoopA with h1 | h1
      · rw [comp_mid] at h1
        rw [hb.fills s.2 (compInB a b s i) h.2 h1]
        simp
      · simp only [Bool.false_eq_true, if_false]
        split <;> omega

/-- `sink.ready` is high whenever `source.ready` is. -/
def ReadyTransparent (e : Elem α β σ) (Inv : σ → Prop) : Prop := ∀ s v t, Inv s → e.bwd s v t true = true

theorem ReadyTransparent.comp {a : Elem α β σ} {b : Elem β γ τ} {Ia : σ → Prop} {Ib : τ → Prop}
    (ha : ReadyTransparent a Ia) (hb : ReadyTransparent b Ib) :
    ReadyTransparent (a.comp b) (fun s => Ia s.1 ∧ Ib s.2) := by
  intro s v t h
  show a.bwd s.1 v t (b.bwd s.2 _ _ true) = true
  rw [hb s.2 _ _ h.2]
  exact ha s.1 v t h.1

theorem ReadyTransparent.accepts {e : Elem α β σ} {Inv : σ → Prop} (h : ReadyTransparent e Inv)
    (h0 : Inv e.init) (hstep : ∀ s i, Inv s → Inv (e.step s i)) : AcceptsWithin e 1 :=
  (Measure.ofNow (fun s i hs _ => hstep s i hs) (fun s i hs hc =>
    accNow_pos hc.1 (show e.bwd s i.valid i.tok i.ready = true by rw [hc.2]; exact h s _ _ hs))).acceptsC h0 hstep

/-! `OfferMeasure`: `a` answers a steady supply with an offer within `Na + 1` cycles, whatever its consumer does.
  `IdleMono`: under a ready consumer `b`'s delivery measure never rises in a cycle without a delivery.  Then `a ⟫ b`
  delivers in every window of `(Bb + 1) · (Na + 1)` cooperative cycles; the product is unavoidable (two cascaded
  up-converters).  The front elements are the case `Na ≤ 1`. -/

/-! The measure of `a ⟫ b` is the lexicographic pair `(μ_b, μ_a)` coded as `μ_b * (N + 1) + μ_a` with `μ_a ≤ N`. -/

theorem lex_lt_of_fst {a a' b b' N : Nat} (hb : b' < b) (ha : a' ≤ N) : b' * (N + 1) + a' < b * (N + 1) + a := by
  have : (b' + 1) * (N + 1) ≤ b * (N + 1) := Nat.mul_le_mul_right _ hb
  rw [Nat.succ_mul] at this
  omega

theorem lex_le_of_le {a a' b b' N : Nat} (hb : b' ≤ b) (ha : a' ≤ a) : b' * (N + 1) + a' ≤ b * (N + 1) + a := by
  have := Nat.mul_le_mul_right (N + 1) hb
  omega

theorem lex_lt_of_snd {a a' b b' N : Nat} (hb : b' ≤ b) (ha : a' < a) : b' * (N + 1) + a' < b * (N + 1) + a := by
  have := Nat.mul_le_mul_right (N + 1) hb
  omega

structure OfferMeasure (a : Elem α β σ) (Ia : σ → Prop) (ν : σ → Nat) (Na : Nat) : Prop where
  inv_step : ∀ s i, Ia s → Ia (a.step s i)
  bound : ∀ s, Ia s → ν s ≤ Na
  dec : ∀ s i, Ia s → i.valid = true → (a.fwd s true i.tok).1 = true ∨ ν (a.step s i) < ν s

def IdleMono (b : Elem β γ τ) (Ib : τ → Prop) (μ : τ → Nat) : Prop :=
  ∀ s i, Ib s → i.ready = true → 1 ≤ (b.delNow s i).length ∨ μ (b.step s i) ≤ μ s

theorem OfferMeasure.comp {a : Elem α β σ} {b : Elem β γ τ} {Ia : σ → Prop} {Ib : τ → Prop}
    {ν : σ → Nat} {Na : Nat} {μ : τ → Nat} {Bb : Nat}
    (ha : OfferMeasure a Ia ν Na) (hb : DelMeasure b Ib μ Bb) (hm : IdleMono b Ib μ) :
    DelMeasure (a.comp b) (fun s => Ia s.1 ∧ Ib s.2) (fun s => μ s.2 * (Na + 1) + ν s.1)
      (Bb * (Na + 1) + Na) where
  inv_step := comp_inv_step ha.inv_step hb.inv_step
  bound s h := lex_le_of_le (hb.bound s.2 h.2) (ha.bound s.1 h.1)
  dec s i h hc := by
    obtain ⟨hv, hr⟩ := hc
    rw [comp_delNow, comp_step]
    have hνb : ν (a.step s.1 (compInA a b s i)) ≤ Na := ha.bound _ (ha.inv_step s.1 _ h.1)
    rcases ha.dec s.1 (compInA a b s i) h.1 hv with hoff | hdec
    · -- `a` offers: `b` sees a cooperative cycle
      have hcoopB : Coop (compInB a b s i) := by
        refine ⟨?_, hr⟩
        show (a.fwd s.1 i.valid i.tok).1 = true
        rw [hv]; exact hoff
      exact (hb.dec s.2 (compInB a b s i) h.2 hcoopB).imp_right (fun h1 => lex_lt_of_fst h1 hνb)
    · -- `a` is still working towards an offer: its measure drops, `b`'s does not rise
      exact (hm s.2 (compInB a b s i) h.2 hr).imp_right (fun h1 => lex_lt_of_snd h1 hdec)

/-! `Live`: `off` — while the producer offers (ANY `source.ready`) the element offers or `μ` strictly decreases;
  `mono` — in a cycle in which the element does not offer `μ` does not increase.  It implies `OfferMeasure`, `DelMeasure`
  and `IdleMono` with the same `μ` (a delivery is an offer under a ready consumer).  `off` speaks of `fwd s true i.tok`,
  not of `fwd s i.valid i.tok`: inside `a ⟫ b` the producer of `b` is `a`'s source, and `b.off` has to be applied in the
  cycles in which `a` offers whatever its own sink shows. -/

structure Live (e : Elem α β σ) (Inv : σ → Prop) (μ : σ → Nat) (B : Nat) : Prop where
  inv_step : ∀ s i, Inv s → Inv (e.step s i)
  bound : ∀ s, Inv s → μ s ≤ B
  off : ∀ s i, Inv s → i.valid = true → (e.fwd s true i.tok).1 = true ∨ μ (e.step s i) < μ s
  mono : ∀ s i, Inv s → (e.fwd s i.valid i.tok).1 = true ∨ μ (e.step s i) ≤ μ s

theorem Live.offer {e : Elem α β σ} {Inv : σ → Prop} {μ : σ → Nat} {B : Nat} (h : Live e Inv μ B) :
    OfferMeasure e Inv μ B where
  inv_step := h.inv_step
  bound := h.bound
  dec := h.off

theorem Live.measure {e : Elem α β σ} {Inv : σ → Prop} {μ : σ → Nat} {B : Nat} (h : Live e Inv μ B) :
    DelMeasure e Inv μ B where
  inv_step := h.inv_step
  bound := h.bound
  dec s i hs hc := by
    obtain ⟨hv, hr⟩ := hc
    rcases h.off s i hs hv with ho | hd
    · left
      have : (e.out s i).valid = true := by
        show (e.fwd s i.valid i.tok).1 = true
        rw [hv]; exact ho
      simp [delNow, this, hr]
    · exact Or.inr hd

theorem Live.idleMono {e : Elem α β σ} {Inv : σ → Prop} {μ : σ → Nat} {B : Nat} (h : Live e Inv μ B) :
    IdleMono e Inv μ := by
  intro s i hs hr
  rcases h.mono s i hs with ho | hm
  · left
    have : (e.out s i).valid = true := ho
    simp [delNow, this, hr]
  · exact Or.inr hm

theorem Live.delivers {e : Elem α β σ} {Inv : σ → Prop} {μ : σ → Nat} {B : Nat} (h : Live e Inv μ B)
    (h0 : Inv e.init) : DeliversWithin e (B + 1) :=
  h.measure.delivers h0

theorem Live.comp {a : Elem α β σ} {b : Elem β γ τ} {Ia : σ → Prop} {Ib : τ → Prop}
    {μa : σ → Nat} {Ba : Nat} {μb : τ → Nat} {Bb : Nat} (ha : Live a Ia μa Ba) (hb : Live b Ib μb Bb) :
    Live (a.comp b) (fun s => Ia s.1 ∧ Ib s.2) (fun s => μb s.2 * (Ba + 1) + μa s.1) (Bb * (Ba + 1) + Ba) where
  inv_step := comp_inv_step ha.inv_step hb.inv_step
  bound s h := lex_le_of_le (hb.bound s.2 h.2) (ha.bound s.1 h.1)
  off s i h hv := by
    rw [comp_step]
    show (b.fwd s.2 (a.fwd s.1 true i.tok).1 (a.fwd s.1 true i.tok).2).1 = true ∨ _
    have hνb : μa (a.step s.1 (compInA a b s i)) ≤ Ba := ha.bound _ (ha.inv_step s.1 _ h.1)
    have hBv : (compInB a b s i).valid = (a.fwd s.1 true i.tok).1 := by
      show (a.fwd s.1 i.valid i.tok).1 = _
      rw [hv]
    have hBt : (compInB a b s i).tok = (a.fwd s.1 true i.tok).2 := by
      show (a.fwd s.1 i.valid i.tok).2 = _
      rw [hv]
    rcases ha.off s.1 (compInA a b s i) h.1 hv with hoff | hdec
    · -- `a` offers: `b` is offered a token
      have hoff' : (a.fwd s.1 true i.tok).1 = true := hoff
      refine (hb.off s.2 (compInB a b s i) h.2 (hBv.trans hoff')).imp (fun h1 => ?_) (fun h1 => lex_lt_of_fst h1 hνb)
      rw [hBt] at h1
      rw [hoff']
      exact h1
    · -- `a` is still working towards an offer
      refine (hb.mono s.2 (compInB a b s i) h.2).imp (fun h1 => ?_) (fun h1 => lex_lt_of_snd h1 hdec)
      rw [hBv, hBt] at h1
      exact h1
  mono s i h := by
    rw [comp_step]
    show (b.fwd s.2 (compInB a b s i).valid (compInB a b s i).tok).1 = true ∨ _
    have hνb : μa (a.step s.1 (compInA a b s i)) ≤ Ba := ha.bound _ (ha.inv_step s.1 _ h.1)
    cases hm : (compInB a b s i).valid with
    | true =>
      -- `a` offers to `b`: `b` offers or its measure strictly drops
      exact (hb.off s.2 (compInB a b s i) h.2 hm).imp id (fun h1 => Nat.le_of_lt (lex_lt_of_fst h1 hνb))
    | false =>
      refine (hb.mono s.2 (compInB a b s i) h.2).imp (fun h1 => by rw [hm] at h1; exact h1) (fun h1 => ?_)
      rcases ha.mono s.1 (compInA a b s i) h.1 with h3 | h3
      · have : (compInB a b s i).valid = true := h3
        rw [hm] at this; cases this
      · exact lex_le_of_le h1 h3

theorem Live.congr {e : Elem α β σ} {Inv Inv' : σ → Prop} {μ : σ → Nat} {B : Nat}
    (h : Live e Inv μ B) (hiff : ∀ s, Inv' s ↔ Inv s) : Live e Inv' μ B where
  inv_step s i hs := (hiff _).2 (h.inv_step s i ((hiff s).1 hs))
  bound s hs := h.bound s ((hiff s).1 hs)
  off s i hs hv := h.off s i ((hiff s).1 hs) hv
  mono s i hs := h.mono s i ((hiff s).1 hs)

structure Good (e : Elem α β σ) (Inv : σ → Prop) (μ : σ → Nat) (B : Nat) : Prop where
  stable : StepStable e Inv
  live : Live e Inv μ B

theorem Good.comp {a : Elem α β σ} {b : Elem β γ τ} {Ia : σ → Prop} {Ib : τ → Prop}
    {μa : σ → Nat} {Ba : Nat} {μb : τ → Nat} {Bb : Nat} (ha : Good a Ia μa Ba) (hb : Good b Ib μb Bb) :
    Good (a.comp b) (fun s => Ia s.1 ∧ Ib s.2) (fun s => μb s.2 * (Ba + 1) + μa s.1) (Bb * (Ba + 1) + Ba) :=
  ⟨ha.stable.comp hb.stable, ha.live.comp hb.live⟩

theorem Good.keepsContract {e : Elem α β σ} {Inv : σ → Prop} {μ : σ → Nat} {B : Nat} (h : Good e Inv μ B)
    (h0 : Inv e.init) : KeepsContract e :=
  keepsContract_of_stepStable h.stable h0

theorem Good.delivers {e : Elem α β σ} {Inv : σ → Prop} {μ : σ → Nat} {B : Nat} (h : Good e Inv μ B)
    (h0 : Inv e.init) : DeliversWithin e (B + 1) :=
  h.live.delivers h0

/-! `Mirrors` (`Sim.lean`): `strideUp` is `upConv` with the param register kept beside it, an element with a `Monitor` on its source is the element
  with the monitor's registers beside it: same ports, same steps.  Class membership carries over. -/

namespace Mirrors
variable {e1 : Elem α β σ} {e2 : Elem α β τ} {f : σ → τ}

theorem stepStable (h : Mirrors e1 e2 f) {Inv : τ → Prop} (h2 : StepStable e2 Inv) :
    StepStable e1 (fun s => Inv (f s)) where
  inv_step s i hs := h.step s i ▸ h2.inv_step (f s) i hs
  hold s i i' hs hin := by
    rw [h.out, h.out, h.step]; rw [h.out] at hin
    exact h2.hold (f s) i i' hs hin

theorem live (h : Mirrors e1 e2 f) {Inv : τ → Prop} {μ : τ → Nat} {B : Nat} (h2 : Live e2 Inv μ B) :
    Live e1 (fun s => Inv (f s)) (fun s => μ (f s)) B where
  inv_step s i hs := h.step s i ▸ h2.inv_step (f s) i hs
  bound s hs := h2.bound (f s) hs
  off s i hs hv := by rw [h.fwd, h.step]; exact h2.off (f s) i hs hv
  mono s i hs := by rw [h.fwd, h.step]; exact h2.mono (f s) i hs

theorem good (h : Mirrors e1 e2 f) {Inv : τ → Prop} {μ : τ → Nat} {B : Nat} (h2 : Good e2 Inv μ B) :
    Good e1 (fun s => Inv (f s)) (fun s => μ (f s)) B := ⟨h.stepStable h2.stable, h.live h2.live⟩

theorem delMeasure (h : Mirrors e1 e2 f) {Inv : τ → Prop} {μ : τ → Nat} {B : Nat} (h2 : DelMeasure e2 Inv μ B) :
    DelMeasure e1 (fun s => Inv (f s)) (fun s => μ (f s)) B where
  inv_step s i hs := h.step s i ▸ h2.inv_step (f s) i hs
  bound s hs := h2.bound (f s) hs
  dec s i hs hc := by unfold Elem.delNow; rw [h.out, h.step]; exact h2.dec (f s) i hs hc

theorem readyTransparent (h : Mirrors e1 e2 f) {Inv : τ → Prop} (h2 : ReadyTransparent e2 Inv) :
    ReadyTransparent e1 (fun s => Inv (f s)) := fun s v t hs => by rw [h.bwd]; exact h2 (f s) v t hs

end Mirrors

/-! Under an invariant (`SimUnder`, `Sim.lean`): every `Measure` of `e2` whose invariant implies `I` is one of `e1`. -/

namespace SimUnder
variable {e1 : Elem α β σ} {e2 : Elem α β τ} {f : σ → τ} {I : τ → Prop}

theorem measure (h : SimUnder e1 e2 f I) {Inv : τ → Prop} {C : τ → In α → Prop} {μ : τ → Nat} {B : Nat}
    {now1 : σ → In α → Nat} {now2 : τ → In α → Nat} (hI : ∀ t, Inv t → I t)
    (hnow : ∀ s i, I (f s) → now1 s i = now2 (f s) i) (m : Measure e2 Inv C now2 μ B) :
    Measure e1 (fun s => Inv (f s)) (fun s i => C (f s) i) now1 (fun s => μ (f s)) B where
  inv_step s i hs hc := h.step s i (hI _ hs) ▸ m.inv_step (f s) i hs hc
  bound s hs := m.bound (f s) hs
  dec s i hs hc := by
    rw [hnow s i (hI _ hs), h.step s i (hI _ hs)]
    exact m.dec (f s) i hs hc

theorem hsCnt_eq (h : SimUnder e1 e2 f I) (s : σ) (i : In α) (hs : I (f s)) : e1.hsCnt s i = e2.hsCnt (f s) i := by
  unfold hsCnt accNow delNow; rw [h.out s i hs]

theorem delCnt_eq (h : SimUnder e1 e2 f I) (s : σ) (i : In α) (hs : I (f s)) : e1.delCnt s i = e2.delCnt (f s) i := by
  unfold delCnt delNow; rw [h.out s i hs]

end SimUnder

end Elem
end Litex.Stream
