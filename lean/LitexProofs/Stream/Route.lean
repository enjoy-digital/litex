import LitexModel.Stream.Route
import LitexModel.Stream.Conv
import LitexProofs.Stream.Sim
/-
  Per-cycle facts about Multiplexer / Demultiplexer (both are stateless), their per-port histories, the Gate,
  and the Crossbar built from a Demultiplexer and a Multiplexer.
-/
namespace Litex.Stream
open Elem
variable {α : Type}

theorem mux_cycle_sel (n : Nat) (z : Tok α) (i : MuxIn α) :
    muxDel n z i = muxAccAt n z i.sel i := by
  unfold muxDel muxAccAt muxOut
  by_cases h : i.sel < n
  · simp [h]
  · simp [h]

theorem mux_cycle_other (n : Nat) (z : Tok α) (i : MuxIn α) (k : Nat) (hk : k ≠ i.sel) :
    muxAccAt n z k i = [] := by
  unfold muxAccAt muxOut
  by_cases h : i.sel < n
  · simp [h]
    intro _
    by_cases hkn : k < n <;> simp [hkn, hk]
  · simp [h]
    intro _
    by_cases hkn : k < n <;> simp [hkn]

theorem demux_cycle_sel (n : Nat) (z : Tok α) (i : DemuxIn α) :
    demuxDelAt n z i.sel i = demuxAcc n z i := by
  unfold demuxDelAt demuxAcc demuxOut
  by_cases h : i.sel < n
  · simp [h, List.getD_eq_getElem?_getD]
  · simp [h, List.getD_eq_getElem?_getD]

theorem demux_cycle_other (n : Nat) (z : Tok α) (i : DemuxIn α) (k : Nat) (hk : k ≠ i.sel) :
    demuxDelAt n z k i = [] := by
  unfold demuxDelAt demuxOut
  by_cases h : k < n
  · simp [h, List.getD_eq_getElem?_getD, hk]
  · simp [h, List.getD_eq_getElem?_getD]

/-- A selector-routed history seen from port `k`: what the whole element hands over in the cycles that select `k`. -/
theorem flatMap_filter_sel {ι τ : Type} (sel : ι → Nat) (whole : ι → List τ) (port : Nat → ι → List τ)
    (hsel : ∀ i, port (sel i) i = whole i) (hother : ∀ i k, k ≠ sel i → port k i = []) (ins : List ι) (k : Nat) :
    ins.flatMap (port k) = (ins.filter (sel · == k)).flatMap whole := by
  induction ins with
  | nil => rfl
  | cons i is ih =>
    rw [List.flatMap_cons, List.filter_cons, ih]
    by_cases hk : sel i = k
    · rw [if_pos (beq_iff_eq.mpr hk), List.flatMap_cons, ← hk, hsel]
    · rw [if_neg (mt beq_iff_eq.mp hk), hother i k (Ne.symm hk), List.nil_append]

/-- Delivered = the tokens accepted while enabled; without `sink_ready_when_disabled` nothing is ever accepted
    while disabled. -/
def gateRel (srd : Bool) (_ : Unit) (a : List (Tok (α × Bool))) (d : List (Tok α)) : Prop :=
  d = (a.filter (·.data.2)).map (mapTok (·.1)) ∧ (srd = false → ∀ t ∈ a, t.data.2 = true)

theorem gate_step (srd : Bool) (z : α) (s : Unit) (a : List (Tok (α × Bool))) (d : List (Tok α))
    (i : In (α × Bool)) (h : gateRel srd s a d) :
    gateRel srd ((gate srd z).step s i) (a ++ (gate srd z).accNow s i) (d ++ (gate srd z).delNow s i) := by
  obtain ⟨iv, ⟨⟨td, te⟩, tf, tl⟩, ir⟩ := i
  obtain ⟨h1, h2⟩ := h
  refine ⟨?_, fun hs t ht => ?_⟩
  · rw [List.filter_append, List.map_append, ← h1]
    congr 1
    cases iv <;> cases ir <;> cases te <;> cases srd <;> rfl
  · rcases List.mem_append.mp ht with ht | ht
    · exact h2 hs t ht
    · obtain ⟨rfl, _, hr⟩ := mem_accNow ht
      cases te
      · exact hs ▸ hr
      · rfl

theorem crossbarOut_pass (n : Nat) (z : Tok α) (seld selm : Nat) (v : Bool) (t : Tok α) (r : Bool)
    (h : seld = selm ∧ seld < n) :
    (crossbarOut n z seld selm v t r).ready = r ∧ (crossbarOut n z seld selm v t r).valid = v ∧
    (crossbarOut n z seld selm v t r).tok = t := by
  obtain ⟨rfl, hd⟩ := h
  simp [crossbarOut, muxOut, demuxOut, hd, List.getD_eq_getElem?_getD]

theorem crossbarOut_block (n : Nat) (z : Tok α) (seld selm : Nat) (v : Bool) (t : Tok α) (r : Bool)
    (h : ¬ (seld = selm ∧ seld < n)) :
    (crossbarOut n z seld selm v t r).ready = false ∧ (crossbarOut n z seld selm v t r).valid = false := by
  have he' : seld = selm → ¬ seld < n := fun e hlt => h ⟨e, hlt⟩
  by_cases hm : selm < n
  · have hne : ¬ selm = seld := by
      intro e; exact he' e.symm (e ▸ hm)
    have hm' : ¬ n ≤ selm := by omega
    by_cases hd : seld < n
    · have hne' : ¬ seld = selm := fun e => hne e.symm
      simp [crossbarOut, muxOut, demuxOut, hm, hd, hne, hne', List.getD_eq_getElem?_getD]
    · simp [crossbarOut, muxOut, demuxOut, hm, hd, hne, List.getD_eq_getElem?_getD]
  · simp [crossbarOut, muxOut, demuxOut, hm, List.getD_eq_getElem?_getD]
    intro hd
    by_cases hk : seld < n <;> simp [hk]

theorem crossbar_out (n : Nat) (z : α) (s : Unit) (i : In (α × Nat × Nat)) :
    (i.tok.data.2.1 = i.tok.data.2.2 ∧ i.tok.data.2.1 < n ∧
      (crossbar n z).out s i = ⟨i.ready, i.valid, mapTok (·.1) i.tok⟩) ∨
    (¬ (i.tok.data.2.1 = i.tok.data.2.2 ∧ i.tok.data.2.1 < n) ∧
      ((crossbar n z).out s i).ready = false ∧ ((crossbar n z).out s i).valid = false) := by
  by_cases hp : i.tok.data.2.1 = i.tok.data.2.2 ∧ i.tok.data.2.1 < n
  · have hf := crossbarOut_pass n ⟨z, false, false⟩ _ _ i.valid ⟨i.tok.data.1, i.tok.first, i.tok.last⟩ false hp
    have hb := crossbarOut_pass n ⟨z, false, false⟩ _ _ i.valid ⟨i.tok.data.1, i.tok.first, i.tok.last⟩ i.ready hp
    exact Or.inl ⟨hp.1, hp.2, by
      show Out.mk _ _ _ = _
      simp only [crossbar, hb.1, hf.2.1, hf.2.2, mapTok]⟩
  · exact Or.inr ⟨hp,
      (crossbarOut_block n ⟨z, false, false⟩ _ _ i.valid ⟨i.tok.data.1, i.tok.first, i.tok.last⟩ i.ready hp).1,
      (crossbarOut_block n ⟨z, false, false⟩ _ _ i.valid ⟨i.tok.data.1, i.tok.first, i.tok.last⟩ false hp).2⟩

def xbarRel (n : Nat) (_ : Unit) (a : List (Tok (α × Nat × Nat))) (d : List (Tok α)) : Prop :=
  d = a.map (mapTok (·.1)) ∧ ∀ t ∈ a, t.data.2.1 = t.data.2.2 ∧ t.data.2.1 < n

theorem crossbar_step (n : Nat) (z : α) (s : Unit) (a : List (Tok (α × Nat × Nat))) (d : List (Tok α))
    (i : In (α × Nat × Nat)) (h : xbarRel n s a d) :
    xbarRel n ((crossbar n z).step s i) (a ++ (crossbar n z).accNow s i) (d ++ (crossbar n z).delNow s i) := by
  obtain ⟨h1, h2⟩ := h
  rw [Elem.accNow, Elem.delNow]
  rcases crossbar_out n z s i with ⟨hp1, hp2, ho⟩ | ⟨_, hr, hv⟩
  · rw [ho, h1]
    refine ⟨by cases i.valid <;> cases i.ready <;> simp, fun t ht => ?_⟩
    rcases List.mem_append.mp ht with ht | ht
    · exact h2 t ht
    · split at ht
      · rw [List.mem_singleton.mp ht]; exact ⟨hp1, hp2⟩
      · cases ht
  · rw [hr, hv, Bool.and_false, Bool.false_and, if_neg Bool.false_ne_true, if_neg Bool.false_ne_true,
      List.append_nil, List.append_nil]
    exact ⟨h1, h2⟩

end Litex.Stream
