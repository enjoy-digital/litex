import LitexModel.Stream.Conv
import LitexProofs.Stream.Sim
import LitexProofs.Lists
/-
  The width converters: the chunking specification of the up-converting elements; `upConv` (a cycle is a drain
  followed by a load) and its `m`-th delivered word; `strideUp` as an `upConv`; `downConv` under the producer contract;
  the `valid_token_count` flag of `downConvV`; `Cast` (`mapElem`).
-/
namespace Litex.Stream
open Elem
variable {α π : Type}

theorem take_set_succ {α : Type} (l : List α) (n : Nat) (x : α) (h : n < l.length) :
    (l.set n x).take (n + 1) = l.take n ++ [x] := by
  rw [List.take_add_one, List.take_set_of_le (Nat.le_refl n), List.getElem?_set_self h]
  rfl

/-- A counter that wraps at `r` (`mux`, as the model steps it) counts modulo `r`. -/
theorem succ_mod_of (L r m : Nat) (hm : L % r = m) (hr : m < r) :
    (if m + 1 == r then 0 else m + 1) = (L + 1) % r := by
  rw [← Nat.mod_add_mod, hm]
  split
  · next h => rw [beq_iff_eq.mp h, Nat.mod_self]
  · next h => exact (Nat.mod_eq_of_lt (by have := mt beq_iff_eq.mpr h; omega)).symm

theorem chunkRun_snoc (r : Nat) (ts : List (Tok α)) (t : Tok α) :
    chunkRun r (ts ++ [t]) = chunkStep r (chunkRun r ts) t := by
  simp [chunkRun, List.foldl_append]

theorem chunks_snoc (r : Nat) (ts : List (Tok α)) (t : Tok α) :
    chunks r (ts ++ [t]) =
      if (chunkRest r ts).length + 1 == r || t.last then chunks r ts ++ [chunkRest r ts ++ [t]] else chunks r ts := by
  unfold chunks chunkRest
  rw [chunkRun_snoc]
  unfold chunkStep
  split <;> rfl

theorem chunkRest_snoc (r : Nat) (ts : List (Tok α)) (t : Tok α) :
    chunkRest r (ts ++ [t]) =
      if (chunkRest r ts).length + 1 == r || t.last then [] else chunkRest r ts ++ [t] := by
  unfold chunkRest
  rw [chunkRun_snoc]
  unfold chunkStep
  split <;> rfl

@[simp] theorem chunks_nil (r : Nat) : chunks r ([] : List (Tok α)) = [] := rfl
@[simp] theorem chunkRest_nil (r : Nat) : chunkRest r ([] : List (Tok α)) = [] := rfl

theorem chunks_flatten (r : Nat) (ts : List (Tok α)) : (chunks r ts).flatten ++ chunkRest r ts = ts := by
  induction ts using snoc_induction with
  | nil => rfl
  | snoc ts t ih =>
    rw [chunks_snoc, chunkRest_snoc]
    split
    · rw [List.flatten_append, List.flatten_singleton, List.append_nil, ← List.append_assoc, ih]
    · rw [← List.append_assoc, ih]

def ChunkOk (r : Nat) (c : List (Tok α)) : Prop :=
  c ≠ [] ∧ c.length ≤ r ∧ (∀ t ∈ c.dropLast, t.last = false) ∧
  (c.length = r ∨ ∃ t, c.getLast? = some t ∧ t.last = true)

theorem chunks_shape (r : Nat) (hr : 0 < r) (ts : List (Tok α)) :
    (∀ c ∈ chunks r ts, ChunkOk r c) ∧ (chunkRest r ts).length < r ∧ ∀ t ∈ chunkRest r ts, t.last = false := by
  induction ts using snoc_induction with
  | nil => exact ⟨nofun, hr, nofun⟩
  | snoc ts t ih =>
    obtain ⟨h1, h2, h3⟩ := ih
    rw [chunks_snoc, chunkRest_snoc]
    split
    next hc =>
      -- the chunk is cut after `t`: it is full, or `t` carries `last`
      refine ⟨fun c hc' => ?_, hr, nofun⟩
      rcases List.mem_append.mp hc' with hc' | hc'
      · exact h1 c hc'
      · rw [List.mem_singleton.mp hc']
        refine ⟨by simp, by simp; omega, by simpa using h3, ?_⟩
        simp only [Bool.or_eq_true, beq_iff_eq] at hc
        rcases hc with hc | hc
        · left; simp [hc]
        · right; exact ⟨t, by simp, hc⟩
    next hc =>
      simp only [Bool.or_eq_true, beq_iff_eq, not_or, Bool.not_eq_true] at hc
      refine ⟨h1, by simp; omega, fun x hx => ?_⟩
      rcases List.mem_append.mp hx with hx | hx
      · exact h3 x hx
      · rw [List.mem_singleton.mp hx]; exact hc.2

/-- The complete word waiting in the output register. -/
def UpState.inflight (s : UpState α π) : List (Tok (List α × π)) :=
  if s.strobe then [upView s.outTok] else []

/-- The words of the complete chunks are those delivered plus the one waiting in the output register; `demux` counts
    the sub-words of the partial chunk.  While a word waits (`strobe`) no sub-word is loaded, so the partial chunk is
    empty (`demux = 0`) and lanes and flags belong to the waiting word; otherwise (`strobe = false`) the first `demux`
    lanes and the OR-ed flags are those of the partial chunk. -/
def upRel (r : Nat) (p0 : π) (s : UpState α π) (a : List (Tok (α × π))) (d : List (Tok (UpWord α π))) : Prop :=
  (chunks r a).map (wordOf p0) = d.map upView ++ s.inflight ∧
  s.demux = (chunkRest r a).length ∧
  s.demux < r ∧
  s.lanes.length = r ∧
  (s.strobe = true → s.demux = 0) ∧
  (s.strobe = false →
    s.lanes.take s.demux = (chunkRest r a).map (·.data.1) ∧
    s.first = (chunkRest r a).any (·.first) ∧ s.last = (chunkRest r a).any (·.last))

theorem upRel_init (r : Nat) (hr : 0 < r) (z : α) (p0 : π) : upRel r p0 (upConv r z p0).init [] [] :=
  ⟨rfl, rfl, hr, List.length_replicate, fun _ => rfl, fun _ => ⟨rfl, rfl, rfl⟩⟩

theorem upConv_delNow (r : Nat) (z : α) (p0 : π) (s : UpState α π) (i : In (α × π)) :
    (upConv r z p0).delNow s i = if s.strobe && i.ready then [s.outTok] else [] := rfl

/-! A clock cycle of `upConv` is two moves one after the other: the waiting word leaves (`drain`), then a
    sub-word is loaded (`load`, possible only when no word is waiting any more). -/

def UpState.drain (s : UpState α π) (rdy : Bool) : UpState α π :=
  if s.strobe && rdy then { s with strobe := false, first := false, last := false } else s

theorem UpState.drain_demux (s : UpState α π) (rdy : Bool) : (s.drain rdy).demux = s.demux := by
  unfold UpState.drain; split <;> rfl

def UpState.load (s : UpState α π) (t : Tok (α × π)) (dlast : Bool) : UpState α π :=
  { demux := if dlast then 0 else s.demux + 1, strobe := dlast, lanes := s.lanes.set s.demux t.data.1,
    param := t.data.2, first := t.first || s.first, last := t.last || s.last, vtc := s.demux + 1 }

theorem upConv_step_eq (r : Nat) (z : α) (p0 : π) (s : UpState α π) (i : In (α × π)) :
    (upConv r z p0).step s i =
      if i.valid && !(s.drain i.ready).strobe then (s.drain i.ready).load i.tok (s.demux + 1 == r || i.tok.last)
      else s.drain i.ready := by
  obtain ⟨demux, strobe, lanes, param, first, last, vtc⟩ := s
  obtain ⟨iv, t, ir⟩ := i
  cases strobe <;> cases ir <;> cases iv <;>
    simp only [upConv, Elem.step, UpState.drain, UpState.load, Bool.and_true, Bool.and_false, Bool.true_and,
      Bool.false_and, Bool.not_true, Bool.not_false, Bool.or_true, Bool.or_false, Bool.true_or, Bool.false_or,
      if_true, if_false, Bool.false_eq_true, Bool.if_false_right, Bool.decide_eq_true]

theorem upConv_accNow (r : Nat) (z : α) (p0 : π) (s : UpState α π) (i : In (α × π)) :
    (upConv r z p0).accNow s i = if i.valid && !(s.drain i.ready).strobe then [i.tok] else [] := by
  obtain ⟨demux, strobe, lanes, param, first, last, vtc⟩ := s
  obtain ⟨iv, t, ir⟩ := i
  cases strobe <;> cases ir <;> rfl

theorem upRel_drain (r : Nat) (p0 : π) (s : UpState α π) (a : List (Tok (α × π))) (d : List (Tok (UpWord α π)))
    (rdy : Bool) (h : upRel r p0 s a d) :
    upRel r p0 (s.drain rdy) a (d ++ if s.strobe && rdy then [s.outTok] else []) := by
  cases hc : s.strobe && rdy
  · rw [UpState.drain, hc, if_neg Bool.false_ne_true, if_neg Bool.false_ne_true, List.append_nil]
    exact h
  · obtain ⟨h1, h2, h3, h4, h5, _⟩ := h
    have hs : s.strobe = true := (Bool.and_eq_true_iff.mp hc).1
    have hrest : chunkRest r a = [] := List.eq_nil_of_length_eq_zero (by rw [← h2, h5 hs])
    rw [UpState.drain, hc, if_pos rfl, if_pos rfl]
    refine ⟨?_, h2, h3, h4, fun h => absurd h Bool.false_ne_true, fun _ => ?_⟩
    · rw [h1, UpState.inflight, if_pos hs, List.map_append]
      exact (List.append_nil _).symm
    · rw [hrest, h5 hs]
      exact ⟨rfl, rfl, rfl⟩

theorem upRel_load (r : Nat) (p0 : π) (s : UpState α π) (a : List (Tok (α × π))) (d : List (Tok (UpWord α π)))
    (t : Tok (α × π)) (dlast : Bool) (hdl : (s.demux + 1 == r || t.last) = dlast) (h : upRel r p0 s a d)
    (hs : s.strobe = false) :
    upRel r p0 (s.load t dlast) (a ++ [t]) d := by
  obtain ⟨h1, h2, h3, h4, _, h6⟩ := h
  obtain ⟨h6a, h6b, h6c⟩ := h6 hs
  rw [UpState.inflight, hs, if_neg Bool.false_ne_true, List.append_nil] at h1
  have htake : (s.lanes.set s.demux t.data.1).take (s.demux + 1) = (chunkRest r a ++ [t]).map (·.data.1) := by
    rw [take_set_succ _ _ _ (h4 ▸ h3), h6a, List.map_append]; rfl
  have hfirst : (t.first || s.first) = (chunkRest r a ++ [t]).any (·.first) := by
    rw [List.any_append, ← h6b, Bool.or_comm, List.any_cons, List.any_nil, Bool.or_false]
  have hlast : (t.last || s.last) = (chunkRest r a ++ [t]).any (·.last) := by
    rw [List.any_append, ← h6c, Bool.or_comm, List.any_cons, List.any_nil, Bool.or_false]
  have hl : (s.lanes.set s.demux t.data.1).length = r := by rw [List.length_set]; exact h4
  unfold upRel
  rw [chunks_snoc, chunkRest_snoc, ← h2, hdl]
  cases dlast
  · -- the chunk goes on
    have hne : s.demux + 1 ≠ r := fun e => by rw [e] at hdl; simp at hdl
    rw [if_neg Bool.false_ne_true, if_neg Bool.false_ne_true]
    exact ⟨h1.trans (List.append_nil _).symm, by rw [List.length_append, ← h2]; rfl, Nat.lt_of_le_of_ne h3 hne, hl,
      fun h => absurd h Bool.false_ne_true, fun _ => ⟨htake, hfirst, hlast⟩⟩
  · -- the chunk is complete: its word is now waiting
    refine ⟨?_, rfl, Nat.zero_lt_of_lt h3, hl, fun _ => rfl, fun h => absurd h.symm Bool.false_ne_true⟩
    rw [if_pos rfl, List.map_append, h1]
    show _ ++ [wordOf p0 (chunkRest r a ++ [t])] = _ ++ [upView (s.load t true).outTok]
    rw [wordOf, ← htake, ← hfirst, ← hlast, List.getLast?_concat]
    rfl

theorem upConv_step (r : Nat) (z : α) (p0 : π) (s : UpState α π)
    (a : List (Tok (α × π))) (d : List (Tok (UpWord α π))) (i : In (α × π))
    (h : upRel r p0 s a d) :
    upRel r p0 ((upConv r z p0).step s i) (a ++ (upConv r z p0).accNow s i) (d ++ (upConv r z p0).delNow s i) := by
  rw [upConv_step_eq, upConv_accNow, upConv_delNow]
  have hd := upRel_drain r p0 s a d i.ready h
  cases hc : i.valid && !(s.drain i.ready).strobe
  · rw [if_neg Bool.false_ne_true, if_neg Bool.false_ne_true, List.append_nil]
    exact hd
  · rw [if_pos rfl, if_pos rfl]
    exact upRel_load r p0 _ _ _ i.tok _ (by rw [UpState.drain_demux]) hd (by simpa using (Bool.and_eq_true_iff.mp hc).2)

def strideUpMap (s : UpState α Unit × π) : UpState α π :=
  { demux := s.1.demux, strobe := s.1.strobe, lanes := s.1.lanes, param := s.2,
    first := s.1.first, last := s.1.last, vtc := s.1.vtc }

theorem strideUp_mirrors (r : Nat) (z : α) (p0 : π) : Mirrors (strideUp r z p0) (upConv r z p0) strideUpMap :=
  ⟨fun _ _ _ => rfl, fun _ _ _ _ => rfl, fun _ _ _ _ => rfl⟩

theorem strideUp_sim (r : Nat) (z : α) (p0 : π) (ins : List (In (α × π))) :
    (strideUp r z p0).accepted (strideUp r z p0).init ins = (upConv r z p0).accepted (upConv r z p0).init ins ∧
    (strideUp r z p0).delivered (strideUp r z p0).init ins = (upConv r z p0).delivered (upConv r z p0).init ins ∧
    strideUpMap ((strideUp r z p0).runFrom (strideUp r z p0).init ins) =
      (upConv r z p0).runFrom (upConv r z p0).init ins :=
  (strideUp_mirrors r z p0).run ins _

/-- The shape of the words handed over is what the layout layer needs beside `upRel`. -/
def upRelW (r : Nat) (p0 : π) (s : UpState α π) (a : List (Tok (α × π))) (d : List (Tok (UpWord α π))) : Prop :=
  upRel r p0 s a d ∧ s.vtc ≤ r ∧ ∀ t ∈ d, t.data.lanes.length = r ∧ t.data.count ≤ r

theorem upConv_run (r : Nat) (hr : 0 < r) (z : α) (p0 : π) (ins : List (In (α × π))) :
    let e := upConv r z p0
    upRel r p0 (e.runFrom e.init ins) (e.accepted e.init ins) (e.delivered e.init ins) :=
  rel_run_init (upConv r z p0) (upRel r p0) (upRel_init r hr z p0) (upConv_step r z p0) ins

theorem upConv_stepW (r : Nat) (z : α) (p0 : π) (s : UpState α π)
    (a : List (Tok (α × π))) (d : List (Tok (UpWord α π))) (i : In (α × π)) (h : upRelW r p0 s a d) :
    upRelW r p0 ((upConv r z p0).step s i) (a ++ (upConv r z p0).accNow s i) (d ++ (upConv r z p0).delNow s i) := by
  obtain ⟨h, hv, hd⟩ := h
  refine ⟨upConv_step r z p0 s a d i h, ?_, fun t ht => ?_⟩
  · rw [upConv_step_eq]
    have : (s.drain i.ready).vtc ≤ r := by unfold UpState.drain; split <;> exact hv
    split
    · -- a load counts the sub-words of the chunk: `demux + 1 ≤ r`
      exact (UpState.drain_demux s i.ready).symm ▸ h.2.2.1
    · exact this
  · rcases List.mem_append.mp ht with ht | ht
    · exact hd t ht
    · obtain ⟨rfl, _, _⟩ := mem_delNow ht
      exact ⟨h.2.2.2.1, hv⟩

/-- The `m`-th delivered word against the `m`-th chunk `c`: flags/param/count (`wordOf`, `upView`) and, lane by lane, the
    payloads.  `dflt` is only the default of `getD` on the lanes (any value; not the reset value `z`). -/
theorem upConv_word_at (r : Nat) (hr : 0 < r) (z : α) (p0 : π) (dflt : α) (ins : List (In (α × π))) :
    let e := upConv r z p0
    let D := e.delivered e.init ins
    ∀ (m : Nat) (hm : m < D.length),
      ∃ c, (chunks r (e.accepted e.init ins))[m]? = some c ∧ wordOf p0 c = upView D[m] ∧
        (D[m]).data.lanes.length = r ∧ c.length = (D[m]).data.count ∧ c.length ≤ r ∧
        ∀ (i : Nat) (hi : i < c.length), (D[m]).data.lanes.getD i dflt = c[i].data.1 := by
  intro e D m hm
  obtain ⟨⟨hrel, _⟩, _, hD⟩ := rel_run_init (upConv r z p0) (upRelW r p0)
    ⟨upRel_init r hr z p0, Nat.zero_le r, nofun⟩ (upConv_stepW r z p0) ins
  obtain ⟨hW, hK⟩ := hD _ (List.getElem_mem hm)
  have hget : ((chunks r (e.accepted e.init ins)).map (wordOf p0))[m]? = some (upView D[m]) := by
    rw [hrel, List.getElem?_append_left (by rwa [List.length_map]), List.getElem?_map, List.getElem?_eq_getElem hm]
    rfl
  rw [List.getElem?_map] at hget
  obtain ⟨c, hc, hw⟩ := Option.map_eq_some_iff.mp hget
  have hdata : c.map (·.data.1) = (D[m]).data.lanes.take (D[m]).data.count := congrArg (fun t => t.data.1) hw
  have hcl : c.length = (D[m]).data.count := by
    have := congrArg List.length hdata
    rw [List.length_map, List.length_take, hW, Nat.min_eq_left hK] at this
    exact this
  refine ⟨c, hc, hw, hW, hcl, hcl ▸ hK, fun i hi => ?_⟩
  have h1 : (c.map (·.data.1))[i]? = some (c[i].data.1) := by
    rw [List.getElem?_map, List.getElem?_eq_getElem hi]; rfl
  rw [hdata, List.getElem?_take_of_lt (hcl ▸ hi)] at h1
  rw [List.getD_eq_getElem?_getD, h1]
  rfl

/-- Lane `m` of a wide token, as `downConv` presents it. -/
def laneTok (r : Nat) (z : α) (t : Tok (List α × π)) (m : Nat) : Tok (α × π) :=
  { data := (t.data.1.getD m z, t.data.2), first := t.first && m == 0, last := t.last && m + 1 == r }

theorem splitTok_eq (r : Nat) (z : α) (t : Tok (List α × π)) :
    splitTok r z t = (List.range r).map (laneTok r z t) := rfl

theorem splitTok_take_succ (r : Nat) (z : α) (t : Tok (List α × π)) (m : Nat) (h : m < r) :
    (splitTok r z t).take (m + 1) = (splitTok r z t).take m ++ [laneTok r z t m] := by
  rw [splitTok_eq, ← List.map_take, ← List.map_take, List.take_range, List.take_range,
    Nat.min_eq_left (by omega), Nat.min_eq_left (by omega), List.range_succ, List.map_append]
  rfl

theorem splitTok_take_all (r : Nat) (z : α) (t : Tok (List α × π)) :
    (splitTok r z t).take r = splitTok r z t := by
  apply List.take_of_length_le
  simp [splitTok_eq]

/-- The lanes already delivered of the token the producer is holding. -/
def downPart (r : Nat) (z : α) (mux : Nat) : Option (Tok (List α × π)) → List (Tok (α × π))
  | some t => (splitTok r z t).take mux
  | none => []

/-- History relation of `downConv` under the producer contract: everything accepted has been delivered
    completely, plus the first `mux` lanes of the token the producer is currently holding. -/
def downRel (r : Nat) (z : α) (mux : Nat) (p : Option (Tok (List α × π)))
    (a : List (Tok (List α × π))) (d : List (Tok (α × π))) : Prop :=
  mux < r ∧ (p = none → mux = 0) ∧ d = a.flatMap (splitTok r z) ++ downPart r z mux p

theorem downConv_delNow (r : Nat) (z : α) (mux : Nat) (i : In (List α × π)) :
    (downConv r z).delNow mux i = if i.valid && i.ready then [laneTok r z i.tok mux] else [] := rfl
theorem downConv_accNow (r : Nat) (z : α) (mux : Nat) (i : In (List α × π)) :
    (downConv r z).accNow mux i = if i.valid && ((mux + 1 == r) && i.ready) then [i.tok] else [] := rfl
theorem downConv_stepEq (r : Nat) (z : α) (mux : Nat) (i : In (List α × π)) :
    (downConv r z).step mux i = if i.valid && i.ready then (if mux + 1 == r then 0 else mux + 1) else mux := rfl
theorem downConv_obl (r : Nat) (z : α) (mux : Nat) (i : In (List α × π)) :
    (downConv r z).obl mux i = if i.valid && !((mux + 1 == r) && i.ready) then some i.tok else none := rfl

theorem downConv_step (r : Nat) (z : α) (mux : Nat) (p : Option (Tok (List α × π)))
    (a : List (Tok (List α × π))) (d : List (Tok (α × π))) (i : In (List α × π))
    (h : downRel r z mux p a d) (hm : Elem.Meets p i) :
    downRel r z ((downConv r z).step mux i) ((downConv r z).obl mux i)
      (a ++ (downConv r z).accNow mux i) (d ++ (downConv r z).delNow mux i) := by
  obtain ⟨iv, t, ir⟩ := i
  obtain ⟨h1, h2, h3⟩ := h
  rw [downConv_delNow, downConv_accNow, downConv_stepEq, downConv_obl]
  cases iv with
  | false =>
    -- nothing on the sink, so nothing is held: the cycle changes nothing
    cases p with
    | some t' => exact absurd (hm t' rfl).1 Bool.false_ne_true
    | none =>
      have h3' : d = List.flatMap (splitTok r z) a := by simpa [downPart] using h3
      simpa [downRel, downPart] using ⟨h1, h2 rfl, h3'⟩
  | true =>
    -- the lanes already out are those of the token on the sink: it is the held one, or none is out yet
    have hk : downPart r z mux p = (splitTok r z t).take mux := by
      cases p with
      | none => simp [h2 rfl, downPart]
      | some t' => rw [← (hm t' rfl).2]; rfl
    rw [hk] at h3
    cases ir with
    | false =>
      -- stalled: nothing moves, `t` stays held with `mux` lanes out
      simpa [downRel, downPart] using ⟨h1, h3⟩
    | true =>
      by_cases hl : mux + 1 = r
      · -- the last lane leaves and `t` is accepted: all of `splitTok t` is out, `mux` returns to 0, nothing is held
        -- (`omega`: `0 < r`)
        have : (splitTok r z t).take mux ++ [laneTok r z t mux] = splitTok r z t := by
          rw [← splitTok_take_succ r z t mux h1, hl, splitTok_take_all]
        simp [downRel, downPart, hl, h3, List.append_assoc, this]
        omega
      · -- lane `mux` leaves, `t` stays held with `mux + 1` lanes out (`splitTok_take_succ`); `omega`: `mux + 1 < r`
        simp [downRel, downPart, hl, h3, List.append_assoc, splitTok_take_succ r z t mux h1]
        omega

/-- History relation for the count flag (no producer contract needed): `mux` counts the source handshakes modulo
    `r`, and the flag of the `p`-th delivered token is set iff `p` is the last lane of its group of `r`.  (The unused
    list argument gives the relation the shape `rel_run` takes; likewise the unused state of `mapRel`, `gateRel`,
    `xbarRel`.) -/
def downVtcRel (r : Nat) (mux : Nat) (_ : List (Tok (List α × π))) (d : List (Tok ((α × π) × Bool))) : Prop :=
  mux < r ∧ d.length % r = mux ∧
  d.map (·.data.2) = (List.range d.length).map fun p => decide (p % r + 1 = r)

theorem downConvV_delNow (r : Nat) (z : α) (mux : Nat) (i : In (List α × π)) :
    (downConvV r z).delNow mux i =
      if i.valid && i.ready then [mapTok (·, mux + 1 == r) (laneTok r z i.tok mux)] else [] := rfl

theorem downConvV_step (r : Nat) (z : α) (mux : Nat) (a : List (Tok (List α × π)))
    (d : List (Tok ((α × π) × Bool))) (i : In (List α × π)) (h : downVtcRel r mux a d) :
    downVtcRel r ((downConvV r z).step mux i) (a ++ (downConvV r z).accNow mux i)
      (d ++ (downConvV r z).delNow mux i) := by
  obtain ⟨h1, h2, h3⟩ := h
  rw [downConvV_delNow, show (downConvV r z).step mux i = (downConv r z).step mux i from rfl, downConv_stepEq]
  cases hh : i.valid && i.ready
  · rw [if_neg Bool.false_ne_true, if_neg Bool.false_ne_true, List.append_nil]
    exact ⟨h1, h2, h3⟩
  · rw [if_pos rfl, if_pos rfl]
    rw [succ_mod_of d.length r mux h2 h1]
    unfold downVtcRel
    rw [List.length_append, List.length_singleton]
    refine ⟨Nat.mod_lt _ (by omega), rfl, ?_⟩
    rw [List.map_append, h3, List.range_succ, List.map_append, List.map_singleton, List.map_singleton, h2]
    rfl

def mapRel {β : Type} (f : α → β) (_ : Unit) (a : List (Tok α)) (d : List (Tok β)) : Prop := d = a.map (mapTok f)

theorem mapElem_step {β : Type} (f : α → β) (s : Unit) (a : List (Tok α)) (d : List (Tok β)) (i : In α)
    (h : mapRel f s a d) :
    mapRel f ((mapElem f).step s i) (a ++ (mapElem f).accNow s i) (d ++ (mapElem f).delNow s i) := by
  obtain ⟨iv, it, ir⟩ := i
  subst h
  show _ ++ _ = List.map _ (_ ++ _)
  rw [List.map_append]
  congr 1
  cases iv <;> cases ir <;> rfl

end Litex.Stream
