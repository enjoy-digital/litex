import LitexProofs.Stream.HandshakeComp
import LitexProofs.Stream.Basic
/-
  C04 facts of the basic elements (wire, `PipeValid`, `PipeReady`, `SyncFIFO`, `SyncFIFOBuffered`, `Buffer`, and the chain
  PipeValid ⟫ SyncFIFO ⟫ PipeReady): how one cycle moves the state, one-cycle stability, class memberships
  (`HandshakeComp`).  The inductive invariants `prInv`, `fifoInv`, `fbInv` and their preservation are in `Basic.lean`.
-/
namespace Litex.Stream
open Elem
variable {α : Type}

theorem wire_stepStable : StepStable (wire (α := α)) (fun _ => True) where
  inv_step _ _ _ := trivial
  hold _ _ _ _ hin := hin

theorem wire_live : Live (wire (α := α)) (fun _ => True) (fun _ => 0) 0 where
  inv_step _ _ _ := trivial
  bound _ _ := Nat.le_refl _
  off _ _ _ _ := Or.inl rfl
  mono _ _ _ := Or.inr (Nat.le_refl _)

theorem wire_good : Good (wire (α := α)) (fun _ => True) (fun _ => 0) 0 := ⟨wire_stepStable, wire_live⟩

theorem wire_front : Front (wire (α := α)) (fun _ => True) (fun _ => true) where
  inv_step _ _ _ := trivial
  offers _ _ _ _ := rfl
  heats _ _ _ _ := rfl

theorem wire_readyTransparent : ReadyTransparent (wire (α := α)) (fun _ => True) := fun _ _ _ _ => rfl

theorem pipeValid_step_load (z : Tok α) {s : PVState α} {i : In α} (h : s.valid = false ∨ i.ready = true) :
    (pipeValid z).step s i = ⟨i.valid, i.tok⟩ := by
  show (if (!s.valid || i.ready) = true then _ else _) = _
  rw [if_pos (by rcases h with h | h <;> simp [h])]

theorem pipeValid_step_stall (z : Tok α) {s : PVState α} {i : In α} (hv : s.valid = true) (hr : i.ready = false) :
    (pipeValid z).step s i = s := by
  show (if (!s.valid || i.ready) = true then _ else _) = _
  rw [if_neg (by simp [hv, hr])]

theorem pipeValid_stepStable (z : Tok α) : StepStable (pipeValid z) (fun _ => True) where
  inv_step _ _ _ := trivial
  hold s i i' _ _ hv hr := by
    rw [pipeValid_step_stall z hv hr]
    exact ⟨hv, rfl⟩

theorem pipeValid_live (z : Tok α) : Live (pipeValid z) (fun _ => True) (fun s => if s.valid then 0 else 1) 1 where
  inv_step _ _ _ := trivial
  bound s _ := by split <;> omega
  off s i _ hv := by
    cases hs : s.valid with
    | true => exact Or.inl hs
    | false => right; rw [pipeValid_step_load z (Or.inl hs)]; simp [hv]
  mono s i _ := by
    cases hs : s.valid with
    | true => exact Or.inl hs
    | false => right; rw [pipeValid_step_load z (Or.inl hs)]; split <;> simp

theorem pipeValid_good (z : Tok α) : Good (pipeValid z) (fun _ => True) (fun s => if s.valid then 0 else 1) 1 :=
  ⟨pipeValid_stepStable z, pipeValid_live z⟩

theorem pipeValid_measure (z : Tok α) :
    DelMeasure (pipeValid z) (fun _ => True) (fun s => if s.valid then 0 else 1) 1 :=
  (pipeValid_live z).measure

theorem pipeValid_idleMono (z : Tok α) : IdleMono (pipeValid z) (fun _ => True) (fun s => if s.valid then 0 else 1) :=
  (pipeValid_live z).idleMono

theorem pipeValid_front (z : Tok α) : Front (pipeValid z) (fun _ => True) (fun s => s.valid) where
  inv_step _ _ _ := trivial
  offers s t _ h := h
  heats s i _ hv := by
    cases hs : s.valid with
    | false => rw [pipeValid_step_load z (Or.inl hs)]; exact hv
    | true =>
      cases hr : i.ready with
      | false => rw [pipeValid_step_stall z hs hr]; exact hs
      | true => rw [pipeValid_step_load z (Or.inr hr)]; exact hv

theorem pipeValid_back (z : Tok α) : Back (pipeValid z) (fun _ => True) (fun s => s.valid) where
  inv_step _ _ _ := trivial
  ready s v t _ := Bool.or_true _
  valid s v t _ := rfl
  fills s i _ h := by
    obtain ⟨hv, hr⟩ := (accNow_pos_iff _ s i).1 h
    have hr' : (!s.valid || i.ready) = true := hr
    rw [pipeValid_step_load z (by cases hs : s.valid <;> simp [hs] at hr' ⊢; exact hr')]
    exact hv

theorem pipeValid_readyTransparent (z : Tok α) : ReadyTransparent (pipeValid z) (fun _ => True) :=
  fun s v t _ => (pipeValid_back z).ready s v t trivial

theorem pipeReady_offers (z : Tok α) {s : PRState α} (hs : prInv s) (t : Tok α) :
    ((pipeReady z).fwd s true t).1 = true := by
  show (if s.valid = true then (s.dvalid, s.dtok) else (true, t)).1 = true
  split
  · exact hs ‹_›
  · rfl

theorem pipeReady_out_parked (z : Tok α) {s : PRState α} (i : In α) (h : s.valid = true) :
    (pipeReady z).out s i = ⟨false, s.dvalid, s.dtok⟩ := by
  simp [pipeReady, Elem.out, h]

theorem pipeReady_out_free (z : Tok α) {s : PRState α} (i : In α) (h : s.valid = false) :
    (pipeReady z).out s i = ⟨true, i.valid, i.tok⟩ := by
  simp [pipeReady, Elem.out, h]

theorem pipeReady_step_stall (z : Tok α) {s : PRState α} {i : In α} (hr : i.ready = false) :
    (pipeReady z).step s i = if s.valid then s else ⟨i.valid, i.valid, i.tok⟩ := by
  obtain ⟨sv, sdv, st⟩ := s
  cases sv <;> cases hv : i.valid <;> simp [pipeReady, Elem.step, hr, hv]

/-- No demand on the producer: the skid register holds what the sink showed when the consumer stalled. -/
theorem pipeReady_stepStable (z : Tok α) : StepStable (pipeReady z) prInv where
  inv_step := pipeReady_inv_step z
  hold s i i' _ _ hv hr := by
    rw [pipeReady_step_stall z hr]
    by_cases hs : s.valid = true
    · -- parked before: the same registers are shown
      rw [if_pos hs, pipeReady_out_parked z i' hs]
      rw [pipeReady_out_parked z i hs] at hv ⊢
      exact ⟨hv, rfl⟩
    · -- passing through: the offered token is parked and shown from the register
      rw [if_neg hs]
      rw [pipeReady_out_free z i (Bool.eq_false_iff.mpr hs)] at hv ⊢
      rw [pipeReady_out_parked z i' (show (PRState.mk i.valid i.valid i.tok).valid = true from hv)]
      exact ⟨hv, rfl⟩

theorem pipeReady_live (z : Tok α) : Live (pipeReady z) prInv (fun _ => 0) 0 where
  inv_step := pipeReady_inv_step z
  bound _ _ := Nat.le_refl _
  off _ i hs _ := Or.inl (pipeReady_offers z hs i.tok)
  mono _ _ _ := Or.inr (Nat.le_refl _)

theorem pipeReady_good (z : Tok α) : Good (pipeReady z) prInv (fun _ => 0) 0 :=
  ⟨pipeReady_stepStable z, pipeReady_live z⟩

theorem pipeReady_front (z : Tok α) : Front (pipeReady z) prInv (fun _ => true) where
  inv_step := pipeReady_inv_step z
  offers _ t hs _ := pipeReady_offers z hs t
  heats _ _ _ _ := rfl

/-- A parked token leaves in one cycle, then the sink is ready again. -/
theorem pipeReady_accMeasure (z : Tok α) : AccMeasure (pipeReady z) prInv (fun s => if s.valid then 1 else 0) 1 where
  inv_step := pipeReady_inv_step z
  bound s _ := by split <;> omega
  dec s i _ hc := by
    cases hsv : s.valid with
    | false => exact Or.inl (accNow_pos hc.1 (show (!s.valid) = true by rw [hsv]; rfl))
    | true =>
      right
      show (if (if (i.valid && !i.ready) = true then true else if i.ready = true then false else s.valid) = true
        then 1 else 0) < _
      simp [hc.1, hc.2]

theorem popPush_drains {β : Type} (q : List β) (t : β) (r push : Bool) {depth : Nat} (hd : 0 < depth)
    (hfull : q.length = depth) (hr : r = true) (hpush : push = false) :
    ((if (!q.isEmpty && r) then q.tail else q) ++ if push then [t] else []).length ≠ depth := by
  subst hr hpush
  cases q with
  | nil => exact absurd hfull (by simp; omega)
  | cons x xs => simp at hfull ⊢; omega

theorem syncFifo_step_nil (depth : Nat) (hd : 0 < depth) (z : Tok α) {i : In α} (hv : i.valid = true) :
    (syncFifo depth z).step [] i = [i.tok] := by
  have : (0 != depth) = true := by simp; omega
  simp [syncFifo_step_queue, hv, this]

theorem syncFifo_stepStable (depth : Nat) (z : Tok α) : StepStable (syncFifo depth z) (fifoInv depth) where
  inv_step := syncFifo_inv_step depth z
  hold q i i' _ _ hv hr := by
    rw [syncFifo_step_queue]
    cases q with
    | nil => cases hv
    | cons x xs =>
      rw [if_neg (by simp [hr])]
      exact ⟨rfl, rfl⟩

theorem syncFifo_live (depth : Nat) (hd : 0 < depth) (z : Tok α) :
    Live (syncFifo depth z) (fifoInv depth) (fun q => if q.isEmpty then 1 else 0) 1 where
  inv_step := syncFifo_inv_step depth z
  bound q _ := by split <;> omega
  off q i _ hv := by
    cases q with
    | nil => right; rw [syncFifo_step_nil depth hd z hv]; exact Nat.zero_lt_one
    | cons x xs => exact Or.inl rfl
  mono q i _ := by
    cases q with
    | nil => right; show _ ≤ 1; split <;> omega
    | cons x xs => exact Or.inl rfl

theorem syncFifo_good (depth : Nat) (hd : 0 < depth) (z : Tok α) :
    Good (syncFifo depth z) (fifoInv depth) (fun q => if q.isEmpty then 1 else 0) 1 :=
  ⟨syncFifo_stepStable depth z, syncFifo_live depth hd z⟩

theorem syncFifo_measure (depth : Nat) (hd : 0 < depth) (z : Tok α) :
    DelMeasure (syncFifo depth z) (fifoInv depth) (fun q => if q.isEmpty then 1 else 0) 1 :=
  (syncFifo_live depth hd z).measure

/-- Why depth 2: a depth-1 FIFO that is full is not writable in the cycle in which its word is read, so it is empty
    afterwards although `sink.valid` was high. -/
theorem syncFifo_front (depth : Nat) (hd : 2 ≤ depth) (z : Tok α) :
    Front (syncFifo depth z) (fifoInv depth) (fun q => !q.isEmpty) where
  inv_step := syncFifo_inv_step depth z
  offers q t _ h := h
  heats q i _ hv := by
    cases q with
    | nil => rw [syncFifo_step_nil depth (by omega) z hv]; rfl
    | cons x xs =>
      rw [syncFifo_step_queue]
      cases xs with
      | nil =>
        have : (i.valid && [x].length != depth) = true := by simp [hv]; omega
        rw [if_pos this]; simp
      | cons y ys => cases i.ready <;> rfl

/-- A full FIFO pops under a ready consumer and is writable in the next cycle. -/
theorem syncFifo_accMeasure (depth : Nat) (hd : 0 < depth) (z : Tok α) :
    AccMeasure (syncFifo depth z) (fifoInv depth) (fun q => if q.length = depth then 1 else 0) 1 where
  inv_step := syncFifo_inv_step depth z
  bound q _ := by split <;> omega
  dec q i _ hc := by
    by_cases hfull : q.length = depth
    · right
      rw [syncFifo_step_queue, if_pos hfull, if_neg (popPush_drains _ _ _ _ hd hfull hc.2 (by simp [hfull]))]
      exact Nat.zero_lt_one
    · exact Or.inl (accNow_pos hc.1 (show (q.length != depth) = true by simpa using hfull))

/-- An empty FIFO is writable, a non-empty one offers. -/
theorem syncFifo_hs_now (depth : Nat) (hd : 0 < depth) (z : Tok α) (q : List (Tok α)) (i : In α) (hc : Coop i) :
    1 ≤ ((syncFifo depth z).accNow q i).length + ((syncFifo depth z).delNow q i).length := by
  cases q with
  | nil =>
    have hr : ((syncFifo depth z).out [] i).ready = true := show (0 != depth) = true by simp; omega
    exact hs_of_ready hc hr
  | cons x xs => exact hs_of_valid hc rfl

theorem syncFifoBuffered_step_empty (depth : Nat) (z d : Tok α) (i : In α) :
    (syncFifoBuffered depth z).step ⟨[], false, d⟩ i =
      ⟨if (i.valid && 0 != depth) = true then [i.tok] else [], false, d⟩ := by
  cases hr : i.ready <;> simp [syncFifoBuffered, Elem.step, hr]

theorem syncFifoBuffered_step_fill (depth : Nat) (z d x : Tok α) (xs : List (Tok α)) (i : In α) :
    ((syncFifoBuffered depth z).step ⟨x :: xs, false, d⟩ i).readable = true := rfl

theorem syncFifoBuffered_stepStable (depth : Nat) (z : Tok α) :
    StepStable (syncFifoBuffered depth z) (fbInv depth) where
  inv_step := syncFifoBuffered_inv_step depth z
  hold s i i' _ _ hv hr := by
    have hv' : s.readable = true := hv
    show ((syncFifoBuffered depth z).step s i).readable = true ∧ ((syncFifoBuffered depth z).step s i).dout = s.dout
    simp [syncFifoBuffered, Elem.step, hv', hr]

/-- Bound of the delivery measure of `SyncFIFOBuffered` (written out in `syncFifoBuffered_live` and below: 2 with register
    and inner FIFO empty, 1 with a word in the inner FIFO only, 0 with the register valid). -/
theorem syncFifoBuffered_mu_le (s : FBState α) : (if s.readable then 0 else if s.q.isEmpty then 2 else 1) ≤ 2 := by
  split <;> (try split) <;> omega

theorem syncFifoBuffered_live (depth : Nat) (hd : 1 ≤ depth) (z : Tok α) :
    Live (syncFifoBuffered depth z) (fbInv depth)
      (fun s => if s.readable then 0 else if s.q.isEmpty then 2 else 1) 2 where
  inv_step := syncFifoBuffered_inv_step depth z
  bound s _ := syncFifoBuffered_mu_le s
  off s i _ hv := by
    obtain ⟨q, rd, d⟩ := s
    cases rd with
    | true => exact Or.inl rfl
    | false =>
      right
      cases q with
      | nil =>
        have : (i.valid && 0 != depth) = true := by simp [hv]; omega
        rw [syncFifoBuffered_step_empty, if_pos this]
        exact Nat.lt_succ_self 1
      | cons x xs =>
        show (if ((syncFifoBuffered depth z).step ⟨x :: xs, false, d⟩ i).readable = true then 0 else _) < 1
        rw [syncFifoBuffered_step_fill]
        exact Nat.zero_lt_one
  mono s i _ := by
    obtain ⟨q, rd, d⟩ := s
    cases rd with
    | true => exact Or.inl rfl
    | false =>
      right
      cases q with
      | nil => exact syncFifoBuffered_mu_le _
      | cons x xs =>
        show (if ((syncFifoBuffered depth z).step ⟨x :: xs, false, d⟩ i).readable = true then 0 else _) ≤ 1
        rw [syncFifoBuffered_step_fill]
        exact Nat.zero_le _

theorem syncFifoBuffered_good (depth : Nat) (hd : 1 ≤ depth) (z : Tok α) :
    Good (syncFifoBuffered depth z) (fbInv depth)
      (fun s => if s.readable then 0 else if s.q.isEmpty then 2 else 1) 2 :=
  ⟨syncFifoBuffered_stepStable depth z, syncFifoBuffered_live depth hd z⟩

theorem syncFifoBuffered_measure (depth : Nat) (hd : 1 ≤ depth) (z : Tok α) :
    DelMeasure (syncFifoBuffered depth z) (fbInv depth)
      (fun s => if s.readable then 0 else if s.q.isEmpty then 2 else 1) 2 :=
  (syncFifoBuffered_live depth hd z).measure

theorem syncFifoBuffered_accMeasure (depth : Nat) (hd : 0 < depth) (z : Tok α) :
    AccMeasure (syncFifoBuffered depth z) (fbInv depth) (fun s => if s.q.length = depth then 1 else 0) 1 where
  inv_step := syncFifoBuffered_inv_step depth z
  bound s _ := by split <;> omega
  dec s i _ hc := by
    by_cases hfull : s.q.length = depth
    · right
      rw [syncFifoBuffered_step_q, if_pos hfull,
        if_neg (popPush_drains _ _ _ _ hd hfull (by simp [hc.2]) (by simp [hfull]))]
      exact Nat.zero_lt_one
    · exact Or.inl (accNow_pos hc.1 (show (s.q.length != depth) = true by simpa using hfull))

/-- Register occupied: delivery; register empty: the inner FIFO holds at most one word (`fbInv`), so with depth ≥ 2 it is
    writable. -/
theorem syncFifoBuffered_hs_now (depth : Nat) (hd : 2 ≤ depth) (z : Tok α) (s : FBState α) (i : In α)
    (hs : fbInv depth s) (hc : Coop i) :
    1 ≤ ((syncFifoBuffered depth z).accNow s i).length + ((syncFifoBuffered depth z).delNow s i).length := by
  cases hrd : s.readable with
  | true =>
    have hv : ((syncFifoBuffered depth z).out s i).valid = true := hrd
    exact hs_of_valid hc hv
  | false =>
    have hr : ((syncFifoBuffered depth z).out s i).ready = true := by
      show (s.q.length != depth) = true
      have := hs.2 hrd
      simp; omega
    exact hs_of_ready hc hr

/-- The `True ∧` makes this literally the invariant `Good.comp` produces for `pipeValid ⟫ pipeReady`. -/
def bufInv (s : PVState α × PRState α) : Prop := True ∧ prInv s.2

/-- A parked token is delivered; otherwise PipeReady is ready, hence so is PipeValid. -/
theorem bufferVR_hs_now (z : Tok α) (s : PVState α × PRState α) (i : In α) (hs : bufInv s) (hc : Coop i) :
    1 ≤ ((bufferVR z).accNow s i).length + ((bufferVR z).delNow s i).length := by
  cases hp : s.2.valid with
  | true =>
    have hv : ((bufferVR z).out s i).valid = true := by
      show (if s.2.valid = true then (s.2.dvalid, s.2.dtok) else _).1 = true
      rw [if_pos hp]; exact hs.2 hp
    exact hs_of_valid hc hv
  | false =>
    have hr : ((bufferVR z).out s i).ready = true := by
      show (!s.1.valid || !s.2.valid) = true
      rw [hp]; exact Bool.or_true _
    exact hs_of_ready hc hr

/-- A parked token is delivered; a non-empty FIFO delivers through PipeReady; an empty FIFO is writable, so
    PipeValid's consumer is ready and PipeValid accepts. -/
theorem chain3_hs_now (depth : Nat) (hd : 0 < depth) (z : Tok α)
    (s : PVState α × List (Tok α) × PRState α) (i : In α) (hs : prInv s.2.2) (hc : Coop i) :
    1 ≤ (((pipeValid z).comp ((syncFifo depth z).comp (pipeReady z))).accNow s i).length +
      (((pipeValid z).comp ((syncFifo depth z).comp (pipeReady z))).delNow s i).length := by
  obtain ⟨a, q, b⟩ := s
  cases hp : b.valid with
  | true =>
    have hv : (((pipeValid z).comp ((syncFifo depth z).comp (pipeReady z))).out (a, q, b) i).valid = true := by
      show (if b.valid = true then (b.dvalid, b.dtok) else _).1 = true
      rw [if_pos hp]; exact hs hp
    exact hs_of_valid hc hv
  | false =>
    cases q with
    | cons x xs =>
      have hv : (((pipeValid z).comp ((syncFifo depth z).comp (pipeReady z))).out (a, x :: xs, b) i).valid = true := by
        show (if b.valid = true then (b.dvalid, b.dtok) else (true, x)).1 = true
        rw [hp]; rfl
      exact hs_of_valid hc hv
    | nil =>
      have hr : (((pipeValid z).comp ((syncFifo depth z).comp (pipeReady z))).out (a, [], b) i).ready = true := by
        show (!a.valid || 0 != depth) = true
        simp; omega
      exact hs_of_ready hc hr

end Litex.Stream
