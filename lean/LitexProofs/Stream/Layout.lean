import LitexModel.Stream.NumG
import LitexProofs.Bits
/-
  Layout layer: the bit placement used by the numeric adapters (and by the real converters) is consistent with
  the lane lists of the control-path models.  Lanes packed side by side (`packLanes`, `phys`), and the fields of a layout
  (`fieldPos`, `fieldsOf`, `sumW`): read-back from a `cat` (`slices_cat_go`) and reassembly (`cat_fieldmap`).
-/
namespace Litex.Stream
open Litex

theorem cat_cons (w v : Nat) (rest : List (Nat × Nat)) : cat ((w, v) :: rest) = v % 2 ^ w + 2 ^ w * cat rest := rfl

theorem succ_mul_le {i r : Nat} (w : Nat) (h : i < r) : i * w + w ≤ r * w := by
  rw [← Nat.succ_mul]; exact Nat.mul_le_mul_right w h

theorem packLanes_slice (nb : Nat) (lanes : List Nat) (n : Nat) :
    slice (n * nb) nb (packLanes nb lanes) = lanes.getD n 0 % 2 ^ nb :=
  slice_cat_uniform nb lanes n

theorem getD_map_range (n k : Nat) (f : Nat → Bool) :
    ((List.range n).map f).getD k false = (decide (k < n) && f k) := by
  by_cases h : k < n <;> simp [List.getD_eq_getElem?_getD, h]

@[simp] theorem phys_length {α : Type} (rev : Bool) (l : List α) : (phys rev l).length = l.length := by
  cases rev <;> simp [phys]

theorem phys_getD (rev : Bool) (lanes : List Nat) (i : Nat) (h : i < lanes.length) :
    (phys rev lanes).getD (if rev then lanes.length - 1 - i else i) 0 = lanes.getD i 0 := by
  cases rev
  · simp [phys]
  · simp only [phys, if_true, List.getD_eq_getElem?_getD]
    rw [List.getElem?_reverse (by omega)]
    congr 2
    omega

theorem getD_phys {α : Type} (rev : Bool) (l : List α) (z : α) (i : Nat) (h : i < l.length) :
    (phys rev l).getD i z = l.getD (if rev then l.length - 1 - i else i) z := by
  cases rev
  · rfl
  · simp only [phys, if_true, List.getD_eq_getElem?_getD]
    rw [List.getElem?_reverse h]

/-- In the word produced by an up-converter (`encUp`), the bits of physical lane
    `n = reverse ? r-1-i : i` are logical sub-word `i`. -/
theorem upconv_layout (nb : Nat) (rev : Bool) (lanes : List Nat) (i : Nat) (h : i < lanes.length) :
    slice ((if rev then lanes.length - 1 - i else i) * nb) nb (packLanes nb (phys rev lanes)) =
      lanes.getD i 0 % 2 ^ nb := by
  rw [packLanes_slice, phys_getD rev lanes i h]

/-- A down-converter behind an up-converter sees the same lanes. -/
theorem unpack_pack (nb : Nat) (lanes : List Nat) :
    unpackLanes nb lanes.length (packLanes nb lanes) = lanes.map (· % 2 ^ nb) := by
  apply List.ext_getElem
  · simp [unpackLanes]
  · intro n h1 h2
    have hn : n < lanes.length := by simpa [unpackLanes] using h1
    simp only [unpackLanes, List.getElem_map, List.getElem_range]
    rw [packLanes_slice nb lanes n]
    simp [List.getD_eq_getElem?_getD, hn]

theorem cat_fieldmap (x : Nat) : ∀ (ws : List Nat) (off : Nat),
    cat ((fieldPos.go off ws).map fun (j, w) => (w, slice j w x)) = slice off (sumW ws) x
  | [], off => by simp [fieldPos.go, cat, sumW, slice, Nat.mod_one]
  | w :: ws, off => by
    have ih := cat_fieldmap x ws (off + w)
    simp only [fieldPos.go, List.map_cons, cat_cons, sumW, ih]
    simp only [slice]
    rw [Nat.mod_mod, Nat.pow_add 2 off w, ← Nat.div_div_eq_div_mul, Nat.pow_add 2 w (sumW ws), Nat.mod_mul]

theorem zip_fieldPos_go (g : Nat → Nat → Nat) : ∀ (ws : List Nat) (off : Nat),
    ws.zip ((fieldPos.go off ws).map fun (o, w) => g o w) = (fieldPos.go off ws).map fun (o, w) => (w, g o w)
  | [], _ => rfl
  | w :: ws, off => by simp only [fieldPos.go, List.map_cons, List.zip_cons_cons, zip_fieldPos_go g ws (off + w)]

theorem cat_fieldsOf (ws : List Nat) (x : Nat) : cat (ws.zip (fieldsOf ws x)) = x % 2 ^ sumW ws := by
  rw [fieldsOf, fieldPos, zip_fieldPos_go fun o w => slice o w x, cat_fieldmap, slice_zero, trunc]

/-! Fields of a layout: lengths, total width, read-back from and reassembly of a `cat` -/

theorem fieldPos_go_length : ∀ (ws : List Nat) (off : Nat), (fieldPos.go off ws).length = ws.length
  | [], _ => rfl
  | w :: ws, off => by simp [fieldPos.go, fieldPos_go_length ws (off + w)]

@[simp] theorem fieldsOf_length (ws : List Nat) (x : Nat) : (fieldsOf ws x).length = ws.length := by
  simp [fieldsOf, fieldPos, fieldPos_go_length]

theorem sumW_append (a b : List Nat) : sumW (a ++ b) = sumW a + sumW b := by
  induction a with
  | nil => simp [sumW]
  | cons w ws ih => simp [sumW, ih, Nat.add_assoc]

theorem sumW_phys (r : Bool) (ws : List Nat) : sumW (phys r ws) = sumW ws := by
  cases r
  · rfl
  · simp only [phys, if_true]
    induction ws with
    | nil => rfl
    | cons w ws ih => rw [List.reverse_cons, sumW_append, ih]; simp [sumW, Nat.add_comm]

theorem phys_phys {α : Type} (r : Bool) (l : List α) : phys r (phys r l) = l := by
  cases r <;> simp [phys]

theorem cat_acc (off w c v R : Nat) (hc : c < 2 ^ off) (hv : v < 2 ^ w) :
    c + 2 ^ off * (v + 2 ^ w * R) = (c + 2 ^ off * v) + 2 ^ (off + w) * R ∧ c + 2 ^ off * v < 2 ^ (off + w) := by
  rw [Nat.pow_add]
  exact ⟨by rw [Nat.mul_add, Nat.mul_assoc, Nat.add_assoc], add_mul_lt_mul hc hv⟩

def modPair (p : Nat × Nat) : Nat := p.2 % 2 ^ p.1

/-- `c` is whatever sits below offset `off` (for the induction). -/
theorem slices_cat_go : ∀ (ps : List (Nat × Nat)) (off c : Nat), c < 2 ^ off →
    (fieldPos.go off (ps.map Prod.fst)).map (fun (j, w) => slice j w (c + 2 ^ off * cat ps)) = ps.map modPair
  | [], _, _, _ => rfl
  | (w, v) :: ps, off, c, hc => by
    obtain ⟨hY, hc'⟩ := cat_acc off w c (v % 2 ^ w) (cat ps) hc (Nat.mod_lt _ (Nat.two_pow_pos w))
    simp only [List.map_cons, fieldPos.go, cat_cons, modPair]
    congr 1
    · rw [slice_above _ _ _ _ hc, Nat.add_mul_mod_self_left, Nat.mod_mod]
    · rw [hY]
      exact slices_cat_go ps (off + w) _ hc'

theorem fieldPos_go_widths (g : Nat → Nat → Nat) : ∀ (ws : List Nat) (off : Nat),
    ((fieldPos.go off ws).map fun (j, w) => (w, g j w)).map Prod.fst = ws
  | [], _ => rfl
  | w :: ws, off => by simp only [fieldPos.go, List.map_cons, fieldPos_go_widths g ws (off + w)]

theorem cat_field_go (g : Nat → Nat → Nat) (ws : List Nat) (off c : Nat) (hc : c < 2 ^ off) :
    (fieldPos.go off ws).map (fun (j, w) => slice j w (c + 2 ^ off * cat ((fieldPos.go off ws).map fun (j, w) => (w, g j w)))) =
    (fieldPos.go off ws).map (fun (j, w) => g j w % 2 ^ w) := by
  have h := slices_cat_go ((fieldPos.go off ws).map fun (j, w) => (w, g j w)) off c hc
  rwa [fieldPos_go_widths, List.map_map] at h

theorem cat_range_slices (w b x : Nat) : ∀ r : Nat,
    cat ((List.range r).map fun i => (w, slice (b + i * w) w x)) = slice b (r * w) x
  | 0 => by simp [cat, slice, Nat.mod_one]
  | r + 1 => by
    have ih := cat_range_slices w b x r
    rw [List.range_succ, List.map_append, cat_append, ih, catWidth_map, List.length_range, Nat.succ_mul, slice_split]
    simp [cat, Nat.mod_eq_of_lt (slice_lt _ _ _)]

theorem fieldPos_bounds : ∀ (ws : List Nat) (off : Nat), ∀ p ∈ fieldPos.go off ws, off ≤ p.1 ∧ p.1 + p.2 ≤ off + sumW ws
  | [], _, p, hp => by simp [fieldPos.go] at hp
  | w :: ws, off, p, hp => by
    simp only [fieldPos.go, List.mem_cons] at hp
    rcases hp with rfl | hp
    · simp [sumW]
    · have := fieldPos_bounds ws (off + w) p hp
      simp only [sumW]; omega

end Litex.Stream
