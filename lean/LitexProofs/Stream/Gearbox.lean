import LitexModel.Stream.Gearbox
import Mathlib.Data.Nat.ModEq
import LitexProofs.Stream.Sim
/-
  Gearbox: the circular shift register holds exactly the accepted-but-not-yet-delivered bits, in order.
-/
namespace Litex.Stream
open Elem
variable {α : Type}

/-- `level` entries of the circular register `sr` (size `L`), starting at read position `rp`. -/
def inflightOf (L : Nat) (z : α) (sr : List α) (rp level : Nat) : List α :=
  (List.range level).map fun k => sr.getD ((rp + k) % L) z

@[simp] theorem inflightOf_length (L : Nat) (z : α) (sr : List α) (rp level : Nat) :
    (inflightOf L z sr rp level).length = level := by simp [inflightOf]

@[simp] theorem fit_length (n : Nat) (z : α) (w : List α) : (fit n z w).length = n := by simp [fit]

theorem getD_writeAt (sr w : List α) (pos p : Nat) (z : α) (h : pos + w.length ≤ sr.length) :
    (writeAt sr pos w).getD p z = if pos ≤ p ∧ p < pos + w.length then w.getD (p - pos) z else sr.getD p z := by
  have hp : (sr.take pos).length = pos := by rw [List.length_take]; omega
  have hpw : (sr.take pos ++ w).length = pos + w.length := by rw [List.length_append, hp]
  unfold writeAt
  simp only [List.getD_eq_getElem?_getD]
  by_cases h1 : p < pos
  · rw [if_neg (by omega), List.getElem?_append_left (by rw [hpw]; omega), List.getElem?_append_left (by rw [hp]; exact h1),
      List.getElem?_take_of_lt h1]
  · by_cases h2 : p < pos + w.length
    · rw [if_pos (by omega), List.getElem?_append_left (by rw [hpw]; exact h2),
        List.getElem?_append_right (by rw [hp]; omega), hp]
    · rw [if_neg (by omega), List.getElem?_append_right (by rw [hpw]; omega), hpw, List.getElem?_drop]
      congr 2
      omega

@[simp] theorem writeAt_length (sr w : List α) (pos : Nat) (h : pos + w.length ≤ sr.length) :
    (writeAt sr pos w).length = sr.length := by
  rw [writeAt, List.length_append, List.length_append, List.length_take, List.length_drop]; omega

theorem inflightOf_read (L : Nat) (z : α) (sr : List α) (rp level o : Nat) :
    inflightOf L z sr ((rp + o) % L) (level - o) = (inflightOf L z sr rp level).drop o := by
  apply List.ext_getElem
  · simp
  · intro k h1 h2
    simp [inflightOf, Nat.add_assoc, Nat.add_comm o k]

theorem read_eq_take (L : Nat) (z : α) (sr : List α) (rp level o : Nat) (ho : o ≤ level) (hsr : sr.length = L)
    (hrp : rp + o ≤ L) :
    (sr.drop rp).take o = (inflightOf L z sr rp level).take o := by
  apply List.ext_getElem
  · simp; omega
  · intro k h1 h2
    have hk : k < o := by simp at h2; omega
    have hlt : rp + k < L := by omega
    simp [inflightOf, Nat.mod_eq_of_lt hlt, List.getD_eq_getElem?_getD, hsr, hlt]

theorem mod_add_small (L a wp j : Nat) (h : a % L = wp) (hj : wp + j < L) : (a + j) % L = wp + j := by
  have hjL : j < L := by omega
  rw [Nat.add_mod, h, Nat.mod_eq_of_lt hjL, Nat.mod_eq_of_lt hj]

/-- The slot `[wp, wp + n)` behind the `level` unread entries holds none of them when `level + n < L`: position
    `wp + j` would be both entry `k` and entry `level + j`, which are less than `L` apart. -/
theorem write_slot_free (L rp level wp n k : Nat) (hwp : (rp + level) % L = wp) (hfit : wp + n ≤ L)
    (hroom : level + n < L) (hk : k < level) : ¬ (wp ≤ (rp + k) % L ∧ (rp + k) % L < wp + n) := by
  rintro ⟨ha, hb⟩
  obtain ⟨j, hj⟩ := Nat.exists_eq_add_of_le ha
  have hjn : j < n := Nat.lt_of_add_lt_add_left (hj ▸ hb)
  have hq := mod_add_small L (rp + level) wp j hwp (Nat.lt_of_lt_of_le (Nat.add_lt_add_left hjn wp) hfit)
  have h0 := Nat.sub_mod_eq_zero_of_mod_eq (hq.trans hj.symm)
  rw [Nat.add_assoc, Nat.add_sub_add_left, Nat.mod_eq_of_lt (by omega)] at h0
  omega

theorem inflightOf_write (L : Nat) (z : α) (sr w : List α) (rp wp level : Nat) (hsr : sr.length = L)
    (hwp : (rp + level) % L = wp) (hfit : wp + w.length ≤ L) (hroom : level + w.length < L) :
    inflightOf L z (writeAt sr wp w) rp (level + w.length) = inflightOf L z sr rp level ++ w := by
  apply List.ext_getElem
  · rw [List.length_append, inflightOf_length, inflightOf_length]
  · intro k h1 h2
    have hk2 : k < level + w.length := by rwa [inflightOf_length] at h1
    simp only [inflightOf, List.getElem_map, List.getElem_range]
    rw [getD_writeAt _ _ _ _ _ (by omega)]
    by_cases hk : k < level
    · rw [if_neg (write_slot_free L rp level wp w.length k hwp hfit hroom hk),
        List.getElem_append_left (by rwa [List.length_map, List.length_range])]
      simp only [List.getElem_map, List.getElem_range]
    · have hpos : (rp + k) % L = wp + (k - level) := by
        rw [show rp + k = (rp + level) + (k - level) by omega]
        exact mod_add_small L (rp + level) wp _ hwp (by omega)
      rw [if_pos (by omega), List.getElem_append_right (by rw [List.length_map, List.length_range]; omega), hpos,
        show wp + (k - level) - wp = k - level by omega, List.getD_eq_getElem?_getD,
        List.getElem?_eq_getElem (by omega)]
      simp only [List.length_map, List.length_range, Option.getD_some]

def dbl (l w : Nat) : Nat := if l / w < 2 then l * 2 else l

theorem ioLcm_eq (i o : Nat) : ioLcm i o = dbl (dbl (Nat.lcm i o) i) o := rfl

theorem dvd_dbl (l w v : Nat) (h : v ∣ l) : v ∣ dbl l w := by
  unfold dbl
  split
  · exact Nat.dvd_mul_right_of_dvd h 2
  · exact h

theorem le_dbl (l w : Nat) : l ≤ dbl l w := by unfold dbl; split <;> omega

theorem two_le_dbl (l w : Nat) (hl : 0 < l) (hd : w ∣ l) : 2 * w ≤ dbl l w := by
  have hle : w ≤ l := Nat.le_of_dvd hl hd
  unfold dbl
  split
  · omega
  · next h =>
    have h2 : 2 ≤ l / w := by omega
    calc 2 * w ≤ l / w * w := Nat.mul_le_mul_right w h2
      _ ≤ l := Nat.div_mul_le_self l w

theorem ioLcm_facts (i o : Nat) (hi : 0 < i) (ho : 0 < o) :
    i ∣ ioLcm i o ∧ o ∣ ioLcm i o ∧ 2 * i ≤ ioLcm i o ∧ 2 * o ≤ ioLcm i o := by
  have hli : i ∣ Nat.lcm i o := Nat.dvd_lcm_left i o
  have hlo : o ∣ Nat.lcm i o := Nat.dvd_lcm_right i o
  have hlpos : 0 < Nat.lcm i o := Nat.lcm_pos hi ho
  have h1 : 2 * i ≤ dbl (Nat.lcm i o) i := two_le_dbl _ _ hlpos hli
  have h1pos : 0 < dbl (Nat.lcm i o) i := by omega
  rw [ioLcm_eq]
  refine ⟨dvd_dbl _ _ _ (dvd_dbl _ _ _ hli), dvd_dbl _ _ _ (dvd_dbl _ _ _ hlo), ?_,
    two_le_dbl _ _ h1pos (dvd_dbl _ _ _ hlo)⟩
  exact Nat.le_trans h1 (le_dbl _ _)

theorem incMod_spec (w L c : Nat) (hw : 0 < w) (hd : w ∣ L) (hc : c < L / w) :
    incMod c (L / w) < L / w ∧ w * incMod c (L / w) = (w * c + w) % L ∧ w * c + w ≤ L := by
  have hmul : w * (L / w) = L := Nat.mul_div_cancel' hd
  have hle : w * (c + 1) ≤ w * (L / w) := Nat.mul_le_mul_left w (by omega)
  rw [hmul, Nat.mul_succ] at hle
  unfold incMod
  by_cases h : c + 1 = L / w
  · have : w * c + w = L := by
      calc w * c + w = w * (c + 1) := (Nat.mul_succ w c).symm
        _ = w * (L / w) := by rw [h]
        _ = L := hmul
    simp [h, this]
    omega
  · have hlt : w * (c + 2) ≤ w * (L / w) := Nat.mul_le_mul_left w (by omega)
    rw [hmul, Nat.mul_succ, Nat.mul_succ] at hlt
    have hlt' : w * c + w < L := by omega
    simp [h, Nat.mod_eq_of_lt hlt', Nat.mul_succ]
    omega

/-- All bits of a token history, in stream order. -/
def bitsIn (i : Nat) (z : α) (a : List (Tok (List α))) : List α := (a.map fun t => fit i z t.data).flatten
def bitsOut (d : List (Tok (List α))) : List α := (d.map (·.data)).flatten

/-- The register is a ring of `L` bits: `o * ocount` is the read pointer, `i * icount` the write pointer (both counters
    in range), `level < L` the number of unread bits between them (fifth conjunct: write = read + level modulo `L`);
    the unread bits, in ring order from the read pointer, are the accepted bits that have not been delivered. -/
def gbRel (L i o : Nat) (z : α) (s : GbState α) (a d : List (Tok (List α))) : Prop :=
  s.sr.length = L ∧ s.icount < L / i ∧ s.ocount < L / o ∧ s.level < L ∧
  (o * s.ocount + s.level) % L = i * s.icount ∧
  bitsIn i z a = bitsOut d ++ inflightOf L z s.sr (o * s.ocount) s.level

theorem gbRel_init (L i o : Nat) (hi : 0 < i) (ho : 0 < o) (hiL : i ∣ L) (hoL : o ∣ L) (hL : 0 < L) (z : α) :
    gbRel L i o z (gearbox L i o z).init [] [] :=
  ⟨List.length_replicate, Nat.div_pos (Nat.le_of_dvd hL hiL) hi, Nat.div_pos (Nat.le_of_dvd hL hoL) ho, hL,
    by show (o * 0 + 0) % L = i * 0; simp, rfl⟩

theorem gearbox_accNow (L i o : Nat) (z : α) (s : GbState α) (x : In (List α)) :
    (gearbox L i o z).accNow s x = if x.valid && decide (s.level + i < L) then [x.tok] else [] := rfl

theorem gearbox_delNow (L i o : Nat) (z : α) (s : GbState α) (x : In (List α)) :
    (gearbox L i o z).delNow s x =
      if decide (o ≤ s.level) && x.ready then
        [{ data := (s.sr.drop (o * s.ocount)).take o, first := false, last := false }] else [] := rfl

/-! A clock cycle of the gearbox is a read of the source word (if it is taken) followed by a write of the sink
    word (if it is accepted); both conditions look at the level before the cycle. -/

def GbState.read (L o : Nat) (s : GbState α) : GbState α :=
  { s with level := s.level - o, ocount := incMod s.ocount (L / o) }

def GbState.write (L i : Nat) (w : List α) (s : GbState α) : GbState α :=
  { s with level := s.level + i, icount := incMod s.icount (L / i), sr := writeAt s.sr (i * s.icount) w }

theorem gearbox_step_eq (L i o : Nat) (z : α) (s : GbState α) (x : In (List α)) :
    (gearbox L i o z).step s x =
      if x.valid && decide (s.level + i < L) then
        (if decide (o ≤ s.level) && x.ready then s.read L o else s).write L i (fit i z x.tok.data)
      else if decide (o ≤ s.level) && x.ready then s.read L o else s := by
  cases hi : x.valid && decide (s.level + i < L) <;> cases ho : decide (o ≤ s.level) && x.ready <;>
    simp only [gearbox, Elem.step, GbState.read, GbState.write, hi, ho, Bool.not_true, Bool.not_false, Bool.and_self,
      Bool.and_false, Bool.and_true, if_true, if_false, Bool.false_eq_true]
  -- both at once: `level + i - o` against `level - o + i`
  have : o ≤ s.level := by simpa using (Bool.and_eq_true_iff.mp ho).1
  congr 1
  omega

theorem gbRel_read (L i o : Nat) (ho : 0 < o) (hoL : o ∣ L) (z : α) (s : GbState α) (a d : List (Tok (List α)))
    (h : gbRel L i o z s a d) (c : Bool) (hc : c = true → o ≤ s.level) :
    gbRel L i o z (if c then s.read L o else s) a
      (d ++ if c then [{ data := (s.sr.drop (o * s.ocount)).take o, first := false, last := false }] else []) := by
  cases c
  · rw [if_neg Bool.false_ne_true, if_neg Bool.false_ne_true, List.append_nil]; exact h
  have hlev := hc rfl
  rw [if_pos rfl, if_pos rfl]
  obtain ⟨h1, h2, h3, h4, h5, h6⟩ := h
  obtain ⟨ho1, ho2, ho3⟩ := incMod_spec o L s.ocount ho hoL h3
  refine ⟨h1, h2, ho1, Nat.lt_of_le_of_lt (Nat.sub_le _ _) h4, ?_, ?_⟩
  · show (o * incMod s.ocount (L / o) + (s.level - o)) % L = i * s.icount
    rw [ho2, Nat.mod_add_mod, ← h5]
    congr 1; omega
  · show _ = _ ++ inflightOf L z s.sr (o * incMod s.ocount (L / o)) (s.level - o)
    rw [ho2, inflightOf_read L z s.sr (o * s.ocount) s.level o, h6, bitsOut, bitsOut, List.map_append,
      List.flatten_append, List.append_assoc, read_eq_take L z s.sr (o * s.ocount) s.level o hlev h1 ho3]
    show _ = _ ++ ((_ ++ []) ++ _)
    rw [List.append_nil, List.take_append_drop]

theorem gbRel.write_sr {L i o : Nat} {z : α} {s : GbState α} {a d : List (Tok (List α))} (h : gbRel L i o z s a d)
    (hi : 0 < i) (hiL : i ∣ L) (w : List α) (hroom : s.level + i < L) :
    (writeAt s.sr (i * s.icount) (fit i z w)).length = L ∧
    inflightOf L z (writeAt s.sr (i * s.icount) (fit i z w)) (o * s.ocount) (s.level + i) =
      inflightOf L z s.sr (o * s.ocount) s.level ++ fit i z w := by
  obtain ⟨h1, h2, _, _, h5, _⟩ := h
  obtain ⟨_, _, hi3⟩ := incMod_spec i L s.icount hi hiL h2
  have hfit : (fit i z w).length = i := fit_length i z w
  have hw := inflightOf_write L z s.sr (fit i z w) (o * s.ocount) (i * s.icount) s.level h1 h5
    (by rw [hfit]; exact hi3) (by rw [hfit]; exact hroom)
  rw [hfit] at hw
  exact ⟨by rw [writeAt_length _ _ _ (by rw [hfit, h1]; exact hi3)]; exact h1, hw⟩

theorem gbRel_write (L i o : Nat) (hi : 0 < i) (hiL : i ∣ L) (z : α) (s : GbState α) (a d : List (Tok (List α)))
    (t : Tok (List α)) (h : gbRel L i o z s a d) (hroom : s.level + i < L) :
    gbRel L i o z (s.write L i (fit i z t.data)) (a ++ [t]) d := by
  obtain ⟨hlen, hw⟩ := h.write_sr hi hiL t.data hroom
  obtain ⟨_, h2, h3, _, h5, h6⟩ := h
  obtain ⟨hi1, hi2, _⟩ := incMod_spec i L s.icount hi hiL h2
  refine ⟨hlen, hi1, h3, hroom, ?_, ?_⟩
  · show (o * s.ocount + (s.level + i)) % L = i * incMod s.icount (L / i)
    rw [hi2, ← h5, Nat.mod_add_mod]
    congr 1; omega
  · show _ = _ ++ inflightOf L z (writeAt _ _ _) (o * s.ocount) (s.level + i)
    rw [hw, ← List.append_assoc, ← h6, bitsIn, bitsIn, List.map_append, List.flatten_append]
    show _ ++ (_ ++ []) = _
    rw [List.append_nil]

theorem gearbox_step (L i o : Nat) (hi : 0 < i) (ho : 0 < o) (hiL : i ∣ L) (hoL : o ∣ L) (z : α)
    (s : GbState α) (a d : List (Tok (List α))) (x : In (List α)) (h : gbRel L i o z s a d) :
    gbRel L i o z ((gearbox L i o z).step s x) (a ++ (gearbox L i o z).accNow s x)
      (d ++ (gearbox L i o z).delNow s x) := by
  rw [gearbox_step_eq, gearbox_accNow, gearbox_delNow]
  have hr := gbRel_read L i o ho hoL z s a d h (decide (o ≤ s.level) && x.ready)
    fun hc => by simpa using (Bool.and_eq_true_iff.mp hc).1
  cases hi' : x.valid && decide (s.level + i < L)
  · rw [if_neg Bool.false_ne_true, if_neg Bool.false_ne_true, List.append_nil]; exact hr
  · rw [if_pos rfl, if_pos rfl]
    refine gbRel_write L i o hi hiL z _ a _ x.tok hr ?_
    have : s.level + i < L := by simpa using (Bool.and_eq_true_iff.mp hi').2
    split
    · exact Nat.lt_of_le_of_lt (Nat.add_le_add_right (Nat.sub_le _ _) i) this
    · exact this

end Litex.Stream
