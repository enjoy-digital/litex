import LitexProofs.Stream.Stride
/-
  Field-level layout of `Pack` / `Unpack` (any list of fields, `n` chunks) and of the down-converting
  `StrideConverter`, for the encodings the real code is compared through (`encUp`, `decDown`, `decStrideDown`).
  `Pack(layout, n)`: the source payload is `chunk0{f_0,…}, chunk1{f_0,…}, …`, i.e. chunk `c` occupies bits
  `[c·nb, (c+1)·nb)` (`nb = Σ w_k`) and field `k` of chunk `c` sits at `c·nb + j_k`.
-/
namespace Litex.Stream
open Litex

/-- Chunk `reverse ? r-1-i : i` holds the `i`-th sub-word; above the chunks sits the param, above it (if reported)
    the token count. -/
theorem encUp_fields (r pw : Nat) (rev vtc : Bool) (ws : List Nat) (W : UpWord Nat Nat) (hW : W.lanes.length = r)
    (i : Nat) (hi : i < r) :
    (fieldPos ws).map (fun (j, w) =>
        slice ((if rev then r - 1 - i else i) * sumW ws + j) w (encUp r (sumW ws) pw rev vtc W)) =
      (fieldPos ws).map (fun (j, w) => slice j w (W.lanes.getD i 0)) ∧
    slice (r * sumW ws) pw (encUp r (sumW ws) pw rev vtc W) = W.param % 2 ^ pw ∧
    (encUp r (sumW ws) pw rev vtc W) / 2 ^ (r * sumW ws + pw) = if vtc then W.count else 0 := by
  have hlenP : (phys rev W.lanes).length = r := by rw [phys_length, hW]
  have hlt : packLanes (sumW ws) (phys rev W.lanes) < 2 ^ (r * sumW ws) := by
    have := cat_uniform_lt (sumW ws) (phys rev W.lanes); rwa [hlenP] at this
  have hn : (if rev then r - 1 - i else i) < r := by split <;> omega
  refine ⟨?_, ?_, ?_⟩
  · apply List.map_congr_left
    intro p hp
    obtain ⟨j, w⟩ := p
    have hb := fieldPos_bounds ws 0 (j, w) (by simpa [fieldPos] using hp)
    simp only at hb ⊢
    have hl := upconv_layout (sumW ws) rev W.lanes i (by omega)
    rw [hW] at hl
    rw [← slice_slice j w _ (sumW ws) _ (by omega)]
    unfold encUp
    rw [slice_add_high _ _ _ _ _ (succ_mul_le (sumW ws) hn), hl]
    exact slice_mod j w (sumW ws) _ (by omega)
  · unfold encUp
    rw [slice_above _ _ _ _ hlt, Nat.add_mul_mod_self_left, Nat.mod_mod]
  · unfold encUp
    have hm : W.param % 2 ^ pw < 2 ^ pw := Nat.mod_lt _ (Nat.two_pow_pos pw)
    rw [Nat.pow_add, ← Nat.div_div_eq_div_mul, Nat.add_mul_div_left _ _ (Nat.two_pow_pos _), Nat.div_eq_of_lt hlt,
      Nat.zero_add, Nat.add_mul_div_left _ _ (Nat.two_pow_pos _), Nat.div_eq_of_lt hm, Nat.zero_add]

theorem unpackLanes_getD (nb r x n : Nat) (hn : n < r) : (unpackLanes nb r x).getD n 0 = slice (n * nb) nb x := by
  simp [unpackLanes, List.getD_eq_getElem?_getD, hn]

theorem decDown_lane (r nb pw : Nat) (rev : Bool) (d : Nat) (i : Nat) (hi : i < r) :
    (decDown r nb pw rev d []).1.getD i 0 = slice ((if rev then r - 1 - i else i) * nb) nb d := by
  have hlen : (unpackLanes nb r d).length = r := by simp [unpackLanes]
  have hn : (if rev then r - 1 - i else i) < r := by split <;> omega
  rw [decDown, getD_phys rev _ 0 i (hlen.symm ▸ hi), hlen]
  exact unpackLanes_getD nb r d _ hn

theorem decDown_fields (r pw : Nat) (rev : Bool) (ws : List Nat) (d : Nat) (i : Nat) (hi : i < r) :
    (fieldPos ws).map (fun (j, w) => slice j w ((decDown r (sumW ws) pw rev d []).1.getD i 0)) =
      (fieldPos ws).map (fun (j, w) => slice ((if rev then r - 1 - i else i) * sumW ws + j) w d) ∧
    (decDown r (sumW ws) pw rev d []).2 = slice (r * sumW ws) pw d := by
  refine ⟨?_, rfl⟩
  apply List.map_congr_left
  intro p hp
  obtain ⟨j, w⟩ := p
  have hb := fieldPos_bounds ws 0 (j, w) (by simpa [fieldPos] using hp)
  simp only at hb ⊢
  rw [decDown_lane r (sumW ws) pw rev d i hi]
  exact slice_slice j w _ (sumW ws) d (by omega)

theorem strideIn_getD (r : Nat) (ws : List Nat) (x n : Nat) (hn : n < r) :
    (strideIn r ws x).getD n 0 = cat ((fieldPos ws).map fun (j, w) => (w, slice (r * j + n * w) w x)) := by
  simp [strideIn, List.getD_eq_getElem?_getD, hn]

theorem decStrideDown_fields (r pw : Nat) (rev : Bool) (ws : List Nat) (d : Nat) (i : Nat) (hi : i < r) :
    (fieldPos ws).map (fun (j, w) => slice j w ((decStrideDown r pw rev ws d []).1.getD i 0)) =
      (fieldPos ws).map (fun (j, w) => slice ((if rev then r - 1 - i else i) * w) w (slice (r * j) (r * w) d)) ∧
    (decStrideDown r pw rev ws d []).2 = slice (r * sumW ws) pw d := by
  refine ⟨?_, rfl⟩
  have hlen : (strideIn r ws d).length = r := by simp [strideIn]
  have hn : (if rev then r - 1 - i else i) < r := by split <;> omega
  rw [decStrideDown, getD_phys rev _ 0 i (hlen.symm ▸ hi), hlen, strideIn_getD r ws d _ hn]
  have h := cat_field_go (fun j w => slice (r * j + (if rev then r - 1 - i else i) * w) w d) ws 0 0 (by simp)
  simp only [Nat.pow_zero, Nat.one_mul, Nat.zero_add] at h
  rw [show fieldPos ws = fieldPos.go 0 ws from rfl, h]
  apply List.map_congr_left
  intro p _
  obtain ⟨j, w⟩ := p
  simp only
  rw [Nat.mod_eq_of_lt (slice_lt _ _ _)]
  exact (slice_slice _ _ _ _ _ (succ_mul_le w hn)).symm

end Litex.Stream
