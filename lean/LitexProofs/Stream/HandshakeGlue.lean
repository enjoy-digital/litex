import LitexProofs.Stream.HandshakeBasic
import LitexProofs.Stream.Glue
import LitexModel.Stream.Monitored
/-
  C04 for the glue of stream.py (`LitexModel/Stream/Glue.lean`, `Monitored.lean`).  Pipelines over an arbitrary list of
  stages (`stream.Pipeline(m_1, …, m_n)`; the stage selections of `Buffer`, `SyncFIFO`, `Delay`, same-domain
  `ClockDomainCrossing`) and `BufferizeEndpoints` around any element are members of the class `Good`, by induction over
  the stage list.  A Monitor on the source endpoint is transparent for the handshake; the class selection of `Converter`
  always yields a ratio ≥ 1 (the side condition of the converter theorems); BufferizeEndpoints without PipeReady keeps
  `sink.ready` following `source.ready`.
-/
namespace Litex.Stream
open Elem
variable {α : Type}

/-- The depth side condition of a stage (`SyncFIFO` instantiates the Migen FIFOs for depth ≥ 2 only). -/
def stageOk : Stage → Prop
  | .fifo d => 0 < d
  | .fifoB d => 1 ≤ d
  | _ => True

/-- The delivery measures of the element lemmas, case by case: `stage_good` and `stage_drain` (`HandshakeFlow.lean`) type-check because each case
    unfolds to literally the measure written in `pipeValid_good`, `syncFifo_good`, … (change both together). -/
def stageMu : (st : Stage) → StageState α st → Nat
  | .wire, _ => 0
  | .pv, s => let s' : PVState α := s; if s'.valid then 0 else 1
  | .pr, _ => 0
  | .fifo _, s => let q : List (Tok α) := s; if q.isEmpty then 1 else 0
  | .fifoB _, s => let s' : FBState α := s; if s'.readable then 0 else if s'.q.isEmpty then 2 else 1

/-- Delivery window of one stage minus one. -/
def stageB : Stage → Nat
  | .wire => 0
  | .pv => 1
  | .pr => 0
  | .fifo _ => 1
  | .fifoB _ => 2

theorem stage_good (z : Tok α) :
    ∀ st : Stage, stageOk st → Good (stageElem z st) (stageInv st) (stageMu st) (stageB st)
  | .wire, _ => wire_good
  | .pv, _ => pipeValid_good z
  | .pr, _ => pipeReady_good z
  | .fifo d, h => syncFifo_good d h z
  | .fifoB d, h => syncFifoBuffered_good d h z

def pipeMu : (l : List Stage) → PipeState α l → Nat
  | [], _ => 0
  | st :: l, s => pipeMu l s.2 * (stageB st + 1) + stageMu st s.1

/-- `pipeB l + 1 = ∏ (stageB st + 1)`: the delivery window of the pipeline. -/
def pipeB : List Stage → Nat
  | [] => 0
  | st :: l => pipeB l * (stageB st + 1) + stageB st

theorem stages_good (z : Tok α) : ∀ l : List Stage, (∀ st ∈ l, stageOk st) →
    Good (stages z l) (pipeInv l) (pipeMu l) (pipeB l)
  | [], _ => ⟨wire_stepStable, wire_live⟩
  | st :: l, h =>
    Good.comp (stage_good z st (h st (by simp)))
      (stages_good z l (fun x hx => h x (by simp [hx])))

/-- The stage kinds whose `sink.ready` follows `source.ready` (`Delay`, `Buffer(pipe_valid)`). -/
def stageRT : Stage → Prop
  | .wire => True
  | .pv => True
  | _ => False

theorem stages_readyTransparent (z : Tok α) : ∀ l : List Stage, (∀ st ∈ l, stageRT st) →
    ReadyTransparent (stages z l) (pipeInv l)
  | [], _ => wire_readyTransparent
  | .wire :: l, h =>
    ReadyTransparent.comp (Ia := fun _ => True) (Ib := pipeInv l) wire_readyTransparent
      (stages_readyTransparent z l (fun x hx => h x (by simp [hx])))
  | .pv :: l, h =>
    ReadyTransparent.comp (Ia := fun _ => True) (Ib := pipeInv l) (pipeValid_readyTransparent z)
      (stages_readyTransparent z l (fun x hx => h x (by simp [hx])))
  | .pr :: _, h => (h .pr (by simp)).elim
  | .fifo d :: _, h => (h (.fifo d) (by simp)).elim
  | .fifoB d :: _, h => (h (.fifoB d) (by simp)).elim

theorem bufferStages_ok (pv pr : Bool) : ∀ st ∈ bufferStages pv pr, stageOk st := by
  intro st h
  cases pv <;> cases pr <;> simp [bufferStages] at h
  · subst h; trivial
  · subst h; trivial
  · rcases h with h | h <;> subst h <;> trivial

theorem optBufferStages_ok (b pv pr : Bool) : ∀ st ∈ (if b then bufferStages pv pr else []), stageOk st := by
  cases b
  · exact fun _ h => nomatch h
  · exact bufferStages_ok pv pr

theorem syncFifoStages_ok (depth : Nat) (buffered : Bool) : ∀ st ∈ syncFifoStages depth buffered, stageOk st := by
  intro st h
  unfold syncFifoStages at h
  by_cases h2 : depth ≥ 2
  · simp only [h2, if_true, List.mem_singleton] at h
    subst h
    cases buffered <;> simp [stageOk] <;> omega
  · simp only [h2, if_false] at h
    by_cases h1 : depth = 1
    · simp only [h1, if_true] at h
      exact bufferStages_ok true false st h
    · simp [h1] at h

theorem delayStages_ok (n : Nat) : ∀ st ∈ delayStages n, stageOk st := by
  rw [delayStages_eq]; intro st h; rw [List.eq_of_mem_replicate h]; trivial

theorem cdcSameStages_ok (b : Bool) : ∀ st ∈ cdcSameStages b, stageOk st := by
  intro st h
  cases b
  · simp [cdcSameStages] at h
  · exact bufferStages_ok true false st (by simpa [cdcSameStages] using h)

theorem delayStages_rt (n : Nat) : ∀ st ∈ delayStages n, stageRT st := by
  rw [delayStages_eq]; intro st h; rw [List.eq_of_mem_replicate h]; trivial

/-- The invariant `Good.comp` gives a bufferized element. -/
def bufferizeInv {β σ : Type} (Inv : σ → Prop) (bs bd pv pr : Bool)
    (s : PipeState α (if bs then bufferStages pv pr else []) × σ × PipeState β (if bd then bufferStages pv pr else [])) :
    Prop :=
  pipeInv _ s.1 ∧ Inv s.2.1 ∧ pipeInv _ s.2.2

theorem bufferizeInv_init {β σ : Type} (bs bd pv pr : Bool) (zi : Tok α) (zo : Tok β) {e : Elem α β σ} {Inv : σ → Prop}
    (h0 : Inv e.init) : bufferizeInv Inv bs bd pv pr (bufferize bs bd pv pr zi zo e).init :=
  ⟨pipeInv_init zi _, h0, pipeInv_init zo _⟩

theorem bufferize_good {β σ : Type} (bs bd pv pr : Bool) (zi : Tok α) (zo : Tok β) {e : Elem α β σ}
    {Inv : σ → Prop} {μ : σ → Nat} {B : Nat} (he : Good e Inv μ B) :
    ∃ (m : _ → Nat) (K : Nat), Good (bufferize bs bd pv pr zi zo e) (bufferizeInv Inv bs bd pv pr) m K ∧
      K + 1 = (pipeB (if bd then bufferStages pv pr else []) + 1) * (B + 1) *
              (pipeB (if bs then bufferStages pv pr else []) + 1) := by
  refine ⟨_, _, Good.comp (stages_good zi _ (optBufferStages_ok bs pv pr))
    (Good.comp he (stages_good zo _ (optBufferStages_ok bd pv pr))), ?_⟩
  generalize pipeB (if bd then bufferStages pv pr else []) = X
  generalize pipeB (if bs then bufferStages pv pr else []) = Y
  rw [Nat.succ_mul X, show X * (B + 1) + (B + 1) = X * (B + 1) + B + 1 from rfl, Nat.succ_mul]
  rfl

section
variable {α β σ : Type}

theorem monitored_out (e : Elem α β σ) (w : Nat) (cfg : MonCfg) (df : Bool) (s : σ × MonState) (i : In α) :
    (monitored e w cfg df).out s i = e.out s.1 i := rfl

theorem monitored_step_fst (e : Elem α β σ) (w : Nat) (cfg : MonCfg) (df : Bool) (s : σ × MonState) (i : In α) :
    ((monitored e w cfg df).step s i).1 = e.step s.1 i := rfl

theorem monitored_mirrors (e : Elem α β σ) (w : Nat) (cfg : MonCfg) (df : Bool) :
    Mirrors (monitored e w cfg df) e Prod.fst :=
  ⟨fun _ _ _ => rfl, fun _ _ _ _ => rfl, fun _ _ _ _ => rfl⟩

theorem converterKind_ratio (nf nt : Nat) (hf : 0 < nf) (ht : 0 < nt) (k : ConvKind) (r : Nat)
    (h : converterKind nf nt = some (k, r)) :
    0 < r ∧ (k = .up → nt = r * nf) ∧ (k = .down → nf = r * nt) ∧ (k = .ident → nf = nt ∧ r = 1) := by
  have hs := converterKind_spec nf nt hf ht
  rw [h] at hs
  cases k <;> simp only at hs
  · exact ⟨by omega, nofun, fun _ => hs.1, nofun⟩
  · exact ⟨by omega, fun _ => hs.1, nofun, nofun⟩
  · exact ⟨by omega, nofun, nofun, fun _ => hs⟩

theorem optBufferStages_rt (b pv : Bool) : ∀ st ∈ (if b then bufferStages pv false else []), stageRT st := by
  intro st h
  cases b <;> cases pv <;> simp [bufferStages] at h
  all_goals subst h; trivial

theorem bufferize_readyTransparent {β σ : Type} (bs bd pv : Bool) (zi : Tok α) (zo : Tok β) {e : Elem α β σ}
    {Inv : σ → Prop} (he : ReadyTransparent e Inv) :
    ReadyTransparent (bufferize bs bd pv false zi zo e) (bufferizeInv Inv bs bd pv false) :=
  ReadyTransparent.comp (stages_readyTransparent zi _ (optBufferStages_rt bs pv))
    (ReadyTransparent.comp he (stages_readyTransparent zo _ (optBufferStages_rt bd pv)))

end

end Litex.Stream
