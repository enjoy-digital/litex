import LitexProofs.Stream.HandshakeComp
import LitexProofs.Stream.Conv
/-
  C04 one-cycle lemmas and class memberships of the converters of `LitexModel/Stream/Conv.lean` (`_UpConverter`/`Pack`,
  `StrideConverter` up, `_DownConverter`/`Unpack` without and with the count flag) and of `Cast` (`mapElem`).
  `upInv` and `downInv` are the counter-range conjuncts of C03's `upRel` and `downRel` (`Conv.lean`).
-/
namespace Litex.Stream
open Elem
variable {α π : Type}

def upInv (r : Nat) (s : UpState α π) : Prop := s.demux < r

theorem upInv_init (r : Nat) (hr : 0 < r) (z : α) (p0 : π) : upInv r (upConv r z p0).init := hr

/-- Cycles until the word is complete. -/
def upMu (r : Nat) (s : UpState α π) : Nat := if s.strobe then 0 else r - s.demux

theorem upConv_inv_step (r : Nat) (hr : 0 < r) (z : α) (p0 : π) (s : UpState α π) (i : In (α × π))
    (h : upInv r s) : upInv r ((upConv r z p0).step s i) := by
  unfold upInv at *
  simp only [upConv, Elem.step]
  split
  · split
    · exact hr
    · rename_i h1 h2
      simp at h2
      omega
  · exact h

/-- While `strobe_all ∧ ¬source.ready`, `load_part` is 0 and nothing is written. -/
theorem upConv_step_stall (r : Nat) (z : α) (p0 : π) {s : UpState α π} {i : In (α × π)} (hs : s.strobe = true)
    (hr : i.ready = false) : (upConv r z p0).step s i = s := by
  cases s
  subst hs
  simp [upConv, Elem.step, hr]

theorem upConv_stepStable (r : Nat) (z : α) (p0 : π) : StepStable (upConv r z p0) (fun _ => True) where
  inv_step _ _ _ := trivial
  hold s i i' _ _ hv hr := by
    rw [upConv_step_stall r z p0 hv hr]
    exact ⟨hv, rfl⟩

theorem upConv_readyTransparent (r : Nat) (z : α) (p0 : π) :
    ReadyTransparent (upConv r z p0) (upInv r) :=
  fun _ _ _ _ => Bool.or_true _

theorem upConv_mu_load (r : Nat) (z : α) (p0 : π) {s : UpState α π} {i : In (α × π)} (hs : s.strobe = false)
    (hv : i.valid = true) (h : upInv r s) : upMu r ((upConv r z p0).step s i) < upMu r s := by
  unfold upInv at h
  unfold upMu
  simp only [upConv, Elem.step, hs, hv]
  cases (s.demux + 1 == r || i.tok.last) <;> simp <;> omega

theorem upConv_live (r : Nat) (hr : 0 < r) (z : α) (p0 : π) : Live (upConv r z p0) (upInv r) (upMu r) r where
  inv_step := upConv_inv_step r hr z p0
  bound s _ := by unfold upMu; split <;> omega
  off s i hs hv := by
    cases hst : s.strobe with
    | true => exact Or.inl hst
    | false => exact Or.inr (upConv_mu_load r z p0 hst hv hs)
  mono s i hs := by
    cases hst : s.strobe with
    | true => exact Or.inl hst
    | false =>
      right
      cases hv : i.valid with
      | false => unfold upMu; simp [upConv, Elem.step, hst, hv]
      | true => exact Nat.le_of_lt (upConv_mu_load r z p0 hst hv hs)

theorem upConv_good (r : Nat) (hr : 0 < r) (z : α) (p0 : π) : Good (upConv r z p0) (upInv r) (upMu r) r :=
  ⟨(upConv_stepStable r z p0).strengthen (upConv_inv_step r hr z p0), upConv_live r hr z p0⟩

theorem upConv_idleMono (r : Nat) (z : α) (p0 : π) : IdleMono (upConv r z p0) (upInv r) (upMu r) :=
  fun s i hs hrd => (upConv_live r (Nat.zero_lt_of_lt hs) z p0).idleMono s i hs hrd

def downInv (r : Nat) (mux : Nat) : Prop := mux < r

theorem downInv_init (r : Nat) (hr : 0 < r) (z : α) : downInv r (downConv (π := π) r z).init := hr

theorem downConv_inv_step (r : Nat) (hr : 0 < r) (z : α) (mux : Nat) (i : In (List α × π))
    (h : downInv r mux) : downInv r ((downConv r z).step mux i) := by
  unfold downInv at *
  simp only [downConv, Elem.step]
  split
  · split
    · exact hr
    · rename_i h1 h2
      simp at h2
      omega
  · exact h

/-- Combinational data path: stable because the stalled producer holds the wide word and `mux` only moves on a
    source handshake. -/
theorem downConv_stepStable (r : Nat) (z : α) : StepStable (downConv (π := π) r z) (fun _ => True) where
  inv_step _ _ _ := trivial
  hold mux i i' _ hin := by
    obtain ⟨iv, it, ir⟩ := i
    obtain ⟨jv, jt, jr⟩ := i'
    intro hv hr
    simp only [downConv, Elem.out, Elem.step, HoldsIn] at *
    subst hr; subst hv
    obtain ⟨h1, h2⟩ := hin rfl (by simp)
    subst h1; subst h2
    simp

theorem downConv_live (r : Nat) (hr : 0 < r) (z : α) : Live (downConv (π := π) r z) (downInv r) (fun _ => 0) 0 where
  inv_step := downConv_inv_step r hr z
  bound _ _ := Nat.le_refl _
  off _ _ _ _ := Or.inl rfl
  mono _ _ _ := Or.inr (Nat.le_refl _)

theorem downConv_good (r : Nat) (hr : 0 < r) (z : α) : Good (downConv (π := π) r z) (downInv r) (fun _ => 0) 0 :=
  ⟨(downConv_stepStable r z).strengthen (downConv_inv_step r hr z), downConv_live r hr z⟩

theorem downConv_front (r : Nat) (hr : 0 < r) (z : α) :
    Front (downConv (π := π) r z) (downInv r) (fun _ => true) where
  inv_step := downConv_inv_step r hr z
  offers _ _ _ _ := rfl
  heats _ _ _ _ := rfl

/-- The sink is served when the last lane leaves: once every `r` cooperative cycles. -/
theorem downConv_accMeasure (r : Nat) (hr : 0 < r) (z : α) :
    AccMeasure (downConv (π := π) r z) (downInv r) (fun mux => r - 1 - mux) (r - 1) where
  inv_step := downConv_inv_step r hr z
  bound _ _ := Nat.sub_le _ _
  dec mux i h hc := by
    unfold downInv at h
    by_cases hl : mux + 1 = r
    · exact Or.inl (accNow_pos hc.1 (show (mux + 1 == r && i.ready) = true by simp [hl, hc.2]))
    · right
      show r - 1 - (if (i.valid && i.ready) = true then (if (mux + 1 == r) = true then 0 else mux + 1) else mux) < r - 1 - mux
      rw [if_pos (by simp [hc.1, hc.2]), if_neg (by simpa using hl)]
      omega

theorem downConvV_live (r : Nat) (hr : 0 < r) (z : α) : Live (downConvV (π := π) r z) (downInv r) (fun _ => 0) 0 where
  inv_step := downConv_inv_step r hr z
  bound _ _ := Nat.le_refl _
  off _ _ _ _ := Or.inl rfl
  mono _ _ _ := Or.inr (Nat.le_refl _)

/-- The count flag is a function of `mux`, which is frozen while a sub-word waits. -/
theorem downConvV_stepStable (r : Nat) (z : α) : StepStable (downConvV (π := π) r z) (fun _ => True) where
  inv_step _ _ _ := trivial
  hold mux i i' _ hin := by
    obtain ⟨iv, it, ir⟩ := i
    obtain ⟨jv, jt, jr⟩ := i'
    intro hv hr
    simp only [downConvV, downConv, Elem.out, Elem.step, HoldsIn] at *
    subst hr; subst hv
    obtain ⟨h1, h2⟩ := hin rfl (by simp)
    subst h1; subst h2
    simp

theorem downConvV_good (r : Nat) (hr : 0 < r) (z : α) :
    Good (downConvV (π := π) r z) (downInv r) (fun _ => 0) 0 :=
  ⟨(downConvV_stepStable r z).strengthen (downConv_inv_step r hr z), downConvV_live r hr z⟩

theorem mapElem_stepStable {β : Type} (f : α → β) : StepStable (mapElem f) (fun _ => True) where
  inv_step _ _ _ := trivial
  hold s i i' _ hin := by
    intro hv hr
    obtain ⟨h1, h2⟩ := hin hv hr
    exact ⟨h1, by show mapTok f i'.tok = mapTok f i.tok; rw [h2]⟩

theorem mapElem_live {β : Type} (f : α → β) : Live (mapElem f) (fun _ => True) (fun _ => 0) 0 where
  inv_step _ _ _ := trivial
  bound _ _ := Nat.le_refl _
  off _ _ _ _ := Or.inl rfl
  mono _ _ _ := Or.inr (Nat.le_refl _)

theorem mapElem_good {β : Type} (f : α → β) : Good (mapElem f) (fun _ => True) (fun _ => 0) 0 :=
  ⟨mapElem_stepStable f, mapElem_live f⟩

theorem mapElem_front {β : Type} (f : α → β) : Front (mapElem f) (fun _ => True) (fun _ => true) where
  inv_step _ _ _ := trivial
  offers _ _ _ _ := rfl
  heats _ _ _ _ := rfl

theorem mapElem_readyTransparent {β : Type} (f : α → β) : ReadyTransparent (mapElem f) (fun _ => True) :=
  fun _ _ _ _ => rfl

end Litex.Stream
