import LitexModel.Stream.Core
import LitexProofs.Machine
/-
  C04 — generic lifting for the valid/ready contract and for progress (`a ⟫ b` in the comments of these files is
  `a.comp b`, `Endpoint.connect`).  Stability: a one-cycle lemma (`StepStable`) lifts to every input list and composes
  through `a ⟫ b`.  Progress: `Measure` — an invariant and a bounded measure that drops in every cycle without the event
  that `tally` counts — gives `n` events in `n · (B + 1)` cycles (`Measure.tally_ge`); stated for a cooperation assumption
  that may look at the state (`RunC`), one on the inputs alone being the special case `runC_const` (`…WithinC`).
-/
namespace Litex.Stream
namespace Elem
variable {α β γ σ τ : Type}

/-- Producer contract along `i :: ins` when the element is in state `s` at cycle `i`: at every cycle
    boundary, a token that was offered and not accepted is offered again unchanged.  (C03 states the same contract as
    `Elem.Held e s none ins`, `Sim.lean`, carrying the pending obligation along.) -/
def StableInFrom (e : Elem α β σ) : σ → In α → List (In α) → Prop
  | _, _, [] => True
  | s, i, i' :: is => HoldsIn i i' (e.out s i).ready ∧ StableInFrom e (e.step s i) i' is

def StableIn (e : Elem α β σ) (s : σ) : List (In α) → Prop
  | [] => True
  | i :: is => StableInFrom e s i is

/-- Source contract along `i :: ins`: whenever `source.valid ∧ ¬source.ready`, the next cycle shows
    `source.valid` and the same token (payload, param, first, last). -/
def StableOutFrom (e : Elem α β σ) : σ → In α → List (In α) → Prop
  | _, _, [] => True
  | s, i, i' :: is =>
    HoldsOut (e.out s i) (e.out (e.step s i) i') i ∧ StableOutFrom e (e.step s i) i' is

def StableOut (e : Elem α β σ) (s : σ) : List (In α) → Prop
  | [] => True
  | i :: is => StableOutFrom e s i is

structure StepStable (e : Elem α β σ) (Inv : σ → Prop) : Prop where
  inv_step : ∀ s i, Inv s → Inv (e.step s i)
  hold : ∀ s i i', Inv s → HoldsIn i i' (e.out s i).ready →
    HoldsOut (e.out s i) (e.out (e.step s i) i') i

theorem stableFrom_of_step {e : Elem α β σ} {Inv : σ → Prop} (h : StepStable e Inv) :
    ∀ (ins : List (In α)) (s : σ) (i : In α), Inv s → StableInFrom e s i ins → StableOutFrom e s i ins := by
  intro ins
  induction ins with
  | nil => intro s i _ _; trivial
  | cons i' is ih =>
    intro s i hs hin
    exact ⟨h.hold s i i' hs hin.1, ih (e.step s i) i' (h.inv_step s i hs) hin.2⟩

theorem stable_of_step {e : Elem α β σ} {Inv : σ → Prop} (h : StepStable e Inv)
    (s : σ) (hs : Inv s) (ins : List (In α)) (hin : StableIn e s ins) : StableOut e s ins := by
  cases ins with
  | nil => trivial
  | cons i is => exact stableFrom_of_step h is s i hs hin

theorem StepStable.congr {e : Elem α β σ} {Inv Inv' : σ → Prop} (h : StepStable e Inv)
    (hiff : ∀ s, Inv' s ↔ Inv s) : StepStable e Inv' where
  inv_step s i hs := (hiff _).2 (h.inv_step s i ((hiff s).1 hs))
  hold s i i' hs hin := h.hold s i i' ((hiff s).1 hs) hin

theorem StepStable.strengthen {e : Elem α β σ} {Inv : σ → Prop} (h : StepStable e (fun _ => True))
    (hstep : ∀ s i, Inv s → Inv (e.step s i)) : StepStable e Inv where
  inv_step := hstep
  hold s i i' _ hin := h.hold s i i' trivial hin

def outs (e : Elem α β σ) (s : σ) (ins : List (In α)) : List (Out β) := e.toMachine.traceFrom s ins

@[simp] theorem outs_nil (e : Elem α β σ) (s : σ) : e.outs s [] = [] := rfl
@[simp] theorem outs_cons (e : Elem α β σ) (s : σ) (i : In α) (is : List (In α)) :
    e.outs s (i :: is) = e.out s i :: e.outs (e.step s i) is := rfl

theorem stableOutFrom_index (e : Elem α β σ) :
    ∀ (is : List (In α)) (s : σ) (i : In α), StableOutFrom e s i is →
      ∀ (t : Nat) (o o' : Out β) (x : In α),
        (e.outs s (i :: is))[t]? = some o → (e.outs s (i :: is))[t + 1]? = some o' →
        (i :: is)[t]? = some x → HoldsOut o o' x := by
  intro is
  induction is with
  | nil =>
    intro s i _ t o o' x _ h2 _
    simp at h2
  | cons i' is ih =>
    intro s i h t o o' x h1 h2 h3
    cases t with
    | zero =>
      simp at h1 h2 h3
      subst h1; subst h2; subst h3
      exact h.1
    | succ t =>
      simp only [outs_cons, List.getElem?_cons_succ] at h1 h2 h3
      exact ih (e.step s i) i' h.2 t o o' x (by simpa using h1) (by simpa using h2) h3

theorem stableInFrom_of_index (e : Elem α β σ) :
    ∀ (is : List (In α)) (s : σ) (i : In α),
      (∀ (t : Nat) (x x' : In α) (o : Out β),
        (i :: is)[t]? = some x → (i :: is)[t + 1]? = some x' → (e.outs s (i :: is))[t]? = some o →
        HoldsIn x x' o.ready) → StableInFrom e s i is := by
  intro is
  induction is with
  | nil => intro s i _; trivial
  | cons i' is ih =>
    intro s i h
    refine ⟨h 0 i i' (e.out s i) rfl rfl rfl, ih (e.step s i) i' ?_⟩
    intro t x x' o h1 h2 h3
    exact h (t + 1) x x' o (by simpa using h1) (by simpa using h2) (by simpa using h3)

theorem comp_inv_step {a : Elem α β σ} {b : Elem β γ τ} {Ia : σ → Prop} {Ib : τ → Prop}
    (ha : ∀ s i, Ia s → Ia (a.step s i)) (hb : ∀ s i, Ib s → Ib (b.step s i)) (s : σ × τ) (i : In α)
    (h : Ia s.1 ∧ Ib s.2) : Ia ((a.comp b).step s i).1 ∧ Ib ((a.comp b).step s i).2 :=
  ⟨ha s.1 (compInA a b s i) h.1, hb s.2 (compInB a b s i) h.2⟩

/-- `a.source` feeds `b.sink`: `a`'s source contract is `b`'s producer contract by `rfl` (`h2` below) — this is why
    `HoldsIn` takes `sink.ready` as an argument of its own while `HoldsOut` takes the whole input. -/
theorem StepStable.comp {a : Elem α β σ} {b : Elem β γ τ} {Ia : σ → Prop} {Ib : τ → Prop}
    (ha : StepStable a Ia) (hb : StepStable b Ib) :
    StepStable (a.comp b) (fun s => Ia s.1 ∧ Ib s.2) where
  inv_step := comp_inv_step ha.inv_step hb.inv_step
  hold s i i' h hin := by
    have h1 : HoldsOut (a.out s.1 (compInA a b s i))
        (a.out (a.step s.1 (compInA a b s i)) (compInA a b ((a.comp b).step s i) i')) (compInA a b s i) :=
      ha.hold s.1 (compInA a b s i) (compInA a b ((a.comp b).step s i) i') h.1 hin
    have h2 : HoldsIn (compInB a b s i) (compInB a b ((a.comp b).step s i) i')
        (b.out s.2 (compInB a b s i)).ready := h1
    exact hb.hold s.2 (compInB a b s i) (compInB a b ((a.comp b).step s i) i') h.2 h2

def Coop (i : In α) : Prop := i.valid = true ∧ i.ready = true

def hsCount (e : Elem α β σ) (s : σ) (ins : List (In α)) : Nat :=
  (e.accepted s ins).length + (e.delivered s ins).length

theorem accepted_append (e : Elem α β σ) (s : σ) (a b : List (In α)) :
    e.accepted s (a ++ b) = e.accepted s a ++ e.accepted (e.runFrom s a) b :=
  e.toMachine.fold_append (F := e.accepted) (e := e.accNow) List.append_assoc List.nil_append (fun _ => rfl)
    (fun _ _ _ => rfl) a b s

theorem delivered_append (e : Elem α β σ) (s : σ) (a b : List (In α)) :
    e.delivered s (a ++ b) = e.delivered s a ++ e.delivered (e.runFrom s a) b :=
  e.toMachine.fold_append (F := e.delivered) (e := e.delNow) List.append_assoc List.nil_append (fun _ => rfl)
    (fun _ _ _ => rfl) a b s

theorem hsCount_append (e : Elem α β σ) (s : σ) (a b : List (In α)) :
    e.hsCount s (a ++ b) = e.hsCount s a + e.hsCount (e.runFrom s a) b := by
  simp [hsCount, accepted_append, delivered_append]; omega

theorem hsCount_cons (e : Elem α β σ) (s : σ) (i : In α) (is : List (In α)) :
    e.hsCount s (i :: is) = ((e.accNow s i).length + (e.delNow s i).length) + e.hsCount (e.step s i) is := by
  simp [hsCount, accepted, delivered]; omega

theorem accNow_pos_iff (e : Elem α β σ) (s : σ) (i : In α) :
    1 ≤ (e.accNow s i).length ↔ (i.valid = true ∧ (e.out s i).ready = true) := by
  unfold accNow
  cases i.valid <;> cases (e.out s i).ready <;> simp

theorem delNow_pos_iff (e : Elem α β σ) (s : σ) (i : In α) :
    1 ≤ (e.delNow s i).length ↔ ((e.out s i).valid = true ∧ i.ready = true) := by
  unfold delNow
  cases (e.out s i).valid <;> cases i.ready <;> simp

theorem accNow_pos {e : Elem α β σ} {s : σ} {i : In α} (hv : i.valid = true) (hr : (e.out s i).ready = true) :
    1 ≤ (e.accNow s i).length :=
  (accNow_pos_iff e s i).2 ⟨hv, hr⟩

theorem delNow_pos {e : Elem α β σ} {s : σ} {i : In α} (hv : (e.out s i).valid = true) (hr : i.ready = true) :
    1 ≤ (e.delNow s i).length :=
  (delNow_pos_iff e s i).2 ⟨hv, hr⟩

theorem hs_of_ready {e : Elem α β σ} {s : σ} {i : In α} (hc : Coop i) (hr : (e.out s i).ready = true) :
    1 ≤ (e.accNow s i).length + (e.delNow s i).length :=
  Nat.le_trans (accNow_pos hc.1 hr) (Nat.le_add_right _ _)

theorem hs_of_valid {e : Elem α β σ} {s : σ} {i : In α} (hc : Coop i) (hv : (e.out s i).valid = true) :
    1 ≤ (e.accNow s i).length + (e.delNow s i).length :=
  Nat.le_trans (delNow_pos hv hc.2) (Nat.le_add_left _ _)

theorem inv_runFrom (e : Elem α β σ) (Inv : σ → Prop) (hstep : ∀ s i, Inv s → Inv (e.step s i))
    (ins : List (In α)) (s : σ) (h : Inv s) : Inv (e.runFrom s ins) :=
  Machine.invariant_runFrom e.toMachine Inv hstep ins s h

theorem inv_reachable (e : Elem α β σ) (Inv : σ → Prop) (h0 : Inv e.init)
    (hstep : ∀ s i, Inv s → Inv (e.step s i)) (ins : List (In α)) : Inv (e.runFrom e.init ins) :=
  inv_runFrom e Inv hstep ins e.init h0

/-! The cooperation assumption `C : σ → In α → Prop` may look at the element's state (e.g. "the producer keeps its packets
  within the FIFO's payload depth"). -/

/-- `Machine.LegalFrom` of `e.toMachine` (`LitexModel/Machine.lean`), kept under its own name with the argument order of
    the `Elem` run functions. -/
def RunC (e : Elem α β σ) (C : σ → In α → Prop) : σ → List (In α) → Prop
  | _, [] => True
  | s, i :: is => C s i ∧ RunC e C (e.step s i) is

theorem runC_append (e : Elem α β σ) (C : σ → In α → Prop) (s : σ) (a b : List (In α)) :
    RunC e C s (a ++ b) ↔ RunC e C s a ∧ RunC e C (e.runFrom s a) b := by
  induction a generalizing s with
  | nil => simp [RunC]
  | cons i is ih => simp [RunC, ih, and_assoc]

theorem inv_runFromC (e : Elem α β σ) (Inv : σ → Prop) (C : σ → In α → Prop)
    (hstep : ∀ s i, Inv s → C s i → Inv (e.step s i)) :
    ∀ (ins : List (In α)) (s : σ), Inv s → RunC e C s ins → Inv (e.runFrom s ins) := by
  intro ins
  induction ins with
  | nil => intro s h _; exact h
  | cons i is ih => intro s h hr; exact ih _ (hstep s i h hr.1) hr.2

theorem runC_const (e : Elem α β σ) (C : In α → Prop) (ins : List (In α)) :
    ∀ s, RunC e (fun _ => C) s ins ↔ ∀ i ∈ ins, C i := by
  induction ins with
  | nil => intro s; simp [RunC]
  | cons i is ih => intro s; simp [RunC, ih]

/-- The per-cycle quantity `now` summed along the run of `ins` from `s`; `delivered`, `accepted` and `hsCount` are the
    cases `delCnt`, `accCnt`, `hsCnt`. -/
def tally (e : Elem α β σ) (now : σ → In α → Nat) : σ → List (In α) → Nat
  | _, [] => 0
  | s, i :: is => now s i + tally e now (e.step s i) is

theorem tally_append (e : Elem α β σ) (now : σ → In α → Nat) (s : σ) (a b : List (In α)) :
    e.tally now s (a ++ b) = e.tally now s a + e.tally now (e.runFrom s a) b :=
  e.toMachine.fold_append (F := e.tally now) (e := now) Nat.add_assoc Nat.zero_add (fun _ => rfl) (fun _ _ _ => rfl) a b s

abbrev delCnt (e : Elem α β σ) (s : σ) (i : In α) : Nat := (e.delNow s i).length
abbrev accCnt (e : Elem α β σ) (s : σ) (i : In α) : Nat := (e.accNow s i).length
abbrev hsCnt (e : Elem α β σ) (s : σ) (i : In α) : Nat := (e.accNow s i).length + (e.delNow s i).length

theorem delivered_length (e : Elem α β σ) (s : σ) (ins : List (In α)) :
    (e.delivered s ins).length = e.tally e.delCnt s ins := by
  induction ins generalizing s with
  | nil => rfl
  | cons i is ih => simp [delivered, tally, delCnt, ih]

theorem accepted_length (e : Elem α β σ) (s : σ) (ins : List (In α)) :
    (e.accepted s ins).length = e.tally e.accCnt s ins := by
  induction ins generalizing s with
  | nil => rfl
  | cons i is ih => simp [accepted, tally, accCnt, ih]

theorem hsCount_eq (e : Elem α β σ) (s : σ) (ins : List (In α)) : e.hsCount s ins = e.tally e.hsCnt s ins := by
  induction ins generalizing s with
  | nil => rfl
  | cons i is ih => rw [hsCount_cons, ih]; rfl

/-- Event or decrease.  `inv_step` is conditional on `C` (PacketFIFO: only within the store-and-forward limit).  The forms
    `…WithinC` start from a state reached by an *arbitrary* prefix, so `deliversC` &c. ask for the unconditional step
    besides. -/
structure Measure (e : Elem α β σ) (Inv : σ → Prop) (C : σ → In α → Prop) (now : σ → In α → Nat) (μ : σ → Nat)
    (B : Nat) : Prop where
  inv_step : ∀ s i, Inv s → C s i → Inv (e.step s i)
  bound : ∀ s, Inv s → μ s ≤ B
  dec : ∀ s i, Inv s → C s i → 1 ≤ now s i ∨ μ (e.step s i) < μ s

theorem Measure.ofNow {e : Elem α β σ} {Inv : σ → Prop} {C : σ → In α → Prop} {now : σ → In α → Nat}
    (hstep : ∀ s i, Inv s → C s i → Inv (e.step s i)) (hnow : ∀ s i, Inv s → C s i → 1 ≤ now s i) :
    Measure e Inv C now (fun _ => 0) 0 :=
  ⟨hstep, fun _ _ => Nat.le_refl 0, fun s i hs hc => Or.inl (hnow s i hs hc)⟩

theorem Measure.tally_pos {e : Elem α β σ} {Inv : σ → Prop} {C : σ → In α → Prop} {now : σ → In α → Nat} {μ : σ → Nat}
    {B : Nat} (h : Measure e Inv C now μ B) :
    ∀ (ins : List (In α)) (s : σ), Inv s → RunC e C s ins → μ s < ins.length → 1 ≤ e.tally now s ins
  | [], _, _, _, hl => absurd hl (Nat.not_lt_zero _)
  | i :: is, s, hs, hc, hl =>
    (h.dec s i hs hc.1).elim (fun h1 => Nat.le_trans h1 (Nat.le_add_right _ _))
      (fun h1 => Nat.le_trans
        (h.tally_pos is _ (h.inv_step s i hs hc.1) hc.2 (by rw [List.length_cons] at hl; omega))
        (Nat.le_add_left _ _))

theorem tally_ge_of_window (e : Elem α β σ) (Inv : σ → Prop) (C : σ → In α → Prop)
    (hstep : ∀ s i, Inv s → C s i → Inv (e.step s i)) (now : σ → In α → Nat) (K : Nat)
    (hwin : ∀ s ins, Inv s → RunC e C s ins → ins.length = K → 1 ≤ e.tally now s ins) :
    ∀ (n : Nat) (s : σ) (ins : List (In α)), Inv s → RunC e C s ins → n * K ≤ ins.length →
      n ≤ e.tally now s ins := by
  intro n
  induction n with
  | zero => intro s ins _ _ _; exact Nat.zero_le _
  | succ n ih =>
    intro s ins hs hc hlen
    rw [Nat.succ_mul] at hlen
    rw [← List.take_append_drop K ins] at hc ⊢
    rw [runC_append] at hc
    rw [tally_append]
    have h1 := hwin s (ins.take K) hs hc.1 (List.length_take_of_le (by omega))
    have h2 := ih _ (ins.drop K) (inv_runFromC e Inv C hstep _ s hs hc.1) hc.2 (by rw [List.length_drop]; omega)
    omega

theorem Measure.tally_ge {e : Elem α β σ} {Inv : σ → Prop} {C : σ → In α → Prop} {now : σ → In α → Nat}
    {μ : σ → Nat} {B : Nat} (h : Measure e Inv C now μ B) (n : Nat) (s : σ) (ins : List (In α)) (hs : Inv s)
    (hc : RunC e C s ins) (hn : n * (B + 1) ≤ ins.length) : n ≤ e.tally now s ins :=
  tally_ge_of_window e Inv C h.inv_step now (B + 1)
    (fun s ins hs hc hl => h.tally_pos ins s hs hc (by have := h.bound s hs; omega)) n s ins hs hc hn

/-- Handshake contract: from every state reachable from reset (by *any* inputs `pre`), along every
    continuation `ins` on which the producer keeps the contract, the element keeps it on its source. -/
def KeepsContract (e : Elem α β σ) : Prop :=
  ∀ pre ins : List (In α), StableIn e (e.runFrom e.init pre) ins → StableOut e (e.runFrom e.init pre) ins

/-- No deadlock (under the cooperation assumption `C` on every cycle): from every reachable state, `n * K`
    cooperative cycles contain at least `n` handshakes (sink or source): one in every window of `K` cycles. -/
def ProgressWithinC (e : Elem α β σ) (C : In α → Prop) (K : Nat) : Prop :=
  ∀ pre ins : List (In α), (∀ i ∈ ins, C i) → ∀ n, n * K ≤ ins.length →
    n ≤ e.hsCount (e.runFrom e.init pre) ins

/-- No livelock: from every reachable state, `n * K` cooperative cycles deliver at least `n` tokens at the
    source: deliveries grow without bound, at least one every `K` cycles. -/
def DeliversWithinC (e : Elem α β σ) (C : In α → Prop) (K : Nat) : Prop :=
  ∀ pre ins : List (In α), (∀ i ∈ ins, C i) → ∀ n, n * K ≤ ins.length →
    n ≤ (e.delivered (e.runFrom e.init pre) ins).length

/-- The sink is served: from every reachable state, `n * K` cooperative cycles accept at least `n` tokens. -/
def AcceptsWithinC (e : Elem α β σ) (C : In α → Prop) (K : Nat) : Prop :=
  ∀ pre ins : List (In α), (∀ i ∈ ins, C i) → ∀ n, n * K ≤ ins.length →
    n ≤ (e.accepted (e.runFrom e.init pre) ins).length

abbrev ProgressWithin (e : Elem α β σ) (K : Nat) : Prop := ProgressWithinC e Coop K
abbrev DeliversWithin (e : Elem α β σ) (K : Nat) : Prop := DeliversWithinC e Coop K
abbrev AcceptsWithin (e : Elem α β σ) (K : Nat) : Prop := AcceptsWithinC e Coop K

theorem keepsContract_of_stepStable {e : Elem α β σ} {Inv : σ → Prop} (h : StepStable e Inv)
    (h0 : Inv e.init) : KeepsContract e :=
  fun pre ins hin => stable_of_step h _ (inv_reachable e Inv h0 h.inv_step pre) ins hin

theorem DeliversWithinC.progress {e : Elem α β σ} {C : In α → Prop} {K : Nat} (h : DeliversWithinC e C K) :
    ProgressWithinC e C K :=
  fun pre ins hc n hn => Nat.le_trans (h pre ins hc n hn) (Nat.le_add_left _ _)

theorem AcceptsWithinC.progress {e : Elem α β σ} {C : In α → Prop} {K : Nat} (h : AcceptsWithinC e C K) :
    ProgressWithinC e C K :=
  fun pre ins hc n hn => Nat.le_trans (h pre ins hc n hn) (Nat.le_add_right _ _)

theorem Measure.reach_ge {e : Elem α β σ} {Inv : σ → Prop} {C : In α → Prop} {now : σ → In α → Nat}
    {μ : σ → Nat} {B : Nat} (h : Measure e Inv (fun _ => C) now μ B) (h0 : Inv e.init)
    (hstep : ∀ s i, Inv s → Inv (e.step s i))
    (pre ins : List (In α)) (hc : ∀ i ∈ ins, C i) (n : Nat) (hn : n * (B + 1) ≤ ins.length) :
    n ≤ e.tally now (e.runFrom e.init pre) ins :=
  h.tally_ge n _ ins (inv_reachable e Inv h0 hstep pre) ((runC_const e C ins _).2 hc) hn

theorem Measure.deliversC {e : Elem α β σ} {Inv : σ → Prop} {C : In α → Prop} {μ : σ → Nat} {B : Nat}
    (h : Measure e Inv (fun _ => C) e.delCnt μ B) (h0 : Inv e.init)
    (hstep : ∀ s i, Inv s → Inv (e.step s i)) : DeliversWithinC e C (B + 1) :=
  fun pre ins hc n hn => by rw [delivered_length]; exact h.reach_ge h0 hstep pre ins hc n hn

theorem Measure.acceptsC {e : Elem α β σ} {Inv : σ → Prop} {C : In α → Prop} {μ : σ → Nat} {B : Nat}
    (h : Measure e Inv (fun _ => C) e.accCnt μ B) (h0 : Inv e.init)
    (hstep : ∀ s i, Inv s → Inv (e.step s i)) : AcceptsWithinC e C (B + 1) :=
  fun pre ins hc n hn => by rw [accepted_length]; exact h.reach_ge h0 hstep pre ins hc n hn

theorem progress_of_hs_now {e : Elem α β σ} {Inv : σ → Prop} (hstep : ∀ s i, Inv s → Inv (e.step s i))
    (h0 : Inv e.init) (hnow : ∀ s i, Inv s → Coop i → 1 ≤ (e.accNow s i).length + (e.delNow s i).length) :
    ProgressWithin e 1 :=
  fun pre ins hc n hn => by
    rw [hsCount_eq]
    exact (Measure.ofNow (fun s i h _ => hstep s i h) hnow).reach_ge h0 hstep pre ins hc n hn

/-! Progress from reset under ONE state-dependent cooperation assumption on the whole run `pre ++ ins`.  (The PacketFIFO
  statements of C04 carry two, the limit on `pre` and cooperation on `ins`, and are stated with `RunC` directly.) -/

/-- Deliveries under a state-dependent cooperation assumption: from every state reached from reset by a run
    satisfying `C`, `n * K` further cycles satisfying `C` deliver at least `n` tokens. -/
def DeliversWithinS (e : Elem α β σ) (C : σ → In α → Prop) (K : Nat) : Prop :=
  ∀ pre ins : List (In α), RunC e C e.init (pre ++ ins) → ∀ n, n * K ≤ ins.length →
    n ≤ (e.delivered (e.runFrom e.init pre) ins).length

def ProgressWithinS (e : Elem α β σ) (C : σ → In α → Prop) (K : Nat) : Prop :=
  ∀ pre ins : List (In α), RunC e C e.init (pre ++ ins) → ∀ n, n * K ≤ ins.length →
    n ≤ e.hsCount (e.runFrom e.init pre) ins

theorem deliversWithinS_of_measure (e : Elem α β σ) (Inv : σ → Prop) (C : σ → In α → Prop) (h0 : Inv e.init)
    (hstep : ∀ s i, Inv s → C s i → Inv (e.step s i)) (μ : σ → Nat) (B : Nat) (hB : ∀ s, Inv s → μ s ≤ B)
    (hdec : ∀ s i, Inv s → C s i → 1 ≤ (e.delNow s i).length ∨ μ (e.step s i) < μ s) :
    DeliversWithinS e C (B + 1) := by
  intro pre ins hrun n hn
  rw [runC_append] at hrun
  rw [delivered_length]
  exact (Measure.mk hstep hB hdec).tally_ge n _ ins (inv_runFromC e Inv C hstep pre e.init h0 hrun.1) hrun.2 hn

theorem progressWithinS_of_step (e : Elem α β σ) (Inv : σ → Prop) (C : σ → In α → Prop) (h0 : Inv e.init)
    (hstep : ∀ s i, Inv s → C s i → Inv (e.step s i))
    (hhs : ∀ s i, Inv s → C s i → 1 ≤ (e.accNow s i).length + (e.delNow s i).length) :
    ProgressWithinS e C 1 := by
  intro pre ins hrun n hn
  rw [runC_append] at hrun
  rw [hsCount_eq]
  exact (Measure.ofNow hstep hhs).tally_ge n _ ins (inv_runFromC e Inv C hstep pre e.init h0 hrun.1) hrun.2 hn

/-! `Shifter` reads its `shift` input combinationally on the output side, `Gate`/`Multiplexer`/`Demultiplexer` route
  by `enable`/`sel`: these elements are *designed* to change their source when that control input changes.  Their
  contract theorem carries the assumption `X s i i'` on each cycle boundary (typically: "the control input is
  held while a token waits at the source"). -/

def StableInFromX (e : Elem α β σ) (X : σ → In α → In α → Prop) : σ → In α → List (In α) → Prop
  | _, _, [] => True
  | s, i, i' :: is => HoldsIn i i' (e.out s i).ready ∧ X s i i' ∧ StableInFromX e X (e.step s i) i' is

def StableInX (e : Elem α β σ) (X : σ → In α → In α → Prop) (s : σ) : List (In α) → Prop
  | [] => True
  | i :: is => StableInFromX e X s i is

structure StepStableX (e : Elem α β σ) (Inv : σ → Prop) (X : σ → In α → In α → Prop) : Prop where
  inv_step : ∀ s i, Inv s → Inv (e.step s i)
  hold : ∀ s i i', Inv s → HoldsIn i i' (e.out s i).ready → X s i i' →
    HoldsOut (e.out s i) (e.out (e.step s i) i') i

theorem stableFromX_of_step {e : Elem α β σ} {Inv : σ → Prop} {X : σ → In α → In α → Prop}
    (h : StepStableX e Inv X) :
    ∀ (ins : List (In α)) (s : σ) (i : In α), Inv s → StableInFromX e X s i ins → StableOutFrom e s i ins := by
  intro ins
  induction ins with
  | nil => intro s i _ _; trivial
  | cons i' is ih =>
    intro s i hs hin
    exact ⟨h.hold s i i' hs hin.1 hin.2.1, ih (e.step s i) i' (h.inv_step s i hs) hin.2.2⟩

theorem stableX_of_step {e : Elem α β σ} {Inv : σ → Prop} {X : σ → In α → In α → Prop}
    (h : StepStableX e Inv X) (s : σ) (hs : Inv s) (ins : List (In α)) (hin : StableInX e X s ins) :
    StableOut e s ins := by
  cases ins with
  | nil => trivial
  | cons i is => exact stableFromX_of_step h is s i hs hin

def KeepsContractX (e : Elem α β σ) (X : σ → In α → In α → Prop) : Prop :=
  ∀ pre ins : List (In α), StableInX e X (e.runFrom e.init pre) ins → StableOut e (e.runFrom e.init pre) ins

theorem keepsContractX_of_stepStable {e : Elem α β σ} {Inv : σ → Prop} {X : σ → In α → In α → Prop}
    (h : StepStableX e Inv X) (h0 : Inv e.init) : KeepsContractX e X :=
  fun pre ins hin => stableX_of_step h _ (inv_reachable e Inv h0 h.inv_step pre) ins hin

end Elem
end Litex.Stream
