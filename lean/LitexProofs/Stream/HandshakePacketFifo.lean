import LitexProofs.Stream.Handshake
import LitexProofs.Stream.HandshakeComp
import LitexProofs.Packet.FifoAll
import LitexProofs.Lists
/-
  C04 progress for `packet.PacketFIFO`, once for both Migen FIFO kinds: `packetFifoK k k` over the queue interface of
  `Packet/FifoQueue.lean` (`stored`, `popped`, `stored_next`), `k` the fwft FIFO or `SyncFIFOBuffered`.  What differs
  between the two is the `lag`: an entry written into an empty `SyncFIFOBuffered` is readable one edge later.  The models
  `packetFifo` / `packetFifoBuffered` are instances through the state maps of `Packet/FifoAll.lean` (`SimUnder`).
  Documented limit of the store-and-forward FIFO: a packet longer than `payload_depth` never completes.  It is the explicit
  hypothesis `PfLegal`: the producer does not offer a non-last beat that would leave no room for the packet's last beat
  (`tailLen` = beats of the still open packet; they are all in the payload queue).
-/
namespace Litex.Packet
open Litex.Stream Litex.Stream.Elem

/-- Beats of the open (not yet terminated) packet at the back of the payload FIFO. -/
def tailLen (l : List (Nat × Bool)) : Nat := l.foldl (fun acc x => if x.2 then 0 else acc + 1) 0

/-- Complete packets (beats carrying `last`) in the payload FIFO. -/
def nLast (l : List (Nat × Bool)) : Nat := (l.filter (·.2)).length

theorem tailLen_append (l : List (Nat × Bool)) (x : Nat × Bool) :
    tailLen (l ++ [x]) = if x.2 then 0 else tailLen l + 1 := by
  simp [tailLen, List.foldl_append]

theorem nLast_append (l : List (Nat × Bool)) (x : Nat × Bool) :
    nLast (l ++ [x]) = nLast l + (if x.2 then 1 else 0) := by
  unfold nLast
  cases h : x.2 <;> simp [List.filter_append, h]

theorem nLast_zero_len (l : List (Nat × Bool)) : nLast l = 0 → tailLen l = l.length := by
  induction l using snoc_induction with
  | nil => intro _; rfl
  | snoc l x ih =>
    rw [nLast_append, tailLen_append, List.length_append]
    cases hx : x.2 with
    | true => simp
    | false => intro h; simp [ih (by simpa using h)]

theorem nLast_pos_of_tail_lt (l : List (Nat × Bool)) (h : tailLen l < l.length) : 0 < nLast l :=
  Nat.pos_of_ne_zero fun h0 => by rw [nLast_zero_len l h0] at h; omega

theorem tailLen_tail (x : Nat × Bool) (xs : List (Nat × Bool)) : 0 < nLast (x :: xs) → tailLen xs = tailLen (x :: xs) := by
  induction xs using snoc_induction with
  | nil => cases hx : x.2 <;> simp [nLast, tailLen, hx]
  | snoc xs y ih =>
    rw [← List.cons_append, nLast_append, tailLen_append, tailLen_append]
    cases hy : y.2 with
    | true => simp
    | false => intro h; simp [ih (by simpa using h)]

/-- The documented limit as a hypothesis on what the producer offers: a non-last beat is only offered while the
    open packet, with this beat, still leaves room for one more (its last) beat: packets ≤ `payload_depth`. -/
def PfLegal (pd : Nat) (s : PFState) (i : In PBeat) : Prop :=
  i.valid = true → i.tok.last = false → tailLen s.pay + 2 ≤ pd

def PfCoop (pd : Nat) (s : PFState) (i : In PBeat) : Prop := Coop i ∧ PfLegal pd s i

theorem pfaRel_len {kp kq : QKind} {s : PFAState} {a d : List (Tok PBeat)} (h : pfaRel kp kq s a d) :
    (s.par.stored kq).length = nLast (s.pay.stored kp) := by
  obtain ⟨a2, h1, h2, _, _⟩ := h
  rw [h1, h2]
  exact paramsOf_length a2

theorem kindsOk_self {k : QKind} (hk : QSt.IsFifo k) : kindsOk k k := by
  rcases hk with rfl | rfl
  · exact Or.inl (by decide)
  · exact Or.inr (Or.inl rfl)

theorem pfaRel_readable {k : QKind} (hk : QSt.IsFifo k) {s : PFAState} {a d : List (Tok PBeat)} (h : pfaRel k k s a d)
    (hq : s.par.readable k = true) : s.pay.readable k = true :=
  let ⟨_, _, _, hsv, _⟩ := h
  hsv (kindsOk_self hk) hq

/-- Reading the head of a stored list that holds a complete packet leaves the open packet alone; writing a beat
    that respects the store-and-forward limit keeps room for the last beat. -/
theorem tailLen_cycle (P : List (Nat × Bool)) (pop acc : Bool) (x : Nat × Bool) (pd : Nat)
    (hpos : pop = true → 0 < nLast P) (h3 : tailLen P + 1 ≤ pd)
    (hl : acc = true → x.2 = false → tailLen P + 2 ≤ pd) :
    tailLen (if pop = true then P.tail else P) = tailLen P ∧
    tailLen ((if pop = true then P.tail else P) ++ if acc = true then [x] else []) + 1 ≤ pd := by
  have h1 : tailLen (if pop = true then P.tail else P) = tailLen P := by
    cases pop with
    | false => rfl
    | true =>
      cases P with
      | nil => exact absurd (hpos rfl) (by simp [nLast])
      | cons y ys => exact tailLen_tail y ys (hpos rfl)
  refine ⟨h1, ?_⟩
  cases acc with
  | false => simpa [h1] using h3
  | true =>
    rw [if_pos rfl, tailLen_append, h1]
    cases hx : x.2 with
    | true => simp; omega
    | false => have := hl rfl hx; simp; omega

/-- The history relation (for some history), room for the last beat of the open packet, and the timing facts of a
    buffered queue: an unreadable queue holds at most the entry just written, and a param that is not readable yet
    belongs to a packet that fits the payload queue. -/
def pfkInv (k : QKind) (pd : Nat) (s : PFAState) : Prop :=
  pfaInv k k s ∧ tailLen (s.pay.stored k) + 1 ≤ pd ∧ s.pay.Fresh k ∧ s.par.Fresh k ∧
  (s.par.readable k = false → s.par.stored k ≠ [] → (s.pay.stored k).length ≤ pd)

theorem pfkInv.hist {k : QKind} {pd : Nat} {s : PFAState} (h : pfkInv k pd s) : pfaInv k k s := h.1

/-- The store-and-forward limit on what the producer offers, in terms of what the payload queue holds: `PfLegal pd s` is
    `PfkLegal .fifo pd (pfaOfPlain s)` and `PfbLegal pd s` is `PfkLegal .bfifo pd (pfaOfBuffered s)`, by definition. -/
def PfkLegal (k : QKind) (pd : Nat) (s : PFAState) (i : In PBeat) : Prop :=
  i.valid = true → i.tok.last = false → tailLen (s.pay.stored k) + 2 ≤ pd

theorem pfkInv_init (k : QKind) (pd qd : Nat) (hpd : 1 ≤ pd) : pfkInv k pd (packetFifoK k k pd qd).init := by
  have hP : (packetFifoK k k pd qd).init.pay.stored k = [] := by cases k <;> rfl
  have hQ : (packetFifoK k k pd qd).init.par.stored k = [] := by cases k <;> rfl
  exact ⟨⟨[], [], pfaRel_init k k pd qd⟩, by rw [hP]; exact hpd, fun _ => by rw [hP]; exact Nat.zero_le _,
    fun _ => by rw [hQ]; exact Nat.zero_le _, fun _ hne => absurd hQ hne⟩

theorem packetFifoK_inv_step {k : QKind} (hk : QSt.IsFifo k) (pd qd : Nat) (s : PFAState) (i : In PBeat)
    (h : pfkInv k pd s) (hl : PfkLegal k pd s i) : pfkInv k pd ((packetFifoK k k pd qd).step s i) := by
  obtain ⟨⟨a, d, hrel⟩, h3, _, _, _⟩ := h
  have hrel' := packetFifoK_step k k pd qd s a d i hrel
  have hlen := pfaRel_len hrel
  have hlen' := pfaRel_len hrel'
  -- the head is read only when a param, hence a complete packet, is stored
  have hpos : (pfaSv k k s && i.ready) = true → 0 < nLast (s.pay.stored k) := by
    intro hp
    have hr : s.par.readable k = true := by
      unfold pfaSv at hp; simp only [Bool.and_eq_true] at hp; exact hp.1.1
    rw [← hlen]
    exact List.length_pos_iff.mpr (QSt.stored_ne_nil_of_readable k s.par hr)
  obtain ⟨ht1, ht2⟩ := tailLen_cycle (s.pay.stored k) (pfaSv k k s && i.ready) (pfaAcc k k pd qd s i) (payOf i.tok) pd
    hpos h3 (fun ha hx => hl (pfaAcc_valid ha) hx)
  have hP := pfa_stored_pay k k pd qd s i
  have hQ := pfa_stored_par k k pd qd s i
  refine ⟨⟨_, _, hrel'⟩, by rw [hP]; exact ht2, ?_, ?_, fun hnr hne => ?_⟩
  · rw [pfa_step_pay]; exact QSt.fresh_next hk _ _ _ _ _
  · rw [pfa_step_par]; exact QSt.fresh_next hk _ _ _ _ _
  · -- the unreadable param was written by this edge into an empty queue: its packet is all that is stored
    rw [pfa_step_par] at hnr
    rw [← pfa_popped_par, QSt.popped_nil_of_next hk qd s.par _ _ _ hnr, List.nil_append] at hQ
    rw [hQ] at hne hlen'
    have hal : (pfaAcc k k pd qd s i && i.tok.last) = true := by
      by_cases hc : (pfaAcc k k pd qd s i && i.tok.last) = true
      · exact hc
      · rw [if_neg hc] at hne; exact absurd rfl hne
    have hacc : pfaAcc k k pd qd s i = true := (Bool.and_eq_true_iff.mp hal).1
    have hpl : (payOf i.tok).2 = true := (Bool.and_eq_true_iff.mp hal).2
    rw [hP] at hlen' ⊢
    rw [if_pos hacc] at hlen' ht2 ⊢
    rw [if_pos hal, nLast_append, hpl] at hlen'
    have hn0 : nLast (if (pfaSv k k s && i.ready) = true then (s.pay.stored k).tail else s.pay.stored k) = 0 := by
      simpa using hlen'.symm
    have := nLast_zero_len _ hn0
    rw [List.length_append, List.length_singleton]
    omega

/-- A queue that is not writable is full, so it holds a complete packet, whose param is readable. -/
theorem packetFifoK_hs_step {k : QKind} (hk : QSt.IsFifo k) (pd qd : Nat) (hpd : QSt.lag k < pd)
    (hqd : QSt.lag k < qd) (s : PFAState) (i : In PBeat) (h : pfkInv k pd s) (hc : Coop i) :
    1 ≤ ((packetFifoK k k pd qd).accNow s i).length + ((packetFifoK k k pd qd).delNow s i).length := by
  obtain ⟨⟨a, d, hrel⟩, h3, hfp, hfq, h7⟩ := h
  have hlen := pfaRel_len hrel
  by_cases hrd : (pfaWp k k pd s i.ready && pfaWq k k qd s i.ready) = true
  · exact hs_of_ready (e := packetFifoK k k pd qd) hc hrd
  · refine hs_of_valid (e := packetFifoK k k pd qd) hc ?_
    show pfaSv k k s = true
    have hq : s.par.readable k = true := by
      cases hwp : pfaWp k k pd s i.ready with
      | false =>
        obtain ⟨_, hfull⟩ := QSt.full_readable hk hpd s.pay _ hfp hwp
        have hpos : 0 < nLast (s.pay.stored k) := nLast_pos_of_tail_lt _ (by omega)
        cases hr : s.par.readable k with
        | true => rfl
        | false =>
          have h1 := hfq hr
          have h2 := h7 hr (List.ne_nil_of_length_pos (by omega))
          omega
      | true =>
        have hwq : pfaWq k k qd s i.ready = false := by simpa [hwp] using hrd
        exact (QSt.full_readable hk hqd s.par _ hfq hwq).1
    have hp := pfaRel_readable hk hrel hq
    unfold pfaSv; rw [hq, hp]; rfl

/-- Cycles until the param of a complete packet is readable. -/
def pfkMu (k : QKind) (pd : Nat) (s : PFAState) : Nat :=
  if s.par.readable k then 0
  else (if (s.par.stored k).isEmpty then pd - tailLen (s.pay.stored k) else 0) + QSt.lag k

theorem pfkMu_le (k : QKind) (pd : Nat) (s : PFAState) : pfkMu k pd s ≤ pd + QSt.lag k := by
  unfold pfkMu; split <;> (try split) <;> omega

theorem packetFifoK_del_dec {k : QKind} (hk : QSt.IsFifo k) (pd qd : Nat) (hqd : 1 ≤ qd) (s : PFAState)
    (i : In PBeat) (h : pfkInv k pd s) (hc : Coop i) (hl : PfkLegal k pd s i) :
    1 ≤ ((packetFifoK k k pd qd).delNow s i).length ∨
      pfkMu k pd ((packetFifoK k k pd qd).step s i) < pfkMu k pd s := by
  obtain ⟨⟨a, d, hrel⟩, h3, _, hfq, _⟩ := h
  have hlen := pfaRel_len hrel
  cases hq : s.par.readable k with
  | true =>
    have hp := pfaRel_readable hk hrel hq
    exact Or.inl (delNow_pos (e := packetFifoK k k pd qd) (show pfaSv k k s = true by unfold pfaSv; rw [hq, hp]; rfl) hc.2)
  | false =>
    right
    have hsv : pfaSv k k s = false := by unfold pfaSv; rw [hq]; rfl
    by_cases hne : s.par.stored k = []
    · -- nothing complete is stored: everything is the open packet, there is room, the beat is accepted
      have hn0 : nLast (s.pay.stored k) = 0 := by rw [← hlen, hne]; rfl
      have htl := nLast_zero_len _ hn0
      have hacc : pfaAcc k k pd qd s i = true := by
        unfold pfaAcc
        rw [hc.1, show pfaWp k k pd s i.ready = true from QSt.writable_of_lt hk pd s.pay _ (by omega),
          show pfaWq k k qd s i.ready = true from QSt.writable_of_lt hk qd s.par _ (by rw [hne]; exact hqd)]
        rfl
      have hP := pfa_stored_pay k k pd qd s i
      have hQ := pfa_stored_par k k pd qd s i
      rw [hsv, hacc] at hP hQ
      rw [hne] at hQ
      simp only [Bool.false_and, Bool.false_eq_true, if_false, if_true, Bool.true_and, List.nil_append] at hP hQ
      unfold pfkMu
      rw [hq, hne, hP, hQ, tailLen_append]
      simp only [Bool.false_eq_true, if_false, List.isEmpty_nil, if_true]
      cases hlast : i.tok.last with
      | true =>
        -- the packet is complete: its param is readable at once (fwft) or waits one edge in the inner FIFO
        simp only [payOf, hlast, if_true]
        split <;> simp <;> omega
      | false =>
        have := hl hc.1 hlast
        have hnr : ((packetFifoK k k pd qd).step s i).par.readable k = false := by
          cases hr : ((packetFifoK k k pd qd).step s i).par.readable k with
          | false => rfl
          | true =>
            have := QSt.stored_ne_nil_of_readable k _ hr
            rw [hQ, hlast] at this; simp at this
        rw [hnr]
        simp only [payOf, hlast, Bool.false_eq_true, if_false, List.isEmpty_nil, if_true]
        omega
    · -- the param sits in the inner FIFO: this edge moves it into the output register
      have hr' : ((packetFifoK k k pd qd).step s i).par.readable k = true := by
        rw [pfa_step_par]; exact QSt.readable_next_of_stored hk qd s.par _ _ _ hq hne
      have hlag : 0 < QSt.lag k := by
        rcases hk with rfl | rfl
        · rw [QSt.readable_prompt _ (by decide)] at hq; exact absurd (by simpa using hq) hne
        · exact Nat.zero_lt_one
      unfold pfkMu
      rw [hr', hq]
      simp only [if_true, Bool.false_eq_true, if_false]
      omega

theorem packetFifoK_hsMeasure {k : QKind} (hk : QSt.IsFifo k) (pd qd : Nat) (hpd : QSt.lag k < pd) (hqd : QSt.lag k < qd) :
    Measure (packetFifoK k k pd qd) (pfkInv k pd) (fun s i => Coop i ∧ PfkLegal k pd s i)
      (packetFifoK k k pd qd).hsCnt (fun _ => 0) 0 :=
  Measure.ofNow (fun s i hs hc => packetFifoK_inv_step hk pd qd s i hs hc.2)
    (fun s i hs hc => packetFifoK_hs_step hk pd qd hpd hqd s i hs hc.1)

theorem packetFifoK_delMeasure {k : QKind} (hk : QSt.IsFifo k) (pd qd : Nat) (hqd : 1 ≤ qd) :
    Measure (packetFifoK k k pd qd) (pfkInv k pd) (fun s i => Coop i ∧ PfkLegal k pd s i)
      (packetFifoK k k pd qd).delCnt (pfkMu k pd) (pd + QSt.lag k) :=
  ⟨fun s i hs hc => packetFifoK_inv_step hk pd qd s i hs hc.2, fun s _ => pfkMu_le k pd s,
    fun s i hs hc => packetFifoK_del_dec hk pd qd hqd s i hs hc.1 hc.2⟩

/-- The models `packetFifo` / `packetFifoBuffered` are `packetFifoK k k` read through a state map wherever the history
    relation holds (`SimUnder`); the two measures carry over by `SimUnder.measure`, the reached states by this. -/
theorem pfk_reach {σ : Type} {e : Elem PBeat PBeat σ} {k : QKind} {pd qd : Nat} {f : σ → PFAState}
    (h : SimUnder e (packetFifoK k k pd qd) f (pfaInv k k)) (hinit : f e.init = (packetFifoK k k pd qd).init)
    (hk : QSt.IsFifo k) (hpd : 1 ≤ pd) (pre : List (In PBeat))
    (hpre : RunC e (fun s i => PfkLegal k pd (f s) i) e.init pre) : pfkInv k pd (f (e.runFrom e.init pre)) :=
  inv_runFromC e (fun s => pfkInv k pd (f s)) _
    (fun s i hs hl => h.step s i hs.hist ▸ packetFifoK_inv_step hk pd qd _ i hs hl) pre _
    (by rw [hinit]; exact pfkInv_init k pd qd hpd) hpre

def PfbLegal (pd : Nat) (s : PFBState) (i : In PBeat) : Prop :=
  i.valid = true → i.tok.last = false → tailLen (storedPay s) + 2 ≤ pd

def PfbCoop (pd : Nat) (s : PFBState) (i : In PBeat) : Prop := Coop i ∧ PfbLegal pd s i

end Litex.Packet
