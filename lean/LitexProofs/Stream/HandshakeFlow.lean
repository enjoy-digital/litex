import LitexProofs.Stream.HandshakeGlue
/-
  C04 — additive delivery bounds for pipelines of store-and-forward stages (`Live.comp` multiplies the windows).  Once
  a token is in the downstream part `b` of `a ⟫ b` it drains whatever `a` does; while `b` is empty the time to the next
  delivery is "until `a` offers" + "`b` from empty".  `Drain` (`ne` = holds a token) is closed under `⟫`: `Drain.comp` has
  measure `μ_b + (if ne_b then 0 else μ_a)` and bound `B_a + B_b = Σ stageLat`.
-/
namespace Litex.Stream
namespace Elem
variable {α β γ σ τ : Type}

structure Drain (e : Elem α β σ) (Inv : σ → Prop) (μ : σ → Nat) (B : Nat) (ne : σ → Bool) : Prop where
  inv_step : ∀ s i, Inv s → Inv (e.step s i)
  bound : ∀ s, Inv s → μ s ≤ B
  /-- cooperative cycle: a delivery, or the measure drops and a token is held afterwards -/
  d1 : ∀ s i, Inv s → Coop i → 1 ≤ (e.delNow s i).length ∨ (μ (e.step s i) < μ s ∧ ne (e.step s i) = true)
  /-- a held token drains under a ready consumer, with or without new input -/
  d2 : ∀ s i, Inv s → i.ready = true → ne s = true →
    1 ≤ (e.delNow s i).length ∨ (μ (e.step s i) < μ s ∧ ne (e.step s i) = true)
  /-- nothing comes from nothing -/
  d3 : ∀ s i, Inv s → i.valid = false → ne s = false →
    ne (e.step s i) = false ∧ μ (e.step s i) ≤ μ s ∧ (e.fwd s false i.tok).1 = false
  /-- an empty element is ready whenever its consumer is -/
  e1 : ∀ s v t, Inv s → ne s = false → e.bwd s v t true = true

theorem Drain.measure {e : Elem α β σ} {Inv : σ → Prop} {μ : σ → Nat} {B : Nat} {ne : σ → Bool}
    (h : Drain e Inv μ B ne) : DelMeasure e Inv μ B where
  inv_step := h.inv_step
  bound := h.bound
  dec s i hs hc := by
    rcases h.d1 s i hs hc with h1 | h1
    · exact Or.inl h1
    · exact Or.inr h1.1

theorem Drain.delivers {e : Elem α β σ} {Inv : σ → Prop} {μ : σ → Nat} {B : Nat} {ne : σ → Bool}
    (h : Drain e Inv μ B ne) (h0 : Inv e.init) : DeliversWithin e (B + 1) :=
  h.measure.delivers h0

/-- `x`, `x'`, `y`: whatever the upstream part contributes to measure and occupancy. -/
theorem Drain.comp_step {a : Elem α β σ} {b : Elem β γ τ} {Ib : τ → Prop} {μb : τ → Nat} {Bb : Nat} {neb : τ → Bool}
    (hb : Drain b Ib μb Bb neb) (s : σ × τ) (i : In α) (h2 : Ib s.2)
    (hB : Coop (compInB a b s i) ∨ (i.ready = true ∧ neb s.2 = true)) (x x' : Nat) (y : Bool) :
    1 ≤ (b.delNow s.2 (compInB a b s i)).length ∨
      (μb (b.step s.2 (compInB a b s i)) + (if neb (b.step s.2 (compInB a b s i)) then 0 else x') <
        μb s.2 + (if neb s.2 then 0 else x) ∧
       (y || neb (b.step s.2 (compInB a b s i))) = true) := by
  have := hB.elim (hb.d1 s.2 _ h2) (fun h => hb.d2 s.2 (compInB a b s i) h2 h.1 h.2)
  rcases this with h1 | ⟨h1, h3⟩
  · exact Or.inl h1
  · right; rw [h3]; simp; omega

/-- If `b` holds a token or is handed one, this is `comp_step`.  Otherwise `b` is empty, hence ready (`e1`): `a` sees a
    ready consumer and keeps working (`d1` if supplied, `d2` if it holds a token) without handing over, and `b` stays
    empty (`d3`). -/
theorem Drain.comp_serve {a : Elem α β σ} {b : Elem β γ τ} {Ia : σ → Prop} {Ib : τ → Prop}
    {μa : σ → Nat} {Ba : Nat} {nea : σ → Bool} {μb : τ → Nat} {Bb : Nat} {neb : τ → Bool}
    (ha : Drain a Ia μa Ba nea) (hb : Drain b Ib μb Bb neb) (s : σ × τ) (i : In α) (h : Ia s.1 ∧ Ib s.2)
    (hr : i.ready = true) (hw : i.valid = true ∨ (nea s.1 || neb s.2) = true) :
    1 ≤ (b.delNow s.2 (compInB a b s i)).length ∨
      (μb (b.step s.2 (compInB a b s i)) +
          (if neb (b.step s.2 (compInB a b s i)) then 0 else μa (a.step s.1 (compInA a b s i))) <
        μb s.2 + (if neb s.2 then 0 else μa s.1) ∧
       (nea (a.step s.1 (compInA a b s i)) || neb (b.step s.2 (compInB a b s i))) = true) := by
  by_cases hne : neb s.2 = true
  · exact hb.comp_step s i h.2 (Or.inr ⟨hr, hne⟩) _ _ _
  · by_cases hof : (compInB a b s i).valid = true
    · exact hb.comp_step s i h.2 (Or.inl ⟨hof, hr⟩) _ _ _
    · have hnb : neb s.2 = false := by simpa using hne
      have hrA : (compInA a b s i).ready = true := by
        show b.bwd s.2 _ _ i.ready = true
        rw [hr]; exact hb.e1 s.2 _ _ h.2 hnb
      have hnd : ¬ 1 ≤ (a.delNow s.1 (compInA a b s i)).length := fun hd =>
        hof (((delNow_pos_iff a s.1 (compInA a b s i)).1 hd).1)
      have ⟨h1, h2⟩ := (hw.elim (fun hv => ha.d1 s.1 (compInA a b s i) h.1 ⟨hv, hrA⟩)
        (fun hn => ha.d2 s.1 (compInA a b s i) h.1 hrA (by rw [hnb] at hn; simpa using hn))).resolve_left hnd
      obtain ⟨g1, g2, _⟩ := hb.d3 s.2 (compInB a b s i) h.2 (by simpa using hof) hnb
      right
      rw [g1, h2, hnb]
      simp; omega

theorem Drain.comp {a : Elem α β σ} {b : Elem β γ τ} {Ia : σ → Prop} {Ib : τ → Prop}
    {μa : σ → Nat} {Ba : Nat} {nea : σ → Bool} {μb : τ → Nat} {Bb : Nat} {neb : τ → Bool}
    (ha : Drain a Ia μa Ba nea) (hb : Drain b Ib μb Bb neb) :
    Drain (a.comp b) (fun s => Ia s.1 ∧ Ib s.2) (fun s => μb s.2 + (if neb s.2 then 0 else μa s.1)) (Ba + Bb)
      (fun s => nea s.1 || neb s.2) where
  inv_step := comp_inv_step ha.inv_step hb.inv_step
  bound s h := by
    have h1 := ha.bound s.1 h.1
    have h2 := hb.bound s.2 h.2
    show μb s.2 + (if neb s.2 then 0 else μa s.1) ≤ Ba + Bb
    split <;> omega
  d1 s i h hc := by
    rw [comp_delNow, Elem.comp_step]
    exact ha.comp_serve hb s i h hc.2 (Or.inl hc.1)
  d2 s i h hr hne := by
    rw [comp_delNow, Elem.comp_step]
    exact ha.comp_serve hb s i h hr (Or.inr hne)
  d3 s i h hv hne := by
    obtain ⟨hna, hnb⟩ := Bool.or_eq_false_iff.1 hne
    obtain ⟨a1, a2, a3⟩ := ha.d3 s.1 (compInA a b s i) h.1 hv hna
    have hBv : (compInB a b s i).valid = false := by
      show (a.fwd s.1 i.valid i.tok).1 = false
      rw [hv]; exact a3
    obtain ⟨b1, b2, b3⟩ := hb.d3 s.2 (compInB a b s i) h.2 hBv hnb
    rw [Elem.comp_step]
    dsimp only
    refine ⟨?_, ?_, ?_⟩
    · rw [a1, b1]; rfl
    · rw [b1, hnb]; simp; omega
    · show (b.fwd s.2 (a.fwd s.1 false i.tok).1 (a.fwd s.1 false i.tok).2).1 = false
      have a3' : (a.fwd s.1 false i.tok).1 = false := a3
      rw [a3']
      exact (hb.d3 s.2 ⟨false, (a.fwd s.1 false i.tok).2, i.ready⟩ h.2 rfl hnb).2.2
  e1 s v t h hne := by
    obtain ⟨hna, hnb⟩ := Bool.or_eq_false_iff.1 hne
    show a.bwd s.1 v t (b.bwd s.2 _ _ true) = true
    rw [hb.e1 s.2 _ _ h.2 hnb]
    exact ha.e1 s.1 v t h.1 hna

end Elem

open Elem
variable {α : Type}

theorem wire_drain : Drain (wire (α := α)) (fun _ => True) (fun _ => 0) 0 (fun _ => false) where
  inv_step _ _ _ := trivial
  bound _ _ := Nat.le_refl _
  d1 _ _ _ hc := Or.inl (delNow_pos hc.1 hc.2)
  d2 _ _ _ _ h := Bool.noConfusion h
  d3 _ _ _ _ _ := ⟨rfl, Nat.le_refl _, rfl⟩
  e1 _ _ _ _ _ := rfl

theorem pipeValid_drain (z : Tok α) :
    Drain (pipeValid z) (fun _ => True) (fun s => if s.valid then 0 else 1) 1 (fun s => s.valid) where
  inv_step _ _ _ := trivial
  bound := (pipeValid_live z).bound
  d1 s i _ hc := by
    cases hs : s.valid with
    | true => exact Or.inl (delNow_pos hs hc.2)
    | false => right; rw [pipeValid_step_load z (Or.inl hs)]; simp [hc.1]
  d2 s i _ hr hne := Or.inl (delNow_pos hne hr)
  d3 s i _ hv hne := by
    rw [pipeValid_step_load z (Or.inl hne)]
    exact ⟨hv, by simp [hne, hv], hne⟩
  e1 s v t _ hne := Bool.or_true _

theorem pipeReady_drain (z : Tok α) : Drain (pipeReady z) prInv (fun _ => 0) 0 (fun s => s.valid) where
  inv_step := pipeReady_inv_step z
  bound _ _ := Nat.le_refl _
  d1 s i hs hc := Or.inl (delNow_pos (show ((pipeReady z).fwd s i.valid i.tok).1 = true by
    rw [hc.1]; exact pipeReady_offers z hs i.tok) hc.2)
  d2 s i hs hr hne := by
    exact Or.inl (delNow_pos (by rw [pipeReady_out_parked z i hne]; exact hs hne) hr)
  d3 s i _ hv hne := by
    refine ⟨?_, Nat.le_refl _, ?_⟩
    · show (if (i.valid && !i.ready) = true then true else if i.ready = true then false else s.valid) = false
      rw [hv, hne]; cases i.ready <;> rfl
    · show (if s.valid = true then (s.dvalid, s.dtok) else (false, i.tok)).1 = false
      rw [hne]; rfl
  e1 s v t _ hne := by show (!s.valid) = true; rw [hne]; rfl

theorem syncFifo_drain (depth : Nat) (hd : 0 < depth) (z : Tok α) :
    Drain (syncFifo depth z) (fifoInv depth) (fun q => if q.isEmpty then 1 else 0) 1 (fun q => !q.isEmpty) where
  inv_step := syncFifo_inv_step depth z
  bound := (syncFifo_live depth hd z).bound
  d1 q i _ hc := by
    cases q with
    | nil => right; rw [syncFifo_step_nil depth hd z hc.1]; exact ⟨Nat.zero_lt_one, rfl⟩
    | cons x xs => exact Or.inl (delNow_pos rfl hc.2)
  d2 q i _ hr hne := Or.inl (delNow_pos hne hr)
  d3 q i _ hv hne := by
    cases q with
    | nil =>
      have : (syncFifo depth z).step [] i = [] := by simp [syncFifo_step_queue, hv]
      rw [this]
      exact ⟨rfl, Nat.le_refl _, rfl⟩
    | cons x xs => cases hne
  e1 q v t _ hne := by
    cases q with
    | nil => show (0 != depth) = true; simp; omega
    | cons x xs => cases hne

theorem syncFifoBuffered_drain (depth : Nat) (hd : 1 ≤ depth) (z : Tok α) :
    Drain (syncFifoBuffered depth z) (fbInv depth)
      (fun s => if s.readable then 0 else if s.q.isEmpty then 2 else 1) 2 (fun s => s.readable || !s.q.isEmpty) where
  inv_step := syncFifoBuffered_inv_step depth z
  bound s _ := syncFifoBuffered_mu_le s
  d1 s i _ hc := by
    obtain ⟨q, rd, d⟩ := s
    cases rd with
    | true => exact Or.inl (delNow_pos rfl hc.2)
    | false =>
      right
      cases q with
      | nil =>
        have : (i.valid && 0 != depth) = true := by simp [hc.1]; omega
        rw [syncFifoBuffered_step_empty, if_pos this]
        exact ⟨Nat.lt_succ_self 1, rfl⟩
      | cons x xs =>
        show (if ((syncFifoBuffered depth z).step ⟨x :: xs, false, d⟩ i).readable = true then 0 else _) < 1 ∧
          (((syncFifoBuffered depth z).step ⟨x :: xs, false, d⟩ i).readable || _) = true
        rw [syncFifoBuffered_step_fill]
        exact ⟨Nat.zero_lt_one, rfl⟩
  d2 s i _ hr hne := by
    obtain ⟨q, rd, d⟩ := s
    cases rd with
    | true => exact Or.inl (delNow_pos rfl hr)
    | false =>
      cases q with
      | nil => cases hne
      | cons x xs =>
        right
        show (if ((syncFifoBuffered depth z).step ⟨x :: xs, false, d⟩ i).readable = true then 0 else _) < 1 ∧
          (((syncFifoBuffered depth z).step ⟨x :: xs, false, d⟩ i).readable || _) = true
        rw [syncFifoBuffered_step_fill]
        exact ⟨Nat.zero_lt_one, rfl⟩
  d3 s i _ hv hne := by
    obtain ⟨q, rd, d⟩ := s
    cases rd with
    | true => cases hne
    | false =>
      cases q with
      | nil =>
        rw [syncFifoBuffered_step_empty, hv]
        exact ⟨rfl, Nat.le_refl _, rfl⟩
      | cons x xs => cases hne
  e1 s v t _ hne := by
    obtain ⟨q, rd, d⟩ := s
    cases rd with
    | true => cases hne
    | false =>
      cases q with
      | nil => show (0 != depth) = true; simp; omega
      | cons x xs => cases hne

/-- Latency contribution of a stage to the delivery window. -/
def stageLat : Stage → Nat
  | .wire => 0
  | .pv => 1
  | .pr => 0
  | .fifo _ => 1
  | .fifoB _ => 2

def stageNe : (st : Stage) → StageState α st → Bool
  | .wire, _ => false
  | .pv, s => let s' : PVState α := s; s'.valid
  | .pr, s => let s' : PRState α := s; s'.valid
  | .fifo _, s => let q : List (Tok α) := s; !q.isEmpty
  | .fifoB _, s => let s' : FBState α := s; s'.readable || !s'.q.isEmpty

theorem stage_drain (z : Tok α) : ∀ st : Stage, stageOk st →
    Drain (stageElem z st) (stageInv st) (stageMu st) (stageLat st) (stageNe st)
  | .wire, _ => wire_drain
  | .pv, _ => pipeValid_drain z
  | .pr, _ => pipeReady_drain z
  | .fifo d, h => syncFifo_drain d h z
  | .fifoB d, h => syncFifoBuffered_drain d h z

def pipeLat : List Stage → Nat
  | [] => 0
  | st :: l => stageLat st + pipeLat l

def pipeNe : (l : List Stage) → PipeState α l → Bool
  | [], _ => false
  | st :: l, s => stageNe st s.1 || pipeNe l s.2

def pipeMuAdd : (l : List Stage) → PipeState α l → Nat
  | [], _ => 0
  | st :: l, s => pipeMuAdd l s.2 + (if pipeNe l s.2 then 0 else stageMu st s.1)

theorem stages_drain (z : Tok α) : ∀ l : List Stage, (∀ st ∈ l, stageOk st) →
    Drain (stages z l) (pipeInv l) (pipeMuAdd l) (pipeLat l) (pipeNe l)
  | [], _ => wire_drain
  | st :: l, h =>
    Drain.comp (stage_drain z st (h st (by simp))) (stages_drain z l (fun x hx => h x (by simp [hx])))

theorem pipeLat_delayStages (n : Nat) : pipeLat (delayStages n) = n := by
  rw [delayStages_eq]
  induction n with
  | zero => rfl
  | succ n ih => rw [List.replicate_succ, pipeLat, ih, stageLat, Nat.add_comm]

theorem pipeLat_syncFifoStages_le (depth : Nat) (buffered : Bool) : pipeLat (syncFifoStages depth buffered) ≤ 2 := by
  unfold syncFifoStages
  by_cases h2 : depth ≥ 2
  · cases buffered <;> simp [h2, pipeLat, stageLat]
  · by_cases h1 : depth = 1
    · simp [h1, bufferStages, pipeLat, stageLat]
    · simp [h2, h1, pipeLat]

end Litex.Stream
