import LitexProofs.Packet.Fair
import LitexProofs.Machine
import LitexProofs.Lists
/-
  C04 for the control elements of `packet.py` (models `LitexModel/Stream/Status.lean`, `LitexModel/Packet/Arbiter.lean`).
  `packet.Status`: the `first` and `ongoing` registers as functions of the complete history of the observed endpoint.
  `packet.Arbiter` (round-robin lemmas of `RoundRobin.lean` and `Packet/Fair.lean`): stability of the slave side under a
  contract-keeping granted master, progress when every master offers, a transfer in the next cycle when only some masters
  offer (the next grant is at a requesting master), and no starvation: when every master offers single-beat packets each
  master is served within `n` cycles.  `packet.Dispatcher`: a selected slave is one of the `m` slaves.
-/
namespace Litex.Stream

/-- The beats transferred so far (cycles with `valid ∧ ready`), oldest first. -/
def beats (ins : List StatusIn) : List StatusIn := ins.filter (·.hs)

/-- The cycles after the most recent last-beat handshake: the longest suffix of the history that contains no
    `valid ∧ last ∧ ready` cycle. -/
def sinceLast (ins : List StatusIn) : List StatusIn :=
  (ins.reverse.takeWhile (fun i => !i.lastHs)).reverse

theorem sinceLast_concat (ins : List StatusIn) (i : StatusIn) :
    sinceLast (ins ++ [i]) = if i.lastHs then [] else sinceLast ins ++ [i] := by
  unfold sinceLast
  cases h : i.lastHs <;> simp [h]

theorem status_first_run (ins : List StatusIn) :
    (status.run ins).first = (((beats ins).getLast?).map (·.last)).getD true := by
  induction ins using snoc_induction with
  | nil => rfl
  | snoc l i ih =>
    rw [status.run_snoc]
    obtain ⟨v, la, r⟩ := i
    simp only [status, beats, List.filter_append] at *
    rw [ih]
    cases v <;> cases la <;> cases r <;> simp [StatusIn.hs, StatusIn.lastHs]

theorem status_ongoing_run (ins : List StatusIn) :
    (status.run ins).ongoing = (sinceLast ins).any (·.valid) := by
  induction ins using snoc_induction with
  | nil => rfl
  | snoc l i ih =>
    rw [status.run_snoc, sinceLast_concat]
    obtain ⟨v, la, r⟩ := i
    simp only [status] at *
    rw [ih]
    cases v <;> cases la <;> cases r <;> simp [StatusIn.lastHs, Bool.or_comm]

end Litex.Stream

namespace Litex.Packet
open Litex Litex.Stream

def AllOfferLast (n : Nat) (i : ArbIn) : Prop :=
  i.ready = true ∧ ∀ j, j < n → (i.masters.getD j Beat.idle).valid = true ∧ (i.masters.getD j Beat.idle).last = true

/-- While the slave stalls an offered beat (`slave.valid ∧ ¬slave.ready`) the grant does not move
    (the granted master's `Status.ongoing` keeps its request up), so if that master re-offers its beat unchanged —
    the stream contract: its `ready` was low — the slave sees the same beat again. -/
theorem arbiter_hold (n : Nat) (s : ArbState) (hg : s.grant < n) (i i' : ArbIn)
    (hv : ((arbiter n).out s i).slave.valid = true) (hr : i.ready = false)
    (hprod : i'.masters.getD s.grant Beat.idle = i.masters.getD s.grant Beat.idle) :
    ((arbiter n).next s i).grant = s.grant ∧
    ((arbiter n).out ((arbiter n).next s i) i').slave = ((arbiter n).out s i).slave := by
  have hval : (i.masters.getD s.grant Beat.idle).valid = true := by
    simpa [arbiter, hg] using hv
  have hreq : arbRequest s i s.grant = true := by
    simp only [List.getD_eq_getElem?_getD] at hval
    simp [arbRequest, arbStatusIn, status, StatusIn.lastHs, hval, hr]
  have hnext : ((arbiter n).next s i).grant = s.grant := by
    show RoundRobin.next .withdraw n s.grant (fun j => decide (j < n) && arbRequest s i j) = s.grant
    exact RoundRobin.next_withdraw_keep _ true hg (by simp [hg, hreq])
  refine ⟨hnext, ?_⟩
  simp only [arbiter] at hnext ⊢
  simp only [hnext, hg, if_true, hprod]

theorem arbiter_moves (n : Nat) (s : ArbState) (hg : s.grant < n) (i : ArbIn)
    (hv : (i.masters.getD s.grant Beat.idle).valid = true) (hr : i.ready = true) :
    ((arbiter n).out s i).slave.valid = true ∧ ((arbiter n).out s i).readys.getD s.grant false = true := by
  constructor
  · simp only [List.getD_eq_getElem?_getD] at hv
    simp [arbiter, hg, hv]
  · simp only [arbiter]
    rw [getD_range_map_of_lt _ _ hg]
    simp [hr]

theorem arbiter_rotates (n : Nat) (hn : 2 ≤ n) (s : ArbState) (hg : s.grant < n) (i : ArbIn)
    (h : AllOfferLast n i) : ((arbiter n).next s i).grant = (s.grant + 1) % n := by
  obtain ⟨hr, hall⟩ := h
  have hlt : (s.grant + 1) % n < n := Nat.mod_lt _ (by omega)
  have hne : (s.grant + 1) % n ≠ s.grant := by
    by_cases hw : s.grant + 1 = n
    · rw [hw, Nat.mod_self]; omega
    · rw [Nat.mod_eq_of_lt (by omega)]; omega
  have hown : arbRequest s i s.grant = false := by
    obtain ⟨h1, h2⟩ := hall s.grant hg
    simp only [List.getD_eq_getElem?_getD] at h1 h2
    simp [arbRequest, arbStatusIn, status, StatusIn.lastHs, h1, h2, hr]
  have hnxt : arbRequest s i ((s.grant + 1) % n) = true := by
    rw [arbRequest_not_granted s i _ (Ne.symm hne), (hall _ hlt).1]
    rfl
  show RoundRobin.next .withdraw n s.grant (fun j => decide (j < n) && arbRequest s i j) = (s.grant + 1) % n
  rw [RoundRobin.next_eq _ _ true hg, if_pos (by simp [RoundRobin.enabled, hown]),
    RoundRobin.switch_first hn (by simp [hlt, hnxt])]

theorem arbiter_grant_run (n : Nat) (hn : 2 ≤ n) :
    ∀ (ins : List ArbIn) (s : ArbState), s.grant < n → (∀ i ∈ ins, AllOfferLast n i) →
      ((arbiter n).runFrom s ins).grant = (s.grant + ins.length) % n
  | [], s, hg, _ => (Nat.mod_eq_of_lt hg).symm
  | i :: is, s, hg, hall => by
    have hrot := arbiter_rotates n hn s hg i (hall i (by simp))
    show ((arbiter n).runFrom ((arbiter n).next s i) is).grant = _
    rw [arbiter_grant_run n hn is _ (by rw [hrot]; exact Nat.mod_lt _ (by omega)) (fun j hj => hall j (by simp [hj])),
      hrot, Nat.mod_add_mod, List.length_cons, Nat.add_assoc, Nat.add_comm 1]

theorem arbiter_reaches (n : Nat) (hn : 2 ≤ n) (k : Nat) (hk : k < n) (d : Nat) (s : ArbState) (ins : List ArbIn)
    (hg : s.grant < n) (hd : RoundRobin.dist n s.grant k = d) (hlen : ins.length = d)
    (hall : ∀ i ∈ ins, AllOfferLast n i) : ((arbiter n).runFrom s ins).grant = k := by
  rw [arbiter_grant_run n hn ins s hg hall, hlen, ← hd]
  exact RoundRobin.add_dist_mod hg hk

theorem arbiter_grant_lt (n : Nat) (hn : 2 ≤ n) (ins : List ArbIn) : ((arbiter n).run ins).grant < n := by
  unfold Machine.run
  exact Machine.invariant_runFrom (arbiter n) (fun s => s.grant < n)
    (fun s i hg => RoundRobin.next_lt .withdraw (fun j => decide (j < n) && arbRequest s i j) true hg) ins _
    (by simp [arbiter]; omega)

theorem arbiter_next_grant_requests (n : Nat) (s : ArbState) (hg : s.grant < n) (i : ArbIn)
    (hsome : ∃ k, k < n ∧ arbRequest s i k = true) :
    ((arbiter n).next s i).grant < n ∧ arbRequest s i ((arbiter n).next s i).grant = true := by
  obtain ⟨k, hk, hreq⟩ := hsome
  show RoundRobin.next .withdraw n s.grant (fun j => decide (j < n) && arbRequest s i j) < n ∧
    arbRequest s i (RoundRobin.next .withdraw n s.grant (fun j => decide (j < n) && arbRequest s i j)) = true
  have hlt := RoundRobin.next_lt .withdraw (fun j => decide (j < n) && arbRequest s i j) true hg
  refine ⟨hlt, ?_⟩
  cases hown : arbRequest s i s.grant with
  | true =>
    rw [RoundRobin.next_withdraw_keep _ true hg (by simp [hg, hown])]
    exact hown
  | false =>
    have hne : k ≠ s.grant := by
      intro h; subst h; rw [hown] at hreq; cases hreq
    have h1 := RoundRobin.next_ne_self_of_other_req .withdraw (fun j => decide (j < n) && arbRequest s i j) true hg hk hne
      (by simp [hk, hreq]) (by simp [RoundRobin.enabled, hg, hown])
    have h2 := (RoundRobin.next_change_req .withdraw (fun j => decide (j < n) && arbRequest s i j) true hg h1.1).1
    simp only [Bool.and_eq_true, decide_eq_true_eq] at h2
    exact h2.2

theorem dispTarget_lt (m : Nat) (oneHot : Bool) (sel k : Nat) (h : dispTarget m oneHot sel = some k) : k < m := by
  have := List.mem_of_find?_eq_some h
  simpa using this

end Litex.Packet
