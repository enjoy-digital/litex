import LitexProofs.Stream.HandshakeBasic
import LitexProofs.Stream.Pipe
/-
  C04 for the pipelines of `LitexModel/Stream/Pipe.lean`.  `PipelinedActor(latency = L)` for EVERY `L` (control path of
  `BinaryActor`/`PipelinedActor`: `pipe_ce = source.ready | ~valid_L` gates every stage register, `sink.ready = pipe_ce`):
  while `valid_L ∧ ¬source.ready` no register moves; the number of trailing empty stages (`trail`) is a `Live` measure
  bounded by `L`, under a steady supply it drops by one per cycle: window `L + 1`.  `Shifter` (latency 2) reads its `shift`
  input combinationally on the output side, hence `ShiftHeld`.  `Delay n` by induction over its `PipeValid` stages.
-/
namespace Litex.Stream
open Elem
variable {α : Type}

/-- Number of trailing stages (towards the source) that hold no token.  The list is stage 1 first, so the trailing
    stages are the *suffix*: the head counts only when the whole tail is empty. -/
def trail : List (Bool × Tok α) → Nat
  | [] => 0
  | x :: l => if trail l = l.length ∧ x.1 = false then l.length + 1 else trail l

theorem trail_le : ∀ l : List (Bool × Tok α), trail l ≤ l.length
  | [] => Nat.le_refl _
  | x :: l => by
    have := trail_le l
    simp only [trail, List.length_cons]
    split <;> omega

theorem trail_cons_valid (p : Bool × Tok α) (l : List (Bool × Tok α)) (hp : p.1 = true) : trail (p :: l) = trail l := by
  simp [trail, hp]

theorem trail_cons_le (p : Bool × Tok α) (l : List (Bool × Tok α)) : trail (p :: l) ≤ trail l + 1 := by
  simp only [trail]
  split
  · rename_i h
    omega
  · omega

theorem trail_concat_invalid (x : Bool × Tok α) (hx : x.1 = false) :
    ∀ l : List (Bool × Tok α), trail (l ++ [x]) = trail l + 1
  | [] => by simp [trail, hx]
  | y :: l => by
    have ih := trail_concat_invalid x hx l
    simp only [List.cons_append, trail, ih, List.length_append, List.length_cons, List.length_nil]
    by_cases h : trail l = l.length ∧ y.1 = false
    · have h' : trail l + 1 = l.length + 0 + 1 ∧ y.1 = false := ⟨by omega, h.2⟩
      rw [if_pos h, if_pos h']
    · have h' : ¬ (trail l + 1 = l.length + 0 + 1 ∧ y.1 = false) := by
        intro hh; exact h ⟨by omega, hh.2⟩
      rw [if_neg h, if_neg h']

theorem trail_concat_valid (x : Bool × Tok α) (hx : x.1 = true) :
    ∀ l : List (Bool × Tok α), trail (l ++ [x]) = 0
  | [] => by simp [trail, hx]
  | y :: l => by
    have ih := trail_concat_valid x hx l
    simp only [List.cons_append, trail, ih, List.length_append, List.length_cons, List.length_nil]
    have : ¬ ((0 : Nat) = l.length + 0 + 1 ∧ y.1 = false) := by
      intro hh; omega
    rw [if_neg this]

theorem pipeActor_stepStable (L : Nat) (z : Tok α) : StepStable (pipeActor L z) (fun _ => True) where
  inv_step _ _ _ := trivial
  hold s i i' _ hin := by
    intro hv hrd
    rcases List.eq_nil_or_concat s with hs | ⟨init, x, hs⟩
    · subst hs
      -- latency 0: combinational, the producer contract carries over
      rw [pipeActor_step_nil]
      have hv' : i.valid = true := hv
      obtain ⟨h1, h2⟩ := hin hv' (by show (pipeActor L z).bwd [] _ _ _ = false; rw [pipeActor_bwd_nil, hrd, hv']; rfl)
      show (paIn i'.valid i'.tok).1 = true ∧ (paIn i'.valid i'.tok).2 = (paIn i.valid i.tok).2
      rw [h1, h2, hv']; exact ⟨rfl, rfl⟩
    · rw [List.concat_eq_append] at hs
      subst hs
      have hx : x.1 = true := by
        have : ((pipeActor L z).out (init ++ [x]) i).valid = x.1 := by
          simp only [Elem.out]; rw [pipeActor_out_concat]
        rw [this] at hv; exact hv
      have hst : (pipeActor L z).step (init ++ [x]) i = init ++ [x] := by
        show (pipeActor L z).next (init ++ [x]) i.valid i.tok i.ready = _
        rw [pipeActor_next_concat]
        simp [hrd, hx]
      rw [hst]
      simp only [Elem.out]
      rw [pipeActor_out_concat, pipeActor_out_concat]
      exact ⟨hx, rfl⟩

theorem pipeActor_live (L : Nat) (z : Tok α) : Live (pipeActor L z) (paInv L) trail L where
  inv_step := pipeActor_inv_step L z
  bound s hs := by
    have := trail_le s
    unfold paInv at hs
    omega
  off s i _ hv := by
    rcases List.eq_nil_or_concat s with hs | ⟨init, x, hs⟩
    · subst hs
      left
      simp [pipeActor, paIn]
    · rw [List.concat_eq_append] at hs
      subst hs
      rw [pipeActor_out_concat]
      cases hx : x.1 with
      | true => exact Or.inl rfl
      | false =>
        right
        show trail ((pipeActor L z).next (init ++ [x]) i.valid i.tok i.ready) < _
        rw [pipeActor_next_concat, trail_concat_invalid x hx]
        simp only [hx, Bool.not_false, Bool.or_true, if_true]
        rw [trail_cons_valid _ _ (by simp [paIn, hv])]
        omega
  mono s i _ := by
    rcases List.eq_nil_or_concat s with hs | ⟨init, x, hs⟩
    · subst hs
      right
      rw [pipeActor_step_nil]
      exact Nat.le_refl _
    · rw [List.concat_eq_append] at hs
      subst hs
      rw [pipeActor_out_concat]
      cases hx : x.1 with
      | true => exact Or.inl rfl
      | false =>
        right
        show trail ((pipeActor L z).next (init ++ [x]) i.valid i.tok i.ready) ≤ _
        rw [pipeActor_next_concat, trail_concat_invalid x hx]
        simp only [hx, Bool.not_false, Bool.or_true, if_true]
        exact trail_cons_le _ _

theorem pipeActor_good (L : Nat) (z : Tok α) : Good (pipeActor L z) (paInv L) trail L :=
  ⟨(pipeActor_stepStable L z).strengthen (pipeActor_inv_step L z), pipeActor_live L z⟩

theorem pipeActor_readyTransparent (L : Nat) (z : Tok α) : ReadyTransparent (pipeActor L z) (paInv L) := by
  intro s v t _
  simp [pipeActor]

/-- The extra assumption: while a token waits at the source, the `shift` input is held. -/
def ShiftHeld (s : ShState) (i i' : In (Nat × Nat)) : Prop :=
  s.v2 = true → i.ready = false → i'.tok.data.2 = i.tok.data.2

theorem shifter_stepStable (dw : Nat) : StepStableX (shifter dw) (fun _ => True) ShiftHeld where
  inv_step _ _ _ := trivial
  hold s i i' _ _ hx := by
    obtain ⟨iv, it, ir⟩ := i
    intro hv hr
    simp only [shifter, Elem.out, Elem.step, ShiftHeld] at *
    subst hr
    have := hx hv rfl
    simp [hv, this]

theorem shifter_readyTransparent (dw : Nat) : ReadyTransparent (shifter dw) (fun _ => True) := by
  intro s v t _
  simp [shifter]

theorem shifter_measure (dw : Nat) :
    DelMeasure (shifter dw) (fun _ => True) (fun s => if s.v2 then 0 else if s.v1 then 1 else 2) 2 where
  inv_step _ _ _ := trivial
  bound s _ := by split <;> (try split) <;> omega
  dec s i _ hc := by
    obtain ⟨hv, hr⟩ := hc
    obtain ⟨iv, it, ir⟩ := i
    simp only at hv hr; subst hv; subst hr
    cases h2 : s.v2 <;> cases h1 : s.v1 <;> simp [shifter, Elem.step, Elem.delNow, Elem.out, h1, h2]

theorem delay_stepStable (z : Tok α) : ∀ n, StepStable (delay z n) (fun _ => True)
  | 0 => wire_stepStable
  | n + 1 =>
    ((pipeValid_stepStable z).comp (delay_stepStable z n)).congr (fun _ => ⟨fun _ => ⟨trivial, trivial⟩, fun _ => trivial⟩)

theorem delay_readyTransparent (z : Tok α) : ∀ n, ReadyTransparent (delay z n) (fun _ => True)
  | 0 => by intro s v t _; rfl
  | n + 1 => by
    intro s v t _
    exact ReadyTransparent.comp (Ia := fun _ => True) (Ib := fun _ => True)
      (pipeValid_readyTransparent z) (delay_readyTransparent z n) s v t ⟨trivial, trivial⟩

theorem delay_measure (z : Tok α) : ∀ n, ∃ μ, DelMeasure (delay z n) (fun _ => True) μ n
  | 0 => ⟨_, wire_live.measure⟩
  | n + 1 => by
    obtain ⟨μ, h⟩ := delay_measure z n
    exact ⟨_, ((pipeValid_front z).comp h).congr (fun _ => ⟨fun _ => ⟨trivial, trivial⟩, fun _ => trivial⟩)⟩

end Litex.Stream
