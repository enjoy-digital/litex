import LitexProofs.Stream.HandshakeComp
import LitexProofs.Packet.Packetizer
/-
  C04 — stability of `packet.Packetizer` for EVERY header length.  With `source.ready = 0` no register moves (`sink_d`
  is loaded on `source.ready` only; IDLE rewrites `count`, which it is not looking at), and every state shows registers
  or the refused — hence held — sink token.  The flush beat of UNALIGNED-DATA-COPY (`sink_d.last`, not the first copy
  beat: valid *without* `sink.valid`) shows registers only, by the guard
  `If(~sink_d.last | fsm_from_idle, source.data[leftover*8:].eq(sink.data))` of the modelled code; `pkUDataPre` is the
  expression without it, for the witness in `LitexProps/C04.lean`.  One corner remains, inside the open finding
  C16-packetizer-unaligned-single-beat: the FIRST copy beat of a one-beat packet (`fsm_from_idle ∧ sink_d.last`) is
  valid through `sink_d.last` as well and its upper lanes are the sink data lines; if its producer has broken the
  contract and withdrawn, they follow idle lines.  `FirstBeatHeld` excludes exactly that.

  Header a multiple of the beat (`c.aligned = true`, at least one header word; second part of the file): `packet.Packetizer`
  and `packet.Depacketizer` count header words with the same control path (`hdrCtl`): IDLE → HEADER-SEND/RECEIVE →
  ALIGNED-DATA-COPY → IDLE; the unaligned copy state is never entered, so the Packetizer keeps the plain contract, and the
  header-word counter is the measure for sink service (Packetizer) and deliveries (Depacketizer).
-/
namespace Litex.Packet
open Litex Litex.Stream Litex.Stream.Elem

/-- `source.data` of UNALIGNED-DATA-COPY without the guard (upper lanes always from the sink data lines). -/
def PkCfg.pkUDataPre (c : PkCfg) (s : PkState) (d : Nat) : Nat :=
  let lw := max (8 * c.L) 1
  let low := if s.fromIdle then c.srFrom ((if c.W == 1 then 1 else 2) * c.dw) s.sr
             else s.dData / 2 ^ (min ((c.B - c.L) * 8) (c.dw - 1))
  low % 2 ^ lw + 2 ^ (8 * c.L) * (d % 2 ^ (c.dw - 8 * c.L))

/-- Outside the genuine flush beat (`sink_d.last ∧ ¬fsm_from_idle`) the guard changes nothing. -/
theorem pkUData_eq_pre (c : PkCfg) (s : PkState) (d : Nat) (h : s.dLast = false ∨ s.fromIdle = true) :
    c.pkUData s d = c.pkUDataPre s d := by
  rcases h with h | h <;> simp [PkCfg.pkUData, PkCfg.pkUDataPre, h]

theorem pkUData_flush (c : PkCfg) (s : PkState) (d d' : Nat) (h : s.dLast = true) (hf : s.fromIdle = false) :
    c.pkUData s d = c.pkUData s d' := by
  simp [PkCfg.pkUData, h, hf]

/-- First copy beat of a one-beat packet whose producer has withdrawn, consumer stalling: the sink data lines are held. -/
def FirstBeatHeld (c : PkCfg) (s : PkState) (i i' : In HBeat) : Prop :=
  s.st = .ucopy → s.fromIdle = true → s.dLast = true → i.valid = false → i.ready = false →
    i'.tok.data.data % 2 ^ c.dw = i.tok.data.data % 2 ^ c.dw

/-- With `source.ready = 0` no register moves, except that IDLE rewrites `count`, which the outputs ignore. -/
theorem packetizer_out_stall (c : PkCfg) (s : PkState) (i i' : In HBeat) (hr : i.ready = false) :
    (packetizer c).out ((packetizer c).step s i) i' = (packetizer c).out s i' := by
  obtain ⟨st, sr, n, fi, dd, dl⟩ := s
  cases st
  · rw [packetizer_step_idle c _ i rfl]; simp [PkState.latch, hr]; rfl
  · rw [packetizer_step_hdr c _ i rfl]; simp [PkState.latch, hr]
  · rw [packetizer_step_acopy c _ i rfl]; simp [PkState.latch, hr]
  · rw [packetizer_step_ucopy c _ i rfl]; simp [PkState.latch, hr]

theorem packetizer_stepStableX (c : PkCfg) : StepStableX (packetizer c) (fun _ => True) (FirstBeatHeld c) where
  inv_step _ _ _ := trivial
  hold s i i' _ hin hx hv hr := by
    rw [packetizer_out_stall c s i i' hr]
    cases hst : s.st with
    | hdr => rw [packetizer_out_hdr c s i hst, packetizer_out_hdr c s i' hst]; exact ⟨rfl, rfl⟩
    | idle =>
      rw [packetizer_out_idle c s i hst] at hv hin ⊢
      have hv' : i.valid = true := hv
      obtain ⟨h1, h2⟩ := hin hv' (show (!i.valid) = false by rw [hv']; rfl)
      rw [packetizer_out_idle c s i' hst, h1, h2]
      exact ⟨rfl, by rw [hv']⟩
    | acopy =>
      rw [packetizer_out_acopy c s i hst] at hv hin ⊢
      obtain ⟨h1, h2⟩ := hin hv (by simp only [hr, Bool.and_false])
      rw [packetizer_out_acopy c s i' hst, h1, h2]
      exact ⟨rfl, rfl⟩
    | ucopy =>
      rw [packetizer_out_ucopy c s i hst] at hv hin ⊢
      rw [packetizer_out_ucopy c s i' hst]
      cases hiv : i.valid with
      | true =>
        obtain ⟨h1, h2⟩ := hin hiv (by simp only [hr, Bool.and_false, Bool.false_and])
        rw [h1, h2]
        exact ⟨rfl, rfl⟩
      | false =>
        have hdl : s.dLast = true := by simpa [hiv] using hv
        refine ⟨by simp only [hdl, Bool.or_true], ?_⟩
        cases hfi : s.fromIdle with
        | false => show Tok.mk _ _ _ = Tok.mk _ _ _; rw [pkUData_flush c s _ (sinkData c i.tok) hdl hfi]
        | true => show Tok.mk _ _ _ = Tok.mk _ _ _; rw [show sinkData c i'.tok = sinkData c i.tok from hx hst hfi hdl hiv hr]

/-- This is *not* "the sink is served": see the negative witness in `LitexProps/C04.lean` (open finding
    C16-packetizer-unaligned-single-beat: the same packet is delivered for ever). -/
theorem packetizer_measure_all (c : PkCfg) : DelMeasure (packetizer c) (fun _ => True) (fun _ => 0) 0 where
  inv_step _ _ _ := trivial
  bound _ _ := Nat.le_refl _
  dec s i _ hc := by
    have hv : ((packetizer c).out s i).valid = true := by
      cases hst : s.st with
      | idle => rw [packetizer_out_idle c s i hst]; exact hc.1
      | hdr => rw [packetizer_out_hdr c s i hst]
      | acopy => rw [packetizer_out_acopy c s i hst]; exact hc.1
      | ucopy => rw [packetizer_out_ucopy c s i hst]; simp only [hc.1, Bool.true_or]
    exact Or.inl (delNow_pos hv hc.2)

/-- FSM state and header-word counter after one cycle: `a` = a header word moves, `f` = the last beat of the packet
    moves. -/
def hdrCtl (c : PkCfg) (st : PkSt) (n : Nat) (a f : Bool) : PkSt × Nat :=
  match st with
  | .idle => (if a then (if c.W == 1 then .acopy else .hdr) else .idle, 1)
  | .hdr => if a then (if n + 1 == c.W then .acopy else .hdr, (n + 1) % c.cntMod) else (.hdr, n)
  | .acopy => (if f then .idle else .acopy, n)
  | .ucopy => (.ucopy, n)

/-- The unaligned copy state is never entered. -/
def pkInv (s : PkState) : Prop := s.st ≠ .ucopy

/-- ... and while the header moves the word counter is inside `1 … W − 1`. -/
def hdrInv (c : PkCfg) (s : PkState) : Prop := pkInv s ∧ (s.st = .hdr → 1 ≤ s.count ∧ s.count < c.W)

/-- Header words still to move. -/
def hdrMu (c : PkCfg) (s : PkState) : Nat :=
  match s.st with
  | .idle => c.W
  | .hdr => c.W - s.count
  | _ => 0

theorem hdrMu_le (c : PkCfg) (s : PkState) : hdrMu c s ≤ c.W := by
  unfold hdrMu; split <;> omega

theorem pkInv_of_ctl {c : PkCfg} {s s' : PkState} {a f : Bool} (h : pkInv s)
    (e : (s'.st, s'.count) = hdrCtl c s.st s.count a f) : pkInv s' := by
  unfold pkInv at *
  rw [show s'.st = (hdrCtl c s.st s.count a f).1 from congrArg Prod.fst e]
  cases hst : s.st with
  | ucopy => exact absurd hst h
  -- IDLE stays or goes to HEADER / ALIGNED-DATA-COPY
  | idle => cases a <;> cases hw : (c.W == 1) <;> simp [hdrCtl, hw]
  -- HEADER stays or goes to ALIGNED-DATA-COPY
  | hdr => cases a <;> cases hl : (s.count + 1 == c.W) <;> simp [hdrCtl, hl]
  -- ALIGNED-DATA-COPY stays or goes to IDLE
  | acopy => cases f <;> simp [hdrCtl]

theorem hdrInv_of_ctl {c : PkCfg} (hW : 1 ≤ c.W) {s s' : PkState} {a f : Bool} (h : hdrInv c s)
    (e : (s'.st, s'.count) = hdrCtl c s.st s.count a f) : hdrInv c s' := by
  refine ⟨pkInv_of_ctl h.1 e, fun h' => ?_⟩
  have hcm := W_le_cntMod c
  cases hst : s.st with
  | ucopy => exact absurd hst h.1
  | idle =>
    rw [hst] at e
    obtain ⟨e1, e2⟩ := Prod.mk.inj e
    rw [e2]; rw [e1] at h'
    have : c.W ≠ 1 := by
      intro hw; simp [hw] at h'; split at h' <;> cases h'
    omega
  | hdr =>
    obtain ⟨h4, h5⟩ := h.2 hst
    rw [hst] at e
    cases a with
    | false => rw [(Prod.mk.inj e).2]; exact ⟨h4, h5⟩
    | true =>
      obtain ⟨e1, e2⟩ := Prod.mk.inj e
      rw [e2]; rw [e1] at h'
      have hl : s.count + 1 ≠ c.W := by
        intro hl; simp [hl] at h'
      rw [Nat.mod_eq_of_lt (by omega)]; omega
  | acopy =>
    rw [hst] at e
    rw [(Prod.mk.inj e).1] at h'
    split at h' <;> cases h'

theorem hdrMu_of_ctl {c : PkCfg} (hW : 1 ≤ c.W) {s s' : PkState} {f : Bool} (h : hdrInv c s) (hc : s.st ≠ .acopy)
    (e : (s'.st, s'.count) = hdrCtl c s.st s.count true f) : hdrMu c s' < hdrMu c s := by
  have hcm := W_le_cntMod c
  unfold hdrMu
  cases hst : s.st with
  | ucopy => exact absurd hst h.1
  | acopy => exact absurd hst hc
  | idle =>
    rw [hst] at e
    obtain ⟨e1, e2⟩ := Prod.mk.inj e
    rw [e1, e2]
    by_cases hw1 : c.W = 1
    · simp [hw1]
    · have : (c.W == 1) = false := by simpa using hw1
      simp [this]; omega
  | hdr =>
    obtain ⟨h4, h5⟩ := h.2 hst
    rw [hst] at e
    obtain ⟨e1, e2⟩ := Prod.mk.inj e
    rw [e1, e2]
    by_cases hl : s.count + 1 = c.W
    · simp [hl]; omega
    · have : (s.count + 1 == c.W) = false := by simpa using hl
      simp [this, Nat.mod_eq_of_lt (show s.count + 1 < c.cntMod by omega)]; omega

theorem pkInv_init (c : PkCfg) : pkInv (packetizer c).init := fun h => PkSt.noConfusion h

theorem hdrInv_pk_init (c : PkCfg) : hdrInv c (packetizer c).init := ⟨pkInv_init c, fun h => PkSt.noConfusion h⟩

/-- A header word moves on a source handshake (IDLE shows the first one combinationally). -/
theorem packetizer_ctl (c : PkCfg) (ha : c.aligned = true) (s : PkState) (i : In HBeat) (h : pkInv s) :
    (((packetizer c).step s i).st, ((packetizer c).step s i).count) =
      hdrCtl c s.st s.count ((i.valid || s.st != .idle) && i.ready) (i.valid && i.ready && i.tok.last) := by
  have hcp : c.copy = .acopy := by simp [PkCfg.copy, ha]
  obtain ⟨st, sr, n, fi, dd, dl⟩ := s
  cases st
  · -- IDLE: the first header word moves when the sink offers and the source is ready; `count := 1` always
    rw [packetizer_step_idle c _ i rfl]
    cases hvr : (i.valid && i.ready) <;> simp [hdrCtl, hcp, hvr]
  · -- HEADER-SEND: a word moves whenever the source is ready
    rw [packetizer_step_hdr c _ i rfl]
    cases hr : i.ready <;> cases hl : (n + 1 == c.W) <;> simp [hdrCtl, hcp, hr, hl]
  · -- ALIGNED-DATA-COPY: back to IDLE with the last beat, `count` untouched
    rw [packetizer_step_acopy c _ i rfl]
    cases (i.valid && i.ready && i.tok.last) <;> simp [hdrCtl]
  · exact absurd rfl h

theorem packetizer_inv_step (c : PkCfg) (ha : c.aligned = true) (s : PkState) (i : In HBeat) (h : pkInv s) :
    pkInv ((packetizer c).step s i) :=
  pkInv_of_ctl h (packetizer_ctl c ha s i h)

theorem packetizer_hdrInv_step (c : PkCfg) (ha : c.aligned = true) (hW : 1 ≤ c.W) (s : PkState) (i : In HBeat)
    (h : hdrInv c s) : hdrInv c ((packetizer c).step s i) :=
  hdrInv_of_ctl hW h (packetizer_ctl c ha s i h.1)

/-- Sink service: ALIGNED-DATA-COPY accepts in every cooperative cycle; before it a header word moves. -/
theorem packetizer_accMeasure (c : PkCfg) (ha : c.aligned = true) (hW : 1 ≤ c.W) :
    AccMeasure (packetizer c) (hdrInv c) (hdrMu c) c.W where
  inv_step := packetizer_hdrInv_step c ha hW
  bound s _ := hdrMu_le c s
  dec s i hs hc := by
    by_cases hst : s.st = .acopy
    · have hr : ((packetizer c).out s i).ready = true := by
        rw [packetizer_out_acopy c s i hst]; simp only [hc.1, hc.2, Bool.and_self]
      exact Or.inl (accNow_pos hc.1 hr)
    · have e := packetizer_ctl c ha s i hs.1
      rw [hc.1, hc.2] at e
      exact Or.inr (hdrMu_of_ctl hW hs hst e)

/-- The unaligned copy state, the only one `FirstBeatHeld` speaks of, is never entered. -/
theorem packetizer_stepStable (c : PkCfg) (ha : c.aligned = true) : StepStable (packetizer c) pkInv where
  inv_step := packetizer_inv_step c ha
  hold s i i' hs hin := (packetizer_stepStableX c).hold s i i' trivial hin (fun h => absurd h hs)

theorem packetizer_measure (c : PkCfg) (ha : c.aligned = true) :
    DelMeasure (packetizer c) pkInv (fun _ => 0) 0 where
  inv_step := packetizer_inv_step c ha
  bound _ _ := Nat.le_refl _
  dec s i _ hc := (packetizer_measure_all c).dec s i trivial hc

/-- `sink_d` does not exist (its `last` stays 0). -/
def dpInv (c : PkCfg) (s : PkState) : Prop := hdrInv c s ∧ s.dLast = false

theorem dpInv_init (c : PkCfg) : dpInv c (depacketizer c).init :=
  ⟨⟨fun h => PkSt.noConfusion h, fun h => PkSt.noConfusion h⟩, rfl⟩

/-- A header word moves with every sink beat offered in IDLE / HEADER-RECEIVE. -/
theorem depacketizer_ctl (c : PkCfg) (ha : c.aligned = true) (s : PkState) (i : In Nat) (h : pkInv s) :
    (((depacketizer c).step s i).st, ((depacketizer c).step s i).count) =
      hdrCtl c s.st s.count i.valid ((i.valid || s.dLast) && i.ready && (i.tok.last || s.dLast)) ∧
    ((depacketizer c).step s i).dLast = s.dLast := by
  have hcp : c.copy = .acopy := by simp [PkCfg.copy, ha]
  obtain ⟨st, sr, n, fi, dd, dl⟩ := s
  cases st
  · -- IDLE: the first header word is taken as soon as it is offered; `count := 1` always
    rw [depacketizer_step_idle c _ i rfl]
    cases hv : i.valid <;> simp [hdrCtl, hcp, hv, ha]
  · -- HEADER-RECEIVE: every offered word is taken
    rw [depacketizer_step_hdr c _ i rfl]
    cases hv : i.valid <;> cases hl : (n + 1 == c.W) <;> simp [hdrCtl, hcp, hv, hl, ha]
  · -- ALIGNED-DATA-COPY: back to IDLE with the last beat; `sink_d` is never loaded (aligned)
    rw [depacketizer_step_acopy c _ i rfl]
    cases ((i.valid || dl) && i.ready && (i.tok.last || dl)) <;> simp [hdrCtl, ha]
  · exact absurd rfl h

theorem depacketizer_inv_step (c : PkCfg) (ha : c.aligned = true) (hW : 1 ≤ c.W) (s : PkState) (i : In Nat)
    (h : dpInv c s) : dpInv c ((depacketizer c).step s i) :=
  have e := depacketizer_ctl c ha s i h.1.1
  ⟨hdrInv_of_ctl hW h.1 e.1, e.2.trans h.2⟩

/-- Only ALIGNED-DATA-COPY offers, combinationally from the refused — hence held — sink token. -/
theorem depacketizer_stepStable (c : PkCfg) (ha : c.aligned = true) (hW : 1 ≤ c.W) :
    StepStable (depacketizer c) (dpInv c) where
  inv_step := depacketizer_inv_step c ha hW
  hold s i i' hs hin hv hr := by
    obtain ⟨⟨h1, _⟩, h2⟩ := hs
    cases hst : s.st with
    | ucopy => exact absurd hst h1
    | idle => rw [depacketizer_out_idle c s i hst] at hv; cases hv
    | hdr => rw [depacketizer_out_hdr c s i hst] at hv; cases hv
    | acopy =>
      have hstep : (depacketizer c).step s i = s := by
        rw [depacketizer_step_acopy c s i hst]; simp [PkState.latch, hr, ha]
      rw [hstep, depacketizer_out_acopy c s i hst] at *
      rw [depacketizer_out_acopy c s i' hst]
      have hiv : i.valid = true := by simpa [h2] using hv
      obtain ⟨h3, h4⟩ := hin hiv hr
      rw [h3, h4]
      exact ⟨rfl, rfl⟩

theorem depacketizer_measure (c : PkCfg) (ha : c.aligned = true) (hW : 1 ≤ c.W) :
    DelMeasure (depacketizer c) (dpInv c) (hdrMu c) c.W where
  inv_step := depacketizer_inv_step c ha hW
  bound s _ := hdrMu_le c s
  dec s i hs hc := by
    by_cases hst : s.st = .acopy
    · have hv : ((depacketizer c).out s i).valid = true := by
        rw [depacketizer_out_acopy c s i hst]; simp only [hc.1, Bool.true_or]
      exact Or.inl (delNow_pos hv hc.2)
    · have e := (depacketizer_ctl c ha s i hs.1.1).1
      rw [hc.1] at e
      exact Or.inr (hdrMu_of_ctl hW hs.1 hst e)

end Litex.Packet
