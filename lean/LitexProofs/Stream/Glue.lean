import LitexModel.Stream.Glue
import LitexProofs.Stream.Pipe
/-
  The glue models of `LitexModel/Stream/Glue.lean`: pipelines of a list of identity-typed stages, the capacities of the
  stage selections of Buffer / SyncFIFO / Delay / BufferizeEndpoints, the Converter class selection, the Monitor
  counters.
-/
namespace Litex.Stream
open Elem
variable {α β : Type}

def stageInflight : (st : Stage) → StageState α st → List (Tok α)
  | .wire, _ => []
  | .pv, s => PVState.inflight s
  | .pr, s => PRState.inflight s
  | .fifo _, s => s
  | .fifoB _, s => FBState.inflight s

def stageInv : (st : Stage) → StageState α st → Prop
  | .wire, _ => True
  | .pv, _ => True
  | .pr, s => prInv s
  | .fifo d, s => fifoInv d s
  | .fifoB d, s => fbInv d s

/-- Each case type-checks because `stageInv`, `stageInflight`, `stageCap` unfold to literally the invariant, token list
    and capacity of the element's own lemma (whoever changes one of those changes the table with it). -/
theorem stage_queue (z : Tok α) : ∀ st, Queue (stageElem z st) (stageInv st) (stageInflight st) (stageCap st)
  | .wire => wire_queue
  | .pv => pipeValid_queue z
  | .pr => pipeReady_queue z
  | .fifo d => syncFifo_queue d z
  | .fifoB d => syncFifoBuffered_queue d z

/-- Tokens inside a pipeline, oldest (closest to the source) first. -/
def pipeInflight : (l : List Stage) → PipeState α l → List (Tok α)
  | [], _ => []
  | st :: l, s => pipeInflight l s.2 ++ stageInflight st s.1

def pipeInv : (l : List Stage) → PipeState α l → Prop
  | [], _ => True
  | st :: l, s => stageInv st s.1 ∧ pipeInv l s.2

theorem stages_queue (z : Tok α) : ∀ l, Queue (stages z l) (pipeInv l) (pipeInflight l) (stagesCap l)
  | [] => wire_queue
  | st :: l => by
    have h := (stage_queue z st).comp (stages_queue z l)
    rwa [show stagesCap l + stageCap st = stagesCap (st :: l) by simp [stagesCap, Nat.add_comm]] at h

theorem pipeInv_init (z : Tok α) (l : List Stage) : pipeInv l (stages z l).init := (stages_queue z l).inv_init

theorem stagesCap_append (l1 l2 : List Stage) : stagesCap (l1 ++ l2) = stagesCap l1 + stagesCap l2 := by
  simp [stagesCap]

theorem stagesCap_buffer (pv pr : Bool) : stagesCap (bufferStages pv pr) = pv.toNat + pr.toNat := by
  cases pv <;> cases pr <;> rfl

theorem stagesCap_optBuffer (b pv pr : Bool) :
    stagesCap (if b then bufferStages pv pr else []) = if b then pv.toNat + pr.toNat else 0 := by
  cases b
  · rfl
  · simpa using stagesCap_buffer pv pr

theorem stagesCap_syncFifo (depth : Nat) (buffered : Bool) :
    stagesCap (syncFifoStages depth buffered) = depth + (if buffered && decide (2 ≤ depth) then 1 else 0) := by
  unfold syncFifoStages
  by_cases h2 : depth ≥ 2
  · cases buffered <;> simp [h2, stagesCap, stageCap]
  · by_cases h1 : depth = 1
    · subst h1; cases buffered <;> simp [stagesCap, stageCap, bufferStages]
    · have : depth = 0 := by omega
      subst this; cases buffered <;> simp [stagesCap]

theorem delayStages_eq (n : Nat) : delayStages n = List.replicate n Stage.pv := by
  induction n with
  | zero => rfl
  | succ n ih =>
    simp only [delayStages, List.replicate_succ, List.flatten_cons] at ih ⊢
    rw [ih]; rfl

theorem stagesCap_delay (n : Nat) : stagesCap (delayStages n) = n := by
  rw [delayStages_eq]; simp [stagesCap, stageCap]

theorem two_le_div (a b : Nat) (hlt : b < a) (hd : a / b * b = a) : 2 ≤ a / b := by
  rcases Nat.lt_or_ge (a / b) 2 with h | h
  · have h1 : a / b * b ≤ 1 * b := Nat.mul_le_mul_right _ (by omega)
    rw [hd, Nat.one_mul] at h1
    omega
  · exact h

theorem converterKind_spec (nf nt : Nat) (hf : 0 < nf) (ht : 0 < nt) :
    match converterKind nf nt with
    | some (.down, r) => nf = r * nt ∧ 2 ≤ r
    | some (.up, r) => nt = r * nf ∧ 2 ≤ r
    | some (.ident, r) => nf = nt ∧ r = 1
    | none => ¬ (nt ∣ nf) ∧ ¬ (nf ∣ nt) := by
  unfold converterKind
  by_cases h1 : nf > nt
  · by_cases h2 : nf % nt = 0
    · simp only [h1, if_true, h2, bne_self_eq_false, Bool.false_eq_true, if_false]
      have hd := Nat.div_mul_cancel (Nat.dvd_of_mod_eq_zero h2)
      exact ⟨hd.symm, two_le_div nf nt h1 hd⟩
    · have hb : (nf % nt != 0) = true := by simp [h2]
      simp only [h1, if_true, hb]
      refine ⟨fun hd => h2 (Nat.mod_eq_zero_of_dvd hd), fun hd => ?_⟩
      have := Nat.le_of_dvd ht hd
      omega
  · by_cases h3 : nf < nt
    · by_cases h2 : nt % nf = 0
      · simp only [h1, if_false, h3, if_true, h2, bne_self_eq_false, Bool.false_eq_true]
        have hd := Nat.div_mul_cancel (Nat.dvd_of_mod_eq_zero h2)
        exact ⟨hd.symm, two_le_div nt nf h3 hd⟩
      · have hb : (nt % nf != 0) = true := by simp [h2]
        simp only [h1, if_false, h3, if_true, hb]
        refine ⟨fun hd => ?_, fun hd => h2 (Nat.mod_eq_zero_of_dvd hd)⟩
        have := Nat.le_of_dvd hf hd
        omega
    · simp only [h1, if_false, h3]
      exact ⟨by omega, trivial⟩

/-- One cycle of the specification of a counter pair `(count, latched)` under `(reset, latch, enable)`:
    `count` = number of `enable` cycles since the last `reset`, saturated at `2^w - 1`;
    `latched` = the value `count` had just before the last `latch` cycle (0 after a reset). -/
def monSpecStep (w : Nat) (c : Nat × Nat) (x : Bool × Bool × Bool) : Nat × Nat :=
  (if x.1 then 0 else if x.2.2 then min (c.1 + 1) (2 ^ w - 1) else c.1,
   if x.1 then 0 else if x.2.1 then c.1 else c.2)

/-- Specification after a history of `(reset, latch, enable)` cycles, oldest first. -/
def monSpec (w : Nat) (h : List (Bool × Bool × Bool)) : Nat × Nat := h.foldl (monSpecStep w) (0, 0)

def monRun (w : Nat) (s : MonCtr) : List (Bool × Bool × Bool) → MonCtr
  | [] => s
  | x :: xs => monRun w (monCounterNext w s x.1 x.2.1 x.2.2) xs

theorem monRun_append (w : Nat) (s : MonCtr) (xs ys : List (Bool × Bool × Bool)) :
    monRun w s (xs ++ ys) = monRun w (monRun w s xs) ys := by
  induction xs generalizing s with
  | nil => rfl
  | cons x xs ih => simp [monRun, ih]

theorem monNext_spec (w : Nat) (s : MonCtr) (x : Bool × Bool × Bool) (hb : s.count ≤ 2 ^ w - 1) :
    ((monCounterNext w s x.1 x.2.1 x.2.2).count, (monCounterNext w s x.1 x.2.1 x.2.2).latched) =
      monSpecStep w (s.count, s.latched) x ∧ (monCounterNext w s x.1 x.2.1 x.2.2).count ≤ 2 ^ w - 1 := by
  obtain ⟨xr, xl, xe⟩ := x
  have hp : 0 < 2 ^ w := Nat.two_pow_pos w
  by_cases hs : s.count = 2 ^ w - 1
  · cases xr <;> cases xl <;> cases xe <;> simp [monCounterNext, monSpecStep, hs]
  · have hlt : s.count + 1 < 2 ^ w := by omega
    have hmin : min (s.count + 1) (2 ^ w - 1) = s.count + 1 := by omega
    cases xr <;> cases xl <;> cases xe <;>
      simp [monCounterNext, monSpecStep, hs, Nat.mod_eq_of_lt hlt, hmin] <;> omega

theorem monRun_spec_from (w : Nat) : ∀ (h : List (Bool × Bool × Bool)) (s : MonCtr), s.count ≤ 2 ^ w - 1 →
    ((monRun w s h).count, (monRun w s h).latched) = h.foldl (monSpecStep w) (s.count, s.latched)
  | [], _, _ => rfl
  | x :: xs, s, hb => by
    obtain ⟨h1, h2⟩ := monNext_spec w s x hb
    rw [monRun, List.foldl_cons, ← h1]
    exact monRun_spec_from w xs _ h2

theorem monCounter_spec (w : Nat) (h : List (Bool × Bool × Bool)) :
    (monRun w monCtr0 h).count = (monSpec w h).1 ∧ (monRun w monCtr0 h).latched = (monSpec w h).2 := by
  have := monRun_spec_from w h monCtr0 (by simp [monCtr0])
  exact ⟨congrArg Prod.fst this, congrArg Prod.snd this⟩

/-- The CSR status is the latched value of two cycles ago. -/
theorem monCounter_status (w : Nat) (h : List (Bool × Bool × Bool)) (x y : Bool × Bool × Bool) :
    (monRun w monCtr0 (h ++ [x, y])).m1 = (monSpec w h).2 := by
  rw [monRun_append]
  simp only [monRun, monCounterNext]
  exact (monCounter_spec w h).2


theorem monRun_count_le_from (w : Nat) : ∀ (h : List (Bool × Bool × Bool)) (s : MonCtr), s.count ≤ 2 ^ w - 1 →
    (monRun w s h).count ≤ 2 ^ w - 1
  | [], _, hb => hb
  | x :: xs, s, hb => monRun_count_le_from w xs _ (monNext_spec w s x hb).2

theorem monRun_count_le (w : Nat) (h : List (Bool × Bool × Bool)) : (monRun w monCtr0 h).count ≤ 2 ^ w - 1 :=
  monRun_count_le_from w h monCtr0 (by simp [monCtr0])

theorem monSpecStep_plain (w c l : Nat) (e : Bool) :
    monSpecStep w (c, l) (false, false, e) = (if e then min (c + 1) (2 ^ w - 1) else c, l) := by
  cases e <;> simp [monSpecStep]

theorem monSpec_count_from (w : Nat) : ∀ (es : List Bool) (c l : Nat), c + es.length ≤ 2 ^ w - 1 →
    ((es.map fun e => ((false, false, e) : Bool × Bool × Bool)).foldl (monSpecStep w) (c, l)).1 =
      c + (es.filter id).length
  | [], c, l, _ => by simp
  | e :: es, c, l, hb => by
    simp only [List.length_cons] at hb
    rw [List.map_cons, List.foldl_cons, monSpecStep_plain]
    cases e
    · rw [if_neg (by simp), monSpec_count_from w es c _ (by omega)]
      simp
    · have hm : min (c + 1) (2 ^ w - 1) = c + 1 := by omega
      rw [if_pos rfl, hm, monSpec_count_from w es (c + 1) _ (by omega)]
      simp
      omega

/-- One counter slot `get` of the monitor, driven by the cycle-wise enable `f`: a requested counter is `monRun` over
    the cycles seen, an absent one keeps its registers. -/
theorem monitor_slot (w : Nat) (cfg : MonCfg) (df : Bool) (get : MonState → MonCtr) (en : Bool) (f : MonIn → Bool)
    (hget : ∀ s i, get ((monitor w cfg df).next s i) = monOpt en w (get s) i.reset i.latch (f i)) :
    ∀ (ins : List MonIn) (s : MonState),
      (en = true → get ((monitor w cfg df).runFrom s ins) =
        monRun w (get s) (ins.map fun i => (i.reset, i.latch, f i))) ∧
      (en = false → get ((monitor w cfg df).runFrom s ins) = get s)
  | [], _ => ⟨fun _ => rfl, fun _ => rfl⟩
  | i :: is, s => by
    obtain ⟨h1, h2⟩ := monitor_slot w cfg df get en f hget is ((monitor w cfg df).next s i)
    rw [hget] at h1 h2
    refine ⟨fun h => ?_, fun h => ?_⟩
    · rw [Machine.runFrom, h1 h, monOpt, if_pos h]; rfl
    · rw [Machine.runFrom, h2 h, monOpt, if_neg (h ▸ Bool.false_ne_true)]

end Litex.Stream
