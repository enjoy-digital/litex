import LitexModel.Stream.Basic
import LitexProofs.Stream.Sim
/-
  The basic stream elements as queues (`Elem.Queue`): state invariant, tokens inside, token balance of one cycle (for
  register elements a finite computation on the control bits).  Stability and progress (`HandshakeBasic.lean`) rest on
  the same invariants.
-/
namespace Litex.Stream
open Elem
variable {α : Type}

theorem wire_queue : Queue (wire (α := α)) (fun _ => True) (fun _ => []) 0 where
  inv_init := trivial
  fl_init := rfl
  inv_step _ _ _ := trivial
  balance _ i _ := by obtain ⟨iv, it, ir⟩ := i; cases iv <;> cases ir <;> rfl
  bound _ _ := Nat.le_refl _

def PVState.inflight (s : PVState α) : List (Tok α) := if s.valid then [s.tok] else []

theorem PVState.inflight_length_le (s : PVState α) : s.inflight.length ≤ 1 := by
  unfold PVState.inflight; split <;> simp

theorem pipeValid_queue (z : Tok α) : Queue (pipeValid z) (fun _ => True) PVState.inflight 1 where
  inv_init := trivial
  fl_init := rfl
  inv_step _ _ _ := trivial
  balance s i _ := by
    obtain ⟨sv, st⟩ := s
    obtain ⟨iv, it, ir⟩ := i
    cases sv <;> cases iv <;> cases ir <;> rfl
  bound s _ := s.inflight_length_le

def PRState.inflight (s : PRState α) : List (Tok α) := if s.valid then [s.dtok] else []

theorem PRState.inflight_length_le (s : PRState α) : s.inflight.length ≤ 1 := by
  unfold PRState.inflight; split <;> simp

/-- A parked token is a valid one. -/
def prInv (s : PRState α) : Prop := s.valid = true → s.dvalid = true

theorem prInv_init (z : Tok α) : prInv (pipeReady z).init := fun h => Bool.noConfusion h

theorem pipeReady_inv_step (z : Tok α) (s : PRState α) (i : In α) (h : prInv s) :
    prInv ((pipeReady z).step s i) := by
  show (if (i.valid && !i.ready) = true then true else if i.ready = true then false else s.valid) = true →
    (if (!i.ready && !s.valid) = true then i.valid else s.dvalid) = true
  cases i.ready with
  | true => simp
  | false =>
    cases hs : s.valid with
    | true => simpa using h hs
    | false => cases i.valid <;> simp

theorem pipeReady_queue (z : Tok α) : Queue (pipeReady z) prInv PRState.inflight 1 where
  inv_init := prInv_init z
  fl_init := rfl
  inv_step := pipeReady_inv_step z
  balance s i h := by
    obtain ⟨sv, sdv, st⟩ := s
    obtain ⟨iv, it, ir⟩ := i
    cases sv
    · cases iv <;> cases ir <;> rfl
    · -- a parked token is valid (`prInv`): it is the one delivered
      cases h rfl
      cases iv <;> cases ir <;> rfl
  bound s _ := s.inflight_length_le

theorem popPush_length_le {β : Type} (q : List β) (t : β) (pop push : Bool) {depth : Nat} (h : q.length ≤ depth)
    (hw : push = true → q.length ≠ depth) :
    ((if pop then q.tail else q) ++ if push then [t] else []).length ≤ depth := by
  cases pop <;> cases push <;> simp at hw ⊢ <;> omega

theorem bufPop_nil {β : Type} (q : List β) (v re : Bool)
    (h : (if (!q.isEmpty && (!v || re)) = true then true else if re = true then false else v) = false) :
    (if (!q.isEmpty && (!v || re)) = true then q.tail else q) = [] := by
  cases q <;> cases v <;> cases re <;> simp at h ⊢

def fifoInv (depth : Nat) (q : List (Tok α)) : Prop := q.length ≤ depth

theorem fifoInv_init (depth : Nat) (z : Tok α) : fifoInv depth (syncFifo depth z).init := Nat.zero_le _

theorem syncFifo_step_queue (depth : Nat) (z : Tok α) (q : List (Tok α)) (i : In α) :
    (syncFifo depth z).step q i =
      (if (!q.isEmpty && i.ready) = true then q.tail else q) ++
      (if (i.valid && q.length != depth) = true then [i.tok] else []) := by
  show (if (i.valid && q.length != depth) = true then _ ++ [i.tok] else _) = _
  split <;> simp

theorem syncFifo_inv_step (depth : Nat) (z : Tok α) (q : List (Tok α)) (i : In α) (h : fifoInv depth q) :
    fifoInv depth ((syncFifo depth z).step q i) := by
  unfold fifoInv at *
  rw [syncFifo_step_queue]
  exact popPush_length_le _ _ _ _ h (by simp)

theorem syncFifo_queue (depth : Nat) (z : Tok α) : Queue (syncFifo depth z) (fifoInv depth) id depth where
  inv_init := fifoInv_init depth z
  fl_init := rfl
  inv_step := syncFifo_inv_step depth z
  balance q i _ := by
    obtain ⟨iv, it, ir⟩ := i
    show q ++ _ = _ ++ (syncFifo depth z).step q _
    -- what is pushed is what is accepted; what is popped is what is delivered
    rw [syncFifo_step_queue, ← List.append_assoc]
    congr 1
    cases q <;> cases ir <;> rfl
  bound _ h := h

def FBState.inflight (s : FBState α) : List (Tok α) := (if s.readable then [s.dout] else []) ++ s.q

/-- Occupancy bound, and: while the output register is empty the inner FIFO holds at most one word (the inner
    read port fires as soon as the register is free). -/
def fbInv (depth : Nat) (s : FBState α) : Prop :=
  s.q.length ≤ depth ∧ (s.readable = false → s.q.length ≤ 1)

theorem fbInv_init (depth : Nat) (z : Tok α) : fbInv depth (syncFifoBuffered depth z).init :=
  ⟨Nat.zero_le _, fun _ => Nat.zero_le _⟩

theorem syncFifoBuffered_step_q (depth : Nat) (z : Tok α) (s : FBState α) (i : In α) :
    ((syncFifoBuffered depth z).step s i).q =
      (if (!s.q.isEmpty && (!s.readable || i.ready)) = true then s.q.tail else s.q) ++
      (if (i.valid && s.q.length != depth) = true then [i.tok] else []) := by
  show (if (i.valid && s.q.length != depth) = true then _ ++ [i.tok] else _) = _
  split <;> simp

theorem syncFifoBuffered_q_le (depth : Nat) (z : Tok α) (s : FBState α) (i : In α) (h : s.q.length ≤ depth) :
    ((syncFifoBuffered depth z).step s i).q.length ≤ depth := by
  rw [syncFifoBuffered_step_q]
  exact popPush_length_le _ _ _ _ h (by simp)

theorem syncFifoBuffered_inv_step (depth : Nat) (z : Tok α) (s : FBState α) (i : In α)
    (h : fbInv depth s) : fbInv depth ((syncFifoBuffered depth z).step s i) := by
  refine ⟨syncFifoBuffered_q_le depth z s i h.1, fun h' => ?_⟩
  -- the register stays empty only if nothing could be read: the inner FIFO was empty
  rw [syncFifoBuffered_step_q, bufPop_nil s.q s.readable i.ready h']
  split <;> simp

theorem syncFifoBuffered_balance (depth : Nat) (z : Tok α) (s : FBState α) (i : In α) :
    s.inflight ++ (syncFifoBuffered depth z).accNow s i =
      (syncFifoBuffered depth z).delNow s i ++ ((syncFifoBuffered depth z).step s i).inflight := by
  obtain ⟨q, rd, dout⟩ := s
  obtain ⟨iv, it, ir⟩ := i
  show (_ ++ q) ++ _ = _ ++ (_ ++ ((syncFifoBuffered depth z).step _ _).q)
  rw [syncFifoBuffered_step_q, ← List.append_assoc, ← List.append_assoc]
  congr 1
  cases q <;> cases rd <;> cases ir <;> rfl

theorem syncFifoBuffered_queue (depth : Nat) (z : Tok α) :
    Queue (syncFifoBuffered depth z) (fbInv depth) FBState.inflight (depth + 1) where
  inv_init := fbInv_init depth z
  fl_init := rfl
  inv_step := syncFifoBuffered_inv_step depth z
  balance s i _ := syncFifoBuffered_balance depth z s i
  bound s h := by
    have := h.1
    unfold FBState.inflight
    split <;> simp <;> omega

end Litex.Stream
