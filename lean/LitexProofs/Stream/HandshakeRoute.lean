import LitexProofs.Stream.Route
import LitexProofs.Stream.Handshake
import LitexProofs.Lists
/-
  C04 for the selection-based routers of `LitexModel/Stream/Route.lean`.  `Multiplexer` / `Demultiplexer` are *designed*
  to retract when the selector moves, so their contract theorems carry the explicit hypothesis "the selector is held
  while a token waits" next to the producer contract of the (selected) sink.  For `Gate` and `Crossbar` (the container's
  Demultiplexer feeding its Multiplexer) the control inputs travel with the sink-side wires (token data = (payload,
  enable) resp. (payload, demux.sel, mux.sel)), so the producer contract covers them: while a token is refused, payload
  and controls are held.
-/
namespace Litex.Stream
variable {α : Type}

theorem getD_map_range {β : Type} (n k : Nat) (f : Nat → β) (d : β) (h : k < n) :
    ((List.range n).map f).getD k d = f k := by
  simp [List.getD, h]

/-- `hsel`: the selector is held while a token waits at the source.  `hprod`: every sink's producer keeps the
    contract (a refused token is offered again). -/
theorem mux_hold (n : Nat) (z : Tok α) (i i' : MuxIn α)
    (hsel : (muxOut n z i).valid = true → i.ready = false → i'.sel = i.sel)
    (hprod : ∀ k, (i.sinks.getD k (false, z)).1 = true → (muxOut n z i).readies.getD k false = false →
      i'.sinks.getD k (false, z) = (true, (i.sinks.getD k (false, z)).2)) :
    (muxOut n z i).valid = true → i.ready = false →
      ((muxOut n z i').valid = true ∧ (muxOut n z i').tok = (muxOut n z i).tok) := by
  intro hv hr
  have hs := hsel hv hr
  by_cases hlt : i.sel < n
  · have hv' : (i.sinks.getD i.sel (false, z)).1 = true := by simpa [muxOut, hlt] using hv
    have hrd : (muxOut n z i).readies.getD i.sel false = false := by
      simp only [muxOut, hlt, if_true]
      rw [getD_map_range n i.sel _ false hlt]
      simp [hr]
    have hp := hprod i.sel hv' hrd
    simp only [muxOut, hlt, if_true, hs, hp]
    simp
  · simp [muxOut, hlt] at hv

/-- At any source `k`.  `hsel`: the selector is held while the sink token is refused.  `hprod`: the sink's producer
    keeps the contract. -/
theorem demux_hold (n : Nat) (z : Tok α) (i i' : DemuxIn α) (k : Nat)
    (hsel : i.valid = true → (demuxOut n z i).ready = false → i'.sel = i.sel)
    (hprod : i.valid = true → (demuxOut n z i).ready = false → (i'.valid = true ∧ i'.tok = i.tok)) :
    ((demuxOut n z i).sources.getD k (false, z)).1 = true → i.readies.getD k false = false →
      (((demuxOut n z i').sources.getD k (false, z)).1 = true ∧
       ((demuxOut n z i').sources.getD k (false, z)).2 = ((demuxOut n z i).sources.getD k (false, z)).2) := by
  intro hv hr
  by_cases hk : k < n
  · simp only [demuxOut] at hv ⊢
    rw [getD_map_range n k _ _ hk] at hv ⊢
    rw [getD_map_range n k _ _ hk]
    by_cases hks : k = i.sel
    · subst hks
      simp only [beq_self_eq_true, if_true] at hv ⊢
      have hnr : (demuxOut n z i).ready = false := by
        simp only [demuxOut, hr]; simp
      have hs := hsel hv hnr
      obtain ⟨h1, h2⟩ := hprod hv hnr
      simp [hs, h1, h2]
    · have : (k == i.sel) = false := by simpa using hks
      simp [this] at hv
  · simp only [demuxOut] at hv
    rw [getD_range_map, if_neg hk] at hv
    simp at hv

open Elem

theorem gate_stepStable (srd : Bool) (z : α) : StepStable (gate srd z) (fun _ => True) where
  inv_step _ _ _ := trivial
  hold s i i' _ hin := by
    obtain ⟨iv, ⟨⟨ip, ie⟩, ifi, ila⟩, ir⟩ := i
    obtain ⟨jv, jt, jr⟩ := i'
    intro hv hr
    simp only [gate, Elem.out, HoldsIn] at *
    cases ie with
    | false => simp at hv
    | true =>
      simp only [if_true] at hv hin ⊢
      subst hv; subst hr
      obtain ⟨h1, h2⟩ := hin rfl rfl
      subst h1; subst h2
      simp

/-- The two roles at a gate separated: the producer re-offers valid/payload/first/last of a refused token
    (`GateHoldsIn`, nothing asked of `enable`); whoever drives `enable` holds it while a token waits at the *source*
    (`EnableHeld`). -/
def GateHoldsIn (i i' : In (α × Bool)) (sinkReady : Bool) : Prop :=
  i.valid = true → sinkReady = false →
    (i'.valid = true ∧ i'.tok.data.1 = i.tok.data.1 ∧ i'.tok.first = i.tok.first ∧ i'.tok.last = i.tok.last)

def EnableHeld (i i' : In (α × Bool)) (o : Out α) : Prop :=
  o.valid = true → i.ready = false → i'.tok.data.2 = i.tok.data.2

def GateCoop (i : In (α × Bool)) : Prop := Coop i ∧ i.tok.data.2 = true

theorem gate_del_now (srd : Bool) (z : α) (s : Unit) (i : In (α × Bool)) (hc : GateCoop i) :
    1 ≤ ((gate srd z).delNow s i).length := by
  have hv : ((gate srd z).out s i).valid = true := by
    show (if i.tok.data.2 = true then (i.valid, _) else _).1 = true
    rw [if_pos hc.2]; exact hc.1.1
  exact delNow_pos hv hc.1.2

/-- Routed, the crossbar is a wire; otherwise it is closed (`crossbar_out`, `Route.lean`). -/
theorem crossbar_stepStable (n : Nat) (z : α) : StepStable (crossbar n z) (fun _ => True) where
  inv_step _ _ _ := trivial
  hold s i i' _ hin hv hr := by
    rcases crossbar_out n z s i with ⟨h1, h2, ho⟩ | ⟨_, _, hnv⟩
    · rw [ho] at hv hin ⊢
      obtain ⟨hv', ht⟩ := hin hv hr
      rcases crossbar_out n z ((crossbar n z).step s i) i' with ⟨_, _, ho'⟩ | ⟨hn, _, _⟩
      · rw [ho', hv', ht]; exact ⟨rfl, rfl⟩
      · exact absurd (ht ▸ ⟨h1, h2⟩) hn
    · rw [hnv] at hv; cases hv

def XbarCoop (n : Nat) (i : In (α × Nat × Nat)) : Prop :=
  Coop i ∧ i.tok.data.2.2 = i.tok.data.2.1 ∧ i.tok.data.2.2 < n

theorem crossbar_del_now (n : Nat) (z : α) (s : Unit) (i : In (α × Nat × Nat)) (hc : XbarCoop n i) :
    1 ≤ ((crossbar n z).delNow s i).length := by
  rcases crossbar_out n z s i with ⟨_, _, ho⟩ | ⟨hn, _, _⟩
  · exact delNow_pos (by rw [ho]; exact hc.1.1) hc.1.2
  · exact absurd ⟨hc.2.1.symm, hc.2.1 ▸ hc.2.2⟩ hn

end Litex.Stream
