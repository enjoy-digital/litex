import LitexProofs.Stream.Layout
/-
  `Cast` with `reverse_from` / `reverse_to` as a bit permutation: `castFn` has a two-sided inverse, namely the
  cast in the opposite direction with the two flags swapped.
-/
namespace Litex.Stream
open Litex

/-- `Cat(*sigs)` of the (possibly reversed) signal list of a layout. -/
def castPack (r : Bool) (ws : List Nat) (x : Nat) : Nat := cat ((phys r ws).zip (phys r (fieldsOf ws x)))

/-- The (possibly reversed) signal list of a layout assigned from raw bits, read back in layout order. -/
def castUnpack (r : Bool) (ws : List Nat) (raw : Nat) : Nat := cat (ws.zip (phys r (fieldsOf (phys r ws) raw)))

theorem castFn_eq (rf rt : Bool) (wf wt : List Nat) (x : Nat) :
    castFn rf rt wf wt x = castUnpack rt wt (castPack rf wf x) := rfl

/-- `cat` truncates every value to its width anyway. -/
theorem cat_zip_mod : ∀ (ws vs : List Nat), cat (ws.zip ((ws.zip vs).map modPair)) = cat (ws.zip vs)
  | [], _ => by simp [cat]
  | _ :: _, [] => by simp [cat]
  | w :: ws, v :: vs => by
    simp only [List.zip_cons_cons, List.map_cons, cat_cons, modPair, Nat.mod_mod, cat_zip_mod ws vs]

theorem fieldsOf_cat (ws vs : List Nat) (h : vs.length = ws.length) :
    fieldsOf ws (cat (ws.zip vs)) = (ws.zip vs).map modPair := by
  have := slices_cat_go (ws.zip vs) 0 0 (Nat.two_pow_pos 0)
  rw [List.map_fst_zip (Nat.le_of_eq h.symm)] at this
  simpa [fieldsOf, fieldPos] using this

theorem reverse_zip' {α β : Type} (l : List α) (l' : List β) (h : l.length = l'.length) :
    (l.zip l').reverse = l.reverse.zip l'.reverse := by
  rw [List.zip_eq_zipWith, List.zip_eq_zipWith, List.reverse_zipWith h]

theorem phys_zip_map (r : Bool) (ws vs : List Nat) (h : vs.length = ws.length) :
    phys r ((ws.zip vs).map modPair) = ((phys r ws).zip (phys r vs)).map modPair := by
  cases r
  · rfl
  · simp only [phys, if_true]
    rw [← List.map_reverse, reverse_zip' ws vs h.symm]

theorem castPack_unpack (r : Bool) (ws : List Nat) (raw : Nat) :
    castPack r ws (castUnpack r ws raw) = raw % 2 ^ sumW ws := by
  unfold castPack castUnpack
  rw [fieldsOf_cat ws _ (by simp), phys_zip_map r ws _ (by simp), cat_zip_mod, phys_phys, cat_fieldsOf, sumW_phys]

theorem castUnpack_pack (r : Bool) (ws : List Nat) (x : Nat) :
    castUnpack r ws (castPack r ws x) = x % 2 ^ sumW ws := by
  unfold castPack castUnpack
  rw [fieldsOf_cat (phys r ws) _ (by simp), phys_zip_map r (phys r ws) (phys r (fieldsOf ws x)) (by simp),
    phys_phys, phys_phys, cat_zip_mod, cat_fieldsOf]

theorem catWidth_zip : ∀ (a b : List Nat), b.length = a.length → catWidth (a.zip b) = sumW a
  | [], _, _ => by simp [catWidth, sumW]
  | _ :: _, [], hb => by simp at hb
  | w :: ws, v :: vs, hb => by simp [catWidth, sumW, catWidth_zip ws vs (by simpa using hb)]

theorem castPack_lt (r : Bool) (ws : List Nat) (x : Nat) : castPack r ws x < 2 ^ sumW ws := by
  unfold castPack
  have h := cat_lt ((phys r ws).zip (phys r (fieldsOf ws x)))
  rwa [catWidth_zip _ _ (by simp), sumW_phys] at h

theorem castFn_lt (rf rt : Bool) (wf wt : List Nat) (x : Nat) : castFn rf rt wf wt x < 2 ^ sumW wt := by
  rw [castFn_eq]
  unfold castUnpack
  have h := cat_lt (wt.zip (phys rt (fieldsOf (phys rt wt) (castPack rf wf x))))
  rwa [catWidth_zip _ _ (by simp)] at h

theorem castFn_inverse (rf rt : Bool) (wf wt : List Nat) (hw : sumW wf = sumW wt) (x : Nat) :
    castFn rt rf wt wf (castFn rf rt wf wt x) = x % 2 ^ sumW wf := by
  rw [castFn_eq, castFn_eq, castPack_unpack, ← hw, Nat.mod_eq_of_lt (castPack_lt rf wf x), castUnpack_pack]

end Litex.Stream
