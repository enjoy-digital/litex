import LitexProofs.Packet.Packetizer
/-
  Packetizer, header NOT a multiple of the data width (`L = H % B ≠ 0`, `H ≥ B`): specification `frameU`; the flush beat
  and the source data of UNALIGNED-DATA-COPY.
-/
namespace Litex.Packet
open Litex Litex.Stream Litex.Stream.Elem

/-- The header is at least one beat long and leaves a residue of `L = H % B` bytes. -/
structure UnalignedCfg (c : PkCfg) : Prop where
  hB : 0 < c.B
  hL : c.H % c.B ≠ 0
  hH : c.B ≤ c.H

namespace UnalignedCfg
variable {c : PkCfg}

theorem L_pos (h : UnalignedCfg c) : 1 ≤ c.L := Nat.pos_of_ne_zero h.hL
theorem L_lt (h : UnalignedCfg c) : c.L < c.B := Nat.mod_lt _ h.hB

theorem W_pos (h : UnalignedCfg c) : 1 ≤ c.W := by
  rw [c.W_eq]; exact (Nat.one_le_div_iff h.hB).mpr h.hH

theorem aligned_eq (h : UnalignedCfg c) : c.aligned = false := by
  have := h.hL
  simp [PkCfg.aligned, PkCfg.L, this]

theorem copy_eq (h : UnalignedCfg c) : c.copy = .ucopy := by simp [PkCfg.copy, h.aligned_eq]

theorem dw_eq (h : UnalignedCfg c) : c.dw = 8 * c.L + (c.B - c.L) * 8 := by
  have := h.L_lt
  unfold PkCfg.dw; omega

end UnalignedCfg

/-- A beat of the realigned stream: low `L` bytes `lo`, upper `B - L` bytes the low bytes of `x`. -/
def ubeat (c : PkCfg) (lo x : Nat) : Nat := lo % 2 ^ (8 * c.L) + 2 ^ (8 * c.L) * (x % 2 ^ (c.dw - 8 * c.L))
/-- The top `L` bytes of a sink beat, carried into the next source beat. -/
def resid (c : PkCfg) (x : Nat) : Nat := x / 2 ^ ((c.B - c.L) * 8)
/-- The `L` header bytes left over after the `W` full header words. -/
def hleft (c : PkCfg) (h : Nat) : Nat := h / 2 ^ (c.W * c.dw)

/-- What one accepted beat adds to the framed stream.  `cur = none`: it starts a packet; `some prev`: `prev` is
    the data of the previous beat of the packet.  A last beat is followed by the flush beat carrying its top
    `L` bytes (its upper `B - L` bytes are padding, specified as 0 here and masked in the theorem). -/
def uChunk (c : PkCfg) (cur : Option Nat) (t : Tok HBeat) : List (Tok Nat) :=
  (match cur with
    | none => hdrWords c (hdrOf c t) ++
        [{ data := ubeat c (hleft c (hdrOf c t)) (sinkData c t), first := false, last := false }]
    | some prev => [{ data := ubeat c (resid c prev) (sinkData c t), first := false, last := false }]) ++
  (if t.last then [{ data := resid c (sinkData c t) % 2 ^ (8 * c.L), first := false, last := true }] else [])

def uNext (c : PkCfg) (t : Tok HBeat) : Option Nat := if t.last then none else some (sinkData c t)

def frameUAux (c : PkCfg) : Option Nat → List (Tok HBeat) → List (Tok Nat)
  | _, [] => []
  | cur, t :: r => uChunk c cur t ++ frameUAux c (uNext c t) r

def frameU (c : PkCfg) (a : List (Tok HBeat)) : List (Tok Nat) := frameUAux c none a

def uEnd (c : PkCfg) : Option Nat → List (Tok HBeat) → Option Nat
  | cur, [] => cur
  | _, t :: r => uEnd c (uNext c t) r

theorem frameUAux_append (c : PkCfg) (a : List (Tok HBeat)) (t : Tok HBeat) :
    ∀ cur, frameUAux c cur (a ++ [t]) = frameUAux c cur a ++ uChunk c (uEnd c cur a) t := by
  induction a with
  | nil => intro cur; simp [frameUAux, uEnd]
  | cons x r ih => intro cur; simp [frameUAux, uEnd, ih]

theorem uEnd_append (c : PkCfg) (a : List (Tok HBeat)) (t : Tok HBeat) :
    ∀ cur, uEnd c cur (a ++ [t]) = uNext c t := by
  induction a with
  | nil => intro cur; simp [uEnd]
  | cons x r ih => intro cur; simp [uEnd, ih]

/-- The padding bytes of a last beat are not specified: compare with them masked. -/
def maskPad (c : PkCfg) (t : Tok Nat) : Tok Nat := if t.last then { t with data := t.data % 2 ^ (8 * c.L) } else t

/-- The beat that ends a framed packet: the top `L` bytes of the last payload beat `x`, padding 0. -/
def flushBeat (c : PkCfg) (x : Nat) : Tok Nat :=
  { data := resid c x % 2 ^ (8 * c.L), first := false, last := true }

/-- What a beat inside a packet adds to the framed stream, with the flush beat by its name. -/
theorem uChunk_some (c : PkCfg) (prev : Nat) (t : Tok HBeat) :
    uChunk c (some prev) t = { data := ubeat c (resid c prev) (sinkData c t), first := false, last := false } ::
      (if t.last then [flushBeat c (sinkData c t)] else []) := rfl

theorem frameU_snoc (c : PkCfg) (a : List (Tok HBeat)) (t : Tok HBeat) :
    frameU c (a ++ [t]) = frameU c a ++ uChunk c (uEnd c none a) t := frameUAux_append c a t none

theorem maskPad_notlast (c : PkCfg) (x : Nat) :
    maskPad c { data := x, first := false, last := false } = { data := x, first := false, last := false } := by
  simp [maskPad]

theorem clamp_payBits (c : PkCfg) (hc : UnalignedCfg c) : min ((c.B - c.L) * 8) (c.dw - 1) = (c.B - c.L) * 8 := by
  have := hc.dw_eq; have := hc.L_pos; omega

theorem clamp_resBits (c : PkCfg) (hc : UnalignedCfg c) : max (8 * c.L) 1 = 8 * c.L := by
  have := hc.L_pos; omega

theorem clamp_dw_u (c : PkCfg) (hc : UnalignedCfg c) : min c.dw (c.hw - 1) = c.dw := by
  have h1 := c.hw_split; have h2 := hc.L_pos
  have : 1 * c.dw ≤ c.W * c.dw := Nat.mul_le_mul_right _ hc.W_pos
  omega

theorem clamp_2dw_u (c : PkCfg) (hc : UnalignedCfg c) (h2 : 2 ≤ c.W) : min (2 * c.dw) (c.hw - 1) = 2 * c.dw := by
  have h1 := c.hw_split; have h3 := hc.L_pos
  have : 2 * c.dw ≤ c.W * c.dw := Nat.mul_le_mul_right _ h2
  omega

/-- Source data in UNALIGNED-DATA-COPY on the first copy beat. -/
theorem pkUData_first (c : PkCfg) (hc : UnalignedCfg c) (s : PkState) (hfi : s.fromIdle = true) (d : Nat) :
    c.pkUData s d = ubeat c (c.srFrom ((if c.W == 1 then 1 else 2) * c.dw) s.sr) d := by
  simp [PkCfg.pkUData, clamp_resBits c hc, ubeat, hfi]

/-- … and on the following ones. -/
theorem pkUData_next (c : PkCfg) (hc : UnalignedCfg c) (s : PkState) (hfi : s.fromIdle = false) (d : Nat) :
    c.pkUData s d = ubeat c (resid c s.dData) (if s.dLast then 0 else d) := by
  cases hdl : s.dLast <;> simp [PkCfg.pkUData, clamp_resBits c hc, clamp_payBits c hc, ubeat, resid, hfi, hdl]

theorem ubeat_mask (c : PkCfg) (lo x : Nat) : ubeat c lo x % 2 ^ (8 * c.L) = lo % 2 ^ (8 * c.L) := by
  unfold ubeat
  rw [Nat.add_mul_mod_self_left, Nat.mod_mod]

theorem sr_shift2 (h dw cnt : Nat) (hc : 1 ≤ cnt) :
    h / 2 ^ ((cnt - 1) * dw) / 2 ^ (2 * dw) = h / 2 ^ ((cnt + 1) * dw) := by
  have h2 := sr_shift h dw (cnt + 1) (by omega)
  rw [Nat.add_sub_cancel] at h2
  rw [Nat.two_mul, Nat.pow_add, ← Nat.div_div_eq_div_mul, sr_shift _ _ _ hc, h2]

end Litex.Packet
