import LitexModel.Packet.Fifo
/-
  PacketFIFO: the specification functions (`annT`, `payOf`, `paramsOf`).  Every proof runs on the history relation `pfaRel`
  of the generic queue pair (`FifoAllStep.lean`); the theorems about `packetFifo` / `packetFifoBuffered` are its theorems
  read through the simulations `plain_sim` / `buffered_sim` (`FifoAll.lean`).  `pfRel` / `pfbRel` below are `pfaRel` as the
  states of these two models show it; they are the hypothesis (`pfPlainInv` / `pfBufInv`) under which the two models agree
  with the generic pair state by state (`packetFifoAll_eq_plain_out` / `_buffered_out`), and `pfRel_reach` /
  `pfbRel_reach` establish it for every state reached from reset.

  `annT a` is what the source of a correct packet FIFO delivers for the accepted beats `a`: the same beats in
  the same order (data and last unchanged, first = 0), each carrying the param that was presented with the
  *last* beat of its own packet.
-/
namespace Litex.Packet
open Litex.Stream Litex.Stream.Elem

/-- The param the packet that is open at the head of `l` will get. -/
def nextParam : List (Tok PBeat) → Option Nat
  | [] => none
  | t :: r => if t.last then some t.data.param else nextParam r

/-- The param is 0 while the last beat of the packet has not arrived. -/
def annT : List (Tok PBeat) → List (Tok PBeat)
  | [] => []
  | t :: r =>
    { data := { data := t.data.data, param := (nextParam (t :: r)).getD 0 }, first := false, last := t.last }
      :: annT r

theorem annT_length (l : List (Tok PBeat)) : (annT l).length = l.length := by
  induction l with
  | nil => rfl
  | cons t r ih => simp [annT, ih]

/-- What the payload FIFO stores of a beat. -/
def payOf (t : Tok PBeat) : Nat × Bool := (t.data.data, t.last)

/-- What the param FIFO stores of a list of beats. -/
def paramsOf : List (Tok PBeat) → List Nat
  | [] => []
  | t :: r => if t.last then t.data.param :: paramsOf r else paramsOf r

theorem paramsOf_append (l m : List (Tok PBeat)) : paramsOf (l ++ m) = paramsOf l ++ paramsOf m := by
  induction l with
  | nil => rfl
  | cons t r ih => simp only [List.cons_append, paramsOf]; split <;> simp [ih]

theorem paramsOf_ne_nil {l : List (Tok PBeat)} (h : paramsOf l ≠ []) : l ≠ [] := by
  intro hl; subst hl; exact h rfl

theorem nextParam_of_paramsOf (l ext : List (Tok PBeat)) (p : Nat) (ps : List Nat)
    (h : paramsOf l = p :: ps) : nextParam (l ++ ext) = some p := by
  induction l with
  | nil => simp [paramsOf] at h
  | cons t r ih =>
    simp only [paramsOf] at h
    simp only [List.cons_append, nextParam]
    split
    · rename_i hl; simp [hl] at h; simp [h.1]
    · rename_i hl; simp [hl] at h; exact ih h

theorem paramsOf_length (l : List (Tok PBeat)) :
    (paramsOf l).length = ((l.map payOf).filter (fun x => x.2)).length := by
  induction l with
  | nil => rfl
  | cons t r ih =>
    simp only [paramsOf, List.map_cons, List.filter_cons, payOf]
    split <;> simp_all

theorem exists_last_of_params {pay : List (Nat × Bool)} {par : List Nat}
    (h : par.length = (pay.filter (fun x => x.2)).length) (hne : par ≠ []) : ∃ x ∈ pay, x.2 = true := by
  have : 0 < (pay.filter (fun x => x.2)).length := by rw [← h]; exact List.length_pos_iff.mpr hne
  obtain ⟨x, hx⟩ := List.exists_mem_of_length_pos this
  simp only [List.mem_filter] at hx
  exact ⟨x, hx.1, hx.2⟩

/-- The history relation: the state holds exactly the accepted, not yet delivered beats `a2`, and whatever
    is accepted in the future (`ext`), the specification for everything accepted is what has been delivered
    followed by the specification for `a2 ++ ext`.  The quantifier over `ext` is needed: `annT` of a stored beat depends
    on a `last` beat that may not have arrived yet, so the relation cannot be stated on `a` alone. -/
def pfRel (s : PFState) (a d : List (Tok PBeat)) : Prop :=
  ∃ a2, s.pay = a2.map payOf ∧ s.par = paramsOf a2 ∧ ∀ ext, annT (a ++ ext) = d ++ annT (a2 ++ ext)

theorem annT_hist {a d a2 : List (Tok PBeat)} (h : ∀ ext, annT (a ++ ext) = d ++ annT (a2 ++ ext)) :
    d <+: annT a ∧ a.length = d.length + (a2.map payOf).length := by
  have h0 := h []
  simp only [List.append_nil] at h0
  refine ⟨⟨_, h0.symm⟩, ?_⟩
  simpa [annT_length] using congrArg List.length h0

theorem run_of_stuck {α β σ : Type} (e : Elem α β σ) (s : σ)
    (h : ∀ i, e.step s i = s ∧ e.accNow s i = [] ∧ e.delNow s i = []) (ins : List (In α)) :
    e.runFrom s ins = s ∧ e.accepted s ins = [] ∧ e.delivered s ins = [] := by
  induction ins with
  | nil => exact ⟨rfl, rfl, rfl⟩
  | cons i is ih =>
    obtain ⟨h1, h2, h3⟩ := h i
    simp only [Elem.runFrom_cons, Elem.accepted, Elem.delivered, h1, h2, h3, List.nil_append]
    exact ih

theorem packetFifo_stuck_step (pd qd : Nat) (s : PFState) (hfull : s.pay.length = pd) (hnone : s.par = [])
    (i : In PBeat) :
    (packetFifo pd qd).step s i = s ∧ (packetFifo pd qd).accNow s i = [] ∧
      (packetFifo pd qd).delNow s i = [] := by
  obtain ⟨pay, par⟩ := s
  simp only at hfull hnone
  subst hnone
  simp [Elem.step, Elem.accNow, Elem.delNow, Elem.out, packetFifo, hfull]

/-- Beats held by the payload side: output register, then the inner FIFO. -/
def storedPay (s : PFBState) : List (Nat × Bool) := (if s.payV then [s.payD] else []) ++ s.payQ
def storedPar (s : PFBState) : List Nat := (if s.parV then [s.parD] else []) ++ s.parQ

def pfbRel (s : PFBState) (a d : List (Tok PBeat)) : Prop :=
  ∃ a2, storedPay s = a2.map payOf ∧ storedPar s = paramsOf a2 ∧ (s.parV = true → s.payV = true) ∧
    ∀ ext, annT (a ++ ext) = d ++ annT (a2 ++ ext)

end Litex.Packet
