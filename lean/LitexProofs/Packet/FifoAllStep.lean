import LitexModel.Packet.FifoAll
import LitexProofs.Packet.Fifo
import LitexProofs.Packet.FifoQueue
/-
  PacketFIFO over queues of every kind (`packetFifoK` / `packetFifoAll`): history relation and step lemma,
  derived only from the per-queue abstraction lemmas of `FifoQueue.lean`.
-/
namespace Litex.Packet
open Litex.Stream Litex.Stream.Elem

/-- The queue pairings in which a readable param queue implies a readable payload queue (there the term
    `& payload.source.valid` of `source.valid` changes nothing).  Excluded: a `SyncFIFOBuffered` payload queue (readable two edges after the write) next to a
    param queue that is readable one edge after the write (`PipeValid`, fwft FIFO). -/
def kindsOk (kp kq : QKind) : Prop := kp ≠ .bfifo ∨ kq = .bfifo ∨ kq = .never

instance (kp kq : QKind) : Decidable (kindsOk kp kq) := by unfold kindsOk; infer_instance

/-- `pfRel` over the stored lists of any two queues; for the pairings `kindsOk` it also records that a readable param
    queue implies a readable payload queue. -/
def pfaRel (kp kq : QKind) (s : PFAState) (a d : List (Tok PBeat)) : Prop :=
  ∃ a2, s.pay.stored kp = a2.map payOf ∧ s.par.stored kq = paramsOf a2 ∧
    (kindsOk kp kq → s.par.readable kq = true → s.pay.readable kp = true) ∧
    ∀ ext, annT (a ++ ext) = d ++ annT (a2 ++ ext)

/-- `source.valid`. -/
def pfaSv (kp kq : QKind) (s : PFAState) : Bool := s.par.readable kq && s.pay.readable kp
/-- `payload.source.ready`. -/
def pfaRePay (kp kq : QKind) (s : PFAState) (r : Bool) : Bool := pfaSv kp kq s && r
/-- `param.source.ready`. -/
def pfaRePar (kp kq : QKind) (s : PFAState) (r : Bool) : Bool := pfaSv kp kq s && (s.pay.dout kp).2 && r
/-- `payload.sink.ready`. -/
def pfaWp (kp kq : QKind) (pd : Nat) (s : PFAState) (r : Bool) : Bool := s.pay.writable kp pd (pfaRePay kp kq s r)
/-- `param.sink.ready`. -/
def pfaWq (kp kq : QKind) (qd : Nat) (s : PFAState) (r : Bool) : Bool := s.par.writable kq qd (pfaRePar kp kq s r)

theorem pfa_step_pay (kp kq : QKind) (pd qd : Nat) (s : PFAState) (i : In PBeat) :
    ((packetFifoK kp kq pd qd).step s i).pay =
      s.pay.next kp pd (i.valid && pfaWq kp kq qd s i.ready) (payOf i.tok) (pfaRePay kp kq s i.ready) := rfl

theorem pfa_step_par (kp kq : QKind) (pd qd : Nat) (s : PFAState) (i : In PBeat) :
    ((packetFifoK kp kq pd qd).step s i).par =
      s.par.next kq qd (i.valid && i.tok.last && pfaWp kp kq pd s i.ready) i.tok.data.param
        (pfaRePar kp kq s i.ready) := rfl

/-- `sink.valid & sink.ready`. -/
def pfaAcc (kp kq : QKind) (pd qd : Nat) (s : PFAState) (i : In PBeat) : Bool :=
  i.valid && (pfaWp kp kq pd s i.ready && pfaWq kp kq qd s i.ready)

theorem pfaAcc_never (kq : QKind) (pd qd : Nat) (s : PFAState) (i : In PBeat) : pfaAcc .never kq pd qd s i = false := by
  simp [pfaAcc, pfaWp, QSt.writable]

theorem pfaAcc_valid {kp kq : QKind} {pd qd : Nat} {s : PFAState} {i : In PBeat} (h : pfaAcc kp kq pd qd s i = true) :
    i.valid = true := by
  unfold pfaAcc at h; simp only [Bool.and_eq_true] at h; exact h.1

theorem pfa_accNow (kp kq : QKind) (pd qd : Nat) (s : PFAState) (i : In PBeat) :
    (packetFifoK kp kq pd qd).accNow s i = if pfaAcc kp kq pd qd s i then [i.tok] else [] := rfl

theorem pfa_delNow (kp kq : QKind) (pd qd : Nat) (s : PFAState) (i : In PBeat) :
    (packetFifoK kp kq pd qd).delNow s i =
      if (pfaSv kp kq s && i.ready) then
        [{ data := { data := (s.pay.dout kp).1, param := s.par.dout kq }, first := false,
           last := (s.pay.dout kp).2 }]
      else [] := rfl

theorem pfa_out_ready (kp kq : QKind) (pd qd : Nat) (s : PFAState) (i : In PBeat) :
    ((packetFifoK kp kq pd qd).out s i).ready = (pfaWp kp kq pd s i.ready && pfaWq kp kq qd s i.ready) := rfl

theorem pfa_out_valid (kp kq : QKind) (pd qd : Nat) (s : PFAState) (i : In PBeat) :
    ((packetFifoK kp kq pd qd).out s i).valid = pfaSv kp kq s := rfl

theorem pfa_popped_pay (kp kq : QKind) (s : PFAState) (r : Bool) :
    s.pay.popped kp (pfaRePay kp kq s r) = if pfaSv kp kq s && r then (s.pay.stored kp).tail else s.pay.stored kp := by
  unfold QSt.popped pfaRePay pfaSv
  cases s.par.readable kq <;> cases s.pay.readable kp <;> cases r <;> rfl

theorem pfa_popped_par (kp kq : QKind) (s : PFAState) (r : Bool) :
    s.par.popped kq (pfaRePar kp kq s r) =
      if pfaSv kp kq s && r && (s.pay.dout kp).2 then (s.par.stored kq).tail else s.par.stored kq := by
  unfold QSt.popped pfaRePar pfaSv
  cases s.par.readable kq <;> cases s.pay.readable kp <;> cases r <;> cases (s.pay.dout kp).2 <;> rfl

theorem pfa_stored_pay (kp kq : QKind) (pd qd : Nat) (s : PFAState) (i : In PBeat) :
    ((packetFifoK kp kq pd qd).step s i).pay.stored kp =
      (if pfaSv kp kq s && i.ready then (s.pay.stored kp).tail else s.pay.stored kp) ++
        (if pfaAcc kp kq pd qd s i then [payOf i.tok] else []) := by
  have e : (i.valid && pfaWq kp kq qd s i.ready && s.pay.writable kp pd (pfaRePay kp kq s i.ready))
      = pfaAcc kp kq pd qd s i := by
    unfold pfaAcc pfaWp
    cases i.valid <;> cases pfaWq kp kq qd s i.ready <;> cases s.pay.writable kp pd (pfaRePay kp kq s i.ready) <;> rfl
  rw [pfa_step_pay, QSt.stored_next, e, pfa_popped_pay]

theorem pfa_stored_par (kp kq : QKind) (pd qd : Nat) (s : PFAState) (i : In PBeat) :
    ((packetFifoK kp kq pd qd).step s i).par.stored kq =
      (if pfaSv kp kq s && i.ready && (s.pay.dout kp).2 then (s.par.stored kq).tail else s.par.stored kq) ++
        (if pfaAcc kp kq pd qd s i && i.tok.last then [i.tok.data.param] else []) := by
  have e : (i.valid && i.tok.last && pfaWp kp kq pd s i.ready && s.par.writable kq qd (pfaRePar kp kq s i.ready))
      = (pfaAcc kp kq pd qd s i && i.tok.last) := by
    unfold pfaAcc pfaWq
    cases i.valid <;> cases i.tok.last <;> cases pfaWp kp kq pd s i.ready <;>
      cases s.par.writable kq qd (pfaRePar kp kq s i.ready) <;> rfl
  rw [pfa_step_par, QSt.stored_next, e, pfa_popped_par]

/-- The delivery half of a cycle on the level of the stored lists. -/
theorem pfa_del_half (a d a2 : List (Tok PBeat)) (hext : ∀ ext, annT (a ++ ext) = d ++ annT (a2 ++ ext))
    (pop : Bool) (x : Nat × Bool) (p : Nat)
    (hx : pop = true → a2.map payOf = x :: (a2.map payOf).tail)
    (hp : pop = true → paramsOf a2 = p :: (paramsOf a2).tail) :
    ∃ a3, (if pop then (a2.map payOf).tail else a2.map payOf) = a3.map payOf ∧
      (if (pop && x.2) then (paramsOf a2).tail else paramsOf a2) = paramsOf a3 ∧
      ∀ ext, annT (a ++ ext) =
        (d ++ (if pop then [{ data := { data := x.1, param := p }, first := false, last := x.2 }] else []))
          ++ annT (a3 ++ ext) := by
  cases pop with
  | false => exact ⟨a2, by simp, by simp, by simpa using hext⟩
  | true =>
    cases a2 with
    | nil => simp at hx
    | cons t rest =>
      have hx' := hx rfl
      have hp' := hp rfl
      simp only [List.map_cons, List.tail_cons, List.cons.injEq, and_true] at hx'
      subst hx'
      refine ⟨rest, by simp, ?_, ?_⟩
      · by_cases hl : t.last <;> simp [payOf, paramsOf, hl]
      · intro ext
        have hn := nextParam_of_paramsOf (t :: rest) ext p _ hp'
        rw [hext ext]
        simp only [List.cons_append] at hn
        simp [annT, hn, payOf]

theorem packetFifoK_step (kp kq : QKind) (pd qd : Nat) (s : PFAState)
    (a d : List (Tok PBeat)) (i : In PBeat) (h : pfaRel kp kq s a d) :
    pfaRel kp kq ((packetFifoK kp kq pd qd).step s i) (a ++ (packetFifoK kp kq pd qd).accNow s i)
      (d ++ (packetFifoK kp kq pd qd).delNow s i) := by
  obtain ⟨a2, hpay, hpar, hinv, hext⟩ := h
  -- delivery half: `a3` is what is stored after the read side of the cycle
  obtain ⟨a3, h1, h2, h3⟩ := pfa_del_half a d a2 hext (pfaSv kp kq s && i.ready) (s.pay.dout kp)
    (s.par.dout kq)
    (fun hpop => by
      simp only [pfaSv, Bool.and_eq_true] at hpop
      rw [← hpay]; exact QSt.stored_readable kp s.pay hpop.1.2)
    (fun hpop => by
      simp only [pfaSv, Bool.and_eq_true] at hpop
      rw [← hpar]; exact QSt.stored_readable kq s.par hpop.1.1)
  rw [← pfa_delNow kp kq pd qd s i] at h3
  have hpay' := pfa_stored_pay kp kq pd qd s i
  have hpar' := pfa_stored_par kp kq pd qd s i
  rw [hpay, h1] at hpay'
  rw [hpar, h2] at hpar'
  -- acceptance half, by cases on whether the sink beat is taken: `a3` or `a3 ++ [i.tok]` is stored afterwards
  rw [pfa_accNow]
  generalize (packetFifoK kp kq pd qd).delNow s i = D at h3 ⊢
  have hrel : ∃ a2', ((packetFifoK kp kq pd qd).step s i).pay.stored kp = a2'.map payOf ∧
      ((packetFifoK kp kq pd qd).step s i).par.stored kq = paramsOf a2' ∧
      ∀ ext, annT ((a ++ if pfaAcc kp kq pd qd s i then [i.tok] else []) ++ ext) = (d ++ D) ++ annT (a2' ++ ext) := by
    cases hacc : pfaAcc kp kq pd qd s i
    · rw [hacc] at hpay' hpar'
      refine ⟨a3, by simpa using hpay', by simpa using hpar', ?_⟩
      intro ext; simpa using h3 ext
    · rw [hacc] at hpay' hpar'
      refine ⟨a3 ++ [i.tok], by simpa using hpay', ?_, ?_⟩
      · rw [hpar']
        by_cases hl : i.tok.last <;> simp [hl, paramsOf_append, paramsOf]
      · intro ext
        simpa [List.append_assoc] using h3 ([i.tok] ++ ext)
  obtain ⟨a2', hp1, hp2, hp3⟩ := hrel
  refine ⟨a2', hp1, hp2, ?_, hp3⟩
  -- a readable param queue implies a readable payload queue
  intro hk hv
  have hne : a2' ≠ [] := paramsOf_ne_nil (by rw [← hp2]; exact QSt.stored_ne_nil_of_readable kq _ hv)
  by_cases hkp : kp = .bfifo
  · rcases hk with hk | hk | hk
    · exact absurd hkp hk
    · subst hkp hk
      rw [pfa_step_pay, QSt.readable_next_bfifo, pfa_popped_pay, hpay, h1]
      rw [pfa_step_par, QSt.readable_next_bfifo, pfa_popped_par, hpar, h2] at hv
      have : a3 ≠ [] := paramsOf_ne_nil (by simpa using hv)
      simpa using this
    · subst hk
      simp [QSt.readable] at hv
  · rw [QSt.readable_prompt kp hkp, hp1]
    simpa using hne

end Litex.Packet
