import LitexProofs.Packet.Unaligned
import LitexProofs.Packet.Depacketizer
/-
  Depacketizer, header not a multiple of the data width: de-framing specification `deframeU`; two well-formedness
  conditions on the accepted stream, `udWellFormed` (no `last` on any header or residue beat: the one the first theorems
  of C16 state) and the weaker `udWellFormed2` ("tight": only on the final header beat and the residue beat), under which
  everything is proved; the phase relation `udRel` with its step lemma, and the de-framing theorem.
-/
namespace Litex.Packet
open Litex Litex.Stream Litex.Stream.Elem

/-- De-framing state of the unaligned Depacketizer (specification side). -/
inductive UDSt where
  | hdr (k : Nat) (h : Nat)        -- `k < W` header words collected into `h`
  | res (h : Nat)                  -- all `W` words collected, the residue beat is next
  | pay (h : Nat) (prev : Nat)     -- inside the payload; `prev` = previous sink beat
deriving DecidableEq, Repr

/-- What the source shows for the sink beat `x` following `prev`: the top `B − L` bytes of `prev` below the low
    `L` bytes of `x`. -/
def dbeat (c : PkCfg) (prev x : Nat) : Nat :=
  (prev / 2 ^ (8 * c.L)) % 2 ^ ((c.B - c.L) * 8) + 2 ^ ((c.B - c.L) * 8) * (x % 2 ^ (c.dw - (c.B - c.L) * 8))

def udStep (c : PkCfg) (st : UDSt) (t : Tok Nat) : UDSt × List (Tok HBeat) :=
  let x := t.data % 2 ^ c.dw
  match st with
  | .hdr k h =>
    let h' := h + x * 2 ^ (k * c.dw)
    (if k + 1 = c.W then .res h' else .hdr (k + 1) h', [])
  | .res h => (.pay (h + (x % 2 ^ (8 * c.L)) * 2 ^ (c.W * c.dw)) x, [])
  | .pay h prev =>
    (if t.last then .hdr 0 0 else .pay h x,
     [{ data := { data := dbeat c prev x, hdr := h }, first := false, last := t.last }])

def deframeUAux (c : PkCfg) : UDSt → List (Tok Nat) → List (Tok HBeat)
  | _, [] => []
  | st, t :: r => (udStep c st t).2 ++ deframeUAux c (udStep c st t).1 r

def deframeU (c : PkCfg) (a : List (Tok Nat)) : List (Tok HBeat) := deframeUAux c (.hdr 0 0) a

def udEnd (c : PkCfg) : UDSt → List (Tok Nat) → UDSt
  | st, [] => st
  | st, t :: r => udEnd c (udStep c st t).1 r

theorem deframeUAux_app (c : PkCfg) (x y : List (Tok Nat)) :
    ∀ st, deframeUAux c st (x ++ y) = deframeUAux c st x ++ deframeUAux c (udEnd c st x) y := by
  induction x with
  | nil => intro st; simp [deframeUAux, udEnd]
  | cons t r ih => intro st; simp [deframeUAux, udEnd, ih]

theorem udEnd_app (c : PkCfg) (x y : List (Tok Nat)) :
    ∀ st, udEnd c st (x ++ y) = udEnd c (udEnd c st x) y := by
  induction x with
  | nil => intro st; simp [udEnd]
  | cons t r ih => intro st; simp [udEnd, ih]

theorem deframeUAux_append (c : PkCfg) (a : List (Tok Nat)) (t : Tok Nat) (st : UDSt) :
    deframeUAux c st (a ++ [t]) = deframeUAux c st a ++ (udStep c (udEnd c st a) t).2 := by
  rw [deframeUAux_app]; simp [deframeUAux]

theorem udEnd_append (c : PkCfg) (a : List (Tok Nat)) (t : Tok Nat) (st : UDSt) :
    udEnd c st (a ++ [t]) = (udStep c (udEnd c st a) t).1 := by
  rw [udEnd_app]; rfl

/-- The input is well formed for the unaligned Depacketizer: no `last` on a header beat or on the residue beat
    (every packet has at least `W + 2` beats; excludes finding C16-depacketizer-residue-end). -/
def udWellFormed (c : PkCfg) : UDSt → List (Tok Nat) → Prop
  | _, [] => True
  | st, t :: r =>
    (match st with
      | .pay _ _ => True
      | _ => t.last = false) ∧ udWellFormed c (udStep c st t).1 r

/-- The residue shift: the low `L` bytes of the sink beat complete the header. -/
theorem shift_left_eq (n m h x : Nat) (hh : h < 2 ^ n) :
    (h + x * 2 ^ n) % 2 ^ (n + m) = h + (x % 2 ^ m) * 2 ^ n := by
  rw [Nat.pow_add, Nat.mod_mul, Nat.add_mul_mod_self_right, Nat.mod_eq_of_lt hh,
    Nat.add_mul_div_right _ _ (Nat.two_pow_pos n), Nat.div_eq_of_lt hh, Nat.zero_add, Nat.mul_comm]

theorem dpUData_eq (c : PkCfg) (hc : UnalignedCfg c) (s : PkState) (x : Nat) :
    c.dpUData s x = dbeat c s.dData x := by
  simp [PkCfg.dpUData, clamp_payBits c hc, dbeat]

/-! ### The tight condition `udWellFormed2`

  The de-framing theorem under the WEAKEST
  well-formedness of the accepted stream that holds for every valid/ready schedule.

  `sink_d` is overwritten by every accepted beat and `sink_d.last` is only read in UNALIGNED-DATA-COPY, so a
  `last` on the header beats `0 … W-2` is ignored by the code (exactly like the aligned Depacketizer ignores
  `last` on header beats).  Only two beats of a packet must not carry `last`:
    * the FINAL header beat `W-1`: UNALIGNED-DATA-COPY is entered with `sink_d.last = 1`, and
      `source.valid.eq(sink_d.last)` (`fsm_from_idle`) offers a spurious beat with `last` *before* the residue
      beat has arrived, then returns to IDLE;
    * the residue beat (beat `W`, finding C16-depacketizer-residue-end).
-/

/-- The one-beat condition: the final header beat (`k + 1 = W`) and the residue beat do not carry `last`. -/
def udOkBeat (c : PkCfg) (st : UDSt) (t : Tok Nat) : Prop :=
  match st with
  | .hdr k _ => k + 1 = c.W → t.last = false
  | .res _ => t.last = false
  | .pay _ _ => True

def udWellFormed2 (c : PkCfg) : UDSt → List (Tok Nat) → Prop
  | _, [] => True
  | st, t :: r => udOkBeat c st t ∧ udWellFormed2 c (udStep c st t).1 r

/-- Executable form (for concrete examples). -/
def udOkBeatB (c : PkCfg) (st : UDSt) (t : Tok Nat) : Bool :=
  match st with
  | .hdr k _ => !(k + 1 == c.W) || !t.last
  | .res _ => !t.last
  | .pay _ _ => true

def udWf2B (c : PkCfg) : UDSt → List (Tok Nat) → Bool
  | _, [] => true
  | st, t :: r => udOkBeatB c st t && udWf2B c (udStep c st t).1 r

/-- Executable form of `udWellFormed` (to show that an example violates it). -/
def udWfB (c : PkCfg) : UDSt → List (Tok Nat) → Bool
  | _, [] => true
  | st, t :: r => (match st with | .pay _ _ => true | _ => !t.last) && udWfB c (udStep c st t).1 r

theorem udOkBeat_of_B (c : PkCfg) (st : UDSt) (t : Tok Nat) (h : udOkBeatB c st t = true) : udOkBeat c st t := by
  cases st with
  | hdr k _ =>
    simp only [udOkBeatB, Bool.or_eq_true, Bool.not_eq_true', beq_eq_false_iff_ne, ne_eq] at h
    intro hk
    rcases h with h | h
    · exact absurd hk h
    · exact h
  | res _ => simpa [udOkBeatB, udOkBeat] using h
  | pay _ _ => trivial

theorem udWf2_of_B (c : PkCfg) (l : List (Tok Nat)) : ∀ st, udWf2B c st l = true → udWellFormed2 c st l := by
  induction l with
  | nil => intro st _; trivial
  | cons t r ih =>
    intro st h
    simp only [udWf2B, Bool.and_eq_true] at h
    exact ⟨udOkBeat_of_B c st t h.1, ih _ h.2⟩

theorem udWfB_iff (c : PkCfg) (l : List (Tok Nat)) : ∀ st, udWfB c st l = true ↔ udWellFormed c st l := by
  induction l with
  | nil => intro st; simp [udWfB, udWellFormed]
  | cons t r ih =>
    intro st
    simp only [udWfB, udWellFormed, Bool.and_eq_true, ih]
    cases st <;> simp

theorem udWellFormed2_of_udWellFormed (c : PkCfg) (l : List (Tok Nat)) :
    ∀ st, udWellFormed c st l → udWellFormed2 c st l := by
  induction l with
  | nil => intro st _; trivial
  | cons t r ih =>
    intro st h
    refine ⟨?_, ih _ h.2⟩
    have h1 := h.1
    cases st <;> simp_all [udOkBeat]

theorem udWellFormed2_append (c : PkCfg) (a : List (Tok Nat)) (t : Tok Nat) :
    ∀ st, udWellFormed2 c st (a ++ [t]) → udWellFormed2 c st a ∧ udOkBeat c (udEnd c st a) t := by
  induction a with
  | nil => intro st h; simpa [udWellFormed2, udEnd] using h.1
  | cons x r ih =>
    intro st h
    simp only [List.cons_append, udWellFormed2] at h
    obtain ⟨h1, h2⟩ := ih _ h.2
    exact ⟨⟨h.1, h1⟩, by simpa [udEnd] using h2⟩

/-- Well-formedness of the accepted stream extended by what is accepted in this cycle, split into the stream so
    far and the one-beat condition. -/
theorem udWellFormed2_acc {β σ : Type} (c : PkCfg) (e : Elem Nat β σ) (s : σ) (i : In Nat) (a : List (Tok Nat))
    (st : UDSt) (h : udWellFormed2 c st (a ++ e.accNow s i)) :
    udWellFormed2 c st a ∧ ∀ t ∈ e.accNow s i, udOkBeat c (udEnd c st a) t := by
  rcases accNow_cases e s i with hacc | hacc <;> rw [hacc] at h ⊢
  · exact ⟨by simpa using h, by simp⟩
  · obtain ⟨w1, w2⟩ := udWellFormed2_append c a i.tok _ h
    exact ⟨w1, by simpa using w2⟩

/-- What the FSM state of the unaligned Depacketizer says about the accepted stream `a`, phase by phase.
    `sink_d.last` is unconstrained while the header words are being collected. -/
inductive udPhase (c : PkCfg) (s : PkState) (a : List (Tok Nat)) : Prop
  /-- IDLE / HEADER-RECEIVE: `k < W` header words collected. -/
  | coll (k h : Nat) (hk : k < c.W) (he : udEnd c (.hdr 0 0) a = .hdr k h) (hc : dpColl c s k h)
  /-- UNALIGNED-DATA-COPY waiting for the residue beat: all whole header words are in `sr`. -/
  | res (hs : s.st = .ucopy) (hfi : s.fromIdle = true) (hdl : s.dLast = false) (h : Nat)
      (he : udEnd c (.hdr 0 0) a = .res h) (hh : s.sr / 2 ^ (8 * c.L) = h)
  /-- UNALIGNED-DATA-COPY past the residue beat: `sr` is the header, `sink_d` the previous beat. -/
  | pay (hs : s.st = .ucopy) (hfi : s.fromIdle = false) (hdl : s.dLast = false)
      (he : udEnd c (.hdr 0 0) a = .pay s.sr s.dData)

/-- Unlike `dpRel` this says nothing global about `sink_d.last`: it is unconstrained while the header words are collected
    and `false` in the two copy phases (`udPhase.res`, `.pay`). -/
def udRel (c : PkCfg) (s : PkState) (a : List (Tok Nat)) (d : List (Tok HBeat)) : Prop :=
  d = deframeU c a ∧ s.sr < 2 ^ c.hw ∧ udPhase c s a

theorem udRel_init (c : PkCfg) (hc : UnalignedCfg c) : udRel c (depacketizer c).init [] [] :=
  ⟨rfl, Nat.two_pow_pos _, .coll 0 0 hc.W_pos rfl (dpColl_idle c _ rfl (Nat.two_pow_pos _))⟩

/-- `sink_d` after a cycle of the unaligned Depacketizer: loaded iff a beat is accepted. -/
theorem dpLatch_eq (c : PkCfg) (s : PkState) (hal : c.aligned = false) (v : Bool) (t : Tok Nat) (r rdy : Bool) :
    dpLatch c s ⟨v, t, r⟩ rdy = if v && rdy then { s with dData := t.data % 2 ^ c.dw, dLast := t.last } else s := by
  simp [PkState.latch, hal]

theorem udepacketizer_step (c : PkCfg) (hc : UnalignedCfg c) (s : PkState)
    (a : List (Tok Nat)) (d : List (Tok HBeat)) (i : In Nat) (h : udRel c s a d)
    (hwf : ∀ t ∈ (depacketizer c).accNow s i, udOkBeat c (udEnd c (.hdr 0 0) a) t) :
    udRel c ((depacketizer c).step s i) (a ++ (depacketizer c).accNow s i)
      (d ++ (depacketizer c).delNow s i) := by
  have hal := hc.aligned_eq
  have hcp := hc.copy_eq
  have hW := hc.W_pos
  have hhw := c.hw_split
  obtain ⟨iv, it, ir⟩ := i
  obtain ⟨hd, hsr, hph⟩ := h
  subst hd
  have hds := udEnd_append c a it (.hdr 0 0)
  have hdf : deframeU c (a ++ [it]) = deframeU c a ++ (udStep c (udEnd c (.hdr 0 0) a) it).2 :=
    deframeUAux_append c a it _
  cases hph with
  | coll k h hk he hcl =>
    obtain ⟨hout, hstall, htake⟩ := depacketizer_collect c (by omega) s ⟨iv, it, ir⟩ k h hk hsr hcl
    simp only [Elem.accNow, hout] at hwf
    cases iv
    -- nothing offered
    · obtain ⟨h1, h2, _⟩ := hstall rfl
      simp only [Elem.accNow, Elem.delNow, hout, Bool.false_and, Bool.false_eq_true, ↓reduceIte, List.append_nil]
      exact ⟨rfl, h2 ▸ hsr, .coll k h hk he h1⟩
    · obtain ⟨hcl', hlt, _, hdl'⟩ := htake rfl
      have hl : k + 1 = c.W → it.last = false := by
        have := hwf it (by simp)
        rw [he] at this; exact this
      rw [he] at hds hdf
      simp only [udStep, List.append_nil] at hds hdf
      simp only [Elem.accNow, Elem.delNow, hout, Bool.and_true, Bool.false_and, Bool.false_eq_true, ↓reduceIte,
        List.append_nil]
      refine ⟨hdf.symm, hlt, ?_⟩
      by_cases hlast : k + 1 = c.W
      -- the last whole header word collected: copy state, waiting for the residue beat
      · obtain ⟨h1, h2, h3⟩ := dpColl_full c hW _ _ (hlast ▸ hcl')
        rw [show c.hw - c.W * c.dw = 8 * c.L by omega] at h3
        rw [if_pos hlast] at hds
        exact .res (h1.trans hcp) h2 (by rw [hdl', dpLatch_eq c s hal]; exact hl hlast) _ hds h3
      -- one more header word collected
      · rw [if_neg hlast] at hds
        exact .coll _ _ (by omega) hds hcl'
  | res hs hfi hdl h he hh =>
    simp only [Elem.accNow, depacketizer_out_ucopy_first c s _ hs hfi] at hwf
    cases iv <;>
      simp only [Elem.accNow, Elem.delNow, depacketizer_out_ucopy_first c s _ hs hfi,
        depacketizer_step_ucopy_first c s _ hs hfi, dpLatch_eq c s hal, hdl, Bool.and_true, Bool.and_self,
        Bool.false_and, Bool.false_eq_true, ↓reduceIte, List.append_nil]
    -- nothing offered
    · exact ⟨rfl, hsr, .res hs hfi hdl h he hh⟩
    -- residue beat accepted (`sr_shift_leftover`): its low `L` bytes complete the header, nothing delivered yet
    · have hl : it.last = false := by
        have := hwf it (by simp)
        rw [he] at this; exact this
      rw [he] at hds hdf
      simp only [udStep, List.append_nil] at hds hdf
      have hhlt : h < 2 ^ (c.W * c.dw) := by
        rw [← hh]
        apply Nat.div_lt_of_lt_mul
        rw [← Nat.pow_add, Nat.add_comm, ← hhw]; exact hsr
      have hsl := shift_left_eq (c.W * c.dw) (8 * c.L) h (it.data % 2 ^ c.dw) hhlt
      rw [← hhw] at hsl
      have hm' : c.hw - 8 * c.L = c.W * c.dw := by omega
      refine ⟨hdf.symm, Nat.mod_lt _ (Nat.two_pow_pos _), .pay hs rfl hl ?_⟩
      simp only [hds, PkCfg.dpShiftLeft, hh, hm', hsl]
  | pay hs hfi hdl he =>
    rw [he] at hds hdf
    simp only [udStep] at hds hdf
    cases iv <;> cases ir <;>
      simp only [Elem.accNow, Elem.delNow, depacketizer_out_ucopy_next c s _ hs hfi,
        depacketizer_step_ucopy_next c s _ hs hfi, dpLatch_eq c s hal, hdl, Bool.and_true, Bool.and_self,
        Bool.and_false, Bool.false_and, Bool.true_and, Bool.or_false,
        Bool.false_eq_true, ↓reduceIte, List.append_nil]
    -- nothing offered, or the source stalled: nothing changes
    · exact ⟨rfl, hsr, .pay hs hfi hdl he⟩
    · exact ⟨rfl, hsr, .pay hs hfi hdl he⟩
    · exact ⟨rfl, hsr, .pay hs hfi hdl he⟩
    -- `top of sink_d ++ low bytes of the beat` delivered; with `last` back to IDLE
    · rw [dpUData_eq c hc]
      cases hl : it.last <;> simp only [hl, Bool.false_eq_true, ↓reduceIte] at hds hdf ⊢
      · exact ⟨hdf.symm, hsr, .pay hs hfi rfl hds⟩
      · exact ⟨hdf.symm, hsr, .coll 0 0 hW hds (dpColl_idle c _ rfl hsr)⟩

theorem udepacketizer_run (c : PkCfg) (hc : UnalignedCfg c) (ins : List (In Nat)) :
    let e := depacketizer c
    udWellFormed2 c (.hdr 0 0) (e.accepted e.init ins) →
      udRel c (e.runFrom e.init ins) (e.accepted e.init ins) (e.delivered e.init ins) := by
  intro e
  have h := rel_run_init e (fun s a d => udWellFormed2 c (.hdr 0 0) a → udRel c s a d)
    (fun _ => udRel_init c hc)
    (by
      intro s a d i hR hwf
      obtain ⟨w1, w2⟩ := udWellFormed2_acc c e s i a _ hwf
      exact udepacketizer_step c hc s a d i (hR w1) w2) ins
  exact h

/-- Stated here because two theorems of C16 take it: `depacketizer_bytes_unaligned_tight_partial` is this statement (its
    docstring is there), `depacketizer_bytes_unaligned_partial` is this after `udWellFormed2_of_udWellFormed`. -/
theorem depacketizer_bytes_unaligned_tight (c : PkCfg) (hc : UnalignedCfg c) (ins : List (In Nat))
    (hwf : udWellFormed2 c (.hdr 0 0) ((depacketizer c).accepted (depacketizer c).init ins)) :
    (depacketizer c).delivered (depacketizer c).init ins =
      deframeU c ((depacketizer c).accepted (depacketizer c).init ins) :=
  (udepacketizer_run c hc ins hwf).1

end Litex.Packet
