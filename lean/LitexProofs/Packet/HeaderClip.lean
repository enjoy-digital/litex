import LitexModel.Packet.HeaderClip
import LitexProofs.Packet.Header
/-
  `packet.Header` with its length (`encodeL` / `decodeL`): agreement with the unclipped model on headers that
  fit, the round trip for well-formed headers, and the exact behaviour of ILL-FORMED headers (overlapping
  fields: the last writer wins; fields reaching beyond the header: clipped / dropped).
  All statements are for arbitrary field tables.  The `decide` of the `Except`-valued examples at the end needs
  `DecidableEq (Except String _)`, which reaches this file through `Header.lean`'s Mathlib import.
-/
namespace Litex.Packet
open Litex

theorem clip_start (n : Nat) (f : HField) : (f.clip n).start = min f.start n := by
  simp only [HField.clip, HField.start, Nat.mul_zero, Nat.zero_add]

theorem clip_width (n : Nat) (f : HField) : (f.clip n).width = min f.stop n - min f.start n := rfl

theorem clip_stop_le (n : Nat) (f : HField) : (f.clip n).stop ≤ n := by
  simp only [HField.stop, clip_start, clip_width]; omega

theorem clip_width_le (n : Nat) (f : HField) : (f.clip n).width ≤ f.width := by
  simp only [HField.stop, clip_width]; omega

theorem clip_of_fits (n : Nat) (f : HField) (h : f.stop ≤ n) :
    (f.clip n).start = f.start ∧ (f.clip n).width = f.width := by
  simp only [HField.stop, clip_start, clip_width] at *; omega

theorem clip_of_beyond (n : Nat) (f : HField) (h : n ≤ f.start) :
    (f.clip n).start = n ∧ (f.clip n).width = 0 := by
  simp only [HField.stop, clip_start, clip_width] at *; omega

theorem clip_of_straddle (n : Nat) (f : HField) (h1 : f.start ≤ n) (h2 : n ≤ f.stop) :
    (f.clip n).start = f.start ∧ (f.clip n).width = n - f.start := by
  simp only [HField.stop, clip_start, clip_width] at *; omega

theorem clip_disjoint (n : Nat) (f g : HField) (h : f.disjoint g = true) :
    (f.clip n).disjoint (g.clip n) = true := by
  rw [disjoint_iff] at *
  simp only [HField.stop, clip_start, clip_width] at *
  omega

theorem setSlice_mod (lo w n v : Nat) : setSlice lo w n (v % 2 ^ w) = setSlice lo w n v := by
  unfold setSlice; rw [Nat.mod_mod]

theorem setSlice_zero_width (lo n v : Nat) : setSlice lo 0 n v = n := by
  unfold setSlice
  simp only [Nat.pow_zero, Nat.mod_one, Nat.zero_mul, Nat.add_zero]
  rw [Nat.mul_comm]; exact Nat.mod_add_div n (2 ^ lo)

/-! ### `encodeFromL` as `encodeFrom` over clipped ranges with pre-swapped values -/

theorem encodeFromL_eq_encodeFrom (n : Nat) (swap : Bool) (l : List (HField × Nat)) :
    ∀ sig, encodeFromL n swap sig l
      = encodeFrom false sig (l.map fun p => (p.1.clip n, swapField swap p.1.width p.2)) := by
  induction l with
  | nil => intro sig; rfl
  | cons p r ih =>
    intro sig
    obtain ⟨f, v⟩ := p
    simp only [encodeFromL, List.map_cons, encodeFrom]
    rw [ih]
    congr 1
    simp only [swapField, Bool.false_eq_true, ↓reduceIte]
    rw [setSlice_mod]

theorem encodeFromL_append (n : Nat) (swap : Bool) (a b : List (HField × Nat)) (sig : Nat) :
    encodeFromL n swap sig (a ++ b) = encodeFromL n swap (encodeFromL n swap sig a) b := by
  simp only [encodeFromL_eq_encodeFrom, List.map_append, encodeFrom_append]

theorem encodeFromL_eq_of_fits (n : Nat) (swap : Bool) (l : List (HField × Nat)) :
    ∀ sig, (∀ p ∈ l, p.1.stop ≤ n) → encodeFromL n swap sig l = encodeFrom swap sig l := by
  induction l with
  | nil => intro sig _; rfl
  | cons p r ih =>
    intro sig h
    obtain ⟨f, v⟩ := p
    simp only [encodeFromL, encodeFrom]
    obtain ⟨h1, h2⟩ := clip_of_fits n f (h (f, v) (List.mem_cons_self ..))
    rw [h1, h2]
    exact ih _ (fun q hq => h q (List.mem_cons_of_mem _ hq))

theorem encodeL_eq_encode (len : Nat) (swap : Bool) (fields : List HField) (vals : List Nat)
    (hf : fitsIn len fields = true) : encodeL len swap fields vals = encode swap fields vals := by
  unfold encodeL encode
  apply encodeFromL_eq_of_fits
  intro p hp
  simp only [fitsIn, List.all_eq_true, decide_eq_true_eq] at hf
  exact hf _ (List.of_mem_zip hp).1

theorem decodeFieldL_eq_of_fits (n : Nat) (swap : Bool) (sig : Nat) (f : HField) (h : f.stop ≤ n) :
    decodeFieldL n swap sig f = decodeField swap sig f := by
  obtain ⟨h1, h2⟩ := clip_of_fits n f h
  simp only [decodeFieldL, decodeField, h1, h2]

/-- No bound on `sig` is needed: bits beyond the fields are never read. -/
theorem decodeL_eq_decode (len : Nat) (swap : Bool) (fields : List HField) (sig : Nat)
    (hf : fitsIn len fields = true) : decodeL len swap fields sig = decode swap fields sig := by
  unfold decodeL decode
  apply List.map_congr_left
  intro f hm
  simp only [fitsIn, List.all_eq_true, decide_eq_true_eq] at hf
  exact decodeFieldL_eq_of_fits _ _ _ _ (hf f hm)

theorem encodeFromL_lt (n : Nat) (swap : Bool) (l : List (HField × Nat)) (sig : Nat) (h : sig < 2 ^ n) :
    encodeFromL n swap sig l < 2 ^ n := by
  rw [encodeFromL_eq_encodeFrom]
  refine encodeFrom_lt false n _ sig h fun p hp => ?_
  obtain ⟨q, _, rfl⟩ := List.mem_map.1 hp
  exact clip_stop_le n q.1

theorem encodeL_lt (len : Nat) (swap : Bool) (fields : List HField) (vals : List Nat) :
    encodeL len swap fields vals < 2 ^ (8 * len) :=
  encodeFromL_lt _ _ _ _ (Nat.two_pow_pos _)

theorem header_roundtrip_len (len : Nat) (swap : Bool) (fields : List HField) (vals : List Nat)
    (hlen : vals.length = fields.length) (hd : pairwiseDisjoint fields = true)
    (hf : fitsIn len fields = true)
    (hs : swap = true → ∀ f ∈ fields, f.swappable = true)
    (hv : ∀ p ∈ fields.zip vals, p.2 < 2 ^ p.1.width) :
    decodeL len swap fields (encodeL len swap fields vals) = vals := by
  rw [encodeL_eq_encode len swap fields vals hf, decodeL_eq_decode len swap fields _ hf]
  exact decode_encode swap fields vals hlen hd hs hv

theorem covers_iff (f : HField) (j : Nat) : f.covers j = true ↔ f.start ≤ j ∧ j < f.start + f.width := by
  unfold HField.covers
  rw [Bool.and_eq_true]
  exact ⟨fun h => ⟨of_decide_eq_true h.1, of_decide_eq_true h.2⟩, fun h => ⟨decide_eq_true h.1, decide_eq_true h.2⟩⟩

theorem testBit_encodeFromL_none (n : Nat) (swap : Bool) (j : Nat) (l : List (HField × Nat)) :
    ∀ sig, (∀ p ∈ l, (p.1.clip n).covers j = false) →
      (encodeFromL n swap sig l).testBit j = sig.testBit j := by
  induction l with
  | nil => intro sig _; rfl
  | cons p r ih =>
    intro sig h
    obtain ⟨f, v⟩ := p
    simp only [encodeFromL]
    rw [ih _ (fun q hq => h q (List.mem_cons_of_mem _ hq)), testBit_setSlice_outside]
    rw [← covers_iff, h (f, v) (List.mem_cons_self ..)]
    exact Bool.false_ne_true

/-- Last writer wins, in ANY table (overlaps and fields beyond the length allowed). -/
theorem testBit_encodeFromL_last_writer (n : Nat) (swap : Bool) (j : Nat) (pre post : List (HField × Nat))
    (f : HField) (v sig : Nat) (hc : (f.clip n).covers j = true)
    (hpost : ∀ p ∈ post, (p.1.clip n).covers j = false) :
    (encodeFromL n swap sig (pre ++ (f, v) :: post)).testBit j
      = (swapField swap f.width v).testBit (j - (f.clip n).start) := by
  rw [encodeFromL_append]
  simp only [encodeFromL]
  rw [testBit_encodeFromL_none n swap j post _ hpost, testBit_setSlice, if_pos ((covers_iff _ _).mp hc)]

/-- The same at field level; the clipped range holds the LOW bits of the value. -/
theorem slice_encodeFromL_later_disjoint (n : Nat) (swap : Bool) (pre post : List (HField × Nat))
    (f : HField) (v sig : Nat)
    (hpost : ∀ p ∈ post, (f.clip n).disjoint (p.1.clip n) = true) :
    slice (f.clip n).start (f.clip n).width (encodeFromL n swap sig (pre ++ (f, v) :: post))
      = swapField swap f.width v % 2 ^ (f.clip n).width := by
  rw [encodeFromL_append]
  simp only [encodeFromL]
  rw [encodeFromL_eq_encodeFrom, slice_encodeFrom_other false (f.clip n), slice_setSlice_same]
  intro p hp
  simp only [List.mem_map] at hp
  obtain ⟨q, hq, rfl⟩ := hp
  exact hpost q hq

theorem encodeL_field_later_disjoint (len : Nat) (swap : Bool) (fields : List HField) (vals : List Nat)
    (hlen : vals.length = fields.length) (i : Nat) (hi : i < fields.length)
    (hlater : ∀ k (hk : k < fields.length), i < k →
      ((fields[i]).clip (8 * len)).disjoint ((fields[k]).clip (8 * len)) = true) :
    slice ((fields[i]).clip (8 * len)).start ((fields[i]).clip (8 * len)).width (encodeL len swap fields vals)
      = swapField swap (fields[i]).width (vals[i]'(by omega)) % 2 ^ ((fields[i]).clip (8 * len)).width := by
  unfold encodeL
  rw [zip_split fields vals hlen i hi]
  apply slice_encodeFromL_later_disjoint
  intro p hp
  obtain ⟨k, hk, hik, hpk⟩ := mem_drop_zip fields vals i p hp
  rw [hpk]; exact hlater k hk hik

theorem encode_last_field (swap : Bool) (pre : List HField) (f : HField) (vals : List Nat) (v : Nat)
    (hlen : vals.length = pre.length) :
    slice f.start f.width (encode swap (pre ++ [f]) (vals ++ [v])) = swapField swap f.width v := by
  unfold encode
  rw [List.zip_append hlen.symm]
  exact slice_encodeFrom_later_disjoint swap _ [] f v 0 (by simp)

theorem encodeL_last_field (len : Nat) (swap : Bool) (pre : List HField) (f : HField) (vals : List Nat) (v : Nat)
    (hlen : vals.length = pre.length) :
    slice (f.clip (8 * len)).start (f.clip (8 * len)).width (encodeL len swap (pre ++ [f]) (vals ++ [v]))
      = swapField swap f.width v % 2 ^ (f.clip (8 * len)).width := by
  unfold encodeL
  rw [List.zip_append hlen.symm]
  exact slice_encodeFromL_later_disjoint _ swap _ [] f v 0 (by simp)

/-- General formula, any table: if no LATER field overlaps field `i` (inside the
    header), decoding returns the value swapped at the full width, truncated to the clipped width `cw`, and
    swapped again at the CLIPPED width. -/
theorem decodeL_encodeL_getElem (len : Nat) (swap : Bool) (fields : List HField) (vals : List Nat)
    (hlen : vals.length = fields.length) (i : Nat) (hi : i < fields.length)
    (hlater : ∀ k (hk : k < fields.length), i < k →
      ((fields[i]).clip (8 * len)).disjoint ((fields[k]).clip (8 * len)) = true) :
    (decodeL len swap fields (encodeL len swap fields vals))[i]'(by simp [decodeL, hi])
      = swapField swap ((fields[i]).clip (8 * len)).width
          (swapField swap (fields[i]).width (vals[i]'(by omega)) % 2 ^ ((fields[i]).clip (8 * len)).width) := by
  simp only [decodeL, List.getElem_map, decodeFieldL, decodeField]
  rw [encodeL_field_later_disjoint len swap fields vals hlen i hi hlater]

theorem decodeFieldL_beyond (len : Nat) (swap : Bool) (sig : Nat) (f : HField) (h : 8 * len ≤ f.start) :
    decodeFieldL (8 * len) swap sig f = 0 := by
  obtain ⟨_, h2⟩ := clip_of_beyond (8 * len) f h
  simp only [decodeFieldL, decodeField, h2, swapField]
  split
  · rw [revBytes_small 0 _ (by omega)]; simp [Nat.mod_one]
  · simp [Nat.mod_one]

theorem encodeFromL_filter_beyond (n : Nat) (swap : Bool) (l : List (HField × Nat)) :
    ∀ sig, encodeFromL n swap sig l = encodeFromL n swap sig (l.filter fun p => decide (p.1.start < n)) := by
  induction l with
  | nil => intro sig; rfl
  | cons p r ih =>
    intro sig
    obtain ⟨f, v⟩ := p
    by_cases h : f.start < n
    · simp only [List.filter_cons, h, decide_true, ↓reduceIte, encodeFromL]; rw [ih]
    -- a field beyond the header has a clipped width of 0: nothing is written
    · obtain ⟨_, h2⟩ := clip_of_beyond n f (by omega)
      simp only [encodeFromL, h2, setSlice_zero_width]
      rw [ih]; simp [h]

/-- An earlier field overlapped by a later one does not round-trip (`C16.header_overlap_earlier_field_lost`); with the
    two fields in the other table order the (now later) field does: non-vacuity of `C16.header_field_roundtrip`
    (`decodeL_encodeL_getElem`) with an overlapping EARLIER field. -/
example :
    let fields : List HField := [⟨0, 4, 8⟩, ⟨0, 0, 8⟩]
    pairwiseDisjoint fields = false ∧ (fields[1]).stop ≤ 8 * 2 ∧
    decodeL 2 false fields (encodeL 2 false fields [0, 0xff]) = [0x0f, 0xff] := by decide

/-- Real-code witness: 2-byte header, field `(1,0,16)` reaches 8 bits beyond it.
    No swap: `0xabcd` is stored as `0xcd00` and read back as `0xcd`; swap: stored as `0xab00`, read back `0xab`. -/
example : encodeL 2 false [⟨1, 0, 16⟩] [0xabcd] = 0xcd00 ∧ decodeL 2 false [⟨1, 0, 16⟩] 0xcd00 = [0xcd] ∧
          encodeL 2 true [⟨1, 0, 16⟩] [0xabcd] = 0xab00 ∧ decodeL 2 true [⟨1, 0, 16⟩] 0xab00 = [0xab] := by decide

/-- Field beyond the header: `(2,0,8)` in a 2-byte header is neither written nor read. -/
example : encodeL 2 true [⟨2, 0, 8⟩, ⟨0, 0, 8⟩] [0xab, 0xcd] = 0xcd ∧
          decodeL 2 true [⟨2, 0, 8⟩, ⟨0, 0, 8⟩] 0xabcd = [0, 0xcd] := by decide

/-- Non-vacuity of `header_roundtrip_len`: the header of `test/test_packet.py` (31 bytes) is well-formed; and
    non-vacuity of the clipped theorems: in a 30-byte header its first field `(15,0,128)` is clipped to 120
    bits (15 bytes) and no later field overlaps it. -/
example :
    let fields : List HField := [⟨15, 0, 128⟩, ⟨1, 0, 16⟩, ⟨3, 0, 32⟩, ⟨7, 0, 64⟩, ⟨0, 0, 8⟩]
    pairwiseDisjoint fields = true ∧ fitsIn 31 fields = true ∧ fitsIn 30 fields = false ∧
    (∀ f ∈ fields, f.swappable = true) ∧
    ((fields[0]).clip (8 * 30)).width = 8 * 15 ∧ (fields[0]).width = 8 * 16 := by decide

theorem getField_error_iff (W : Nat) (k : FKind) (w : Nat) :
    (∃ e, getField W k w = .error e) ↔ (k.range W w).2 ≠ w := by
  unfold getField
  split <;> simp_all

theorem getField_ok_iff (W : Nat) (k : FKind) (w : Nat) (r : Nat × Nat) :
    getField W k w = .ok r ↔ ((k.range W w).2 = w ∧ r = k.range W w) := by
  unfold getField
  split
  · rename_i h
    constructor
    · intro e; exact ⟨h, (Except.ok.inj e).symm⟩
    · rintro ⟨_, rfl⟩; rfl
  · rename_i h
    constructor
    · intro e; cases e
    · rintro ⟨h', _⟩; exact absurd h' h

theorem getField_plain (W w : Nat) : getField W .plain w = if W = w then .ok (0, W) else .error "Width mismatch" := rfl

/-- `x_lsb`: accepted iff `obj.x` has at least `width` bits (it is `obj.x[:width]`, clipped to `len(obj.x)`). -/
theorem getField_lsb_ok_iff (W w : Nat) : getField W .lsb w = .ok (0, w) ↔ w ≤ W := by
  rw [getField_ok_iff]; simp only [FKind.range]
  constructor
  · intro h; omega
  · intro h; have : min w W = w := by omega
    simp [this]

theorem getField_msb_ok_iff (W w : Nat) : (∃ r, getField W .msb w = .ok r) ↔ (2 * w ≤ W ∨ w = 0) := by
  constructor
  · rintro ⟨r, h⟩; rw [getField_ok_iff] at h; simp only [FKind.range] at h; omega
  · intro h; refine ⟨_, (getField_ok_iff _ _ _ _).mpr ⟨?_, rfl⟩⟩; simp only [FKind.range]; omega

theorem setSlice_halves (w x : Nat) (hx : x < 2 ^ (2 * w)) :
    setSlice w w (setSlice 0 w 0 (slice 0 w x)) (slice w w x) = x := by
  apply Nat.eq_of_testBit_eq
  intro j
  simp only [testBit_setSlice, testBit_slice, Nat.zero_add, Nat.zero_le, true_and, Nat.sub_zero, Nat.zero_testBit]
  by_cases h1 : j < w
  · simp [h1, Nat.not_le.mpr h1]
  · by_cases h2 : j < w + w
    · have : j - w < w := by omega
      simp only [h2, Nat.not_lt.mp h1, and_self, ↓reduceIte, this, decide_true, Bool.true_and]
      congr 1; omega
    · simp only [h1, h2, and_false, ↓reduceIte]
      rw [Nat.testBit_lt_two_pow (Nat.lt_of_lt_of_le hx (Nat.pow_le_pow_right (by omega) (by omega)))]

theorem lsb_msb_roundtrip (len : Nat) (swap : Bool) (fl fm : HField) (w x : Nat)
    (hl : fl.width = w) (hm : fm.width = w) (hd : fl.disjoint fm = true)
    (hfl : fl.stop ≤ 8 * len) (hfm : fm.stop ≤ 8 * len)
    (hs : swap = true → fl.swappable = true ∧ fm.swappable = true)
    (hx : x < 2 ^ (2 * w)) :
    let tbl : List NField := [⟨fl, 0, .lsb⟩, ⟨fm, 0, .msb⟩]
    ∃ sig, encodeObj len swap tbl [(2 * w, x)] = .ok sig ∧ sig < 2 ^ (8 * len) ∧
      decodeObj len swap tbl [2 * w] sig = .ok [x] := by
  intro tbl
  have hgl : getField (2 * w) .lsb w = .ok (0, w) := (getField_lsb_ok_iff _ _).mpr (by omega)
  have hgm : getField (2 * w) .msb w = .ok (w, w) := by
    rw [getField_ok_iff]; simp only [FKind.range]
    have h1 : min (2 * w) (2 * w) - min w (2 * w) = w := by omega
    have h2 : min w (2 * w) = w := by omega
    rw [h1, h2]; exact ⟨rfl, rfl⟩
  refine ⟨encodeL len swap [fl, fm] [slice 0 w x, slice w w x], ?_, encodeL_lt _ _ _ _, ?_⟩
  · simp [encodeObj, tbl, getFieldRec, hl, hm, hgl, hgm, List.mapM_cons, List.mapM_nil, bind, Except.bind, pure, Except.pure]
  · have hrt := header_roundtrip_len len swap [fl, fm] [slice 0 w x, slice w w x] rfl
      (by simp [pairwiseDisjoint, hd])
      (by simp [fitsIn, hfl, hfm])
      (by intro h f hf; simp at hf; rcases hf with rfl | rfl; exact (hs h).1; exact (hs h).2)
      (by intro p hp; simp at hp; rcases hp with rfl | rfl
          · simp only [hl]; exact slice_lt _ _ _
          · simp only [hm]; exact slice_lt _ _ _)
    simp [decodeObj, tbl, getFieldRec, hl, hm, hgl, hgm, List.mapM_cons, List.mapM_nil, bind, Except.bind, pure, Except.pure,
      hrt, writeAll, setSlice_halves w x hx]

/-- Non-vacuity + the real-code witness: `x = 0xabcdef12` (32 bits) through `x_lsb = (0,0,16)`, `x_msb = (2,0,16)`
    in a 4-byte swapped header is stored as `0xcdab12ef`; a 15-bit `x` under 8-bit `x_lsb`/`x_msb` is rejected
    (`x_msb` selects 7 bits); the record of `get_layout()` has no signal `x` at all. -/
example :
    encodeObj 4 true [⟨⟨0, 0, 16⟩, 0, .lsb⟩, ⟨⟨2, 0, 16⟩, 0, .msb⟩] [(32, 0xabcdef12)] = .ok 0xcdab12ef ∧
    decodeObj 4 true [⟨⟨0, 0, 16⟩, 0, .lsb⟩, ⟨⟨2, 0, 16⟩, 0, .msb⟩] [32] 0xcdab12ef = .ok [0xabcdef12] ∧
    encodeObj 2 true [⟨⟨0, 0, 8⟩, 0, .lsb⟩, ⟨⟨1, 0, 8⟩, 0, .msb⟩] [(15, 0)] = .error "Width mismatch" ∧
    getField 15 .msb 8 = .error "Width mismatch" ∧ getField 16 .msb 8 = .ok (8, 8) ∧
    encodeObj 2 true [⟨⟨0, 0, 8⟩, 2, .lsb⟩, ⟨⟨1, 0, 8⟩, 2, .msb⟩] [(8, 0), (8, 0)] = .error "AttributeError" := by
  decide

end Litex.Packet
