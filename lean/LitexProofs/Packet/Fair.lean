import LitexProofs.Packet.Arbiter
import LitexProofs.Machine
/-
  Arbiter fairness: the round-robin pointer moves monotonically towards a waiting requester.
-/
namespace Litex.Packet
open Litex Litex.Stream

/-- Number of cycles in which the grant changes while running `ins` from `s`. -/
def arbChanges (n : Nat) (s : ArbState) : List ArbIn → Nat
  | [] => 0
  | i :: is =>
    (if ((arbiter n).next s i).grant ≠ s.grant then 1 else 0) + arbChanges n ((arbiter n).next s i) is

/-- Master `k` does not hold the grant after any cycle of the run. -/
def arbNeverGranted (n k : Nat) (s : ArbState) : List ArbIn → Prop
  | [] => True
  | i :: is => ((arbiter n).next s i).grant ≠ k ∧ arbNeverGranted n k ((arbiter n).next s i) is

/-- A master that is not granted cannot finish a beat, so its request (`Status.ongoing`) is exactly
    `valid ∨ ongoing register`. -/
theorem arbRequest_not_granted (s : ArbState) (i : ArbIn) (k : Nat) (h : s.grant ≠ k) :
    arbRequest s i k = ((i.masters.getD k Beat.idle).valid || s.ongoing.getD k false) := by
  have : (k == s.grant) = false := by simp; omega
  simp [arbRequest, arbStatusIn, status, StatusIn.lastHs, this]

theorem arbiter_request_sticks (n : Nat) (s : ArbState) (i : ArbIn) (k : Nat) (hk : k < n)
    (hr : arbRequest s i k = true) : ((arbiter n).next s i).ongoing.getD k false = true := by
  simp only [arbiter]
  rw [getD_range_map_of_lt _ _ hk]; exact hr

theorem arbiter_wait_bound (n : Nat) (k : Nat) (hk : k < n) (ins : List ArbIn) :
    ∀ s : ArbState, s.grant < n → s.grant ≠ k → s.ongoing.getD k false = true →
      arbNeverGranted n k s ins →
      arbChanges n s ins + RoundRobin.dist n ((arbiter n).runFrom s ins).grant k ≤ RoundRobin.dist n s.grant k :=
  fun s hg hgk hong hng =>
    (arbiter n).count_add_le (Φ := fun s => RoundRobin.dist n s.grant k)
      (Inv := fun s => s.grant < n ∧ s.grant ≠ k ∧ s.ongoing.getD k false = true)
      (fun _ => rfl) (fun _ _ _ => rfl)
      (fun s i ⟨hg, hgk, hong⟩ hng1 => by
        have hreq : arbRequest s i k = true := by rw [arbRequest_not_granted s i k hgk, hong]; simp
        exact ⟨⟨RoundRobin.next_lt .withdraw (fun j => decide (j < n) && arbRequest s i j) true hg, hng1,
            arbiter_request_sticks n s i k hk hreq⟩,
          RoundRobin.step_le .withdraw (fun j => decide (j < n) && arbRequest s i j) true hg hk (by simp [hk, hreq])
            (fun e => absurd e hgk)⟩)
      ins s ⟨hg, hgk, hong⟩ (Machine.LegalFrom.of _ (fun _ _ _ h => h) ins s hng)

end Litex.Packet
