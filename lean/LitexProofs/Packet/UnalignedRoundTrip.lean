import LitexProofs.Packet.UnalignedDepack
import LitexProofs.Packet.RoundTrip
/-
  Unaligned round trip: de-framing the unaligned framing gives back every beat but the one in flight.
-/
namespace Litex.Packet
open Litex Litex.Stream Litex.Stream.Elem

theorem udWellFormed_app (c : PkCfg) (x y : List (Tok Nat)) :
    ∀ st, udWellFormed c st (x ++ y) ↔ udWellFormed c st x ∧ udWellFormed c (udEnd c st x) y := by
  induction x with
  | nil => intro st; simp [udWellFormed, udEnd]
  | cons t r ih => intro st; simp [udWellFormed, udEnd, ih, and_assoc]

/-- The padding bytes of a last beat are invisible to a Depacketizer fed with well-formed packets. -/
theorem udStep_maskPad (c : PkCfg) (hc : UnalignedCfg c) (h prev : Nat) (t : Tok Nat) :
    udStep c (.pay h prev) (maskPad c t) = udStep c (.pay h prev) t := by
  unfold maskPad
  split
  · rename_i hl
    have hk : c.dw - (c.B - c.L) * 8 = 8 * c.L := by have := hc.dw_eq; omega
    have hle : 8 * c.L ≤ c.dw := by have := hc.dw_eq; omega
    have e1 : t.data % 2 ^ (8 * c.L) % 2 ^ c.dw % 2 ^ (8 * c.L) = t.data % 2 ^ c.dw % 2 ^ (8 * c.L) := by
      rw [Nat.mod_mod_of_dvd _ (Nat.pow_dvd_pow 2 hle), Nat.mod_mod_of_dvd _ (Nat.pow_dvd_pow 2 hle), Nat.mod_mod]
    simp [udStep, dbeat, hk, hl, e1]
  · rfl

theorem maskPad_invisible (c : PkCfg) (hc : UnalignedCfg c) (l : List (Tok Nat)) :
    ∀ st, udWellFormed c st (l.map (maskPad c)) →
      udEnd c st (l.map (maskPad c)) = udEnd c st l ∧
      deframeUAux c st (l.map (maskPad c)) = deframeUAux c st l ∧ udWellFormed c st l := by
  induction l with
  | nil => intro st _; simp [udEnd, deframeUAux, udWellFormed]
  | cons t r ih =>
    intro st h
    simp only [List.map_cons, udWellFormed] at h
    obtain ⟨h1, h2⟩ := h
    have hlast : (maskPad c t).last = t.last := by unfold maskPad; split <;> rfl
    have hstep : udStep c st (maskPad c t) = udStep c st t := by
      cases st with
      | pay h prev => exact udStep_maskPad c hc h prev t
      | hdr k h =>
        have : t.last = false := by rw [← hlast]; exact h1
        simp [maskPad, this]
      | res h =>
        have : t.last = false := by rw [← hlast]; exact h1
        simp [maskPad, this]
    rw [hstep] at h2
    obtain ⟨i1, i2, i3⟩ := ih _ h2
    refine ⟨by simp [udEnd, hstep, i1], by simp [deframeUAux, hstep, i2], ?_⟩
    simp only [udWellFormed]
    exact ⟨by cases st <;> simp_all, i3⟩

theorem hleft_lt (c : PkCfg) (h : Nat) (hh : h < 2 ^ c.hw) : hleft c h < 2 ^ (8 * c.L) := by
  unfold hleft
  apply Nat.div_lt_of_lt_mul
  rw [← Nat.pow_add, ← c.hw_split]; exact hh

section arith
variable (c : PkCfg) (hc : UnalignedCfg c)
include hc

theorem dw_split : c.dw = 8 * c.L + (c.B - c.L) * 8 ∧ c.dw - 8 * c.L = (c.B - c.L) * 8 ∧
    c.dw - (c.B - c.L) * 8 = 8 * c.L := by
  have := hc.dw_eq; omega

theorem ubeat_lt (lo d : Nat) : ubeat c lo d < 2 ^ c.dw := by
  unfold ubeat
  have h1 : lo % 2 ^ (8 * c.L) < 2 ^ (8 * c.L) := Nat.mod_lt _ (Nat.two_pow_pos _)
  have h2 : d % 2 ^ (c.dw - 8 * c.L) < 2 ^ (c.dw - 8 * c.L) := Nat.mod_lt _ (Nat.two_pow_pos _)
  have e : (2 : Nat) ^ c.dw = 2 ^ (8 * c.L) * 2 ^ (c.dw - 8 * c.L) := by
    rw [← Nat.pow_add]; congr 1; have := (dw_split c hc).1; omega
  rw [e]
  have h3 : 2 ^ (8 * c.L) * (d % 2 ^ (c.dw - 8 * c.L) + 1) ≤ 2 ^ (8 * c.L) * 2 ^ (c.dw - 8 * c.L) :=
    Nat.mul_le_mul_left _ h2
  rw [Nat.mul_add, Nat.mul_one] at h3
  omega

theorem ubeat_high (lo d : Nat) : ubeat c lo d / 2 ^ (8 * c.L) = d % 2 ^ ((c.B - c.L) * 8) := by
  unfold ubeat
  rw [Nat.add_mul_div_left _ _ (Nat.two_pow_pos _), Nat.div_eq_of_lt (Nat.mod_lt _ (Nat.two_pow_pos _)),
    Nat.zero_add, (dw_split c hc).2.1]

theorem resid_lt (p : Nat) (hp : p < 2 ^ c.dw) : resid c p < 2 ^ (8 * c.L) := by
  unfold resid
  apply Nat.div_lt_of_lt_mul
  rw [← Nat.pow_add]
  have : (c.B - c.L) * 8 + 8 * c.L = c.dw := by have := (dw_split c hc).1; omega
  rw [this]; exact hp

/-- Re-assembling a payload beat from the two source beats that carry it. -/
theorem dbeat_ubeat (pb p lo d : Nat)
    (hpb : (pb / 2 ^ (8 * c.L)) % 2 ^ ((c.B - c.L) * 8) = p % 2 ^ ((c.B - c.L) * 8))
    (hlo : lo % 2 ^ (8 * c.L) = resid c p) :
    dbeat c pb (ubeat c lo d % 2 ^ c.dw) = p := by
  unfold dbeat
  rw [Nat.mod_eq_of_lt (ubeat_lt c hc lo d), (dw_split c hc).2.2, ubeat_mask, hpb, hlo]
  unfold resid
  exact Nat.mod_add_div p _

end arith

theorem ud_header_silent (c : PkCfg) (l : List (Tok Nat)) (hl : ∀ t ∈ l, t.last = false) :
    ∀ k h, k + l.length ≤ c.W →
      deframeUAux c (.hdr k h) l = [] ∧ udWellFormed c (.hdr k h) l := by
  induction l with
  | nil => intro k h _; simp [deframeUAux, udWellFormed]
  | cons t r ih =>
    intro k h hk
    simp only [List.length_cons] at hk
    have ht : t.last = false := hl t (List.mem_cons_self ..)
    simp only [deframeUAux, udWellFormed, udStep, List.nil_append, ht, true_and]
    by_cases hkw : k + 1 = c.W
    · have : r = [] := by
        cases r with
        | nil => rfl
        | cons _ _ => simp at hk; omega
      subst this
      simp [deframeUAux, udWellFormed]
    · simp only [hkw, ↓reduceIte]
      exact ih (fun t ht => hl t (List.mem_cons_of_mem _ ht)) _ _ (by omega)

theorem ud_hdrWords_take (c : PkCfg) (h k : Nat) (hk : k ≤ c.W) :
    deframeUAux c (.hdr 0 0) ((hdrWords c h).take k) = [] ∧
      udWellFormed c (.hdr 0 0) ((hdrWords c h).take k) := by
  refine ud_header_silent c _ ?_ 0 0 (by simp [hdrWords]; omega)
  intro x hx
  have := List.mem_of_mem_take hx
  simp only [hdrWords, List.mem_map] at this
  obtain ⟨j, _, rfl⟩ := this
  rfl

theorem udEnd_hdrWords_from (c : PkCfg) (h : Nat) (n : Nat) :
    ∀ j, j + (n + 1) = c.W →
      udEnd c (.hdr j (h % 2 ^ (j * c.dw))) ((List.range' j (n + 1)).map (hdrWord c h)) =
        .res (h % 2 ^ (c.W * c.dw)) := by
  induction n with
  | zero =>
    intro j hj
    have hj' : j + 1 = c.W := by omega
    simp only [List.range'_succ, List.range'_zero, List.map_cons, List.map_nil, udEnd, udStep, hj', ↓reduceIte,
      hdrWord_collect]
  | succ n ih =>
    intro j hj
    have hjw : ¬ j + 1 = c.W := by omega
    rw [List.range'_succ, List.map_cons]
    simp only [udEnd, udStep, hjw, ↓reduceIte, hdrWord_collect]
    exact ih (j + 1) (by omega)

theorem ud_hdrWords (c : PkCfg) (hc : UnalignedCfg c) (h : Nat) :
    udEnd c (.hdr 0 0) (hdrWords c h) = .res (h % 2 ^ (c.W * c.dw)) ∧
    deframeUAux c (.hdr 0 0) (hdrWords c h) = [] ∧ udWellFormed c (.hdr 0 0) (hdrWords c h) := by
  have hW := hc.W_pos
  have := udEnd_hdrWords_from c h (c.W - 1) 0 (by omega)
  simp only [Nat.zero_mul, Nat.pow_zero, Nat.mod_one] at this
  rw [show c.W - 1 + 1 = c.W by omega, ← List.range_eq_range'] at this
  have ht := ud_hdrWords_take c h c.W (Nat.le_refl _)
  rw [hdrWords_take_all] at ht
  exact ⟨this, ht⟩

/-- The invariant of the unaligned round trip, on the specifications alone: where de-framing the framed stream of `a` is.
    At a packet boundary everything has come back (`annot a`).  Inside a packet the beat `p` accepted last is IN FLIGHT: its
    low `B − L` bytes sit in the upper lanes of the framed beat `pb` the de-framer holds, its top `L` bytes will only come
    with the next framed beat; hence `pb` is constrained in its upper `B − L` bytes only (its low `L` bytes are the residue
    of the beat before), and `annot a` is one beat ahead of what has been de-framed. -/
def urtInv (c : PkCfg) (a : List (Tok HBeat)) : Prop :=
  udWellFormed c (.hdr 0 0) (frameU c a) ∧
  match uEnd c none a with
  | none => udEnd c (.hdr 0 0) (frameU c a) = .hdr 0 0 ∧ annotEnd c none a = none ∧
      deframeU c (frameU c a) = annot c a
  | some p => ∃ h pb, annotEnd c none a = some h ∧ udEnd c (.hdr 0 0) (frameU c a) = .pay h pb ∧
      (pb / 2 ^ (8 * c.L)) % 2 ^ ((c.B - c.L) * 8) = p % 2 ^ ((c.B - c.L) * 8) ∧ p < 2 ^ c.dw ∧
      deframeU c (frameU c a) ++ [{ data := { data := p, hdr := h }, first := false, last := false }] = annot c a

/-- The de-framer on the first chunk of a framed packet (the header words and the beat `header residue ++ low bytes of
    X`): it has collected the header `H`, delivered nothing and holds `X` in flight. -/
theorem ud_first_chunk (c : PkCfg) (hc : UnalignedCfg c) (H X : Nat) (hH : H < 2 ^ c.hw) :
    let l := hdrWords c H ++ [{ data := ubeat c (hleft c H) X, first := false, last := false }]
    udEnd c (.hdr 0 0) l = .pay H (ubeat c (hleft c H) X) ∧ deframeUAux c (.hdr 0 0) l = [] ∧
      udWellFormed c (.hdr 0 0) l := by
  obtain ⟨c1, c2, c3⟩ := ud_hdrWords c hc H
  have hx := Nat.mod_eq_of_lt (ubeat_lt c hc (hleft c H) X)
  have hlo := Nat.mod_eq_of_lt (hleft_lt c H hH)
  have hhdr : H % 2 ^ (c.W * c.dw) + hleft c H * 2 ^ (c.W * c.dw) = H := Nat.mod_add_div' _ _
  refine ⟨?_, ?_, ?_⟩
  · rw [udEnd_app, c1]; simp only [udEnd, udStep, hx, ubeat_mask, hlo, hhdr]
  · rw [deframeUAux_app, c2, c1]; rfl
  · rw [udWellFormed_app, c1]; exact ⟨c3, rfl, trivial⟩

/-- A realigned beat carries the low bytes of `X` in its upper lanes. -/
theorem ubeat_carries (c : PkCfg) (hc : UnalignedCfg c) (lo X : Nat) :
    (ubeat c lo X / 2 ^ (8 * c.L)) % 2 ^ ((c.B - c.L) * 8) = X % 2 ^ ((c.B - c.L) * 8) := by
  rw [ubeat_high c hc, Nat.mod_mod]

/-- The de-framer on a realigned beat `top bytes of p ++ low bytes of X` that follows the beat `pb` carrying the low bytes
    of `p`: it delivers `p` (with the flag `l` of the beat) and holds `X` in flight. -/
theorem udStep_ubeat (c : PkCfg) (hc : UnalignedCfg c) (h pb p X : Nat) (l : Bool) (hp : p < 2 ^ c.dw)
    (hpb : (pb / 2 ^ (8 * c.L)) % 2 ^ ((c.B - c.L) * 8) = p % 2 ^ ((c.B - c.L) * 8)) :
    udStep c (.pay h pb) { data := ubeat c (resid c p) X, first := false, last := l } =
      (if l then .hdr 0 0 else .pay h (ubeat c (resid c p) X),
       [{ data := { data := p, hdr := h }, first := false, last := l }]) := by
  have hdb := dbeat_ubeat c hc pb p (resid c p) X hpb (Nat.mod_eq_of_lt (resid_lt c hc p hp))
  simp only [udStep, hdb]
  rw [Nat.mod_eq_of_lt (ubeat_lt c hc _ _)]

theorem urtInv_snoc (c : PkCfg) (hc : UnalignedCfg c) (a : List (Tok HBeat)) (t : Tok HBeat)
    (hJ : urtInv c a) (hns : uEnd c none a = none → t.last = false) : urtInv c (a ++ [t]) := by
  obtain ⟨hwf, hm⟩ := hJ
  have hdt : sinkData c t < 2 ^ c.dw := Nat.mod_lt _ (Nat.two_pow_pos _)
  unfold urtInv deframeU annot at *
  rw [frameU_snoc, uEnd_append, udWellFormed_app, udEnd_app, deframeUAux_app, annotEnd_append, annotAux_append]
  cases hu : uEnd c none a with
  | none =>
    -- `t` starts a packet: the framing adds the header words and the first realigned beat (`ud_first_chunk`)
    rw [hu] at hm
    obtain ⟨m1, m2, m3⟩ := hm
    have hl : t.last = false := hns hu
    obtain ⟨c1, c2, c3⟩ := ud_first_chunk c hc (hdrOf c t) (sinkData c t) (Nat.mod_lt _ (Nat.two_pow_pos _))
    simp only [uChunk, uNext, hl, Bool.false_eq_true, ↓reduceIte, List.append_nil, m1, m2, m3, c1, c2]
    exact ⟨⟨hwf, c3⟩, _, _, rfl, rfl, ubeat_carries c hc _ _, hdt, by simp [sinkData]⟩
  | some p =>
    rw [hu] at hm
    obtain ⟨h, pb, m1, m2, m3, m4, m5⟩ := hm
    -- the realigned beat of `t` lets the de-framer deliver the beat `p` that was in flight (`udStep_ubeat`)
    have s1 := udStep_ubeat c hc h pb p (sinkData c t) false m4 m3
    cases hl : t.last with
    | false =>
      -- `t` continues the packet and is now in flight
      simp only [uChunk, uNext, hl, Bool.false_eq_true, ↓reduceIte, List.append_nil, m1, m2, udEnd, deframeUAux,
        udWellFormed, s1]
      exact ⟨⟨hwf, trivial, trivial⟩, _, _, rfl, rfl, ubeat_carries c hc _ _, hdt, by rw [← m5]; simp [sinkData]⟩
    | true =>
      -- `t` ends the packet: the flush beat `top bytes of t ++ padding` lets the de-framer deliver `t` as well
      have s2 := udStep_ubeat c hc h (ubeat c (resid c p) (sinkData c t)) (sinkData c t) 0 true hdt
        (ubeat_carries c hc _ _)
      have hf : resid c (sinkData c t) % 2 ^ (8 * c.L) = ubeat c (resid c (sinkData c t)) 0 := by simp [ubeat]
      simp only [uChunk, uNext, hl, ↓reduceIte, List.singleton_append, m1, m2, udEnd, deframeUAux, udWellFormed, s1,
        hf, s2, Bool.false_eq_true, List.append_nil]
      exact ⟨⟨hwf, trivial, trivial, trivial⟩, trivial, trivial, by rw [← m5]; simp [sinkData]⟩

theorem urtInv_nil (c : PkCfg) : urtInv c [] := by
  simp [urtInv, frameU, frameUAux, udWellFormed, uEnd, udEnd, annotEnd, deframeU, deframeUAux, annot, annotAux]

theorem udStep_out_le (c : PkCfg) (st : UDSt) (t : Tok Nat) : (udStep c st t).2.length ≤ 1 := by
  cases st <;> simp [udStep]

end Litex.Packet
