import LitexProofs.Packet.Framing
/-
  Packetizer and Depacketizer, state by state: outputs and next state of one cycle with the FSM state known.
  The step lemmas of the framing relations rewrite with these equations.
-/
namespace Litex.Packet
open Litex Litex.Stream Litex.Stream.Elem

/-- Header signal as latched by the Packetizer. -/
abbrev hdrOf (c : PkCfg) (t : Tok HBeat) : Nat := t.data.hdr % 2 ^ c.hw

/-- The payload word as the Packetizer samples it. -/
def sinkData (c : PkCfg) (t : Tok HBeat) : Nat := t.data.data % 2 ^ c.dw

/-- `sink_d.eq(sink)` under the condition `b`. -/
def PkState.latch (s : PkState) (b : Bool) (d : Nat) (l : Bool) : PkState :=
  if b then { s with dData := d, dLast := l } else s

section latch
variable (s : PkState) (b : Bool) (d : Nat) (l : Bool)
@[simp] theorem PkState.latch_st : (s.latch b d l).st = s.st := by unfold PkState.latch; split <;> rfl
@[simp] theorem PkState.latch_sr : (s.latch b d l).sr = s.sr := by unfold PkState.latch; split <;> rfl
@[simp] theorem PkState.latch_count : (s.latch b d l).count = s.count := by unfold PkState.latch; split <;> rfl
@[simp] theorem PkState.latch_fromIdle : (s.latch b d l).fromIdle = s.fromIdle := by
  unfold PkState.latch; split <;> rfl
@[simp] theorem PkState.latch_dData : (s.latch b d l).dData = if b then d else s.dData := by
  unfold PkState.latch; split <;> rfl
@[simp] theorem PkState.latch_dLast : (s.latch b d l).dLast = if b then l else s.dLast := by
  unfold PkState.latch; split <;> rfl
end latch

section packetizer
variable (c : PkCfg) (s : PkState) (i : In HBeat)

/-- `sink_d` follows the sink lines in every cycle with `source.ready` (unaligned headers only). -/
abbrev pkLatch : PkState := s.latch (!c.aligned && i.ready) (sinkData c i.tok) i.tok.last

theorem packetizer_out_idle (h : s.st = .idle) : (packetizer c).out s i =
    { ready := !i.valid, valid := i.valid,
      tok := if i.valid then { data := hdrOf c i.tok % 2 ^ c.dw, first := false, last := false } else zNat } := by
  cases s; cases h; obtain ⟨v, _, _⟩ := i; cases v <;> rfl

theorem packetizer_step_idle (h : s.st = .idle) : (packetizer c).step s i =
    if i.valid && i.ready then
      { pkLatch c s i with count := 1, sr := hdrOf c i.tok, fromIdle := true, st := if c.W == 1 then c.copy else .hdr }
    else { pkLatch c s i with count := 1 } := by
  cases s; cases h; rfl

theorem packetizer_out_hdr (h : s.st = .hdr) : (packetizer c).out s i =
    { ready := false, valid := true,
      tok := { data := c.srFrom c.dw s.sr % 2 ^ c.dw, first := false, last := false } } := by
  cases s; cases h; rfl

theorem packetizer_step_hdr (h : s.st = .hdr) : (packetizer c).step s i =
    if i.ready then
      if s.count + 1 == c.W then { pkLatch c s i with st := c.copy, count := (s.count + 1) % c.cntMod }
      else { pkLatch c s i with sr := s.sr / 2 ^ c.dw, count := (s.count + 1) % c.cntMod }
    else pkLatch c s i := by
  cases s; cases h; rfl

theorem packetizer_out_acopy (h : s.st = .acopy) : (packetizer c).out s i =
    { ready := i.valid && i.ready, valid := i.valid,
      tok := { data := sinkData c i.tok, first := false, last := i.tok.last } } := by
  cases s; cases h; rfl

theorem packetizer_step_acopy (h : s.st = .acopy) : (packetizer c).step s i =
    if i.valid && i.ready && i.tok.last then { pkLatch c s i with st := .idle } else pkLatch c s i := by
  cases s; cases h; rfl

theorem packetizer_out_ucopy (h : s.st = .ucopy) : (packetizer c).out s i =
    { ready := (i.valid || s.dLast) && i.ready && !s.dLast, valid := i.valid || s.dLast,
      tok := { data := c.pkUData s (sinkData c i.tok), first := false, last := s.dLast } } := by
  cases s; cases h; rfl

theorem packetizer_step_ucopy (h : s.st = .ucopy) : (packetizer c).step s i =
    if (i.valid || s.dLast) && i.ready then
      { pkLatch c s i with fromIdle := false, st := if s.dLast then .idle else .ucopy }
    else pkLatch c s i := by
  cases s; cases h; rfl

end packetizer

section depacketizer
variable (c : PkCfg) (s : PkState) (i : In Nat)

/-- `sink_d` follows every accepted beat (unaligned headers only); `rdy` is `sink.ready`. -/
abbrev dpLatch (rdy : Bool) : PkState := s.latch (!c.aligned && i.valid && rdy) (i.tok.data % 2 ^ c.dw) i.tok.last

/-- The source token; only `data` depends on the state. -/
abbrev dpTok (x : Nat) (l : Bool) : Tok HBeat := { data := { data := x, hdr := s.sr }, first := false, last := l }

theorem depacketizer_out_idle (h : s.st = .idle) :
    (depacketizer c).out s i = { ready := true, valid := false, tok := dpTok s 0 false } := by
  cases s; cases h; rfl

theorem depacketizer_step_idle (h : s.st = .idle) : (depacketizer c).step s i =
    if i.valid then
      { dpLatch c s i true with count := 1, sr := c.dpShift s.sr (i.tok.data % 2 ^ c.dw), fromIdle := true,
                                st := if c.W == 1 then c.copy else .hdr }
    else { dpLatch c s i true with count := 1 } := by
  cases s; cases h; rfl

theorem depacketizer_out_hdr (h : s.st = .hdr) :
    (depacketizer c).out s i = { ready := true, valid := false, tok := dpTok s 0 false } := by
  cases s; cases h; rfl

theorem depacketizer_step_hdr (h : s.st = .hdr) : (depacketizer c).step s i =
    if i.valid then
      { dpLatch c s i true with sr := c.dpShift s.sr (i.tok.data % 2 ^ c.dw), count := (s.count + 1) % c.cntMod,
                                st := if s.count + 1 == c.W then c.copy else .hdr }
    else dpLatch c s i true := by
  cases s; cases h; rfl

theorem depacketizer_out_acopy (h : s.st = .acopy) : (depacketizer c).out s i =
    { ready := i.ready, valid := i.valid || s.dLast,
      tok := dpTok s (i.tok.data % 2 ^ c.dw) (i.tok.last || s.dLast) } := by
  cases s; cases h; rfl

theorem depacketizer_step_acopy (h : s.st = .acopy) : (depacketizer c).step s i =
    if (i.valid || s.dLast) && i.ready && (i.tok.last || s.dLast) then { dpLatch c s i i.ready with st := .idle }
    else dpLatch c s i i.ready := by
  cases s; cases h; rfl

/-- UNALIGNED-DATA-COPY waiting for the residue beat (`fsm_from_idle`). -/
theorem depacketizer_out_ucopy_first (h : s.st = .ucopy) (hfi : s.fromIdle = true) : (depacketizer c).out s i =
    { ready := true, valid := s.dLast,
      tok := dpTok s (c.dpUData s (i.tok.data % 2 ^ c.dw)) (i.tok.last || s.dLast) } := by
  cases s; cases h; cases hfi; rfl

theorem depacketizer_step_ucopy_first (h : s.st = .ucopy) (hfi : s.fromIdle = true) : (depacketizer c).step s i =
    let s2 := if i.valid then
        { dpLatch c s i true with fromIdle := false, sr := c.dpShiftLeft s.sr (i.tok.data % 2 ^ c.dw) }
      else dpLatch c s i true
    if s.dLast && i.ready && (i.tok.last || s.dLast) then { s2 with st := .idle } else s2 := by
  cases s; cases h; cases hfi; rfl

/-- UNALIGNED-DATA-COPY past the residue beat. -/
theorem depacketizer_out_ucopy_next (h : s.st = .ucopy) (hfi : s.fromIdle = false) : (depacketizer c).out s i =
    { ready := i.ready, valid := i.valid || s.dLast,
      tok := dpTok s (c.dpUData s (i.tok.data % 2 ^ c.dw)) (i.tok.last || s.dLast) } := by
  cases s; cases h; cases hfi; rfl

theorem depacketizer_step_ucopy_next (h : s.st = .ucopy) (hfi : s.fromIdle = false) : (depacketizer c).step s i =
    if (i.valid || s.dLast) && i.ready && (i.tok.last || s.dLast) then { dpLatch c s i i.ready with st := .idle }
    else dpLatch c s i i.ready := by
  cases s; cases h; cases hfi; rfl

end depacketizer

end Litex.Packet
