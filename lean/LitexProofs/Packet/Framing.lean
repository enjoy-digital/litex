import LitexModel.Packet.Packetizer
/-
  Packet framing: the producer contract as a predicate on input sequences, the induction principle for history
  relations under that contract, and the framing specification `frame` (aligned header) with the prefixes of the
  header words (`hdrWords_take_*`).
-/
namespace Litex.Packet
open Litex Litex.Stream Litex.Stream.Elem

section contract
variable {α β σ : Type}

/-- What the producer is obliged to offer in the next cycle: the token it offered and that was not accepted. -/
def pendNext (e : Elem α β σ) (s : σ) (i : In α) : Option (Tok α) :=
  if i.valid && !(e.out s i).ready then some i.tok else none

/-- The input sequence obeys the stream contract on the sink side: a token offered and not accepted is offered
    again, unchanged, in the next cycle.  Nothing is required of the lines while `valid = 0`, of `source.ready`,
    or of when the producer starts offering. -/
def Compliant (e : Elem α β σ) : σ → Option (Tok α) → List (In α) → Prop
  | _, _, [] => True
  | s, pend, i :: is =>
    (∀ t, pend = some t → i.valid = true ∧ i.tok = t) ∧ Compliant e (e.step s i) (pendNext e s i) is

/-- The obligation left after running `ins`. -/
def pendRun (e : Elem α β σ) : σ → Option (Tok α) → List (In α) → Option (Tok α)
  | _, pend, [] => pend
  | s, _, i :: is => pendRun e (e.step s i) (pendNext e s i) is

theorem rel_run_compliant (e : Elem α β σ)
    (R : σ → Option (Tok α) → List (Tok α) → List (Tok β) → Prop)
    (hstep : ∀ s p a d i, R s p a d → (∀ t, p = some t → i.valid = true ∧ i.tok = t) →
      R (e.step s i) (pendNext e s i) (a ++ e.accNow s i) (d ++ e.delNow s i)) :
    ∀ (ins : List (In α)) (s : σ) (p : Option (Tok α)) (a : List (Tok α)) (d : List (Tok β)),
      R s p a d → Compliant e s p ins →
      R (e.runFrom s ins) (pendRun e s p ins) (a ++ e.accepted s ins) (d ++ e.delivered s ins) := by
  intro ins
  induction ins with
  | nil => intro s p a d h _; simpa [accepted, delivered, pendRun] using h
  | cons i is ih =>
    intro s p a d h hc
    obtain ⟨hc1, hc2⟩ := hc
    have := ih (e.step s i) _ _ _ (hstep s p a d i h hc1) hc2
    simpa [accepted, delivered, pendRun, List.append_assoc] using this

theorem accNow_cases (e : Elem α β σ) (s : σ) (i : In α) : e.accNow s i = [] ∨ e.accNow s i = [i.tok] := by
  unfold Elem.accNow
  split
  · exact Or.inr rfl
  · exact Or.inl rfl

/-- `Elem.comp_rel` with the producer's obligation on the left element (`pendNext (a.comp b) s i` is
    `pendNext a s.1 (compInA a b s i)` by `rfl`: the composition's `sink.ready` is `a`'s). -/
theorem comp_rel_compliant {γ τ : Type} (a : Elem α β σ) (b : Elem β γ τ)
    (Ra : σ → Option (Tok α) → List (Tok α) → List (Tok β) → Prop) (Rb : τ → List (Tok β) → List (Tok γ) → Prop)
    (ha : ∀ s p x d i, Ra s p x d → (∀ t, p = some t → i.valid = true ∧ i.tok = t) →
      Ra (a.step s i) (pendNext a s i) (x ++ a.accNow s i) (d ++ a.delNow s i))
    (hb : ∀ s x d i, Rb s x d → Rb (b.step s i) (x ++ b.accNow s i) (d ++ b.delNow s i)) :
    ∀ (s : σ × τ) p x d i, (∃ mid, Ra s.1 p x mid ∧ Rb s.2 mid d) → (∀ t, p = some t → i.valid = true ∧ i.tok = t) →
      ∃ mid, Ra ((a.comp b).step s i).1 (pendNext (a.comp b) s i) (x ++ (a.comp b).accNow s i) mid ∧
             Rb ((a.comp b).step s i).2 mid (d ++ (a.comp b).delNow s i) := by
  intro s p x d i ⟨mid, h1, h2⟩ hp
  refine ⟨mid ++ a.delNow s.1 (compInA a b s i), ha s.1 p x mid (compInA a b s i) h1 hp, ?_⟩
  rw [comp_mid]
  exact hb s.2 mid d (compInB a b s i) h2

/-- Executable form of `Compliant` (for concrete examples). -/
def compliantB [DecidableEq α] (e : Elem α β σ) : σ → Option (Tok α) → List (In α) → Bool
  | _, _, [] => true
  | s, pend, i :: is =>
    (match pend with
      | none => true
      | some t => i.valid && decide (i.tok = t)) && compliantB e (e.step s i) (pendNext e s i) is

theorem compliant_of_B [DecidableEq α] (e : Elem α β σ) (ins : List (In α)) :
    ∀ s p, compliantB e s p ins = true → Compliant e s p ins := by
  induction ins with
  | nil => intro s p _; trivial
  | cons i is ih =>
    intro s p h
    simp only [compliantB, Bool.and_eq_true] at h
    refine ⟨?_, ih _ _ h.2⟩
    intro t ht
    subst ht
    simpa using h.1

end contract

def hdrWord (c : PkCfg) (h k : Nat) : Tok Nat :=
  { data := slice (k * c.dw) c.dw h, first := false, last := false }

/-- The `W` header beats of a packet with header signal `h`. -/
def hdrWords (c : PkCfg) (h : Nat) : List (Tok Nat) := (List.range c.W).map (hdrWord c h)

/-- What the payload beat `t` looks like on the framed stream. -/
def payBeat (c : PkCfg) (t : Tok HBeat) : Tok Nat :=
  { data := t.data.data % 2 ^ c.dw, first := false, last := t.last }

/-- Framing (aligned header): every packet (a run of beats ending with `last`) is preceded by the header words
    of the header presented with its first beat.  `st` = the next beat starts a packet. -/
def frameAux (c : PkCfg) : Bool → List (Tok HBeat) → List (Tok Nat)
  | _, [] => []
  | st, t :: r =>
    (if st then hdrWords c (t.data.hdr % 2 ^ c.hw) else []) ++ payBeat c t :: frameAux c t.last r

def frame (c : PkCfg) (a : List (Tok HBeat)) : List (Tok Nat) := frameAux c true a

/-- Whether the beat following `a` starts a packet. -/
def endSt : Bool → List (Tok HBeat) → Bool
  | st, [] => st
  | _, t :: r => endSt t.last r

theorem frameAux_append (c : PkCfg) (a : List (Tok HBeat)) (t : Tok HBeat) :
    ∀ st, frameAux c st (a ++ [t]) =
      frameAux c st a ++ ((if endSt st a then hdrWords c (t.data.hdr % 2 ^ c.hw) else []) ++ [payBeat c t]) := by
  induction a with
  | nil => intro st; simp [frameAux, endSt]; rfl
  | cons x r ih => intro st; simp [frameAux, endSt, ih]; rfl

theorem endSt_append (a : List (Tok HBeat)) (t : Tok HBeat) : ∀ st, endSt st (a ++ [t]) = t.last := by
  induction a with
  | nil => intro st; simp [endSt]
  | cons x r ih => intro st; simp [endSt, ih]

theorem hdrWords_take_succ (c : PkCfg) (h k : Nat) (hk : k < c.W) :
    (hdrWords c h).take (k + 1) = (hdrWords c h).take k ++ [hdrWord c h k] := by
  unfold hdrWords
  rw [← List.map_take, ← List.map_take, List.take_range, List.take_range]
  have h1 : min (k + 1) c.W = k + 1 := by omega
  have h2 : min k c.W = k := by omega
  rw [h1, h2, List.range_succ, List.map_append]
  rfl

theorem hdrWords_take_all (c : PkCfg) (h : Nat) : (hdrWords c h).take c.W = hdrWords c h := by
  apply List.take_of_length_le
  simp [hdrWords]

/-- What IDLE puts on the source. -/
theorem hdrWords_take_one (c : PkCfg) (h : Nat) (hW : 1 ≤ c.W) :
    (hdrWords c h).take 1 = [{ data := h % 2 ^ c.dw, first := false, last := false }] := by
  rw [hdrWords_take_succ c h 0 hW]; simp [hdrWord, slice]

end Litex.Packet
