import LitexProofs.Packet.UnalignedTight
import LitexProofs.Packet.UnalignedRoundTrip
/-
  Unaligned round trip Packetizer → Depacketizer under the tight producer hypothesis `UOk2`.

  The `source.ready` the Packetizer sees inside the composition is the Depacketizer's `sink.ready`; strictly
  inside a packet (the only cycles in which conjunct (2) of `UOkStep2` says anything) the Depacketizer is in
  UNALIGNED-DATA-COPY past its residue beat, where `sink.ready = source.ready`, so the hypothesis can be stated
  on the OUTER `ready` (`urt_ready`).
-/
namespace Litex.Packet
open Litex Litex.Stream Litex.Stream.Elem

theorem uRel_inside (c : PkCfg) (s : PkState) (v : UEnv2) (a : List (Tok HBeat)) (d : List (Tok Nat))
    (h : uRel c s (some v) a d) (hs : v.start = false) :
    d.map (maskPad c) = frameU c a ∧ ∃ p, uEnd c none a = some p := by
  have hne : ¬ envAtStart (some v) := by
    intro h3; have := (h3 v rfl).1; rw [hs] at this; cases this
  cases h with
  | idle _ _ _ h3 => exact absurd h3 hne
  | sent _ w he _ hws => cases he; rw [hs] at hws; cases hws
  | inside _ _ _ hd w he _ h1 => cases he; exact ⟨hd, _, h1⟩
  | flush _ _ _ _ _ h3 => exact absurd h3 hne

theorem uRel_acc_notlast (c : PkCfg) (s : PkState) (env : Option UEnv2)
    (a : List (Tok HBeat)) (d : List (Tok Nat)) (i : In HBeat) (h : uRel c s env a d) (hok : UOkStep2 c env i)
    (hacc : (packetizer c).accNow s i = [i.tok]) (hu : uEnd c none a = none) : i.tok.last = false := by
  cases h with
  | idle hs => simp [Elem.accNow, packetizer_out_idle c s i hs] at hacc
  | sent _ v henv hpend _ hvl => subst henv; rw [(hok.1 hpend).2]; exact hvl
  | inside _ _ _ _ _ _ _ h1 => rw [hu] at h1; cases h1
  | flush hs _ hdl => simp [Elem.accNow, packetizer_out_ucopy c s i hs, hdl] at hacc

theorem uRel_mid_wf (c : PkCfg) (s : PkState) (env : Option UEnv2)
    (a : List (Tok HBeat)) (mid : List (Tok Nat)) (h : uRel c s env a mid) (hJ : urtInv c a) :
    udWellFormed c (.hdr 0 0) (mid.map (maskPad c)) := by
  rcases uRel_shape c s env a mid h with hm | ⟨hu, v, k, _, _, hk, hm⟩ | ⟨_, x, hm⟩
  · rw [hm]; exact hJ.1
  · rw [hm, udWellFormed_app]
    refine ⟨hJ.1, ?_⟩
    have h2 := hJ.2
    rw [hu] at h2
    rw [h2.1]
    exact (ud_hdrWords_take c _ k hk).2
  · have := hJ.1
    rw [← hm, udWellFormed_app] at this
    exact this.1

def urtRel (c : PkCfg) (s : PkState × PkState) (env : Option UEnv2) (a d : List (Tok HBeat)) : Prop :=
  ∃ mid, uRel c s.1 env a mid ∧ urtInv c a ∧ udRel c s.2 mid d

/-- Strictly inside a packet the Packetizer's `source.ready` (= the Depacketizer's `sink.ready`) is the outer
    `source.ready`. -/
theorem urt_ready (c : PkCfg) (hc : UnalignedCfg c) (s : PkState × PkState) (v : UEnv2)
    (a d : List (Tok HBeat)) (i : In HBeat) (h : urtRel c s (some v) a d) (hs : v.start = false) :
    (compInA (packetizer c) (depacketizer c) s i).ready = i.ready := by
  obtain ⟨mid, h1, hJ, h2⟩ := h
  obtain ⟨hm, p, hu⟩ := uRel_inside c s.1 v a mid h1 hs
  have hwf := uRel_mid_wf c _ _ _ _ h1 hJ
  have hend := (maskPad_invisible c hc _ _ hwf).1
  have hJ2 := hJ.2
  rw [hu] at hJ2
  obtain ⟨hh, pb, _, hpay, _⟩ := hJ2
  rw [hm, hpay] at hend
  obtain ⟨_, _, hph⟩ := h2
  cases hph with
  | coll _ _ _ e => rw [e] at hend; cases hend
  | res _ _ _ _ e => rw [e] at hend; cases hend
  | pay hs2 hfi => simp [compInA, depacketizer, hs2, hfi]

theorem upkdpk_step (c : PkCfg) (hc : UnalignedCfg c) (s : PkState × PkState) (env : Option UEnv2)
    (a d : List (Tok HBeat)) (i : In HBeat) (h : urtRel c s env a d) (hok : UOkStep2 c env i) :
    urtRel c ((pkdpk c).step s i) (uenvNext2 (pkdpk c) s env i) (a ++ (pkdpk c).accNow s i)
      (d ++ (pkdpk c).delNow s i) := by
  let iA := compInA (packetizer c) (depacketizer c) s i
  let iB := compInB (packetizer c) (depacketizer c) s i
  -- the hypothesis as seen by the Packetizer (its `ready` is the Depacketizer's `sink.ready`)
  have hokA : UOkStep2 c env iA := by
    cases env with
    | none => exact hok
    | some v =>
      obtain ⟨o1, o2, o3⟩ := hok
      refine ⟨o1, ?_, o3⟩
      intro hv hr hs
      have hrdy : iA.ready = i.ready := urt_ready c hc s v a d i h hs
      exact o2 hv (by rw [← hrdy]; exact hr) hs
  obtain ⟨mid, h1, hJ, h2⟩ := h
  have s1 := upacketizer_step c hc s.1 env a mid iA h1 hokA
  -- the round-trip invariant for the extended accepted list
  have hJ' : urtInv c (a ++ (packetizer c).accNow s.1 iA) := by
    rcases accNow_cases (packetizer c) s.1 iA with hacc | hacc <;> rw [hacc]
    · rw [List.append_nil]; exact hJ
    · exact urtInv_snoc c hc a iA.tok hJ (uRel_acc_notlast c s.1 env a mid iA h1 hokA hacc)
  -- what the packetizer delivers now is well formed after `mid`
  have hwf' := uRel_mid_wf c _ _ _ _ s1 hJ'
  have hwfm := (maskPad_invisible c hc _ _ hwf').2.2
  refine ⟨mid ++ (packetizer c).delNow s.1 iA, s1, hJ', ?_⟩
  have hmid : (packetizer c).delNow s.1 iA = (depacketizer c).accNow s.2 iB := comp_mid _ _ s i
  rw [hmid] at hwfm ⊢
  exact udepacketizer_step c hc s.2 mid d iB h2
    (udWellFormed2_acc c _ _ _ _ _ (udWellFormed2_of_udWellFormed c _ _ hwfm)).2

/-- What the composed relation says: everything accepted has come out, annotated with its packet's header,
    except possibly the most recently accepted beat (which is still being realigned). -/
theorem urtRel_concl (c : PkCfg) (hc : UnalignedCfg c) (s : PkState × PkState) (env : Option UEnv2)
    (a d : List (Tok HBeat)) (h : urtRel c s env a d) :
    ∃ tail, d ++ tail = annot c a ∧ tail.length ≤ 1 := by
  obtain ⟨mid, h1, hJ, h2⟩ := h
  have hwf := uRel_mid_wf c _ _ _ _ h1 hJ
  have hmask := (maskPad_invisible c hc _ _ hwf).2.1
  have hd : d = deframeU c (mid.map (maskPad c)) := by rw [h2.1]; unfold deframeU; exact hmask.symm
  have hJ2 := hJ.2
  rcases uRel_shape c _ env a mid h1 with hm | ⟨hu, v, k, _, _, hk, hm⟩ | ⟨hu, x, hm⟩
  · rw [hm] at hd
    cases hu : uEnd c none a with
    | none => rw [hu] at hJ2; exact ⟨[], by rw [hd, List.append_nil]; exact hJ2.2.2, by simp⟩
    | some p =>
      rw [hu] at hJ2
      obtain ⟨hh, pb, _, _, _, _, e⟩ := hJ2
      exact ⟨_, by rw [hd]; exact e, by simp⟩
  · rw [hu] at hJ2
    rw [hm] at hd
    refine ⟨[], ?_, by simp⟩
    rw [hd, List.append_nil]
    unfold deframeU
    rw [deframeUAux_app, hJ2.1]
    have hnil := (ud_hdrWords_take c (hdrOf c v.lines) k hk).1
    rw [hnil, List.append_nil]
    exact hJ2.2.2
  · rw [hu] at hJ2
    have e : deframeU c (frameU c a) = d ++ (udStep c (udEnd c (.hdr 0 0) (mid.map (maskPad c))) (flushBeat c x)).2 := by
      rw [← hm, hd]; unfold deframeU; rw [deframeUAux_append]
    exact ⟨(udStep c (udEnd c (.hdr 0 0) (mid.map (maskPad c))) (flushBeat c x)).2, by rw [← e]; exact hJ2.2.2,
      udStep_out_le c _ _⟩

theorem urtRel_init (c : PkCfg) (hc : UnalignedCfg c) : urtRel c (pkdpk c).init none [] [] :=
  ⟨[], uRel_init c, urtInv_nil c, udRel_init c hc⟩

/-- Stated here because two theorems of C16 take it: `pkt_depkt_roundtrip_unaligned_tight_partial` is this statement (its
    docstring is there), `pkt_depkt_roundtrip_unaligned_partial` is this after `uok2_of_uok_init`.  `i.ready` is the
    `source.ready` of the Depacketizer; strictly inside a packet that is also what the Packetizer sees (`urt_ready`). -/
theorem pkt_depkt_roundtrip_unaligned_tight (c : PkCfg) (hc : UnalignedCfg c) (ins : List (In HBeat))
    (hok : UOk2 c (pkdpk c) (pkdpk c).init none ins) :
    ∃ tail, (pkdpk c).delivered (pkdpk c).init ins ++ tail = annot c ((pkdpk c).accepted (pkdpk c).init ins) ∧
      tail.length ≤ 1 := by
  have h := rel_run_uok2 c (pkdpk c) (urtRel c) (upkdpk_step c hc) ins (pkdpk c).init none [] []
    (urtRel_init c hc) hok
  simp only [List.nil_append] at h
  exact urtRel_concl c hc _ _ _ _ h

end Litex.Packet
