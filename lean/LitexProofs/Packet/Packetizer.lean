import LitexProofs.Packet.Fsm
/-
  Packetizer, aligned header (`H % B = 0`): step lemma of the framing relation.  Also the configuration arithmetic that the
  Depacketizer and the unaligned files share (`AlignedCfg.*`, `W_le_cntMod`, `sr_shift`, `clamp_dw`) and the header emission
  (`pkSent`, `pkSent_start`, `packetizer_send_cycle`), which is the same for every configuration.
-/
namespace Litex.Packet
open Litex Litex.Stream Litex.Stream.Elem

/-- The header length is a positive multiple of the beat size. -/
structure AlignedCfg (c : PkCfg) : Prop where
  hB : 0 < c.B
  hH : 0 < c.H
  hal : c.H % c.B = 0

theorem PkCfg.W_eq (c : PkCfg) : c.W = c.H / c.B := by
  unfold PkCfg.W PkCfg.hw PkCfg.dw
  exact Nat.mul_div_mul_left _ _ (by omega)

theorem PkCfg.H_split (c : PkCfg) : c.H = c.W * c.B + c.L := by
  rw [c.W_eq]; have := Nat.div_add_mod c.H c.B; unfold PkCfg.L; rw [Nat.mul_comm]; omega

theorem PkCfg.hw_split (c : PkCfg) : c.hw = c.W * c.dw + 8 * c.L := by
  have := c.H_split; unfold PkCfg.hw PkCfg.dw; rw [this, Nat.mul_add, Nat.mul_left_comm]

namespace AlignedCfg
variable {c : PkCfg}

theorem L_eq (h : AlignedCfg c) : c.L = 0 := h.hal

theorem H_eq (h : AlignedCfg c) : c.H = c.W * c.B := by rw [c.H_split, h.L_eq]; rfl

theorem hw_eq (h : AlignedCfg c) : c.hw = c.W * c.dw := by rw [c.hw_split, h.L_eq]; rfl

theorem W_pos (h : AlignedCfg c) : 1 ≤ c.W := by
  rw [c.W_eq]
  have := Nat.div_add_mod c.H c.B
  rw [h.hal] at this
  have hH := h.hH
  rcases Nat.eq_zero_or_pos (c.H / c.B) with h0 | h0
  · rw [h0] at this; omega
  · exact h0

theorem aligned_eq (h : AlignedCfg c) : c.aligned = true := by simp [PkCfg.aligned, h.L_eq]
theorem copy_eq (h : AlignedCfg c) : c.copy = .acopy := by simp [PkCfg.copy, h.aligned_eq]

end AlignedCfg

/-- `count = Signal(max=max(header_words, 2))` is wide enough: it does not wrap before it reaches `W` (it may wrap AT `W`,
    on entering the copy state, where it is no longer read). -/
theorem W_le_cntMod (c : PkCfg) : c.W ≤ c.cntMod := by
  unfold PkCfg.cntMod bitsFor
  have hm : max c.W 2 - 1 ≠ 0 := by omega
  simp only [hm, ↓reduceIte]
  have := Nat.lt_log2_self (n := max c.W 2 - 1)
  omega

theorem sr_shift (h dw cnt : Nat) (hc : 1 ≤ cnt) :
    h / 2 ^ ((cnt - 1) * dw) / 2 ^ dw = h / 2 ^ (cnt * dw) := by
  obtain ⟨k, rfl⟩ : ∃ k, cnt = k + 1 := ⟨cnt - 1, by omega⟩
  rw [Nat.add_sub_cancel, Nat.div_div_eq_div_mul, ← Nat.pow_add, Nat.succ_mul]

/-- The model clamps slice starts as Python does (`sr[min(k, len(sr)-1):]`); with at least two header words the clamp at
    `dw` is inactive.  (`clamp_dw_u`, `clamp_2dw_u`, `clamp_payBits`, `clamp_resBits` in `Unaligned.lean` say the same of the
    other clamps under `UnalignedCfg`.) -/
theorem clamp_dw (c : PkCfg) (h2 : 2 ≤ c.W) : min c.dw (c.hw - 1) = c.dw := by
  unfold PkCfg.W at h2
  have hpos : 0 < c.dw := by
    rcases Nat.eq_zero_or_pos c.dw with h0 | h0
    · rw [h0, Nat.div_zero] at h2; omega
    · exact h0
  have := (Nat.le_div_iff_mul_le hpos).mp h2
  omega

/-- Header emission, the part of a packet both Packetizers treat alike: `k` of the `W` words of the header `h` are out,
    the beat that carries `h` is still pending.  `sr` is loaded with word 0 going out of IDLE and shifted by every word
    HEADER-SEND sends but the last (the word on offer is read at offset `dw`). -/
inductive pkSent (c : PkCfg) (s : PkState) (h k : Nat) : Prop
  /-- HEADER-SEND with `count = k`. -/
  | hdr (hs : s.st = .hdr) (hc : s.count = k) (hk1 : 1 ≤ k) (hk2 : k < c.W) (hfi : s.fromIdle = true)
      (hsr : s.sr = h / 2 ^ ((k - 1) * c.dw))
  /-- The copy state just entered (`fsm_from_idle`): all words are out. -/
  | full (hs : s.st = c.copy) (hk : k = c.W) (hfi : s.fromIdle = true) (hsr : s.sr = h / 2 ^ ((c.W - 2) * c.dw))

theorem pkSent.le {c : PkCfg} {s : PkState} {h k : Nat} (hp : pkSent c s h k) : k ≤ c.W := by cases hp <;> omega

/-- The state IDLE leaves behind when word 0 goes out: HEADER-SEND, or the copy state at once when `W = 1`. -/
theorem pkSent_start (c : PkCfg) (hW : 1 ≤ c.W) (s : PkState) (h : Nat)
    (hst : s.st = if c.W = 1 then c.copy else .hdr) (hc : s.count = 1) (hsr : s.sr = h) (hfi : s.fromIdle = true) :
    pkSent c s h 1 := by
  by_cases hw1 : c.W = 1
  · rw [if_pos hw1] at hst; exact .full hst hw1.symm hfi (by simp [hsr, hw1])
  · rw [if_neg hw1] at hst; exact .hdr hst hc (Nat.le_refl 1) (by omega) hfi (by simp [hsr])

/-- One cycle with header words left to send; no assumption on the configuration. -/
theorem packetizer_send_cycle (c : PkCfg) (s : PkState) (i : In HBeat) (h k : Nat) (hk : k < c.W)
    (hp : pkSent c s h k) :
    (packetizer c).out s i = { ready := false, valid := true, tok := hdrWord c h k } ∧
    (i.ready = false → (packetizer c).step s i = s) ∧
    (i.ready = true → pkSent c ((packetizer c).step s i) h (k + 1) ∧
      ((packetizer c).step s i).dLast = (pkLatch c s i).dLast) := by
  cases hp with
  | full _ hkW => omega
  | hdr hs hc hk1 _ hfi hsr =>
    subst hc
    have hcm := W_le_cntMod c
    refine ⟨?_, fun hr => ?_, fun hr => ?_⟩
    · rw [packetizer_out_hdr c s i hs, PkCfg.srFrom, clamp_dw c (by omega), hsr, sr_shift _ _ _ hk1]; rfl
    · simp [packetizer_step_hdr c s i hs, hr, PkState.latch]
    · rw [packetizer_step_hdr c s i hs, if_pos hr, hsr, sr_shift _ _ _ hk1]
      by_cases hl : s.count + 1 = c.W
      · rw [if_pos (beq_iff_eq.mpr hl)]
        exact ⟨.full rfl hl (by simpa using hfi) (by simp [hsr, ← hl]), rfl⟩
      · rw [if_neg (by simpa using hl)]
        exact ⟨.hdr (by simpa using hs) (Nat.mod_eq_of_lt (by omega)) (Nat.le_add_left 1 _) (by omega)
          (by simpa using hfi) (by rw [Nat.add_sub_cancel]), rfl⟩

/-- The framing relation of the aligned Packetizer, one constructor per phase of a packet.  `p` is the beat the
    producer is obliged to keep offering. -/
inductive pkRel (c : PkCfg) (s : PkState) (p : Option (Tok HBeat)) (a : List (Tok HBeat)) (d : List (Tok Nat)) : Prop
  /-- IDLE: everything accepted is framed and delivered. -/
  | idle (hs : s.st = .idle) (he : endSt true a = true) (hd : d = frame c a)
  /-- Header emission: the first beat `t` is pending, `k` header words are out. -/
  | sent (he : endSt true a = true) (t : Tok HBeat) (hp : p = some t) (k : Nat) (hk : pkSent c s (hdrOf c t) k)
      (hd : d = frame c a ++ (hdrWords c (hdrOf c t)).take k)
  /-- ALIGNED-DATA-COPY inside a packet. -/
  | inside (hs : s.st = .acopy) (he : endSt true a = false) (hd : d = frame c a)

theorem pkRel_init (c : PkCfg) : pkRel c (packetizer c).init none [] [] := .idle rfl rfl rfl

theorem frame_snoc (c : PkCfg) (a : List (Tok HBeat)) (t : Tok HBeat) :
    frame c (a ++ [t]) = frame c a ++ ((if endSt true a then hdrWords c (hdrOf c t) else []) ++ [payBeat c t]) :=
  frameAux_append c a t true

/-- With an aligned header `sink_d` does not exist. -/
theorem pkLatch_aligned (c : PkCfg) (s : PkState) (i : In HBeat) (hal : c.aligned = true) : pkLatch c s i = s := by
  simp [PkState.latch, hal]

theorem packetizer_step (c : PkCfg) (hc : AlignedCfg c) (s : PkState) (p : Option (Tok HBeat))
    (a : List (Tok HBeat)) (d : List (Tok Nat)) (i : In HBeat)
    (h : pkRel c s p a d) (hp : ∀ t, p = some t → i.valid = true ∧ i.tok = t) :
    pkRel c ((packetizer c).step s i) (pendNext (packetizer c) s i)
      (a ++ (packetizer c).accNow s i) (d ++ (packetizer c).delNow s i) := by
  have hal := hc.aligned_eq
  have hcp := hc.copy_eq
  have hW := hc.W_pos
  obtain ⟨iv, it, ir⟩ := i
  cases h with
  | idle hs h1 h2 =>
    cases iv <;> cases ir <;>
      simp [Elem.accNow, Elem.delNow, pendNext, packetizer_out_idle c s _ hs, packetizer_step_idle c s _ hs,
        pkLatch_aligned c s _ hal]
    -- nothing offered, or the source stalled with the first beat pending: stays in IDLE
    · exact .idle hs h1 h2
    · exact .idle hs h1 h2
    · exact .idle hs h1 h2
    -- header word 0 delivered
    · exact .sent h1 _ rfl 1 (pkSent_start c hW _ _ rfl rfl rfl rfl) (by rw [h2, hdrWords_take_one c _ hW])
  | sent h1 t hpt k hk hd =>
    obtain ⟨hv, htk⟩ := hp t hpt
    simp only at hv htk
    subst hv htk hpt
    have hk0 := hk
    cases hk with
    | hdr _ _ _ hk2 =>
      obtain ⟨hout, hstall, hgo⟩ := packetizer_send_cycle c s ⟨true, it, ir⟩ _ k hk2 hk0
      cases ir <;>
        simp only [Elem.accNow, Elem.delNow, pendNext, hout, Bool.and_false, Bool.and_true, Bool.not_false,
          Bool.false_eq_true, ↓reduceIte, List.append_nil]
      -- source stalled: nothing changes
      · rw [hstall rfl]; exact .sent h1 _ rfl k hk0 hd
      -- one more header word delivered
      · exact .sent h1 _ rfl _ (hgo rfl).1 (by rw [hd, List.append_assoc, ← hdrWords_take_succ c _ k hk2])
    | full hs hkW =>
      rw [hcp] at hs
      have hf := frame_snoc c a it
      rw [h1] at hf
      cases ir <;>
        simp [Elem.accNow, Elem.delNow, pendNext, packetizer_out_acopy c s _ hs, packetizer_step_acopy c s _ hs,
          pkLatch_aligned c s _ hal]
      -- source stalled: nothing changes
      · exact .sent h1 _ rfl k hk0 hd
      -- the pending first beat goes through; with `last` back to IDLE
      · have hd' : d ++ [⟨sinkData c it, false, it.last⟩] = frame c (a ++ [it]) := by
          rw [hf, hd, hkW, hdrWords_take_all, List.append_assoc]; rfl
        cases hl : it.last <;> simp only [hl, Bool.false_eq_true, ↓reduceIte] at hd' ⊢
        · exact .inside hs (by rw [endSt_append, hl]) hd'
        · exact .idle rfl (by rw [endSt_append, hl]) hd'
  | inside hs h1 hd =>
    have hf := frame_snoc c a it
    rw [h1] at hf
    cases iv <;> cases ir <;>
      simp [Elem.accNow, Elem.delNow, pendNext, packetizer_out_acopy c s _ hs, packetizer_step_acopy c s _ hs,
        pkLatch_aligned c s _ hal]
    -- nothing offered, or the source stalled: nothing changes
    · exact .inside hs h1 hd
    · exact .inside hs h1 hd
    · exact .inside hs h1 hd
    -- the beat goes through; with `last` back to IDLE
    · have hd' : d ++ [⟨sinkData c it, false, it.last⟩] = frame c (a ++ [it]) := by rw [hf, hd]; rfl
      cases hl : it.last <;> simp only [hl, Bool.false_eq_true, ↓reduceIte] at hd' ⊢
      · exact .inside hs (by rw [endSt_append, hl]) hd'
      · exact .idle rfl (by rw [endSt_append, hl]) hd'

theorem pkRel_shape (c : PkCfg) (s : PkState) (p : Option (Tok HBeat)) (a : List (Tok HBeat))
    (d : List (Tok Nat)) (h : pkRel c s p a d) :
    d = frame c a ∨ (endSt true a = true ∧ ∃ t k, p = some t ∧ k ≤ c.W ∧
      d = frame c a ++ (hdrWords c (hdrOf c t)).take k) := by
  cases h with
  | idle _ _ hd => exact Or.inl hd
  | sent h1 t hp k hk hd => exact Or.inr ⟨h1, t, k, hp, hk.le, hd⟩
  | inside _ _ hd => exact Or.inl hd

end Litex.Packet
