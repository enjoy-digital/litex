import LitexProofs.Packet.Packetizer
/-
  Depacketizer, aligned header: de-framing specification and the step lemma of its history relation.
-/
namespace Litex.Packet
open Litex Litex.Stream Litex.Stream.Elem

/-- De-framing (aligned header).  `k` = header words collected so far (`k = W`: inside the payload),
    `h` = the header collected so far (word `j` at bits `[j·dw, (j+1)·dw)`).  `last` on a header beat is
    ignored, as the FSM does. -/
def deframeAux (c : PkCfg) : Nat → Nat → List (Tok Nat) → List (Tok HBeat)
  | _, _, [] => []
  | k, h, t :: r =>
    if k < c.W then deframeAux c (k + 1) (h + (t.data % 2 ^ c.dw) * 2 ^ (k * c.dw)) r
    else { data := { data := t.data % 2 ^ c.dw, hdr := h }, first := false, last := t.last } ::
         deframeAux c (if t.last then 0 else k) (if t.last then 0 else h) r

def deframe (c : PkCfg) (a : List (Tok Nat)) : List (Tok HBeat) := deframeAux c 0 0 a

/-- The state `(k, h)` in which `deframeAux` is after the beats of the list (the same recursion with the output dropped). -/
def dfSt (c : PkCfg) : Nat → Nat → List (Tok Nat) → Nat × Nat
  | k, h, [] => (k, h)
  | k, h, t :: r =>
    if k < c.W then dfSt c (k + 1) (h + (t.data % 2 ^ c.dw) * 2 ^ (k * c.dw)) r
    else dfSt c (if t.last then 0 else k) (if t.last then 0 else h) r

theorem deframeAux_app (c : PkCfg) (x y : List (Tok Nat)) :
    ∀ k h, deframeAux c k h (x ++ y) =
      deframeAux c k h x ++ deframeAux c (dfSt c k h x).1 (dfSt c k h x).2 y := by
  induction x with
  | nil => intro k h; simp [deframeAux, dfSt]
  | cons t r ih =>
    intro k h
    simp only [List.cons_append, deframeAux, dfSt]
    split
    · exact ih _ _
    · simp [ih]

theorem dfSt_app (c : PkCfg) (x y : List (Tok Nat)) :
    ∀ k h, dfSt c k h (x ++ y) = dfSt c (dfSt c k h x).1 (dfSt c k h x).2 y := by
  induction x with
  | nil => intro k h; simp [dfSt]
  | cons t r ih =>
    intro k h
    simp only [List.cons_append, dfSt]
    split
    · exact ih _ _
    · exact ih _ _

theorem deframeAux_append (c : PkCfg) (a : List (Tok Nat)) (t : Tok Nat) (k h : Nat) :
    deframeAux c k h (a ++ [t]) = deframeAux c k h a ++
      (if (dfSt c k h a).1 < c.W then []
       else [{ data := { data := t.data % 2 ^ c.dw, hdr := (dfSt c k h a).2 }, first := false, last := t.last }]) := by
  rw [deframeAux_app]
  simp only [deframeAux]

theorem dfSt_append (c : PkCfg) (a : List (Tok Nat)) (t : Tok Nat) (k h : Nat) :
    dfSt c k h (a ++ [t]) =
      (if (dfSt c k h a).1 < c.W then
          ((dfSt c k h a).1 + 1, (dfSt c k h a).2 + (t.data % 2 ^ c.dw) * 2 ^ ((dfSt c k h a).1 * c.dw))
       else (if t.last then 0 else (dfSt c k h a).1, if t.last then 0 else (dfSt c k h a).2)) := by
  rw [dfSt_app]
  simp only [dfSt]

/-- One `sr_shift` of the Depacketizer: the top `k` words of `sr` are the words collected so far.  `m = hw - (k+1)·dw`
    is the number of bits below the `k + 1` words after the shift; stated over plain numbers so that the arithmetic does not
    carry the configuration. -/
theorem dp_shift_inv (hw dw k m sr h d : Nat) (hhw : hw = m + (k + 1) * dw) (hsr : sr < 2 ^ hw)
    (hh : sr / 2 ^ (m + dw) = h) (hd : d < 2 ^ dw) :
    (sr / 2 ^ dw + d * 2 ^ (m + k * dw)) < 2 ^ hw ∧
    (sr / 2 ^ dw + d * 2 ^ (m + k * dw)) / 2 ^ m = h + d * 2 ^ (k * dw) := by
  have e1 : hw = (m + k * dw) + dw := by rw [hhw, Nat.succ_mul]; omega
  have e2 : (2 : Nat) ^ hw = 2 ^ (m + k * dw) * 2 ^ dw := by rw [e1, Nat.pow_add]
  have e3 : (2 : Nat) ^ (m + k * dw) = 2 ^ m * 2 ^ (k * dw) := Nat.pow_add ..
  have e4 : (2 : Nat) ^ (m + dw) = 2 ^ dw * 2 ^ m := by rw [Nat.pow_add, Nat.mul_comm]
  have hA : 0 < 2 ^ m := Nat.two_pow_pos m
  generalize (2 : Nat) ^ (m + k * dw) = P at *
  generalize (2 : Nat) ^ dw = D at *
  have hx : sr / D < P := by
    apply Nat.div_lt_of_lt_mul
    rw [Nat.mul_comm, ← e2]; exact hsr
  constructor
  · have h1 : (d + 1) * P ≤ D * P := Nat.mul_le_mul_right _ hd
    rw [Nat.add_mul, Nat.one_mul] at h1
    rw [e2, Nat.mul_comm P D]
    omega
  · rw [e3, ← Nat.mul_assoc, Nat.mul_right_comm, Nat.add_mul_div_right _ _ hA,
      Nat.div_div_eq_div_mul, ← e4, hh]

theorem hw_eq_dw_of_one_word (c : PkCfg) (hW : c.W = 1) (hL : c.L = 0) : c.hw = c.dw := by
  rw [c.hw_split, hW, hL]; omega

/-- The `header_words == 1` shortcut `sr.eq(sink.data)` of an aligned header is the generic shift: with `hw = dw` the
    old content is shifted out completely. -/
theorem dpShift_eq (c : PkCfg) (sr d : Nat) (hsr : sr < 2 ^ c.hw) :
    c.dpShift sr d = (sr / 2 ^ c.dw + d * 2 ^ (c.hw - c.dw)) % 2 ^ c.hw := by
  unfold PkCfg.dpShift
  split
  · rename_i h1
    simp only [Bool.and_eq_true, beq_iff_eq] at h1
    rw [← hw_eq_dw_of_one_word c h1.1 h1.2, Nat.div_eq_of_lt hsr, Nat.sub_self, Nat.pow_zero, Nat.mul_one, Nat.zero_add]
  · rfl

/-- If the top `k` words of `sr` are the header `h` collected so far, after `sr_shift` the top `k + 1` words are `h` with
    the sink beat `d` on top; whatever the configuration. -/
theorem dpShift_collect (c : PkCfg) (k h sr d : Nat) (hk : (k + 1) * c.dw ≤ c.hw) (hsr : sr < 2 ^ c.hw)
    (hh : sr / 2 ^ (c.hw - k * c.dw) = h) (hd : d < 2 ^ c.dw) :
    c.dpShift sr d < 2 ^ c.hw ∧ c.dpShift sr d / 2 ^ (c.hw - (k + 1) * c.dw) = h + d * 2 ^ (k * c.dw) := by
  have hsm : (k + 1) * c.dw = k * c.dw + c.dw := Nat.succ_mul ..
  have hsi := dp_shift_inv c.hw c.dw k (c.hw - (k + 1) * c.dw) sr h d (by omega) hsr
    (by rw [← hh]; congr 2; omega) hd
  have hm : c.hw - (k + 1) * c.dw + k * c.dw = c.hw - c.dw := by omega
  rw [hm] at hsi
  rw [dpShift_eq c sr d hsr, Nat.mod_eq_of_lt hsi.1]
  exact hsi

/-- `k` header words are collected and are the top `k` words of `sr` (as `h`). -/
inductive dpColl (c : PkCfg) (s : PkState) (k h : Nat) : Prop
  /-- IDLE: none yet. -/
  | idle (hs : s.st = .idle) (hk : k = 0) (hh : s.sr / 2 ^ (c.hw - k * c.dw) = h)
  /-- HEADER-RECEIVE: `count = k` of them, `1 ≤ k < W`. -/
  | hdr (hs : s.st = .hdr) (hc : s.count = k) (hk1 : 1 ≤ k) (hk2 : k < c.W) (hfi : s.fromIdle = true)
      (hh : s.sr / 2 ^ (c.hw - k * c.dw) = h)
  /-- The copy state just entered: all `W`. -/
  | full (hs : s.st = c.copy) (hk : k = c.W) (hfi : s.fromIdle = true) (hh : s.sr / 2 ^ (c.hw - k * c.dw) = h)

theorem dpColl_idle (c : PkCfg) (s : PkState) (hs : s.st = .idle) (hsr : s.sr < 2 ^ c.hw) : dpColl c s 0 0 :=
  .idle hs rfl (by rw [Nat.zero_mul]; exact Nat.div_eq_of_lt hsr)

theorem dpColl_full (c : PkCfg) (hW : 1 ≤ c.W) (s : PkState) (h : Nat) (hc : dpColl c s c.W h) :
    s.st = c.copy ∧ s.fromIdle = true ∧ s.sr / 2 ^ (c.hw - c.W * c.dw) = h := by
  cases hc with
  | idle _ h0 => omega
  | hdr _ _ _ hlt => omega
  | full hs _ hfi hh => exact ⟨hs, hfi, hh⟩

/-- One cycle while the header is collected (`k < W`), whatever the configuration: nothing is offered at the source and
    every sink beat is taken; without a sink beat nothing that matters changes; a sink beat is shifted into `sr` as header
    word `k` (and sampled by `sink_d` when the header is not aligned). -/
theorem depacketizer_collect (c : PkCfg) (hle : c.W * c.dw ≤ c.hw) (s : PkState) (i : In Nat) (k h : Nat)
    (hk : k < c.W) (hsr : s.sr < 2 ^ c.hw) (hc : dpColl c s k h) :
    (depacketizer c).out s i = { ready := true, valid := false, tok := dpTok s 0 false } ∧
    (i.valid = false → dpColl c ((depacketizer c).step s i) k h ∧ ((depacketizer c).step s i).sr = s.sr ∧
      ((depacketizer c).step s i).dLast = s.dLast) ∧
    (i.valid = true →
      dpColl c ((depacketizer c).step s i) (k + 1) (h + i.tok.data % 2 ^ c.dw * 2 ^ (k * c.dw)) ∧
      ((depacketizer c).step s i).sr < 2 ^ c.hw ∧
      ((depacketizer c).step s i).dData = (dpLatch c s i true).dData ∧
      ((depacketizer c).step s i).dLast = (dpLatch c s i true).dLast) := by
  obtain ⟨iv, it, ir⟩ := i
  -- `count` does not wrap before it reaches `W`
  have hcm := W_le_cntMod c
  have hcol := fun hh => dpShift_collect c k h s.sr (it.data % 2 ^ c.dw)
    (Nat.le_trans (Nat.mul_le_mul_right _ hk) hle) hsr hh (Nat.mod_lt _ (Nat.two_pow_pos _))
  cases hc with
  | idle hs h0 hh =>
    subst h0
    obtain ⟨hlt, hcol⟩ := hcol hh
    refine ⟨depacketizer_out_idle c s _ hs, ?_, ?_⟩ <;> rintro ⟨⟩ <;> rw [depacketizer_step_idle c s _ hs]
    · simp only [PkState.latch, Bool.and_false, Bool.false_and, Bool.false_eq_true, ↓reduceIte]
      exact ⟨.idle hs rfl hh, trivial, trivial⟩
    · simp only [↓reduceIte, beq_iff_eq, Nat.zero_add]
      refine ⟨?_, hlt, trivial, trivial⟩
      by_cases h1 : c.W = 1
      · rw [if_pos h1]; exact .full rfl h1.symm rfl hcol
      · rw [if_neg h1]; exact .hdr rfl rfl (Nat.le_refl 1) (by omega) rfl hcol
  | hdr hs hck hc1 hc2 hfi hh =>
    subst hck
    obtain ⟨hlt, hcol⟩ := hcol hh
    refine ⟨depacketizer_out_hdr c s _ hs, ?_, ?_⟩ <;> rintro ⟨⟩ <;> rw [depacketizer_step_hdr c s _ hs]
    · simp only [PkState.latch, Bool.and_false, Bool.false_and, Bool.false_eq_true, ↓reduceIte]
      exact ⟨.hdr hs rfl hc1 hc2 hfi hh, trivial, trivial⟩
    · simp only [↓reduceIte, beq_iff_eq, PkState.latch_fromIdle]
      refine ⟨?_, hlt, trivial, trivial⟩
      by_cases h1 : s.count + 1 = c.W
      · rw [if_pos h1]; exact .full rfl h1 hfi hcol
      · rw [if_neg h1]
        exact .hdr rfl (Nat.mod_eq_of_lt (by omega)) (Nat.le_add_left 1 _) (by omega) hfi hcol
  | full _ h0 => omega

/-- What the FSM state of the aligned Depacketizer says about the accepted stream `a`, phase by phase. -/
inductive dpPhase (c : PkCfg) (s : PkState) (a : List (Tok Nat)) : Prop
  /-- IDLE / HEADER-RECEIVE: `k < W` header words collected. -/
  | coll (k h : Nat) (hk : k < c.W) (he : dfSt c 0 0 a = (k, h)) (hc : dpColl c s k h)
  /-- ALIGNED-DATA-COPY: `sr` is the header of the packet. -/
  | copy (hs : s.st = .acopy) (he : dfSt c 0 0 a = (c.W, s.sr))

/-- `s.dLast = false`: with an aligned header `sink_d` is never written, but ALIGNED-DATA-COPY of the model reads
    `sink_d.last` (`source.valid = sink.valid | sink_d.last`), so the relation records that it keeps its reset value. -/
def dpRel (c : PkCfg) (s : PkState) (a : List (Tok Nat)) (d : List (Tok HBeat)) : Prop :=
  d = deframe c a ∧ s.sr < 2 ^ c.hw ∧ s.dLast = false ∧ dpPhase c s a

theorem dpRel_init (c : PkCfg) (hc : AlignedCfg c) : dpRel c (depacketizer c).init [] [] :=
  ⟨rfl, Nat.two_pow_pos _, rfl, .coll 0 0 hc.W_pos rfl (dpColl_idle c _ rfl (Nat.two_pow_pos _))⟩

theorem dpLatch_aligned (c : PkCfg) (s : PkState) (i : In Nat) (rdy : Bool) (hal : c.aligned = true) :
    dpLatch c s i rdy = s := by
  simp [PkState.latch, hal]

theorem depacketizer_step (c : PkCfg) (hc : AlignedCfg c) (s : PkState)
    (a : List (Tok Nat)) (d : List (Tok HBeat)) (i : In Nat) (h : dpRel c s a d) :
    dpRel c ((depacketizer c).step s i) (a ++ (depacketizer c).accNow s i)
      (d ++ (depacketizer c).delNow s i) := by
  have hal := hc.aligned_eq
  have hcp := hc.copy_eq
  have hhw := hc.hw_eq
  obtain ⟨iv, it, ir⟩ := i
  obtain ⟨hd, hsr, hdl, hph⟩ := h
  subst hd
  have hds := dfSt_append c a it 0 0
  have hdf := deframeAux_append c a it 0 0
  cases hph with
  | coll k h hk he hcl =>
    obtain ⟨hout, hstall, htake⟩ := depacketizer_collect c (Nat.le_of_eq hhw.symm) s ⟨iv, it, ir⟩ k h hk hsr hcl
    cases iv
    -- nothing offered
    · obtain ⟨h1, h2, h3⟩ := hstall rfl
      simp only [Elem.accNow, Elem.delNow, hout, Bool.false_and, Bool.false_eq_true, ↓reduceIte, List.append_nil]
      exact ⟨rfl, h2 ▸ hsr, h3 ▸ hdl, .coll k h hk he h1⟩
    · obtain ⟨hcl', hlt, _, hdl'⟩ := htake rfl
      rw [dpLatch_aligned c s _ _ hal] at hdl'
      rw [he] at hds hdf
      simp only [hk, ↓reduceIte, List.append_nil] at hds hdf
      simp only [Elem.accNow, Elem.delNow, hout, Bool.and_true, Bool.false_and, Bool.false_eq_true, ↓reduceIte,
        List.append_nil]
      refine ⟨hdf.symm, hlt, hdl' ▸ hdl, ?_⟩
      by_cases hlast : k + 1 = c.W
      -- the last header word collected: `sr` is the header
      · obtain ⟨h1, _, h3⟩ := dpColl_full c hc.W_pos _ _ (hlast ▸ hcl')
        rw [← hhw, Nat.sub_self, Nat.pow_zero, Nat.div_one] at h3
        exact .copy (h1.trans hcp) (by rw [hds, hlast, h3])
      -- one more header word collected
      · exact .coll _ _ (by omega) hds hcl'
  | copy hs he =>
    rw [he] at hds hdf
    simp only [Nat.lt_irrefl, ↓reduceIte] at hds hdf
    cases iv <;> cases ir <;>
      simp only [Elem.accNow, Elem.delNow, depacketizer_out_acopy c s _ hs, depacketizer_step_acopy c s _ hs,
        dpLatch_aligned c s _ _ hal, hdl, Bool.and_true, Bool.and_false, Bool.false_and, Bool.true_and, Bool.or_false,
        Bool.false_eq_true, ↓reduceIte, List.append_nil]
    -- nothing offered, or the source stalled: nothing changes
    · exact ⟨rfl, hsr, hdl, .copy hs he⟩
    · exact ⟨rfl, hsr, hdl, .copy hs he⟩
    · exact ⟨rfl, hsr, hdl, .copy hs he⟩
    -- the beat goes through with the header; with `last` back to IDLE
    · cases hl : it.last <;> simp only [hl, Bool.false_eq_true, ↓reduceIte] at hds hdf ⊢
      · exact ⟨hdf.symm, hsr, hdl, .copy hs hds⟩
      · exact ⟨hdf.symm, hsr, rfl, .coll 0 0 hc.W_pos hds (dpColl_idle c _ rfl hsr)⟩


end Litex.Packet
