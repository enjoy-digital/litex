import LitexModel.Packet.FifoAll
/-
  Per-queue abstraction lemmas for the four circuits `stream.SyncFIFO` can build (`QKind`): what a queue
  stores, how one clock edge changes it, and when it is readable; for the two Migen FIFOs (`IsFifo`) also how long a
  written entry stays hidden (`lag`, `Fresh`) and when the queue is writable (used by the progress proofs of C04,
  `LitexProofs/Stream/HandshakePacketFifo.lean`).
-/
namespace Litex.Packet

theorem length_pop_push_le {α : Type} (q : List α) (depth : Nat) (pop push : Bool) (x : α)
    (h : q.length ≤ depth) (hp : push = true → q.length ≠ depth) :
    (if push then (if pop then q.tail else q) ++ [x] else (if pop then q.tail else q)).length ≤ depth := by
  have t1 : q.tail.length ≤ q.length := by simp [List.length_tail]
  cases push
  · cases pop <;> simp only [Bool.false_eq_true, ↓reduceIte] <;> omega
  · have := hp rfl
    cases pop <;> simp only [Bool.false_eq_true, ↓reduceIte, List.length_append, List.length_singleton] <;> omega

namespace QSt
variable {α : Type}

/-- The entries a queue holds, oldest first. -/
def stored (k : QKind) (s : QSt α) : List α :=
  match k with
  | .never => []
  | .pipe  => if s.v then [s.d] else []
  | .fifo  => s.q
  | .bfifo => (if s.v then [s.d] else []) ++ s.q

/-- The stored entries after the read side of a cycle. -/
def popped (k : QKind) (s : QSt α) (re : Bool) : List α :=
  if re && s.readable k then (s.stored k).tail else s.stored k

theorem stored_next (k : QKind) (depth : Nat) (s : QSt α) (we : Bool) (din : α) (re : Bool) :
    (s.next k depth we din re).stored k =
      s.popped k re ++ (if we && s.writable k depth re then [din] else []) := by
  obtain ⟨q, v, d⟩ := s
  cases k with
  | never => simp [stored, popped, writable]
  | pipe => cases v <;> cases re <;> cases we <;> simp [next, stored, popped, writable, readable]
  | fifo =>
    cases re <;> cases q <;> simp [next, stored, popped, writable, readable] <;> split <;> simp
  | bfifo =>
    cases v <;> cases re <;> cases q <;> simp [next, stored, popped, writable, readable] <;> split <;> simp

theorem stored_readable (k : QKind) (s : QSt α) (h : s.readable k = true) :
    s.stored k = s.dout k :: (s.stored k).tail := by
  obtain ⟨q, v, d⟩ := s
  cases k with
  | never => simp [readable] at h
  | pipe => simp [readable] at h; simp [stored, dout, h]
  | fifo => cases q <;> simp [readable] at h; simp [stored, dout]
  | bfifo => simp [readable] at h; simp [stored, dout, h]

theorem stored_ne_nil_of_readable (k : QKind) (s : QSt α) (h : s.readable k = true) : s.stored k ≠ [] := by
  rw [stored_readable k s h]; simp

/-- Wire, `PipeValid` and the fwft FIFO are readable as soon as they hold something. -/
theorem readable_prompt (k : QKind) (hk : k ≠ .bfifo) (s : QSt α) :
    s.readable k = !(s.stored k).isEmpty := by
  obtain ⟨q, v, d⟩ := s
  cases k with
  | never => simp [readable, stored]
  | pipe => cases v <;> simp [readable, stored]
  | fifo => simp [readable, stored]
  | bfifo => exact absurd rfl hk

/-- An entry written into `SyncFIFOBuffered` is readable only two edges later. -/
theorem readable_next_bfifo (depth : Nat) (s : QSt α) (we : Bool) (din : α) (re : Bool) :
    (s.next .bfifo depth we din re).readable .bfifo = !(s.popped .bfifo re).isEmpty := by
  obtain ⟨q, v, d⟩ := s
  cases v <;> cases re <;> cases q <;> simp [next, stored, popped, readable]

def cap (k : QKind) (depth : Nat) : Nat :=
  match k with
  | .never => 0
  | .pipe  => 1
  | .fifo  => depth
  | .bfifo => depth + 1

/-- The inner FIFO never holds more than `depth` entries. -/
def bounded (depth : Nat) (s : QSt α) : Prop := s.q.length ≤ depth

theorem bounded_next (k : QKind) (depth : Nat) (s : QSt α) (we : Bool) (din : α) (re : Bool)
    (h : s.bounded depth) : (s.next k depth we din re).bounded depth := by
  have hp : (we && s.q.length != depth) = true → s.q.length ≠ depth := fun hc => by simp at hc; exact hc.2
  cases k with
  | never => exact h
  | pipe => simp only [next]; split <;> exact h
  | fifo => exact length_pop_push_le _ _ _ _ _ h hp
  | bfifo => exact length_pop_push_le _ _ _ _ _ h hp

theorem stored_length_le (k : QKind) (depth : Nat) (s : QSt α) (h : s.bounded depth) :
    (s.stored k).length ≤ cap k depth := by
  obtain ⟨q, v, d⟩ := s
  unfold bounded at h
  simp only at h
  cases k with
  | never => simp [stored, cap]
  | pipe => cases v <;> simp [stored, cap]
  | fifo => simpa [stored, cap] using h
  | bfifo => cases v <;> simp [stored, cap] <;> omega

/-- The two Migen FIFOs (what `SyncFIFO` builds for depth ≥ 2). -/
def IsFifo (k : QKind) : Prop := k = .fifo ∨ k = .bfifo

/-- Clock edges, beyond the first, before a written entry is readable. -/
def lag : QKind → Nat
  | .bfifo => 1
  | _ => 0

/-- What a queue holds without showing it is the entry written by the latest edge. -/
def Fresh (k : QKind) (s : QSt α) : Prop := s.readable k = false → (s.stored k).length ≤ lag k

theorem popped_nil_of_next {k : QKind} (hk : IsFifo k) (depth : Nat) (s : QSt α) (we : Bool) (din : α) (re : Bool)
    (h : (s.next k depth we din re).readable k = false) : s.popped k re = [] := by
  rcases hk with rfl | rfl
  · rw [readable_prompt _ (by decide), stored_next] at h
    have h' : s.popped .fifo re ++ (if (we && s.writable .fifo depth re) = true then [din] else []) = [] := by
      simpa using h
    exact (List.append_eq_nil_iff.mp h').1
  · rw [readable_next_bfifo] at h
    simpa using h

theorem fresh_next {k : QKind} (hk : IsFifo k) (depth : Nat) (s : QSt α) (we : Bool) (din : α) (re : Bool) :
    Fresh k (s.next k depth we din re) := by
  intro h
  rcases hk with rfl | rfl
  · have h' := h
    rw [readable_prompt _ (by decide)] at h'
    rw [show (s.next .fifo depth we din re).stored .fifo = [] by simpa using h']
    exact Nat.zero_le _
  · rw [stored_next, popped_nil_of_next (Or.inr rfl) depth s we din re h]
    split <;> simp [lag]

theorem readable_next_of_stored {k : QKind} (hk : IsFifo k) (depth : Nat) (s : QSt α) (we : Bool) (din : α)
    (re : Bool) (h : s.readable k = false) (hne : s.stored k ≠ []) :
    (s.next k depth we din re).readable k = true := by
  rcases hk with rfl | rfl
  · rw [readable_prompt _ (by decide)] at h
    exact absurd (by simpa using h) hne
  · rw [readable_next_bfifo]
    unfold popped
    rw [h]
    simpa using hne

theorem writable_of_lt {k : QKind} (hk : IsFifo k) (depth : Nat) (s : QSt α) (re : Bool)
    (h : (s.stored k).length < depth) : s.writable k depth re = true := by
  obtain ⟨q, v, d⟩ := s
  rcases hk with rfl | rfl
  · simp only [stored] at h
    simp only [writable, bne_iff_ne, ne_eq]; omega
  · cases v <;> simp [stored] at h <;> simp only [writable, bne_iff_ne, ne_eq] <;> omega

theorem full_readable {k : QKind} (hk : IsFifo k) {depth : Nat} (hd : lag k < depth) (s : QSt α) (re : Bool)
    (hf : Fresh k s) (h : s.writable k depth re = false) :
    s.readable k = true ∧ (s.stored k).length = depth + lag k := by
  obtain ⟨q, v, d⟩ := s
  rcases hk with rfl | rfl
  · have hq : q.length = depth := by simpa [writable] using h
    refine ⟨?_, by simpa [stored, lag] using hq⟩
    cases q with
    | nil => simp [lag] at hd hq; omega
    | cons x xs => rfl
  · have hq : q.length = depth := by simpa [writable] using h
    cases v with
    | true => exact ⟨rfl, by simp [stored, lag, hq]⟩
    | false =>
      have := hf rfl
      simp [stored, lag] at this hd
      omega

end QSt
end Litex.Packet
