import LitexModel.Packet.Header
import Mathlib.Tactic.Ring
import LitexProofs.Bits
/-
  Bit-level lemmas behind `header_roundtrip_partial` / `encode_layout`, and the per-field results they follow from.
  The `testBit` facts about `slice` / `setSlice` are those of `LitexProofs/Bits.lean`.  No proof here uses `ring`: the
  Mathlib import is what gives the `example`s of `HeaderClip.lean` and `C16.lean` their `DecidableEq (Except String _)`.
-/
namespace Litex.Packet
open Litex

theorem testBit_cat_cons (w v : Nat) (r : List (Nat × Nat)) (j : Nat) :
    (cat ((w, v) :: r)).testBit j = if j < w then v.testBit j else (cat r).testBit (j - w) := by
  simp only [cat]
  rw [Nat.add_comm, Nat.testBit_two_pow_mul_add _ (Nat.mod_lt _ (Nat.two_pow_pos w))]
  split
  · rename_i h; simp [Nat.testBit_mod_two_pow, h]
  · rfl

/-- Byte reversal of `n` whole bytes: the chunk list is `(8, byte i)` for `i = n-1 … 0`. -/
def revB (n x : Nat) : Nat := cat ((List.range n).reverse.map fun i => (8, slice (i * 8) 8 x))

theorem revChunks_whole (n x : Nat) :
    revChunks (8 * n) x = (List.range n).reverse.map fun i => (8, slice (i * 8) 8 x) := by
  unfold revChunks
  have : (8 * n + 7) / 8 = n := by omega
  rw [this]
  apply List.map_congr_left
  intro i hi
  simp only [List.mem_reverse, List.mem_range] at hi
  have : min ((i + 1) * 8) (8 * n) - i * 8 = 8 := by omega
  rw [this]

theorem revBytes_whole (n x : Nat) : revBytes (8 * n) x = revB n x := by
  unfold revBytes revB; rw [revChunks_whole]

/-- Bit `j` of the result is bit `j % 8` of the byte `j / 8` places from the TOP of `x`. -/
theorem testBit_revB (n x j : Nat) :
    (revB n x).testBit j = (decide (j < 8 * n) && x.testBit (8 * (n - 1 - j / 8) + j % 8)) := by
  induction n generalizing j with
  | zero => simp [revB, cat]
  | succ n ih =>
    have hr : revB (n + 1) x = cat ((8, slice (n * 8) 8 x) :: ((List.range n).reverse.map fun i => (8, slice (i * 8) 8 x))) := by
      simp [revB, List.range_succ]
    rw [hr, testBit_cat_cons]
    split
    · rename_i h
      have h1 : j < 8 * (n + 1) := by omega
      have h2 : j / 8 = 0 := by omega
      have h3 : j % 8 = j := by omega
      simp only [testBit_slice, h, decide_true, Bool.true_and, h1, h2, h3]
      congr 1; omega
    · rename_i h
      have := ih (j - 8)
      unfold revB at this
      rw [this]
      by_cases hj : j < 8 * (n + 1)
      · have h1 : j - 8 < 8 * n := by omega
        simp only [h1, hj, decide_true, Bool.true_and]
        congr 1; omega
      · have h1 : ¬ j - 8 < 8 * n := by omega
        simp [h1, hj]

theorem revBytes_small (w x : Nat) (h : w ≤ 8) : revBytes w x = x % 2 ^ w := by
  unfold revBytes revChunks
  by_cases hw : w = 0
  · subst hw; simp [cat, Nat.mod_one]
  · have : (w + 7) / 8 = 1 := by omega
    rw [this]
    have h2 : min ((0 + 1) * 8) w - 0 * 8 = w := by omega
    simp only [List.range_one, List.reverse_cons, List.reverse_nil, List.nil_append, List.map_cons, List.map_nil, h2]
    simp [cat, slice]

theorem catWidth_chunks (w x m : Nat) :
    catWidth ((List.range m).reverse.map fun i =>
      (min ((i + 1) * 8) w - i * 8, slice (i * 8) (min ((i + 1) * 8) w - i * 8) x)) = min (m * 8) w := by
  induction m with
  | zero => simp [catWidth]
  | succ m ih =>
    simp only [List.range_succ, List.reverse_append, List.reverse_cons, List.reverse_nil, List.nil_append,
      List.singleton_append, List.map_cons, catWidth, ih]
    omega

theorem revBytes_lt (w x : Nat) : revBytes w x < 2 ^ w := by
  have h := cat_lt (revChunks w x)
  unfold revChunks at h
  rw [catWidth_chunks] at h
  have : min ((w + 7) / 8 * 8) w = w := by omega
  rw [this] at h
  exact h

/-- Reversing `a` bytes, keeping the low `b ≤ a` bytes and reversing those gives the TOP `b` bytes. -/
theorem revB_trunc_revB (a b v : Nat) (hab : b ≤ a) :
    revB b (revB a v % 2 ^ (8 * b)) = v % 2 ^ (8 * a) / 2 ^ (8 * (a - b)) := by
  apply Nat.eq_of_testBit_eq
  intro j
  rw [testBit_revB, Nat.testBit_mod_two_pow, testBit_revB, Nat.testBit_div_two_pow, Nat.testBit_mod_two_pow]
  by_cases hj : j < 8 * b
  · have h1 : 8 * (b - 1 - j / 8) + j % 8 < 8 * b := by omega
    have h2 : 8 * (b - 1 - j / 8) + j % 8 < 8 * a := by omega
    have h3 : j + 8 * (a - b) < 8 * a := by omega
    simp only [hj, h1, h2, h3, decide_true, Bool.true_and]
    congr 1; omega
  · have h3 : ¬ j + 8 * (a - b) < 8 * a := by omega
    simp [hj, h3]

theorem revB_revB (n x : Nat) : revB n (revB n x) = x % 2 ^ (8 * n) := by
  have h := revB_trunc_revB n n x (Nat.le_refl n)
  rwa [Nat.mod_eq_of_lt (by rw [← revBytes_whole]; exact revBytes_lt _ _), Nat.sub_self, Nat.mul_zero,
    Nat.pow_zero, Nat.div_one] at h

theorem revBytes_revBytes (w x : Nat) (h : w % 8 = 0) : revBytes w (revBytes w x) = x % 2 ^ w := by
  obtain ⟨n, rfl⟩ : ∃ n, w = 8 * n := ⟨w / 8, by omega⟩
  rw [revBytes_whole, revBytes_whole, revB_revB]

theorem swapField_lt (swap : Bool) (w x : Nat) : swapField swap w x < 2 ^ w := by
  unfold swapField
  split
  · exact revBytes_lt w x
  · exact Nat.mod_lt _ (Nat.two_pow_pos w)

theorem swapField_swapField (swap : Bool) (w x : Nat) (h : swap = true → (w ≤ 8 ∨ w % 8 = 0)) :
    swapField swap w (swapField swap w x) = x % 2 ^ w := by
  unfold swapField
  cases swap with
  | false => simp
  | true =>
    simp only [↓reduceIte]
    rcases h rfl with h | h
    · rw [revBytes_small w x h, revBytes_small w _ h, Nat.mod_mod]
    · exact revBytes_revBytes w x h

theorem disjoint_iff (f g : HField) : f.disjoint g = true ↔ (f.stop ≤ g.start ∨ g.stop ≤ f.start) := by
  unfold HField.disjoint
  rw [Bool.or_eq_true]
  exact ⟨fun h => h.imp of_decide_eq_true of_decide_eq_true, fun h => h.imp decide_eq_true decide_eq_true⟩

theorem slice_encodeFrom_other (swap : Bool) (g : HField) (l : List (HField × Nat)) :
    ∀ (sig : Nat), (∀ p ∈ l, g.disjoint p.1 = true) →
      slice g.start g.width (encodeFrom swap sig l) = slice g.start g.width sig := by
  induction l with
  | nil => intro sig _; rfl
  | cons p r ih =>
    intro sig h
    obtain ⟨f, v⟩ := p
    simp only [encodeFrom]
    rw [ih _ (fun q hq => h q (List.mem_cons_of_mem _ hq))]
    exact slice_setSlice_disjoint _ _ _ _ _ _ ((disjoint_iff g f).mp (h (f, v) (List.mem_cons_self ..)))

theorem encodeFrom_append (swap : Bool) (a b : List (HField × Nat)) :
    ∀ sig, encodeFrom swap sig (a ++ b) = encodeFrom swap (encodeFrom swap sig a) b := by
  induction a with
  | nil => intro sig; rfl
  | cons p r ih => intro sig; obtain ⟨f, v⟩ := p; simp only [List.cons_append, encodeFrom]; rw [ih]


/-- Last writer wins: earlier fields may overlap `f`. -/
theorem slice_encodeFrom_later_disjoint (swap : Bool) (pre post : List (HField × Nat))
    (f : HField) (v sig : Nat) (hpost : ∀ p ∈ post, f.disjoint p.1 = true) :
    slice f.start f.width (encodeFrom swap sig (pre ++ (f, v) :: post)) = swapField swap f.width v := by
  rw [encodeFrom_append]
  simp only [encodeFrom]
  rw [slice_encodeFrom_other swap f post _ hpost, slice_setSlice_same,
    Nat.mod_eq_of_lt (swapField_lt _ _ _)]

theorem zip_split (fields : List HField) (vals : List Nat) (hlen : vals.length = fields.length)
    (i : Nat) (hi : i < fields.length) :
    fields.zip vals = (fields.zip vals).take i ++ (fields[i], vals[i]'(by omega)) :: (fields.zip vals).drop (i + 1) := by
  have hz : i < (fields.zip vals).length := by simp [hlen, hi]
  have : (fields[i], vals[i]'(by omega)) = (fields.zip vals)[i] := by simp
  rw [this, List.getElem_cons_drop hz, List.take_append_drop]

theorem mem_drop_zip (fields : List HField) (vals : List Nat) (i : Nat) (p : HField × Nat)
    (hp : p ∈ (fields.zip vals).drop (i + 1)) :
    ∃ k, ∃ (hk : k < fields.length), i < k ∧ p.1 = fields[k] := by
  rw [List.mem_iff_getElem] at hp
  obtain ⟨k, hk, rfl⟩ := hp
  simp only [List.length_drop, List.length_zip] at hk
  refine ⟨i + 1 + k, by omega, by omega, ?_⟩
  simp [List.getElem_drop]

theorem encode_field_later_disjoint (swap : Bool) (fields : List HField) (vals : List Nat)
    (hlen : vals.length = fields.length) (i : Nat) (hi : i < fields.length)
    (hlater : ∀ k (hk : k < fields.length), i < k → (fields[i]).disjoint (fields[k]) = true) :
    slice (fields[i]).start (fields[i]).width (encode swap fields vals)
      = swapField swap (fields[i]).width (vals[i]'(by omega)) := by
  unfold encode
  rw [zip_split fields vals hlen i hi]
  apply slice_encodeFrom_later_disjoint
  intro p hp
  obtain ⟨k, hk, hik, hpk⟩ := mem_drop_zip fields vals i p hp
  rw [hpk]; exact hlater k hk hik

theorem swappable_iff (f : HField) : f.swappable = true ↔ (f.width ≤ 8 ∨ f.width % 8 = 0) := by
  simp only [HField.swappable, Bool.or_eq_true, decide_eq_true_eq, beq_iff_eq]

theorem decode_encode_field (swap : Bool) (fields : List HField) (vals : List Nat)
    (hlen : vals.length = fields.length) (i : Nat) (hi : i < fields.length)
    (hlater : ∀ k (hk : k < fields.length), i < k → (fields[i]).disjoint (fields[k]) = true)
    (hs : swap = true → (fields[i]).swappable = true)
    (hv : vals[i]'(by omega) < 2 ^ (fields[i]).width) :
    (decode swap fields (encode swap fields vals))[i]'(by simp [decode, hi]) = vals[i]'(by omega) := by
  simp only [decode, List.getElem_map, decodeField]
  rw [encode_field_later_disjoint swap fields vals hlen i hi hlater, swapField_swapField, Nat.mod_eq_of_lt hv]
  exact fun hsw => (swappable_iff _).mp (hs hsw)

theorem pairwiseDisjoint_getElem : ∀ (fields : List HField), pairwiseDisjoint fields = true →
    ∀ (i k : Nat) (hi : i < fields.length) (hk : k < fields.length), i < k →
      (fields[i]).disjoint (fields[k]) = true
  | [], _, _, _, hi, _, _ => absurd hi (Nat.not_lt_zero _)
  | f :: r, hd, i, k, hi, hk, hik => by
    simp only [pairwiseDisjoint, Bool.and_eq_true, List.all_eq_true] at hd
    cases k with
    | zero => omega
    | succ k =>
      cases i with
      | zero => exact hd.1 _ (List.getElem_mem _)
      | succ i => exact pairwiseDisjoint_getElem r hd.2 i k _ _ (by omega)

theorem encode_layout (swap : Bool) (fields : List HField) (vals : List Nat)
    (hlen : vals.length = fields.length) (hd : pairwiseDisjoint fields = true)
    (i : Nat) (hi : i < fields.length) :
    slice (fields[i]).start (fields[i]).width (encode swap fields vals)
      = swapField swap (fields[i]).width (vals[i]'(by omega)) :=
  encode_field_later_disjoint swap fields vals hlen i hi
    (fun k hk hik => pairwiseDisjoint_getElem fields hd i k hi hk hik)

theorem decode_encode (swap : Bool) (fields : List HField) (vals : List Nat)
    (hlen : vals.length = fields.length) (hd : pairwiseDisjoint fields = true)
    (hs : swap = true → ∀ f ∈ fields, f.swappable = true)
    (hv : ∀ p ∈ fields.zip vals, p.2 < 2 ^ p.1.width) :
    decode swap fields (encode swap fields vals) = vals := by
  apply List.ext_getElem (by simp [decode, hlen])
  intro i h1 h2
  have hi : i < fields.length := by simpa [decode] using h1
  refine decode_encode_field swap fields vals hlen i hi
    (fun k hk hik => pairwiseDisjoint_getElem fields hd i k hi hk hik)
    (fun hsw => hs hsw _ (List.getElem_mem hi)) (hv (fields[i], vals[i]) ?_)
  rw [List.mem_iff_getElem]
  exact ⟨i, by simp [hlen, hi], by simp⟩

theorem encodeFrom_lt (swap : Bool) (k : Nat) (l : List (HField × Nat)) :
    ∀ (sig : Nat), sig < 2 ^ k → (∀ p ∈ l, p.1.stop ≤ k) → encodeFrom swap sig l < 2 ^ k := by
  induction l with
  | nil => intro sig h _; exact h
  | cons q r ih =>
    intro sig h hf
    obtain ⟨f, v⟩ := q
    simp only [encodeFrom]
    apply ih
    · exact setSlice_lt _ _ _ _ _ h (hf (f, v) (List.mem_cons_self ..))
    · exact fun p hp => hf p (List.mem_cons_of_mem _ hp)

end Litex.Packet
