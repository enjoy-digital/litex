import LitexProofs.Packet.Arbiter
/-
  Arbiter / Dispatcher for EVERY port count, as the constructors build them (`arbiterCtor`, `dispatcherCtor`):
  no port (nothing connected), one port (plain `Endpoint.connect`), two or more (round robin / selector logic).
  The transfer logs are defined on the observable outputs of an arbitrary machine with the Arbiter's /
  Dispatcher's ports, so the same predicate is stated for all variants.
-/
namespace Litex.Packet
open Litex Litex.Stream

/-- The beat handed to the slave in this cycle, tagged with the `grant` output. -/
def arbXferM (M : Machine ArbIn ArbState ArbOut) (s : ArbState) (i : ArbIn) : List (Nat × Beat) :=
  if (M.out s i).slave.valid && i.ready then [((M.out s i).grant, (M.out s i).slave)] else []

def arbLogM (M : Machine ArbIn ArbState ArbOut) (s : ArbState) : List ArbIn → List (Nat × Beat)
  | [] => []
  | i :: is => arbXferM M s i ++ arbLogM M (M.next s i) is

/-- Beats of master `k` accepted (its valid and its ready). -/
def arbAcceptedM (M : Machine ArbIn ArbState ArbOut) (k : Nat) (s : ArbState) : List ArbIn → List Beat
  | [] => []
  | i :: is =>
    (if (i.masters.getD k Beat.idle).valid && ((M.out s i).readys.getD k false)
      then [i.masters.getD k Beat.idle] else []) ++ arbAcceptedM M k (M.next s i) is

theorem arbLogM_arbiter (n : Nat) (ins : List ArbIn) :
    ∀ s, arbLogM (arbiter n) s ins = arbLog n s ins := by
  induction ins with
  | nil => intro s; rfl
  | cons i is ih => intro s; simp only [arbLogM, arbLog, ih]; rfl

theorem arbAcceptedM_arbiter (n k : Nat) (ins : List ArbIn) :
    ∀ s, arbAcceptedM (arbiter n) k s ins = arbAccepted n k s ins := by
  induction ins with
  | nil => intro s; rfl
  | cons i is ih => intro s; simp only [arbAcceptedM, arbAccepted, ih]

theorem arbLogM_empty (ins : List ArbIn) : ∀ s, arbLogM arbiterEmpty s ins = [] := by
  induction ins with
  | nil => intro s; rfl
  | cons i is ih =>
    intro s
    simp only [arbLogM]
    rw [ih]
    simp [arbXferM, arbiterEmpty, Beat.idle]

theorem arbLogM_connect (ins : List ArbIn) :
    ∀ s, arbLogM arbiterConnect s ins =
      (ins.filter fun i => (i.masters.getD 0 Beat.idle).valid && i.ready).map
        fun i => (0, i.masters.getD 0 Beat.idle) := by
  induction ins with
  | nil => intro s; rfl
  | cons i is ih =>
    intro s
    simp only [arbLogM, List.filter_cons]
    rw [ih]
    have e : arbXferM arbiterConnect s i =
        if ((i.masters.getD 0 Beat.idle).valid && i.ready) then [(0, i.masters.getD 0 Beat.idle)] else [] := rfl
    rw [e]
    cases ((i.masters.getD 0 Beat.idle).valid && i.ready) <;> simp

theorem atomicFrom_all_zero (l : List (Nat × Beat)) (h : ∀ x ∈ l, x.1 = 0) :
    ∀ owner, (∀ o, owner = some o → o = 0) → atomicFrom owner l := by
  induction l with
  | nil => intro _ _; trivial
  | cons x r ih =>
    intro owner ho
    obtain ⟨m, b⟩ := x
    have hm : m = 0 := h (m, b) (by simp)
    refine ⟨fun o hoo => by rw [hm, ho o hoo], ?_⟩
    apply ih (fun y hy => h y (by simp [hy]))
    intro o hoo
    split at hoo
    · cases hoo
    · cases hoo; exact hm

/-- The slave that is shown a valid beat in this cycle (read off the slave ports, not the model's selector).  `find?` takes
    the lowest index; at most one slave is shown the beat (`C16.dispatcher_one_slave`), so the choice does not matter. -/
def dispDest (o : DispOut) : Option Nat :=
  (List.range o.slaves.length).find? fun k => (o.slaves.getD k Beat.idle).valid

/-- A beat transferred at the master in this cycle: (destination, `sel` input, the beat). -/
def dispXferM (M : Machine DispIn DispState DispOut) (s : DispState) (i : DispIn) :
    List (Option Nat × Nat × Beat) :=
  if i.master.valid && (M.out s i).ready then [(dispDest (M.out s i), i.sel, i.master)] else []

def dispLogM (M : Machine DispIn DispState DispOut) (s : DispState) :
    List DispIn → List (Option Nat × Nat × Beat)
  | [] => []
  | i :: is => dispXferM M s i ++ dispLogM M (M.next s i) is

/-- `routedFrom` for an arbitrary "slave addressed by `sel`" function. -/
def routedFromG (target : Nat → Option Nat) :
    Option (Option Nat) → List (Option Nat × Nat × Beat) → Prop
  | _, [] => True
  | cur, (dest, sel, b) :: r =>
    (match cur with
      | none => dest = target sel
      | some d => dest = d) ∧
    routedFromG target (if b.last then none else some dest) r

theorem routedFromG_dispTarget (m : Nat) (oneHot : Bool) (l : List (Option Nat × Nat × Beat)) :
    ∀ cur, routedFromG (dispTarget m oneHot) cur l ↔ routedFrom m oneHot cur l := by
  induction l with
  | nil => intro cur; simp [routedFromG, routedFrom]
  | cons x r ih =>
    intro cur; obtain ⟨d, sl, b⟩ := x
    simp only [routedFromG, routedFrom, ih]
    cases cur <;> exact Iff.rfl

theorem find?_congr' {α : Type} (l : List α) (p q : α → Bool) (h : ∀ x ∈ l, p x = q x) :
    l.find? p = l.find? q := by
  induction l with
  | nil => rfl
  | cons a r ih =>
    simp only [List.find?_cons, h a (by simp)]
    rw [ih (fun x hx => h x (by simp [hx]))]

theorem dispDest_dispatcher (m : Nat) (oneHot : Bool) (s : DispState) (i : DispIn)
    (hv : i.master.valid = true) :
    dispDest ((dispatcher m oneHot).out s i) = dispTarget m oneHot (dispSel s i) := by
  unfold dispDest dispTarget
  simp only [dispatcher, List.length_map, List.length_range]
  apply find?_congr'
  intro k hk
  have hk' : k < m := by simpa using hk
  simp only [List.getD_eq_getElem?_getD, List.getElem?_map, List.getElem?_range hk', Option.map_some,
    Option.getD_some]
  split
  · rename_i h; simp [h, hv]
  · rename_i h; simp [h, Beat.idle]

theorem dispLogM_dispatcher (m : Nat) (oneHot : Bool) (ins : List DispIn) :
    ∀ s, dispLogM (dispatcher m oneHot) s ins = dispLog m oneHot s ins := by
  induction ins with
  | nil => intro s; rfl
  | cons i is ih =>
    intro s
    simp only [dispLogM, dispLog, ih]
    congr 1
    simp only [dispXferM, dispXfer]
    have hr : ((dispatcher m oneHot).out s i).ready = dispReady m oneHot s i := rfl
    rw [hr]
    cases hv : i.master.valid
    · simp
    · simp only [Bool.true_and]
      rw [dispDest_dispatcher m oneHot s i hv]

theorem dispLogM_empty (ins : List DispIn) : ∀ s, dispLogM dispatcherEmpty s ins = [] := by
  induction ins with
  | nil => intro s; rfl
  | cons i is ih =>
    intro s
    simp only [dispLogM]
    rw [ih]
    simp [dispXferM, dispatcherEmpty]

theorem dispLogM_connect (ins : List DispIn) :
    ∀ s, ∀ x ∈ dispLogM dispatcherConnect s ins, x.1 = some 0 := by
  induction ins with
  | nil => intro s x hx; simp [dispLogM] at hx
  | cons i is ih =>
    intro s x hx
    simp only [dispLogM, List.mem_append] at hx
    rcases hx with hx | hx
    · simp only [dispXferM] at hx
      split at hx
      · rename_i h
        simp only [Bool.and_eq_true] at h
        simp only [List.mem_singleton] at hx
        subst hx
        simp [dispDest, dispatcherConnect, List.range_succ, h.1]
      · simp at hx
    · exact ih _ x hx

theorem routedFromG_const (d : Option Nat) (l : List (Option Nat × Nat × Beat)) (h : ∀ x ∈ l, x.1 = d) :
    ∀ cur, (∀ c, cur = some c → c = d) → routedFromG (fun _ => d) cur l := by
  induction l with
  | nil => intro _ _; trivial
  | cons x r ih =>
    intro cur hc
    obtain ⟨dest, sl, b⟩ := x
    have hd : dest = d := h (dest, sl, b) (by simp)
    refine ⟨?_, ?_⟩
    · cases cur with
      | none => exact hd
      | some c => simp only; rw [hd, hc c rfl]
    · apply ih (fun y hy => h y (by simp [hy]))
      intro c hcc
      split at hcc
      · cases hcc
      · cases hcc; exact hd

/-- The slave a selector value addresses in the machine the constructor builds. -/
def ctorTarget (m : Nat) (oneHot : Bool) (sel : Nat) : Option Nat :=
  match m, oneHot with
  | 0, _ => none
  | 1, false => some 0
  | m, oh => dispTarget m oh sel

end Litex.Packet
