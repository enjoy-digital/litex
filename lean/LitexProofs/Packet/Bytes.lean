import LitexProofs.Packet.Header
import LitexProofs.Packet.Packetizer
/-
  Byte view of the framed stream: the header words of an aligned header, flattened lane 0 first, are the
  header bytes 0 … H-1.
-/
namespace Litex.Packet
open Litex Litex.Stream

/-- The `n` low bytes of `x`, byte 0 first. -/
def toBytes (n x : Nat) : List Nat := (List.range n).map fun j => slice (8 * j) 8 x

/-- A beat stream flattened to bytes, lane 0 first. -/
def beatBytes (c : PkCfg) (l : List (Tok Nat)) : List Nat := l.flatMap fun t => toBytes c.B t.data

theorem range_mul_flatMap (W B : Nat) (f : Nat → Nat) :
    (List.range W).flatMap (fun k => (List.range B).map fun j => f (k * B + j)) = (List.range (W * B)).map f := by
  induction W with
  | zero => simp
  | succ W ih =>
    rw [List.range_succ, List.flatMap_append, ih, Nat.succ_mul, List.range_add, List.map_append]
    simp

theorem hdrWords_bytes (c : PkCfg) (hc : AlignedCfg c) (h : Nat) :
    beatBytes c (hdrWords c h) = toBytes c.H h := by
  unfold beatBytes hdrWords toBytes
  rw [List.flatMap_map, hc.H_eq, ← range_mul_flatMap]
  congr 1
  funext k
  apply List.map_congr_left
  intro j hj
  simp only [List.mem_range] at hj
  simp only [hdrWord]
  rw [slice_slice _ _ _ _ _ (by unfold PkCfg.dw; omega)]
  congr 1
  unfold PkCfg.dw
  rw [Nat.mul_add, Nat.mul_left_comm]

end Litex.Packet
