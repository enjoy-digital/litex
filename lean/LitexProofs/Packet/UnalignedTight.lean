import LitexProofs.Packet.Unaligned
/-
  Packetizer, header NOT a multiple of the data width: the framing theorem under the tight (cycle-by-cycle exact)
  environment hypothesis `UOk2`, and the stronger `UOk` (all lines kept during pauses) with its transport to `UOk2`.

  `self.sync += If(source.ready, sink_d.eq(sink))` samples the sink lines in EVERY cycle with `source.ready = 1`,
  also when `sink.valid = 0`.  The sampled value is read only in UNALIGNED-DATA-COPY:
    * `sink_d.last`  — source.valid / source.last / the branch back to IDLE,
    * the top `L` bytes of `sink_d.data` — the low `L` bytes of the next source beat (when not `fsm_from_idle`).
  In IDLE / HEADER-SEND the sampled value is overwritten (by the pending first beat, which the stream contract
  keeps on the lines) before UNALIGNED-DATA-COPY reads it; the header lines are read only in IDLE with
  `sink.valid = 1`.  So a pausing producer has to keep, in the cycles with `valid = 0 ∧ source.ready = 1` strictly
  inside a packet, exactly: `last = 0` and the top `L` bytes of `data` of the beat accepted last.  Nothing about
  cycles with `ready = 0`, nothing about the low `B − L` data bytes, nothing about the header lines.
-/
namespace Litex.Packet
open Litex Litex.Stream Litex.Stream.Elem

/-- Ghost state of the tight environment hypothesis `UOk2` (the `2` stands for "tight" throughout), updated by `uenvNext2`:
    the `UEnv` of `UOk` plus the beat accepted last. -/
structure UEnv2 where
  lines : Tok HBeat   -- the sink lines of the previous cycle
  pend  : Bool        -- they were offered and not accepted
  start : Bool        -- the next new beat starts a packet
  acc   : Tok HBeat   -- the beat accepted last (inside a packet: what `sink_d` has to agree with)
deriving DecidableEq

def envStart2 (env : Option UEnv2) : Bool :=
  match env with
  | none => true
  | some v => v.start

def envAcc2 (env : Option UEnv2) (dflt : Tok HBeat) : Tok HBeat :=
  match env with
  | none => dflt
  | some v => v.acc

section env
variable {β σ : Type}

def uenvNext2 (e : Elem HBeat β σ) (s : σ) (env : Option UEnv2) (i : In HBeat) : Option UEnv2 :=
  some { lines := i.tok
         pend := i.valid && !(e.out s i).ready
         start := if i.valid && (e.out s i).ready then i.tok.last else envStart2 env
         acc := if i.valid && (e.out s i).ready then i.tok else envAcc2 env i.tok }

/-- The three assumptions, cycle by cycle: (1) stream contract: a beat offered and not accepted is offered again
    unchanged; (2) TIGHT: in a cycle with `valid = 0` and `source.ready = 1` strictly inside a packet, the `last`
    line is low and the top `L` bytes of the data lines are those of the beat accepted last; (3) no single-beat
    packets (the first beat of a packet does not carry `last`). -/
def UOkStep2 (c : PkCfg) (env : Option UEnv2) (i : In HBeat) : Prop :=
  match env with
  | none => i.valid = true → i.tok.last = false
  | some v =>
    (v.pend = true → i.valid = true ∧ i.tok = v.lines) ∧
    (i.valid = false → i.ready = true → v.start = false →
      i.tok.last = false ∧ resid c (sinkData c i.tok) = resid c (sinkData c v.acc)) ∧
    (i.valid = true → v.pend = false → v.start = true → i.tok.last = false)

def UOk2 (c : PkCfg) (e : Elem HBeat β σ) : σ → Option UEnv2 → List (In HBeat) → Prop
  | _, _, [] => True
  | s, env, i :: is => UOkStep2 c env i ∧ UOk2 c e (e.step s i) (uenvNext2 e s env i) is

def uenvRun2 (e : Elem HBeat β σ) : σ → Option UEnv2 → List (In HBeat) → Option UEnv2
  | _, env, [] => env
  | s, env, i :: is => uenvRun2 e (e.step s i) (uenvNext2 e s env i) is

/-- Executable form of `UOk2` (for concrete examples). -/
def uokStep2B (c : PkCfg) (env : Option UEnv2) (i : In HBeat) : Bool :=
  match env with
  | none => !i.valid || !i.tok.last
  | some v =>
    (!v.pend || (i.valid && decide (i.tok = v.lines))) &&
    (i.valid || !i.ready || v.start ||
      (!i.tok.last && decide (resid c (sinkData c i.tok) = resid c (sinkData c v.acc)))) &&
    (!i.valid || v.pend || !v.start || !i.tok.last)

def uok2B (c : PkCfg) (e : Elem HBeat β σ) : σ → Option UEnv2 → List (In HBeat) → Bool
  | _, _, [] => true
  | s, env, i :: is => uokStep2B c env i && uok2B c e (e.step s i) (uenvNext2 e s env i) is

theorem uokStep2_of_B (c : PkCfg) (env : Option UEnv2) (i : In HBeat) (h : uokStep2B c env i = true) :
    UOkStep2 c env i := by
  unfold uokStep2B at h
  unfold UOkStep2
  cases env with
  | none => intro hv; simpa [hv] using h
  | some v =>
    simp only [Bool.and_eq_true, Bool.or_eq_true, Bool.not_eq_true', decide_eq_true_eq] at h
    obtain ⟨⟨h1, h2⟩, h3⟩ := h
    refine ⟨fun hp => ?_, fun hv hr hs => ?_, fun hv hp hs => ?_⟩
    · simpa [hp] using h1
    · simpa [hv, hr, hs] using h2
    · simpa [hv, hp, hs] using h3

theorem uok2_of_B (c : PkCfg) (e : Elem HBeat β σ) (ins : List (In HBeat)) :
    ∀ s env, uok2B c e s env ins = true → UOk2 c e s env ins := by
  induction ins with
  | nil => intro s env _; trivial
  | cons i is ih =>
    intro s env h
    simp only [uok2B, Bool.and_eq_true] at h
    exact ⟨uokStep2_of_B c env i h.1, ih _ _ h.2⟩

theorem rel_run_uok2 (c : PkCfg) (e : Elem HBeat β σ)
    (R : σ → Option UEnv2 → List (Tok HBeat) → List (Tok β) → Prop)
    (hstep : ∀ s env a d i, R s env a d → UOkStep2 c env i →
      R (e.step s i) (uenvNext2 e s env i) (a ++ e.accNow s i) (d ++ e.delNow s i)) :
    ∀ (ins : List (In HBeat)) s env a d, R s env a d → UOk2 c e s env ins →
      R (e.runFrom s ins) (uenvRun2 e s env ins) (a ++ e.accepted s ins) (d ++ e.delivered s ins) := by
  intro ins
  induction ins with
  | nil => intro s env a d h _; simpa [accepted, delivered, uenvRun2] using h
  | cons i is ih =>
    intro s env a d h hc
    obtain ⟨hc1, hc2⟩ := hc
    have := ih _ _ _ _ (hstep s env a d i h hc1) hc2
    simpa [accepted, delivered, uenvRun2, List.append_assoc] using this

/-! ### The stronger hypothesis `UOk` (all lines kept during pauses) and its transport to `UOk2` -/

/-- Ghost state of the environment hypothesis `UOk`, updated cycle by cycle by `uenvNext`.  No proof runs under `UOk`
    itself: it is the stronger, simpler-to-state hypothesis, mapped to the tight `UOk2` (`UnalignedTight.lean`) by
    `uok2_of_uok`. -/
structure UEnv where
  lines : Tok HBeat   -- the sink lines
  pend  : Bool        -- they were offered and not accepted
  start : Bool        -- the next new beat starts a packet
deriving DecidableEq

/-- Whether the next new beat starts a packet (true before anything has happened). -/
def envStart (env : Option UEnv) : Bool :=
  match env with
  | none => true
  | some v => v.start

def uenvNext (e : Elem HBeat β σ) (s : σ) (env : Option UEnv) (i : In HBeat) : Option UEnv :=
  some { lines := i.tok
         pend := i.valid && !(e.out s i).ready
         start := if i.valid && (e.out s i).ready then i.tok.last
                  else envStart env }

/-- The three assumptions, cycle by cycle: (1) stream contract: a beat offered and not accepted is offered again
    unchanged; (2) a producer that pauses *inside* a packet keeps its lines unchanged; (3) no single-beat
    packets (the first beat of a packet does not carry `last`). -/
def UOkStep (env : Option UEnv) (i : In HBeat) : Prop :=
  match env with
  | none => i.valid = true → i.tok.last = false
  | some v =>
    (v.pend = true → i.valid = true ∧ i.tok = v.lines) ∧
    (i.valid = false → v.start = false → i.tok = v.lines) ∧
    (i.valid = true → v.pend = false → v.start = true → i.tok.last = false)

def UOk (e : Elem HBeat β σ) : σ → Option UEnv → List (In HBeat) → Prop
  | _, _, [] => True
  | s, env, i :: is => UOkStep env i ∧ UOk e (e.step s i) (uenvNext e s env i) is

def uenvRun (e : Elem HBeat β σ) : σ → Option UEnv → List (In HBeat) → Option UEnv
  | _, env, [] => env
  | s, env, i :: is => uenvRun e (e.step s i) (uenvNext e s env i) is

/-- Executable form of `UOk` (for concrete examples). -/
def uokStepB (env : Option UEnv) (i : In HBeat) : Bool :=
  match env with
  | none => !i.valid || !i.tok.last
  | some v =>
    (!v.pend || (i.valid && decide (i.tok = v.lines))) &&
    (i.valid || v.start || decide (i.tok = v.lines)) &&
    (!i.valid || v.pend || !v.start || !i.tok.last)

def uokB (e : Elem HBeat β σ) : σ → Option UEnv → List (In HBeat) → Bool
  | _, _, [] => true
  | s, env, i :: is => uokStepB env i && uokB e (e.step s i) (uenvNext e s env i) is

theorem uokStep_of_B (env : Option UEnv) (i : In HBeat) (h : uokStepB env i = true) : UOkStep env i := by
  unfold uokStepB at h
  unfold UOkStep
  cases env with
  | none => intro hv; simpa [hv] using h
  | some v =>
    simp only [Bool.and_eq_true, Bool.or_eq_true, Bool.not_eq_true', decide_eq_true_eq] at h
    obtain ⟨⟨h1, h2⟩, h3⟩ := h
    refine ⟨fun hp => ?_, fun hv hs => ?_, fun hv hp hs => ?_⟩
    · simpa [hp] using h1
    · simpa [hv, hs] using h2
    · simpa [hv, hp, hs] using h3

theorem uok_of_B (e : Elem HBeat β σ) (ins : List (In HBeat)) :
    ∀ s env, uokB e s env ins = true → UOk e s env ins := by
  induction ins with
  | nil => intro s env _; trivial
  | cons i is ih =>
    intro s env h
    simp only [uokB, Bool.and_eq_true] at h
    exact ⟨uokStep_of_B env i h.1, ih _ _ h.2⟩

/-- What `UOk` remembers of the past is what `UOk2` remembers, without the beat accepted last. -/
def UEnv2.forget (w : UEnv2) : UEnv := { lines := w.lines, pend := w.pend, start := w.start }

theorem uenvNext_forget (e : Elem HBeat β σ) (s : σ) (env2 : Option UEnv2) (i : In HBeat) :
    uenvNext e s (env2.map UEnv2.forget) i = (uenvNext2 e s env2 i).map UEnv2.forget := by
  cases env2 <;> rfl

/-- The invariant that relates the two ghost records, needed only for `uok2_of_uok`: under `UOk`, inside a packet with
    nothing pending the lines (which `UOk` keeps frozen) are the beat accepted last, and that beat does not carry `last`. -/
def envGood (env2 : Option UEnv2) : Prop :=
  ∀ w, env2 = some w → w.start = false → w.acc.last = false ∧ (w.pend = false → w.lines = w.acc)

theorem envGood_none : envGood none := fun _ h => nomatch h

theorem uokStep_not_pend {v : UEnv} {i : In HBeat} (hok : UOkStep (some v) i) (hv : i.valid = false) : v.pend = false := by
  cases hp : v.pend with
  | false => rfl
  | true => have := (hok.1 hp).1; rw [hv] at this; cases this

theorem uokStep2_of_uokStep (c : PkCfg) (env2 : Option UEnv2) (i : In HBeat) (hg : envGood env2)
    (hok : UOkStep (env2.map UEnv2.forget) i) : UOkStep2 c env2 i := by
  cases env2 with
  | none => exact hok
  | some w =>
    refine ⟨hok.1, fun hv _ hst => ?_, hok.2.2⟩
    obtain ⟨a1, a2⟩ := hg w rfl hst
    have hit : i.tok = w.lines := hok.2.1 hv hst
    rw [hit, a2 (uokStep_not_pend hok hv)]
    exact ⟨a1, rfl⟩

theorem envGood_next (e : Elem HBeat β σ) (s : σ) (env2 : Option UEnv2) (i : In HBeat) (hg : envGood env2)
    (hok : UOkStep (env2.map UEnv2.forget) i) : envGood (uenvNext2 e s env2 i) := by
  rintro _ ⟨⟩ hst
  simp only at hst ⊢
  by_cases hacc : (i.valid && (e.out s i).ready) = true
  -- a beat accepted now is the beat accepted last
  · simp only [hacc, ↓reduceIte] at hst ⊢
    exact ⟨hst, fun _ => trivial⟩
  · simp only [hacc, Bool.false_eq_true, ↓reduceIte] at hst ⊢
    cases env2 with
    | none => cases hst
    | some w =>
      obtain ⟨a1, a2⟩ := hg w rfl hst
      refine ⟨a1, fun hpn => ?_⟩
      -- not accepted and not pending: not offered, so the lines are the frozen ones
      have hv : i.valid = false := by
        cases hv : i.valid with
        | false => rfl
        | true => rw [hv] at hacc hpn; cases hr : (e.out s i).ready <;> simp_all
      rw [hok.2.1 hv hst]
      exact a2 (uokStep_not_pend hok hv)

/-- Every input sequence that keeps all lines during pauses (`UOk`) satisfies the tight hypothesis. -/
theorem uok2_of_uok (c : PkCfg) (e : Elem HBeat β σ) (ins : List (In HBeat)) :
    ∀ s env2, envGood env2 → UOk e s (env2.map UEnv2.forget) ins →
      UOk2 c e s env2 ins ∧ uenvRun e s (env2.map UEnv2.forget) ins = (uenvRun2 e s env2 ins).map UEnv2.forget := by
  induction ins with
  | nil => intro _ _ _ _; exact ⟨trivial, rfl⟩
  | cons i is ih =>
    intro s env2 hg h
    have h2 := h.2
    rw [uenvNext_forget] at h2
    obtain ⟨h3, h4⟩ := ih _ _ (envGood_next e s env2 i hg h.1) h2
    exact ⟨⟨uokStep2_of_uokStep c env2 i hg h.1, h3⟩, by simp only [uenvRun, uenvRun2, uenvNext_forget]; exact h4⟩

theorem uok2_of_uok_init (c : PkCfg) (e : Elem HBeat β σ) (ins : List (In HBeat))
    (h : UOk e e.init none ins) : UOk2 c e e.init none ins :=
  (uok2_of_uok c e ins e.init none envGood_none h).1

end env

def envAtStart (env : Option UEnv2) : Prop :=
  ∀ v, env = some v → v.start = true ∧ (v.pend = true → v.lines.last = false)

/-- The framing relation of the unaligned Packetizer, one constructor per phase of a packet.  `sink_d.data` is tied
    to the beat accepted last only in its top `L` bytes (`resid`), and not at all before the first beat of the
    packet has been accepted. -/
inductive uRel (c : PkCfg) (s : PkState) (env : Option UEnv2) (a : List (Tok HBeat)) (d : List (Tok Nat)) : Prop
  /-- IDLE: everything accepted is framed and delivered. -/
  | idle (hs : s.st = .idle) (he : uEnd c none a = none) (hd : d.map (maskPad c) = frameU c a)
      (hv : envAtStart env)
  /-- Header emission: the first beat `v.lines` is pending, `k` header words are out. -/
  | sent (he : uEnd c none a = none) (v : UEnv2) (henv : env = some v) (hp : v.pend = true) (hvs : v.start = true)
      (hvl : v.lines.last = false) (hdl : s.dLast = false) (k : Nat) (hk : pkSent c s (hdrOf c v.lines) k)
      (hd : d.map (maskPad c) = frameU c a ++ (hdrWords c (hdrOf c v.lines)).take k)
  /-- Inside a packet: `sink_d` agrees with the beat accepted last in its top `L` bytes. -/
  | inside (hs : s.st = .ucopy) (hfi : s.fromIdle = false) (hdl : s.dLast = false)
      (hd : d.map (maskPad c) = frameU c a) (v : UEnv2) (henv : env = some v) (hvs : v.start = false)
      (he : uEnd c none a = some (sinkData c v.acc)) (hres : resid c s.dData = resid c (sinkData c v.acc))
  /-- The last beat is accepted, its top `L` bytes (the flush beat) are still owed. -/
  | flush (hs : s.st = .ucopy) (hfi : s.fromIdle = false) (hdl : s.dLast = true) (he : uEnd c none a = none)
      (hd : d.map (maskPad c) ++ [flushBeat c s.dData] = frameU c a) (hv : envAtStart env)

theorem envAtStart_start {env : Option UEnv2} (h : envAtStart env) : envStart2 env = true := by
  cases env with
  | none => rfl
  | some w => exact (h w rfl).1

theorem envAtStart_notlast {c : PkCfg} {env : Option UEnv2} {i : In HBeat} (h : envAtStart env)
    (hok : UOkStep2 c env i) (hv : i.valid = true) : i.tok.last = false := by
  cases env with
  | none => exact hok hv
  | some w =>
    obtain ⟨s1, s2⟩ := h w rfl
    cases hp : w.pend with
    | true => rw [(hok.1 hp).2]; exact s2 hp
    | false => exact hok.2.2 hv hp s1

/-- With all header words out, `pkUData` reads the header residue from `sr`. -/
theorem pkSent_residue (c : PkCfg) (hc : UnalignedCfg c) (s : PkState) (h : Nat) (hp : pkSent c s h c.W) :
    c.srFrom ((if c.W == 1 then 1 else 2) * c.dw) s.sr = hleft c h := by
  have hW := hc.W_pos
  cases hp with
  | hdr _ _ _ hlt => omega
  | full _ _ _ hsr =>
    rw [hsr, PkCfg.srFrom, hleft]
    by_cases hw1 : c.W = 1
    · simp [hw1, clamp_dw_u c hc]
    · have h2 := sr_shift2 h c.dw (c.W - 1) (by omega)
      rw [show c.W - 1 - 1 = c.W - 2 by omega, show c.W - 1 + 1 = c.W by omega] at h2
      simp only [beq_iff_eq, hw1, ↓reduceIte, clamp_2dw_u c hc (by omega), h2]

/-- `sink_d` after a cycle of the unaligned Packetizer: sampled iff `source.ready`. -/
theorem pkLatch_ready (c : PkCfg) (s : PkState) (hal : c.aligned = false) (v : Bool) (t : Tok HBeat) :
    pkLatch c s ⟨v, t, true⟩ = { s with dData := sinkData c t, dLast := t.last } := by
  simp [PkState.latch, hal]

theorem pkLatch_stall (c : PkCfg) (s : PkState) (v : Bool) (t : Tok HBeat) : pkLatch c s ⟨v, t, false⟩ = s := by
  simp [PkState.latch]

theorem upacketizer_step (c : PkCfg) (hc : UnalignedCfg c) (s : PkState) (env : Option UEnv2)
    (a : List (Tok HBeat)) (d : List (Tok Nat)) (i : In HBeat)
    (h : uRel c s env a d) (hok : UOkStep2 c env i) :
    uRel c ((packetizer c).step s i) (uenvNext2 (packetizer c) s env i)
      (a ++ (packetizer c).accNow s i) (d ++ (packetizer c).delNow s i) := by
  have hal := hc.aligned_eq
  have hcp := hc.copy_eq
  have hW := hc.W_pos
  obtain ⟨iv, it, ir⟩ := i
  cases h with
  | idle hs h1 h2 h3 =>
    have hstart := envAtStart_start h3
    have hl : iv = true → it.last = false := envAtStart_notlast h3 hok
    cases iv <;> cases ir <;>
      simp [Elem.accNow, Elem.delNow, uenvNext2, packetizer_out_idle c s _ hs, packetizer_step_idle c s _ hs,
        pkLatch_ready c s hal, pkLatch_stall, hstart]
    -- nothing offered: stays in IDLE
    · exact .idle hs h1 h2 (fun w hw => by cases hw; exact ⟨rfl, fun hp => by cases hp⟩)
    · exact .idle hs h1 h2 (fun w hw => by cases hw; exact ⟨rfl, fun hp => by cases hp⟩)
    -- first beat offered, source stalled: stays in IDLE, the beat is pending
    · exact .idle hs h1 h2 (fun w hw => by cases hw; exact ⟨rfl, fun _ => hl rfl⟩)
    -- header word 0 delivered
    · exact .sent h1 _ rfl rfl rfl (hl rfl) (hl rfl) 1 (pkSent_start c hW _ _ rfl rfl rfl rfl)
        (by rw [List.map_append, h2, hdrWords_take_one c _ hW]; rfl)
  | sent h1 v henv hpend hvs hvl hdl k hk hd =>
    subst henv
    obtain ⟨hv, htk⟩ := hok.1 hpend
    simp only at hv htk
    subst hv htk
    have hk0 := hk
    cases hk with
    | hdr _ _ _ hk2 =>
      obtain ⟨hout, hstall, hgo⟩ := packetizer_send_cycle c s ⟨true, v.lines, ir⟩ _ k hk2 hk0
      cases ir <;>
        simp only [Elem.accNow, Elem.delNow, uenvNext2, hout, envStart2, Bool.and_true, Bool.and_false,
          Bool.not_false, Bool.false_eq_true, ↓reduceIte, List.append_nil]
      -- source stalled: nothing changes
      · rw [hstall rfl]; exact .sent h1 _ rfl rfl hvs hvl hdl k hk0 hd
      -- one more header word delivered
      · exact .sent h1 _ rfl rfl hvs hvl (by rw [(hgo rfl).2, pkLatch_ready c s hal]; exact hvl) _ (hgo rfl).1
          (by rw [List.map_append, hd, List.append_assoc, hdrWords_take_succ c _ k hk2]; rfl)
    | full hs hkW hfi =>
      rw [hcp] at hs
      have hfs := frameU_snoc c a v.lines
      rw [h1] at hfs
      cases ir <;>
        simp [Elem.accNow, Elem.delNow, uenvNext2, packetizer_out_ucopy c s _ hs, packetizer_step_ucopy c s _ hs,
          pkLatch_ready c s hal, pkLatch_stall, envStart2, hdl]
      -- source stalled: nothing changes
      · exact .sent h1 _ rfl rfl hvs hvl hdl k hk0 hd
      -- first copy beat → inside: the pending beat is accepted, `residue ++ low bytes` delivered
      · refine .inside rfl rfl hvl ?_ _ rfl hvl (by rw [uEnd_append]; simp [uNext, hvl]) rfl
        rw [hfs, List.map_append, hd, hkW, hdrWords_take_all]
        simp [uChunk, hvl, pkUData_first c hc s hfi, maskPad, ← pkSent_residue c hc s _ (hkW ▸ hk0)]
  | inside hs hfi hdl hd v henv hvs h1 hres =>
    subst henv
    have hfs := frameU_snoc c a it
    rw [h1] at hfs
    cases iv <;> cases ir <;>
      simp [Elem.accNow, Elem.delNow, uenvNext2, packetizer_out_ucopy c s _ hs, packetizer_step_ucopy c s _ hs,
        pkLatch_ready c s hal, pkLatch_stall, envStart2, envAcc2, hdl, hvs]
    -- pause with the source stalled: `sink_d` is not sampled
    · exact .inside hs hfi hdl hd _ rfl rfl h1 hres
    -- the sampled bubble: only `last` and the top `L` bytes matter
    · obtain ⟨e2, e1⟩ := hok.2.1 rfl rfl hvs
      exact .inside hs hfi e2 hd _ rfl rfl h1 e1
    -- beat offered, source stalled: nothing changes
    · exact .inside hs hfi hdl hd _ rfl rfl h1 hres
    · cases hl : it.last
      -- inside → inside: a non-last beat accepted, `top of previous ++ low bytes` delivered
      · refine .inside rfl rfl rfl ?_ _ rfl rfl (by rw [uEnd_append]; simp [uNext, hl]) rfl
        rw [hfs, List.map_append, hd]
        simp [uChunk_some, hl, pkUData_next c hc s hfi, hdl, maskPad, hres]
      -- inside → flush: the last beat accepted; its top bytes are still owed
      · refine .flush rfl rfl rfl (by rw [uEnd_append]; simp [uNext, hl]) ?_
          (fun w hw => by cases hw; exact ⟨rfl, fun hp => by cases hp⟩)
        rw [hfs, List.map_append, hd]
        simp [uChunk_some, hl, pkUData_next c hc s hfi, hdl, maskPad, hres]
  | flush hs hfi hdl h1 hd h3 =>
    have hstart := envAtStart_start h3
    have hl : iv = true → it.last = false := envAtStart_notlast h3 hok
    have hm : ∀ x, maskPad c { data := ubeat c (resid c s.dData) x, first := false, last := true }
        = flushBeat c s.dData := fun x => by simp [maskPad, flushBeat, ubeat_mask]
    cases ir <;>
      simp [Elem.accNow, Elem.delNow, uenvNext2, packetizer_out_ucopy c s _ hs, packetizer_step_ucopy c s _ hs,
        pkLatch_ready c s hal, pkLatch_stall, hdl, hstart]
    -- source stalled: the flush beat stays on offer, the sink is not ready
    · exact .flush hs hfi hdl h1 hd (fun w hw => by cases hw; exact ⟨rfl, hl⟩)
    -- flush → IDLE: the flush beat delivered (the next packet's first beat may already be pending)
    · refine .idle rfl h1 ?_ (fun w hw => by cases hw; exact ⟨rfl, hl⟩)
      rw [List.map_append, ← hd]
      simp [pkUData_next c hc s hfi, hdl, hm]

/-- What `uRel` says about the delivered stream: complete, or (at a packet boundary) running ahead with header
    words of the pending first beat, or still missing the flush beat of the packet just accepted. -/
theorem uRel_shape (c : PkCfg) (s : PkState) (env : Option UEnv2) (a : List (Tok HBeat)) (d : List (Tok Nat))
    (h : uRel c s env a d) :
    d.map (maskPad c) = frameU c a ∨
    (uEnd c none a = none ∧ ∃ v k, env = some v ∧ v.pend = true ∧ k ≤ c.W ∧
      d.map (maskPad c) = frameU c a ++ (hdrWords c (hdrOf c v.lines)).take k) ∨
    (uEnd c none a = none ∧ ∃ x, d.map (maskPad c) ++ [flushBeat c x] = frameU c a) := by
  cases h with
  | idle _ _ hd _ => exact Or.inl hd
  | sent h1 v he hp _ _ _ k hk hd => exact Or.inr (Or.inl ⟨h1, v, k, he, hp, hk.le, hd⟩)
  | inside _ _ _ hd => exact Or.inl hd
  | flush _ _ _ h1 hd _ => exact Or.inr (Or.inr ⟨h1, _, hd⟩)

theorem uRel_init (c : PkCfg) : uRel c (packetizer c).init none [] [] :=
  .idle rfl rfl rfl (fun _ hw => by cases hw)

/-- Stated here because two theorems of C16 take it: `packetizer_bytes_unaligned_tight_partial` is this statement (its docstring
    is there), `packetizer_bytes_unaligned_partial` is this after `uok2_of_uok`. -/
theorem packetizer_bytes_unaligned_tight (c : PkCfg) (hc : UnalignedCfg c) (ins : List (In HBeat))
    (hok : UOk2 c (packetizer c) (packetizer c).init none ins) :
    let e := packetizer c
    let a := e.accepted e.init ins
    let d := e.delivered e.init ins
    d.map (maskPad c) = frameU c a ∨
    (∃ v k, uenvRun2 e e.init none ins = some v ∧ v.pend = true ∧ k ≤ c.W ∧
      d.map (maskPad c) = frameU c a ++ (hdrWords c (hdrOf c v.lines)).take k) ∨
    (∃ x, d.map (maskPad c) ++ [flushBeat c x] = frameU c a) := by
  intro e a d
  have h := rel_run_uok2 c e (uRel c) (upacketizer_step c hc) ins e.init none [] [] (uRel_init c) hok
  simp only [List.nil_append] at h
  rcases uRel_shape c _ _ _ _ h with h | ⟨_, h⟩ | ⟨_, h⟩
  · exact Or.inl h
  · exact Or.inr (Or.inl h)
  · exact Or.inr (Or.inr h)

end Litex.Packet
