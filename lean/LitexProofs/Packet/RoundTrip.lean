import LitexProofs.Packet.Depacketizer
/-
  Packetizer ⟫ Depacketizer (aligned header): de-framing a framed stream gives back every beat with the header
  of its packet; the composed history relation.
-/
namespace Litex.Packet
open Litex Litex.Stream Litex.Stream.Elem

theorem deframeAux_hdr_nil (c : PkCfg) (l : List (Tok Nat)) :
    ∀ k h, k + l.length ≤ c.W → deframeAux c k h l = [] := by
  induction l with
  | nil => intro k h _; rfl
  | cons t r ih =>
    intro k h hk
    simp only [List.length_cons] at hk
    have : k < c.W := by omega
    simp only [deframeAux, this, ↓reduceIte]
    exact ih _ _ (by omega)

theorem hdrWord_collect (c : PkCfg) (h j : Nat) :
    h % 2 ^ (j * c.dw) + (hdrWord c h j).data % 2 ^ c.dw * 2 ^ (j * c.dw) = h % 2 ^ ((j + 1) * c.dw) := by
  simp only [hdrWord, slice, Nat.mod_mod]
  rw [Nat.succ_mul, Nat.pow_add, Nat.mod_mul, Nat.mul_comm (2 ^ (j * c.dw))]

theorem dfSt_collect (c : PkCfg) (h : Nat) (n : Nat) :
    ∀ j, j + n = c.W →
      dfSt c j (h % 2 ^ (j * c.dw)) ((List.range' j n).map (hdrWord c h)) = (c.W, h % 2 ^ (c.W * c.dw)) := by
  induction n with
  | zero => intro j hj; simp at hj; subst hj; simp [dfSt]
  | succ n ih =>
    intro j hj
    have hjw : j < c.W := by omega
    simp only [List.range'_succ, List.map_cons, dfSt, hjw, ↓reduceIte]
    have := ih (j + 1) (by omega)
    rw [hdrWord_collect]
    exact this

theorem dfSt_hdrWords (c : PkCfg) (h : Nat) (hh : h < 2 ^ (c.W * c.dw)) :
    dfSt c 0 0 (hdrWords c h) = (c.W, h) := by
  have := dfSt_collect c h c.W 0 (by omega)
  simp only [Nat.zero_mul, Nat.pow_zero, Nat.mod_one] at this
  rw [hdrWords, List.range_eq_range', this, Nat.mod_eq_of_lt hh]

/-- What a Packetizer followed by the matching Depacketizer must deliver for the accepted beats: every beat
    (data truncated to the data width, `last` unchanged) with the header signal presented with the *first* beat
    of its packet.  `cur` = header of the packet in progress. -/
def annotAux (c : PkCfg) : Option Nat → List (Tok HBeat) → List (Tok HBeat)
  | _, [] => []
  | cur, t :: r =>
    { data := { data := t.data.data % 2 ^ c.dw, hdr := cur.getD (hdrOf c t) }, first := false, last := t.last } ::
      annotAux c (if t.last then none else some (cur.getD (hdrOf c t))) r

def annot (c : PkCfg) (a : List (Tok HBeat)) : List (Tok HBeat) := annotAux c none a

def annotEnd (c : PkCfg) : Option Nat → List (Tok HBeat) → Option Nat
  | cur, [] => cur
  | cur, t :: r => annotEnd c (if t.last then none else some (cur.getD (hdrOf c t))) r

theorem annotAux_append (c : PkCfg) (a : List (Tok HBeat)) (t : Tok HBeat) :
    ∀ cur, annotAux c cur (a ++ [t]) = annotAux c cur a ++
      [{ data := { data := t.data.data % 2 ^ c.dw, hdr := (annotEnd c cur a).getD (hdrOf c t) },
         first := false, last := t.last }] := by
  induction a with
  | nil => intro cur; simp [annotAux, annotEnd]
  | cons x r ih => intro cur; simp [annotAux, annotEnd, ih]

theorem annotEnd_append (c : PkCfg) (a : List (Tok HBeat)) (t : Tok HBeat) :
    ∀ cur, annotEnd c cur (a ++ [t]) =
      if t.last then none else some ((annotEnd c cur a).getD (hdrOf c t)) := by
  induction a with
  | nil => intro cur; simp [annotEnd]
  | cons x r ih => intro cur; simp [annotEnd, ih]

theorem hdrOf_lt (c : PkCfg) (hc : AlignedCfg c) (t : Tok HBeat) : hdrOf c t < 2 ^ (c.W * c.dw) := by
  rw [← hc.hw_eq]; exact Nat.mod_lt _ (Nat.two_pow_pos _)

/-- De-framing a framed stream: output and final state, from a packet boundary and from inside a packet. -/
theorem deframe_frame_aux (c : PkCfg) (hc : AlignedCfg c) (a : List (Tok HBeat)) :
    (deframeAux c 0 0 (frameAux c true a) = annotAux c none a ∧
      (endSt true a = true → dfSt c 0 0 (frameAux c true a) = (0, 0))) ∧
    (∀ hcur, deframeAux c c.W hcur (frameAux c false a) = annotAux c (some hcur) a ∧
      (endSt false a = true → dfSt c c.W hcur (frameAux c false a) = (0, 0))) := by
  induction a with
  | nil => simp [frameAux, deframeAux, annotAux, endSt, dfSt]
  | cons t r ih =>
    obtain ⟨⟨ih1, ih2⟩, ih3⟩ := ih
    have hW : ¬ c.W < c.W := Nat.lt_irrefl _
    constructor
    · have hst := dfSt_hdrWords c (hdrOf c t) (hdrOf_lt c hc t)
      have hnil := deframeAux_hdr_nil c (hdrWords c (hdrOf c t)) 0 0 (by simp [hdrWords])
      simp only [frameAux, ↓reduceIte, deframeAux_app, dfSt_app, hst, hnil, List.nil_append, deframeAux, dfSt,
        hW, annotAux, endSt, payBeat, Nat.mod_mod, Option.getD_none]
      cases hl : t.last with
      | true => simp [ih1]; exact ih2
      | false => simp [(ih3 (hdrOf c t)).1]; exact (ih3 (hdrOf c t)).2
    · intro hcur
      simp only [frameAux, Bool.false_eq_true, ↓reduceIte, List.nil_append, deframeAux, dfSt,
        hW, annotAux, endSt, payBeat, Nat.mod_mod, Option.getD_some]
      cases hl : t.last with
      | true => simp [ih1]; exact ih2
      | false => simp [(ih3 hcur).1]; exact (ih3 hcur).2

theorem deframe_frame (c : PkCfg) (hc : AlignedCfg c) (a : List (Tok HBeat)) :
    deframe c (frame c a) = annot c a := (deframe_frame_aux c hc a).1.1

/-- Header words that run ahead of the payload do not show at the Depacketizer's source. -/
theorem deframe_frame_ahead (c : PkCfg) (hc : AlignedCfg c) (a : List (Tok HBeat)) (x : List (Tok Nat))
    (hend : endSt true a = true) (hx : x.length ≤ c.W) :
    deframe c (frame c a ++ x) = annot c a := by
  unfold deframe frame
  rw [deframeAux_app, (deframe_frame_aux c hc a).1.2 hend, (deframe_frame_aux c hc a).1.1,
    deframeAux_hdr_nil c x 0 0 (by omega)]
  simp [annot]

/-- `packetizer.source.connect(depacketizer.sink)`. -/
def pkdpk (c : PkCfg) : Elem HBeat HBeat (PkState × PkState) := (packetizer c).comp (depacketizer c)

def rtRel (c : PkCfg) (s : PkState × PkState) (p : Option (Tok HBeat)) (a d : List (Tok HBeat)) : Prop :=
  ∃ mid, pkRel c s.1 p a mid ∧ dpRel c s.2 mid d

theorem pkdpk_step (c : PkCfg) (hc : AlignedCfg c) (s : PkState × PkState) (p : Option (Tok HBeat))
    (a d : List (Tok HBeat)) (i : In HBeat) (h : rtRel c s p a d)
    (hp : ∀ t, p = some t → i.valid = true ∧ i.tok = t) :
    rtRel c ((pkdpk c).step s i) (pendNext (pkdpk c) s i) (a ++ (pkdpk c).accNow s i)
      (d ++ (pkdpk c).delNow s i) :=
  comp_rel_compliant (packetizer c) (depacketizer c) (pkRel c) (dpRel c) (packetizer_step c hc) (depacketizer_step c hc)
    s p a d i h hp

end Litex.Packet
