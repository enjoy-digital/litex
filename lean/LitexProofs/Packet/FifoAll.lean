import LitexProofs.Packet.FifoAllStep
import LitexProofs.Stream.Sim
/-
  PacketFIFO for every `payload_depth` / `param_depth` / `buffered` (`packetFifoAll pd qd buffered`,
  `qd` = param_depth + 1): atomicity (all instances), the dead depth-0 instance, the connection to the depth ≥ 2
  models `packetFifo` / `packetFifoBuffered` (from reset), and the witness input of the fixed finding
  C16-packetfifo-buffered-param-depth0 (`buffered`, `payload_depth ≥ 2`, `param_depth = 0`) on the code that exists.
-/
namespace Litex.Packet
open Litex.Stream Litex.Stream.Elem

theorem qkind_fifo (n : Nat) (h : 2 ≤ n) : qkind n false = .fifo := by
  unfold qkind; split; · omega
  split; · omega
  rfl

theorem qkind_bfifo (n : Nat) (h : 2 ≤ n) : qkind n true = .bfifo := by
  unfold qkind; split; · omega
  split; · omega
  rfl

theorem qkind_eq_bfifo {n : Nat} {b : Bool} (h : qkind n b = .bfifo) : 2 ≤ n ∧ b = true := by
  unfold qkind at h
  split at h; · cases h
  split at h; · cases h
  split at h
  · exact ⟨by omega, by assumption⟩
  · cases h

theorem kindsOk_of_not_defect (pd qd : Nat) (buffered : Bool)
    (hnd : ¬ (buffered = true ∧ 2 ≤ pd ∧ qd = 1)) : kindsOk (qkind pd buffered) (qkind qd buffered) := by
  by_cases hkp : qkind pd buffered = .bfifo
  · obtain ⟨h2, hb⟩ := qkind_eq_bfifo hkp
    subst hb
    right
    by_cases h0 : qd = 0
    · right; simp [qkind, h0]
    · have h1 : qd ≠ 1 := fun h1 => hnd ⟨rfl, h2, h1⟩
      left; exact qkind_bfifo qd (by omega)
  · exact Or.inl hkp

theorem pfaRel_init (kp kq : QKind) (pd qd : Nat) : pfaRel kp kq (packetFifoK kp kq pd qd).init [] [] := by
  refine ⟨[], ?_, ?_, fun _ hv => ?_, fun _ => rfl⟩
  · cases kp <;> rfl
  · cases kq <;> rfl
  · cases kq <;> cases hv

def pfaBound (pd qd : Nat) (s : PFAState) : Prop := s.pay.bounded pd ∧ s.par.bounded qd

theorem packetFifoK_bound_step (kp kq : QKind) (pd qd : Nat) (s : PFAState) (i : In PBeat)
    (h : pfaBound pd qd s) : pfaBound pd qd ((packetFifoK kp kq pd qd).step s i) := by
  constructor
  · rw [pfa_step_pay]; exact QSt.bounded_next _ _ _ _ _ _ h.1
  · rw [pfa_step_par]; exact QSt.bounded_next _ _ _ _ _ _ h.2

theorem packetFifoK_reach (kp kq : QKind) (pd qd : Nat) (ins : List (In PBeat)) :
    let e := packetFifoK kp kq pd qd
    pfaRel kp kq (e.runFrom e.init ins) (e.accepted e.init ins) (e.delivered e.init ins) ∧
      pfaBound pd qd (e.runFrom e.init ins) := by
  intro e
  exact rel_run_init e (fun s a d => pfaRel kp kq s a d ∧ pfaBound pd qd s)
    ⟨pfaRel_init kp kq pd qd, by simp [pfaBound, QSt.bounded, e, packetFifoK]⟩
    (fun s a d i h => ⟨packetFifoK_step kp kq pd qd s a d i h.1, packetFifoK_bound_step kp kq pd qd s i h.2⟩)
    ins

/-- What `C16.packetfifo_atomic*` claim, for ANY two of the four queue circuits and any depths; the last two conjuncts bound
    the inner FIFOs, so a queue holds at most 0 / 1 / depth / depth + 1 entries (`QSt.stored_length_le`). -/
theorem packetFifoK_atomic (kp kq : QKind) (pd qd : Nat) (ins : List (In PBeat)) :
    let e := packetFifoK kp kq pd qd
    let s := e.runFrom e.init ins
    e.delivered e.init ins <+: annT (e.accepted e.init ins) ∧
    (e.accepted e.init ins).length = (e.delivered e.init ins).length + (s.pay.stored kp).length ∧
    (s.par.stored kq).length = ((s.pay.stored kp).filter (fun x => x.2)).length ∧
    (kindsOk kp kq → s.par.readable kq = true → s.pay.readable kp = true) ∧
    s.pay.bounded pd ∧ s.par.bounded qd := by
  intro e s
  obtain ⟨⟨a2, hpay, hpar, hinv, hext⟩, hb1, hb2⟩ := packetFifoK_reach kp kq pd qd ins
  obtain ⟨hpre, hlen⟩ := annT_hist hext
  refine ⟨hpre, ?_, ?_, hinv, hb1, hb2⟩
  · show _ = _ + (s.pay.stored kp).length
    rw [show s.pay.stored kp = a2.map payOf from hpay]; exact hlen
  · show (s.par.stored kq).length = ((s.pay.stored kp).filter _).length
    rw [show s.pay.stored kp = a2.map payOf from hpay, show s.par.stored kq = paramsOf a2 from hpar]
    exact paramsOf_length a2

theorem packetFifoAll_readable_inv (pd qd : Nat) (buffered : Bool)
    (hnd : ¬ (buffered = true ∧ 2 ≤ pd ∧ qd = 1)) (ins : List (In PBeat)) :
    let e := packetFifoAll pd qd buffered
    let s := e.runFrom e.init ins
    s.par.readable (qkind qd buffered) = true → s.pay.readable (qkind pd buffered) = true :=
  (packetFifoK_atomic (qkind pd buffered) (qkind qd buffered) pd qd ins).2.2.2.1 (kindsOk_of_not_defect pd qd buffered hnd)

theorem packetFifoAll_valid_complete (pd qd : Nat) (buffered : Bool) (ins : List (In PBeat)) (i : In PBeat) :
    let e := packetFifoAll pd qd buffered
    let s := e.runFrom e.init ins
    (e.out s i).valid = true →
      (∃ rest, s.pay.stored (qkind pd buffered) =
        ((e.out s i).tok.data.data, (e.out s i).tok.last) :: rest) ∧
      (∃ rest, s.par.stored (qkind qd buffered) = (e.out s i).tok.data.param :: rest) ∧
      ∃ x ∈ s.pay.stored (qkind pd buffered), x.2 = true := by
  intro e s hv
  obtain ⟨_, _, hcnt, _⟩ := packetFifoK_atomic (qkind pd buffered) (qkind qd buffered) pd qd ins
  have hv' : (s.par.readable (qkind qd buffered) && s.pay.readable (qkind pd buffered)) = true := hv
  rw [Bool.and_eq_true] at hv'
  exact ⟨⟨_, QSt.stored_readable _ _ hv'.2⟩, ⟨_, QSt.stored_readable _ _ hv'.1⟩,
    exists_last_of_params hcnt (QSt.stored_ne_nil_of_readable _ _ hv'.1)⟩

theorem packetFifoK_never_accepted (kq : QKind) (pd qd : Nat) (ins : List (In PBeat)) (s : PFAState) :
    (packetFifoK .never kq pd qd).accepted s ins = [] := by
  induction ins generalizing s with
  | nil => rfl
  | cons i is ih =>
    simp only [Elem.accepted, ih, List.append_nil]
    rw [pfa_accNow, pfaAcc_never]
    rfl

theorem packetFifoAll_depth0_dead (qd : Nat) (buffered : Bool) (ins : List (In PBeat)) :
    let e := packetFifoAll 0 qd buffered
    e.accepted e.init ins = [] ∧ e.delivered e.init ins = [] ∧
      ∀ i, (e.out (e.runFrom e.init ins) i).ready = false ∧ (e.out (e.runFrom e.init ins) i).valid = false := by
  intro e
  have hk : qkind 0 buffered = .never := by simp [qkind]
  have hacc : e.accepted e.init ins = [] := by
    show (packetFifoK (qkind 0 buffered) _ 0 qd).accepted _ ins = []
    rw [hk]; exact packetFifoK_never_accepted _ 0 qd ins _
  have hdel : e.delivered e.init ins = [] := by
    have h : e.delivered e.init ins <+: annT (e.accepted e.init ins) :=
      (packetFifoK_atomic (qkind 0 buffered) (qkind qd buffered) 0 qd ins).1
    rw [hacc] at h
    simpa [annT] using h
  refine ⟨hacc, hdel, fun i => ⟨?_, ?_⟩⟩
  · show ((packetFifoK (qkind 0 buffered) (qkind qd buffered) 0 qd).out _ i).ready = false
    rw [pfa_out_ready, hk]; simp [pfaWp, QSt.writable]
  · show ((packetFifoK (qkind 0 buffered) (qkind qd buffered) 0 qd).out _ i).valid = false
    rw [pfa_out_valid, hk]; simp [pfaSv, QSt.readable]

/-! ### Connection to the depth ≥ 2 models

  `packetFifo` / `packetFifoBuffered` (`LitexModel/Packet/Fifo.lean`) keep `source.valid = param readable`.  They are
  simulated by the generic pair of fwft / buffered queues through the state maps `pfaOfPlain` / `pfaOfBuffered`: in every
  state in which the generic machine satisfies its history relation a readable param queue implies a readable
  payload queue, so there both compute the same.  What is proved about them is the generic theorem read through
  the simulation. -/

/-- The state of `packetFifo` as a state of `packetFifoAll` (output registers unused). -/
def pfaOfPlain (s : PFState) : PFAState :=
  { pay := { q := s.pay, v := false, d := (0, false) }, par := { q := s.par, v := false, d := 0 } }

def pfaOfBuffered (s : PFBState) : PFAState :=
  { pay := { q := s.payQ, v := s.payV, d := s.payD }, par := { q := s.parQ, v := s.parV, d := s.parD } }

theorem pfaOfPlain_init (pd qd : Nat) :
    pfaOfPlain (packetFifo pd qd).init = (packetFifoAll pd qd false).init := rfl

theorem pfaOfBuffered_init (pd qd : Nat) :
    pfaOfBuffered (packetFifoBuffered pd qd).init = (packetFifoAll pd qd true).init := rfl

/-- The hypotheses of `packetFifoAll_eq_plain_out` / `_buffered_out` (agreement with the fixed machine state by state);
    `pfRel_reach` / `pfbRel_reach` discharge them.  The simulations `plain_sim` / `buffered_sim` run under `pfaInv`. -/
def pfPlainInv (s : PFState) : Prop := ∃ a d, pfRel s a d
def pfBufInv (s : PFBState) : Prop := ∃ a d, pfbRel s a d

/-- The simulation invariant.  What the port equations need is "param readable → payload readable", which alone is not
    inductive; being related to SOME history is (`packetFifoK_step`) and implies it. -/
def pfaInv (kp kq : QKind) (s : PFAState) : Prop := ∃ a d, pfaRel kp kq s a d

theorem pfaInv_init (kp kq : QKind) (pd qd : Nat) : pfaInv kp kq (packetFifoK kp kq pd qd).init :=
  ⟨[], [], pfaRel_init kp kq pd qd⟩

theorem pfaInv_step (kp kq : QKind) (pd qd : Nat) (s : PFAState) (i : In PBeat) (h : pfaInv kp kq s) :
    pfaInv kp kq ((packetFifoK kp kq pd qd).step s i) := by
  obtain ⟨a, d, h⟩ := h
  exact ⟨_, _, packetFifoK_step kp kq pd qd s a d i h⟩

theorem pfaInv_ofPlain (s : PFState) (h : pfPlainInv s) : pfaInv .fifo .fifo (pfaOfPlain s) := by
  obtain ⟨a, d, a2, h1, h2, h4⟩ := h
  refine ⟨a, d, a2, h1, h2, fun _ hv => ?_, h4⟩
  have : a2 ≠ [] := paramsOf_ne_nil (by rw [← h2]; simpa [pfaOfPlain, QSt.readable] using hv)
  simpa [pfaOfPlain, QSt.readable, h1] using this

theorem pfaInv_ofBuffered (s : PFBState) (h : pfBufInv s) : pfaInv .bfifo .bfifo (pfaOfBuffered s) := by
  obtain ⟨a, d, a2, h1, h2, h3, h4⟩ := h
  exact ⟨a, d, a2, h1, h2, fun _ => h3, h4⟩

theorem pfaInv_sv_plain (s : PFState) (h : pfaInv .fifo .fifo (pfaOfPlain s)) :
    (!s.par.isEmpty && !s.pay.isEmpty) = !s.par.isEmpty := by
  obtain ⟨a, d, a2, hpay, hpar, _⟩ := h
  change s.pay = _ at hpay
  change s.par = _ at hpar
  rw [hpay, hpar]
  cases a2 with
  | nil => simp [paramsOf]
  | cons t r => simp

theorem pfaInv_sv_buffered (s : PFBState) (h : pfaInv .bfifo .bfifo (pfaOfBuffered s)) :
    (s.parV && s.payV) = s.parV := by
  obtain ⟨a, d, a2, _, _, hinv, _⟩ := h
  cases hv : s.parV with
  | false => rfl
  | true => simp [show s.payV = true from hinv (Or.inr (Or.inl rfl)) hv]

theorem plain_fwd (pd qd : Nat) (s : PFState) (v : Bool) (t : Tok PBeat) (h : pfaInv .fifo .fifo (pfaOfPlain s)) :
    (packetFifo pd qd).fwd s v t = (packetFifoK .fifo .fifo pd qd).fwd (pfaOfPlain s) v t := by
  have hsv := pfaInv_sv_plain s h
  simp only [packetFifo, packetFifoK, pfaOfPlain, QSt.readable, QSt.dout, hsv]

theorem plain_bwd (pd qd : Nat) (s : PFState) (v : Bool) (t : Tok PBeat) (r : Bool) :
    (packetFifo pd qd).bwd s v t r = (packetFifoK .fifo .fifo pd qd).bwd (pfaOfPlain s) v t r := rfl

theorem plain_next (pd qd : Nat) (s : PFState) (v : Bool) (t : Tok PBeat) (r : Bool)
    (h : pfaInv .fifo .fifo (pfaOfPlain s)) :
    pfaOfPlain ((packetFifo pd qd).next s v t r) = (packetFifoK .fifo .fifo pd qd).next (pfaOfPlain s) v t r := by
  have hsv := pfaInv_sv_plain s h
  obtain ⟨pay, par⟩ := s
  simp only at hsv
  simp only [packetFifo, packetFifoK, pfaOfPlain, QSt.next, QSt.readable, QSt.dout, QSt.writable, hsv]
  congr 2
  cases par <;> simp

theorem buffered_fwd (pd qd : Nat) (s : PFBState) (v : Bool) (t : Tok PBeat)
    (h : pfaInv .bfifo .bfifo (pfaOfBuffered s)) :
    (packetFifoBuffered pd qd).fwd s v t = (packetFifoK .bfifo .bfifo pd qd).fwd (pfaOfBuffered s) v t := by
  have hsv := pfaInv_sv_buffered s h
  simp only [packetFifoBuffered, packetFifoK, pfaOfBuffered, QSt.readable, QSt.dout, hsv]

theorem buffered_bwd (pd qd : Nat) (s : PFBState) (v : Bool) (t : Tok PBeat) (r : Bool) :
    (packetFifoBuffered pd qd).bwd s v t r =
      (packetFifoK .bfifo .bfifo pd qd).bwd (pfaOfBuffered s) v t r := rfl

theorem buffered_next (pd qd : Nat) (s : PFBState) (v : Bool) (t : Tok PBeat) (r : Bool)
    (h : pfaInv .bfifo .bfifo (pfaOfBuffered s)) :
    pfaOfBuffered ((packetFifoBuffered pd qd).next s v t r) =
      (packetFifoK .bfifo .bfifo pd qd).next (pfaOfBuffered s) v t r := by
  have hsv := pfaInv_sv_buffered s h
  obtain ⟨payQ, payV, payD, parQ, parV, parD⟩ := s
  simp only at hsv
  simp only [packetFifoBuffered, packetFifoK, pfaOfBuffered, QSt.next, QSt.readable, QSt.dout, QSt.writable, hsv]
  cases payQ <;> cases parQ <;> simp

theorem plain_simUnder (pd qd : Nat) :
    SimUnder (packetFifo pd qd) (packetFifoK .fifo .fifo pd qd) pfaOfPlain (pfaInv .fifo .fifo) :=
  ⟨pfaInv_step .fifo .fifo pd qd, plain_fwd pd qd, fun s v t r _ => plain_bwd pd qd s v t r, plain_next pd qd⟩

theorem buffered_simUnder (pd qd : Nat) :
    SimUnder (packetFifoBuffered pd qd) (packetFifoK .bfifo .bfifo pd qd) pfaOfBuffered (pfaInv .bfifo .bfifo) :=
  ⟨pfaInv_step .bfifo .bfifo pd qd, buffered_fwd pd qd, fun s v t r _ => buffered_bwd pd qd s v t r, buffered_next pd qd⟩

theorem plain_sim (pd qd : Nat) (ins : List (In PBeat)) :
    (packetFifo pd qd).accepted (packetFifo pd qd).init ins =
      (packetFifoK .fifo .fifo pd qd).accepted (packetFifoK .fifo .fifo pd qd).init ins ∧
    (packetFifo pd qd).delivered (packetFifo pd qd).init ins =
      (packetFifoK .fifo .fifo pd qd).delivered (packetFifoK .fifo .fifo pd qd).init ins ∧
    pfaOfPlain ((packetFifo pd qd).runFrom (packetFifo pd qd).init ins) =
      (packetFifoK .fifo .fifo pd qd).runFrom (packetFifoK .fifo .fifo pd qd).init ins :=
  (plain_simUnder pd qd).run ins _ (pfaInv_init .fifo .fifo pd qd)

theorem buffered_sim (pd qd : Nat) (ins : List (In PBeat)) :
    (packetFifoBuffered pd qd).accepted (packetFifoBuffered pd qd).init ins =
      (packetFifoK .bfifo .bfifo pd qd).accepted (packetFifoK .bfifo .bfifo pd qd).init ins ∧
    (packetFifoBuffered pd qd).delivered (packetFifoBuffered pd qd).init ins =
      (packetFifoK .bfifo .bfifo pd qd).delivered (packetFifoK .bfifo .bfifo pd qd).init ins ∧
    pfaOfBuffered ((packetFifoBuffered pd qd).runFrom (packetFifoBuffered pd qd).init ins) =
      (packetFifoK .bfifo .bfifo pd qd).runFrom (packetFifoK .bfifo .bfifo pd qd).init ins :=
  (buffered_simUnder pd qd).run ins _ (pfaInv_init .bfifo .bfifo pd qd)

/-- Discharges `pfPlainInv` for every state reached from reset. -/
theorem pfRel_reach (pd qd : Nat) (ins : List (In PBeat)) :
    let e := packetFifo pd qd
    pfRel (e.runFrom e.init ins) (e.accepted e.init ins) (e.delivered e.init ins) := by
  obtain ⟨h1, h2, h3⟩ := plain_sim pd qd ins
  obtain ⟨⟨a2, hpay, hpar, _, hext⟩, _⟩ := packetFifoK_reach .fifo .fifo pd qd ins
  rw [← h1, ← h2] at hext
  rw [← h3] at hpay hpar
  exact ⟨a2, hpay, hpar, hext⟩

theorem pfbRel_reach (pd qd : Nat) (ins : List (In PBeat)) :
    let e := packetFifoBuffered pd qd
    pfbRel (e.runFrom e.init ins) (e.accepted e.init ins) (e.delivered e.init ins) := by
  obtain ⟨h1, h2, h3⟩ := buffered_sim pd qd ins
  obtain ⟨⟨a2, hpay, hpar, hinv, hext⟩, _⟩ := packetFifoK_reach .bfifo .bfifo pd qd ins
  rw [← h1, ← h2] at hext
  rw [← h3] at hpay hpar hinv
  exact ⟨a2, hpay, hpar, hinv (Or.inr (Or.inl rfl)), hext⟩

theorem packetFifoAll_eq_plain_init (pd qd : Nat) (hp : 2 ≤ pd) (hq : 2 ≤ qd) (ins : List (In PBeat)) :
    (packetFifo pd qd).accepted (packetFifo pd qd).init ins =
      (packetFifoAll pd qd false).accepted (packetFifoAll pd qd false).init ins ∧
    (packetFifo pd qd).delivered (packetFifo pd qd).init ins =
      (packetFifoAll pd qd false).delivered (packetFifoAll pd qd false).init ins := by
  unfold packetFifoAll
  rw [qkind_fifo pd hp, qkind_fifo qd hq]
  exact ⟨(plain_sim pd qd ins).1, (plain_sim pd qd ins).2.1⟩

theorem packetFifoAll_eq_plain_out (pd qd : Nat) (hp : 2 ≤ pd) (hq : 2 ≤ qd) (s : PFState) (i : In PBeat)
    (hs : pfPlainInv s) :
    (packetFifoAll pd qd false).out (pfaOfPlain s) i = (packetFifo pd qd).out s i ∧
    (packetFifoAll pd qd false).step (pfaOfPlain s) i = pfaOfPlain ((packetFifo pd qd).step s i) := by
  have h := pfaInv_ofPlain s hs
  unfold packetFifoAll
  rw [qkind_fifo pd hp, qkind_fifo qd hq]
  exact ⟨by simp [Elem.out, ← plain_fwd pd qd s i.valid i.tok h, ← plain_bwd],
    (plain_next pd qd s i.valid i.tok i.ready h).symm⟩

theorem packetFifoAll_eq_buffered_init (pd qd : Nat) (hp : 2 ≤ pd) (hq : 2 ≤ qd) (ins : List (In PBeat)) :
    (packetFifoBuffered pd qd).accepted (packetFifoBuffered pd qd).init ins =
      (packetFifoAll pd qd true).accepted (packetFifoAll pd qd true).init ins ∧
    (packetFifoBuffered pd qd).delivered (packetFifoBuffered pd qd).init ins =
      (packetFifoAll pd qd true).delivered (packetFifoAll pd qd true).init ins := by
  unfold packetFifoAll
  rw [qkind_bfifo pd hp, qkind_bfifo qd hq]
  exact ⟨(buffered_sim pd qd ins).1, (buffered_sim pd qd ins).2.1⟩

theorem packetFifoAll_eq_buffered_out (pd qd : Nat) (hp : 2 ≤ pd) (hq : 2 ≤ qd) (s : PFBState) (i : In PBeat)
    (hs : pfBufInv s) :
    (packetFifoAll pd qd true).out (pfaOfBuffered s) i = (packetFifoBuffered pd qd).out s i ∧
    (packetFifoAll pd qd true).step (pfaOfBuffered s) i = pfaOfBuffered ((packetFifoBuffered pd qd).step s i) := by
  have h := pfaInv_ofBuffered s hs
  unfold packetFifoAll
  rw [qkind_bfifo pd hp, qkind_bfifo qd hq]
  exact ⟨by simp [Elem.out, ← buffered_fwd pd qd s i.valid i.tok h, ← buffered_bwd],
    (buffered_next pd qd s i.valid i.tok i.ready h).symm⟩

/-- A single-beat packet passes `PacketFIFO(1)` (payload `PipeValid`, param FIFO of depth 2), non-buffered and
    buffered (the buffered param FIFO shows the param one cycle later). -/
example :
    let t (d p : Nat) (l : Bool) : Tok PBeat := ⟨⟨d, p⟩, false, l⟩
    let idle : In PBeat := ⟨false, t 0 0 false, true⟩
    (packetFifoAll 1 2 false).delivered (packetFifoAll 1 2 false).init [⟨true, t 7 9 true, true⟩, idle] = [t 7 9 true] ∧
    (packetFifoAll 1 2 true).delivered (packetFifoAll 1 2 true).init [⟨true, t 7 9 true, true⟩, idle] = [] ∧
    (packetFifoAll 1 2 true).delivered (packetFifoAll 1 2 true).init [⟨true, t 7 9 true, true⟩, idle, idle]
      = [t 7 9 true] := by decide

/-- Back-to-back single-beat packets through `payload_depth = 1`: the full `PipeValid` accepts the next beat in
    the very cycle in which its content is handed over (and only then), one packet per cycle; also with a
    `PipeValid` param queue (`param_depth = 0`). -/
example :
    let t (d p : Nat) (l : Bool) : Tok PBeat := ⟨⟨d, p⟩, false, l⟩
    let e := packetFifoAll 1 2 false
    let s1 := e.step e.init ⟨true, t 1 11 true, true⟩
    let ins : List (In PBeat) :=
      [⟨true, t 1 11 true, true⟩, ⟨true, t 2 12 true, true⟩, ⟨true, t 3 13 true, true⟩, ⟨false, t 0 0 false, true⟩]
    (e.out s1 ⟨true, t 2 12 true, true⟩).ready = true ∧ (e.out s1 ⟨true, t 2 12 true, false⟩).ready = false ∧
    (e.out s1 ⟨true, t 2 12 true, true⟩).valid = true ∧
    e.accepted e.init ins = [t 1 11 true, t 2 12 true, t 3 13 true] ∧
    e.delivered e.init ins = [t 1 11 true, t 2 12 true, t 3 13 true] ∧
    (packetFifoAll 1 1 false).delivered (packetFifoAll 1 1 false).init ins
      = [t 1 11 true, t 2 12 true, t 3 13 true] ∧
    (packetFifoAll 1 1 true).delivered (packetFifoAll 1 1 true).init ins
      = [t 1 11 true, t 2 12 true, t 3 13 true] := by decide

/-- A two-beat packet does not fit `payload_depth = 1` (store-and-forward limit), a mixed instance
    `PacketFIFO(4, param_depth=1, buffered)` delivers it with the param of its last beat. -/
example :
    let t (d p : Nat) (l : Bool) : Tok PBeat := ⟨⟨d, p⟩, false, l⟩
    let idle : In PBeat := ⟨false, t 0 0 false, true⟩
    let ins : List (In PBeat) := [⟨true, t 1 0 false, true⟩, ⟨true, t 2 9 true, true⟩, ⟨true, t 2 9 true, true⟩,
      idle, idle, idle]
    (packetFifoAll 1 2 false).accepted (packetFifoAll 1 2 false).init ins = [t 1 0 false] ∧
    (packetFifoAll 4 2 true).delivered (packetFifoAll 4 2 true).init ins
      = [t 1 9 false, t 2 9 true, t 2 9 true] := by decide

/-- `PacketFIFO(2, param_depth=0, buffered=True)` (payload `SyncFIFOBuffered`,
    param `PipeValid`), the witness input of finding C16-packetfifo-buffered-param-depth0 on the code that exists: the
    param register is valid one cycle after the write, the payload output register two cycles after; the source
    waits for both and delivers exactly the accepted beat. -/
theorem packetFifoAll_fixed_witness :
    let t (d p : Nat) (l : Bool) : Tok PBeat := ⟨⟨d, p⟩, false, l⟩
    let e := packetFifoAll 2 1 true
    let ins : List (In PBeat) := [⟨true, t 107 48 true, true⟩, ⟨false, t 0 0 false, true⟩,
      ⟨false, t 0 0 false, true⟩, ⟨false, t 0 0 false, true⟩]
    e.accepted e.init ins = [t 107 48 true] ∧
    e.delivered e.init ins = [t 107 48 true] ∧
    ((e.runFrom e.init [⟨true, t 107 48 true, true⟩]).par.readable (qkind 1 true) = true ∧
     (e.runFrom e.init [⟨true, t 107 48 true, true⟩]).pay.readable (qkind 2 true) = false ∧
     (e.out (e.runFrom e.init [⟨true, t 107 48 true, true⟩]) ⟨false, t 0 0 false, true⟩).valid = false) := by
  decide

end Litex.Packet
