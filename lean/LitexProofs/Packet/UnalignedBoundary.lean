import LitexProofs.Packet.UnalignedTightRT
/-
  How sharp `UOk2` / `udWellFormed2` are.  For EVERY unaligned configuration: conjunct (2) of `UOkStep2` is exact
  (`upacketizer_bubble_exact`, an `↔`), a sampled `last` is fatal (`upacketizer_bubble_last`), and a `last` on the final
  header beat leads to a state in which harm happens in the first cycle with `source.ready = 1`
  (`udepacketizer_lastW_exact`, one direction only: whether it does harm depends on the `ready` schedule, see the third
  Depacketizer witness below; `udWellFormed2` is the weakest condition on the ACCEPTED STREAM that works for every
  schedule).  The rest is shown on concrete witnesses further down.

  Packetizer: take any state strictly inside a packet (UNALIGNED-DATA-COPY, not `fsm_from_idle`, `sink_d.last = 0` —
  what `uRel` says there; `p` = data of the beat accepted last) and one pause
  cycle `valid = 0, source.ready = 1` showing the lines `t`.  If the producer then offers the next beat `x` and the
  consumer takes it, the beat delivered is the specified one (`ubeat (resid p) x`, no `last`) IF AND ONLY IF `t`
  satisfies conjunct (2) of `UOkStep2`.  So every single violation of (2) has a continuation — allowed by all the
  other conjuncts — on which the delivered stream is wrong.

-/
namespace Litex.Packet
open Litex Litex.Stream Litex.Stream.Elem

theorem ubeat_inj_lo (c : PkCfg) (lo lo' x : Nat) :
    ubeat c lo x = ubeat c lo' x ↔ lo % 2 ^ (8 * c.L) = lo' % 2 ^ (8 * c.L) := by
  unfold ubeat
  constructor
  · intro h; omega
  · intro h; rw [h]

theorem upacketizer_bubble_exact (c : PkCfg) (hc : UnalignedCfg c) (sr cnt dd p : Nat) (t x : Tok HBeat)
    (hp : p < 2 ^ c.dw) :
    let e := packetizer c
    let s : PkState := { st := .ucopy, sr := sr, count := cnt, fromIdle := false, dData := dd, dLast := false }
    -- the pause cycle itself delivers and accepts nothing …
    e.delNow s ⟨false, t, true⟩ = [] ∧ e.accNow s ⟨false, t, true⟩ = [] ∧
    -- … and the next beat comes out right iff the pause cycle obeyed conjunct (2)
    (e.delNow (e.step s ⟨false, t, true⟩) ⟨true, x, true⟩ =
        [{ data := ubeat c (resid c p) (sinkData c x), first := false, last := false }] ↔
      (t.last = false ∧ resid c (sinkData c t) = resid c p)) := by
  intro e s
  have hal := hc.aligned_eq
  have h1 : resid c (sinkData c t) < 2 ^ (8 * c.L) :=
    resid_lt c hc _ (Nat.mod_lt _ (Nat.two_pow_pos _))
  have h2 : resid c p < 2 ^ (8 * c.L) := resid_lt c hc _ hp
  refine ⟨by simp [e, s, Elem.delNow, Elem.out, packetizer], by simp [e, s, Elem.accNow, Elem.out, packetizer], ?_⟩
  cases hl : t.last with
  | true =>
    simp [e, s, Elem.step, Elem.delNow, Elem.out, packetizer, hal, hl]
  | false =>
    simp [e, s, Elem.step, Elem.delNow, Elem.out, packetizer, hal, hl, pkUData_next c hc]
    show ubeat c (resid c (sinkData c t)) (sinkData c x) = ubeat c (resid c p) (sinkData c x) ↔ _
    rw [ubeat_inj_lo, Nat.mod_eq_of_lt h1, Nat.mod_eq_of_lt h2]

/-- A sampled `last` is fatal whatever happens next: from the following cycle on the Packetizer offers a flush
    beat with `last` that the specification does not contain, also while `sink.valid = 0`, for as long as
    `source.ready = 0`; it is handed over in the first cycle with `source.ready = 1`. -/
theorem upacketizer_bubble_last (c : PkCfg) (hc : UnalignedCfg c) (sr cnt dd : Nat) (t : Tok HBeat)
    (hl : t.last = true) (v : Bool) (x : Tok HBeat) (r : Bool) :
    let e := packetizer c
    let s : PkState := { st := .ucopy, sr := sr, count := cnt, fromIdle := false, dData := dd, dLast := false }
    let s' := e.step s ⟨false, t, true⟩
    (e.out s' ⟨v, x, r⟩).valid = true ∧ (e.out s' ⟨v, x, r⟩).tok.last = true ∧
    (r = false → e.step s' ⟨v, x, r⟩ = s') := by
  intro e s s'
  have hal := hc.aligned_eq
  cases r <;> simp [e, s, s', Elem.step, Elem.out, packetizer, hal, hl]

/-- Depacketizer: a `last` on the FINAL header beat leaves the FSM in UNALIGNED-DATA-COPY with `fsm_from_idle` and
    `sink_d.last = 1` (see `udRel`, where this is the only thing `udOkBeat` is used for on header beats).  In
    that state a beat with `last` is handed over in the first cycle with `source.ready = 1` — whatever the sink
    shows — although the accepted stream has not even completed the header (`deframeU` delivers nothing before
    the beat after the residue beat). -/
theorem udepacketizer_lastW_exact (c : PkCfg) (sr cnt dd : Nat) (v : Bool) (t : Tok Nat) :
    let e := depacketizer c
    let s : PkState := { st := .ucopy, sr := sr, count := cnt, fromIdle := true, dData := dd, dLast := true }
    ∃ b, e.delNow s ⟨v, t, true⟩ = [b] ∧ b.last = true ∧
      (e.step s ⟨v, t, true⟩).st = .idle ∧
      (∀ r, (e.out s ⟨v, t, r⟩).valid = true) := by
  intro e s
  refine ⟨_, by simp [e, s, Elem.delNow, Elem.out, depacketizer]; rfl, ?_, ?_, ?_⟩
  · simp
  · cases v <;> simp [e, s, Elem.step, depacketizer]
  · intro r; simp [e, s, Elem.out, depacketizer]

/-!
  Kernel-checked boundary examples for `packetizer_bytes_unaligned_tight`
  (dw = 16, 3-byte header `a1 b2 c3`: `W = 1`, residue `L = 1` byte; the configuration of the negative witnesses in
  `LitexProps/C16.lean`).  The packet `2211 4433 6655+last` with ONE pause cycle (`valid = 0`) after its first
  beat; correct framing: `b2a1 | 11c3 | 3322 | 5544 | 66 pad +last`.
-/

/-- Non-vacuity, between the two hypotheses (a): in the pause cycle ALL lines change (data `9999`, `last = 1`, header
    lines `0`) while `source.ready = 0`: nothing is sampled.  `UOk` is false, `UOk2`
    holds, the framing is correct. -/
example :
    let c : PkCfg := ⟨2, 3⟩
    let e := packetizer c
    let i (v : Bool) (d h : Nat) (l rdy : Bool) : In HBeat := ⟨v, ⟨⟨d, h⟩, false, l⟩, rdy⟩
    let ins := [i true 0x2211 0xc3b2a1 false true, i true 0x2211 0xc3b2a1 false true,
                i false 0x9999 0 true false,
                i true 0x4433 0xc3b2a1 false true, i true 0x6655 0xc3b2a1 true true, i false 0 0 false true]
    UnalignedCfg c ∧ UOk2 c e e.init none ins ∧ uokB e e.init none ins = false ∧
    (e.delivered e.init ins).map (maskPad c) =
      [⟨0xb2a1, false, false⟩, ⟨0x11c3, false, false⟩, ⟨0x3322, false, false⟩, ⟨0x5544, false, false⟩,
       ⟨0x66, false, true⟩] ∧
    frameU c (e.accepted e.init ins) =
      [⟨0xb2a1, false, false⟩, ⟨0x11c3, false, false⟩, ⟨0x3322, false, false⟩, ⟨0x5544, false, false⟩,
       ⟨0x66, false, true⟩] := by
  refine ⟨⟨by decide, by decide, by decide⟩, uok2_of_B _ _ _ _ _ (by decide), by decide, by decide, by decide⟩

/-- Non-vacuity, between the two hypotheses (b): pause cycle with `source.ready = 1` (the lines ARE sampled into
    `sink_d`); the LOW `B − L = 1` data byte changes (`2211 → 2299`) and the header lines change
    (`c3b2a1 → 777777`), the top `L = 1` byte and `last = 0` are kept.  `UOk` false, `UOk2` true, framing correct. -/
example :
    let c : PkCfg := ⟨2, 3⟩
    let e := packetizer c
    let i (v : Bool) (d h : Nat) (l rdy : Bool) : In HBeat := ⟨v, ⟨⟨d, h⟩, false, l⟩, rdy⟩
    let ins := [i true 0x2211 0xc3b2a1 false true, i true 0x2211 0xc3b2a1 false true,
                i false 0x2299 0x777777 false true,
                i true 0x4433 0xc3b2a1 false true, i true 0x6655 0xc3b2a1 true true, i false 0 0 false true]
    UOk2 c e e.init none ins ∧ uokB e e.init none ins = false ∧
    (e.delivered e.init ins).map (maskPad c) =
      [⟨0xb2a1, false, false⟩, ⟨0x11c3, false, false⟩, ⟨0x3322, false, false⟩, ⟨0x5544, false, false⟩,
       ⟨0x66, false, true⟩] ∧
    (e.delivered e.init ins).map (maskPad c) = frameU c (e.accepted e.init ins) := by
  refine ⟨uok2_of_B _ _ _ _ _ (by decide), by decide, by decide, by decide⟩

/-- … and (c): several pause cycles, lines changing freely whenever `ready = 0`, low byte changing when
    `ready = 1`. -/
example :
    let c : PkCfg := ⟨2, 3⟩
    let e := packetizer c
    let i (v : Bool) (d h : Nat) (l rdy : Bool) : In HBeat := ⟨v, ⟨⟨d, h⟩, false, l⟩, rdy⟩
    let ins := [i true 0x2211 0xc3b2a1 false true, i true 0x2211 0xc3b2a1 false true,
                i false 0x9999 0 true false, i false 0x2299 0 false true, i false 0x8888 0 true false,
                i true 0x4433 0xc3b2a1 false true, i true 0x6655 0xc3b2a1 true true, i false 0 0 false true]
    UOk2 c e e.init none ins ∧ uokB e e.init none ins = false ∧
    (e.delivered e.init ins).map (maskPad c) = frameU c (e.accepted e.init ins) := by
  refine ⟨uok2_of_B _ _ _ _ _ (by decide), by decide, by decide⟩

/-- Exactness of conjunct (2), data part: ONE pause cycle with `ready = 1`, `last = 0`, in which only the TOP `L`
    byte changes (`2211 → 9911`): `UOk2` is violated and the third delivered beat carries the bubble's byte
    (`3399` instead of `3322`) — finding C16-packetizer-unaligned-bubble. -/
example :
    let c : PkCfg := ⟨2, 3⟩
    let e := packetizer c
    let i (v : Bool) (d h : Nat) (l rdy : Bool) : In HBeat := ⟨v, ⟨⟨d, h⟩, false, l⟩, rdy⟩
    let ins := [i true 0x2211 0xc3b2a1 false true, i true 0x2211 0xc3b2a1 false true,
                i false 0x9911 0xc3b2a1 false true,
                i true 0x4433 0xc3b2a1 false true, i true 0x6655 0xc3b2a1 true true, i false 0 0 false true]
    uok2B c e e.init none ins = false ∧
    (e.delivered e.init ins).map (maskPad c) =
      [⟨0xb2a1, false, false⟩, ⟨0x11c3, false, false⟩, ⟨0x3399, false, false⟩, ⟨0x5544, false, false⟩,
       ⟨0x66, false, true⟩] ∧
    frameU c (e.accepted e.init ins) =
      [⟨0xb2a1, false, false⟩, ⟨0x11c3, false, false⟩, ⟨0x3322, false, false⟩, ⟨0x5544, false, false⟩,
       ⟨0x66, false, true⟩] := by
  refine ⟨by decide, by decide, by decide⟩

/-- Exactness of conjunct (2), `last` part: ONE pause cycle with `ready = 1` in which the data lines are kept and
    only the `last` line is high: `UOk2` is violated, the packet is cut after its first beat by a spurious flush
    beat `22 +last`, the beat `4433` is lost and the rest is framed as a new packet — finding
    C16-packetizer-unaligned-bubble. -/
example :
    let c : PkCfg := ⟨2, 3⟩
    let e := packetizer c
    let i (v : Bool) (d h : Nat) (l rdy : Bool) : In HBeat := ⟨v, ⟨⟨d, h⟩, false, l⟩, rdy⟩
    let ins := [i true 0x2211 0xc3b2a1 false true, i true 0x2211 0xc3b2a1 false true,
                i false 0x2211 0xc3b2a1 true true,
                i true 0x4433 0xc3b2a1 false true, i true 0x6655 0xc3b2a1 true true, i false 0 0 false true]
    uok2B c e e.init none ins = false ∧
    (e.delivered e.init ins).map (maskPad c) =
      [⟨0xb2a1, false, false⟩, ⟨0x11c3, false, false⟩, ⟨0x22, false, true⟩, ⟨0xb2a1, false, false⟩,
       ⟨0xc3, false, true⟩] ∧
    frameU c (e.accepted e.init ins) = [⟨0xb2a1, false, false⟩, ⟨0x11c3, false, false⟩] := by
  refine ⟨by decide, by decide, by decide⟩

/-!
  Kernel-checked boundary examples for `depacketizer_bytes_unaligned_tight`
  (dw = 16, 5-byte header `a1 b2 c3 d4 e5`: `W = 2` header beats, residue `L = 1` byte).
  The packet on the wire: `b2a1 | d4c3 | 11e5 | 3322 | 0044+last` = header, payload bytes `11 22 33 44`, padding.
-/

/-- Non-vacuity, between the two hypotheses: `last` on header beat 0 (an EARLY header beat, possible because
    `W = 2`).  `udWellFormed` is false, `udWellFormed2` holds, and the packet is delivered
    correctly (`last` on the header beat is ignored). -/
example :
    let c : PkCfg := ⟨2, 5⟩
    let i (d : Nat) (l : Bool) : In Nat := ⟨true, ⟨d, false, l⟩, true⟩
    let ins := [i 0xb2a1 true, i 0xd4c3 false, i 0x11e5 false, i 0x3322 false, i 0x0044 true]
    let acc := (depacketizer c).accepted (depacketizer c).init ins
    UnalignedCfg c ∧ udWellFormed2 c (.hdr 0 0) acc ∧ ¬ udWellFormed c (.hdr 0 0) acc ∧
    (depacketizer c).delivered (depacketizer c).init ins =
      [⟨⟨0x2211, 0xe5d4c3b2a1⟩, false, false⟩, ⟨⟨0x4433, 0xe5d4c3b2a1⟩, false, true⟩] ∧
    deframeU c acc = [⟨⟨0x2211, 0xe5d4c3b2a1⟩, false, false⟩, ⟨⟨0x4433, 0xe5d4c3b2a1⟩, false, true⟩] := by
  refine ⟨⟨by decide, by decide, by decide⟩, udWf2_of_B _ _ _ (by decide), ?_, by decide, by decide⟩
  rw [← udWfB_iff]; decide

/-- Negative witness (excluded case 1: `last` on the FINAL header beat `W-1`).  UNALIGNED-DATA-COPY is entered
    with `sink_d.last = 1`; `source.valid.eq(sink_d.last)` offers the spurious beat `e5d4` (top byte of the header
    beat, low byte of the residue beat) with `last` and the still incomplete header `d4c3b2a1·00`, the FSM returns
    to IDLE and takes the payload `3322 0044` as the next header.  The specification delivers `2211 4433`. -/
example :
    let c : PkCfg := ⟨2, 5⟩
    let i (d : Nat) (l : Bool) : In Nat := ⟨true, ⟨d, false, l⟩, true⟩
    let ins := [i 0xb2a1 false, i 0xd4c3 true, i 0x11e5 false, i 0x3322 false, i 0x0044 true]
    let acc := (depacketizer c).accepted (depacketizer c).init ins
    udWf2B c (.hdr 0 0) acc = false ∧
    (depacketizer c).delivered (depacketizer c).init ins = [⟨⟨0xe5d4, 0xd4c3b2a100⟩, false, true⟩] ∧
    deframeU c acc = [⟨⟨0x2211, 0xe5d4c3b2a1⟩, false, false⟩, ⟨⟨0x4433, 0xe5d4c3b2a1⟩, false, true⟩] := by
  refine ⟨by decide, by decide, by decide⟩

/-- The same accepted stream is delivered correctly when the consumer happens to stall (`ready = 0`) in the one
    cycle in which the residue beat is accepted (the spurious `valid` is withdrawn again, `sink_d.last` is
    overwritten): whether a `last` on header beat `W-1` does harm depends on the `ready` schedule, so
    `udWellFormed2` is the weakest condition ON THE ACCEPTED STREAM under which the theorem holds for every
    schedule (the example above is a schedule on which it fails). -/
example :
    let c : PkCfg := ⟨2, 5⟩
    let i (d : Nat) (l r : Bool) : In Nat := ⟨true, ⟨d, false, l⟩, r⟩
    let ins := [i 0xb2a1 false true, i 0xd4c3 true true, i 0x11e5 false false, i 0x3322 false true,
                i 0x0044 true true]
    (depacketizer c).delivered (depacketizer c).init ins =
      [⟨⟨0x2211, 0xe5d4c3b2a1⟩, false, false⟩, ⟨⟨0x4433, 0xe5d4c3b2a1⟩, false, true⟩] := by decide

/-- Negative witness (excluded case 2, finding C16-depacketizer-residue-end, here with `W = 2`): `last` on the
    residue beat (a packet of header + 1 payload byte `11`), followed by the packet `f2e1 14d3 2215 0033+last`.
    The payload byte is delivered together with a byte of the NEXT packet's first beat, which is swallowed; the
    next packet is then mis-framed. -/
example :
    let c : PkCfg := ⟨2, 5⟩
    let i (d : Nat) (l : Bool) : In Nat := ⟨true, ⟨d, false, l⟩, true⟩
    let ins := [i 0xb2a1 false, i 0xd4c3 false, i 0x11e5 true,
                i 0xf2e1 false, i 0x14d3 false, i 0x2215 false, i 0x0033 true, i 0 false]
    let acc := (depacketizer c).accepted (depacketizer c).init ins
    udWf2B c (.hdr 0 0) acc = false ∧
    (depacketizer c).delivered (depacketizer c).init ins =
      [⟨⟨0xe111, 0xe5d4c3b2a1⟩, false, true⟩, ⟨⟨0x0000, 0x33221514d3⟩, false, true⟩] := by
  refine ⟨by decide, by decide⟩

/-!
  Kernel-checked boundary examples for `pkt_depkt_roundtrip_unaligned_tight`
  (dw = 16, 3-byte header `a1 b2 c3`; the packet `2211 4433 6655+last` with pause cycles after its first beat).
-/

/-- Non-vacuity, between the two hypotheses: three pause cycles — all lines change with `ready = 0`, the low data byte
    and the header lines change with `ready = 1`, all lines change again with `ready = 0`.  `UOk` is false, `UOk2`
    holds, the packet comes back complete, every beat with header `0xc3b2a1`. -/
example :
    let c : PkCfg := ⟨2, 3⟩
    let e := pkdpk c
    let i (v : Bool) (d h : Nat) (l rdy : Bool) : In HBeat := ⟨v, ⟨⟨d, h⟩, false, l⟩, rdy⟩
    let ins := [i true 0x2211 0xc3b2a1 false true, i true 0x2211 0xc3b2a1 false true,
                i false 0x9999 0 true false, i false 0x2299 0x777777 false true, i false 0x8888 0 true false,
                i true 0x4433 0xc3b2a1 false true, i true 0x6655 0xc3b2a1 true true,
                i false 0 0 false true, i false 0 0 false true]
    UOk2 c e e.init none ins ∧ uokB e e.init none ins = false ∧
    e.delivered e.init ins =
      [⟨⟨0x2211, 0xc3b2a1⟩, false, false⟩, ⟨⟨0x4433, 0xc3b2a1⟩, false, false⟩, ⟨⟨0x6655, 0xc3b2a1⟩, false, true⟩] ∧
    e.delivered e.init ins = annot c (e.accepted e.init ins) := by
  refine ⟨uok2_of_B _ _ _ _ _ (by decide), by decide, by decide, by decide⟩

/-- Exactness, data part: one pause cycle with `ready = 1`, `last = 0`, only the TOP byte changed
    (`2211 → 9911`): the first payload beat comes back as `9911`. -/
example :
    let c : PkCfg := ⟨2, 3⟩
    let e := pkdpk c
    let i (v : Bool) (d h : Nat) (l rdy : Bool) : In HBeat := ⟨v, ⟨⟨d, h⟩, false, l⟩, rdy⟩
    let ins := [i true 0x2211 0xc3b2a1 false true, i true 0x2211 0xc3b2a1 false true,
                i false 0x9911 0xc3b2a1 false true,
                i true 0x4433 0xc3b2a1 false true, i true 0x6655 0xc3b2a1 true true,
                i false 0 0 false true, i false 0 0 false true]
    uok2B c e e.init none ins = false ∧
    e.delivered e.init ins =
      [⟨⟨0x9911, 0xc3b2a1⟩, false, false⟩, ⟨⟨0x4433, 0xc3b2a1⟩, false, false⟩, ⟨⟨0x6655, 0xc3b2a1⟩, false, true⟩] ∧
    annot c (e.accepted e.init ins) =
      [⟨⟨0x2211, 0xc3b2a1⟩, false, false⟩, ⟨⟨0x4433, 0xc3b2a1⟩, false, false⟩, ⟨⟨0x6655, 0xc3b2a1⟩, false, true⟩] := by
  refine ⟨by decide, by decide, by decide⟩

/-- Exactness, `last` part: one pause cycle with `ready = 1`, data kept, `last` line high: the packet is cut after
    its first beat (delivered with `last`), the rest is lost / mis-framed. -/
example :
    let c : PkCfg := ⟨2, 3⟩
    let e := pkdpk c
    let i (v : Bool) (d h : Nat) (l rdy : Bool) : In HBeat := ⟨v, ⟨⟨d, h⟩, false, l⟩, rdy⟩
    let ins := [i true 0x2211 0xc3b2a1 false true, i true 0x2211 0xc3b2a1 false true,
                i false 0x2211 0xc3b2a1 true true,
                i true 0x4433 0xc3b2a1 false true, i true 0x6655 0xc3b2a1 true true,
                i false 0 0 false true, i false 0 0 false true]
    uok2B c e e.init none ins = false ∧
    e.delivered e.init ins = [⟨⟨0x2211, 0xc3b2a1⟩, false, true⟩, ⟨⟨0, 0xc3b2a1⟩, false, true⟩] ∧
    annot c (e.accepted e.init ins) = [⟨⟨0x2211, 0xc3b2a1⟩, false, false⟩] := by
  refine ⟨by decide, by decide, by decide⟩

end Litex.Packet
