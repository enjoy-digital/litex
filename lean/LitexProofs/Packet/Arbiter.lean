import LitexModel.Packet.Arbiter
import LitexProofs.RoundRobin
import LitexProofs.Lists
/-
  Arbiter / Dispatcher: transfer logs, the "one source / one destination per packet" predicates and the
  inductive invariants behind `arbiter_atomic` and `dispatcher_atomic`.
-/
namespace Litex.Packet
open Litex Litex.Stream

/-- The beat handed to the slave in this cycle (if any), tagged with the master it comes from. -/
def arbXfer (n : Nat) (s : ArbState) (i : ArbIn) : List (Nat × Beat) :=
  if ((arbiter n).out s i).slave.valid && i.ready then [(s.grant, ((arbiter n).out s i).slave)] else []

def arbLog (n : Nat) (s : ArbState) : List ArbIn → List (Nat × Beat)
  | [] => []
  | i :: is => arbXfer n s i ++ arbLog n ((arbiter n).next s i) is

/-- Beats of master `k` accepted (its valid and its ready) while running `ins` from `s`. -/
def arbAccepted (n k : Nat) (s : ArbState) : List ArbIn → List Beat
  | [] => []
  | i :: is =>
    (if (i.masters.getD k Beat.idle).valid && (((arbiter n).out s i).readys.getD k false)
      then [i.masters.getD k Beat.idle] else []) ++ arbAccepted n k ((arbiter n).next s i) is

/-- One source per packet: `owner` is the master whose packet is in progress (its last transferred beat was not
    a last beat); every beat comes from the owner if there is one; a last beat releases ownership. -/
def atomicFrom : Option Nat → List (Nat × Beat) → Prop
  | _, [] => True
  | owner, (m, b) :: r => (∀ o, owner = some o → m = o) ∧ atomicFrom (if b.last then none else some m) r

/-- While a packet of `o` is in progress the grant stays with `o` because its `Status.ongoing` register keeps requesting. -/
def arbInv (n : Nat) (s : ArbState) (owner : Option Nat) : Prop :=
  s.grant < n ∧ ∀ o, owner = some o → s.grant = o ∧ s.ongoing.getD o false = true

theorem arbiter_keeps (n : Nat) (s : ArbState) (i : ArbIn) (hg : s.grant < n)
    (hr : arbRequest s i s.grant = true) :
    ((arbiter n).next s i).grant = s.grant ∧ ((arbiter n).next s i).ongoing.getD s.grant false = true := by
  simp only [arbiter]
  exact ⟨RoundRobin.next_withdraw_keep _ true hg (by simp [hg, hr]), by rw [getD_range_map_of_lt _ _ hg]; exact hr⟩

theorem arbiter_atomic_from (n : Nat) (ins : List ArbIn) :
    ∀ (s : ArbState) (owner : Option Nat), arbInv n s owner → atomicFrom owner (arbLog n s ins) := by
  induction ins with
  | nil => intro s owner _; simp [arbLog, atomicFrom]
  | cons i is ih =>
    intro s owner ⟨hg, hown⟩
    have hgn := RoundRobin.next_lt .withdraw (fun k => decide (k < n) && arbRequest s i k) true hg
    simp only [arbLog, arbXfer]
    generalize hb : i.masters.getD s.grant Beat.idle = b
    have hb' : i.masters[s.grant]?.getD Beat.idle = b := by simpa using hb
    have hslave : ((arbiter n).out s i).slave = b := by simp [arbiter, hg, hb']
    rw [hslave]
    have hreq : arbRequest s i s.grant = ((b.valid || s.ongoing.getD s.grant false) && !(b.valid && b.last && i.ready)) := by
      simp [arbRequest, arbStatusIn, status, StatusIn.lastHs, hb']
    cases hx : (b.valid && i.ready)
    · -- no transfer: ownership unchanged
      simp only [Bool.false_eq_true, ↓reduceIte, List.nil_append]
      apply ih
      refine ⟨hgn, ?_⟩
      intro o ho
      obtain ⟨h1, h2⟩ := hown o ho
      subst h1
      have hr : arbRequest s i s.grant = true := by
        rw [hreq, h2]; revert hx; cases b.valid <;> cases i.ready <;> cases b.last <;> simp
      exact arbiter_keeps n s i hg hr
    · simp only [↓reduceIte, List.cons_append, List.nil_append, atomicFrom]
      refine ⟨fun o ho => ((hown o ho).1), ?_⟩
      apply ih
      refine ⟨hgn, ?_⟩
      intro o ho
      cases hl : b.last
      · simp only [hl, Bool.false_eq_true, ↓reduceIte, Option.some.injEq] at ho
        subst ho
        have hr : arbRequest s i s.grant = true := by
          rw [hreq]; revert hx; simp [hl]; cases b.valid <;> simp
        exact arbiter_keeps n s i hg hr
      · simp [hl] at ho

theorem arbiter_accepted_eq (n : Nat) (k : Nat) (hk : k < n) (ins : List ArbIn) :
    ∀ (s : ArbState), s.grant < n →
      arbAccepted n k s ins = ((arbLog n s ins).filter (fun x => x.1 == k)).map (fun x => x.2) := by
  induction ins with
  | nil => intro s _; simp [arbAccepted, arbLog]
  | cons i is ih =>
    intro s hg
    have hgn := RoundRobin.next_lt .withdraw (fun k => decide (k < n) && arbRequest s i k) true hg
    simp only [arbAccepted, arbLog, arbXfer, List.filter_append, List.map_append]
    rw [ih _ (by simpa [arbiter] using hgn)]
    congr 1
    have hslave : ((arbiter n).out s i).slave = i.masters.getD s.grant Beat.idle := by simp [arbiter, hg]
    have hrdy : ((arbiter n).out s i).readys.getD k false = (k == s.grant && i.ready) := by
      simp only [arbiter]; exact getD_range_map_of_lt _ _ hk
    rw [hslave, hrdy]
    by_cases hkg : k = s.grant
    · subst hkg
      generalize i.masters.getD s.grant Beat.idle = b
      cases b.valid <;> cases i.ready <;> simp
    · have : (s.grant == k) = false := by simp; omega
      have h2 : (k == s.grant) = false := by simp; omega
      generalize i.masters.getD s.grant Beat.idle = b
      cases b.valid <;> cases i.ready <;> simp [this, h2]

/-- A beat transferred at the master in this cycle: (destination slave or `none` = drained, `sel` input of this
    cycle, the beat). -/
def dispXfer (m : Nat) (oneHot : Bool) (s : DispState) (i : DispIn) : List (Option Nat × Nat × Beat) :=
  if i.master.valid && dispReady m oneHot s i then
    [(dispTarget m oneHot (dispSel s i), i.sel, i.master)] else []

def dispLog (m : Nat) (oneHot : Bool) (s : DispState) : List DispIn → List (Option Nat × Nat × Beat)
  | [] => []
  | i :: is => dispXfer m oneHot s i ++ dispLog m oneHot ((dispatcher m oneHot).next s i) is

/-- One destination per packet: `cur = none` at a packet boundary — then the destination is the slave
    addressed by the `sel` input of the cycle in which the first beat is transferred; `cur = some d` while a
    packet is in progress — then every beat goes to `d`, whatever `sel` does. -/
def routedFrom (m : Nat) (oneHot : Bool) : Option (Option Nat) → List (Option Nat × Nat × Beat) → Prop
  | _, [] => True
  | cur, (dest, sel, b) :: r =>
    (match cur with
      | none => dest = dispTarget m oneHot sel
      | some d => dest = d) ∧
    routedFrom m oneHot (if b.last then none else some dest) r

/-- Inside a packet (`first = 0`) the latched `sel_ongoing` addresses the destination of its first beat. -/
def dispInv (m : Nat) (oneHot : Bool) (s : DispState) (cur : Option (Option Nat)) : Prop :=
  match cur with
  | none => s.first = true
  | some d => s.first = false ∧ dispTarget m oneHot s.selOngoing = d

theorem dispatcher_next (m : Nat) (oneHot : Bool) (s : DispState) (i : DispIn) :
    (dispatcher m oneHot).next s i =
      { first := if i.master.valid && dispReady m oneHot s i then i.master.last else s.first
        selOngoing := dispSel s i } := by
  simp only [dispatcher, status, StatusIn.lastHs, StatusIn.hs, dispSel]
  cases i.master.valid <;> cases dispReady m oneHot s i <;> cases i.master.last <;> rfl

theorem dispatcher_atomic_from (m : Nat) (oneHot : Bool) (ins : List DispIn) :
    ∀ (s : DispState) (cur : Option (Option Nat)), dispInv m oneHot s cur →
      routedFrom m oneHot cur (dispLog m oneHot s ins) := by
  induction ins with
  | nil => intro s cur _; trivial
  | cons i is ih =>
    intro s cur hinv
    -- the destination the invariant predicts for a beat transferred now
    have hdest : match cur with
        | none => dispTarget m oneHot (dispSel s i) = dispTarget m oneHot i.sel
        | some d => dispTarget m oneHot (dispSel s i) = d := by
      cases cur with
      | none => simp only [dispSel, show s.first = true from hinv, ↓reduceIte]
      | some d => simp only [dispSel, hinv.1, Bool.false_eq_true, ↓reduceIte]; exact hinv.2
    simp only [dispLog, dispXfer]
    cases hx : (i.master.valid && dispReady m oneHot s i)
    · simp only [Bool.false_eq_true, ↓reduceIte, List.nil_append]
      apply ih
      rw [dispatcher_next, hx]
      cases cur with
      | none => exact hinv
      | some d => exact ⟨hinv.1, by simp only [dispSel, hinv.1, Bool.false_eq_true, ↓reduceIte]; exact hinv.2⟩
    · simp only [↓reduceIte, List.cons_append, List.nil_append, routedFrom]
      refine ⟨by cases cur <;> exact hdest, ih _ _ ?_⟩
      rw [dispatcher_next, hx]
      cases i.master.last
      · exact ⟨rfl, rfl⟩
      · exact rfl

end Litex.Packet
