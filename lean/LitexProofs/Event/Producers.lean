import LitexModel.Event.Producers
import LitexProofs.Event.Gpio
/-
  The event producers `timer`, `uart`, `gpioSync`: per producer its state and input in cycle `t`, the trace its event
  manager sees (an `innerTraceFrom`, `LitexProofs/Machine.lean`), the element of that trace in cycle `t`, and the trigger
  waveform in the producer's own terms (counter at zero, FIFO flags, pads two cycles late).
-/
namespace Litex.Event
open Litex

def TimerIn.idle : TimerIn := { en := false, load := 0, reload := 0, adr := 0, we := false, datW := 0 }
def timerInAt (tins : List TimerIn) (t : Nat) : TimerIn := tins.getD t TimerIn.idle

/-- 0 at reset; a function of the `_en`/`_load`/`_reload` values of the earlier cycles. -/
def timerValueAt (tins : List TimerIn) : Nat → Nat
  | 0 => 0
  | t + 1 => timerValueNext (timerValueAt tins t) (timerInAt tins t)

def timerTrace (bw : Nat) (little : Bool) (tins : List TimerIn) : List In :=
  innerTraceFrom (timer bw little) (fun s i => timerEvIn s.value i) (timer bw little).init tins

section timer
variable {bw : Nat} {little : Bool} {tins : List TimerIn} {t : Nat}

theorem timerTrace_length : (timerTrace bw little tins).length = tins.length := innerTraceFrom_length _ _ _ _

theorem timer_value_run :
    ∀ t, t ≤ tins.length → ((timer bw little).run (tins.take t)).value = timerValueAt tins t := by
  intro t
  induction t with
  | zero => intro _; rfl
  | succ t ih =>
    intro ht
    rw [Machine.run_take_succ _ TimerIn.idle tins ht]
    show timerValueNext _ _ = _
    rw [ih (Nat.le_of_succ_le ht)]
    rfl

theorem timerTrace_inAt (ht : t < tins.length) :
    inAt (timerTrace bw little tins) t = timerEvIn (timerValueAt tins t) (timerInAt tins t) := by
  unfold inAt timerTrace
  rw [innerTraceFrom_getD _ _ In.idle TimerIn.idle tins _ t ht, ← timer_value_run (bw := bw) (little := little) t (Nat.le_of_lt ht)]
  rfl

theorem timer_trig (ht : t < tins.length) :
    trigAt (timerTrace bw little tins) t 0 = decide (timerValueAt tins t = 0) := by
  rw [trigAt, timerTrace_inAt ht]
  rfl

theorem timer_zero_event (ht : t + 1 < tins.length) (hnz : timerValueAt tins t ≠ 0)
    (hz : timerValueAt tins (t + 1) = 0) :
    eventAt (timerCfg bw little) (timerTrace bw little tins) (t + 1) 0 = true :=
  rising_edge_event rfl (by rw [timer_trig (Nat.lt_of_succ_lt ht)]; exact decide_eq_false hnz)
    (by rw [timer_trig ht]; exact decide_eq_true hz)

theorem timer_cfg_kind (bw : Nat) (little : Bool) : (timerCfg bw little).kind 0 = .rising := rfl
theorem timer_cfg_n (bw : Nat) (little : Bool) : (timerCfg bw little).n = 1 := rfl

theorem timer_countdown {v : Nat} (hv : timerValueAt tins t = v) :
    ∀ j, j ≤ v → (∀ i, i < j → (timerInAt tins (t + i)).en = true) → timerValueAt tins (t + j) = v - j := by
  intro j
  induction j with
  | zero => intro _ _; exact hv
  | succ j ih =>
    intro hj hen
    rw [← Nat.add_assoc, timerValueAt, ih (Nat.le_of_succ_le hj) fun i hi => hen i (Nat.lt_succ_of_lt hi),
      timerValueNext, hen j (Nat.lt_succ_self j), if_pos rfl, if_neg (Nat.sub_ne_zero_of_lt hj)]
    rfl

end timer

def UartIn.idle : UartIn :=
  { sinkValid := false, srcReady := false, rxtxRe := false, rxtxWe := false, adr := 0, we := false, datW := 0 }
def uartInAt (uins : List UartIn) (t : Nat) : UartIn := uins.getD t UartIn.idle

section uart
variable (dtx drx : Nat) (rxWe : Bool) (bw : Nat) (little : Bool)

def uartStAt (uins : List UartIn) (t : Nat) : UartSt := (uart dtx drx rxWe bw little).run (uins.take t)

def uartTrace (uins : List UartIn) : List In :=
  innerTraceFrom (uart dtx drx rxWe bw little) (uartEvIn dtx) (uart dtx drx rxWe bw little).init uins

theorem uart_run_ev (uins : List UartIn) :
    ((uart dtx drx rxWe bw little).run uins).ev =
      (evMgr (uartCfg bw little)).run (uartTrace dtx drx rxWe bw little uins) :=
  run_proj (uart dtx drx rxWe bw little) (evMgr (uartCfg bw little)) (·.ev) (uartEvIn dtx) (fun _ _ => rfl) uins _

theorem uart_ev_stAt (uins : List UartIn) (t : Nat) :
    (uartStAt dtx drx rxWe bw little uins t).ev = stAt (uartCfg bw little) (uartTrace dtx drx rxWe bw little uins) t := by
  unfold uartStAt stAt
  rw [uart_run_ev, uartTrace, uartTrace, innerTraceFrom_take]

variable {dtx drx rxWe bw little} {uins : List UartIn} {t : Nat}

theorem uartTrace_length : (uartTrace dtx drx rxWe bw little uins).length = uins.length :=
  innerTraceFrom_length _ _ _ _

theorem uartStAt_succ (ht : t < uins.length) :
    uartStAt dtx drx rxWe bw little uins (t + 1) =
      (uart dtx drx rxWe bw little).next (uartStAt dtx drx rxWe bw little uins t) (uartInAt uins t) :=
  Machine.run_take_succ _ UartIn.idle uins ht

theorem uartTrace_inAt (ht : t < uins.length) :
    inAt (uartTrace dtx drx rxWe bw little uins) t =
      uartEvIn dtx (uartStAt dtx drx rxWe bw little uins t) (uartInAt uins t) :=
  innerTraceFrom_getD _ _ In.idle UartIn.idle uins _ t ht

theorem uart_trig_tx (ht : t < uins.length) :
    trigAt (uartTrace dtx drx rxWe bw little uins) t 0 = (uartStAt dtx drx rxWe bw little uins t).tx.writable dtx := by
  rw [trigAt, uartTrace_inAt ht]
  rfl

theorem uart_trig_rx (ht : t < uins.length) :
    trigAt (uartTrace dtx drx rxWe bw little uins) t 1 = (uartStAt dtx drx rxWe bw little uins t).rx.rd := by
  rw [trigAt, uartTrace_inAt ht]
  rfl

end uart

/-- A character pushed into an empty `SyncFIFOBuffered` sits in the inner FIFO one cycle later … -/
theorem fifoNext_empty_push {d : Nat} (hd : 0 < d) (re : Bool) :
    fifoNext d FifoSt.empty true re = { lvl := 1, rd := false } := by
  have : (0 != d) = true := by simp; omega
  cases re <;> simp [fifoNext, FifoSt.empty, FifoSt.writable, FifoSt.refill, this]

/-- … and reaches the output register in the cycle after. -/
theorem fifoNext_refill_rd (d : Nat) (we re : Bool) : (fifoNext d { lvl := 1, rd := false } we re).rd = true := by
  cases re <;> simp [fifoNext, FifoSt.refill]

theorem uart_cfg_kind (bw : Nat) (little : Bool) {k : Nat} (hk : k < 2) : (uartCfg bw little).kind k = .rising := by
  match k, hk with
  | 0, _ => rfl
  | 1, _ => rfl
theorem uart_cfg_n (bw : Nat) (little : Bool) : (uartCfg bw little).n = 2 := rfl

theorem fifoNext_le (d : Nat) (f : FifoSt) (we re : Bool) (h : f.lvl ≤ d) : (fifoNext d f we re).lvl ≤ d := by
  unfold fifoNext
  dsimp only
  split
  next hwr =>
    -- a write is accepted only below the depth
    have hwritable : f.writable d = true := (Bool.and_eq_true_iff.mp hwr).2
    have hne : f.lvl ≠ d := by simpa [FifoSt.writable] using hwritable
    split
    · exact h
    · exact Nat.lt_of_le_of_ne h hne
  next =>
    split
    · exact Nat.le_trans (Nat.sub_le _ _) h
    · exact h

def GpioRawIn.idle : GpioRawIn := { raw := [], mode := [], edge := [], adr := 0, we := false, datW := 0 }
def gpioRawInAt (gins : List GpioRawIn) (t : Nat) : GpioRawIn := gins.getD t GpioRawIn.idle
def rawAt (gins : List GpioRawIn) (t k : Nat) : Bool := (gpioRawInAt gins t).raw.getD k false

/-- What `_GPIOIRQ` receives: the configuration and bus of the same cycle and the pads after the synchroniser. -/
def syncTrace (n bw : Nat) (little : Bool) (gins : List GpioRawIn) : List GpioIn :=
  innerTraceFrom (gpioSync n bw little) (fun s i => i.toIn s.r1) (gpioSync n bw little).init gins

/-- 0 before: the reset value of the flip-flops. -/
def delay1 (f : Nat → Bool) : Nat → Bool
  | 0 => false
  | t + 1 => f t
def delay2 (f : Nat → Bool) : Nat → Bool
  | 0 => false
  | 1 => false
  | t + 2 => f t

section sync
variable {n bw : Nat} {little : Bool} {gins : List GpioRawIn} {k t : Nat}

theorem syncTrace_length : (syncTrace n bw little gins).length = gins.length := innerTraceFrom_length _ _ _ _

theorem gpioSync_regs (hk : k < n) :
    ∀ t, t ≤ gins.length →
      (((gpioSync n bw little).run (gins.take t)).r0.getD k false = delay1 (fun t => rawAt gins t k) t) ∧
      (((gpioSync n bw little).run (gins.take t)).r1.getD k false = delay2 (fun t => rawAt gins t k) t) := by
  intro t
  induction t with
  | zero => intro _; exact ⟨getD_replicate_self n false k, getD_replicate_self n false k⟩
  | succ t ih =>
    intro ht
    rw [Machine.run_take_succ _ GpioRawIn.idle gins ht]
    constructor
    · exact getD_range_map_of_lt _ _ hk
    · show ((gpioSync n bw little).run (gins.take t)).r0.getD k false = _
      rw [(ih (Nat.le_of_succ_le ht)).1]
      cases t <;> rfl

theorem syncTrace_inAt (ht : t < gins.length) :
    gpioInAt (syncTrace n bw little gins) t =
      (gpioRawInAt gins t).toIn ((gpioSync n bw little).run (gins.take t)).r1 :=
  innerTraceFrom_getD _ _ GpioIn.idle GpioRawIn.idle gins _ t ht

theorem sync_pad (hk : k < n) (ht : t < gins.length) :
    padAt (syncTrace n bw little gins) t k = delay2 (fun t => rawAt gins t k) t := by
  rw [padAt, syncTrace_inAt ht]
  exact (gpioSync_regs hk t (Nat.le_of_lt ht)).2

def rawChangeAt (gins : List GpioRawIn) (k t : Nat) : Bool := rawAt gins t k != delay1 (fun t => rawAt gins t k) t

theorem sync_change (hk : k < n) (ht : t < gins.length) :
    changeAt (syncTrace n bw little gins) t k = delay2 (rawChangeAt gins k) t := by
  unfold changeAt
  rw [sync_pad hk ht]
  cases t with
  | zero => rfl
  | succ t =>
    show (_ != padAt _ t k) = _
    rw [sync_pad hk (Nat.lt_of_succ_lt ht)]
    rcases t with _ | _ | t <;> rfl

theorem sync_mode (ht : t < gins.length) :
    modeAt (syncTrace n bw little gins) t k = (gpioRawInAt gins t).mode.getD k false := by
  rw [modeAt, syncTrace_inAt ht]
  rfl

end sync

end Litex.Event
