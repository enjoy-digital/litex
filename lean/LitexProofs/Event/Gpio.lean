import LitexModel.Event.Gpio
import LitexProofs.Event.Bus
/-
  The GPIO IRQ client: its signals per cycle (`padAt`, `modeAt`, `changeAt`) and the trigger trace `gpioTrace` on which the
  event manager inside `gpioIrq` runs; `GpioAgreeOn`/`GpioAgreeTraces` and the non-interference of the pads.
-/
namespace Litex.Event
open Litex

theorem gpio_run_ev (n bw : Nat) (little : Bool) :
    ∀ (ins : List GpioIn) (s : GpioSt),
      ((gpioIrq n bw little).runFrom s ins).ev =
        (evMgr (gpioCfg n bw little)).runFrom s.ev (gpioDerive n s.inD ins) :=
  Machine.runFrom_proj (gpioIrq n bw little) (evMgr (gpioCfg n bw little)) (·.ev) (es := fun s => gpioDerive n s.inD)
    (fun _ => rfl) (fun _ _ _ => rfl) (fun _ _ => rfl)

/-- `gpioDerive` is the list of event-manager inputs recorded along a run of `gpioIrq`. -/
theorem gpioDerive_eq_inner (n bw : Nat) (little : Bool) : ∀ (ins : List GpioIn) (s : GpioSt),
    gpioDerive n s.inD ins = innerTraceFrom (gpioIrq n bw little) (fun s i => gpioEvIn n s.inD i) s ins
  | [], _ => rfl
  | i :: is, s => congrArg (_ :: ·) (gpioDerive_eq_inner n bw little is ((gpioIrq n bw little).next s i))

theorem gpio_cfg_n {n bw : Nat} {little : Bool} : (gpioCfg n bw little).n = n := List.length_replicate

theorem gpio_cfg_kind {n bw : Nat} {little : Bool} {k : Nat} (hk : k < n) : (gpioCfg n bw little).kind k = .rising := by
  simp [gpioCfg, Cfg.kind, List.getD_eq_getElem?_getD, hk]

def GpioIn.idle : GpioIn := { pads := [], mode := [], edge := [], adr := 0, we := false, datW := 0 }

def gpioInAt (gins : List GpioIn) (t : Nat) : GpioIn := gins.getD t GpioIn.idle
def padAt (gins : List GpioIn) (t k : Nat) : Bool := (gpioInAt gins t).pads.getD k false
def modeAt (gins : List GpioIn) (t k : Nat) : Bool := (gpioInAt gins t).mode.getD k false
/-- `in_d` in cycle `t` (0 in the first cycle). -/
def prevPad (gins : List GpioIn) : Nat → Nat → Bool
  | 0, _ => false
  | t + 1, k => padAt gins t k
def changeAt (gins : List GpioIn) (t k : Nat) : Bool := padAt gins t k != prevPad gins t k

def gpioTrace (n : Nat) (gins : List GpioIn) : List In := gpioDerive n (List.replicate n false) gins

theorem gpioTrace_length (n : Nat) (gins : List GpioIn) : (gpioTrace n gins).length = gins.length :=
  (congrArg List.length (gpioDerive_eq_inner n 0 false gins (gpioIrq n 0 false).init)).trans
    (innerTraceFrom_length _ _ _ _)

theorem gpio_trig_change {n : Nat} {gins : List GpioIn} {t k : Nat} (hk : k < n) (ht : t < gins.length)
    (hmode : modeAt gins t k = true) : trigAt (gpioTrace n gins) t k = changeAt gins t k := by
  unfold trigAt inAt gpioTrace
  -- the other parameters of `gpioIrq` do not matter for the trigger
  rw [show gpioDerive n (List.replicate n false) gins = _ from gpioDerive_eq_inner n 0 false gins (gpioIrq n 0 false).init,
    innerTraceFrom_getD _ _ In.idle GpioIn.idle gins _ t ht]
  show ((List.range n).map (gpioTrig ((gpioIrq n 0 false).run (gins.take t)).inD (gpioInAt gins t))).getD k false = _
  rw [getD_range_map_of_lt _ _ hk, gpioTrig, show (gpioInAt gins t).mode.getD k false = true from hmode, if_pos rfl]
  -- `in_d[k]` is the pad one cycle earlier
  cases t with
  | zero => exact congrArg (padAt gins 0 k != ·) (getD_replicate_self n false k)
  | succ t =>
    rw [Machine.run_take_succ _ GpioIn.idle gins (Nat.lt_of_succ_lt ht)]
    exact congrArg (padAt gins (t + 1) k != ·) (getD_range_map_of_lt _ _ hk)

def GpioAgreeOn (bw k : Nat) (i₁ i₂ : GpioIn) : Prop :=
  i₁.pads.getD k false = i₂.pads.getD k false ∧ i₁.mode.getD k false = i₂.mode.getD k false ∧
  i₁.edge.getD k false = i₂.edge.getD k false ∧ i₁.we = i₂.we ∧ i₁.adr = i₂.adr ∧
  i₁.datW.testBit (k % bw) = i₂.datW.testBit (k % bw)

def GpioAgreeTraces (bw k : Nat) : List GpioIn → List GpioIn → Prop
  | [], [] => True
  | a :: as, b :: bs => GpioAgreeOn bw k a b ∧ GpioAgreeTraces bw k as bs
  | _, _ => False

theorem gpioDerive_agree (n bw : Nat) (little : Bool) {k : Nat} (hk : k < n) :
    ∀ (g₁ g₂ : List GpioIn) (d₁ d₂ : List Bool), GpioAgreeTraces bw k g₁ g₂ → d₁.getD k false = d₂.getD k false →
      AgreeTraces (gpioCfg n bw little) k (gpioDerive n d₁ g₁) (gpioDerive n d₂ g₂) := by
  intro g₁
  induction g₁ with
  | nil =>
    intro g₂ d₁ d₂ h _
    cases g₂ with
    | nil => trivial
    | cons _ _ => simp [GpioAgreeTraces] at h
  | cons a as ih =>
    intro g₂ d₁ d₂ h hd
    cases g₂ with
    | nil => simp [GpioAgreeTraces] at h
    | cons b bs =>
      obtain ⟨⟨hp, hm, he, hwe, hadr, hdat⟩, hrest⟩ := h
      refine ⟨⟨?_, hwe, hadr, hdat⟩, ih bs _ _ hrest ?_⟩
      · unfold In.trigOf gpioEvIn
        simp only
        rw [getD_range_map_of_lt _ _ hk, getD_range_map_of_lt _ _ hk]
        unfold gpioTrig
        rw [hp, hm, he, hd]
      · unfold gpioNextD
        rw [getD_range_map_of_lt _ _ hk, getD_range_map_of_lt _ _ hk]
        exact hp

end Litex.Event
