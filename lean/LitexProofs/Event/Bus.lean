import LitexProofs.Event.Basic
import LitexProofs.Bits
/-
  The bus side of `evMgr`: address decoding when the registers fit one bus word, the value read back (`packFrom`),
  `AgreeOn`/`AgreeTraces` (two input traces that agree on what concerns one source) with the non-interference of the
  sources, and the `SharedIRQ` product manager by manager.
-/
namespace Litex.Event
open Litex

variable {c : Cfg} {ins : List In} {t k : Nat}

/-! Registers that fit one bus word (`n ≤ bus width`): status = index 0, pending = 1, enable = 2. -/

theorem nwords_one (hn : 0 < c.n) (hw : c.n ≤ c.bw) : c.nwords = 1 :=
  Nat.div_eq_of_lt_le (by rw [Nat.one_mul]; exact Nat.le_sub_one_of_lt (Nat.lt_add_of_pos_left hn))
    (Nat.sub_one_lt_of_le (Nat.add_pos_left hn _) (by rw [Nat.two_mul]; exact Nat.add_le_add_right hw _))

theorem decode_single (hn : 0 < c.n) (hw : c.n ≤ c.bw) (a : Nat) :
    c.decode a = if a = 0 then some (Reg.status, 0) else if a = 1 then some (Reg.pending, 0)
                 else if a = 2 then some (Reg.enable, 0) else none := by
  unfold Cfg.decode
  rw [nwords_one hn hw]
  cases c.little <;> rcases a with _ | _ | _ | a <;> rfl

theorem commitWord_single (hn : 0 < c.n) (hw : c.n ≤ c.bw) : c.commitWord = 0 := by
  unfold Cfg.commitWord; rw [nwords_one hn hw]; simp

theorem wrBit_single (hk : k < c.n) (hw : c.n ≤ c.bw) (i : In) (reg : Reg) :
    wrBit c i reg k =
      if i.we = true ∧ i.adr = (match reg with | .status => 0 | .pending => 1 | .enable => 2)
      then some (i.datW.testBit k) else none := by
  have hkb : k < c.bw := Nat.lt_of_lt_of_le hk hw
  unfold wrBit
  rw [decode_single (Nat.zero_lt_of_lt hk) hw, Nat.div_eq_of_lt hkb, Nat.mod_eq_of_lt hkb]
  cases i.we
  · rfl
  · generalize i.adr = a
    cases reg <;> rcases a with _ | _ | _ | a <;> rfl

theorem commits_single (hn : 0 < c.n) (hw : c.n ≤ c.bw) (i : In) :
    commits c i = (i.we && decide (i.adr = 1)) := by
  unfold commits
  rw [decode_single hn hw, commitWord_single hn hw]
  generalize i.adr = a
  rcases a with _ | _ | _ | a <;> rfl

theorem packFrom_lt (f : Nat → Bool) (n : Nat) : ∀ w lo, packFrom f n w lo < 2 ^ w := by
  intro w
  induction w with
  | zero => intro lo; simp [packFrom]
  | succ w ih =>
    intro lo
    have := ih (lo + 1)
    unfold packFrom
    split <;> omega

theorem packFrom_testBit (f : Nat → Bool) (n : Nat) :
    ∀ w lo j, (packFrom f n w lo).testBit j = (decide (j < w) && decide (lo + j < n) && f (lo + j)) := by
  intro w
  induction w with
  | zero => intro lo j; simp [packFrom]
  | succ w ih =>
    intro lo j
    rw [packFrom, testBit_bit]
    cases j with
    | zero => simp
    | succ j => simp only [ih, Nat.add_assoc, Nat.add_comm 1 j, Nat.add_lt_add_iff_right]

/-- Two inputs that agree on everything that concerns source `k`. -/
def AgreeOn (c : Cfg) (k : Nat) (i₁ i₂ : In) : Prop :=
  i₁.trigOf k = i₂.trigOf k ∧ i₁.we = i₂.we ∧ i₁.adr = i₂.adr ∧
    i₁.datW.testBit (k % c.bw) = i₂.datW.testBit (k % c.bw)

theorem wrBit_agree {i₁ i₂ : In} (h : AgreeOn c k i₁ i₂) (reg : Reg) : wrBit c i₁ reg k = wrBit c i₂ reg k := by
  obtain ⟨_, h2, h3, h4⟩ := h
  unfold wrBit
  rw [h2, h3, h4]

theorem commits_agree {i₁ i₂ : In} (h : AgreeOn c k i₁ i₂) : commits c i₁ = commits c i₂ := by
  obtain ⟨_, h2, h3, _⟩ := h
  unfold commits
  rw [h2, h3]

theorem nextBit_agree {s₁ s₂ : St} {i₁ i₂ : In} (hb : s₁.bit k = s₂.bit k) (hre : s₁.re = s₂.re)
    (h : AgreeOn c k i₁ i₂) : nextBit c s₁ i₁ k = nextBit c s₂ i₂ k := by
  unfold nextBit eventBit St.clear
  rw [wrBit_agree h, wrBit_agree h, hb, hre, h.1]

/-- Two input traces of the same length that agree, cycle by cycle, on everything that concerns source `k`. -/
def AgreeTraces (c : Cfg) (k : Nat) : List In → List In → Prop
  | [], [] => True
  | a :: as, b :: bs => AgreeOn c k a b ∧ AgreeTraces c k as bs
  | _, _ => False

theorem runFrom_agree (hk : k < c.n) :
    ∀ (ins₁ ins₂ : List In) (s₁ s₂ : St), AgreeTraces c k ins₁ ins₂ →
      s₁.bit k = s₂.bit k → s₁.re = s₂.re →
      ((evMgr c).runFrom s₁ ins₁).bit k = ((evMgr c).runFrom s₂ ins₂).bit k ∧
      ((evMgr c).runFrom s₁ ins₁).re = ((evMgr c).runFrom s₂ ins₂).re := by
  intro ins₁
  induction ins₁ with
  | nil =>
    intro ins₂ s₁ s₂ h hb hre
    cases ins₂ with
    | nil => exact ⟨hb, hre⟩
    | cons _ _ => simp [AgreeTraces] at h
  | cons a as ih =>
    intro ins₂ s₁ s₂ h hb hre
    cases ins₂ with
    | nil => simp [AgreeTraces] at h
    | cons b bs =>
      obtain ⟨hi, hrest⟩ := h
      simp only [Machine.runFrom]
      apply ih bs _ _ hrest
      · rw [next_bit _ _ hk, next_bit _ _ hk]; exact nextBit_agree hb hre hi
      · rw [next_re, next_re]; exact commits_agree hi

theorem sharedOuts_eq_zipWith : ∀ (cs : List Cfg) (ss : List St) (is : List In),
    sharedOuts cs ss is = List.zipWith (fun (p : Cfg × St) i => (evMgr p.1).out p.2 i) (cs.zip ss) is
  | [], _, _ => rfl
  | _ :: _, [], _ => rfl
  | _ :: _, _ :: _, [] => rfl
  | _ :: cs, _ :: ss, _ :: is => congrArg (_ :: ·) (sharedOuts_eq_zipWith cs ss is)

theorem sharedNext_eq_zipWith : ∀ (cs : List Cfg) (ss : List St) (is : List In),
    sharedNext cs ss is = List.zipWith (fun (p : Cfg × St) i => (evMgr p.1).next p.2 i) (cs.zip ss) is
  | [], _, _ => rfl
  | _ :: _, [], _ => rfl
  | _ :: _, _ :: _, [] => rfl
  | _ :: cs, _ :: ss, _ :: is => congrArg (_ :: ·) (sharedNext_eq_zipWith cs ss is)

section lookup
variable {cs : List Cfg} {ss : List St} {is : List In} {j : Nat} {s : St} {i : In}

theorem sharedOuts_getElem? (hc : cs[j]? = some c) (hs : ss[j]? = some s) (hi : is[j]? = some i) :
    (sharedOuts cs ss is)[j]? = some ((evMgr c).out s i) := by
  rw [sharedOuts_eq_zipWith]
  exact List.getElem?_zipWith_eq_some.mpr ⟨(c, s), i, List.getElem?_zip_eq_some.mpr ⟨hc, hs⟩, hi, rfl⟩

theorem sharedNext_getElem? (hc : cs[j]? = some c) (hs : ss[j]? = some s) (hi : is[j]? = some i) :
    (sharedNext cs ss is)[j]? = some ((evMgr c).next s i) := by
  rw [sharedNext_eq_zipWith]
  exact List.getElem?_zipWith_eq_some.mpr ⟨(c, s), i, List.getElem?_zip_eq_some.mpr ⟨hc, hs⟩, hi, rfl⟩

end lookup

theorem sharedOuts_getElem (cs : List Cfg) (ss : List St) (is : List In) (j : Nat) (hc : j < cs.length)
    (hs : j < ss.length) (hi : j < is.length) (h : j < (sharedOuts cs ss is).length) :
    (sharedOuts cs ss is)[j] = (evMgr cs[j]).out ss[j] is[j] := by
  simp only [sharedOuts_eq_zipWith, List.getElem_zipWith, List.getElem_zip]

theorem sharedOuts_length (cs : List Cfg) (ss : List St) (is : List In) (hs : ss.length = cs.length)
    (hi : is.length = cs.length) : (sharedOuts cs ss is).length = cs.length := by
  rw [sharedOuts_eq_zipWith, List.length_zipWith, List.length_zip, hs, hi, Nat.min_self, Nat.min_self]

theorem sharedNext_length (cs : List Cfg) (ss : List St) (is : List In) (hs : ss.length = cs.length)
    (hi : is.length = cs.length) : (sharedNext cs ss is).length = cs.length := by
  rw [sharedNext_eq_zipWith, List.length_zipWith, List.length_zip, hs, hi, Nat.min_self, Nat.min_self]

theorem shared_runFrom_length (cs : List Cfg) :
    ∀ (ins : List (List In)) (ss : List St), ss.length = cs.length → (∀ v ∈ ins, v.length = cs.length) →
      ((shared cs).runFrom ss ins).length = cs.length
  | [], _, hs, _ => hs
  | v :: vs, ss, hs, hwf =>
    shared_runFrom_length cs vs _ (sharedNext_length cs ss v hs (hwf v List.mem_cons_self))
      fun w hw => hwf w (List.mem_cons_of_mem _ hw)

theorem shared_runFrom_getElem? (cs : List Cfg) {j : Nat} {c : Cfg} (hc : cs[j]? = some c) :
    ∀ (ins : List (List In)) (ss : List St) (s : St), ss[j]? = some s → (∀ v ∈ ins, j < v.length) →
      ((shared cs).runFrom ss ins)[j]? = some ((evMgr c).runFrom s (ins.map fun v => v.getD j In.idle))
  | [], _, _, hs, _ => hs
  | v :: vs, ss, s, hs, hwf => by
    have hv : v[j]? = some (v.getD j In.idle) := by
      rw [List.getD_eq_getElem?_getD, List.getElem?_eq_getElem (hwf v List.mem_cons_self)]
      rfl
    exact shared_runFrom_getElem? cs hc vs _ _ (sharedNext_getElem? hc hs hv) fun w hw =>
      hwf w (List.mem_cons_of_mem _ hw)

end Litex.Event
