import LitexModel.Event.SocIrq
import LitexProofs.Event.Bus
/-
  The SoC interrupt vector: the number one `irq.add` request gets is free and below `n_locs`
  (`irqAdd_spec`; `C15.irq_numbers_distinct` is the induction over a request sequence); with distinct numbers bit
  `locs[j]` of `cpu.interrupt` is exactly the `irq` of manager `j` and every other bit is 0.
-/
namespace Litex.Event
open Litex

theorem firstFree_eq_some {nl : Nat} {used : List Nat} {n : Nat} :
    firstFree nl used = some n ↔ n ∉ used ∧ n < nl ∧ ∀ m, m < n → m ∈ used := by
  simp [firstFree, List.find?_range_eq_some]

theorem irqAdd_spec {nl : Nat} {used : List Nat} {r : Option Nat} {n : Nat} (h : irqAdd nl used r = some n) :
    n < nl ∧ n ∉ used ∧ (∀ m, r = some m → n = m) := by
  cases r with
  | none =>
    obtain ⟨h1, h2, _⟩ := firstFree_eq_some.mp h
    exact ⟨h2, h1, fun m hm => nomatch hm⟩
  | some m =>
    simp only [irqAdd] at h
    split at h
    · cases h
    · rename_i hc
      cases h
      simp only [Bool.or_eq_true, decide_eq_true_eq, not_or] at hc
      refine ⟨Nat.lt_of_not_le hc.2, ?_, fun m' hm => by cases hm; rfl⟩
      simpa using hc.1

/-- `alloc` hands out the LOWEST free number. -/
theorem irqAdd_alloc_least {nl : Nat} {used : List Nat} {n : Nat} (h : irqAdd nl used none = some n) :
    ∀ m, m < n → m ∈ used :=
  (firstFree_eq_some.mp h).2.2

variable {locs : List Nat} {irqs : List Bool}

theorem cpuInterruptBit_nodup (hnd : locs.Nodup) {j l : Nat} {q : Bool}
    (hl : locs[j]? = some l) (hq : irqs[j]? = some q) : cpuInterruptBit locs irqs l = q := by
  unfold cpuInterruptBit
  cases hf : (locs.zip irqs).reverse.find? (fun p => p.1 == l) with
  | none =>
    have hmem : (l, q) ∈ locs.zip irqs := List.mem_of_getElem? (List.getElem?_zip_eq_some.mpr ⟨hl, hq⟩)
    have := List.find?_eq_none.mp hf (l, q) (List.mem_reverse.mpr hmem)
    simp at this
  | some p =>
    -- the pair found sits at some index `i` with `locs[i] = l`; the numbers are distinct, so `i = j`
    have h1 : p.1 = l := by simpa using List.find?_some hf
    obtain ⟨i, hi⟩ := List.mem_iff_getElem?.mp (List.mem_reverse.mp (List.mem_of_find?_eq_some hf))
    obtain ⟨hi1, hi2⟩ := List.getElem?_zip_eq_some.mp hi
    obtain ⟨hlt, _⟩ := List.getElem?_eq_some_iff.mp hi1
    obtain rfl : i = j := (List.getElem?_inj hlt hnd).mp (by rw [hi1, hl, h1])
    exact Option.some.inj (hi2.symm.trans hq)

theorem cpuInterruptBit_unused {b : Nat} (hb : b ∉ locs) :
    cpuInterruptBit locs irqs b = false := by
  unfold cpuInterruptBit
  cases hf : (locs.zip irqs).reverse.find? (fun p => p.1 == b) with
  | none => rfl
  | some p =>
    have h1 := List.find?_some hf
    have h2 : p ∈ locs.zip irqs := by simpa using List.mem_of_find?_eq_some hf
    have : p.1 ∈ locs := (List.of_mem_zip (a := p.1) (b := p.2) h2).1
    have hpb : p.1 = b := by simpa using h1
    exact absurd (hpb ▸ this) hb

theorem cpuInterrupt_getD {width b : Nat} (hb : b < width) :
    (cpuInterrupt width locs irqs).getD b false = cpuInterruptBit locs irqs b := by
  simp [cpuInterrupt, List.getD_eq_getElem?_getD, hb]

theorem socIrq_runFrom (width : Nat) (locs : List Nat) (cs : List Cfg) :
    ∀ (ins : List (List In)) (ss : List St), (socIrq width locs cs).runFrom ss ins = (shared cs).runFrom ss ins
  | [], _ => rfl
  | i :: is, ss => socIrq_runFrom width locs cs is ((shared cs).next ss i)

theorem socIrq_out_getD {width : Nat} {cs : List Cfg} {ss : List St} {is : List In} {j l : Nat}
    {c : Cfg} {s : St} {i : In} (hnd : locs.Nodup) (hl : locs[j]? = some l) (hw : l < width)
    (hc : cs[j]? = some c) (hs : ss[j]? = some s) (hi : is[j]? = some i) :
    ((socIrq width locs cs).out ss is).1.getD l false = irqOf c s i := by
  show (cpuInterrupt width locs ((sharedOuts cs ss is).map (·.irq))).getD l false = _
  rw [cpuInterrupt_getD hw]
  refine cpuInterruptBit_nodup hnd hl ?_
  rw [List.getElem?_map, sharedOuts_getElem? hc hs hi]
  rfl

theorem socIrq_run_take (width : Nat) (locs : List Nat) (cs : List Cfg) {j : Nat} (hj : j < cs.length)
    (ins : List (List In)) (hwf : ∀ v ∈ ins, j < v.length) (T : Nat) :
    ((socIrq width locs cs).run (ins.take T))[j]? = some (stAt cs[j] (ins.map fun v => v.getD j In.idle) T) := by
  unfold stAt Machine.run
  rw [← List.map_take, socIrq_runFrom]
  refine shared_runFrom_getElem? cs (List.getElem?_eq_getElem hj) _ _ _ ?_ fun v hv =>
    hwf v (List.mem_of_mem_take hv)
  show (cs.map fun c => (evMgr c).init)[j]? = _
  rw [List.getElem?_map, List.getElem?_eq_getElem hj]
  rfl

theorem socIrq_inAt {ins : List (List In)} {j T : Nat} (hT : T < ins.length) (hj : j < ins[T].length) :
    (ins.getD T [])[j]? = some (inAt (ins.map fun v => v.getD j In.idle) T) := by
  simp [inAt, List.getD_eq_getElem?_getD, hT, hj]

end Litex.Event
