import LitexProofs.Event.Bus
/-
  C15 — software access disciplines for a `pending` register that spans several bus words.

  `pending.r` keeps, per word, the last value written ("stale words"); a write of the committing word applies
  `pending.r[k]` as the clear of EVERY source `k`, also of those in words this write did not touch.  A *transaction*
  is the run of bus cycles after the previous commit up to and including the next commit.  `SafeCommit` is exactly the
  safe discipline: sufficient (`C15.clear_under_discipline`, `C15.event_not_lost_until_acked_any_width`) and necessary
  (`stale_commit_spurious_clear`, `C15.stale_commit_drops_pending`; `C15.discipline_exact` is the equivalence).
-/
namespace Litex.Event
open Litex

variable {c : Cfg} {ins : List In} {t k : Nat}

/-- The most recent value written to bit position `k` of `pending` within the transaction that ends at cycle
    `t`: cycles `t, t-1, …` down to (not including) the most recent cycle `p < t` that wrote the committing word.
    `none` = this transaction has not written the word holding `k`. -/
def freshWr (c : Cfg) (ins : List In) : Nat → Nat → Option Bool
  | 0, k => wrBit c (inAt ins 0) .pending k
  | t + 1, k => (wrBit c (inAt ins (t + 1)) .pending k).orElse fun _ =>
      if commits c (inAt ins t) then none else freshWr c ins t k

/-- "Fresh or zero": every one that the commit of cycle `t` applies was written in this transaction. -/
def SafeCommit (c : Cfg) (ins : List In) (t : Nat) : Prop :=
  commits c (inAt ins t) = true →
    ∀ k, k < c.n → (lastWr c ins .pending (t + 1) k).getD false = true → freshWr c ins t k = some true

def Disciplined (c : Cfg) (ins : List In) : Prop := ∀ t, t < ins.length → SafeCommit c ins t

/-- Every transaction writes every word of `pending` (what the generated `*_ev_pending_write` accessors do). -/
def WholeRegister (c : Cfg) (ins : List In) : Prop :=
  ∀ t, t < ins.length → commits c (inAt ins t) = true → ∀ k, k < c.n → freshWr c ins t k ≠ none

theorem freshWr_of_wr {b : Bool} (h : wrBit c (inAt ins t) .pending k = some b) : freshWr c ins t k = some b := by
  cases t with
  | zero => exact h
  | succ t => rw [freshWr, h]; rfl

theorem freshWr_eq_lastWr_of_some {b : Bool} :
    ∀ t, freshWr c ins t k = some b → lastWr c ins .pending (t + 1) k = some b := by
  intro t
  induction t with
  | zero => intro h; rw [lastWr, show wrBit c (inAt ins 0) .pending k = some b from h]; rfl
  | succ t ih =>
    intro h
    rw [freshWr] at h
    rw [lastWr]
    cases hw : wrBit c (inAt ins (t + 1)) .pending k with
    | some x => rw [hw] at h; exact h
    | none =>
      -- nothing written in cycle `t+1`: the value is fresh only if cycle `t` did not commit
      rw [hw] at h
      cases hc : commits c (inAt ins t) with
      | true => rw [hc] at h; simp at h
      | false => rw [hc] at h; exact ih h

theorem clear_eq_commit_lastWr (hk : k < c.n) (ht : t < ins.length) :
    clearAt c ins (t + 1) k = (commits c (inAt ins t) && (lastWr c ins .pending (t + 1) k).getD false) := by
  rw [clear_succ ht, r_eq_lastWr hk (t + 1) ht]

theorem wholeRegister_disciplined (h : WholeRegister c ins) : Disciplined c ins := by
  intro t ht hc k hk hl
  cases hf : freshWr c ins t k with
  | none => exact absurd hf (h t ht hc k hk)
  | some b =>
    rw [freshWr_eq_lastWr_of_some t hf] at hl
    exact congrArg some hl

/-! Necessity: a commit that is not safe clears what nobody asked for. -/

theorem stale_commit_spurious_clear (hk : k < c.n) (ht : t < ins.length)
    (hc : commits c (inAt ins t) = true) (hl : (lastWr c ins .pending (t + 1) k).getD false = true)
    (hf : freshWr c ins t k ≠ some true) :
    clearAt c ins (t + 1) k = true ∧ freshWr c ins t k ≠ some true := by
  refine ⟨?_, hf⟩
  rw [clear_eq_commit_lastWr hk ht, hc, hl]
  rfl

def dWr (adr dat : Nat) (trig : List Bool := []) : In := { trig := trig, adr := adr, we := true, datW := dat }
def dIdle (trig : List Bool := []) : In := { trig := trig, adr := 99, we := false, datW := 0 }

/-- Three sources on a 2-bit bus (`pending` = words [bits 0,1] and [bit 2]); a whole-register write of 0b101 (word 1
    first, then the committing word 0): at the commit every position is fresh, the clear is the fresh value, and
    only the acknowledged sources stop pending. -/
example :
    let c : Cfg := { kinds := [.pulse, .rising, .pulse], bw := 2, little := false }
    let ins := [dIdle [true, true, true], dWr 2 0b1, dWr 3 0b01, dIdle, dIdle]
    commits c (inAt ins 2) = true ∧ commits c (inAt ins 1) = false ∧
    (List.range 3).map (freshWr c ins 2) = [some true, some false, some true] ∧
    (List.range 3).map (freshWr c ins 1) = [none, none, some true] ∧
    (List.range 3).map (clearAt c ins 3) = [true, false, true] ∧
    (List.range 3).map (pendingAt c ins 3) = [true, true, true] ∧
    (List.range 3).map (pendingAt c ins 4) = [false, true, false] := by decide

/-- The stale-word witness (two sources on a 1-bit bus): the whole-register write in cycles 1–2 leaves a one in word
    1 of `pending.r`; the commit of cycle 5 writes word 0 alone (`freshWr … 1 = none`), is not safe, and clears the
    new event of source 1. -/
example :
    let c : Cfg := { kinds := [.pulse, .pulse], bw := 1, little := false }
    let ins := [dIdle [false, true], dWr 2 1, dWr 3 0, dIdle, dIdle [true, true], dWr 3 1, dIdle, dIdle]
    commits c (inAt ins 5) = true ∧ freshWr c ins 5 1 = none ∧ clearAt c ins 6 1 = true ∧
    pendingAt c ins 6 1 = true ∧ pendingAt c ins 7 1 = false := by decide

/-- The same trace is therefore not `Disciplined`, while its first transaction (commit in cycle 2) is safe at
    position 1: the hypotheses of `C15.stale_commit_drops_pending` are satisfiable and `SafeCommit` is not trivial. -/
example :
    let c : Cfg := { kinds := [.pulse, .pulse], bw := 1, little := false }
    let ins := [dIdle [false, true], dWr 2 1, dWr 3 0, dIdle, dIdle [true, true], dWr 3 1, dIdle, dIdle]
    (lastWr c ins .pending 6 1).getD false = true ∧ freshWr c ins 5 1 ≠ some true ∧
    eventAt c ins 6 1 = false ∧ c.kind 1 ≠ .level ∧
    commits c (inAt ins 2) = true ∧ freshWr c ins 2 1 = some true ∧ freshWr c ins 2 0 = some false := by decide

example :
    let c : Cfg := { kinds := [.pulse, .pulse], bw := 1, little := false }
    let ins := [dIdle [false, true], dWr 2 1, dWr 3 0, dIdle, dIdle [true, true], dWr 3 1, dIdle, dIdle]
    ¬ Disciplined c ins := by
  intro c ins h
  have h5 := h 5 (by decide) (by decide) 1 (by decide) (by decide)
  revert h5
  decide

/-- Non-vacuity of `wholeRegister_disciplined`: a trace of two whole-register transactions (three sources, two
    words) satisfies `WholeRegister`, hence is `Disciplined`. -/
example :
    let c : Cfg := { kinds := [.pulse, .rising, .pulse], bw := 2, little := false }
    let ins := [dIdle [true, true, true], dWr 2 0b1, dWr 3 0b01, dIdle, dWr 2 0, dWr 3 0b10, dIdle]
    WholeRegister c ins ∧ Disciplined c ins := by
  intro c ins
  have h : WholeRegister c ins := by unfold WholeRegister; decide
  exact ⟨h, wholeRegister_disciplined h⟩

end Litex.Event
