import LitexModel.Event.Core
import LitexProofs.Machine
import LitexProofs.Lists
/-
  The vocabulary in which the statements of C15 are written: the signals of `evMgr` in cycle `t` of a run over an input
  trace (`stAt`, `inAt`, `trigAt`, `eventAt`, `clearAt`, `pendingAt`, `enableAt` …) and `lastWr`, the value the bus last wrote
  to a bit position.  With them the per-source step equations and the closed form of `pending` over an arbitrary trace
  (`pendReg_iff`).
-/
namespace Litex.Event
open Litex

/-- The idle input (nothing triggered, nothing written; `adr` is irrelevant without `we`).  It only stands for the
    input beyond the end of a trace. -/
def In.idle : In := { trig := [], adr := 0, we := false, datW := 0 }

/-! Indexing convention of every `…At` below: cycle `t` of the run over `ins` is the state after the first `t` inputs
    (`stAt`) together with the input `ins.getD t idle` (`inAt`).  What reads registers only (`stAt`, `clearAt`, `pendRegAt`,
    `enableAt`, `rAt`, `datRAt`) is meaningful for `t ≤ ins.length`; what also reads the input of the cycle (`trigAt`,
    `eventAt`, `pendingAt` of a level source, `irqAt`, `statusAt`) and every step lemma `…_succ` needs `t < ins.length`. -/

def stAt (c : Cfg) (ins : List In) (t : Nat) : St := (evMgr c).run (ins.take t)
def inAt (ins : List In) (t : Nat) : In := ins.getD t In.idle

def trigAt (ins : List In) (t k : Nat) : Bool := (inAt ins t).trigOf k
/-- 0 before the first cycle: the reset value of `trigger_d`. -/
def prevTrig (ins : List In) : Nat → Nat → Bool
  | 0, _ => false
  | t + 1, k => trigAt ins t k
/-- Event of source `k` in cycle `t`, defined on the trigger waveform alone. -/
def eventAt (c : Cfg) (ins : List In) (t k : Nat) : Bool := (c.kind k).event (prevTrig ins t k) (trigAt ins t k)
/-- `source.clear` of source `k` in cycle `t`. -/
def clearAt (c : Cfg) (ins : List In) (t k : Nat) : Bool := (stAt c ins t).clear k
/-- The source's `pending` register in cycle `t` (pulse and process sources). -/
def pendRegAt (c : Cfg) (ins : List In) (t k : Nat) : Bool := ((stAt c ins t).bit k).pending
/-- `source.pending` = bit `k` of the `pending` CSR in cycle `t`. -/
def pendingAt (c : Cfg) (ins : List In) (t k : Nat) : Bool := pendingVis c (stAt c ins t) (inAt ins t) k
def enableAt (c : Cfg) (ins : List In) (t k : Nat) : Bool := ((stAt c ins t).bit k).en
def rAt (c : Cfg) (ins : List In) (t k : Nat) : Bool := ((stAt c ins t).bit k).r
def irqAt (c : Cfg) (ins : List In) (t : Nat) : Bool := irqOf c (stAt c ins t) (inAt ins t)
def statusAt (c : Cfg) (ins : List In) (t k : Nat) : Bool := statusBit c (inAt ins t) k
def datRAt (c : Cfg) (ins : List In) (t : Nat) : Nat := (stAt c ins t).datR

variable {c : Cfg} {ins : List In} {t k : Nat}

theorem stAt_zero : stAt c ins 0 = (evMgr c).init := rfl

theorem stAt_succ (h : t < ins.length) :
    stAt c ins (t + 1) = (evMgr c).next (stAt c ins t) (inAt ins t) :=
  Machine.run_take_succ (evMgr c) In.idle ins h

theorem stAt_length : stAt c ins ins.length = (evMgr c).run ins := by simp [stAt]

theorem init_bit (k : Nat) : ((evMgr c).init).bit k = Bit.zero := by
  unfold St.bit evMgr
  by_cases hk : k < c.n <;> simp [List.getD_eq_getElem?_getD, hk]

theorem next_bit (s : St) (i : In) (hk : k < c.n) : (((evMgr c).next s i).bit k) = nextBit c s i k :=
  getD_range_map_of_lt _ _ hk

theorem next_re (s : St) (i : In) : ((evMgr c).next s i).re = commits c i := rfl
theorem next_datR (s : St) (i : In) : ((evMgr c).next s i).datR = readWord c s i := rfl

theorem bit_succ (hk : k < c.n) (ht : t < ins.length) :
    (stAt c ins (t + 1)).bit k = nextBit c (stAt c ins t) (inAt ins t) k := by
  rw [stAt_succ ht, next_bit _ _ hk]

theorem trigD_eq (hk : k < c.n) (ht : t ≤ ins.length)
    (hkind : c.kind k = .rising ∨ c.kind k = .falling) :
    ((stAt c ins t).bit k).trigD = prevTrig ins t k := by
  cases t with
  | zero => exact congrArg Bit.trigD (init_bit k)
  | succ t =>
    rw [bit_succ hk ht]
    show (c.kind k).trigDNext _ = _
    rcases hkind with h | h <;> rw [h] <;> rfl

theorem eventBit_eq (hk : k < c.n) (ht : t ≤ ins.length) :
    eventBit c (stAt c ins t) (inAt ins t) k = eventAt c ins t k := by
  unfold eventBit eventAt
  cases hkind : c.kind k with
  | pulse => rfl
  | level => rfl
  | rising => rw [trigD_eq hk ht (Or.inl hkind)]; rfl
  | falling => rw [trigD_eq hk ht (Or.inr hkind)]; rfl

theorem pendReg_zero : pendRegAt c ins 0 k = false := congrArg Bit.pending (init_bit k)

theorem pendReg_succ (hk : k < c.n) (ht : t < ins.length) :
    pendRegAt c ins (t + 1) k =
      (c.kind k).pendingNext (pendRegAt c ins t k) (clearAt c ins t k) (eventAt c ins t k) := by
  unfold pendRegAt
  rw [bit_succ hk ht, ← eventBit_eq hk (Nat.le_of_lt ht)]
  rfl

theorem pendingNext_of_ne_level {kd : Kind} (h : kd ≠ .level) (p cl ev : Bool) :
    kd.pendingNext p cl ev = ((p && !cl) || ev) := by
  have : kd.pendingNext p cl ev = if ev then true else if cl then false else p := by
    cases kd <;> first | rfl | exact absurd rfl h
  rw [this]
  cases ev <;> cases cl <;> simp

theorem pendingAt_of_ne_level (h : c.kind k ≠ .level) : pendingAt c ins t k = pendRegAt c ins t k := by
  unfold pendingAt pendRegAt pendingVis
  cases hkd : c.kind k <;> first | rfl | exact absurd hkd h

theorem clear_zero : clearAt c ins 0 k = false := rfl

theorem r_zero : rAt c ins 0 k = false := congrArg Bit.r (init_bit k)

theorem r_succ (hk : k < c.n) (ht : t < ins.length) :
    rAt c ins (t + 1) k = (wrBit c (inAt ins t) .pending k).getD (rAt c ins t k) :=
  congrArg Bit.r (bit_succ hk ht)

theorem enable_zero : enableAt c ins 0 k = false := congrArg Bit.en (init_bit k)

theorem enable_succ (hk : k < c.n) (ht : t < ins.length) :
    enableAt c ins (t + 1) k = (wrBit c (inAt ins t) .enable k).getD (enableAt c ins t k) :=
  congrArg Bit.en (bit_succ hk ht)

theorem clear_succ (ht : t < ins.length) :
    clearAt c ins (t + 1) k = (commits c (inAt ins t) && rAt c ins (t + 1) k) := by
  unfold clearAt St.clear rAt
  rw [stAt_succ ht, next_re]

theorem pendReg_iff (hk : k < c.n) (hkind : c.kind k ≠ .level) :
    ∀ T, T ≤ ins.length →
      (pendRegAt c ins T k = true ↔
        ∃ u, u < T ∧ eventAt c ins u k = true ∧ ∀ v, u < v → v < T → clearAt c ins v k = false) := by
  intro T
  induction T with
  | zero => intro _; simp [pendReg_zero]
  | succ T ih =>
    intro hT
    rw [pendReg_succ hk hT, pendingNext_of_ne_level hkind, Bool.or_eq_true, Bool.and_eq_true,
      Bool.not_eq_true', ih (Nat.le_of_succ_le hT)]
    constructor
    · rintro (⟨⟨u, hu, heu, hcl⟩, hc⟩ | hev)
      · refine ⟨u, Nat.lt_succ_of_lt hu, heu, fun v h1 h2 => ?_⟩
        rcases Nat.lt_succ_iff_lt_or_eq.mp h2 with h | rfl
        · exact hcl v h1 h
        · exact hc
      · exact ⟨T, Nat.lt_succ_self T, hev, fun v h1 h2 => absurd h1 (Nat.not_lt.mpr (Nat.le_of_lt_succ h2))⟩
    · rintro ⟨u, hu, heu, hcl⟩
      rcases Nat.lt_succ_iff_lt_or_eq.mp hu with h | rfl
      · exact Or.inl ⟨⟨u, h, heu, fun v h1 h2 => hcl v h1 (Nat.lt_succ_of_lt h2)⟩, hcl T h (Nat.lt_succ_self T)⟩
      · exact Or.inr heu

theorem ne_level_of_rising (h : c.kind k = .rising) : c.kind k ≠ .level := by rw [h]; decide

theorem pending_succ_of_event (hk : k < c.n) (hkind : c.kind k ≠ .level) (ht : t < ins.length)
    (hev : eventAt c ins t k = true) : pendingAt c ins (t + 1) k = true := by
  rw [pendingAt_of_ne_level hkind, pendReg_succ hk ht, pendingNext_of_ne_level hkind, hev, Bool.or_true]

theorem rising_edge_event (hkind : c.kind k = .rising) (h0 : trigAt ins t k = false)
    (h1 : trigAt ins (t + 1) k = true) : eventAt c ins (t + 1) k = true := by
  unfold eventAt
  rw [hkind]
  show (trigAt ins (t + 1) k && !trigAt ins t k) = true
  rw [h0, h1]
  rfl

theorem rising_edge_pending (hk : k < c.n) (hkind : c.kind k = .rising) (ht : t + 1 < ins.length)
    (h0 : trigAt ins t k = false) (h1 : trigAt ins (t + 1) k = true) : pendingAt c ins (t + 2) k = true :=
  pending_succ_of_event hk (ne_level_of_rising hkind) ht (rising_edge_event hkind h0 h1)

theorem irqOf_iff (s : St) (i : In) :
    irqOf c s i = true ↔ ∃ k, k < c.n ∧ pendingVis c s i k = true ∧ (s.bit k).en = true := by
  simp [irqOf, List.any_eq_true]

/-- Most recent value the bus wrote to bit `k` of register `reg` strictly before cycle `t`. -/
def lastWr (c : Cfg) (ins : List In) (reg : Reg) : Nat → Nat → Option Bool
  | 0, _ => none
  | t + 1, k => (wrBit c (inAt ins t) reg k).orElse fun _ => lastWr c ins reg t k

theorem eq_lastWr_of_step {reg : Reg} {x : Nat → Bool} (h0 : x 0 = false)
    (hs : ∀ t, t < ins.length → x (t + 1) = (wrBit c (inAt ins t) reg k).getD (x t)) :
    ∀ t, t ≤ ins.length → x t = (lastWr c ins reg t k).getD false := by
  intro t
  induction t with
  | zero => intro _; exact h0
  | succ t ih =>
    intro ht
    rw [hs t ht, ih (Nat.le_of_succ_le ht), lastWr]
    cases wrBit c (inAt ins t) reg k <;> rfl

theorem lastWr_of_wr {reg : Reg} {u t : Nat} {b : Bool} (hut : u ≤ t) (hwr : wrBit c (inAt ins u) reg k = some b)
    (hnone : ∀ v, u < v → v ≤ t → wrBit c (inAt ins v) reg k = none) :
    lastWr c ins reg (t + 1) k = some b := by
  obtain ⟨d, rfl⟩ := Nat.exists_eq_add_of_le hut
  induction d with
  | zero => rw [Nat.add_zero, lastWr, hwr]; rfl
  | succ d ih =>
    rw [← Nat.add_assoc] at hnone ⊢
    rw [lastWr, hnone (u + d + 1) (Nat.lt_succ_of_le (Nat.le_add_right u d)) (Nat.le_refl _)]
    exact ih (Nat.le_add_right u d) fun v h1 h2 => hnone v h1 (Nat.le_succ_of_le h2)

theorem r_eq_lastWr (hk : k < c.n) : ∀ t, t ≤ ins.length → rAt c ins t k = (lastWr c ins .pending t k).getD false :=
  eq_lastWr_of_step (x := fun t => rAt c ins t k) r_zero fun _ ht => r_succ hk ht

end Litex.Event
