import LitexModel.RoundRobin
/-
  Migen's round-robin next-grant function (`LitexModel/RoundRobin.lean`), both switch policies; shared by C04, C06,
  C08, C11, C16.  `scan_spec` + `dist_advance` give `switch_dist_lt`; `next_eq` reduces `next` to `switch` guarded by
  `enabled`; `step_le` (a grant change is paid for by the distance) and `handover_le` (so is an enabled cycle while
  somebody else owns the grant) are the per-cycle inequalities that `run_count_le` sums into the four run bounds.
-/
namespace Litex.RoundRobin

/-- What the `If(request[t], grant.eq(t)).Else(…)` chain computes: the grant stays and none of the candidates
    `k … k+fuel-1` requests, or it goes to the first candidate `j` that does. -/
theorem scan_spec (n g : Nat) (req : Nat → Bool) : ∀ fuel k,
    (scan n g req fuel k = g ∧ ∀ j, k ≤ j → j < k + fuel → req ((g + j) % n) = false) ∨
    (∃ j, k ≤ j ∧ j < k + fuel ∧ scan n g req fuel k = (g + j) % n ∧ req ((g + j) % n) = true ∧
        ∀ j', k ≤ j' → j' < j → req ((g + j') % n) = false) := by
  intro fuel
  induction fuel with
  | zero => intro k; left; exact ⟨rfl, fun j h1 h2 => by omega⟩
  | succ f ih =>
    intro k
    unfold scan
    by_cases hr : req ((g + k) % n) = true
    · right
      refine ⟨k, Nat.le_refl _, by omega, by simp [hr], hr, fun j' h1 h2 => by omega⟩
    · have hr' : req ((g + k) % n) = false := by simpa using hr
      simp only [hr', Bool.false_eq_true, if_false]
      rcases ih (k + 1) with ⟨h1, h2⟩ | ⟨j, hj1, hj2, hj3, hj4, hj5⟩
      · left
        refine ⟨h1, fun j hj1 hj2 => ?_⟩
        by_cases hjk : j = k
        · subst hjk; exact hr'
        · exact h2 j (by omega) (by omega)
      · right
        refine ⟨j, by omega, by omega, hj3, hj4, fun j' h1 h2 => ?_⟩
        by_cases hjk : j' = k
        · subst hjk; exact hr'
        · exact hj5 j' (by omega) h2

theorem dist_lt (n g i : Nat) (hn : 0 < n) : dist n g i < n := Nat.mod_lt _ hn

theorem dist_self (n g : Nat) (hg : g < n) : dist n g g = 0 := by
  unfold dist
  have : g + n - g = n := by omega
  rw [this, Nat.mod_self]

theorem add_dist_mod {n g i : Nat} (hg : g < n) (hi : i < n) : (g + dist n g i) % n = i := by
  unfold dist
  rw [Nat.add_mod_mod, show g + (i + n - g) = i + n by omega, Nat.add_mod_right, Nat.mod_eq_of_lt hi]

theorem dist_add_mod {n g d : Nat} (hg : g < n) (hd : d < n) : dist n g ((g + d) % n) = d := by
  unfold dist
  by_cases h : g + d < n
  · rw [Nat.mod_eq_of_lt h, show g + d + n - g = d + n by omega, Nat.add_mod_right, Nat.mod_eq_of_lt hd]
  · rw [Nat.mod_eq_sub_mod (Nat.le_of_not_lt h), Nat.mod_eq_of_lt (show g + d - n < n by omega),
      show g + d - n + n - g = d by omega, Nat.mod_eq_of_lt hd]

theorem dist_eq_zero {n g i : Nat} (hg : g < n) (hi : i < n) (h : dist n g i = 0) : g = i := by
  have := add_dist_mod hg hi
  rwa [h, Nat.add_zero, Nat.mod_eq_of_lt hg] at this

theorem dist_advance {n g i j : Nat} (hg : g < n) (hi : i < n) (hj : j ≤ dist n g i) :
    dist n ((g + j) % n) i = dist n g i - j := by
  have hn : 0 < n := by omega
  have hd := dist_lt n g i hn
  have h : ((g + j) % n + (dist n g i - j)) % n = i := by
    rw [Nat.mod_add_mod, show g + j + (dist n g i - j) = g + dist n g i by omega]
    exact add_dist_mod hg hi
  have := dist_add_mod (Nat.mod_lt (g + j) hn) (show dist n g i - j < n by omega)
  rwa [h] at this

theorem switch_lt {n g : Nat} (req : Nat → Bool) (hg : g < n) : switch n g req < n := by
  unfold switch
  rcases scan_spec n g req (n - 1) 1 with ⟨h, _⟩ | ⟨j, _, _, h, _⟩
  · rw [h]; exact hg
  · rw [h]; exact Nat.mod_lt _ (by omega)

theorem switch_req {n g : Nat} (req : Nat → Bool) (h : switch n g req ≠ g) : req (switch n g req) = true := by
  unfold switch at *
  rcases scan_spec n g req (n - 1) 1 with ⟨h1, _⟩ | ⟨j, _, _, h1, h2, _⟩
  · exact absurd h1 h
  · rw [h1]; exact h2

theorem switch_dist_lt {n g i : Nat} (req : Nat → Bool) (hg : g < n) (hi : i < n) (hne : i ≠ g)
    (hr : req i = true) : switch n g req ≠ g ∧ dist n (switch n g req) i < dist n g i := by
  have hd0 : dist n g i ≠ 0 := fun h => hne (dist_eq_zero hg hi h).symm
  have hdn : dist n g i < n := dist_lt n g i (by omega)
  have hgi := add_dist_mod hg hi
  unfold switch
  rcases scan_spec n g req (n - 1) 1 with ⟨_, h2⟩ | ⟨j, hj1, hj2, h1, _, h3⟩
  · have := h2 (dist n g i) (by omega) (by omega)
    rw [hgi, hr] at this
    exact absurd this (by simp)
  · have hjd : j ≤ dist n g i := by
      apply Nat.le_of_not_lt
      intro hlt
      have := h3 (dist n g i) (by omega) hlt
      rw [hgi, hr] at this
      exact absurd this (by simp)
    rw [h1]
    have hadv := dist_advance hg hi hjd
    refine ⟨fun h => ?_, by omega⟩
    rw [h] at hadv; omega

/-- Is the switch enabled in this cycle?  SP_WITHDRAW: the owner does not request; SP_CE: `ce`. -/
def enabled (p : Policy) (g : Nat) (req : Nat → Bool) (ce : Bool) : Bool :=
  match p with
  | .withdraw => !req g
  | .ce => ce

/-- For `n ≤ 1` the scan has no candidates, so `switch` is the old grant `0` and the equation holds there too. -/
theorem next_eq (p : Policy) {n g : Nat} (req : Nat → Bool) (ce : Bool) (hg : g < n) :
    next p n g req ce = if enabled p g req ce then switch n g req else g := by
  unfold next
  by_cases hn : n ≤ 1
  · obtain rfl : n = 1 := by omega
    obtain rfl : g = 0 := by omega
    rw [if_pos hn]; split <;> rfl
  · rw [if_neg hn, if_pos hg]
    cases p
    · show (if req g = true then g else switch n g req) = if (!req g) = true then switch n g req else g
      cases req g <;> rfl
    · rfl

theorem next_lt (p : Policy) {n g : Nat} (req : Nat → Bool) (ce : Bool) (hg : g < n) :
    next p n g req ce < n := by
  rw [next_eq p req ce hg]
  split
  · exact switch_lt req hg
  · exact hg

theorem next_withdraw_keep {n g : Nat} (req : Nat → Bool) (ce : Bool) (hg : g < n) (hr : req g = true) :
    next .withdraw n g req ce = g := by
  rw [next_eq _ req ce hg, if_neg (by simp [enabled, hr])]

theorem next_ce_hold {n g : Nat} (req : Nat → Bool) (hg : g < n) : next .ce n g req false = g := by
  rw [next_eq _ req false hg, if_neg (by simp [enabled])]

theorem next_change_req (p : Policy) {n g : Nat} (req : Nat → Bool) (ce : Bool) (hg : g < n)
    (h : next p n g req ce ≠ g) :
    req (next p n g req ce) = true ∧
    (match p with | .withdraw => req g = false | .ce => ce = true) := by
  rw [next_eq p req ce hg] at h ⊢
  by_cases hen : enabled p g req ce = true
  · rw [if_pos hen] at h ⊢
    refine ⟨switch_req req h, ?_⟩
    cases p
    · simpa [enabled] using hen
    · exact hen
  · rw [if_neg hen] at h; exact absurd rfl h

theorem next_ne_self_of_other_req (p : Policy) {n g i : Nat} (req : Nat → Bool) (ce : Bool)
    (hg : g < n) (hi : i < n) (hne : i ≠ g) (hr : req i = true) (hen : enabled p g req ce = true) :
    next p n g req ce ≠ g ∧ dist n (next p n g req ce) i < dist n g i := by
  rw [next_eq p req ce hg, if_pos hen]
  exact switch_dist_lt req hg hi hne hr

theorem dist_next_lt (p : Policy) {n g i : Nat} (req : Nat → Bool) (ce : Bool)
    (hg : g < n) (hi : i < n) (hne : i ≠ g) (hr : req i = true) (h : next p n g req ce ≠ g) :
    dist n (next p n g req ce) i < dist n g i := by
  have hen : enabled p g req ce = true := by
    rw [next_eq p req ce hg] at h
    by_cases hen : enabled p g req ce = true
    · exact hen
    · rw [if_neg hen] at h; exact absurd rfl h
  exact (next_ne_self_of_other_req p req ce hg hi hne hr hen).2

/-- One cycle in which port `i` requests and, if it owns the grant, keeps it: a grant change is paid for by the distance
    to `i`. -/
theorem step_le (p : Policy) {n g i : Nat} (req : Nat → Bool) (ce : Bool) (hg : g < n) (hi : i < n)
    (hr : req i = true) (hkeep : g = i → next p n g req ce = g) :
    (if next p n g req ce ≠ g then 1 else 0) + dist n (next p n g req ce) i ≤ dist n g i := by
  by_cases hch : next p n g req ce = g
  · rw [hch, if_neg (fun h => h rfl), Nat.zero_add]; exact Nat.le_refl _
  · have := dist_next_lt p req ce hg hi (fun h => hch (hkeep h.symm)) hr hch
    rw [if_pos hch]; omega

/-- The hand-over step: a cycle in which the switch is enabled while somebody other than the requesting port `i` owns the
    grant moves the grant, strictly closer to `i`; any other cycle does not move it away. -/
theorem handover_le (p : Policy) {n g i : Nat} (req : Nat → Bool) (ce : Bool) (hg : g < n) (hi : i < n)
    (hr : req i = true) (hkeep : g = i → next p n g req ce = g) :
    (if g ≠ i ∧ enabled p g req ce = true then 1 else 0) + dist n (next p n g req ce) i ≤ dist n g i := by
  have hstep := step_le p req ce hg hi hr hkeep
  by_cases hst : g ≠ i ∧ enabled p g req ce = true
  · rw [if_pos (next_ne_self_of_other_req p req ce hg hi (Ne.symm hst.1) hr hst.2).1] at hstep
    rw [if_pos hst]; exact hstep
  · rw [if_neg hst, Nat.zero_add]; exact Nat.le_trans (Nat.le_add_left _ _) hstep

/-- SP_WITHDRAW: number of cycles in which port `i` is not the owner and the owner does not request (so the bus is
    handed over in that cycle).  The list carries a `ce` as for SP_CE; this policy ignores it. -/
def stalls (n i : Nat) (g : Nat) : List ((Nat → Bool) × Bool) → Nat
  | [] => 0
  | (r, ce) :: rest =>
    (if g ≠ i ∧ r g = false then 1 else 0) + stalls n i (next .withdraw n g r ce) rest

/-- Port `i` has not been granted yet, in every cycle of the run. -/
def waiting (p : Policy) (n i : Nat) : Nat → List ((Nat → Bool) × Bool) → Prop
  | _, [] => True
  | g, (r, ce) :: rest => g ≠ i ∧ waiting p n i (next p n g r ce) rest

/-- SP_CE: number of cycles in which port `i` is not the owner and `ce` is asserted (the twin of `stalls`). -/
def ceStalls (n i : Nat) (g : Nat) : List ((Nat → Bool) × Bool) → Nat
  | [] => 0
  | (r, ce) :: rest => (if g ≠ i ∧ ce = true then 1 else 0) + ceStalls n i (next .ce n g r ce) rest

theorem run_lt (p : Policy) {n : Nat} : ∀ (l : List ((Nat → Bool) × Bool)) {g : Nat}, g < n → run p n g l < n
  | [], _, hg => hg
  | (r, ce) :: rest, _, hg => run_lt p rest (next_lt p r ce hg)

/-- `cnt` counts the cycles of a run that `ind` marks; `Ok` is what the run is assumed to satisfy from each of its cycles
    on (the remaining list, because `waiting` is a recursion over it). -/
theorem run_count_le (p : Policy) {n i : Nat} (cnt : Nat → List ((Nat → Bool) × Bool) → Nat)
    (ind : Nat → (Nat → Bool) → Bool → Nat) (Ok : Nat → List ((Nat → Bool) × Bool) → Prop)
    (hnil : ∀ g, cnt g [] = 0)
    (hcons : ∀ g r ce rest, cnt g ((r, ce) :: rest) = ind g r ce + cnt (next p n g r ce) rest)
    (hOk : ∀ g r ce rest, Ok g ((r, ce) :: rest) → Ok (next p n g r ce) rest)
    (hind : ∀ g r ce rest, g < n → r i = true → Ok g ((r, ce) :: rest) →
      ind g r ce + dist n (next p n g r ce) i ≤ dist n g i) :
    ∀ (l : List ((Nat → Bool) × Bool)) {g : Nat}, g < n → (∀ rc ∈ l, rc.1 i = true) → Ok g l →
      cnt g l + dist n (run p n g l) i ≤ dist n g i := by
  intro l
  induction l with
  | nil => intro g _ _ _; rw [hnil, Nat.zero_add]; exact Nat.le_refl _
  | cons rc rest ih =>
    intro g hg hreq hok
    obtain ⟨r, ce⟩ := rc
    have ih' := ih (next_lt p r ce hg) (fun rc h => hreq rc (List.mem_cons_of_mem _ h)) (hOk g r ce rest hok)
    have hstep := hind g r ce rest hg (hreq (r, ce) List.mem_cons_self) hok
    rw [hcons, Nat.add_assoc]
    exact Nat.le_trans (Nat.add_le_add_left ih' _) hstep

/-- SP_WITHDRAW: a port that keeps requesting is granted after at most `n-1` grant changes, whatever the other ports do. -/
theorem rr_bounded_wait {n i : Nat} (hi : i < n) :
    ∀ (l : List ((Nat → Bool) × Bool)) {g : Nat}, g < n → (∀ rc ∈ l, rc.1 i = true) →
      changes .withdraw n g l + dist n (run .withdraw n g l) i ≤ dist n g i ∧ dist n g i ≤ n - 1 :=
  fun l _ hg hreq =>
    ⟨run_count_le .withdraw (changes .withdraw n) (fun g r ce => if next .withdraw n g r ce ≠ g then 1 else 0)
      (fun _ _ => True) (fun _ => rfl) (fun _ _ _ _ => rfl) (fun _ _ _ _ _ => trivial)
      (fun _ r ce _ hg hri _ => step_le .withdraw r ce hg hi hri (fun h => next_withdraw_keep r ce hg (h ▸ hri)))
      l hg hreq trivial,
     Nat.le_sub_one_of_lt (dist_lt n _ i (by omega))⟩

/-- The same bound for the cycles in which `i` waits although the owner is not using the bus: each of them
    hands the bus over, so there are at most `n-1` of them before `i` is granted. -/
theorem rr_stalls_bounded {n i : Nat} (hi : i < n) :
    ∀ (l : List ((Nat → Bool) × Bool)) {g : Nat}, g < n → (∀ rc ∈ l, rc.1 i = true) →
      stalls n i g l + dist n (run .withdraw n g l) i ≤ dist n g i :=
  fun l _ hg hreq =>
    run_count_le .withdraw (stalls n i) (fun g r _ => if g ≠ i ∧ r g = false then 1 else 0)
      (fun _ _ => True) (fun _ => rfl) (fun _ _ _ _ => rfl) (fun _ _ _ _ _ => trivial)
      (fun g r ce _ hg hri _ => by
        have h := handover_le .withdraw r ce hg hi hri (fun h => next_withdraw_keep r ce hg (h ▸ hri))
        simpa only [enabled, Bool.not_eq_true'] using h)
      l hg hreq trivial

/-- Both policies.  Under SP_CE the grant leaves a requesting owner when `ce` is asserted, hence the restriction to the
    waiting phase. -/
theorem rr_bounded_wait_any (p : Policy) {n i : Nat} (hi : i < n) :
    ∀ (l : List ((Nat → Bool) × Bool)) {g : Nat}, g < n → (∀ rc ∈ l, rc.1 i = true) → waiting p n i g l →
      changes p n g l + dist n (run p n g l) i ≤ dist n g i ∧ dist n g i ≤ n - 1 :=
  fun l _ hg hreq hw =>
    ⟨run_count_le p (changes p n) (fun g r ce => if next p n g r ce ≠ g then 1 else 0) (waiting p n i)
      (fun _ => rfl) (fun _ _ _ _ => rfl) (fun _ _ _ _ h => h.2)
      (fun _ r ce _ hg hri hw => step_le p r ce hg hi hri (fun h => absurd h hw.1)) l hg hreq hw,
     Nat.le_sub_one_of_lt (dist_lt n _ i (by omega))⟩

theorem rr_ce_stalls_bounded {n i : Nat} (hi : i < n) :
    ∀ (l : List ((Nat → Bool) × Bool)) {g : Nat}, g < n → (∀ rc ∈ l, rc.1 i = true) → waiting .ce n i g l →
      ceStalls n i g l + dist n (run .ce n g l) i ≤ dist n g i :=
  fun l _ hg hreq hw =>
    run_count_le .ce (ceStalls n i) (fun g _ ce => if g ≠ i ∧ ce = true then 1 else 0) (waiting .ce n i)
      (fun _ => rfl) (fun _ _ _ _ => rfl) (fun _ _ _ _ h => h.2)
      (fun _ r ce _ hg hri hw => handover_le .ce r ce hg hi hri (fun h => absurd h hw.1))
      l hg hreq hw

/-- The neighbour `g + 1` is the first candidate of the switch: it wins whenever it requests. -/
theorem switch_first {n g : Nat} {req : Nat → Bool} (hn : 2 ≤ n) (h : req ((g + 1) % n) = true) :
    switch n g req = (g + 1) % n := by
  unfold switch
  rw [show n - 1 = (n - 2) + 1 by omega, scan, if_pos h]

end Litex.RoundRobin
