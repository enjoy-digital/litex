import LitexModel.WaitTimer
import LitexProofs.Machine
/-
  `WaitTimer(t)`: the register always equals `t - streak` (saturating), where `streak` is the number of
  consecutive cycles `wait` has been held up to now, for the timer alone and for a timer embedded in any machine.
  Hence `done` exactly after `t` consecutive waiting cycles, never before, and the count is reloaded by any cycle
  with `wait = 0`.
-/
namespace Litex.WaitTimer

/-- Saturating at 0 because `0 - 1 = 0`. -/
theorem next_true (t c : Nat) : next t c true = c - 1 := by
  show (if (c == 0) = true then c else c - 1) = c - 1
  split
  · next h => rw [beq_iff_eq] at h; rw [h]
  · rfl

theorem next_false (t c : Nat) : next t c false = t := rfl

theorem done_eq (c : Nat) : done c = decide (c = 0) := Bool.beq_eq_decide_eq c 0

/-- `k`: the streak so far; saturating (`t - k = 0` for `k ≥ t`). -/
theorem next_sub (t k : Nat) (w : Bool) : next t (t - k) w = t - streakStep k w := by
  cases w
  · rfl
  · exact (next_true t _).trans (Nat.sub_add_eq t k 1).symm

/-- `next_sub` for callers whose invariant is written `t - min t k` (`Axi/LiteTimeout.lean`). -/
theorem next_spec (t k : Nat) (w : Bool) :
    next t (t - min t k) w = t - min t (streakStep k w) := by
  rw [← Nat.sub_eq_sub_min, ← Nat.sub_eq_sub_min, next_sub]

theorem done_sub (t k : Nat) : done (t - k) = decide (t ≤ k) := by
  rw [done, Bool.beq_eq_decide_eq, decide_eq_decide]
  omega

theorem done_sub_iff (t k : Nat) : done (t - k) = true ↔ t ≤ k := by
  rw [done_sub]; exact decide_eq_true_iff

theorem next_succ_true (t n : Nat) : next t (n + 1) true = n := rfl

theorem done_succ (n : Nat) : done (n + 1) = false := rfl

theorem streakFrom_append (k : Nat) (a b : List Bool) :
    streakFrom k (a ++ b) = streakFrom (streakFrom k a) b := by
  simp [streakFrom, List.foldl_append]

/-! ### A `WaitTimer` embedded in any machine

  `cnt` projects the timer register out of the state, `w s x` is the timer's `wait` input in state `s` under
  input `x`, and `ws s xs` lists `w` along the run over `xs` from `s` (`hnil`, `hcons`: hold by `rfl` for a list
  defined by recursion on the inputs). -/
section embedded
variable {ι σ ο : Type} (m : Machine ι σ ο) {cnt : σ → Nat} {w : σ → ι → Bool} {ws : σ → List ι → List Bool}
  {t : Nat}

theorem embedded_runFrom (hnil : ∀ s, ws s [] = []) (hcons : ∀ s x xs, ws s (x :: xs) = w s x :: ws (m.next s x) xs)
    (hstep : ∀ s x, cnt (m.next s x) = next t (cnt s) (w s x)) :
    ∀ (xs : List ι) (s : σ) (k : Nat), cnt s = t - k → cnt (m.runFrom s xs) = t - streakFrom k (ws s xs) := by
  intro xs
  induction xs with
  | nil => intro s k h; rw [hnil]; exact h
  | cons x xs ih =>
    intro s k h
    rw [hcons]
    exact ih (m.next s x) (streakStep k (w s x)) (by rw [hstep, h, next_sub])

theorem waits_snoc (hnil : ∀ s, ws s [] = []) (hcons : ∀ s x xs, ws s (x :: xs) = w s x :: ws (m.next s x) xs)
    (x : ι) (xs : List ι) (s : σ) : ws s (xs ++ [x]) = ws s xs ++ [w (m.runFrom s xs) x] := by
  rw [Machine.fold_append m (op := (· ++ ·)) (e := fun s x => [w s x]) List.append_assoc List.nil_append hnil hcons
    xs [x] s, hcons, hnil]

theorem streak_snoc (hnil : ∀ s, ws s [] = []) (hcons : ∀ s x xs, ws s (x :: xs) = w s x :: ws (m.next s x) xs)
    (xs : List ι) (x : ι) :
    streak (ws m.init (xs ++ [x])) = streakStep (streak (ws m.init xs)) (w (m.run xs) x) := by
  rw [waits_snoc m hnil hcons, streak, streakFrom_append]; rfl

end embedded

/-- The timer alone is the identity embedding. -/
theorem runFrom_sub (t : Nat) (ws : List Bool) (k : Nat) : runFrom t (t - k) ws = t - streakFrom k ws :=
  embedded_runFrom (machine t) (cnt := id) (ws := fun _ l => l) (fun _ => rfl) (fun _ _ _ => rfl) (fun _ _ => rfl)
    ws _ k rfl

theorem run_spec (t : Nat) (ws : List Bool) : run t ws = t - min t (streak ws) :=
  (runFrom_sub t ws 0).trans (Nat.sub_eq_sub_min t _)

theorem done_run (t : Nat) (ws : List Bool) : done (run t ws) = decide (t ≤ streak ws) :=
  (congrArg done (runFrom_sub t ws 0)).trans (done_sub t _)

theorem streakFrom_replicate_true (k n : Nat) : streakFrom k (List.replicate n true) = k + n := by
  induction n generalizing k with
  | zero => rfl
  | succ n ih =>
    simp only [List.replicate_succ, streakFrom, List.foldl_cons] at ih ⊢
    rw [ih]; simp [streakStep]; omega

theorem streak_false_trues (pre : List Bool) (n : Nat) :
    streak (pre ++ false :: List.replicate n true) = n := by
  unfold streak
  rw [streakFrom_append]
  show streakFrom (streakStep _ false) (List.replicate n true) = n
  rw [streakFrom_replicate_true]; simp [streakStep]

theorem streak_trues (n : Nat) : streak (List.replicate n true) = n := by
  unfold streak; rw [streakFrom_replicate_true]; simp

theorem streakFrom_le (k : Nat) (ws : List Bool) : streakFrom k ws ≤ k + ws.length := by
  induction ws generalizing k with
  | nil => simp [streakFrom]
  | cons w ws ih =>
    have := ih (streakStep k w)
    simp only [streakFrom, List.foldl_cons, List.length_cons] at this ⊢
    cases w <;> simp [streakStep] at this ⊢ <;> omega

theorem run_le (t : Nat) (ws : List Bool) : run t ws ≤ t := by
  rw [run_spec]; omega

end Litex.WaitTimer
