import LitexModel.Bits
import LitexProofs.Lists
/-
  `cat`, `slice` and `trunc` of `LitexModel/Bits.lean` as positional notation: a `cat` is below `2 ^ catWidth`, a slice of
  a slice, of a sum `a + 2 ^ c * b` or of a `cat` of equally wide words is a slice of a part; `setSlice`, `slice` and
  `trunc` bit by bit (`Nat.testBit`).  Core Lean only.
-/
namespace Litex

theorem testBit_bit (b : Bool) (y : Nat) :
    ∀ j, ((if b = true then 1 else 0) + 2 * y).testBit j = match j with | 0 => b | j + 1 => y.testBit j
  | 0 => by rw [Nat.testBit_zero, Nat.add_mul_mod_self_left]; cases b <;> rfl
  | j + 1 => by rw [Nat.testBit_succ, Nat.add_mul_div_left _ _ Nat.two_pos]; cases b <;> simp

theorem cat_append (ps qs : List (Nat × Nat)) : cat (ps ++ qs) = cat ps + 2 ^ catWidth ps * cat qs := by
  induction ps with
  | nil => simp [cat, catWidth]
  | cons p ps ih =>
    obtain ⟨w, v⟩ := p
    simp only [List.cons_append, cat, catWidth, ih, Nat.pow_add]
    rw [Nat.mul_add, Nat.add_assoc, Nat.mul_assoc]

theorem catWidth_append (ps qs : List (Nat × Nat)) : catWidth (ps ++ qs) = catWidth ps + catWidth qs := by
  induction ps with
  | nil => simp [catWidth]
  | cons p ps ih => obtain ⟨a, v⟩ := p; simp only [List.cons_append, catWidth, ih, Nat.add_assoc]

theorem catWidth_map {β : Type} (w : Nat) (f : β → Nat) (l : List β) :
    catWidth (l.map fun x => (w, f x)) = l.length * w := by
  induction l with
  | nil => simp [catWidth]
  | cons p ps ih => simp only [List.map_cons, catWidth, ih, List.length_cons, Nat.succ_mul, Nat.add_comm]

theorem cat_lt (ps : List (Nat × Nat)) : cat ps < 2 ^ catWidth ps := by
  induction ps with
  | nil => simp [cat, catWidth]
  | cons p ps ih =>
    obtain ⟨w, v⟩ := p
    simp only [cat, catWidth, Nat.pow_add]
    exact add_mul_lt_mul (Nat.mod_lt _ (Nat.two_pow_pos w)) ih

theorem cat_uniform_lt (w : Nat) (l : List Nat) : cat (l.map fun v => (w, v)) < 2 ^ (l.length * w) := by
  have := cat_lt (l.map fun v => (w, v))
  rwa [catWidth_map] at this

theorem trunc_trunc_le (a b n : Nat) (h : a ≤ b) : trunc b (trunc a n) = trunc a n := by
  apply trunc_of_lt
  exact Nat.lt_of_lt_of_le (trunc_lt a n) (Nat.pow_le_pow_right (by omega) h)

theorem trunc_cat_head {w bw : Nat} (d : Nat) (rest : List (Nat × Nat)) (h : w ≤ bw) :
    trunc w (cat ((bw, d) :: rest)) = trunc w d := by
  unfold trunc
  rw [cat, Nat.add_mod, Nat.mul_mod, two_pow_mod_two_pow h, Nat.zero_mul, Nat.zero_mod, Nat.add_zero, Nat.mod_mod,
    Nat.mod_mod_of_dvd _ (Nat.pow_dvd_pow 2 h)]

theorem slice_shift (lo w c a b : Nat) (ha : a < 2 ^ c) : slice (c + lo) w (a + 2 ^ c * b) = slice lo w b := by
  unfold slice
  rw [Nat.pow_add, ← Nat.div_div_eq_div_mul, Nat.add_mul_div_left _ _ (Nat.two_pow_pos c), Nat.div_eq_of_lt ha,
    Nat.zero_add]

theorem slice_above (off w c x : Nat) (hc : c < 2 ^ off) : slice off w (c + 2 ^ off * x) = x % 2 ^ w := by
  have := slice_shift 0 w off c x hc
  rwa [Nat.add_zero, slice_zero] at this

theorem slice_add_high (lo w c a b : Nat) (h : lo + w ≤ c) : slice lo w (a + 2 ^ c * b) = slice lo w a := by
  obtain ⟨k, rfl⟩ : ∃ k, c = lo + w + k := ⟨c - (lo + w), by omega⟩
  unfold slice
  rw [Nat.pow_add, Nat.pow_add, Nat.mul_assoc, Nat.mul_assoc, Nat.add_mul_div_left _ _ (Nat.two_pow_pos lo),
    Nat.add_mul_mod_self_left]

theorem slice_slice (a w b n x : Nat) (h : a + w ≤ n) : slice a w (slice b n x) = slice (b + a) w x := by
  obtain ⟨k, rfl⟩ : ∃ k, n = a + w + k := ⟨n - (a + w), by omega⟩
  unfold slice
  rw [Nat.pow_add 2 (a + w) k, Nat.pow_add 2 a w, Nat.mul_assoc, Nat.mod_mul_right_div_self,
    Nat.mod_mul_right_mod, Nat.div_div_eq_div_mul, ← Nat.pow_add]

theorem slice_mod (j w nb x : Nat) (h : j + w ≤ nb) : slice j w (x % 2 ^ nb) = slice j w x := by
  have := slice_slice j w 0 nb x h
  rwa [slice_zero, trunc, Nat.zero_add] at this

theorem slice_split (b n m x : Nat) : slice b (n + m) x = slice b n x + 2 ^ n * slice (b + n) m x := by
  unfold slice
  rw [Nat.pow_add 2 n m, Nat.mod_mul, Nat.pow_add 2 b n, Nat.div_div_eq_div_mul]

theorem slice_cat_uniform (w : Nat) (l : List Nat) :
    ∀ i, slice (i * w) w (cat (l.map fun v => (w, v))) = l.getD i 0 % 2 ^ w := by
  induction l with
  | nil => intro i; simp [cat, slice]
  | cons v rest ih =>
    intro i
    cases i with
    | zero => rw [Nat.zero_mul, slice_zero, trunc, List.map_cons, cat, Nat.add_mul_mod_self_left, Nat.mod_mod]; rfl
    | succ i =>
      rw [List.map_cons, cat, List.getD_cons_succ, ← ih i, Nat.succ_mul, Nat.add_comm (i * w) w]
      exact slice_shift (i * w) w w _ _ (Nat.mod_lt _ (Nat.two_pow_pos w))

theorem setSlice_eq (lo w n v : Nat) :
    setSlice lo w n v = 2 ^ lo * (2 ^ w * (n / 2 ^ (lo + w)) + v % 2 ^ w) + n % 2 ^ lo := by
  unfold setSlice
  rw [Nat.pow_add, Nat.mul_add, Nat.mul_comm (v % 2 ^ w), Nat.mul_comm (n / _), Nat.mul_assoc,
    Nat.add_comm (2 ^ lo * _), Nat.add_comm (n % 2 ^ lo), Nat.add_right_comm]

theorem testBit_setSlice (lo w n v b : Nat) :
    (setSlice lo w n v).testBit b =
      if lo ≤ b ∧ b < lo + w then v.testBit (b - lo) else n.testBit b := by
  rw [setSlice_eq]
  rw [Nat.testBit_two_pow_mul_add _ (Nat.mod_lt _ (Nat.two_pow_pos lo))]
  by_cases h1 : b < lo
  · rw [if_pos h1, if_neg fun h => Nat.not_le_of_lt h1 h.1, Nat.testBit_mod_two_pow, decide_eq_true h1, Bool.true_and]
  · simp only [h1, if_false]
    rw [Nat.testBit_two_pow_mul_add _ (Nat.mod_lt _ (Nat.two_pow_pos w))]
    by_cases h2 : b - lo < w
    · have : lo ≤ b ∧ b < lo + w := by omega
      simp [h2, this, Nat.testBit_mod_two_pow]
    · have : ¬ (lo ≤ b ∧ b < lo + w) := by omega
      simp only [h2, this, if_false]
      rw [Nat.testBit_div_two_pow]
      congr 1
      omega

theorem testBit_slice (lo w n b : Nat) : (slice lo w n).testBit b = (decide (b < w) && n.testBit (lo + b)) := by
  unfold slice
  rw [Nat.testBit_mod_two_pow, Nat.testBit_div_two_pow, Nat.add_comm]

theorem testBit_trunc (w n b : Nat) : (trunc w n).testBit b = (decide (b < w) && n.testBit b) := by
  unfold trunc
  rw [Nat.testBit_mod_two_pow]

theorem testBit_setSlice_outside (lo w n v b : Nat) (h : ¬ (lo ≤ b ∧ b < lo + w)) :
    (setSlice lo w n v).testBit b = n.testBit b := by
  rw [testBit_setSlice]; simp [h]

theorem setSlice_lt (lo w n v size : Nat) (hn : n < 2 ^ size) (hw : lo + w ≤ size) :
    setSlice lo w n v < 2 ^ size := by
  apply Nat.lt_pow_two_of_testBit
  intro b hb
  rw [testBit_setSlice]
  have hb' : ¬ (lo ≤ b ∧ b < lo + w) := by omega
  simp only [hb', if_false]
  exact Nat.testBit_lt_two_pow (Nat.lt_of_lt_of_le hn (Nat.pow_le_pow_right (by omega) hb))

theorem slice_eq_of_testBit (lo w n m : Nat) (h : ∀ b, b < w → n.testBit (lo + b) = m.testBit (lo + b)) :
    slice lo w n = slice lo w m := by
  apply Nat.eq_of_testBit_eq
  intro b
  rw [testBit_slice, testBit_slice]
  by_cases hb : b < w
  · simp [hb, h b hb]
  · simp [hb]

theorem slice_setSlice_disjoint (lo w lo' w' n v : Nat) (h : lo' + w' ≤ lo ∨ lo + w ≤ lo') :
    slice lo' w' (setSlice lo w n v) = slice lo' w' n := by
  apply slice_eq_of_testBit
  intro b hb
  apply testBit_setSlice_outside
  omega

end Litex
