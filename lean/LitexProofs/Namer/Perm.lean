import LitexModel.Namer.Tree
import Mathlib.Data.List.Dedup  -- `List.dedup`, `Perm.dedup`: behind `dedup_eq`, `mem_dedup_iff`, `perm_dedup` only
/-
  Order independence of the hierarchical naming stage: Python iterates *sets* of signals
  (`_build_signal_groups` returns sets, `name_dict` is filled in set order); no stage of the group dictionary
  depends on that order: required names and `use_name` flags, the numbered second-pass walk, the first- and
  second-pass names and the DUID ranks.  The stages are put together in `C02.buildDict_perm`.
-/
namespace Litex.Namer
open List

theorem dedup_eq {α : Type} [DecidableEq α] (l : List α) : dedup l = l.dedup := by
  induction l with
  | nil => rfl
  | cons a l ih =>
    by_cases h : a ∈ l
    · simp [dedup, h, ih, List.dedup_cons_of_mem h]
    · simp [dedup, h, ih, List.dedup_cons_of_notMem h]

theorem mem_dedup_iff {α : Type} [DecidableEq α] {a : α} {l : List α} : a ∈ dedup l ↔ a ∈ l := by
  rw [dedup_eq]; exact List.mem_dedup

theorem perm_dedup {α : Type} [DecidableEq α] {l₁ l₂ : List α} (h : l₁ ~ l₂) : dedup l₁ ~ dedup l₂ := by
  rw [dedup_eq, dedup_eq]; exact h.dedup

theorem any_congr_mem {α : Type} {l₁ l₂ : List α} (h : ∀ x, x ∈ l₁ ↔ x ∈ l₂) (p : α → Bool) :
    l₁.any p = l₂.any p := by
  rw [Bool.eq_iff_iff]
  simp only [List.any_eq_true]
  constructor
  · rintro ⟨x, hx, hp⟩; exact ⟨x, (h x).mp hx, hp⟩
  · rintro ⟨x, hx, hp⟩; exact ⟨x, (h x).mpr hx, hp⟩

theorem any_congr_fun {α : Type} {l : List α} {p q : α → Bool} (h : ∀ x ∈ l, p x = q x) :
    l.any p = l.any q := by
  induction l with
  | nil => rfl
  | cons a l ih =>
    simp only [List.any_cons, h a (by simp), ih (fun x hx => h x (by simp [hx]))]

theorem child_perm {n₁ n₂ : List Path} (h : n₁ ~ n₂) (k : Key) : child n₁ k ~ child n₂ k :=
  h.filterMap _

theorem hasOwn_perm {n₁ n₂ : List Path} (h : n₁ ~ n₂) : hasOwn n₁ = hasOwn n₂ :=
  any_congr_mem (fun _ => h.mem_iff) _

theorem childKeys_mem_perm {n₁ n₂ : List Path} (h : n₁ ~ n₂) (k : Key) :
    k ∈ childKeys n₁ ↔ k ∈ childKeys n₂ := by
  simp only [childKeys, mem_dedup_iff]
  exact (h.filterMap _).mem_iff

theorem inter_congr {a a' b b' : List (List Key)} (ha : ∀ x, x ∈ a ↔ x ∈ a') (hb : ∀ x, x ∈ b ↔ x ∈ b') :
    inter a b = inter a' b' := by
  unfold inter
  rw [any_congr_mem ha]
  apply any_congr_fun
  intro x _
  rw [Bool.eq_iff_iff]
  simp only [List.contains_iff_mem]
  exact hb x

theorem req_flag (fuel : Nat) (node : List Path) (k : Key) :
    (hasOwn (child node k) ||
      ((childKeys node).map fun k => (k, req fuel k (child node k))).any
        (fun ks' => ks'.1 != k && inter (req fuel k (child node k)) ks'.2)) = useName fuel node k := by
  simp only [useName, List.any_map]
  rfl

/-- One level of `_determine_name_usage`, with the flag computed inside `req` read as `useName`. -/
theorem req_succ (fuel : Nat) (name : Key) (node : List Path) :
    req (fuel + 1) name node =
      (if hasOwn node then [[name]] else []) ++ (childKeys node).flatMap fun k =>
        if useName fuel node k then (req fuel k (child node k)).map (k :: ·) else req fuel k (child node k) := by
  simp only [req, List.flatMap_map, req_flag]
  split <;> rfl

theorem mem_req_succ (fuel : Nat) (name : Key) (node : List Path) (x : List Key) :
    x ∈ req (fuel + 1) name node ↔
      (hasOwn node = true ∧ x = [name]) ∨
      ∃ k, k ∈ childKeys node ∧
        ((useName fuel node k = true ∧ ∃ y, y ∈ req fuel k (child node k) ∧ x = k :: y) ∨
         (useName fuel node k = false ∧ x ∈ req fuel k (child node k))) := by
  rw [req_succ, List.mem_append, List.mem_flatMap]
  refine or_congr ?_ (exists_congr fun k => and_congr Iff.rfl ?_)
  · cases hasOwn node <;> simp
  · cases useName fuel node k <;> simp [eq_comm]

/-- `req` is invariant only up to membership (its order follows `childKeys`, the `dedup` of the listing order).  The
    induction on `fuel` is interleaved: `req (fuel + 1)` asks `useName fuel`, which asks `req fuel` of the siblings, so
    `useName_perm_of` takes `ReqInv fuel` as a hypothesis. -/
def ReqInv (fuel : Nat) : Prop :=
  ∀ (name : Key) (n₁ n₂ : List Path), n₁ ~ n₂ → ∀ x, x ∈ req fuel name n₁ ↔ x ∈ req fuel name n₂

theorem useName_perm_of {fuel : Nat} (hP : ReqInv fuel) {n₁ n₂ : List Path} (h : n₁ ~ n₂) (k : Key) :
    useName fuel n₁ k = useName fuel n₂ k := by
  simp only [useName]
  rw [hasOwn_perm (child_perm h k)]
  congr 1
  rw [any_congr_mem (childKeys_mem_perm h)]
  apply any_congr_fun
  intro k' _
  congr 1
  exact inter_congr (hP k _ _ (child_perm h k)) (hP k' _ _ (child_perm h k'))

theorem reqInv : ∀ fuel, ReqInv fuel
  | 0 => by intro name n₁ n₂ _ x; simp [req]
  | fuel + 1 => by
    intro name n₁ n₂ h x
    have ih := reqInv fuel
    rw [mem_req_succ, mem_req_succ, hasOwn_perm h]
    apply or_congr Iff.rfl
    apply exists_congr
    intro k
    rw [childKeys_mem_perm h k, useName_perm_of ih h k]
    apply and_congr Iff.rfl
    apply or_congr
    · apply and_congr Iff.rfl
      apply exists_congr
      intro y
      rw [ih k _ _ (child_perm h k) y]
    · rw [ih k _ _ (child_perm h k) x]

theorem useName_perm (fuel : Nat) {n₁ n₂ : List Path} (h : n₁ ~ n₂) (k : Key) :
    useName fuel n₁ k = useName fuel n₂ k := useName_perm_of (reqInv fuel) h k

theorem elems_perm (fuel : Nat) : ∀ (p : Path) {n₁ n₂ : List Path}, n₁ ~ n₂ → elems fuel n₁ p = elems fuel n₂ p
  | [], _, _, _ => rfl
  | (k, r) :: rest, n₁, n₂, h => by
    simp only [elems, useName_perm fuel h k, elems_perm fuel rest (child_perm h k)]

theorem fuelOf_perm {n₁ n₂ : List Path} (h : n₁ ~ n₂) : fuelOf n₁ = fuelOf n₂ := by
  simp only [fuelOf, (h.map List.length).sum_nat]

theorem treeName_perm {n₁ n₂ : List Path} (h : n₁ ~ n₂) (p : Path) : treeName n₁ p = treeName n₂ p := by
  simp only [treeName, fuelOf_perm h, elems_perm _ p h]

theorem pass1Name_perm {g₁ g₂ : List GSig} (h : g₁ ~ g₂) (s : GSig) : pass1Name g₁ s = pass1Name g₂ s :=
  treeName_perm (h.map _) _

theorem map_perm_congr {α β : Type} {l₁ l₂ : List α} (h : l₁ ~ l₂) {f₁ f₂ : α → β} (hf : ∀ x, f₁ x = f₂ x) :
    l₁.map f₁ ~ l₂.map f₂ := by
  have : f₁ = f₂ := funext hf
  subst this
  exact h.map _

theorem tagged_perm {g₁ g₂ : List GSig} (h : g₁ ~ g₂) : tagged g₁ ~ tagged g₂ := by
  simp only [tagged]
  apply map_perm_congr h
  intro t
  have hn : g₁.map (pass1Name g₁) ~ g₂.map (pass1Name g₂) := map_perm_congr h (pass1Name_perm h)
  rw [pass1Name_perm h t, (hn.filter _).length_eq]

theorem keyedPath_perm : ∀ (bt : List Step) {n₁ n₂ : List (Bool × List Step)}, n₁ ~ n₂ →
    keyedPath n₁ bt = keyedPath n₂ bt
  | [], _, _, _ => rfl
  | (nm, num) :: rest, n₁, n₂, h => by
    have hsub := h.filter fun cb => cb.2.head?.map (·.1) == some nm
    have hnums := perm_dedup (hsub.filterMap fun cb => cb.2.head?.map (·.2))
    simp only [keyedPath]
    rw [keyedPath_perm rest (hsub.map fun cb => (cb.1, cb.2.tail))]
    rw [any_congr_mem (fun _ => hsub.mem_iff), hsub.length_eq, hnums.length_eq, (hnums.filter _).length_eq]

theorem pass2Name_perm {g₁ g₂ : List GSig} (h : g₁ ~ g₂) (s : GSig) : pass2Name g₁ s = pass2Name g₂ s := by
  simp only [pass2Name, pass2With]
  have ht := tagged_perm h
  rw [keyedPath_perm s.bt ht]
  apply treeName_perm
  exact map_perm_congr h (fun t => keyedPath_perm t.bt ht)

theorem named_perm {g₁ g₂ : List GSig} (h : g₁ ~ g₂) : named g₁ ~ named g₂ := by
  show (g₁.map fun t => (t, pass2Name g₁ t)) ~ (g₂.map fun t => (t, pass2Name g₂ t))
  exact map_perm_congr h (fun t => by rw [pass2Name_perm h t])

theorem disambiguate_perm {nm₁ nm₂ : List (GSig × String)} (h : nm₁ ~ nm₂) (sn : GSig × String) :
    disambiguate nm₁ sn = disambiguate nm₂ sn := by
  have hs := h.filter fun tn => tn.2 == sn.2
  simp only [disambiguate, hs.length_eq, (hs.filter _).length_eq]

end Litex.Namer
