import LitexProofs.Namer.GetName
import LitexProofs.Namer.Fixed
/-
  The repair of C02-suffix-collision is conservative: for request sequences outside the defect region (no suffix-shaped
  base name, well-formed keyword table) the repaired `get_name` gives exactly the answers of the method before it.
-/
namespace Litex.Namer

variable {kw : List String} {base : SigId → String}

/-- `x` is a numbered identifier issued so far (these are the extra dictionary keys of the repaired method). -/
def Marked (base : SigId → String) (ns : Ns) (x : String) : Prop :=
  ∃ t m, ns.sigs t = some m ∧ 0 < m ∧ x = suffixed (base t) m

/-- The two namespaces after the same requests `done`, while the repaired method has not yet had to skip.  They hold
    the same numbers (`sigs_eq`).  The repaired dictionary has more keys than the counters of the earlier method:
    every issued numbered identifier is a key with count 1 (`Marked`), so the counts agree only off those names
    (`counts_eq`) — which is enough, because under `noSuffixShapedBase` no requested base name is such a name.  `keys`
    lists where a key can come from; it is what shows that the candidate `b_n` of a fresh request is not a key, so
    that the `while` loop stops at once. -/
structure Sim (kw : List String) (base : SigId → String) (done : List SigId) (ns : Ns) (nf : NsF) : Prop where
  inv : Inv kw base done ns
  sigs_eq : ∀ s, nf.sigs.lookup s = ns.sigs s
  counts_eq : ∀ b, Marked base ns b ∨ nf.count b = ns.counts b
  keys : ∀ x, nf.used x = true → x ∈ kw ∨ x ∈ done.map base ∨ Marked base ns x

theorem count_init (kw : List String) (b : String) :
    (NsF.init kw).count b = if b ∈ kw then 1 else 0 := by
  simp only [NsF.count, NsF.init]
  induction kw with
  | nil => simp
  | cons k kw ih =>
    simp only [List.map_cons, List.lookup_cons, List.mem_cons]
    by_cases h : b = k
    · subst h; simp
    · have : (b == k) = false := by simpa using h
      simp only [this, h, false_or]
      exact ih

theorem Sim.init : Sim kw base [] (Ns.init kw) (NsF.init kw) where
  inv := Inv.init
  sigs_eq := by intro s; simp [NsF.init, Ns.init]
  counts_eq := by intro b; right; simp [count_init, Ns.init]
  keys := by
    intro x hx
    left
    have := used_iff_mem.mp hx
    simpa [NsF.init, List.map_map] using this

theorem skipUsed_stop {nf : NsF} {b : String} {n : Nat} (fuel : Nat)
    (h : n = 0 ∨ nf.used (suffixed b n) = false) : skipUsed nf b (fuel + 1) n = n := by
  rcases h with h | h
  · subst h; simp [skipUsed]
  · simp [skipUsed, h]

theorem Marked.mono {ns : Ns} {b : String} {s : SigId} {x : String} (h : Marked base ns x) :
    Marked base (getName ns b s).1 x := by
  obtain ⟨t, m, ht, hm, rfl⟩ := h
  exact ⟨t, m, Ns.policy.keeps ht, hm, rfl⟩

/- The whole request sequence `reqs` is fixed in advance because `noSuffixShapedBase` speaks of all requested bases and of
   every `k ≤ reqs.length`; `hdone`, `hs`, `hlen` say that `done ++ [s]` is a part of it. -/
theorem Sim.step {reqs done : List SigId} {ns : Ns} {nf : NsF} (h : Sim kw base done ns nf)
    (hw : kwWellformed kw = true) (hshape : noSuffixShapedBase (reqs.map base) = true)
    (s : SigId) (hdone : ∀ t ∈ done, t ∈ reqs) (hs : s ∈ reqs) (hlen : done.length < reqs.length) :
    (getNameFixed nf (base s) s).2 = (getName ns (base s) s).2 ∧
    Sim kw base (done ++ [s]) (getName ns (base s) s).1 (getNameFixed nf (base s) s).1 := by
  have hbase : ∀ t m, ns.sigs t = some m → base t ∈ reqs.map base ∧ m ≤ (reqs.map base).length := by
    intro t m ht
    refine ⟨List.mem_map_of_mem (hdone t (h.inv.named t m ht)), ?_⟩
    rw [List.length_map]
    exact Nat.le_trans (h.inv.num_le ht) (Nat.le_of_lt hlen)
  have hsb : base s ∈ reqs.map base := List.mem_map_of_mem hs
  have hnotmarked : ∀ u, u ∈ reqs → ¬ Marked base ns (base u) := by
    rintro u hu ⟨t, m, ht, hm, heq⟩
    rw [suffixed_pos _ hm] at heq
    exact noSuffixShapedBase_spec hshape (List.mem_map_of_mem hu) (hbase t m ht).1 hm (hbase t m ht).2 heq
  cases hsig : ns.sigs s with
  | some m =>
    have hf : nf.sigs.lookup s = some m := by rw [h.sigs_eq, hsig]
    rw [getName_named hsig, getNameFixed_named hf]
    refine ⟨rfl, ⟨?_, h.sigs_eq, h.counts_eq, ?_⟩⟩
    · have := h.inv.step s
      rwa [getName_named hsig] at this
    · intro x hx
      rcases h.keys x hx with hk | hk | hk
      · exact Or.inl hk
      · exact Or.inr (Or.inl (by simp [hk]))
      · exact Or.inr (Or.inr hk)
  | none =>
    have hf : nf.sigs.lookup s = none := by rw [h.sigs_eq, hsig]
    obtain ⟨hans, hsigs, hcounts⟩ := getNameFixed_fresh (b := base s) hf
    have hcnt : nf.count (base s) = ns.counts (base s) := by
      rcases h.counts_eq (base s) with hm | hc
      · exact absurd hm (hnotmarked s hs)
      · exact hc
    -- the loop stops immediately
    have hfresh : freshNum nf (base s) = ns.counts (base s) := by
      unfold freshNum
      rw [hcnt]
      apply skipUsed_stop
      by_cases hn : ns.counts (base s) = 0
      · exact Or.inl hn
      · right
        have hpos : 0 < ns.counts (base s) := by omega
        cases hu : nf.used (suffixed (base s) (ns.counts (base s))) with
        | false => rfl
        | true =>
          exfalso
          rcases h.keys _ hu with hk | hk | hk
          · exact suffixed_not_mem_kw hw _ hpos hk
          · -- a requested base is never base_n
            obtain ⟨u, hu', hue⟩ := List.mem_map.mp hk
            have hb := h.inv.bound (base s)
            rw [suffixed_pos _ hpos] at hue
            refine noSuffixShapedBase_spec hshape (List.mem_map_of_mem (hdone u hu')) hsb hpos ?_ hue
            simp only [List.length_map]; omega
          · -- numbers of the same base are below its counter
            obtain ⟨t, m, ht, hm, heq⟩ := hk
            obtain ⟨hb, hnm⟩ := suffixed_inj_pos hpos hm heq
            have := h.inv.lt_count t m ht
            rw [← hb] at this
            omega
    refine ⟨by rw [hans, hfresh, getName_fresh_name hsig], ?_⟩
    have hmark_new : 0 < ns.counts (base s) →
        Marked base (getName ns (base s) s).1 (suffixed (base s) (ns.counts (base s))) := by
      intro hpos
      exact ⟨s, ns.counts (base s), by simp [getName_fresh_sigs hsig], hpos, rfl⟩
    refine ⟨h.inv.step s, ?_, ?_, ?_⟩
    · intro t
      rw [hsigs, lookup_cons_ite, getName_fresh_sigs hsig, hfresh, h.sigs_eq]
    · intro b
      rw [count_fresh hf, hfresh, getName_fresh_counts hsig]
      by_cases hb2 : 0 < ns.counts (base s) ∧ b = suffixed (base s) (ns.counts (base s))
      · rw [hb2.2]
        exact Or.inl (hmark_new hb2.1)
      · rw [if_neg hb2]
        by_cases hb1 : b = base s
        · rw [if_pos hb1, if_pos hb1]
          exact Or.inr rfl
        · rw [if_neg hb1, if_neg hb1]
          exact (h.counts_eq b).imp Marked.mono id
    · intro x hx
      rw [used_fresh_iff hf, hfresh] at hx
      rcases hx with ⟨hpos, rfl⟩ | rfl | hx
      · exact Or.inr (Or.inr (hmark_new hpos))
      · exact Or.inr (Or.inl (by simp))
      · rcases h.keys x hx with hk | hk | hk
        · exact Or.inl hk
        · exact Or.inr (Or.inl (by simp [hk]))
        · exact Or.inr (Or.inr hk.mono)

theorem answers_eq_of_sim {reqs : List SigId} (hw : kwWellformed kw = true)
    (hshape : noSuffixShapedBase (reqs.map base) = true) :
    ∀ (rest done : List SigId) (ns : Ns) (nf : NsF), done ++ rest = reqs → Sim kw base done ns nf →
      answersFromF base nf rest = answersFrom base ns rest
  | [], _, _, _, _, _ => rfl
  | s :: rest, done, ns, nf, hsplit, h => by
    have hdone : ∀ t ∈ done, t ∈ reqs := by intro t ht; rw [← hsplit]; simp [ht]
    have hs : s ∈ reqs := by rw [← hsplit]; simp
    have hlen : done.length < reqs.length := by rw [← hsplit]; simp
    obtain ⟨hans, hsim⟩ := h.step hw hshape s hdone hs hlen
    simp only [answersFromF, answersFrom, hans]
    congr 1
    exact answers_eq_of_sim hw hshape rest (done ++ [s]) _ _ (by simp [← hsplit]) hsim

end Litex.Namer
