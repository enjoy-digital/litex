import LitexProofs.Namer.Policy
/-
  Invariants of `SignalNamespace.get_name` as it was before the repair of C02-suffix-collision (model: `getName`) along
  arbitrary request sequences.
-/
namespace Litex.Namer

variable {kw : List String} {base : SigId → String}

theorem getName_named {ns : Ns} {b : String} {s : SigId} {n : Nat} (h : ns.sigs s = some n) :
    getName ns b s = (ns, suffixed b n) := by
  simp [getName, h]

theorem getName_fresh_sigs {ns : Ns} {b : String} {s : SigId} (h : ns.sigs s = none) (t : SigId) :
    (getName ns b s).1.sigs t = if t = s then some (ns.counts b) else ns.sigs t := by
  simp [getName, h]

theorem getName_fresh_counts {ns : Ns} {b : String} {s : SigId} (h : ns.sigs s = none) (b' : String) :
    (getName ns b s).1.counts b' = if b' = b then ns.counts b + 1 else ns.counts b' := by
  simp [getName, h]

theorem getName_fresh_name {ns : Ns} {b : String} {s : SigId} (h : ns.sigs s = none) :
    (getName ns b s).2 = suffixed b (ns.counts b) := by
  simp [getName, h]

/-- `get_name` before the repair: a fresh signal gets the counter of its base name (`counts.get(name, 0)`). -/
def Ns.policy : Policy Ns where
  get := getName
  num := Ns.sigs
  pick ns b := ns.counts b
  run := runFrom
  answers := answersFrom
  named := getName_named
  fresh h := ⟨getName_fresh_name h, getName_fresh_sigs h⟩

theorem runFrom_append (ns : Ns) (l₁ l₂ : List SigId) :
    runFrom base ns (l₁ ++ l₂) = runFrom base (runFrom base ns l₁) l₂ := by
  induction l₁ generalizing ns with
  | nil => rfl
  | cons s rest ih => exact ih _

/-- Invariant of the namespace after the requests `done` (in any order, with repetitions).
    `lt_count`, `distinct`: the numbers issued for one base name lie below its counter and are pairwise different (a
    fresh signal gets the counter itself).  `kw_seed`, `kw_pos`: a reserved word starts at 1, so it is never issued
    unnumbered.  `bound`, `named` serve `Inv.num_le` only: an issued number is at most the number of requests, which
    is the range of `k` that `noSuffixShapedBase` tests. -/
structure Inv (kw : List String) (base : SigId → String) (done : List SigId) (ns : Ns) : Prop where
  lt_count : ∀ s n, ns.sigs s = some n → n < ns.counts (base s)
  distinct : ∀ s t n, ns.sigs s = some n → ns.sigs t = some n → base s = base t → s = t
  kw_seed : ∀ b, b ∈ kw → 1 ≤ ns.counts b
  kw_pos : ∀ s n, ns.sigs s = some n → base s ∈ kw → 1 ≤ n
  bound : ∀ b, ns.counts b ≤ done.length + 1
  named : ∀ s n, ns.sigs s = some n → s ∈ done

theorem Inv.init : Inv kw base [] (Ns.init kw) where
  lt_count := by intro s n h; simp [Ns.init] at h
  distinct := by intro s t n h; simp [Ns.init] at h
  kw_seed := by intro b hb; simp [Ns.init, hb]
  kw_pos := by intro s n h; simp [Ns.init] at h
  bound := by intro b; simp only [Ns.init]; split <;> omega
  named := by intro s n h; simp [Ns.init] at h

theorem getName_fresh_cases {ns : Ns} {b : String} {s t : SigId} {n : Nat} (hs : ns.sigs s = none)
    (ht : (getName ns b s).1.sigs t = some n) : t = s ∧ n = ns.counts b ∨ t ≠ s ∧ ns.sigs t = some n :=
  Ns.policy.fresh_cases hs ht

theorem getName_counts_mono (ns : Ns) (b : String) (s : SigId) (b' : String) :
    ns.counts b' ≤ (getName ns b s).1.counts b' ∧ (getName ns b s).1.counts b' ≤ ns.counts b' + 1 := by
  cases hs : ns.sigs s with
  | some n => rw [getName_named hs]; exact ⟨Nat.le_refl _, Nat.le_succ _⟩
  | none =>
    rw [getName_fresh_counts hs]
    split
    · rename_i hb; rw [hb]; exact ⟨Nat.le_succ _, Nat.le_refl _⟩
    · exact ⟨Nat.le_refl _, Nat.le_succ _⟩

theorem Inv.step {done : List SigId} {ns : Ns} (h : Inv kw base done ns) (s : SigId) :
    Inv kw base (done ++ [s]) (getName ns (base s) s).1 := by
  have hmono := getName_counts_mono ns (base s) s
  have hbound : ∀ b, (getName ns (base s) s).1.counts b ≤ (done ++ [s]).length + 1 := fun b => by
    rw [List.length_append]
    exact Nat.le_trans (hmono b).2 (Nat.succ_le_succ (h.bound b))
  cases hs : ns.sigs s with
  | some m =>
    rw [getName_named hs] at hbound ⊢
    exact { h with bound := hbound, named := fun t n ht => List.mem_append_left _ (h.named t n ht) }
  | none =>
    have hnew : (getName ns (base s) s).1.counts (base s) = ns.counts (base s) + 1 := by
      rw [getName_fresh_counts hs, if_pos rfl]
    refine ⟨fun t n ht => ?_, fun t u n ht hu hb => ?_, fun b hb => Nat.le_trans (h.kw_seed b hb) (hmono b).1,
      fun t n ht hb => ?_, hbound, fun t n ht => ?_⟩
    · rcases getName_fresh_cases hs ht with ⟨rfl, rfl⟩ | ⟨_, ht⟩
      · rw [hnew]; exact Nat.lt_succ_self _
      · exact Nat.lt_of_lt_of_le (h.lt_count t n ht) (hmono _).1
    · -- the new number is the old counter of the base, above every number issued for that base
      rcases getName_fresh_cases hs ht with ⟨rfl, rfl⟩ | ⟨_, ht'⟩ <;>
        rcases getName_fresh_cases hs hu with ⟨rfl, hn⟩ | ⟨_, hu'⟩
      · rfl
      · exact absurd (hb ▸ h.lt_count u _ hu') (Nat.lt_irrefl _)
      · exact absurd (hb ▸ hn ▸ h.lt_count t _ ht') (Nat.lt_irrefl _)
      · exact h.distinct t u n ht' hu' hb
    · rcases getName_fresh_cases hs ht with ⟨rfl, rfl⟩ | ⟨_, ht⟩
      · exact h.kw_seed _ hb
      · exact h.kw_pos t n ht hb
    · rcases getName_fresh_cases hs ht with ⟨rfl, _⟩ | ⟨_, ht⟩
      · exact List.mem_append_right _ (List.mem_singleton_self _)
      · exact List.mem_append_left _ (h.named t n ht)

theorem Inv.num_le {done : List SigId} {ns : Ns} (h : Inv kw base done ns) {s : SigId} {n : Nat}
    (hs : ns.sigs s = some n) : n ≤ done.length :=
  Nat.le_of_lt_succ (Nat.lt_of_lt_of_le (h.lt_count s n hs) (h.bound (base s)))

theorem Inv.runFrom {done : List SigId} {ns : Ns} (h : Inv kw base done ns) (reqs : List SigId) :
    Inv kw base (done ++ reqs) (runFrom base ns reqs) :=
  Ns.policy.run_invariant base (Inv kw base) (fun _ _ s h => h.step s) reqs done ns h

theorem Inv.run (reqs : List SigId) : Inv kw base reqs (run kw base reqs) := by
  simpa [Litex.Namer.run] using (Inv.init (kw := kw) (base := base)).runFrom reqs

/-- The only way two signals can share an identifier before the repair: one is unnumbered and its base name is the
    other's numbered name. -/
theorem collision_shape {done : List SigId} {ns : Ns} (h : Inv kw base done ns) {s t : SigId} {n m : Nat}
    (hs : ns.sigs s = some n) (ht : ns.sigs t = some m) (hne : s ≠ t)
    (heq : suffixed (base s) n = suffixed (base t) m) :
    (n = 0 ∧ 0 < m ∧ base s = base t ++ "_" ++ toString m) ∨
    (m = 0 ∧ 0 < n ∧ base t = base s ++ "_" ++ toString n) := by
  by_cases hn : 0 < n <;> by_cases hm : 0 < m
  · obtain ⟨hb, hnm⟩ := suffixed_inj_pos hn hm heq
    subst hnm
    exact absurd (h.distinct s t n hs ht hb) hne
  · have : m = 0 := by omega
    subst this
    right
    rw [suffixed_zero, suffixed_pos _ hn] at heq
    exact ⟨rfl, hn, heq.symm⟩
  · have : n = 0 := by omega
    subst this
    left
    rw [suffixed_zero, suffixed_pos _ hm] at heq
    exact ⟨rfl, hm, heq⟩
  · have hn0 : n = 0 := by omega
    have hm0 : m = 0 := by omega
    subst hn0 hm0
    rw [suffixed_zero, suffixed_zero] at heq
    exact absurd (h.distinct s t 0 hs ht heq) hne

theorem noSuffixShapedBase_spec {bases : List String} (h : noSuffixShapedBase bases = true)
    {b b' : String} (hb : b ∈ bases) (hb' : b' ∈ bases) {k : Nat} (hk1 : 1 ≤ k) (hk2 : k ≤ bases.length) :
    b ≠ b' ++ "_" ++ toString k := by
  simp only [noSuffixShapedBase, List.all_eq_true, List.mem_range, bne_iff_ne, ne_eq] at h
  have := h b hb b' hb' (k - 1) (by omega)
  rwa [show k - 1 + 1 = k by omega] at this

end Litex.Namer
