import LitexModel.Namer.Emit
/-
  The stable insertion sort of the emission model (`insertBy`, `isort`): it permutes its input, sorts it when the
  order is transitive and total, and leaves a sorted list alone.
-/
namespace Litex.Namer
open List

theorem insertBy_perm {α : Type} (le : α → α → Bool) (a : α) : ∀ l : List α, insertBy le a l ~ a :: l
  | [] => Perm.refl _
  | b :: l => by
    simp only [insertBy]
    split
    · exact Perm.refl _
    · exact ((insertBy_perm le a l).cons b).trans (Perm.swap a b l)

theorem isort_perm {α : Type} (le : α → α → Bool) : ∀ l : List α, isort le l ~ l
  | [] => Perm.refl _
  | a :: l => (insertBy_perm le a _).trans ((isort_perm le l).cons a)

theorem insertBy_pairwise {α : Type} {le : α → α → Bool}
    (trans : ∀ a b c, le a b = true → le b c = true → le a c = true)
    (total : ∀ a b, le a b = true ∨ le b a = true) (a : α) :
    ∀ l : List α, l.Pairwise (fun x y => le x y = true) → (insertBy le a l).Pairwise (fun x y => le x y = true)
  | [], _ => by simp [insertBy]
  | b :: l, h => by
    simp only [insertBy]
    split
    next hab =>
      refine Pairwise.cons ?_ h
      intro x hx
      rcases mem_cons.mp hx with rfl | hx
      · exact hab
      · exact trans _ _ _ hab (rel_of_pairwise_cons h hx)
    next hab =>
      have hba : le b a = true := by
        rcases total a b with h1 | h1
        · exact absurd h1 hab
        · exact h1
      refine Pairwise.cons ?_ (insertBy_pairwise trans total a l h.tail)
      intro x hx
      rcases mem_cons.mp ((insertBy_perm le a l).subset hx) with rfl | hx
      · exact hba
      · exact rel_of_pairwise_cons h hx

theorem isort_pairwise {α : Type} {le : α → α → Bool}
    (trans : ∀ a b c, le a b = true → le b c = true → le a c = true)
    (total : ∀ a b, le a b = true ∨ le b a = true) :
    ∀ l : List α, (isort le l).Pairwise (fun x y => le x y = true)
  | [] => Pairwise.nil
  | a :: l => insertBy_pairwise trans total a _ (isort_pairwise trans total l)

theorem isort_of_pairwise {α : Type} {le : α → α → Bool} :
    ∀ l : List α, l.Pairwise (fun x y => le x y = true) → isort le l = l
  | [], _ => rfl
  | a :: l, h => by
    rw [isort, isort_of_pairwise l h.tail]
    cases l with
    | nil => rfl
    | cons b l =>
      have : le a b = true := rel_of_pairwise_cons h mem_cons_self
      simp [insertBy, this]

end Litex.Namer
