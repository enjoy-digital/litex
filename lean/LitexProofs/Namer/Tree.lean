import LitexModel.Namer.Tree
import LitexProofs.Namer.Strings
/-
  Facts about the hierarchical naming stage (`Tree.lean`): every signal with a non-empty back-trace gets a
  non-empty name ending in its leaf step, names built from legal step names are legal, and the list-at-once
  functions executed by the driver equal the per-signal definitions the theorems are stated for.
-/
namespace Litex.Namer

theorem mem_child {node : List Path} {k : Key} {r : String} {rest : Path} (h : (k, r) :: rest ∈ node) :
    rest ∈ child node k := by
  simp only [child, List.mem_filterMap]
  exact ⟨(k, r) :: rest, h, by simp⟩

theorem hasOwn_of_nil_mem {node : List Path} (h : [] ∈ node) : hasOwn node = true := by
  simp only [hasOwn, List.any_eq_true]
  exact ⟨[], h, rfl⟩

theorem elems_subset (fuel : Nat) : ∀ (p : Path) (node : List Path), ∀ e ∈ elems fuel node p, e ∈ p.map (·.2)
  | [], _, e, h => by simp [elems] at h
  | (k, r) :: rest, node, e, h => by
    simp only [elems, List.mem_append] at h
    rcases h with h | h
    · split at h
      · simp only [List.mem_singleton] at h; simp [h]
      · simp at h
    · have := elems_subset fuel rest (child node k) e h
      simp only [List.map_cons, List.mem_cons]
      exact Or.inr this

/-- The node a signal ends in has signals of its own, so its step is used. -/
theorem elems_ne_nil (fuel : Nat) : ∀ (p : Path) (node : List Path), p ≠ [] → p ∈ node → elems fuel node p ≠ []
  | [], _, h, _ => absurd rfl h
  | [(k, r)], node, _, hm => by
    have : useName fuel node k = true := by
      simp only [useName, Bool.or_eq_true]
      exact Or.inl (hasOwn_of_nil_mem (mem_child hm))
    simp [elems, this]
  | (k, r) :: q :: rest, node, _, hm => by
    have ih := elems_ne_nil fuel (q :: rest) (child node k) (by simp) (mem_child hm)
    simp only [elems] at ih ⊢
    intro h
    exact ih (List.append_eq_nil_iff.mp h).2

theorem treeName_legal {paths : List Path} {p : Path} (hne : p ≠ []) (hm : p ∈ paths)
    (hl : ∀ kr ∈ p, isIdent kr.2 = true) : isIdent (treeName paths p) = true := by
  apply isIdent_intercalate (elems_ne_nil _ p paths hne hm)
  intro e he
  have := elems_subset _ p paths e he
  simp only [List.mem_map] at this
  obtain ⟨kr, hkr, rfl⟩ := this
  exact hl kr hkr

theorem keyedPath_ne_nil : ∀ (node : List (Bool × List Step)) (bt : List Step), bt ≠ [] → keyedPath node bt ≠ []
  | _, [], h => absurd rfl h
  | _, (_, _) :: _, _ => List.cons_ne_nil _ _

theorem keyedPath_legal : ∀ (node : List (Bool × List Step)) (bt : List Step),
    (∀ st ∈ bt, isIdent st.1 = true) → ∀ kr ∈ keyedPath node bt, isIdent kr.2 = true
  | _, [], _, kr, h => by simp [keyedPath] at h
  | node, (nm, num) :: rest, hl, kr, h => by
    simp only [keyedPath, List.mem_cons] at h
    have hnm : isIdent nm = true := hl (nm, num) (by simp)
    rcases h with h | h
    · split at h
      · rw [h]; exact isIdent_append_nat hnm _
      · rw [h]; exact hnm
    · exact keyedPath_legal _ rest (fun st hst => hl st (by simp [hst])) kr h

theorem pass2Name_legal {g : List GSig} {s : GSig} (hs : s ∈ g) (hne : s.bt ≠ [])
    (hl : ∀ st ∈ s.bt, isIdent st.1 = true) : isIdent (pass2Name g s) = true := by
  unfold pass2Name pass2With
  apply treeName_legal (keyedPath_ne_nil _ _ hne)
  · exact List.mem_map.mpr ⟨s, hs, rfl⟩
  · exact keyedPath_legal _ _ hl

theorem disambiguate_legal (nm : List (GSig × String)) (sn : GSig × String) (h : isIdent sn.2 = true) :
    isIdent (disambiguate nm sn) = true := by
  unfold disambiguate
  simp only
  split
  · exact isIdent_append_nat h _
  · exact h

theorem groupName_legal {g : List GSig} {s : GSig} (hs : s ∈ g) (hne : s.bt ≠ [])
    (hl : ∀ st ∈ s.bt, isIdent st.1 = true) : isIdent (groupName g s) = true :=
  disambiguate_legal _ _ (pass2Name_legal hs hne hl)

theorem named_eq (g : List GSig) : named g = g.map fun t => (t, pass2Name g t) := rfl

theorem groupNames_eq (g : List GSig) : groupNames g = g.map (groupName g) := by
  simp only [groupNames, named_eq, List.map_map]
  rfl

theorem depthOf_le (sigs : List Sig) : ∀ fuel i, depthOf sigs fuel i ≤ fuel
  | 0, _ => by simp [depthOf]
  | fuel + 1, i => by
    simp only [depthOf]
    split
    · split
      · have := depthOf_le sigs fuel ‹_›; omega
      · omega
    · omega

theorem mem_groupOf {sigs : List Sig} {i : Nat} {s : Sig} (h : sigs[i]? = some s) :
    s.g ∈ groupOf sigs (depthOf sigs sigs.length i) := by
  simp only [groupOf, List.mem_map, List.mem_filter]
  exact ⟨(s, i), ⟨List.mem_zipIdx_iff_getElem?.mpr h, by simp⟩, rfl⟩

theorem find_zip_map {α β : Type} [DecidableEq α] (f : α → β) (x : α) :
    ∀ (g : List α), x ∈ g → ((g.zip (g.map f)).find? fun e => e.1 == x).map (·.2) = some (f x)
  | [], h => by simp at h
  | a :: g, h => by
    by_cases hax : a = x
    · subst hax; simp
    · have hx : x ∈ g := by
        rcases List.mem_cons.mp h with h | h
        · exact absurd h.symm hax
        · exact h
      have : (a == x) = false := by simpa using hax
      simp only [List.map_cons, List.zip_cons_cons, List.find?_cons, this]
      exact find_zip_map f x g hx

theorem localNames_getElem? (sigs : List Sig) (i : Nat) (hi : i < sigs.length) :
    (localNames sigs)[i]? = some (localName sigs i) := by
  obtain ⟨s, hs⟩ : ∃ s, sigs[i]? = some s := ⟨sigs[i], by simp [hi]⟩
  have hd : depthOf sigs sigs.length i < sigs.length + 1 := Nat.lt_succ_of_le (depthOf_le sigs sigs.length i)
  simp only [localNames, List.getElem?_map, List.getElem?_range hi, Option.map_some, hs, localName,
    List.getElem?_range hd, groupNames_eq, find_zip_map _ s.g _ (mem_groupOf hs), Option.getD_some]

theorem hierName_congr (sigs : List Sig) (loc₁ loc₂ : Nat → String)
    (h : ∀ j, j < sigs.length → loc₁ j = loc₂ j) :
    ∀ fuel i, hierName sigs loc₁ fuel i = hierName sigs loc₂ fuel i
  | 0, _ => rfl
  | fuel + 1, i => by
    simp only [hierName]
    cases hs : sigs[i]? with
    | none => rfl
    | some s =>
      have hi : i < sigs.length := by
        rcases Nat.lt_or_ge i sigs.length with h | h
        · exact h
        · simp [List.getElem?_eq_none h] at hs
      simp only [h i hi, hierName_congr sigs loc₁ loc₂ h fuel]

theorem dictList_getElem? (sigs : List Sig) (i : Nat) (hi : i < sigs.length) :
    (dictList sigs)[i]? = some (buildDict sigs i) := by
  simp only [dictList, buildDict, List.getElem?_map, List.getElem?_range hi, Option.map_some]
  congr 1
  apply hierName_congr
  intro j hj
  simp [localNames_getElem? sigs j hj]

theorem dictList_length (sigs : List Sig) : (dictList sigs).length = sigs.length := by
  simp [dictList]

theorem baseList_getElem? (sigs : List Sig) (i : Nat) (hi : i < sigs.length) :
    (baseList sigs)[i]? = some (baseOf sigs i) := by
  have h1 : sigs[i]? = some sigs[i] := by simp [hi]
  have hz : (sigs.zip (dictList sigs))[i]? = some (sigs[i], buildDict sigs i) :=
    List.getElem?_zip_eq_some.mpr ⟨h1, dictList_getElem? sigs i hi⟩
  simp only [baseList, List.getElem?_map, hz, Option.map_some, baseOf, h1]

/-- Side condition: every signal has a non-empty back-trace whose step names are legal identifiers (what
    Migen's tracer and `Signal(name=…)` produce), and legal `name_override`s. -/
def LegalSigs (sigs : List Sig) : Prop :=
  ∀ s ∈ sigs, s.bt ≠ [] ∧ (∀ st ∈ s.bt, isIdent st.1 = true) ∧ ∀ o, s.override = some o → isIdent o = true

theorem localName_legal {sigs : List Sig} (h : LegalSigs sigs) {i : Nat} (hi : i < sigs.length) :
    isIdent (localName sigs i) = true := by
  have hs : sigs[i]? = some sigs[i] := by simp [hi]
  have hm : sigs[i] ∈ sigs := List.getElem_mem hi
  simp only [localName, hs]
  exact groupName_legal (mem_groupOf hs) (h _ hm).1 (h _ hm).2.1

/-- `p = ""`: the prefix of `hierName` when the fuel has run out. -/
theorem isIdent_prefixed {p a : String} (hp : p = "" ∨ isIdent p = true) (ha : isIdent a = true) :
    isIdent (p ++ "_" ++ a) = true := by
  rcases hp with rfl | hp
  · rw [isIdent, String.toList_append]
    exact isIdentL_append (by decide) (all_isIdChar_of_isIdentL ha)
  · exact isIdent_join hp ha

theorem hierName_legal {sigs : List Sig} {loc : Nat → String}
    (hloc : ∀ j, j < sigs.length → isIdent (loc j) = true) :
    ∀ fuel i, hierName sigs loc fuel i = "" ∨ isIdent (hierName sigs loc fuel i) = true
  | 0, _ => Or.inl rfl
  | fuel + 1, i => by
    rw [hierName]
    split
    · exact Or.inl rfl
    · rename_i s hs
      have hi : i < sigs.length := (List.getElem?_eq_some_iff.mp hs).1
      split
      · exact Or.inr (isIdent_prefixed (hierName_legal hloc fuel _) (hloc i hi))
      · exact Or.inr (hloc i hi)

theorem buildDict_isIdent {sigs : List Sig} (h : LegalSigs sigs) {i : Nat} (hi : i < sigs.length) :
    isIdent (buildDict sigs i) = true := by
  have hs : sigs[i]? = some sigs[i] := by simp [hi]
  rcases hierName_legal (sigs := sigs) (loc := localName sigs) (fun j hj => localName_legal h hj)
      (sigs.length + 1) i with h0 | h1
  · exfalso
    have hl := localName_legal h hi
    simp only [hierName, hs] at h0
    split at h0
    · have := congrArg String.toList h0
      simp [String.toList_append] at this
    · rw [h0] at hl
      exact absurd hl (by decide)
  · exact h1

theorem baseOf_legal {sigs : List Sig} (h : LegalSigs sigs) {i : Nat} (hi : i < sigs.length) :
    isIdent (baseOf sigs i) = true := by
  have hs : sigs[i]? = some sigs[i] := by simp [hi]
  have hm : sigs[i] ∈ sigs := List.getElem_mem hi
  simp only [baseOf, hs]
  cases ho : sigs[i].override with
  | none => simpa using buildDict_isIdent h hi
  | some o => simpa using (h _ hm).2.2 o ho

/-- The base name `namespaceAnswers` reads at request index `i`: a signal's below `sigs.length`, an extra object's above. -/
theorem bases_getD_legal {sigs : List Sig} {extra : List String} (hsigs : LegalSigs sigs)
    (hextra : ∀ e ∈ extra, isIdent e = true) {i : Nat} (hi : i < sigs.length + extra.length) :
    isIdent ((baseList sigs ++ extra)[i]?.getD "") = true := by
  have hlen : (baseList sigs).length = sigs.length := by simp [baseList, dictList_length]
  by_cases hlt : i < sigs.length
  · rw [List.getElem?_append_left (hlen ▸ hlt), baseList_getElem? sigs i hlt]
    exact baseOf_legal hsigs hlt
  · have hidx : i - (baseList sigs).length < extra.length := by rw [hlen]; omega
    rw [List.getElem?_append_right (hlen ▸ Nat.le_of_not_lt hlt), List.getElem?_eq_getElem hidx]
    exact hextra _ (List.getElem_mem _)

end Litex.Namer
