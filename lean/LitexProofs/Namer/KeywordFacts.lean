import LitexModel.Namer.Ident
import LitexModel.Namer.Ieee1364
import LitexModel.Generated.Keywords
/-
  Kernel-checked facts about the regenerated keyword table.

  For the kernel, decoding a string literal (`String.toList`: UTF-8 validation and decoding of a byte array) is about
  ten times as much work as handing out its bytes (`String.toByteArray`), and dominates these checks.  The table is
  ASCII, so its characters are read off the bytes (`byteChars`); `toList_eq_byteChars` says that for an ASCII string
  this reading is `String.toList`.
-/
namespace Litex.Namer

def byteChars (s : String) : List Char := s.toByteArray.data.toList.map fun b => Char.ofNat b.toNat

theorem ofByte_spec (b : UInt8) (h : b < 128) :
    (Char.ofNat b.toNat).utf8Size = 1 ∧ (Char.ofNat b.toNat).val.toUInt8 = b := by
  have hb : b.toNat < 128 := UInt8.lt_iff_toNat_lt.mp h
  have hv : (Char.ofNat b.toNat).val = b.toUInt32 := by
    simp only [Char.ofNat, Nat.isValidChar, show b.toNat < 55296 by omega, true_or, ↓reduceDIte, Char.ofNatAux,
      UInt32.ofBitVec_ofNatLT, UInt32.ofNatLT_uInt8ToNat]
  rw [Char.utf8Size_eq_one_iff, hv, UInt32.le_iff_toNat_le, UInt8.toNat_toUInt32, UInt8.toUInt8_toUInt32]
  exact ⟨Nat.le_of_lt_succ hb, rfl⟩

theorem utf8Encode_ofBytes : ∀ bs : List UInt8, (∀ b ∈ bs, b < 128) →
    (bs.map fun b => Char.ofNat b.toNat).utf8Encode = ⟨bs.toArray⟩
  | [], _ => rfl
  | b :: bs, h => by
    obtain ⟨h1, h2⟩ := ofByte_spec b (h b List.mem_cons_self)
    rw [List.map_cons, List.utf8Encode_cons, List.utf8Encode_singleton, String.utf8EncodeChar_eq_singleton h1, h2,
      utf8Encode_ofBytes bs fun x hx => h x (List.mem_cons_of_mem _ hx)]
    rfl

theorem toList_eq_byteChars {s : String} (h : ∀ b ∈ s.toByteArray.data.toList, b < 128) :
    s.toList = byteChars s := by
  -- a string is determined by its bytes, and `String.ofList` of the characters read has the same bytes
  have : s = String.ofList (byteChars s) := by
    rw [← String.toByteArray_inj, String.toByteArray_ofList, byteChars, utf8Encode_ofBytes _ h]
  rw [this, String.toList_ofList, ← this]

/-- What the kernel runs over the table: every entry consists of ASCII bytes, and the characters these bytes denote
    form an identifier that does not end in `_<digits>` (`kwWellformed`, with `byteChars` for `String.toList`). -/
def kwWellformedB (kw : List String) : Bool :=
  kw.all fun k => k.toByteArray.data.toList.all (· < 128) && isIdentL (byteChars k) && !endsInSuffixL (byteChars k)

theorem kwWellformed_of_bytes {kw : List String} (h : kwWellformedB kw = true) : kwWellformed kw = true := by
  simp only [kwWellformedB, kwWellformed, List.all_eq_true, Bool.and_eq_true, decide_eq_true_eq] at h ⊢
  intro k hk
  obtain ⟨⟨he, h1⟩, h2⟩ := h k hk
  rw [isIdent, endsInSuffix, toList_eq_byteChars he]
  exact ⟨h1, h2⟩

theorem keywords_wellformed_table : kwWellformed keywords = true :=
  kwWellformed_of_bytes (by decide +kernel)

/- Both lists are alphabetical, except that the standard puts `pulsestyle_onevent` (its 77th word) before
   `pulsestyle_ondetect`: hence the split at 77.  Each of the two alphabetical runs is a sublist of the table,
   which one pass over the table checks. -/
theorem keywords_cover_1364_table : ∀ k ∈ ieee1364_2005, k ∈ keywords := by
  have h : (ieee1364_2005.take 77).Sublist keywords ∧ (ieee1364_2005.drop 77).Sublist keywords := by
    decide +kernel
  intro k hk
  rw [← List.take_append_drop 77 ieee1364_2005, List.mem_append] at hk
  exact hk.elim (h.1.subset ·) (h.2.subset ·)

end Litex.Namer
