import LitexModel.Namer.Core
/-
  String facts behind C02: the shape of a suffixed name, its injectivity, legality of joined/suffixed names.
  Everything is proved on `String.toList`.
-/
namespace Litex.Namer

theorem toList_toString_nat (n : Nat) : (toString n).toList = Nat.toDigits 10 n := by
  rw [Nat.toString_eq_repr, Nat.toList_repr]

theorem suffixed_zero (b : String) : suffixed b 0 = b := by simp [suffixed]

theorem suffixed_pos (b : String) {n : Nat} (h : 0 < n) : suffixed b n = b ++ "_" ++ toString n := by
  simp [suffixed, h]

theorem toList_suffixed_pos (b : String) {n : Nat} (h : 0 < n) :
    (suffixed b n).toList = b.toList ++ '_' :: Nat.toDigits 10 n := by
  rw [suffixed_pos b h]
  simp [String.toList_append]

theorem toDigits_inj {n m : Nat} (h : Nat.toDigits 10 n = Nat.toDigits 10 m) : n = m := by
  have hn := Nat.ofDigitChars_ten_toDigits (n := n)
  have hm := Nat.ofDigitChars_ten_toDigits (n := m)
  rw [h] at hn
  omega

theorem append_toString_inj {p : String} {n n' : Nat} (h : p ++ toString n = p ++ toString n') : n = n' := by
  have := congrArg String.toList h
  simp only [String.toList_append, List.append_cancel_left_eq, toList_toString_nat] at this
  exact toDigits_inj this

theorem split_unique {α : Type} {a : α} :
    ∀ {l₁ l₂ r₁ r₂ : List α}, l₁ ++ a :: r₁ = l₂ ++ a :: r₂ → a ∉ r₁ → a ∉ r₂ → l₁ = l₂ ∧ r₁ = r₂
  | [], [], _, _, h, _, _ => by simp_all
  | [], y :: l₂, r₁, r₂, h, h₁, _ => by
    simp only [List.nil_append, List.cons_append, List.cons.injEq] at h
    exact absurd (h.2 ▸ (by simp : a ∈ l₂ ++ a :: r₂)) h₁
  | x :: l₁, [], r₁, r₂, h, _, h₂ => by
    simp only [List.nil_append, List.cons_append, List.cons.injEq] at h
    exact absurd (h.2 ▸ (by simp : a ∈ l₁ ++ a :: r₁)) h₂
  | x :: l₁, y :: l₂, r₁, r₂, h, h₁, h₂ => by
    simp only [List.cons_append, List.cons.injEq] at h
    obtain ⟨hl, hr⟩ := split_unique h.2 h₁ h₂
    exact ⟨by rw [h.1, hl], hr⟩

theorem suffixed_inj_pos {b b' : String} {n m : Nat} (hn : 0 < n) (hm : 0 < m)
    (h : suffixed b n = suffixed b' m) : b = b' ∧ n = m := by
  have h' := congrArg String.toList h
  rw [toList_suffixed_pos b hn, toList_suffixed_pos b' hm] at h'
  obtain ⟨hb, hd⟩ := split_unique h' Nat.underscore_not_in_toDigits Nat.underscore_not_in_toDigits
  exact ⟨String.toList_inj.mp hb, toDigits_inj hd⟩

theorem takeWhile_append_stop {α : Type} (p : α → Bool) (l r : List α) (a : α)
    (hl : ∀ x ∈ l, p x = true) (ha : p a = false) : (l ++ a :: r).takeWhile p = l := by
  induction l with
  | nil => simp [ha]
  | cons x l ih =>
    have hx : p x = true := hl x (by simp)
    simp only [List.cons_append, List.takeWhile_cons, hx, if_true]
    rw [ih (fun y hy => hl y (by simp [hy]))]

theorem endsInSuffix_suffixed (b : String) {n : Nat} (h : 0 < n) : endsInSuffix (suffixed b n) = true := by
  unfold endsInSuffix endsInSuffixL
  rw [toList_suffixed_pos b h]
  have hrev : (b.toList ++ '_' :: Nat.toDigits 10 n).reverse
      = (Nat.toDigits 10 n).reverse ++ '_' :: b.toList.reverse := by simp
  rw [hrev]
  have htw : ((Nat.toDigits 10 n).reverse ++ '_' :: b.toList.reverse).takeWhile Char.isDigit
      = (Nat.toDigits 10 n).reverse := by
    apply takeWhile_append_stop
    · intro x hx
      exact Nat.isDigit_of_mem_toDigits (by decide) (by decide) (List.mem_reverse.mp hx)
    · decide
  simp only [htw]
  have hne : (Nat.toDigits 10 n).reverse ≠ [] := by simp [Nat.toDigits_ne_nil]
  simp

theorem suffixed_not_mem_kw {kw : List String} (hw : kwWellformed kw = true) (b : String) {n : Nat} (h : 0 < n) :
    suffixed b n ∉ kw := fun hk => by
  simp only [kwWellformed, List.all_eq_true, Bool.and_eq_true, Bool.not_eq_true'] at hw
  have h2 := (hw _ hk).2
  rw [endsInSuffix_suffixed b h] at h2
  cases h2

theorem isIdChar_of_isIdStart {c : Char} (h : isIdStart c = true) : isIdChar c = true := by
  simp only [isIdStart, isIdChar, Char.isAlphanum, Bool.or_eq_true] at *
  rcases h with h | h
  · exact Or.inl (Or.inl h)
  · exact Or.inr h

theorem isIdChar_of_isDigit {c : Char} (h : c.isDigit = true) : isIdChar c = true := by
  simp [isIdChar, Char.isAlphanum, h]

theorem isIdentL_iff {l : List Char} :
    isIdentL l = true ↔ ∃ c cs, l = c :: cs ∧ isIdStart c = true ∧ ∀ x ∈ cs, isIdChar x = true := by
  cases l with
  | nil => simp [isIdentL]
  | cons c cs =>
    simp only [isIdentL, List.all_eq_true, Bool.and_eq_true]
    constructor
    · rintro ⟨h1, h2⟩
      exact ⟨c, cs, rfl, h1, h2⟩
    · rintro ⟨c', cs', h, h1, h2⟩
      cases h
      exact ⟨h1, h2⟩

theorem all_isIdChar_of_isIdentL {l : List Char} (h : isIdentL l = true) : ∀ x ∈ l, isIdChar x = true := by
  obtain ⟨c, cs, rfl, hc, hcs⟩ := isIdentL_iff.mp h
  intro x hx
  rcases List.mem_cons.mp hx with rfl | hx
  · exact isIdChar_of_isIdStart hc
  · exact hcs x hx

theorem isIdentL_append {l r : List Char} (h : isIdentL l = true) (hr : ∀ x ∈ r, isIdChar x = true) :
    isIdentL (l ++ r) = true := by
  obtain ⟨c, cs, rfl, hc, hcs⟩ := isIdentL_iff.mp h
  refine isIdentL_iff.mpr ⟨c, cs ++ r, by simp, hc, ?_⟩
  intro x hx
  rcases List.mem_append.mp hx with hx | hx
  · exact hcs x hx
  · exact hr x hx

theorem isIdent_append_chars {a : String} (ha : isIdent a = true) (r : String)
    (hr : ∀ x ∈ r.toList, isIdChar x = true) : isIdent (a ++ r) = true := by
  unfold isIdent at *
  rw [String.toList_append]
  exact isIdentL_append ha hr

theorem isIdChar_of_mem_toDigits {n : Nat} {x : Char} (hx : x ∈ Nat.toDigits 10 n) : isIdChar x = true :=
  isIdChar_of_isDigit (Nat.isDigit_of_mem_toDigits (by decide) (by decide) hx)

/-- `name + str(k)`: element index, DUID rank. -/
theorem isIdent_append_nat {a : String} (ha : isIdent a = true) (k : Nat) :
    isIdent (a ++ toString k) = true :=
  isIdent_append_chars ha _ fun _ hx => isIdChar_of_mem_toDigits (toList_toString_nat k ▸ hx)

/-- `f"{a}_{b}"` -/
theorem isIdent_join {a b : String} (ha : isIdent a = true) (hb : isIdent b = true) :
    isIdent (a ++ "_" ++ b) = true :=
  isIdent_append_chars (isIdent_append_chars ha "_" (by decide)) b (all_isIdChar_of_isIdentL hb)

/-- `sig_name += f"_{n}"` -/
theorem isIdent_suffixed {b : String} (h : isIdent b = true) (n : Nat) : isIdent (suffixed b n) = true := by
  unfold suffixed
  split
  · exact isIdent_append_nat (isIdent_append_chars h "_" (by decide)) n
  · exact h

/-- `"_".join(elements)` -/
theorem isIdent_intercalate : ∀ {l : List String}, l ≠ [] → (∀ e ∈ l, isIdent e = true) →
    isIdent ("_".intercalate l) = true
  | [e], _, h => by simpa using h e (by simp)
  | e :: f :: l, _, h => by
    rw [String.intercalate_cons_cons]
    have ih := isIdent_intercalate (l := f :: l) (by simp) (fun x hx => h x (by simp [hx]))
    exact isIdent_join (h e (by simp)) ih

end Litex.Namer
