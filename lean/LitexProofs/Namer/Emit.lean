import LitexProofs.Namer.Fixed
import LitexModel.Namer.Emit
import LitexProofs.Namer.Sort
/-
  C02 — lemmas about `LitexModel/Namer/Emit.lean`, in its order: sorted emission (a stable sort of a permutation
  gives the same list when the keys identify the elements; `strLe`, `natLe`, `AVal.le`, `keyLe` are total orders;
  attribute keys identify well-formed attributes), ClockSignal/ResetSignal resolution (`resolve_*_sound`), the IO
  naming step (`ioOverride_*`), legality of the base names of the generated identifier classes (`Obj.base_legal`).
-/
namespace Litex.Namer
open List

theorem sortedBy_pairwise {α κ : Type} {leK : κ → κ → Bool} {key : α → κ}
    (trans : ∀ a b c, leK a b = true → leK b c = true → leK a c = true)
    (total : ∀ a b, leK a b = true ∨ leK b a = true) (l : List α) :
    (sortedBy leK key l).Pairwise (fun a b => leK (key a) (key b) = true) :=
  isort_pairwise (le := fun a b => leK (key a) (key b)) (fun _ _ _ => trans _ _ _) (fun _ _ => total _ _) l

theorem sortedBy_perm {α κ : Type} {leK : κ → κ → Bool} {key : α → κ}
    (trans : ∀ a b c, leK a b = true → leK b c = true → leK a c = true)
    (total : ∀ a b, leK a b = true ∨ leK b a = true)
    (antisymm : ∀ a b, leK a b = true → leK b a = true → a = b)
    {l₁ l₂ : List α} (h : l₁ ~ l₂) (hinj : ∀ a ∈ l₁, ∀ b ∈ l₁, key a = key b → a = b) :
    sortedBy leK key l₁ = sortedBy leK key l₂ := by
  refine Perm.eq_of_pairwise ?_ (sortedBy_pairwise trans total l₁) (sortedBy_pairwise trans total l₂)
    ((isort_perm _ l₁).trans (h.trans (isort_perm _ l₂).symm))
  intro a b ha hb hab hba
  exact hinj a ((isort_perm _ l₁).subset ha) b (h.symm.subset ((isort_perm _ l₂).subset hb))
    (antisymm _ _ hab hba)

theorem sortedBy_perm_list {α κ : Type} (leK : κ → κ → Bool) (key : α → κ) (l : List α) :
    sortedBy leK key l ~ l := isort_perm _ l

theorem strLe_trans (a b c : String) : strLe a b = true → strLe b c = true → strLe a c = true := by
  simp only [strLe, decide_eq_true_eq]; exact String.le_trans
theorem strLe_total (a b : String) : strLe a b = true ∨ strLe b a = true := by
  simp only [strLe, decide_eq_true_eq]; exact String.le_total a b
theorem strLe_antisymm (a b : String) : strLe a b = true → strLe b a = true → a = b := by
  simp only [strLe, decide_eq_true_eq]; exact String.le_antisymm

theorem natLe_trans (a b c : Nat) : natLe a b = true → natLe b c = true → natLe a c = true := by
  simp only [natLe, decide_eq_true_eq]; exact Nat.le_trans
theorem natLe_total (a b : Nat) : natLe a b = true ∨ natLe b a = true := by
  simp only [natLe, decide_eq_true_eq]; exact Nat.le_total a b
theorem natLe_antisymm (a b : Nat) : natLe a b = true → natLe b a = true → a = b := by
  simp only [natLe, decide_eq_true_eq]; exact Nat.le_antisymm

theorem AVal.le_trans : ∀ a b c : AVal, AVal.le a b = true → AVal.le b c = true → AVal.le a c = true
  | .str _, .str _, .str _ => strLe_trans _ _ _
  | .int _, .int _, .int _ => by simp only [AVal.le, decide_eq_true_eq]; exact Int.le_trans
  | .str _, _, .int _ => fun _ _ => rfl
  | .str _, .int _, .str _ => nofun
  | .int _, .str _, _ => nofun
  | .int _, .int _, .str _ => nofun
theorem AVal.le_total : ∀ a b : AVal, AVal.le a b = true ∨ AVal.le b a = true
  | .str _, .str _ => strLe_total _ _
  | .int a, .int b => by simp only [AVal.le, decide_eq_true_eq]; exact Int.le_total a b
  | .str _, .int _ => Or.inl rfl
  | .int _, .str _ => Or.inr rfl
theorem AVal.le_antisymm : ∀ a b : AVal, AVal.le a b = true → AVal.le b a = true → a = b
  | .str _, .str _ => fun h1 h2 => congrArg _ (strLe_antisymm _ _ h1 h2)
  | .int _, .int _ => fun h1 h2 => congrArg _ (Int.le_antisymm (of_decide_eq_true h1) (of_decide_eq_true h2))
  | .str _, .int _ => nofun
  | .int _, .str _ => nofun

theorem keyLe_trans (a b c : String × AVal) : keyLe a b = true → keyLe b c = true → keyLe a c = true := by
  unfold keyLe
  intro h1 h2
  by_cases hab : a.1 = b.1 <;> by_cases hbc : b.1 = c.1
  · rw [if_pos hab] at h1; rw [if_pos hbc] at h2; rw [if_pos (hab.trans hbc)]
    exact AVal.le_trans _ _ _ h1 h2
  · rw [if_neg hbc] at h2
    have : ¬ a.1 = c.1 := by rw [hab]; exact hbc
    rw [if_neg this, hab]; exact h2
  · rw [if_neg hab] at h1
    have : ¬ a.1 = c.1 := by rw [← hbc]; exact hab
    rw [if_neg this, ← hbc]; exact h1
  · rw [if_neg hab] at h1; rw [if_neg hbc] at h2
    have h3 := strLe_trans _ _ _ h1 h2
    by_cases hac : a.1 = c.1
    · exfalso
      rw [← hac] at h2
      exact hab (strLe_antisymm _ _ h1 h2)
    · rw [if_neg hac]; exact h3

theorem keyLe_total (a b : String × AVal) : keyLe a b = true ∨ keyLe b a = true := by
  unfold keyLe
  by_cases hab : a.1 = b.1
  · simp only [hab, if_true]; exact AVal.le_total _ _
  · have : ¬ b.1 = a.1 := fun h => hab h.symm
    simp only [hab, this, if_false]; exact strLe_total _ _

theorem keyLe_antisymm (a b : String × AVal) : keyLe a b = true → keyLe b a = true → a = b := by
  unfold keyLe
  intro h1 h2
  by_cases hab : a.1 = b.1
  · simp only [hab, if_true] at h1 h2
    exact Prod.ext hab (AVal.le_antisymm _ _ h1 h2)
  · have : ¬ b.1 = a.1 := fun h => hab h.symm
    simp only [hab, this, if_false] at h1 h2
    exact absurd (strLe_antisymm _ _ h1 h2) hab

theorem Attr.key_inj {a b : Attr} (ha : a.named = true) (hb : b.named = true) (h : a.key = b.key) : a = b := by
  cases a <;> cases b <;> simp_all [Attr.key, Attr.named]

theorem resolve_clk_sound {cds : List Cd} {c : String} {i : Nat} (h : resolve cds (.clk c) = some i) :
    ∃ d ∈ cds, d.name = c ∧ d.clk = i := by
  simp only [resolve, Option.map_eq_some_iff] at h
  obtain ⟨d, hd, rfl⟩ := h
  exact ⟨d, List.mem_of_find?_eq_some hd, by simpa using List.find?_some hd, rfl⟩

theorem resolve_rst_sound {cds : List Cd} {c : String} {i : Nat} (h : resolve cds (.rst c) = some i) :
    ∃ d ∈ cds, d.name = c ∧ d.rst = some i := by
  simp only [resolve, Option.bind_eq_some_iff] at h
  obtain ⟨d, hd, hr⟩ := h
  exact ⟨d, List.mem_of_find?_eq_some hd, by simpa using List.find?_some hd, hr⟩

theorem ioOverride_cases (s : Sig) :
    (ioOverride s = s ∧ ((∃ o, s.override = some o) ∨ s.bt.getLast? = none ∨ ∃ k, s.bt.getLast? = some ("", k))) ∨
    (∃ n k, s.override = none ∧ s.bt.getLast? = some (n, k) ∧ n ≠ "" ∧ ioOverride s = { s with override := some n }) := by
  unfold ioOverride
  cases ho : s.override with
  | some o => exact Or.inl ⟨rfl, Or.inl ⟨o, rfl⟩⟩
  | none =>
    cases hl : s.bt.getLast? with
    | none => exact Or.inl ⟨rfl, Or.inr (Or.inl rfl)⟩
    | some st =>
      obtain ⟨n, k⟩ := st
      by_cases hn : n = ""
      · subst hn; exact Or.inl ⟨by simp, Or.inr (Or.inr ⟨k, rfl⟩)⟩
      · exact Or.inr ⟨n, k, rfl, rfl, hn, by simp [hn]⟩

theorem ioOverride_idem (s : Sig) : ioOverride (ioOverride s) = ioOverride s := by
  rcases ioOverride_cases s with ⟨h, _⟩ | ⟨n, k, _, _, _, h⟩
  · rw [h, h]
  · rw [h]; simp [ioOverride]

theorem ioOverride_override (s : Sig) :
    (ioOverride s).override =
      match s.override with
      | some o => some o
      | none => match s.bt.getLast? with
        | some (n, _) => if n = "" then none else some n
        | none => none := by
  unfold ioOverride
  cases ho : s.override with
  | some o => simp [ho]
  | none =>
    cases hl : s.bt.getLast? with
    | none => simp [ho]
    | some st =>
      obtain ⟨n, k⟩ := st
      by_cases hn : n = "" <;> simp [ho, hn]

theorem ioOverride_legal {s : Sig}
    (h : s.bt ≠ [] ∧ (∀ st ∈ s.bt, isIdent st.1 = true) ∧ ∀ o, s.override = some o → isIdent o = true) :
    (ioOverride s).bt ≠ [] ∧ (∀ st ∈ (ioOverride s).bt, isIdent st.1 = true) ∧
      ∀ o, (ioOverride s).override = some o → isIdent o = true := by
  rcases ioOverride_cases s with ⟨he, _⟩ | ⟨n, k, _, hl, _, he⟩ <;> rw [he]
  · exact h
  · exact ⟨h.1, h.2.1, fun o ho => by cases ho; exact h.2.1 (n, k) (List.mem_of_getLast? hl)⟩

theorem adrBase_legal {m : String} (h : isIdent m = true) (n : Nat) : isIdent (adrBase m n) = true := by
  unfold adrBase
  exact isIdent_append_nat (isIdent_append_chars h "_adr" (by decide)) n

theorem datBase_legal {m : String} (h : isIdent m = true) (n : Nat) : isIdent (datBase m n) = true := by
  unfold datBase
  exact isIdent_append_nat (isIdent_append_chars h "_dat" (by decide)) n

theorem cdClkBase_legal {c : String} (h : isIdent c = true) : isIdent (cdClkBase c) = true :=
  isIdent_append_chars h "_clk" (by decide)

theorem cdRstBase_legal {c : String} (h : isIdent c = true) : isIdent (cdRstBase c) = true :=
  isIdent_append_chars h "_rst" (by decide)

theorem Obj.base_legal {o : Obj} (h : o.legal = true) : isIdent o.base = true := by
  cases o <;> simp only [Obj.legal] at h <;> simp only [Obj.base]
  · exact h
  · exact h
  · exact h
  · exact adrBase_legal h _
  · exact datBase_legal h _
  · exact cdClkBase_legal h
  · exact cdRstBase_legal h

end Litex.Namer
