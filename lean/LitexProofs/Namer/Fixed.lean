import LitexProofs.Namer.Policy
import Batteries.Data.List.Perm
/-
  The repaired `get_name` (`getNameFixed`, the method in the tree): every issued identifier was not a dictionary key before and is one
  afterwards — hence identifiers are pairwise distinct and never reserved, for every input.
-/
namespace Litex.Namer

variable {kw : List String} {base : SigId → String}

theorem used_iff_mem {ns : NsF} {b : String} : ns.used b = true ↔ b ∈ ns.counts.map Prod.fst := by
  simp only [NsF.used, List.lookup_isSome_iff, beq_iff_eq, List.mem_map]
  constructor
  · rintro ⟨p, hp, rfl⟩; exact ⟨p, hp, rfl⟩
  · rintro ⟨p, hp, rfl⟩; exact ⟨p, hp, rfl⟩

/-- Clauses 1–3: the loop never decreases, keeps 0, keeps positivity.  The last one speaks of the candidate the loop
    stops at as well: it may stop for lack of fuel, on a used one. -/
theorem skipUsed_spec (ns : NsF) (b : String) : ∀ fuel n,
    n ≤ skipUsed ns b fuel n ∧ (n = 0 → skipUsed ns b fuel n = 0) ∧ (0 < n → 0 < skipUsed ns b fuel n) ∧
    (0 < n → ns.used (suffixed b (skipUsed ns b fuel n)) = true →
      ∀ i, i ≤ fuel → ns.used (suffixed b (n + i)) = true)
  | 0, n => ⟨Nat.le_refl n, id, id, fun _ h i hi => by rw [Nat.le_zero.mp hi]; exact h⟩
  | fuel + 1, n => by
    rw [skipUsed]
    split
    · rename_i hu
      rw [Bool.and_eq_true, decide_eq_true_eq] at hu
      obtain ⟨h1, -, h3, h4⟩ := skipUsed_spec ns b fuel (n + 1)
      refine ⟨Nat.le_of_succ_le h1, fun h0 => absurd hu.1 (h0 ▸ Nat.lt_irrefl 0), fun _ => h3 (Nat.succ_pos n),
        fun _ h i hi => ?_⟩
      cases i with
      | zero => exact hu.2
      | succ i => exact Nat.add_right_comm n 1 i ▸ h4 (Nat.succ_pos n) h i (Nat.le_of_succ_le_succ hi)
    · rename_i hu
      exact ⟨Nat.le_refl n, id, id, fun hn h => absurd (Bool.and_eq_true _ _ ▸ ⟨decide_eq_true hn, h⟩) hu⟩

/-- Pigeonhole: the loop always ends on a free candidate (or on 0). -/
theorem skipUsed_free (ns : NsF) (b : String) (n : Nat) :
    let n' := skipUsed ns b (ns.counts.length + 1) n
    n ≤ n' ∧ (0 < n → 0 < n' ∧ ns.used (suffixed b n') = false) ∧ (n = 0 → n' = 0) := by
  intro n'
  obtain ⟨h1, h2, h3, h4⟩ := skipUsed_spec ns b (ns.counts.length + 1) n
  refine ⟨h1, fun hn => ⟨h3 hn, ?_⟩, h2⟩
  cases hu : ns.used (suffixed b n') with
  | false => rfl
  | true =>
    exfalso
    -- otherwise `ns.counts.length + 2` distinct candidates are keys
    let cand : List String := (List.range (ns.counts.length + 2)).map fun i => suffixed b (n + i)
    have hsub : cand ⊆ ns.counts.map Prod.fst := by
      intro x hx
      simp only [cand, List.mem_map, List.mem_range] at hx
      obtain ⟨i, hi, rfl⟩ := hx
      exact used_iff_mem.mp (h4 hn hu i (Nat.le_of_lt_succ hi))
    have hnodup : cand.Nodup := by
      simp only [cand, List.Nodup, List.pairwise_map]
      refine List.Pairwise.imp ?_ (List.nodup_range (n := ns.counts.length + 2))
      intro i j hij heq
      have := (suffixed_inj_pos (by omega) (by omega) heq).2
      omega
    have hlen := (List.subperm_of_subset hnodup hsub).length_le
    simp [cand] at hlen
    omega
/-- Invariant of the repaired namespace.  `issued_used` is its heart: every issued identifier is a dictionary key.
    The loop hands out only identifiers that are not keys (`fresh_not_used`), so a new identifier differs from all
    issued ones (`distinct`) and from the keywords, which are keys from the start (`kw_used`, `not_kw`). -/
structure InvF (kw : List String) (base : SigId → String) (ns : NsF) : Prop where
  issued_used : ∀ s n, ns.sigs.lookup s = some n → ns.used (suffixed (base s) n) = true
  /-- stored counters are positive (so `counts.get(b, 0) = 0` iff `b` is not a key) -/
  pos : ∀ b v, ns.counts.lookup b = some v → 1 ≤ v
  distinct : ∀ s t n m, ns.sigs.lookup s = some n → ns.sigs.lookup t = some m →
    suffixed (base s) n = suffixed (base t) m → s = t
  kw_used : ∀ k, k ∈ kw → ns.used k = true
  not_kw : ∀ s n, ns.sigs.lookup s = some n → suffixed (base s) n ∉ kw

theorem InvF.init : InvF kw base (NsF.init kw) where
  issued_used := by intro s n h; simp [NsF.init] at h
  pos := by
    intro b v h
    simp only [NsF.init] at h
    obtain ⟨l₁, l₂, hl, -⟩ := List.lookup_eq_some_iff.mp h
    have : (b, v) ∈ kw.map fun k => (k, 1) := by rw [hl]; simp
    simp only [List.mem_map, Prod.mk.injEq] at this
    obtain ⟨_, _, _, rfl⟩ := this
    omega
  distinct := by intro s t n m h; simp [NsF.init] at h
  kw_used := by
    intro k hk
    exact used_iff_mem.mpr (by simp only [NsF.init, List.map_map, List.mem_map]; exact ⟨k, hk, rfl⟩)
  not_kw := by intro s n h; simp [NsF.init] at h

theorem lookup_cons_ite {α β : Type} [DecidableEq α] (x k : α) (v : β) (l : List (α × β)) :
    ((k, v) :: l).lookup x = if x = k then some v else l.lookup x := by
  rw [List.lookup_cons]
  by_cases h : x = k
  · simp [h]
  · simp [h, beq_false_of_ne h]

theorem getNameFixed_named {ns : NsF} {b : String} {s : SigId} {n : Nat} (h : ns.sigs.lookup s = some n) :
    getNameFixed ns b s = (ns, suffixed b n) := by
  simp [getNameFixed, h]

def freshNum (ns : NsF) (b : String) : Nat := skipUsed ns b (ns.counts.length + 1) (ns.count b)

theorem getNameFixed_fresh {ns : NsF} {b : String} {s : SigId} (h : ns.sigs.lookup s = none) :
    (getNameFixed ns b s).2 = suffixed b (freshNum ns b) ∧
    (getNameFixed ns b s).1.sigs = (s, freshNum ns b) :: ns.sigs ∧
    (getNameFixed ns b s).1.counts =
      (if freshNum ns b > 0 then (suffixed b (freshNum ns b), 1) :: (b, freshNum ns b + 1) :: ns.counts
       else (b, freshNum ns b + 1) :: ns.counts) := by
  simp [getNameFixed, h, freshNum]

/-- The repaired `get_name`: as `Ns.policy`, but a fresh signal gets the first number from the counter of its base
    name on whose numbered name is not yet a dictionary key (`freshNum`, the `while` loop). -/
def NsF.policy : Policy NsF where
  get := getNameFixed
  num ns s := ns.sigs.lookup s
  pick := freshNum
  run := runFromF
  answers := answersFromF
  named := getNameFixed_named
  fresh h := ⟨(getNameFixed_fresh h).1, fun t => by rw [(getNameFixed_fresh h).2.1, lookup_cons_ite]⟩

theorem used_fresh_iff {ns : NsF} {b : String} {s : SigId} (h : ns.sigs.lookup s = none) (x : String) :
    (getNameFixed ns b s).1.used x = true ↔
      (0 < freshNum ns b ∧ x = suffixed b (freshNum ns b)) ∨ x = b ∨ ns.used x = true := by
  rw [used_iff_mem, used_iff_mem, (getNameFixed_fresh h).2.2]
  split <;> simp [*]

theorem count_fresh {ns : NsF} {b : String} {s : SigId} (h : ns.sigs.lookup s = none) (x : String) :
    (getNameFixed ns b s).1.count x =
      if 0 < freshNum ns b ∧ x = suffixed b (freshNum ns b) then 1
      else if x = b then freshNum ns b + 1 else ns.count x := by
  simp only [NsF.count, (getNameFixed_fresh h).2.2]
  split <;> simp [lookup_cons_ite, apply_ite (Option.getD · 0), *]

theorem fresh_not_used {ns : NsF} (h : InvF kw base ns) (b : String) :
    ns.used (suffixed b (freshNum ns b)) = false := by
  have hf := skipUsed_free ns b (ns.count b)
  simp only at hf
  by_cases h0 : ns.count b = 0
  · have : freshNum ns b = 0 := hf.2.2 h0
    rw [this, suffixed_zero]
    cases hl : ns.counts.lookup b with
    | none => simp [NsF.used, hl]
    | some v =>
      have := h.pos b v hl
      simp [NsF.count, hl] at h0
      omega
  · exact (hf.2.1 (by omega)).2

theorem used_mono_counts {ns : NsF} {b : String} {s : SigId} (x : String) (hx : ns.used x = true) :
    (getNameFixed ns b s).1.used x = true := by
  cases hs : ns.sigs.lookup s with
  | some n => simpa [getNameFixed_named hs] using hx
  | none => exact (used_fresh_iff hs x).mpr (Or.inr (Or.inr hx))

theorem InvF.step {ns : NsF} (h : InvF kw base ns) (s : SigId) :
    InvF kw base (getNameFixed ns (base s) s).1 := by
  cases hs : ns.sigs.lookup s with
  | some m => rw [getNameFixed_named hs]; exact h
  | none =>
    obtain ⟨-, -, hcounts⟩ := getNameFixed_fresh (b := base s) hs
    have hfree := fresh_not_used h (base s)
    have hcases : ∀ {t n}, (getNameFixed ns (base s) s).1.sigs.lookup t = some n →
        t = s ∧ n = freshNum ns (base s) ∨ ns.sigs.lookup t = some n :=
      fun ht => (NsF.policy.fresh_cases hs ht).imp_right And.right
    have hnew : ∀ t m, ns.sigs.lookup t = some m →
        suffixed (base t) m ≠ suffixed (base s) (freshNum ns (base s)) := fun t m ht heq => by
      have := h.issued_used t m ht
      rw [heq, hfree] at this
      exact Bool.false_ne_true this
    have hnewused : (getNameFixed ns (base s) s).1.used (suffixed (base s) (freshNum ns (base s))) = true := by
      refine (used_fresh_iff hs _).mpr ?_
      by_cases hp : 0 < freshNum ns (base s)
      · exact Or.inl ⟨hp, rfl⟩
      · rw [Nat.eq_zero_of_not_pos hp, suffixed_zero]
        exact Or.inr (Or.inl rfl)
    refine ⟨fun t n ht => ?_, fun b v hb => ?_, fun t u n m ht hu heq => ?_,
      fun k hk => used_mono_counts _ (h.kw_used k hk), fun t n ht hk => ?_⟩
    · rcases hcases ht with ⟨rfl, rfl⟩ | ht'
      · exact hnewused
      · exact used_mono_counts _ (h.issued_used t n ht')
    · -- the new table: the old one under the base's new counter and, for a numbered name, under `(name, 1)`
      have htail : ((base s, freshNum ns (base s) + 1) :: ns.counts).lookup b = some v → 1 ≤ v := fun hb => by
        rw [lookup_cons_ite] at hb
        split at hb
        · cases hb; exact Nat.succ_pos _
        · exact h.pos b v hb
      rw [hcounts] at hb
      split at hb
      · rw [lookup_cons_ite] at hb
        split at hb
        · cases hb; exact Nat.le_refl 1
        · exact htail hb
      · exact htail hb
    · rcases hcases ht with ⟨rfl, rfl⟩ | ht' <;> rcases hcases hu with ⟨rfl, rfl⟩ | hu'
      · rfl
      · exact absurd heq.symm (hnew u m hu')
      · exact absurd heq (hnew t n ht')
      · exact h.distinct t u n m ht' hu' heq
    · rcases hcases ht with ⟨rfl, rfl⟩ | ht'
      · have := h.kw_used _ hk
        rw [hfree] at this
        exact Bool.false_ne_true this
      · exact h.not_kw t n ht' hk

theorem InvF.runFrom {ns : NsF} (h : InvF kw base ns) (reqs : List SigId) :
    InvF kw base (runFromF base ns reqs) :=
  NsF.policy.run_invariant base (fun _ => InvF kw base) (fun _ _ s h => h.step s) reqs [] ns h

theorem InvF.run (reqs : List SigId) : InvF kw base (runFixed kw base reqs) := InvF.init.runFrom reqs

theorem runFromF_named {ns : NsF} : ∀ (reqs : List SigId) {s : SigId}, s ∈ reqs →
    ∃ n, (runFromF base ns reqs).sigs.lookup s = some n :=
  fun reqs _ h => NsF.policy.run_named base reqs h

theorem answersFromF_functional (ns : NsF) (reqs : List SigId) (s : SigId) (a b : String)
    (ha : (s, a) ∈ answersFromF base ns reqs) (hb : (s, b) ∈ answersFromF base ns reqs) : a = b :=
  NsF.policy.functional base ha hb

end Litex.Namer
