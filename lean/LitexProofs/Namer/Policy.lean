import LitexProofs.Namer.Strings
/-
  The request loop of `SignalNamespace.get_name`, for any way of choosing numbers.

  `runFrom`/`answersFrom` (the method before the repair of C02-suffix-collision) and `runFromF`/`answersFromF` (the
  repaired method, the one in the tree) are the same loop
  over two `get_name`s.  What the loop relies on says nothing about which number is chosen: a named signal is answered
  from its number and the state stays; a fresh signal gets the number the policy picks, recorded for it alone.
  `Policy` states this, with the model's two loops and their defining equations as fields: the instances `Ns.policy`
  (GetName.lean) and `NsF.policy` (Fixed.lean) unfold to the model's loops by reduction, so a lemma here applies to a
  statement about `runFrom`, `answersFromF`, … as it stands.
-/
namespace Litex.Namer

structure Policy (σ : Type) where
  get : σ → String → SigId → σ × String
  num : σ → SigId → Option Nat
  pick : σ → String → Nat
  run : (SigId → String) → σ → List SigId → σ
  answers : (SigId → String) → σ → List SigId → List (SigId × String)
  named : ∀ {ns b s n}, num ns s = some n → get ns b s = (ns, suffixed b n)
  fresh : ∀ {ns b s}, num ns s = none →
    (get ns b s).2 = suffixed b (pick ns b) ∧
    ∀ t, num (get ns b s).1 t = if t = s then some (pick ns b) else num ns t
  run_nil : ∀ base ns, run base ns [] = ns := by intros; rfl
  run_cons : ∀ base ns s rest, run base ns (s :: rest) = run base (get ns (base s) s).1 rest := by intros; rfl
  answers_nil : ∀ base ns, answers base ns [] = [] := by intros; rfl
  answers_cons : ∀ base ns s rest,
    answers base ns (s :: rest) = (s, (get ns (base s) s).2) :: answers base (get ns (base s) s).1 rest := by
      intros; rfl

namespace Policy
variable {σ : Type} (P : Policy σ) (base : SigId → String)

theorem answer (ns : σ) (b : String) (s : SigId) :
    ∃ n, P.num (P.get ns b s).1 s = some n ∧ (P.get ns b s).2 = suffixed b n := by
  cases h : P.num ns s with
  | some n => exact ⟨n, by rw [P.named h]; exact ⟨h, rfl⟩⟩
  | none => exact ⟨P.pick ns b, by rw [(P.fresh h).2, if_pos rfl], (P.fresh h).1⟩

theorem keeps {ns : σ} {b : String} {s t : SigId} {n : Nat} (h : P.num ns t = some n) :
    P.num (P.get ns b s).1 t = some n := by
  cases hs : P.num ns s with
  | some m => rw [P.named hs]; exact h
  | none => rw [(P.fresh hs).2, if_neg (by rintro rfl; rw [hs] at h; cases h), h]

theorem fresh_cases {ns : σ} {b : String} {s t : SigId} {n : Nat} (hs : P.num ns s = none)
    (ht : P.num (P.get ns b s).1 t = some n) : t = s ∧ n = P.pick ns b ∨ t ≠ s ∧ P.num ns t = some n := by
  rw [(P.fresh hs).2] at ht
  split at ht
  · exact Or.inl ⟨‹_›, (Option.some.inj ht).symm⟩
  · exact Or.inr ⟨‹_›, ht⟩

theorem run_keeps {t : SigId} {n : Nat} : ∀ (reqs : List SigId) {ns : σ}, P.num ns t = some n →
    P.num (P.run base ns reqs) t = some n
  | [], _, h => P.run_nil .. ▸ h
  | _ :: rest, _, h => P.run_cons .. ▸ run_keeps rest (P.keeps h)

theorem run_invariant (I : List SigId → σ → Prop)
    (step : ∀ done ns s, I done ns → I (done ++ [s]) (P.get ns (base s) s).1) :
    ∀ (reqs done : List SigId) (ns : σ), I done ns → I (done ++ reqs) (P.run base ns reqs)
  | [], done, ns, h => by rw [P.run_nil, List.append_nil]; exact h
  | s :: rest, done, ns, h => by
    rw [P.run_cons, List.append_cons]
    exact run_invariant I step rest _ _ (step done ns s h)

theorem answers_spec : ∀ (reqs : List SigId) (ns : σ) (s : SigId) (a : String), (s, a) ∈ P.answers base ns reqs →
    s ∈ reqs ∧ ∃ n, P.num (P.run base ns reqs) s = some n ∧ a = suffixed (base s) n
  | [], _, _, _, h => by rw [P.answers_nil] at h; cases h
  | r :: rest, ns, s, a, h => by
    rw [P.answers_cons] at h
    rw [P.run_cons]
    rcases List.mem_cons.mp h with h | h
    · obtain ⟨rfl, rfl⟩ := Prod.mk.inj h
      obtain ⟨n, hn, ha⟩ := P.answer ns (base s) s
      exact ⟨List.mem_cons_self, n, P.run_keeps base rest hn, ha⟩
    · obtain ⟨hm, hn⟩ := answers_spec rest _ s a h
      exact ⟨List.mem_cons_of_mem _ hm, hn⟩

theorem run_named {s : SigId} : ∀ (reqs : List SigId) {ns : σ}, s ∈ reqs →
    ∃ n, P.num (P.run base ns reqs) s = some n
  | r :: rest, ns, h => by
    rw [P.run_cons]
    rcases List.mem_cons.mp h with rfl | h
    · obtain ⟨n, hn, -⟩ := P.answer ns (base s) s
      exact ⟨n, P.run_keeps base rest hn⟩
    · exact run_named rest h

theorem stable (ns : σ) (post : List SigId) (s : SigId) :
    (P.get (P.run base (P.get ns (base s) s).1 post) (base s) s).2 = (P.get ns (base s) s).2 := by
  obtain ⟨n, hn, ha⟩ := P.answer ns (base s) s
  rw [ha, P.named (P.run_keeps base post hn)]

theorem functional {ns : σ} {reqs : List SigId} {s : SigId} {a b : String}
    (ha : (s, a) ∈ P.answers base ns reqs) (hb : (s, b) ∈ P.answers base ns reqs) : a = b := by
  obtain ⟨-, n, hn, rfl⟩ := P.answers_spec base reqs ns s a ha
  obtain ⟨-, m, hm, rfl⟩ := P.answers_spec base reqs ns s b hb
  rw [hn] at hm
  cases hm
  rfl

theorem legal {ns : σ} {reqs : List SigId} (hb : ∀ s ∈ reqs, isIdent (base s) = true) {s : SigId} {a : String}
    (h : (s, a) ∈ P.answers base ns reqs) : isIdent a = true := by
  obtain ⟨hs, n, -, rfl⟩ := P.answers_spec base reqs ns s a h
  exact isIdent_suffixed (hb s hs) n

end Policy
end Litex.Namer
