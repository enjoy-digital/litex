import LitexProofs.Cdc.Gray
/-
  What the crossings have in common.  `Fill`: a two-flop synchroniser (`MultiReg`) after `j` edges of its clock, for
  whatever is known of the values it samples.  `Ptr`/`Cnt`/`PInv`: a Gray pointer in its own domain, the two flops that
  watch it from the other domain, and the unbounded counters behind the three.  The asynchronous FIFO is two of these
  (produce pointer into the read domain, consume pointer into the write domain) plus a memory: its write side and its
  read side are the same lemma with the clocks exchanged.
-/
namespace Litex.Cdc

/-- The first `j` of the two synchroniser flops `r1 r2` hold a value satisfying `Q`. -/
def Fill {β : Type} (Q : β → Prop) (j : Nat) (r1 r2 : β) : Prop := (1 ≤ j → Q r1) ∧ (2 ≤ j → Q r2)

theorem Fill.step {β : Type} {Q : β → Prop} {j : Nat} {r1 r2 v : β} (h : Fill Q j r1 r2) (td : Bool)
    (hv : td = true → Q v) :
    Fill Q (j + if td then 1 else 0) (if td then v else r1) (if td then r1 else r2) := by
  cases td
  · exact h
  · exact ⟨fun _ => hv rfl, fun hj => h.1 (Nat.le_of_succ_le_succ hj)⟩

/-- A data synchroniser: an edge of the flops' clock (`td`) samples the source, or a per-bit mixture of its old and its new
    value if the source changes in the same instant (`ts`). -/
theorem Fill.sync {Q : Nat → Prop} {j r1 r2 : Nat} (h : Fill Q j r1 r2) (td ts : Bool) (m old new : Nat) (hold : Q old)
    (hmix : td = true → ts = true → Q (mix m old new)) :
    Fill Q (j + if td then 1 else 0) (if td then (if ts then mix m old new else old) else r1) (if td then r1 else r2) :=
  h.step td fun htd => by
    cases hts : ts
    · exact hold
    · exact hmix htd hts

theorem Fill.zero {β : Type} (Q : β → Prop) (r1 r2 : β) : Fill Q 0 r1 r2 :=
  ⟨fun h => absurd h (by decide), fun h => absurd h (by decide)⟩

theorem Fill.mono {β : Type} {Q : β → Prop} {j j' : Nat} {r1 r2 : β} (h : Fill Q j r1 r2) (hj : j' ≤ j) : Fill Q j' r1 r2 :=
  ⟨fun h1 => h.1 (le_trans h1 hj), fun h2 => h.2 (le_trans h2 hj)⟩

theorem Fill.two {β : Type} {Q : β → Prop} {j : Nat} {r1 r2 : β} (h : Fill Q j r1 r2) (hj : 2 ≤ j) : Q r2 := h.2 hj

/-- A Gray pointer (`bin`, `q`) of one clock domain and the two flops (`r1`, `r2`) that synchronise it into the
    other. -/
structure Ptr where
  bin : Nat
  q   : Nat
  r1  : Nat
  r2  : Nat

/-- One instant: `ts` = an edge of the pointer's clock (it takes the binary value `n`), `td` = an edge of the flops'
    clock, `m` = the per-bit resolution of the first flop when both coincide. -/
def Ptr.step (x : Ptr) (ts td : Bool) (n m : Nat) : Ptr :=
  { bin := if ts then n else x.bin
    q   := if ts then gray n else x.q
    r1  := if td then (if ts then mix m x.q (gray n) else x.q) else x.r1
    r2  := if td then x.r1 else x.r2 }

/-- The unbounded counter behind a pointer, and the counter values behind what its two flops hold. -/
structure Cnt where
  N  : Nat
  N1 : Nat
  N2 : Nat

/-- Ghost update to the new counter value `N'`.  A first flop that did not keep the *old* pointer value (`old`) is
    credited with the *new* one (`sample_ghost`: there is no third possibility). -/
def Cnt.step (c : Cnt) (td : Bool) (N' : Nat) (old : Prop) [Decidable old] : Cnt :=
  { N := N', N1 := if td then (if old then c.N else N') else c.N1, N2 := if td then c.N1 else c.N2 }

structure PInv (w : Nat) (x : Ptr) (c : Cnt) : Prop where
  bin : x.bin = c.N % 2 ^ w
  q   : x.q = gray x.bin
  r1  : x.r1 = gray (c.N1 % 2 ^ w)
  r2  : x.r2 = gray (c.N2 % 2 ^ w)
  o1  : c.N2 ≤ c.N1     -- the destination domain only ever sees an older value of the pointer
  o2  : c.N1 ≤ c.N

/-- The ghost value credited to a first-stage flop is consistent with what the flop holds. -/
theorem sample_ghost (w m n n' x : Nat) (hw : 1 ≤ w) (hn : n' = n ∨ n' = n + 1)
    (hx : x = mix m (gray (n % 2 ^ w)) (gray (n' % 2 ^ w))) :
    x = gray ((if x = gray (n % 2 ^ w) then n else n') % 2 ^ w) := by
  split
  · assumption
  · rename_i hne
    rcases hn with rfl | rfl
    · rw [mix_same] at hx; exact absurd hx hne
    · rcases gray_sample_mix_mod w n m hw with h | h
      · rw [h] at hx; exact absurd hx hne
      · rw [h] at hx; exact hx

section
variable {w : Nat} {x : Ptr} {c : Cnt}

/-- Stated for any next counter value `N'` and pointer value `n`, so that the synchroniser argument does not carry the `if`s of
    the counter; `PInv.step` puts the Gray counter in. -/
theorem PInv.step_to (hw : 1 ≤ w) (h : PInv w x c) (ts td : Bool) (n m : Nat) {N' : Nat}
    (hN : N' = c.N ∨ N' = c.N + 1) (hts : ts = false → N' = c.N) (hn : ts = true → n = N' % 2 ^ w) :
    PInv w (x.step ts td n m) (c.step td N' ((x.step ts td n m).r1 = x.q)) := by
  have hq : x.q = gray (c.N % 2 ^ w) := by rw [h.q, h.bin]
  have hle : c.N ≤ N' := by omega
  refine ⟨?_, ?_, ?_, ?_, ?_, ?_⟩
  · cases ts
    · rw [hts rfl]; exact h.bin
    · exact hn rfl
  · cases ts
    · exact h.q
    · rfl
  · -- no edge keeps the flop; an edge alone samples `gray N`; with a coincident pointer edge the flop holds
    -- `mix m (gray N) (gray N')`, and the ghost is `N` if that equals `gray N`, else `N'`
    cases td
    · exact h.r1
    · cases ts
      · show x.q = gray ((if x.q = x.q then c.N else N') % 2 ^ w)
        rw [if_pos rfl]; exact hq
      · show mix m x.q (gray n) = gray ((if mix m x.q (gray n) = x.q then c.N else N') % 2 ^ w)
        rw [hn rfl, hq]
        exact sample_ghost w m c.N N' _ hw hN rfl
  · cases td
    · exact h.r2
    · exact h.r1
  · have := h.o1; have := h.o2
    cases td
    · assumption
    · show c.N1 ≤ if _ then c.N else N'
      split <;> omega
  · have := h.o2
    cases td
    · exact le_trans this hle
    · show (if _ then c.N else N') ≤ N'
      split <;> omega

/-- Migen's `GrayCounter` with its `MultiReg`: the pointer counts (modulo `2^w`) at an edge of its clock while `ce`. -/
def Ptr.next (w : Nat) (x : Ptr) (ts td ce : Bool) (m : Nat) : Ptr :=
  x.step ts td (if ce then (x.bin + 1) % 2 ^ w else x.bin) m

def Cnt.next (c : Cnt) (ts td ce : Bool) (old : Prop) [Decidable old] : Cnt :=
  c.step td (if ts && ce then c.N + 1 else c.N) old

theorem PInv.step (hw : 1 ≤ w) (h : PInv w x c) (ts td ce : Bool) (m : Nat) :
    PInv w (x.next w ts td ce m) (c.next ts td ce ((x.next w ts td ce m).r1 = x.q)) := by
  refine h.step_to hw ts td _ m ?_ ?_ ?_
  · cases ts <;> cases ce <;> simp
  · rintro rfl; rfl
  · rintro rfl
    cases ce
    · exact h.bin
    · simp only [Bool.and_self, if_true, h.bin, Nat.mod_add_mod]

theorem Cnt.step_views (h1 : c.N2 ≤ c.N1) (td : Bool) (N' : Nat) (old : Prop) [Decidable old] :
    c.N2 ≤ (c.step td N' old).N2 ∧ (td = true → (c.step td N' old).N2 = c.N1) := by
  cases td
  · exact ⟨le_refl _, fun e => absurd e (by decide)⟩
  · exact ⟨h1, fun _ => rfl⟩

theorem Cnt.step_fill {N0 j : Nat} (h0 : N0 ≤ c.N) (hf : Fill (N0 ≤ ·) j c.N1 c.N2) (td : Bool) {N' : Nat}
    (hle : c.N ≤ N') (old : Prop) [Decidable old] :
    Fill (N0 ≤ ·) (j + if td then 1 else 0) (c.step td N' old).N1 (c.step td N' old).N2 :=
  hf.step td fun _ => by split <;> omega

end
end Litex.Cdc
