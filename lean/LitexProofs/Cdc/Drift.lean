import LitexModel.Cdc.BusSync
/-
  The drift bound shared by the BusSynchronizer and PulseSynchronizer theorems (`IBurst`, `PBurst`): `q` counts the
  instants with an i-clock edge since the last o-clock edge and never exceeds `R`.  Last part: `IBurst R` derived from an
  assumption on the clock *frequencies*, two free-running periodic clocks with `po ≤ R * pi` (the i clock at most `R`
  times faster than the o clock), arbitrary phase.
-/
namespace Litex.Cdc

/-- The run length `q` of `IBurst`/`PBurst` after an instant. -/
def qNext (q : Nat) (ti tO : Bool) : Nat := if tO then 0 else q + ti.toNat

theorem qNext_le {R q : Nat} {ti tO : Bool} (hq : q ≤ R) (hs : tO = false → ti = true → q < R) :
    qNext q ti tO ≤ R := by
  unfold qNext
  cases tO
  · cases ti
    · simpa using hq
    · exact hs rfl rfl
  · exact Nat.zero_le _

theorem iburst_cons {R q : Nat} {x : BSIn} {xs : List BSIn} (h : IBurst R q (x :: xs)) :
    (x.tO = false → x.ti = true → q < R) ∧ IBurst R (qNext q x.ti x.tO) xs := by
  unfold IBurst at h
  unfold qNext
  cases hto : x.tO <;> cases hti : x.ti <;> simp only [hto, hti, Bool.false_eq_true, if_false, if_true] at h <;>
    simp [h]

theorem pburst_cons {R q : Nat} {x : PSIn} {xs : List PSIn} (h : PBurst R q (x :: xs)) :
    (x.tO = false → x.ti = true → q < R) ∧ PBurst R (qNext q x.ti x.tO) xs := by
  unfold PBurst at h
  unfold qNext
  cases hto : x.tO <;> cases hti : x.ti <;> simp only [hto, hti, Bool.false_eq_true, if_false, if_true] at h <;>
    simp [h]

theorem iburst_of_periodic (pi po R : Nat) (hpi : 1 ≤ pi) (hr : po ≤ R * pi) :
    ∀ (n : Nat) (ins : List BSIn) (ni no q : Nat), bsClocks ins = perClocks pi po n ni no →
      q * pi + no + 1 ≤ ni + po → IBurst R q ins := by
  intro n
  induction n with
  | zero =>
    intro ins ni no q h _
    cases ins with
    | nil => trivial
    | cons x xs => simp [bsClocks, perClocks] at h
  | succ n ih =>
    intro ins ni no q h hj
    cases ins with
    | nil => trivial
    | cons x xs =>
      simp only [bsClocks, List.map_cons, perClocks, List.cons.injEq, Prod.mk.injEq] at h
      obtain ⟨⟨hti, hto⟩, hrest⟩ := h
      simp only [IBurst]
      by_cases h1 : no ≤ ni
      · -- an o-clock edge (possibly coincident)
        have hxo : x.tO = true := by rw [hto]; simpa using h1
        rw [if_pos hxo]
        by_cases h2 : ni ≤ no
        · have e : ni = no := by omega
          apply ih xs (ni + pi) (no + po) 0
          · simpa [bsClocks, h1, h2] using hrest
          · omega
        · apply ih xs ni (no + po) 0
          · simpa [bsClocks, h1, h2] using hrest
          · omega
      · -- i-clock edge only
        have hxo : x.tO = false := by rw [hto]; simpa using h1
        have h2 : ni ≤ no := by omega
        have hxi : x.ti = true := by rw [hti]; simpa using h2
        rw [if_neg (by simp [hxo]), if_pos hxi]
        have hlt : q * pi + 2 ≤ po := by omega
        have hq : q < R := Nat.lt_of_not_le fun hn => by
          have : R * pi ≤ q * pi := Nat.mul_le_mul_right pi hn
          omega
        refine ⟨hq, ?_⟩
        apply ih xs (ni + pi) no (q + 1)
        · simpa [bsClocks, h1, h2] using hrest
        · rw [Nat.add_mul]; omega

end Litex.Cdc
