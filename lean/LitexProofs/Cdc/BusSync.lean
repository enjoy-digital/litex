import LitexModel.Cdc.BusSync
import LitexProofs.Cdc.Drift
import LitexProofs.Cdc.Cross
/-
  BusSynchronizer: the request/acknowledge ring (a single wavefront whose position is the phase), the data-path
  invariant, the retry timer under a drift bound, and progress of a held word.
-/
namespace Litex.Cdc

/-- The control bits of the hand-shake ring, in ring order:
    `c0 = _ping.toggle_i`, `c1 c2 = ` ping synchroniser, `c3 = _ping.toggle_o_r`, `pingO = ping_o`,
    `c4 = _pong.toggle_i`, `c5 c6 = ` pong synchroniser, `c7 = _pong.toggle_o_r`. -/
structure Ctl where
  starter : Bool
  c0 : Bool
  c1 : Bool
  c2 : Bool
  c3 : Bool
  pingO : Bool
  c4 : Bool
  c5 : Bool
  c6 : Bool
  c7 : Bool
deriving DecidableEq

def ctlOf (s : BSState) : Ctl :=
  { starter := s.starter, c0 := s.pingT, c1 := s.pingR1, c2 := s.pingR2, c3 := s.pingOR, pingO := s.pingO,
    c4 := s.pongT, c5 := s.pongR1, c6 := s.pongR2, c7 := s.pongOR }

/-- Control step when the retry timer has not expired (`_timeout.done = 0`). -/
def cstep (c : Ctl) (ti tO mp mq : Bool) : Ctl :=
  let pin := c.starter || (c.c6 != c.c7)
  let c0N := if pin then !c.c0 else c.c0
  let c4N := if c.pingO then !c.c4 else c.c4
  { starter := if ti then false else c.starter
    c0 := if ti then c0N else c.c0
    c1 := if tO then (if ti && mp then c0N else c.c0) else c.c1
    c2 := if tO then c.c1 else c.c2
    c3 := if tO then c.c2 else c.c3
    pingO := if tO then (c.c2 != c.c3) else c.pingO
    c4 := if tO then c4N else c.c4
    c5 := if ti then (if tO && mq then c4N else c.c4) else c.c5
    c6 := if ti then c.c5 else c.c6
    c7 := if ti then c.c6 else c.c7 }

theorem ctlOf_step (w t : Nat) (s : BSState) (x : BSIn) (hd : tmoDone s = false) :
    ctlOf (bsStep w t s x) = cstep (ctlOf s) x.ti x.tO x.mPing x.mPong := by
  have hp : pingIn s = (s.starter || (s.pongR2 != s.pongOR)) := by
    simp only [pingIn, hd, Bool.or_false, pongOut]
  simp only [ctlOf, bsStep, cstep, pingTN, hp, pongTN, pingOut]
  rfl

/-- The eight positions of the single wavefront travelling round the ring; `v` is the value the wavefront is
    overwriting.  Phase 0 exists only after reset (`starter`). -/
def shape (p : Fin 8) (v : Bool) : Ctl :=
  { starter := p.val == 0
    c0 := if 1 ≤ p.val then !v else v
    c1 := if 2 ≤ p.val then !v else v
    c2 := if 3 ≤ p.val then !v else v
    c3 := if 4 ≤ p.val then !v else v
    pingO := p.val == 4
    c4 := if 5 ≤ p.val then !v else v
    c5 := if 6 ≤ p.val then !v else v
    c6 := if 7 ≤ p.val then !v else v
    c7 := v }

/-- Phase after one instant, and whether the polarity flips (the wavefront passed `c7`/`c0`).  The jumps `0 → 2`, `7 → 2`
    and `4 → 6` are coincident edges at which the first synchroniser flop already catches the toggle made in the same
    instant (`mp`, `mq`): the wavefront advances by two. -/
def pstep (p : Fin 8) (ti tO mp mq : Bool) : Fin 8 × Bool :=
  match p.val with
  | 0 => if ti then (if tO && mp then (2, false) else (1, false)) else (0, false)
  | 1 => if tO then (2, false) else (1, false)
  | 2 => if tO then (3, false) else (2, false)
  | 3 => if tO then (4, false) else (3, false)
  | 4 => if tO then (if ti && mq then (6, false) else (5, false)) else (4, false)
  | 5 => if ti then (6, false) else (5, false)
  | 6 => if ti then (7, false) else (6, false)
  | _ => if ti then (if tO && mp then (2, true) else (1, true)) else (7, false)

theorem cstep_shape : ∀ (p : Fin 8) (v ti tO mp mq : Bool),
    cstep (shape p v) ti tO mp mq = shape (pstep p ti tO mp mq).1 (v != (pstep p ti tO mp mq).2) := by
  decide +kernel

def Phase (s : BSState) (p : Fin 8) : Prop := ∃ v, ctlOf s = shape p v

theorem phase_init (t : Nat) : Phase (bsInit t) 0 := ⟨false, rfl⟩

theorem Phase.step {s : BSState} {p : Fin 8} (h : Phase s p) (w t : Nat) (x : BSIn) (hd : tmoDone s = false) :
    Phase (bsStep w t s x) (pstep p x.ti x.tO x.mPing x.mPong).1 := by
  obtain ⟨v, hc⟩ := h
  exact ⟨_, by rw [ctlOf_step w t s x hd, hc, cstep_shape]⟩

theorem shape_reads : ∀ (p : Fin 8) (v : Bool), ((shape p v).c6 != (shape p v).c7) = decide (p.val = 7) ∧
    (shape p v).pingO = decide (p.val = 4) ∧ (shape p v).starter = decide (p.val = 0) := by decide

theorem Phase.reads {s : BSState} {p : Fin 8} (h : Phase s p) :
    pongOut s = decide (p.val = 7) ∧ s.pingO = decide (p.val = 4) ∧ s.starter = decide (p.val = 0) := by
  obtain ⟨v, hc⟩ := h
  have := shape_reads p v
  rw [← hc] at this
  exact this

/-- How many of the two `obuffer` flops are known to hold `ibuffer` in phase `p`.  In the instant `ibuffer` is loaded (on
    leaving phase 7, into phase 1 or 2) the first flop may catch a mixture; the o-edge into phase 3 samples the settled
    word and the one into phase 4 passes it on. -/
def lvl (p : Fin 8) : Nat := min 2 (p.val - 2)

theorem pstep_lvl : ∀ (p : Fin 8) (ti tO mp mq : Bool),
    lvl (pstep p ti tO mp mq).1 ≤ if ti = true ∧ p.val = 7 then 0 else lvl p + if tO then 1 else 0 := by decide +kernel

/-- Invariant of the bus synchroniser while the timer does not expire: one wavefront in the ring, at position `p`,
    and from the moment the request is two flops deep in the output domain (`p ≥ 3`) the synchroniser flops of the
    data path hold exactly `ibuffer`. -/
def BSInvP (s : BSState) (p : Fin 8) : Prop := Phase s p ∧ Fill (· = s.ibuf) (lvl p) s.ob1 s.ob2

theorem bsInvP_init (t : Nat) : BSInvP (bsInit t) 0 := ⟨phase_init t, Fill.zero _ _ _⟩

theorem bsInvP_step (w t : Nat) (s : BSState) (p : Fin 8) (x : BSIn) (h : BSInvP s p) (hd : tmoDone s = false) :
    BSInvP (bsStep w t s x) (pstep p x.ti x.tO x.mPing x.mPong).1 ∧
    (bsStep w t s x).ibuf = (if x.ti = true ∧ p.val = 7 then x.i % 2 ^ w else s.ibuf) ∧
    (bsStep w t s x).o = (if x.tO = true ∧ p.val = 4 then s.ibuf else s.o) := by
  obtain ⟨hph, hf⟩ := h
  obtain ⟨hpong, hpingO, _⟩ := hph.reads
  have e_ibuf : (bsStep w t s x).ibuf = if x.ti = true ∧ p.val = 7 then x.i % 2 ^ w else s.ibuf := by
    show (if x.ti then (if pongOut s then x.i % 2 ^ w else s.ibuf) else s.ibuf) = _
    rw [hpong]
    cases x.ti <;> by_cases h7 : p.val = 7 <;> simp [h7]
  have e_o : (bsStep w t s x).o = if x.tO = true ∧ p.val = 4 then s.ibuf else s.o := by
    show (if x.tO then (if s.pingO then s.ob2 else s.o) else s.o) = _
    rw [hpingO]
    cases x.tO <;> by_cases h4' : p.val = 4 <;> simp [h4']
    exact hf.2 (by simp [lvl, h4'])
  refine ⟨⟨hph.step w t x hd, ?_⟩, e_ibuf, e_o⟩
  have hle := pstep_lvl p x.ti x.tO x.mPing x.mPong
  by_cases c : x.ti = true ∧ p.val = 7
  · rw [if_pos c] at hle
    exact (Fill.zero _ _ _).mono hle
  · -- unless the acknowledge arrives in this instant `ibuffer` keeps its word, so that an o-edge copies just that
    -- word into the first flop whatever the resolution `mBuf`
    rw [if_neg c] at hle
    rw [e_ibuf, if_neg c]
    refine (hf.sync x.tO x.ti x.mBuf s.ibuf (ibufN w s x.i) rfl fun _ hti => ?_).mono hle
    have h7 : ¬ p.val = 7 := fun h7 => c ⟨hti, h7⟩
    have : ibufN w s x.i = s.ibuf := by simp [ibufN, hpong, h7]
    rw [this, mix_same]

theorem bsInvP_run (w t : Nat) (xs : List BSIn) : ∀ (s : BSState) (p : Fin 8), BSInvP s p → NoTimeout w t s xs →
    ∃ p', BSInvP (bsRun w t s xs) p' := by
  induction xs with
  | nil => intro s p h _; exact ⟨p, h⟩
  | cons x xs ih => intro s p h hn; exact ih _ _ (bsInvP_step w t s p x h hn.1).1 hn.2

/-- `L`: the words known to have been on `i`, and the reset value. -/
theorem bsCoherent_run (w t : Nat) (xs : List BSIn) : ∀ (s : BSState) (p : Fin 8) (L : List Nat), BSInvP s p →
    s.o ∈ L → s.ibuf ∈ L → NoTimeout w t s xs → (bsRun w t s xs).o ∈ L ++ (bsInputs xs).map (· % 2 ^ w) := by
  induction xs with
  | nil => intro s p L _ ho _ _; simpa [bsRun, bsInputs] using ho
  | cons x xs ih =>
    intro s p L h ho hi hn
    obtain ⟨h', ei, eo⟩ := bsInvP_step w t s p x h hn.1
    have := ih _ _ (L ++ (if x.ti then [x.i % 2 ^ w] else [])) h'
      (List.mem_append_left _ (by rw [eo]; split <;> assumption))
      (by rw [ei]
          by_cases c : x.ti = true ∧ p.val = 7
          · simp [c]
          · rw [if_neg c]; exact List.mem_append_left _ hi) hn.2
    rw [List.append_assoc] at this
    simp only [bsRun, bsInputs, List.map_append]
    cases hti : x.ti <;> simpa [hti] using this

/-! Phases 1 … 4 wait for o-clock edges, the others for i-clock edges; the timer is reloaded at an i-edge in phase 0
  or 7 and decremented at every other i-edge. -/

/-- o-clock edges the request still needs to reach `_pong.toggle_i`. -/
def oLeft (p : Fin 8) : Nat := if 1 ≤ p.val ∧ p.val ≤ 4 then 5 - p.val else 0

/-- i-clock edges the acknowledge needs after that to reach `_pong.o` (where the next i-edge reloads). -/
def iLeft (p : Fin 8) : Nat := if p.val = 0 then 0 else min 2 (7 - p.val)

/-- Upper bound on the timer decrements (i-edges) still to come before the reload: each of the `oLeft p` o-edges is
    preceded by at most `R` i-only instants (`q` of which have passed) and may coincide with one more i-edge, then
    `iLeft p` i-edges follow.  In phase 1 this is `4 (R + 1) + 2`, whence the bound `4R + 7` on the time-out. -/
def rem (R : Nat) (p : Fin 8) (q : Nat) : Nat := oLeft p * (R + 1) - q + iLeft p

theorem fv0 : ((0 : Fin 8) : Nat) = 0 := rfl
theorem fv1 : ((1 : Fin 8) : Nat) = 1 := rfl
theorem fv2 : ((2 : Fin 8) : Nat) = 2 := rfl
theorem fv3 : ((3 : Fin 8) : Nat) = 3 := rfl
theorem fv4 : ((4 : Fin 8) : Nat) = 4 := rfl
theorem fv5 : ((5 : Fin 8) : Nat) = 5 := rfl
theorem fv6 : ((6 : Fin 8) : Nat) = 6 := rfl
theorem fv7 : ((7 : Fin 8) : Nat) = 7 := rfl

theorem left_le : ∀ p : Fin 8, oLeft p ≤ 4 ∧ iLeft p ≤ 2 := by decide

theorem pstep_left : ∀ (p : Fin 8) (ti tO mp mq : Bool), ¬ (ti = true ∧ (p.val = 0 ∨ p.val = 7)) →
    oLeft p = oLeft (pstep p ti tO mp mq).1 + (tO && oLeft p != 0).toNat ∧
    iLeft (pstep p ti tO mp mq).1 + (ti && oLeft p == 0).toNat ≤ iLeft p := by decide +kernel

theorem rem_le (R : Nat) (p : Fin 8) (q : Nat) : rem R p q ≤ 4 * R + 6 := by
  obtain ⟨h1, h2⟩ := left_le p
  have := Nat.mul_le_mul_right (R + 1) h1
  unfold rem
  omega

theorem rem_step (R q : Nat) (p : Fin 8) (ti tO mp mq : Bool) (hq : q ≤ R)
    (hr : ¬ (ti = true ∧ (p.val = 0 ∨ p.val = 7))) :
    rem R (pstep p ti tO mp mq).1 (qNext q ti tO) + ti.toNat ≤ rem R p q := by
  obtain ⟨ho, hi⟩ := pstep_left p ti tO mp mq hr
  have ht := Bool.toNat_le ti
  unfold rem qNext
  by_cases h0 : oLeft p = 0
  · -- waiting for i-edges
    simp only [h0, bne_self_eq_false, Bool.and_false, Bool.toNat_false, Nat.add_zero, beq_self_eq_true,
      Bool.and_true] at ho hi
    rw [← ho, h0, Nat.zero_mul, Nat.zero_sub, Nat.zero_sub, Nat.zero_add, Nat.zero_add]
    exact hi
  · -- waiting for an o-edge: one comes within `R + 1 - q` i-edges
    have hW : R + 1 ≤ oLeft p * (R + 1) := Nat.le_mul_of_pos_left _ (Nat.pos_of_ne_zero h0)
    have h0' : (oLeft p != 0) = true := by simpa using h0
    have h0'' : (oLeft p == 0) = false := by simpa using h0
    simp only [h0', h0'', Bool.and_true, Bool.and_false, Bool.toNat_false, Nat.add_zero] at ho hi
    cases tO
    · simp only [Bool.toNat_false, Nat.add_zero] at ho
      rw [← ho]
      simp only [Bool.false_eq_true, if_false]
      omega
    · rw [ho, Nat.add_mul] at hW ⊢
      simp only [if_true, Bool.toNat_true, Nat.one_mul] at hW ⊢
      omega

/-- Timer invariant: the count exceeds the number of decrements that can still happen before the reload. -/
def TInv (R : Nat) (s : BSState) (q : Nat) : Prop := ∃ p : Fin 8, Phase s p ∧ rem R p q + 1 ≤ s.count ∧ q ≤ R

theorem tInv_init (t R : Nat) (ht : 4 * R + 7 ≤ t) : TInv R (bsInit t) 0 :=
  ⟨0, phase_init t, by have := rem_le R 0 0; show _ ≤ t; omega, Nat.zero_le _⟩

theorem tInv_not_done {R : Nat} {s : BSState} {q : Nat} (h : TInv R s q) : tmoDone s = false := by
  obtain ⟨p, _, hc, _⟩ := h
  simp [tmoDone]; omega

theorem tInv_step (w t R : Nat) (ht : 4 * R + 7 ≤ t) (s : BSState) (q : Nat) (x : BSIn)
    (h : TInv R s q) (hs : x.tO = false → x.ti = true → q < R) :
    TInv R (bsStep w t s x) (qNext q x.ti x.tO) := by
  have hd := tInv_not_done h
  obtain ⟨p, hph, hcnt, hq⟩ := h
  obtain ⟨hpong, _, hst⟩ := hph.reads
  refine ⟨_, hph.step w t x hd, ?_, qNext_le hq hs⟩
  have hpin : pingIn s = decide (p.val = 0 ∨ p.val = 7) := by
    simp only [pingIn, hst, hpong, hd, Bool.or_false, Bool.decide_or]
  show _ ≤ if x.ti then countN t s else s.count
  cases hti : x.ti
  · have := rem_step R q p false x.tO x.mPing x.mPong hq (by simp)
    simp only [Bool.toNat_false, Bool.false_eq_true, if_false] at this ⊢
    omega
  · simp only [if_true]
    by_cases hr : p.val = 0 ∨ p.val = 7
    · have hpb : pingIn s = true := by rw [hpin]; exact decide_eq_true hr
      have hcn : countN t s = t := by simp [countN, hpb]
      have := rem_le R (pstep p true x.tO x.mPing x.mPong).1 (qNext q true x.tO)
      omega
    · have hpb : pingIn s = false := by rw [hpin]; exact decide_eq_false hr
      have hcn : countN t s = s.count - 1 := by simp [countN, hpb, hd]
      have := rem_step R q p true x.tO x.mPing x.mPong hq (fun h => hr h.2)
      simp only [Bool.toNat_true] at this
      omega

theorem noTimeout_of_burst (w t R : Nat) (ht : 4 * R + 7 ≤ t) (xs : List BSIn) :
    ∀ (s : BSState) (q : Nat), TInv R s q → IBurst R q xs → NoTimeout w t s xs := by
  induction xs with
  | nil => intro _ _ _ _; trivial
  | cons x xs ih =>
    intro s q h hb
    obtain ⟨h1, h2⟩ := iburst_cons hb
    exact ⟨tInv_not_done h, ih _ _ (tInv_step w t R ht s q x h h1) h2⟩

/-- The clock edge the ring waits for in phase `p` is present in the instant. -/
def awaited (p : Fin 8) (ti tO : Bool) : Bool := if oLeft p = 0 then ti else tO

/-- Goal progress while `i` is held at `v`: 0 = nothing yet, 1 = `ibuffer` has been (re)loaded with `v`,
    2 = `o` has been loaded from it. -/
def goalStep (p : Fin 8) (G : Fin 3) (ti tO : Bool) : Fin 3 :=
  if ti = true ∧ p.val = 7 then (if G = 0 then 1 else G)
  else if tO = true ∧ p.val = 4 ∧ G ≠ 0 then 2 else G

/-- Number of ring advances still needed until `o` shows the held word: once `ibuffer` holds it (`G = 1`, phases
    1..4) the wavefront has to reach phase 5, where `o` is loaded; before that (`G = 0`) it first has to come round
    to phase 7 and one step further for the reload (`8 - p`), then those 4; the step out of the reset phase 0 loads
    nothing and lands in phase 1 (1 + 7 + 4 = 12). -/
def todo (p : Fin 8) (G : Fin 3) : Nat :=
  match G.val with
  | 2 => 0
  | 1 => 5 - p.val
  | _ => if p.val == 0 then 12 else (8 - p.val) + 4

/-- Reachable combinations: after the reload and before the output the phase is 1..4. -/
def GOk (p : Fin 8) (G : Fin 3) : Bool := G.val != 1 || (1 ≤ p.val && p.val ≤ 4)

theorem todo_step : ∀ (p : Fin 8) (G : Fin 3) (ti tO mp mq : Bool), GOk p G = true →
    let p' := (pstep p ti tO mp mq).1
    let G' := goalStep p G ti tO
    GOk p' G' = true ∧ todo p' G' ≤ todo p G ∧
    (awaited p ti tO = true → todo p' G' + 1 ≤ todo p G ∨ todo p' G' = 0) ∧
    (awaited p ti tO = false → p' = p ∧ G' = G) := by
  decide +kernel

theorem todo_zero : ∀ (p : Fin 8) (G : Fin 3), GOk p G = true → todo p G = 0 → G = 2 := by decide
theorem todo_le : ∀ (p : Fin 8) (G : Fin 3), todo p G ≤ 12 := by decide

/-- The run of (phase, goal progress) alone: what `bsRun` does to the ring and to the held word, without the registers. -/
def arun : Fin 8 × Fin 3 → List BSIn → Fin 8 × Fin 3
  | a, [] => a
  | a, x :: xs => arun ((pstep a.1 x.ti x.tO x.mPing x.mPong).1, goalStep a.1 a.2 x.ti x.tO) xs

theorem arun_append (x y : List BSIn) : ∀ a, arun a (x ++ y) = arun (arun a x) y := by
  induction x with
  | nil => intro a; rfl
  | cons e es ih => intro a; simp [arun, ih]

theorem block_progress (blk : List BSIn) : ∀ a : Fin 8 × Fin 3, GOk a.1 a.2 = true →
    GOk (arun a blk).1 (arun a blk).2 = true ∧ todo (arun a blk).1 (arun a blk).2 ≤ todo a.1 a.2 ∧
    ((∃ x ∈ blk, awaited a.1 x.ti x.tO = true) →
      todo (arun a blk).1 (arun a blk).2 + 1 ≤ todo a.1 a.2 ∨ todo (arun a blk).1 (arun a blk).2 = 0) := by
  induction blk with
  | nil => intro a ha; exact ⟨ha, le_refl _, fun ⟨_, h, _⟩ => absurd h List.not_mem_nil⟩
  | cons x xs ih =>
    intro a ha
    obtain ⟨t1, t2, t3, t4⟩ := todo_step a.1 a.2 x.ti x.tO x.mPing x.mPong ha
    obtain ⟨i1, i2, i3⟩ := ih ((pstep a.1 x.ti x.tO x.mPing x.mPong).1, goalStep a.1 a.2 x.ti x.tO) t1
    dsimp only at i1 i2 i3
    simp only [arun]
    refine ⟨i1, le_trans i2 t2, fun ⟨y, hy, hw⟩ => ?_⟩
    cases hx : awaited a.1 x.ti x.tO
    · -- nothing moved in this instant, the awaited edge comes later in the block
      obtain ⟨e1, e2⟩ := t4 hx
      simp only [e1, e2] at i3 ⊢
      rcases List.mem_cons.1 hy with rfl | hy'
      · rw [hx] at hw; cases hw
      · exact i3 ⟨y, hy', hw⟩
    · rcases t3 hx with h' | h'
      · left; omega
      · right; omega

theorem bsITicks_eq (xs : List BSIn) : bsITicks xs = xs.countP (·.ti) := by
  induction xs with
  | nil => rfl
  | cons x xs ih => rw [bsITicks, ih, List.countP_cons, Nat.add_comm]

theorem bsOTicks_eq (xs : List BSIn) : bsOTicks xs = xs.countP (·.tO) := by
  induction xs with
  | nil => rfl
  | cons x xs ih => rw [bsOTicks, ih, List.countP_cons, Nat.add_comm]

theorem blocks_progress (blocks : List (List BSIn)) : ∀ a : Fin 8 × Fin 3, GOk a.1 a.2 = true →
    (∀ blk ∈ blocks, 1 ≤ bsITicks blk ∧ 1 ≤ bsOTicks blk) →
    GOk (arun a blocks.flatten).1 (arun a blocks.flatten).2 = true ∧
    (todo (arun a blocks.flatten).1 (arun a blocks.flatten).2 + blocks.length ≤ todo a.1 a.2 ∨
      todo (arun a blocks.flatten).1 (arun a blocks.flatten).2 = 0) := by
  induction blocks with
  | nil => intro a ha _; exact ⟨ha, Or.inl (by simp [arun])⟩
  | cons blk rest ih =>
    intro a ha hb
    obtain ⟨b1, _, b3⟩ := block_progress blk a ha
    obtain ⟨hi, ho⟩ := hb blk List.mem_cons_self
    obtain ⟨r1, r2⟩ := ih (arun a blk) b1 (fun c hc => hb c (List.mem_cons_of_mem _ hc))
    simp only [List.flatten_cons, arun_append, List.length_cons]
    refine ⟨r1, ?_⟩
    -- a block with at least one edge of a clock contains an instant with that edge, so whichever edge is awaited comes
    have := b3 (by
      unfold awaited; split
      · exact List.countP_pos_iff.1 (bsITicks_eq blk ▸ hi)
      · exact List.countP_pos_iff.1 (bsOTicks_eq blk ▸ ho))
    omega

/-- What the goal progress `G` of `goalStep` says of the registers. -/
def DG (v : Nat) (s : BSState) (G : Fin 3) : Prop := (G ≠ 0 → s.ibuf = v) ∧ (G = 2 → s.o = v)

theorem dg_step (w t v : Nat) (s : BSState) (p : Fin 8) (G : Fin 3) (x : BSIn) (h : BSInvP s p)
    (hd : tmoDone s = false) (hg : DG v s G) (hx : x.i % 2 ^ w = v) :
    DG v (bsStep w t s x) (goalStep p G x.ti x.tO) := by
  obtain ⟨_, e1, e2⟩ := bsInvP_step w t s p x h hd
  obtain ⟨g1, g2⟩ := hg
  unfold DG goalStep
  rw [e1, e2]
  by_cases c7 : x.ti = true ∧ p.val = 7
  · have c4 : ¬ (x.tO = true ∧ p.val = 4) := fun c => by omega
    rw [if_pos c7, if_pos c7, if_neg c4, hx]
    refine ⟨fun _ => rfl, fun h2 => g2 ?_⟩
    split at h2
    · cases h2
    · exact h2
  · rw [if_neg c7, if_neg c7]
    by_cases c4 : x.tO = true ∧ p.val = 4
    · rw [if_pos c4]
      by_cases h0 : G = 0
      · rw [if_neg (fun c => c.2.2 h0)]
        exact ⟨fun h => absurd h0 h, fun h2 => by rw [h0] at h2; cases h2⟩
      · rw [if_pos ⟨c4.1, c4.2, h0⟩]
        exact ⟨fun _ => g1 h0, fun _ => g1 h0⟩
    · rw [if_neg c4, if_neg (fun c => c4 ⟨c.1, c.2.1⟩)]
      exact ⟨g1, g2⟩

theorem bsRun_append (w t : Nat) (x y : List BSIn) : ∀ s, bsRun w t s (x ++ y) = bsRun w t (bsRun w t s x) y := by
  induction x with
  | nil => intro s; rfl
  | cons e es ih => intro s; simp [bsRun, ih]

theorem noTimeout_append (w t : Nat) (x y : List BSIn) : ∀ s, NoTimeout w t s (x ++ y) →
    NoTimeout w t s x ∧ NoTimeout w t (bsRun w t s x) y := by
  induction x with
  | nil => intro s h; exact ⟨trivial, h⟩
  | cons e es ih =>
    intro s h
    obtain ⟨i1, i2⟩ := ih _ h.2
    exact ⟨⟨h.1, i1⟩, i2⟩

theorem dg_run (w t v : Nat) (xs : List BSIn) : ∀ (s : BSState) (p : Fin 8) (G : Fin 3), BSInvP s p → DG v s G →
    NoTimeout w t s xs → (∀ e ∈ xs, e.i % 2 ^ w = v) →
    BSInvP (bsRun w t s xs) (arun (p, G) xs).1 ∧ DG v (bsRun w t s xs) (arun (p, G) xs).2 := by
  induction xs with
  | nil => intro s p G h hg _ _; exact ⟨h, hg⟩
  | cons x xs ih =>
    intro s p G h hg hn hv
    exact ih _ _ _ (bsInvP_step w t s p x h hn.1).1 (dg_step w t v s p G x h hn.1 hg (hv x List.mem_cons_self)) hn.2
      (fun e he => hv e (List.mem_cons_of_mem _ he))

/-- Twelve ring advances are the longest way (`todo_le`: from the reset phase). -/
theorem held_word_crosses (w t v : Nat) {s : BSState} {p : Fin 8} (hp : BSInvP s p) (blocks : List (List BSIn))
    (hn : NoTimeout w t s blocks.flatten) (hb : ∀ blk ∈ blocks, 1 ≤ bsITicks blk ∧ 1 ≤ bsOTicks blk)
    (hlen : 12 ≤ blocks.length) (hv : ∀ e ∈ blocks.flatten, e.i % 2 ^ w = v) : (bsRun w t s blocks.flatten).o = v := by
  have hok : GOk p 0 = true := (by decide : ∀ q : Fin 8, GOk q 0 = true) p
  obtain ⟨_, h2⟩ := dg_run w t v blocks.flatten _ p 0 hp ⟨by simp, by simp⟩ hn hv
  obtain ⟨b1, b2⟩ := blocks_progress blocks (p, 0) hok hb
  have hz : todo (arun (p, 0) blocks.flatten).1 (arun (p, 0) blocks.flatten).2 = 0 := by
    rcases b2 with h | h
    · have := todo_le p 0
      dsimp only at h
      omega
    · exact h
  exact h2.2 (todo_zero _ _ b1 hz)

/-! Both schedule predicates are decidable (used by the concrete examples). -/

def decNoTimeout (w t : Nat) : (s : BSState) → (xs : List BSIn) → Decidable (NoTimeout w t s xs)
  | _, [] => isTrue trivial
  | s, x :: xs =>
    have := decNoTimeout w t (bsStep w t s x) xs
    show Decidable (tmoDone s = false ∧ NoTimeout w t (bsStep w t s x) xs) from inferInstance

instance (w t : Nat) (s : BSState) (xs : List BSIn) : Decidable (NoTimeout w t s xs) := decNoTimeout w t s xs

def decIBurst (R : Nat) : (q : Nat) → (xs : List BSIn) → Decidable (IBurst R q xs)
  | _, [] => isTrue trivial
  | q, x :: xs =>
    have := decIBurst R 0 xs
    have := decIBurst R (q + 1) xs
    have := decIBurst R q xs
    show Decidable (if x.tO then IBurst R 0 xs else if x.ti then q < R ∧ IBurst R (q + 1) xs else IBurst R q xs)
      from inferInstance

instance (R q : Nat) (xs : List BSIn) : Decidable (IBurst R q xs) := decIBurst R q xs

end Litex.Cdc
