import LitexProofs.Cdc.AsyncFifo
/-
  Common-reset variant: a reset that is held long enough returns the FIFO to a state satisfying the invariant
  with an empty history, from ANY state (also a corrupted one): one edge of each clock zeroes the resettable registers
  (`rst_zero`); the synchroniser flops are reset-less and take two more edges of each clock to flush (`rst_flush`).
-/
namespace Litex.Cdc
variable {α : Type}

theorem afStepR_false (k : Nat) (b : Bool) (z : α) (s : AFState α) (i : AFIn α) :
    afStepR k b z s i false = afStep k b z s i := by
  simp only [afStepR, afStep, Bool.false_eq_true, if_false, Bool.and_false]
  cases i.tw <;> cases h : wce k s i <;> simp

/-- The resettable registers of the write side (and the storage) are at their reset value. -/
def WZero (k : Nat) (z : α) (s : AFState α) : Prop := s.pbin = 0 ∧ s.pq = 0 ∧ s.mem = List.replicate (2 ^ k) z
/-- The resettable registers of the read side are at their reset value. -/
def RZero (s : AFState α) : Prop := s.cbin = 0 ∧ s.cq = 0 ∧ s.radr = 0 ∧ s.bval = false

section
variable {k : Nat} {b : Bool} {z : α}

theorem wzero_keep {s : AFState α} {i : AFIn α} {rw : Bool} (rr : Bool) (hr : i.tw = true → rw = true)
    (hz : i.tw = false → WZero k z s) : WZero k z (afStepR2 k b z s i rw rr) := by
  cases htw : i.tw
  · simpa [WZero, afStepR2, htw] using hz htw
  · obtain rfl := hr htw
    simp [WZero, afStepR2, htw, gray_zero]

theorem rzero_keep {s : AFState α} {i : AFIn α} {rr : Bool} (rw : Bool) (hr : i.tr = true → rr = true)
    (hz : i.tr = false → RZero s) : RZero (afStepR2 k b z s i rw rr) := by
  cases htr : i.tr
  · obtain ⟨h1, h2, h3, h4⟩ := hz htr
    simp [RZero, afStepR2, htr, h1, h2, h3, h4]
  · obtain rfl := hr htr
    simp [RZero, afStepR2, htr, gray_zero]

theorem rst_w {s : AFState α} {i : AFIn α} (h : i.tw = true ∨ WZero k z s) : WZero k z (afStepR k b z s i true) :=
  wzero_keep true (fun _ => rfl) fun htw => h.resolve_left (by simp [htw])

theorem rst_r {s : AFState α} {i : AFIn α} (h : i.tr = true ∨ RZero s) : RZero (afStepR k b z s i true) :=
  rzero_keep true (fun _ => rfl) fun htr => h.resolve_left (by simp [htr])

theorem mix_zero (m : Nat) : mix m 0 0 = 0 := by simp [mix]

theorem Ptr.flush {x : Ptr} {j : Nat} (hq : x.q = 0) (hf : Fill (· = 0) j x.r1 x.r2) (ts td : Bool) (m : Nat) :
    Fill (· = 0) (j + if td then 1 else 0) (x.step ts td 0 m).r1 (x.step ts td 0 m).r2 :=
  hf.step td fun _ => by cases ts <;> simp [hq, gray_zero, mix_zero]

variable (k b z)

theorem rst_zero (xs : List (AFIn α)) : ∀ s : AFState α,
    (1 ≤ writeTicks xs ∨ WZero k z s) → (1 ≤ readTicks xs ∨ RZero s) →
      WZero k z (runRst k b z s xs) ∧ RZero (runRst k b z s xs) := by
  induction xs with
  | nil =>
    intro s h1 h2
    simp only [writeTicks, readTicks] at h1 h2
    exact ⟨by rcases h1 with h | h; omega; exact h, by rcases h2 with h | h; omega; exact h⟩
  | cons i is ih =>
    intro s h1 h2
    simp only [runRst]
    apply ih
    · cases htw : i.tw
      · rcases h1 with h | h
        · left; simpa [writeTicks, htw] using h
        · right; exact rst_w (Or.inr h)
      · right; exact rst_w (Or.inl htw)
    · cases htr : i.tr
      · rcases h2 with h | h
        · left; simpa [readTicks, htr] using h
        · right; exact rst_r (Or.inr h)
      · right; exact rst_r (Or.inl htr)

theorem rst_flush (xs : List (AFIn α)) : ∀ (s : AFState α) (j j' : Nat), WZero k z s → RZero s →
    Fill (· = 0) j s.pr1 s.pr2 → Fill (· = 0) j' s.cw1 s.cw2 →
    let e := runRst k b z s xs
    (WZero k z e ∧ RZero e) ∧ Fill (· = 0) (j + readTicks xs) e.pr1 e.pr2 ∧
      Fill (· = 0) (j' + writeTicks xs) e.cw1 e.cw2 := by
  induction xs with
  | nil => intro s j j' hw hr f1 f2; exact ⟨⟨hw, hr⟩, f1, f2⟩
  | cons i is ih =>
    intro s j j' hw hr f1 f2
    -- `afStepR … true` is `Ptr.step` to the value 0 on `wptr s` (clocks `tw`, `tr`) and on `rptr s` (clocks `tr`, `tw`)
    have := ih (afStepR k b z s i true) _ _ (rst_w (Or.inr hw)) (rst_r (Or.inr hr))
      (Ptr.flush (x := wptr s) hw.2.1 f1 i.tw i.tr i.mr) (Ptr.flush (x := rptr s) hr.2.1 f2 i.tr i.tw i.mw)
    rwa [Nat.add_assoc, Nat.add_assoc] at this

theorem runRst_append (x y : List (AFIn α)) : ∀ s : AFState α,
    runRst k b z s (x ++ y) = runRst k b z (runRst k b z s x) y := by
  induction x with
  | nil => intro s; rfl
  | cons i is ih => intro s; simp [runRst, ih]

theorem rst_state (x y : List (AFIn α)) (s : AFState α)
    (hx : 1 ≤ writeTicks x ∧ 1 ≤ readTicks x) (hy : 2 ≤ writeTicks y ∧ 2 ≤ readTicks y) :
    runRst k b z s (x ++ y) = { afInit k z with bdat := (runRst k b z s (x ++ y)).bdat } := by
  rw [runRst_append]
  obtain ⟨hw, hr⟩ := rst_zero k b z x s (Or.inl hx.1) (Or.inl hx.2)
  obtain ⟨⟨hw', hr'⟩, fp, fc⟩ := rst_flush k b z y _ 0 0 hw hr (Fill.zero _ _ _) (Fill.zero _ _ _)
  have p1 : _ = 0 := fp.1 (by omega)
  have p2 : _ = 0 := fp.2 (by omega)
  have c1 : _ = 0 := fc.1 (by omega)
  have c2 : _ = 0 := fc.2 (by omega)
  obtain ⟨w1, w2, w3⟩ := hw'
  obtain ⟨r1, r2, r3, r4⟩ := hr'
  -- each of the eleven registers other than `bdat` is named by one of these equations
  generalize runRst k b z (runRst k b z s x) y = e at *
  obtain ⟨pbin, pq, cw1, cw2, mem, cbin, cq, pr1, pr2, radr, bval, bdat⟩ := e
  simp only at w1 w2 w3 r1 r2 r3 r4 p1 p2 c1 c2
  subst w1 w2 w3 r1 r2 r3 r4 p1 p2 c1 c2
  rfl

theorem rst_inv (x y : List (AFIn α)) (s : AFState α)
    (hx : 1 ≤ writeTicks x ∧ 1 ≤ readTicks x) (hy : 2 ≤ writeTicks y ∧ 2 ≤ readTicks y) :
    AFInv k b (runRst k b z s (x ++ y)) (gInit (α := α)) := by
  rw [rst_state k b z x y s hx hy]
  exact inv_init_bdat k b z _

end
end Litex.Cdc
