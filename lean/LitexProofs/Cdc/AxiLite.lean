import LitexModel.Cdc.AxiLite
import LitexProofs.Cdc.AsyncFifo
/-
  `AXILiteClockDomainCrossing` is a product of five independent FIFOs: each channel of the product runs as a single
  FIFO on the schedule projected to it, so the FIFO theorems carry over channel by channel.
-/
namespace Litex.Cdc
variable {α : Type}

theorem ax_step_ch (k : Nat) (z : α) (c : AxChan) (s : AxState α) (x : AxIn α) :
    (axStep k z s x).ch c = afStep k false z (s.ch c) (axChanIn c x) := by
  cases c <;> rfl

theorem ax_run_ch (k : Nat) (z : α) (c : AxChan) (xs : List (AxIn α)) : ∀ s : AxState α,
    (axRun k z s xs).ch c = runFrom k false z (s.ch c) (xs.map (axChanIn c)) := by
  induction xs with
  | nil => intro s; rfl
  | cons x xs ih => intro s; simp only [axRun, List.map_cons, runFrom, ih, ax_step_ch]

theorem ax_accepted_ch (k : Nat) (z : α) (c : AxChan) (xs : List (AxIn α)) : ∀ s : AxState α,
    axAccepted k z c s xs = accepted k false z (s.ch c) (xs.map (axChanIn c)) := by
  induction xs with
  | nil => intro s; rfl
  | cons x xs ih => intro s; simp only [axAccepted, List.map_cons, accepted, ih, ax_step_ch]

theorem ax_delivered_ch (k : Nat) (z : α) (c : AxChan) (xs : List (AxIn α)) : ∀ s : AxState α,
    axDelivered k z c s xs = delivered k false z (s.ch c) (xs.map (axChanIn c)) := by
  induction xs with
  | nil => intro s; rfl
  | cons x xs ih => intro s; simp only [axDelivered, List.map_cons, delivered, ih, ax_step_ch]

theorem ax_init_ch (k : Nat) (z : α) (c : AxChan) : (axInit k z).ch c = afInit k z := by cases c <;> rfl

end Litex.Cdc
