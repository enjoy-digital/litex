import LitexProofs.Cdc.Reset
/-
  Common reset through real (two-flop, asynchronously preset) reset synchronisers: the two domains leave reset at
  different times.  Simulation argument: once each side's pointers have been zeroed, the crossing — with the
  not-yet-flushed synchroniser flops of a domain that is still in reset read as 0 — is step for step a plain FIFO
  started from its initial state whose producer/consumer is held off while its domain is in reset.
-/
namespace Litex.Cdc
variable {α : Type}

theorem afStepR2_common (k : Nat) (b : Bool) (z : α) (s : AFState α) (i : AFIn α) (r : Bool) :
    afStepR2 k b z s i r r = afStepR k b z s i r := rfl

/-- Synchroniser flops of a domain that is still in reset, not yet flushed, read as 0. -/
def patch (aw ar : ARSState) (s : AFState α) : AFState α :=
  { s with cw1 := if aw.m1 then 0 else s.cw1, cw2 := if aw.rst then 0 else s.cw2,
           pr1 := if ar.m1 then 0 else s.pr1, pr2 := if ar.rst then 0 else s.pr2 }

/-- One instant of the masked schedule: `crMasked aw ar (i :: is) = maskIn aw ar i :: crMasked … is` by definition. -/
def maskIn (aw ar : ARSState) (i : AFIn α) : AFIn α :=
  { i with valid := i.valid && !aw.rst, ready := i.ready && !ar.rst }

/-- A reachable synchroniser state after a preset: `m1` implies `rst`. -/
def ARSOk (s : ARSState) : Prop := s.m1 = true → s.rst = true

theorem arsOk_step (s : ARSState) (t : Bool) (h : ARSOk s) : ARSOk (arsStep s t false) := by
  obtain ⟨m, r⟩ := s
  cases t <;> cases m <;> cases r <;> simp_all [ARSOk, arsStep]

section
variable {k : Nat} {b : Bool} {z : α} {s : AFState α} {i : AFIn α} {aw ar : ARSState}

theorem sync_keep (hw : aw.rst = true → WZero k z s) (hr : ar.rst = true → RZero s) (okw : ARSOk aw)
    (okr : ARSOk ar) :
    ((arsStep aw i.tw false).rst = true → WZero k z (afStepR2 k b z s i aw.rst ar.rst)) ∧
    ((arsStep ar i.tr false).rst = true → RZero (afStepR2 k b z s i aw.rst ar.rst)) := by
  constructor
  · intro h
    exact wzero_keep _ (fun htw => okw (by rwa [htw] at h)) fun htw => hw (by rwa [htw] at h)
  · intro h
    exact rzero_keep _ (fun htr => okr (by rwa [htr] at h)) fun htr => hr (by rwa [htr] at h)

theorem patch_wce : wce k (patch aw ar s) (maskIn aw ar i) = (!aw.rst && wce k s i) := by
  cases h : aw.rst <;> simp [wce, writable, patch, maskIn, h]

theorem patch_pbinN (hw : aw.rst = true → WZero k z s) :
    pbinN k (patch aw ar s) (maskIn aw ar i) = if aw.rst then 0 else pbinN k s i := by
  unfold pbinN
  rw [patch_wce]
  cases h : aw.rst
  · rfl
  · exact (hw h).1

theorem patch_ireadable (hr : ar.rst = true → RZero s) :
    ireadable (patch aw ar s) = (!ar.rst && ireadable s) := by
  cases h : ar.rst
  · simp [ireadable, patch, h]
  · simp [ireadable, patch, h, (hr h).2.1]

theorem patch_bufLoad (hr : ar.rst = true → RZero s) :
    (b && (maskIn aw ar i).tr && ire b (patch aw ar s) (maskIn aw ar i).ready) = (b && i.tr && ire b s i.ready) := by
  cases b
  · rfl
  · cases h : ar.rst
    · simp [ire, patch, maskIn, h]
    · simp [ire, patch, maskIn, h, (hr h).2.2.2]

theorem patch_memOut : memOut z (patch aw ar s) = memOut z s := rfl

theorem patch_rce (hr : ar.rst = true → RZero s) :
    rce b (patch aw ar s) (maskIn aw ar i) = (!ar.rst && rce b s i) := by
  unfold rce
  rw [patch_ireadable hr]
  cases h : ar.rst
  · simp [ire, patch, maskIn, h]
  · simp

theorem patch_cbinN (hr : ar.rst = true → RZero s) :
    cbinN k b (patch aw ar s) (maskIn aw ar i) = if ar.rst then 0 else cbinN k b s i := by
  unfold cbinN
  rw [patch_rce hr]
  cases h : ar.rst
  · rfl
  · exact (hr h).1

theorem sync_sim (hw : aw.rst = true → WZero k z s) (hr : ar.rst = true → RZero s) :
    patch (arsStep aw i.tw false) (arsStep ar i.tr false) (afStepR2 k b z s i aw.rst ar.rst) =
      afStep k b z (patch aw ar s) (maskIn aw ar i) := by
  -- right-hand side: unfold the step, and replace each combinational signal of the patched, masked FIFO by its
  -- value in terms of `s` and `i` (the lemmas above)
  simp only [afStep, patch_pbinN hw, patch_cbinN hr, patch_wce, patch_ireadable hr, patch_bufLoad hr, patch_memOut]
  -- left-hand side: unfold the step with resets and `patch`; both sides are now records of `if`s over `s`, `i`
  simp only [patch, maskIn, afStepR2, arsStep, Bool.false_eq_true, if_false]
  -- `pbin pq cbin cq radr bdat` agree literally; field by field for the rest
  congr 1
  case e_cw1 => by_cases h : i.tw = true <;> simp only [h] <;> rfl
  case e_cw2 => by_cases h : i.tw = true <;> simp only [h] <;> rfl
  case e_mem =>
    -- under write-side reset the storage is already in its reset state
    by_cases h : i.tw = true
    · cases h' : aw.rst
      · simp [h]
      · simp [h, (hw h').2.2]
    · simp [h]
  case e_pr1 => by_cases h : i.tr = true <;> simp only [h] <;> rfl
  case e_pr2 => by_cases h : i.tr = true <;> simp only [h] <;> rfl
  case e_bval =>
    -- under read-side reset `readable` of the output stage is and stays low
    cases h : ar.rst
    · simp
    · by_cases h' : i.tr = true <;> simp [h', (hr h).2.2.2]

end

section
variable (k : Nat) (b : Bool) (z : α)

theorem crStep_false_f (S : CRState α) (i : AFIn α) :
    (crStep k b z S i false).f = afStepR2 k b z S.f i S.aw.rst S.ar.rst := by
  simp [crStep, arsOut]

theorem sync_run (ys : List (AFIn α)) : ∀ (S : CRState α), ARSOk S.aw → ARSOk S.ar →
    (S.aw.rst = true → WZero k z S.f) → (S.ar.rst = true → RZero S.f) →
    patch (crRun k b z false S ys).aw (crRun k b z false S ys).ar (crRun k b z false S ys).f =
      runFrom k b z (patch S.aw S.ar S.f) (crMasked S.aw S.ar ys) := by
  induction ys with
  | nil => intro S _ _ _ _; rfl
  | cons i is ih =>
    intro S okw okr hw hr
    simp only [crRun, crMasked, runFrom]
    have hk := sync_keep (b := b) (i := i) hw hr okw okr
    have hs := sync_sim (b := b) (i := i) hw hr
    have := ih (crStep k b z S i false) (arsOk_step _ _ okw) (arsOk_step _ _ okr)
      (by rw [crStep_false_f]; exact hk.1) (by rw [crStep_false_f]; exact hk.2)
    rw [this]
    simp only [crStep, arsOut, Bool.false_or]
    rw [hs]
    rfl

theorem ars_fill {a : ARSState} {j : Nat} (hf : Fill (· = false) j a.m1 a.rst) (t : Bool) :
    Fill (· = false) (j + if t then 1 else 0) (arsStep a t false).m1 (arsStep a t false).rst := by
  cases t
  · exact hf
  · exact hf.step true (v := false) fun _ => rfl

theorem ars_release_w (ys : List (AFIn α)) : ∀ (S : CRState α) (j : Nat), Fill (· = false) j S.aw.m1 S.aw.rst →
    Fill (· = false) (j + writeTicks ys) (crRun k b z false S ys).aw.m1 (crRun k b z false S ys).aw.rst := by
  induction ys with
  | nil => intro S j h; exact h
  | cons i is ih => intro S j h; have := ih (crStep k b z S i false) _ (ars_fill h i.tw); rwa [Nat.add_assoc] at this

theorem ars_release_r (ys : List (AFIn α)) : ∀ (S : CRState α) (j : Nat), Fill (· = false) j S.ar.m1 S.ar.rst →
    Fill (· = false) (j + readTicks ys) (crRun k b z false S ys).ar.m1 (crRun k b z false S ys).ar.rst := by
  induction ys with
  | nil => intro S j h; exact h
  | cons i is ih => intro S j h; have := ih (crStep k b z S i false) _ (ars_fill h i.tr); rwa [Nat.add_assoc] at this

theorem ars_released {a : ARSState} {j : Nat} (h : Fill (· = false) j a.m1 a.rst) (hj : 2 ≤ j) : a = ⟨false, false⟩ := by
  obtain ⟨m, r⟩ := a
  have h1 : m = false := h.1 (by omega)
  have h2 : r = false := h.2 hj
  rw [h1, h2]

theorem crRun_true (xs : List (AFIn α)) : ∀ (S : CRState α),
    (crRun k b z true S xs).f = runRst k b z S.f xs ∧
    (xs ≠ [] → (crRun k b z true S xs).aw = ⟨true, true⟩ ∧ (crRun k b z true S xs).ar = ⟨true, true⟩) := by
  induction xs with
  | nil => intro S; simp [crRun, runRst]
  | cons i is ih =>
    intro S
    simp only [crRun, runRst]
    obtain ⟨h1, h2⟩ := ih (crStep k b z S i true)
    refine ⟨by rw [h1]; simp [crStep, arsOut, afStepR2_common], fun _ => ?_⟩
    cases is with
    | nil => simp [crRun, crStep, arsStep]
    | cons j js => exact h2 (by simp)

theorem patch_released (s : AFState α) : patch ⟨false, false⟩ ⟨false, false⟩ s = s := by
  cases s; simp [patch]

theorem patch_zero (s : AFState α) (hw : WZero k z s) (hr : RZero s) :
    patch ⟨true, true⟩ ⟨true, true⟩ s = { afInit k z with bdat := s.bdat } := by
  obtain ⟨w1, w2, w3⟩ := hw
  obtain ⟨r1, r2, r3, r4⟩ := hr
  cases s
  simp_all [patch, afInit]

/-- `S`: a state at the end of a reset pulse that covered an edge of each clock. -/
theorem sync_after_pulse (S : CRState α) (haw : S.aw = ⟨true, true⟩) (har : S.ar = ⟨true, true⟩) (hwz : WZero k z S.f)
    (hrz : RZero S.f) (y : List (AFIn α)) :
    let S2 := crRun k b z false S y
    let fresh := runFrom k b z { afInit k z with bdat := S.f.bdat } (crMasked ⟨true, true⟩ ⟨true, true⟩ y)
    patch S2.aw S2.ar S2.f = fresh ∧
    (2 ≤ writeTicks y → 2 ≤ readTicks y → S2.f = fresh ∧ S2.aw = ⟨false, false⟩ ∧ S2.ar = ⟨false, false⟩) := by
  intro S2 fresh
  have hp : patch S2.aw S2.ar S2.f = fresh := by
    simp only [S2, fresh]
    rw [sync_run k b z y S (by simp [haw, ARSOk]) (by simp [har, ARSOk]) (fun _ => hwz) (fun _ => hrz), haw, har,
      patch_zero k z _ hwz hrz]
  refine ⟨hp, fun h2w h2r => ?_⟩
  have rw' := ars_released (ars_release_w k b z y S 0 (Fill.zero _ _ _)) (by omega)
  have rr' := ars_released (ars_release_r k b z y S 0 (Fill.zero _ _ _)) (by omega)
  refine ⟨?_, rw', rr'⟩
  simp only [S2] at hp ⊢
  rwa [rw', rr', patch_released] at hp

end
end Litex.Cdc
