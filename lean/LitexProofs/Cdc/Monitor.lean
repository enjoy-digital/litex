import LitexModel.Cdc.Monitor
import LitexProofs.Cdc.Cross
/-
  `stream.Monitor` in a foreign clock domain: the latch strobe is a `PulseSynchronizer` (so its theorems apply to
  `monLatches`); the count comes back through a plain two-flop `MultiReg`, which settles on a stable count after
  two sys edges and otherwise can show a per-bit mixture of two consecutive counts, exactly at coincident edges.
-/
namespace Litex.Cdc

theorem mon_lat_run (w : Nat) (xs : List MonIn) : ∀ s, (monRun w s xs).lat = psRun s.lat (xs.map monLatIn) := by
  induction xs with
  | nil => intro s; rfl
  | cons x xs ih => intro s; simp only [monRun, List.map_cons, psRun, ih]; rfl

theorem mon_latches (w : Nat) (xs : List MonIn) : ∀ s, monLatches w s xs = psSeen s.lat (xs.map monLatIn) := by
  induction xs with
  | nil => intro s; rfl
  | cons x xs ih => intro s; simp only [monLatches, List.map_cons, psSeen, ih]; rfl

theorem mon_status_progress (w : Nat) (xs : List MonIn) : ∀ (s : MonState) (j : Nat), LatchedStable w s xs →
    Fill (· = s.latd) j s.s1 s.s2 →
    (monRun w s xs).latd = s.latd ∧
      Fill (· = s.latd) (j + monSysTicks xs) (monRun w s xs).s1 (monRun w s xs).s2 := by
  induction xs with
  | nil => intro s j _ hf; exact ⟨rfl, hf⟩
  | cons x xs ih =>
    intro s j ⟨h0, hs'⟩ hf
    have hl : (monStep w s x).latd = s.latd := by
      show (if x.tc then latdN s else s.latd) = _
      split
      · exact h0 ‹_›
      · rfl
    have hf' : Fill (· = (monStep w s x).latd) (j + if x.ts then 1 else 0) (monStep w s x).s1 (monStep w s x).s2 := by
      rw [hl]
      exact hf.sync x.ts x.tc x.mCnt s.latd (latdN s) rfl fun _ htc => by rw [h0 htc, mix_same]
    have := ih _ _ hs' hf'
    rwa [hl, Nat.add_assoc] at this

theorem monLatdHist_head (w : Nat) (s : MonState) (xs : List MonIn) : s.latd ∈ monLatdHist w s xs := by
  cases xs <;> simp [monLatdHist]

theorem mon_status_mix (w : Nat) (Q : Nat → Prop) (xs : List MonIn) : ∀ s : MonState,
    (∀ a ∈ monLatdHist w s xs, ∀ b ∈ monLatdHist w s xs, ∀ m, Q (mix m a b)) → Fill Q 2 s.s1 s.s2 →
    Q (monRun w s xs).s2 := by
  induction xs with
  | nil => intro s _ hf; exact hf.two (le_refl _)
  | cons x xs ih =>
    intro s hQ hf
    -- at a sys edge the two flops shift; the first samples the latched count or, if that changes in the same instant,
    -- a mixture of its old and its new value, which is the head of the remaining history
    refine ih _ (fun a ha b hb => hQ a (List.mem_cons_of_mem _ ha) b (List.mem_cons_of_mem _ hb))
      ((hf.sync x.ts x.tc x.mCnt s.latd (latdN s) ?_ fun _ htc => ?_).mono (by split <;> omega))
    · rw [← mix_same 0 s.latd]; exact hQ _ List.mem_cons_self _ List.mem_cons_self _
    · refine hQ _ List.mem_cons_self _ (List.mem_cons_of_mem _ ?_) _
      have := monLatdHist_head w (monStep w s x) xs
      simpa [monStep, htc] using this

theorem mon_status_coherent (w : Nat) (Q : Nat → Prop) (xs : List MonIn) : ∀ s : MonState, NoCoincidentChange w s xs →
    (∀ a ∈ monLatdHist w s xs, Q a) → Fill Q 2 s.s1 s.s2 → Q (monRun w s xs).s2 := by
  induction xs with
  | nil => intro s _ _ hf; exact hf.two (le_refl _)
  | cons x xs ih =>
    intro s ⟨h0, hn'⟩ hQ hf
    have hl := hQ _ List.mem_cons_self
    exact ih _ hn' (fun a ha => hQ a (List.mem_cons_of_mem _ ha))
      ((hf.sync x.ts x.tc x.mCnt s.latd (latdN s) hl fun hts htc => by rw [h0 hts htc, mix_same]; exact hl).mono
        (by split <;> omega))

def decNoCoincidentChange (w : Nat) : (s : MonState) → (xs : List MonIn) → Decidable (NoCoincidentChange w s xs)
  | _, [] => isTrue trivial
  | s, x :: xs =>
    have := decNoCoincidentChange w (monStep w s x) xs
    show Decidable ((x.ts = true → x.tc = true → latdN s = s.latd) ∧ NoCoincidentChange w (monStep w s x) xs)
      from inferInstance

instance (w : Nat) (s : MonState) (xs : List MonIn) : Decidable (NoCoincidentChange w s xs) :=
  decNoCoincidentChange w s xs

end Litex.Cdc
