import LitexProofs.Cdc.Drift
import Mathlib.Tactic.Ring
/-
  PulseSynchronizer: pulse accounting (input pulses = output pulses + toggles in flight, exactly when pulses are spaced:
  `ps_seen_le`, `ps_seen_eq`), the spacing `PSpaced` derived from a drift bound and a minimum gap (`pspaced_of_gap`), the
  tight schedule on which one gap less loses both pulses (`ps_tight`), and the two schedule predicates decided.
-/
namespace Litex.Cdc

theorem psFlight_le (s : PSState) : psFlight s ≤ 3 := by
  obtain ⟨tog, r1, r2, tor⟩ := s
  revert tog r1 r2 tor
  decide

theorem ps_step_le (s : PSState) (x : PSIn) :
    (if x.tO && psOut s then 1 else 0) + psFlight (psStep s x) ≤ psFlight s + (if x.ti && x.i then 1 else 0) := by
  obtain ⟨tog, r1, r2, tor⟩ := s
  obtain ⟨ti, tO, m, i⟩ := x
  revert tog r1 r2 tor ti tO m i
  decide +kernel

/-- `h`: the previous toggle has been caught by the first flop before the next pulse. -/
theorem ps_step_eq (s : PSState) (x : PSIn) (h : (x.ti && x.i) = true → s.tog = s.r1) :
    (if x.tO && psOut s then 1 else 0) + psFlight (psStep s x) = psFlight s + (if x.ti && x.i then 1 else 0) := by
  obtain ⟨tog, r1, r2, tor⟩ := s
  obtain ⟨ti, tO, m, i⟩ := x
  revert tog r1 r2 tor ti tO m i
  decide +kernel

theorem ps_seen_le (xs : List PSIn) : ∀ s, psSeen s xs + psFlight (psRun s xs) ≤ psFlight s + psSent xs := by
  induction xs with
  | nil => intro s; simp [psSeen, psRun, psSent]
  | cons x xs ih =>
    intro s
    have h1 := ps_step_le s x
    have h2 := ih (psStep s x)
    simp only [psSeen, psRun, psSent]
    omega

theorem pend_step (s : PSState) (x : PSIn) (pend : Bool) (hp : pend = (s.tog != s.r1))
    (h : (x.ti && x.i) = true → pend = false) :
    pendNext pend x = ((psStep s x).tog != (psStep s x).r1) := by
  obtain ⟨tog, r1, r2, tor⟩ := s
  obtain ⟨ti, tO, m, i⟩ := x
  subst hp
  revert tog r1 r2 tor ti tO m i
  decide +kernel

theorem ps_seen_eq (xs : List PSIn) : ∀ s pend, pend = (s.tog != s.r1) → PSpaced pend xs →
    psSeen s xs + psFlight (psRun s xs) = psFlight s + psSent xs := by
  induction xs with
  | nil => intro s _ _ _; simp [psSeen, psRun, psSent]
  | cons x xs ih =>
    intro s pend hp hs
    obtain ⟨h0, hs'⟩ := hs
    have hcaught : (x.ti && x.i) = true → s.tog = s.r1 := by
      intro hx
      have := h0 hx
      rw [hp] at this
      simpa using this
    have h1 := ps_step_eq s x hcaught
    have h2 := ih (psStep s x) _ (pend_step s x pend hp h0) hs'
    simp only [psSeen, psRun, psSent]
    omega

theorem ps_shift (s : PSState) (x : PSIn) (h : x.tO = true ∧ (x.ti && x.i) = false) :
    psStep s x = { tog := s.tog, r1 := s.tog, r2 := s.r1, tor := s.r2 } := by
  obtain ⟨ti, tO, m, i⟩ := x
  simp only at h
  obtain ⟨rfl, h⟩ := h
  cases ti <;> cases i <;> cases m <;> simp_all [psStep]

theorem pgap_cons {n c : Nat} {x : PSIn} {xs : List PSIn} (h : PGap n c (x :: xs)) :
    ((x.ti && x.i) = true → n ≤ c) ∧ PGap n (if x.ti && x.i then 0 else c + x.ti.toNat) xs := by
  unfold PGap at h
  cases hp : (x.ti && x.i)
  · rw [hp] at h
    cases hti : x.ti <;> simpa [hti] using h
  · rw [hp] at h
    exact ⟨fun _ => h.1, h.2⟩

/-- An o-clock edge falls strictly between any two pulses: while a pulse is pending no o-edge has come since, so
    the pulse-free i-edges `c` since then are among the `q ≤ R` i-edges since the last o-edge. -/
theorem pspaced_of_gap (R : Nat) (xs : List PSIn) : ∀ (q c : Nat) (pend : Bool), q ≤ R → (pend = true → c ≤ q) →
    PBurst R q xs → PGap (R + 1) c xs → PSpaced pend xs := by
  induction xs with
  | nil => intros; trivial
  | cons x xs ih =>
    intro q c pend hq hj hb hg
    obtain ⟨b1, b2⟩ := pburst_cons hb
    obtain ⟨g1, g2⟩ := pgap_cons hg
    refine ⟨fun hx => ?_, ih _ _ _ (qNext_le hq b1) ?_ b2 g2⟩
    · cases pend
      · rfl
      · have := hj rfl; have := g1 hx; omega
    · unfold pendNext qNext
      cases (x.ti && x.i)
      · cases x.tO
        · intro hp; have := hj (by simpa using hp); simpa using this
        · simp
      · simp

theorem ps_idle_step (s : PSState) : psStep s ⟨true, false, false, false⟩ = s := by
  cases s; simp [psStep]

theorem ps_idle_run (n : Nat) (s : PSState) (rest : List PSIn) :
    psRun s (List.replicate n ⟨true, false, false, false⟩ ++ rest) = psRun s rest ∧
    psSeen s (List.replicate n ⟨true, false, false, false⟩ ++ rest) = psSeen s rest ∧
    psSent (List.replicate n ⟨true, false, false, false⟩ ++ rest) = psSent rest := by
  induction n with
  | zero => simp
  | succ n ih =>
    simp only [List.replicate_succ, List.cons_append, psRun, psSeen, psSent, ps_idle_step]
    simpa using ih

theorem pburst_idle (R n : Nat) (rest : List PSIn) : ∀ q, q + n ≤ R → PBurst R (q + n) rest →
    PBurst R q (List.replicate n ⟨true, false, false, false⟩ ++ rest) := by
  induction n with
  | zero => intro q _ h; simpa using h
  | succ n ih =>
    intro q hq h
    simp only [List.replicate_succ, List.cons_append, PBurst, Bool.false_eq_true, if_false, if_true]
    exact ⟨by omega, ih (q + 1) (by omega) (by rw [show q + 1 + n = q + (n + 1) by omega]; exact h)⟩

theorem pgap_idle (g n : Nat) (rest : List PSIn) : ∀ c, PGap g (c + n) rest →
    PGap g c (List.replicate n ⟨true, false, false, false⟩ ++ rest) := by
  induction n with
  | zero => intro c h; simpa using h
  | succ n ih =>
    intro c h
    simp only [List.replicate_succ, List.cons_append, PGap, Bool.and_false, Bool.false_eq_true, if_false, if_true]
    exact ih (c + 1) (by rw [show c + 1 + n = c + (n + 1) by omega]; exact h)

def decPBurst (R : Nat) : (q : Nat) → (xs : List PSIn) → Decidable (PBurst R q xs)
  | _, [] => isTrue trivial
  | q, x :: xs =>
    have := decPBurst R 0 xs
    have := decPBurst R (q + 1) xs
    have := decPBurst R q xs
    show Decidable (if x.tO then PBurst R 0 xs else if x.ti then q < R ∧ PBurst R (q + 1) xs else PBurst R q xs)
      from inferInstance

instance (R q : Nat) (xs : List PSIn) : Decidable (PBurst R q xs) := decPBurst R q xs

def decPGap (n : Nat) : (c : Nat) → (xs : List PSIn) → Decidable (PGap n c xs)
  | _, [] => isTrue trivial
  | c, x :: xs =>
    have := decPGap n 0 xs
    have := decPGap n (if x.ti then c + 1 else c) xs
    show Decidable (if x.ti && x.i then n ≤ c ∧ PGap n 0 xs else PGap n (if x.ti then c + 1 else c) xs)
      from inferInstance

instance (n c : Nat) (xs : List PSIn) : Decidable (PGap n c xs) := decPGap n c xs

theorem ps_tight (R : Nat) :
    PBurst R 0 (psTight R) ∧ PGap R R (psTight R) ∧ psSent (psTight R) = 2 ∧
    psSeen psInit (psTight R) = 0 ∧ psFlight (psRun psInit (psTight R)) = 0 := by
  unfold psTight
  refine ⟨?_, ?_, ?_, ?_, ?_⟩
  · simp only [List.cons_append, List.nil_append, PBurst, if_true]
    exact pburst_idle R R _ 0 (by omega) (by simp [PBurst])
  · simp only [List.cons_append, List.nil_append, PGap, Bool.and_self, if_true]
    exact ⟨le_refl _, pgap_idle R R _ 0 (by simp [PGap])⟩
  · simp only [List.cons_append, List.nil_append, psSent]
    rw [(ps_idle_run R psInit _).2.2]
    simp [psSent]
  · simp only [List.cons_append, List.nil_append, psSeen]
    rw [(ps_idle_run R _ _).2.1]
    decide
  · simp only [List.cons_append, List.nil_append, psRun]
    rw [(ps_idle_run R _ _).1]
    decide

end Litex.Cdc
