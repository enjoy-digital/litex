import LitexProofs.Cdc.AsyncFifo
import LitexModel.Cdc.Glue
/-
  The capacity is reached: a FIFO of depth `2^k` accepts `2^k` tokens without any read-clock edge and refuses the next one.
  Last part: the depth arithmetic of the constructor (`afifoCtor`: powers of two from 4 on, nothing else).
-/
namespace Litex.Cdc
variable {α : Type}

/-- A write-clock-only instant offering token `d` (the consumer and the read clock do nothing). -/
def wOnly (d : α) : AFIn α := ⟨true, false, 0, 0, true, d, false⟩

theorem wOnly_accepts {k : Nat} {b : Bool} {s : AFState α} {g : Ghost α} (hk : 1 ≤ k) (h : AFInv k b s g)
    (hlen : g.acc.length < 2 ^ k) (d : α) : accNow k s (wOnly d) = [d] := by
  have hw : writable k s = true := by
    cases hw : writable k s
    · have := (writable_exact hk h).1 hw
      omega
    · rfl
  show (if true && (writable k s && true) then [d] else []) = [d]
  rw [hw]; rfl

theorem fill_accepts (k : Nat) (b : Bool) (z : α) (hk : 1 ≤ k) (toks : List α) :
    ∀ (s : AFState α) (g : Ghost α), AFInv k b s g → g.r.N = 0 → g.acc.length + toks.length ≤ 2 ^ k →
      accepted k b z s (toks.map wOnly) = toks ∧ delivered k b z s (toks.map wOnly) = [] ∧
      (gRun k b z s g (toks.map wOnly)).r.N = 0 := by
  induction toks with
  | nil => intro s g _ hC _; exact ⟨rfl, rfl, hC⟩
  | cons d ds ih =>
    intro s g h hC hlen
    rw [List.length_cons] at hlen
    have ha := wOnly_accepts hk h (by omega) d
    obtain ⟨i1, i2, i3⟩ := ih _ (gStep k b z s g (wOnly d)) (inv_step z hk h (wOnly d)) hC (by
      rw [gStep_acc, ha, List.length_append, List.length_singleton]; omega)
    exact ⟨by show accNow k s (wOnly d) ++ _ = _; rw [ha, i1]; rfl, i2, i3⟩

theorem fill_full (k : Nat) (b : Bool) (z : α) (hk : 1 ≤ k) (toks : List α) (hn : toks.length = 2 ^ k) :
    accepted k b z (afInit k z) (toks.map wOnly) = toks ∧ delivered k b z (afInit k z) (toks.map wOnly) = [] ∧
    writable k (runFrom k b z (afInit k z) (toks.map wOnly)) = false := by
  obtain ⟨f1, f2, f3⟩ := fill_accepts k b z hk toks _ _ (inv_init k b z) rfl (by simp [gInit, hn])
  have hi := inv_run k b z hk (toks.map wOnly) _ _ (inv_init k b z)
  -- nothing consumed, so the write side sees nothing consumed, and `2^k` tokens are outstanding
  have hCw2 : (gRun k b z (afInit k z) gInit (toks.map wOnly)).r.N2 = 0 := by
    have := hi.r.o1; have := hi.r.o2; omega
  exact ⟨f1, f2, (writable_exact hk hi).2 (by rw [acc_run, f1, hCw2]; simp [gInit, hn])⟩

theorem two_le_two_pow {k : Nat} (hk : 1 ≤ k) : 2 ≤ 2 ^ k :=
  calc 2 = 2 ^ 1 := rfl
    _ ≤ 2 ^ k := Nat.pow_le_pow_right (by omega) hk

theorem bitLength_pred_two_pow (k : Nat) (hk : 1 ≤ k) : bitLength (2 ^ k - 1) = k := by
  have h2 := two_le_two_pow hk
  have hpos : 2 ^ k - 1 ≠ 0 := by omega
  unfold bitLength
  rw [if_neg hpos]
  have h1 := Nat.log2_self_le hpos
  have h3 := @Nat.lt_log2_self (2 ^ k - 1)
  have a : 2 ^ (2 ^ k - 1).log2 < 2 ^ k := by omega
  have b : 2 ^ k ≤ 2 ^ ((2 ^ k - 1).log2 + 1) := by omega
  have a' := (Nat.pow_lt_pow_iff_right (by omega : 1 < 2)).1 a
  have b' := (Nat.pow_le_pow_iff_right (by omega : 1 < 2)).1 b
  omega

theorem afifoCtor_spec (depth : Option Nat) (k : Nat) :
    afifoCtor depth = some k ↔ 2 ≤ k ∧ depth.getD 4 = 2 ^ k := by
  unfold afifoCtor
  generalize depth.getD 4 = d
  show (if d < 4 then none else if 2 ^ bitLength (d - 1) ≠ d then none else some (bitLength (d - 1))) = some k ↔ _
  constructor
  · intro h
    by_cases h4 : d < 4
    · rw [if_pos h4] at h; cases h
    · by_cases hp : 2 ^ bitLength (d - 1) ≠ d
      · rw [if_neg h4, if_pos hp] at h; cases h
      · rw [if_neg h4, if_neg hp] at h
        obtain rfl := Option.some.inj h
        have hp : 2 ^ bitLength (d - 1) = d := Decidable.not_not.1 hp
        -- a result below 2 would mean `d = 2 ^ 0` or `d = 2 ^ 1`, but `4 ≤ d`
        refine ⟨?_, hp.symm⟩
        by_contra hk
        have : bitLength (d - 1) = 0 ∨ bitLength (d - 1) = 1 := by omega
        rcases this with e | e <;> rw [e] at hp <;> omega
  · rintro ⟨hk, hd⟩
    have h4 : 2 ^ 2 ≤ 2 ^ k := Nat.pow_le_pow_right (by omega) hk
    simp only [hd]
    rw [if_neg (by omega), bitLength_pred_two_pow k (by omega)]
    simp

end Litex.Cdc
