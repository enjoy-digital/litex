import LitexProofs.Cdc.Cross
import LitexProofs.Lists
/-
  The asynchronous FIFO: an inductive invariant `AFInv` over ghost (proof-only) unbounded counters, its preservation
  by every instant, and what follows for whole schedules — delivered is a prefix of accepted (`del_run`), no
  read/write collision, the capacity bound, `writable` and `readable` exact, and progress of either side in edges of
  its own clock.
  The FIFO is two pointer crossings (`wptr`: the produce pointer seen from the read domain, `rptr`: the consume pointer
  seen from the write domain; `Cross.lean`), the flow control between them (`avail`, `room`), a memory and an output stage.
-/
namespace Litex.Cdc
variable {α : Type}

def wptr (s : AFState α) : Ptr := ⟨s.pbin, s.pq, s.pr1, s.pr2⟩
def rptr (s : AFState α) : Ptr := ⟨s.cbin, s.cq, s.cw1, s.cw2⟩

theorem wptr_step (k : Nat) (b : Bool) (z : α) (s : AFState α) (i : AFIn α) :
    wptr (afStep k b z s i) = (wptr s).next (k + 1) i.tw i.tr (wce k s i) i.mr := rfl

theorem rptr_step (k : Nat) (b : Bool) (z : α) (s : AFState α) (i : AFIn α) :
    rptr (afStep k b z s i) = (rptr s).next (k + 1) i.tr i.tw (rce b s i) i.mw := rfl

/-- Ghost state: the unbounded history behind the wrapping pointers. -/
structure Ghost (α : Type) where
  acc : List α     -- every token accepted so far, oldest first
  w   : Cnt        -- produce counter (`acc.length`) and what the read domain sees of it
  r   : Cnt        -- consume counter (words read from the inner FIFO) and what the write domain sees of it

def gInit : Ghost α := { acc := [], w := ⟨0, 0, 0⟩, r := ⟨0, 0, 0⟩ }

/-- Ghost update.  It looks at the *new* concrete state: the counter credited to a first synchroniser flop is chosen after
    seeing whether the flop kept the old pointer value (`s'.pr1 = s.pq`) or not (`Cnt.step`), so that the invariant is a
    function of the state and no existential over what the flop may have caught. -/
def gStep (k : Nat) (buffered : Bool) (z : α) (s : AFState α) (g : Ghost α) (i : AFIn α) : Ghost α :=
  let s' := afStep k buffered z s i
  { acc := g.acc ++ accNow k s i
    w   := g.w.next i.tw i.tr (wce k s i) (s'.pr1 = s.pq)
    r   := g.r.next i.tr i.tw (rce buffered s i) (s'.cw1 = s.cq) }

/-- The invariant behind `afifo_inv`.  `avail`: the consumer stays behind what it sees of the producer; `room`: the producer
    stays within `2^k` of what it sees of the consumer. -/
structure AFInv (k : Nat) (buffered : Bool) (s : AFState α) (g : Ghost α) : Prop where
  len    : g.w.N = g.acc.length
  w      : PInv (k + 1) (wptr s) g.w
  r      : PInv (k + 1) (rptr s) g.r
  avail  : g.r.N ≤ g.w.N2
  room   : g.w.N ≤ g.r.N2 + 2 ^ k
  memlen : s.mem.length = 2 ^ k
  slots  : ∀ j, g.r.N ≤ j → j < g.acc.length → s.mem[j % 2 ^ k]? = g.acc[j]?
  radr   : s.radr = g.r.N % 2 ^ k
  buf    : s.bval = true → (buffered = true ∧ 1 ≤ g.r.N ∧ g.acc[g.r.N - 1]? = some s.bdat)

theorem inv_init_bdat (k : Nat) (b : Bool) (z d : α) : AFInv k b { afInit k z with bdat := d } (gInit (α := α)) := by
  refine ⟨rfl, ?_, ?_, le_refl _, Nat.zero_le _, ?_, ?_, rfl, ?_⟩
  · constructor <;> simp [wptr, afInit, gInit, gray_zero]
  · constructor <;> simp [rptr, afInit, gInit, gray_zero]
  all_goals simp [afInit, gInit]

theorem inv_init (k : Nat) (buffered : Bool) (z : α) : AFInv k buffered (afInit k z) (gInit (α := α)) :=
  inv_init_bdat k buffered z z

section
variable {k : Nat} {b : Bool} (z : α) {s : AFState α} {g : Ghost α}

theorem gStep_acc (g : Ghost α) (i : AFIn α) : (gStep k b z s g i).acc = g.acc ++ accNow k s i := rfl

theorem gStep_wN (g : Ghost α) (i : AFIn α) :
    (gStep k b z s g i).w.N = if i.tw && wce k s i then g.w.N + 1 else g.w.N := rfl

theorem gStep_rN (g : Ghost α) (i : AFIn α) :
    (gStep k b z s g i).r.N = if i.tr && rce b s i then g.r.N + 1 else g.r.N := rfl

theorem gStep_wN_le (g : Ghost α) (i : AFIn α) : g.w.N ≤ (gStep k b z s g i).w.N := by
  rw [gStep_wN]; split <;> omega

theorem gStep_rN_le (g : Ghost α) (i : AFIn α) : g.r.N ≤ (gStep k b z s g i).r.N := by
  rw [gStep_rN]; split <;> omega

theorem AFInv.pbin (h : AFInv k b s g) : s.pbin = g.acc.length % 2 ^ (k + 1) := h.len ▸ h.w.bin

theorem AFInv.order (h : AFInv k b s g) :
    g.r.N2 ≤ g.r.N1 ∧ g.r.N1 ≤ g.r.N ∧ g.r.N ≤ g.w.N2 ∧ g.w.N2 ≤ g.w.N1 ∧ g.w.N1 ≤ g.acc.length ∧
    g.acc.length ≤ g.r.N2 + 2 ^ k := ⟨h.r.o1, h.r.o2, h.avail, h.w.o1, h.len ▸ h.w.o2, h.len ▸ h.room⟩

theorem writable_ghost (h : AFInv k b s g) :
    writable k s = wrBits k (gray (g.acc.length % 2 ^ (k + 1))) (gray (g.r.N2 % 2 ^ (k + 1))) := by
  rw [writable_eq, show s.pq = gray s.pbin from h.w.q, h.pbin, show s.cw2 = _ from h.r.r2]

theorem ireadable_ghost (h : AFInv k b s g) :
    ireadable s = (gray (g.r.N % 2 ^ (k + 1)) != gray (g.w.N2 % 2 ^ (k + 1))) := by
  unfold ireadable
  rw [show s.cq = gray s.cbin from h.r.q, show s.cbin = _ from h.r.bin, show s.pr2 = _ from h.w.r2]

theorem writable_full (hk : 1 ≤ k) (h : AFInv k b s g) (he : g.acc.length = g.r.N2 + 2 ^ k) : writable k s = false := by
  rw [writable_ghost h, he]
  exact full_not_writable k _ _ hk (Nat.mod_lt _ (Nat.two_pow_pos _)) (Nat.mod_add_mod _ _ _).symm

theorem writable_exact (hk : 1 ≤ k) (h : AFInv k b s g) :
    writable k s = false ↔ g.acc.length = g.r.N2 + 2 ^ k := by
  constructor
  · intro hw
    rw [writable_ghost h] at hw
    have e := not_writable_full k _ _ hk (Nat.mod_lt _ (Nat.two_pow_pos _)) (Nat.mod_lt _ (Nat.two_pow_pos _)) hw
    rw [Nat.mod_add_mod] at e
    by_contra hne
    have ho := h.order
    have hpw : 2 ^ (k + 1) = 2 * 2 ^ k := by rw [Nat.pow_succ]; omega
    have hpos := Nat.two_pow_pos k
    exact mod_ne_of_lt_of_lt (a := g.acc.length) (b := g.r.N2 + 2 ^ k) (n := 2 ^ (k + 1)) (by omega) (by omega) e
  · exact writable_full hk h

theorem wce_room (hk : 1 ≤ k) (h : AFInv k b s g) {i : AFIn α} (hw : wce k s i = true) : g.w.N < g.r.N2 + 2 ^ k := by
  have h6 := h.room
  by_contra hn
  rw [wce, writable_full hk h (by rw [← h.len]; omega)] at hw
  exact Bool.false_ne_true hw

theorem ireadable_empty (h : AFInv k b s g) (he : g.r.N = g.w.N2) : ireadable s = false := by
  rw [ireadable_ghost h, he]
  simp

theorem ireadable_avail (h : AFInv k b s g) (hr : ireadable s = true) : g.r.N < g.w.N2 := by
  have h3 := h.avail
  by_contra hn
  rw [ireadable_empty h (by omega)] at hr
  cases hr

theorem rce_avail (h : AFInv k b s g) {i : AFIn α} (hr : rce b s i = true) : g.r.N < g.w.N2 :=
  ireadable_avail h (Bool.and_eq_true_iff.1 hr).1

theorem gStep_flow (hk : 1 ≤ k) (h : AFInv k b s g) (i : AFIn α) :
    (gStep k b z s g i).r.N ≤ g.w.N2 ∧ (gStep k b z s g i).w.N ≤ g.r.N2 + 2 ^ k := by
  rw [gStep_rN, gStep_wN]
  constructor
  · split
    · next hc => exact rce_avail h (Bool.and_eq_true_iff.1 hc).2
    · exact h.avail
  · split
    · next hc => exact wce_room hk h (Bool.and_eq_true_iff.1 hc).2
    · exact h.room

theorem gStep_len (h : AFInv k b s g) (i : AFIn α) : (gStep k b z s g i).w.N = (gStep k b z s g i).acc.length := by
  rw [gStep_wN, gStep_acc, accNow, h.len]; split <;> simp

theorem cbinN_eq (h : AFInv k b s g) (i : AFIn α) :
    cbinN k b s i = (if rce b s i then g.r.N + 1 else g.r.N) % 2 ^ (k + 1) := by
  unfold cbinN; split <;> simp [show s.cbin = _ from h.r.bin, succ_mod_mod]

theorem step_mem (hk : 1 ≤ k) (h : AFInv k b s g) (i : AFIn α) :
    let s' := afStep k b z s i
    let g' := gStep k b z s g i
    s'.mem.length = 2 ^ k ∧ ∀ j, g'.r.N ≤ j → j < g'.acc.length → s'.mem[j % 2 ^ k]? = g'.acc[j]? := by
  intro s' g'
  have hC : g.r.N ≤ g'.r.N := gStep_rN_le z g i
  have hlen := h.memlen
  have em : s'.mem = if i.tw && wce k s i then s.mem.set (s.pbin % 2 ^ k) i.tok else s.mem := rfl
  have ea : g'.acc = g.acc ++ if i.tw && wce k s i then [i.tok] else [] := rfl
  rw [em, ea]
  cases hw : (i.tw && wce k s i)
  · rw [if_neg Bool.false_ne_true, if_neg Bool.false_ne_true, List.append_nil]
    exact ⟨hlen, fun j h1 h2 => h.slots j (by omega) h2⟩
  · rw [if_pos rfl, if_pos rfl]
    have hw' : wce k s i = true := by simp at hw; exact hw.2
    have hroom := h.len ▸ wce_room hk h hw'
    have hpb : s.pbin % 2 ^ k = g.acc.length % 2 ^ k := by rw [h.pbin, mod_mod_half]
    refine ⟨by simp [hlen], fun j h1 h2 => ?_⟩
    have hlt : g.acc.length % 2 ^ k < s.mem.length := by rw [hlen]; exact Nat.mod_lt _ (Nat.two_pow_pos k)
    by_cases hj : j = g.acc.length
    · subst hj
      rw [hpb, List.getElem?_set_self hlt]
      simp
    · have hj' : j < g.acc.length := by simp at h2; omega
      have hne : g.acc.length % 2 ^ k ≠ j % 2 ^ k := by
        have := mod_ne_of_lt_of_lt (a := j) (b := g.acc.length) (n := 2 ^ k) hj' (by have := h.order; omega)
        exact fun e => this e.symm
      rw [hpb, List.getElem?_set_ne hne, List.getElem?_append_left hj']
      exact h.slots j (by omega) hj'

theorem inv_step_ptrs (h : AFInv k b s g) (i : AFIn α) :
    PInv (k + 1) (wptr (afStep k b z s i)) (gStep k b z s g i).w ∧
    PInv (k + 1) (rptr (afStep k b z s i)) (gStep k b z s g i).r := by
  rw [wptr_step, rptr_step]
  exact ⟨h.w.step (Nat.le_add_left 1 k) i.tw i.tr (wce k s i) i.mr, h.r.step (Nat.le_add_left 1 k) i.tr i.tw (rce b s i) i.mw⟩

theorem step_radr (h : AFInv k b s g) (i : AFIn α) :
    (afStep k b z s i).radr = (gStep k b z s g i).r.N % 2 ^ k := by
  cases htr : i.tr
  · rw [gStep_rN, htr, Bool.false_and, if_neg Bool.false_ne_true, ← h.radr]
    simp [afStep, htr]
  · have e : (afStep k b z s i).radr = (rptr (afStep k b z s i)).bin % 2 ^ k := by simp [afStep, rptr, htr]
    rw [e, (inv_step_ptrs z h i).2.bin, mod_mod_half]

theorem memOut_eq (h : AFInv k b s g) (hr : ireadable s = true) : g.acc[g.r.N]? = some (memOut z s) := by
  have hlt := ireadable_avail h hr
  have hP : g.r.N < g.acc.length := by have := h.order; omega
  have := h.slots g.r.N (le_refl _) hP
  unfold memOut
  rw [h.radr, List.getD_eq_getElem?_getD, this, List.getElem?_eq_getElem hP]
  simp

theorem step_buf (h : AFInv k b s g) (i : AFIn α) :
    let s' := afStep k b z s i
    let g' := gStep k b z s g i
    s'.bval = true → (b = true ∧ 1 ≤ g'.r.N ∧ g'.acc[g'.r.N - 1]? = some s'.bdat) := by
  intro s' g' hv
  have hP : g.r.N ≤ g.acc.length := by have := h.order; omega
  have eb : s'.bval = if b && i.tr && ire b s i.ready then ireadable s else s.bval := rfl
  have ed : s'.bdat = if b && i.tr && ire b s i.ready then memOut z s else s.bdat := rfl
  rw [eb] at hv
  rw [ed]
  cases hl : (b && i.tr && ire b s i.ready)
  · -- no load: the buffer keeps its word, and the inner FIFO was not read
    rw [hl, if_neg Bool.false_ne_true] at hv
    rw [if_neg Bool.false_ne_true]
    obtain ⟨hb, h1, h2⟩ := h.buf hv
    have hC : g'.r.N = g.r.N := by
      rw [gStep_rN]
      split
      · rename_i hc
        simp [rce, hb] at hc hl
        simp [hc.1, hc.2.2] at hl
      · rfl
    rw [hC]
    refine ⟨hb, h1, ?_⟩
    rw [gStep_acc, List.getElem?_append_left (by omega)]
    exact h2
  · rw [hl, if_pos rfl] at hv
    rw [if_pos rfl]
    simp at hl
    obtain ⟨⟨hb, htr⟩, hire⟩ := hl
    have hC : g'.r.N = g.r.N + 1 := by simp [g', gStep_rN, rce, htr, hire, hv]
    have hlt := ireadable_avail h hv
    have hP' : g.r.N < g.acc.length := by have := h.order; omega
    rw [hC]
    refine ⟨hb, by omega, ?_⟩
    rw [Nat.add_sub_cancel, gStep_acc, List.getElem?_append_left hP']
    exact memOut_eq z h hv

theorem inv_step (hk : 1 ≤ k) (h : AFInv k b s g) (i : AFIn α) :
    AFInv k b (afStep k b z s i) (gStep k b z s g i) := by
  obtain ⟨pw, pr⟩ := inv_step_ptrs z h i
  obtain ⟨f1, f2⟩ := gStep_flow z hk h i
  obtain ⟨m1, m2⟩ := step_mem z hk h i
  -- the other side's view only grows, so room (resp. an unread word) seen before the instant is still there after it
  exact ⟨gStep_len z h i, pw, pr, le_trans f1 (Cnt.step_views h.w.o1 _ _ _).1,
    le_trans f2 (Nat.add_le_add_right (Cnt.step_views h.r.o1 _ _ _).1 _), m1, m2, step_radr z h i, step_buf z h i⟩

/-- Number of tokens handed over at `source` so far: what was read from the inner FIFO minus the word waiting
    in the output stage of `AsyncFIFOBuffered`. -/
def dcount (s : AFState α) (g : Ghost α) : Nat := g.r.N - (if s.bval then 1 else 0)

theorem dcount_le_acc {k : Nat} {b : Bool} {s : AFState α} {g : Ghost α} (h : AFInv k b s g) :
    dcount s g ≤ g.acc.length := by
  have := h.order
  unfold dcount; omega

theorem bval_unbuffered (h : AFInv k false s g) : s.bval = false :=
  Bool.eq_false_iff.2 fun hv => Bool.false_ne_true (h.buf hv).1

theorem dcount_le (s : AFState α) (g : Ghost α) : dcount s g ≤ g.r.N := Nat.sub_le _ _

theorem dcount_unbuffered (h : AFInv k false s g) : dcount s g = g.r.N := by
  rw [dcount, bval_unbuffered h]; rfl

theorem srcTok_eq (h : AFInv k b s g) (hv : srcValid b s = true) : g.acc[dcount s g]? = some (srcTok b z s) := by
  cases b
  · rw [dcount, bval_unbuffered h]
    exact memOut_eq z h hv
  · have hv : s.bval = true := hv
    rw [dcount, hv]
    exact (h.buf hv).2.2

theorem dcount_step (h : AFInv k b s g) (i : AFIn α) :
    dcount (afStep k b z s i) (gStep k b z s g i) =
      dcount s g + if i.tr && srcValid b s && i.ready then 1 else 0 := by
  show (if i.tr && rce b s i then g.r.N + 1 else g.r.N) -
      (if (if b && i.tr && ire b s i.ready then ireadable s else s.bval) then 1 else 0) = g.r.N - _ + _
  -- left: (words read from the inner FIFO) − (word waiting in the output stage), after the instant
  cases b
  · -- unbuffered: nothing waits, and the inner FIFO is read exactly at a hand-shake
    simp only [rce, ire, srcValid, bval_unbuffered h]
    cases i.tr <;> cases ireadable s <;> cases i.ready <;> rfl
  · simp only [rce, ire, srcValid]
    -- buffered: the output stage reloads (reads the inner FIFO if `readable`) at a read edge when it is empty or its
    -- word is taken.  No load: nothing changes.  Load: afterwards `C' − [readable] = C`, which is `dcount` plus the
    -- word that was waiting (`1 ≤ C` then) and has just been taken.  The Booleans are enumerated.
    cases hv : s.bval
    · cases i.tr <;> cases ireadable s <;> cases i.ready <;> rfl
    · have := (h.buf hv).2.1
      cases i.tr <;> cases ireadable s <;> cases i.ready <;> simp <;> omega

theorem del_step (h : AFInv k b s g) (i : AFIn α) :
    (gStep k b z s g i).acc.take (dcount (afStep k b z s i) (gStep k b z s g i)) =
      g.acc.take (dcount s g) ++ delNow b z s i := by
  rw [dcount_step z h i, show (gStep k b z s g i).acc = g.acc ++ accNow k s i from rfl, delNow]
  split
  · next hc =>
    have hv : srcValid b s = true := by simp at hc; exact hc.1.2
    have hg := srcTok_eq z h hv
    rw [List.take_append_of_le_length (by have := (List.getElem?_eq_some_iff.1 hg).1; omega), take_succ_of_getElem? hg]
  · rw [Nat.add_zero, List.take_append_of_le_length (dcount_le_acc h), List.append_nil]

def gRun (k : Nat) (b : Bool) (z : α) : AFState α → Ghost α → List (AFIn α) → Ghost α
  | _, g, [] => g
  | s, g, i :: is => gRun k b z (afStep k b z s i) (gStep k b z s g i) is

theorem inv_run (k : Nat) (b : Bool) (z : α) (hk : 1 ≤ k) (ins : List (AFIn α)) :
    ∀ (s : AFState α) (g : Ghost α), AFInv k b s g → AFInv k b (runFrom k b z s ins) (gRun k b z s g ins) := by
  induction ins with
  | nil => intro s g h; exact h
  | cons i is ih => intro s g h; exact ih _ _ (inv_step z hk h i)

theorem acc_run (k : Nat) (b : Bool) (z : α) (ins : List (AFIn α)) :
    ∀ (s : AFState α) (g : Ghost α), (gRun k b z s g ins).acc = g.acc ++ accepted k b z s ins := by
  induction ins with
  | nil => intro s g; simp [gRun, accepted]
  | cons i is ih =>
    intro s g
    simp only [gRun, accepted]
    rw [ih]
    simp [gStep, List.append_assoc]

theorem del_run (k : Nat) (b : Bool) (z : α) (hk : 1 ≤ k) (ins : List (AFIn α)) :
    ∀ (s : AFState α) (g : Ghost α), AFInv k b s g →
      (gRun k b z s g ins).acc.take (dcount (runFrom k b z s ins) (gRun k b z s g ins)) =
        g.acc.take (dcount s g) ++ delivered k b z s ins := by
  induction ins with
  | nil => intro s g _; simp [gRun, runFrom, delivered]
  | cons i is ih =>
    intro s g h
    simp only [gRun, runFrom, delivered]
    rw [ih _ _ (inv_step z hk h i), del_step z h i, List.append_assoc]

theorem no_rw_collision_aux (hk : 1 ≤ k) (h : AFInv k b s g) (i : AFIn α)
    (hw : wce k s i = true) (hslot : s.pbin % 2 ^ k = cbinN k b s i % 2 ^ k) :
    s.pbin = cbinN k b s i ∧ (i.tr = true → ireadable (afStep k b z s i) = false) := by
  have hroom := h.len ▸ wce_room hk h hw
  have ho := h.order
  -- X: the unbounded value of `consume.q_next_binary`
  obtain ⟨X, hc, hX1, hX2, hX3⟩ : ∃ X, cbinN k b s i = X % 2 ^ (k + 1) ∧ g.r.N ≤ X ∧ X ≤ g.w.N2 ∧
      (i.tr = true → (gStep k b z s g i).r.N = X) := by
    refine ⟨_, cbinN_eq h i, ?_, ?_, fun htr => by simp [gStep_rN, htr]⟩
    · split <;> omega
    · split
      · exact rce_avail h ‹_›
      · exact ho.2.2.1
  -- the two pointers address the same slot and are less than `2^k` apart: they are equal
  have hpb := h.pbin
  have heq : g.acc.length = X := by
    by_contra hne
    rw [hpb, hc, mod_mod_half, mod_mod_half] at hslot
    exact mod_ne_of_lt_of_lt (n := 2 ^ k) (show X < g.acc.length by omega) (by omega) hslot.symm
  refine ⟨by rw [hpb, hc, heq], fun htr => ireadable_empty (inv_step z hk h i) ?_⟩
  have e : (gStep k b z s g i).w.N2 = g.w.N1 := (Cnt.step_views h.w.o1 _ _ _).2 htr
  rw [hX3 htr, e]; omega

theorem capacity_aux {k : Nat} {b : Bool} {s : AFState α} {g : Ghost α} (h : AFInv k b s g) :
    g.acc.length ≤ (g.acc.take (dcount s g)).length + 2 ^ k + (if b then 1 else 0) := by
  have ho := h.order
  have hd : g.r.N ≤ dcount s g + (if b then 1 else 0) := by
    unfold dcount
    cases hv : s.bval
    · simp
    · rw [(h.buf hv).1]; simp; omega
  rw [List.length_take]
  omega

theorem delivered_prefix_of_inv (k : Nat) (b : Bool) (z : α) (hk : 1 ≤ k) (ins : List (AFIn α)) (s : AFState α)
    (h : AFInv k b s gInit) : delivered k b z s ins <+: accepted k b z s ins := by
  have hd := del_run k b z hk ins _ _ h
  have ha := acc_run k b z ins s gInit
  simp only [gInit, List.nil_append, List.take_nil] at hd ha
  rw [← hd, ha]
  exact List.take_prefix _ _

theorem accNow_tw {k : Nat} {s : AFState α} {i : AFIn α} (h : accNow k s i ≠ []) : i.tw = true := by
  cases htw : i.tw
  · exact absurd (by simp [accNow, htw]) h
  · rfl

theorem delNow_tr {b : Bool} {z : α} {s : AFState α} {i : AFIn α} (h : delNow b z s i ≠ []) : i.tr = true := by
  cases htr : i.tr
  · exact absurd (by simp [delNow, htr]) h
  · rfl

/-- What the proofs about a schedule `ins` from reset use: a ghost state for the state reached, whose history is what was
    accepted and whose first `dcount` tokens are what was delivered. -/
structure RunFacts (k : Nat) (b : Bool) (z : α) (ins : List (AFIn α)) (g : Ghost α) : Prop where
  inv : AFInv k b (runFrom k b z (afInit k z) ins) g
  acc : g.acc = accepted k b z (afInit k z) ins
  del : g.acc.take (dcount (runFrom k b z (afInit k z) ins) g) = delivered k b z (afInit k z) ins

theorem runFacts_gRun (k : Nat) (b : Bool) (z : α) (hk : 1 ≤ k) (ins : List (AFIn α)) :
    RunFacts k b z ins (gRun k b z (afInit k z) gInit ins) := by
  have hi := inv_init k b z
  refine ⟨inv_run k b z hk ins _ _ hi, ?_, ?_⟩
  · rw [acc_run]; rfl
  · rw [del_run k b z hk ins _ _ hi]; rfl

theorem RunFacts.delivered_length {k : Nat} {b : Bool} {z : α} {ins : List (AFIn α)} {g : Ghost α} (h : RunFacts k b z ins g) :
    (delivered k b z (afInit k z) ins).length = dcount (runFrom k b z (afInit k z) ins) g := by
  rw [← h.del, List.length_take, Nat.min_eq_left (dcount_le_acc h.inv)]

theorem run_init_facts (k : Nat) (b : Bool) (z : α) (hk : 1 ≤ k) (ins : List (AFIn α)) : ∃ g, RunFacts k b z ins g :=
  ⟨_, runFacts_gRun k b z hk ins⟩

theorem not_ireadable_eq (h : AFInv k b s g) (hr : ireadable s = false) : g.r.N = g.w.N2 := by
  rw [ireadable_ghost h] at hr
  simp at hr
  have hm := gray_injective _ _ hr
  by_contra hne
  have hlt : g.r.N < g.w.N2 := by have := h.avail; omega
  have hlt2 : g.w.N2 < g.r.N + 2 ^ (k + 1) := by
    have := h.order
    have : 2 ^ (k + 1) = 2 * 2 ^ k := by rw [Nat.pow_succ]; omega
    have := Nat.two_pow_pos k
    omega
  exact mod_ne_of_lt_of_lt hlt hlt2 hm

/-- "Token number `N0` is on offer or already handed over" for the buffered variant. -/
def BGood (N0 : Nat) (s : AFState α) (g : Ghost α) : Prop := s.bval = true ∨ N0 ≤ dcount s g

theorem bgood_idle (i : AFIn α) (htr : i.tr = false) (N0 : Nat)
    (hg : BGood N0 s g) : BGood N0 (afStep k true z s i) (gStep k true z s g i) := by
  have e1 : (afStep k true z s i).bval = s.bval := by simp [afStep, htr]
  have e2 : (gStep k true z s g i).r.N = g.r.N := by simp [gStep_rN, htr]
  unfold BGood dcount at *
  rw [e1, e2]; exact hg

theorem bgood_tick (h : AFInv k true s g) (i : AFIn α) (htr : i.tr = true) (N0 : Nat)
    (hP : N0 ≤ g.w.N2) : BGood N0 (afStep k true z s i) (gStep k true z s g i) := by
  unfold BGood
  cases hl : ire true s i.ready
  · left
    simp [ire] at hl
    simp [afStep, htr, ire, hl]
  · have e1 : (afStep k true z s i).bval = ireadable s := by simp [afStep, htr, hl]
    cases hr : ireadable s
    · right
      have hC := not_ireadable_eq h hr
      have e2 : (gStep k true z s g i).r.N = g.r.N := by simp [gStep_rN, rce, hr]
      unfold dcount
      rw [e1, hr, e2]; simp; omega
    · left; rw [e1]; exact hr

/-- `N0`: the number of a token already accepted; `j`: how many of the two synchroniser flops are known to be past `N0` on
    entry (`0` with `Fill.zero` for a token just accepted).  The buffered conclusion asks for `3 ≤ j + readTicks`: two
    flops and the output register. -/
theorem read_progress (hk : 1 ≤ k) (N0 : Nat) (ins : List (AFIn α)) :
    ∀ (s : AFState α) (g : Ghost α) (j : Nat), AFInv k b s g → N0 ≤ g.w.N → Fill (N0 ≤ ·) j g.w.N1 g.w.N2 →
      (b = true → 3 ≤ j → BGood N0 s g) →
      Fill (N0 ≤ ·) (j + readTicks ins) (gRun k b z s g ins).w.N1 (gRun k b z s g ins).w.N2 ∧
      (b = true → 3 ≤ j + readTicks ins → BGood N0 (runFrom k b z s ins) (gRun k b z s g ins)) := by
  induction ins with
  | nil => intro s g j _ _ hf hb; exact ⟨hf, hb⟩
  | cons i is ih =>
    intro s g j h h0 hf hb
    have hle := gStep_wN_le z g i (s := s) (k := k) (b := b)
    have := ih _ _ _ (inv_step z hk h i) (le_trans h0 hle) (Cnt.step_fill h0 hf i.tr hle _) (by
      rintro rfl hj
      cases htr : i.tr
      · exact bgood_idle z i htr N0 (hb rfl (by simpa [htr] using hj))
      · exact bgood_tick z h i htr N0 (hf.two (by simpa [htr] using hj)))
    rwa [Nat.add_assoc] at this

theorem write_progress (hk : 1 ≤ k) (N0 : Nat) (ins : List (AFIn α)) :
    ∀ (s : AFState α) (g : Ghost α) (j : Nat), AFInv k b s g → N0 ≤ g.r.N → Fill (N0 ≤ ·) j g.r.N1 g.r.N2 →
      Fill (N0 ≤ ·) (j + writeTicks ins) (gRun k b z s g ins).r.N1 (gRun k b z s g ins).r.N2 := by
  induction ins with
  | nil => intro s g j _ _ hf; exact hf
  | cons i is ih =>
    intro s g j h h0 hf
    have hle := gStep_rN_le z g i (s := s) (k := k) (b := b)
    have := ih _ _ _ (inv_step z hk h i) (le_trans h0 hle) (Cnt.step_fill h0 hf i.tw hle _)
    rwa [Nat.add_assoc] at this

end

theorem runFrom_append (k : Nat) (b : Bool) (z : α) (x y : List (AFIn α)) :
    ∀ s, runFrom k b z s (x ++ y) = runFrom k b z (runFrom k b z s x) y := by
  induction x with
  | nil => intro s; rfl
  | cons i is ih => intro s; simp [runFrom, ih]

theorem gRun_append (k : Nat) (b : Bool) (z : α) (x y : List (AFIn α)) :
    ∀ s g, gRun k b z s g (x ++ y) = gRun k b z (runFrom k b z s x) (gRun k b z s g x) y := by
  induction x with
  | nil => intro s g; rfl
  | cons i is ih => intro s g; simp [runFrom, gRun, ih]

theorem accepted_append (k : Nat) (b : Bool) (z : α) (x y : List (AFIn α)) : ∀ s,
    accepted k b z s (x ++ y) = accepted k b z s x ++ accepted k b z (runFrom k b z s x) y := by
  induction x with
  | nil => intro s; rfl
  | cons i is ih => intro s; simp [accepted, runFrom, ih]

theorem delivered_append (k : Nat) (b : Bool) (z : α) (x y : List (AFIn α)) : ∀ s,
    delivered k b z s (x ++ y) = delivered k b z s x ++ delivered k b z (runFrom k b z s x) y := by
  induction x with
  | nil => intro s; rfl
  | cons i is ih => intro s; simp [delivered, runFrom, ih]

/-- `g1`, `g2`: the ghost states after `x` and after `x ++ y`.  The last three conjuncts are what the edges of `y` guarantee:
    the read side sees every token accepted during `x`; with the output stage that token is on offer or handed over; the
    write side sees every word consumed during `x`. -/
theorem run_split_facts (k : Nat) (b : Bool) (z : α) (hk : 1 ≤ k) (x y : List (AFIn α)) :
    ∃ g1 g2 : Ghost α, RunFacts k b z x g1 ∧ RunFacts k b z (x ++ y) g2 ∧
      (2 ≤ readTicks y → g1.acc.length ≤ g2.w.N2) ∧
      (b = true → 3 ≤ readTicks y → BGood g1.acc.length (runFrom k b z (afInit k z) (x ++ y)) g2) ∧
      (2 ≤ writeTicks y → g1.r.N ≤ g2.r.N2) := by
  have f1 := runFacts_gRun k b z hk x
  have hr := read_progress z hk _ y _ _ 0 f1.inv (Nat.le_of_eq f1.inv.len.symm) (Fill.zero _ _ _)
    (fun _ h => absurd h (by decide))
  have hw := write_progress z hk _ y _ _ 0 f1.inv (le_refl _) (Fill.zero _ _ _)
  rw [← gRun_append, ← runFrom_append] at hr
  rw [← gRun_append] at hw
  exact ⟨_, _, f1, runFacts_gRun k b z hk (x ++ y), fun h => hr.1.two (by omega), fun hb h => hr.2 hb (by omega),
    fun h => hw.two (by omega)⟩

end Litex.Cdc
