import LitexModel.Cdc.AsyncFifo
import Mathlib.Tactic.Ring
/-
  Gray-code facts used by the clock-domain-crossing proofs.  All widths are unbounded / parametric:
  the statements are about `Nat.testBit`.  Last part: Migen's `writable` bit test on two Gray pointers is low exactly
  when the pointers are `2^k` apart (`full_not_writable`, `not_writable_full`).
-/
namespace Litex.Cdc

/-- Numbers less than `n` apart differ modulo `n`: the argument behind every pointer-wrap step of the FIFO proofs. -/
theorem mod_ne_of_lt_of_lt {a b n : Nat} (h1 : a < b) (h2 : b < a + n) : a % n ≠ b % n := by
  intro h
  have : (b - a) % n = 0 := Nat.sub_mod_eq_zero_of_mod_eq h.symm
  have hd : n ∣ b - a := Nat.dvd_of_mod_eq_zero this
  have := Nat.le_of_dvd (by omega) hd
  omega

theorem mod_mod_half (k n : Nat) : n % 2 ^ (k + 1) % 2 ^ k = n % 2 ^ k :=
  Nat.mod_mod_of_dvd n (Dvd.intro _ (by rw [Nat.pow_succ]))

theorem succ_mod_mod (n m : Nat) : (n % m + 1) % m = (n + 1) % m := Nat.mod_add_mod n m 1

theorem xor_cancel_right' (a c : Nat) : (a ^^^ c) ^^^ c = a := by
  rw [Nat.xor_assoc, Nat.xor_self, Nat.xor_zero]

theorem gray_testBit (n i : Nat) : (gray n).testBit i = (n.testBit i ^^ n.testBit (i + 1)) := by
  simp [gray, Nat.testBit_xor, Nat.testBit_shiftRight, Nat.add_comm]

theorem gray_zero : gray 0 = 0 := by simp [gray]

theorem gray_lt {w n : Nat} (h : n < 2 ^ w) : gray n < 2 ^ w := by
  unfold gray
  apply Nat.xor_lt_two_pow h
  rw [Nat.shiftRight_eq_div_pow]
  exact lt_of_le_of_lt (Nat.div_le_self _ _) h

/-- `n + 1` flips the bits `0..t` of `n`, `t` being its lowest zero bit (the carry chain). -/
theorem succ_testBit (n : Nat) : ∃ t, ∀ i, (n + 1).testBit i = (n.testBit i ^^ decide (i ≤ t)) := by
  induction n using Nat.strongRecOn with
  | _ n ih =>
    rcases Nat.even_or_odd' n with ⟨m, rfl | rfl⟩
    · refine ⟨0, fun i => ?_⟩
      cases i with
      | zero => simp [Nat.testBit_zero]
      | succ j =>
        simp only [Nat.testBit_succ]
        have h1 : (2 * m + 1) / 2 = m := by omega
        have h2 : 2 * m / 2 = m := by omega
        simp [h1, h2]
    · obtain ⟨t, ht⟩ := ih m (by omega)
      refine ⟨t + 1, fun i => ?_⟩
      cases i with
      | zero => simp [Nat.testBit_zero]; omega
      | succ j =>
        simp only [Nat.testBit_succ]
        have h1 : (2 * m + 1 + 1) / 2 = m + 1 := by omega
        have h2 : (2 * m + 1) / 2 = m := by omega
        rw [h1, h2, ht j]
        simp

/-- `b` is `a` with exactly bit `j` flipped. -/
def FlipAt (j a b : Nat) : Prop := ∀ i, b.testBit i = (a.testBit i ^^ decide (i = j))

theorem FlipAt.xor_eq {j a b : Nat} (h : FlipAt j a b) : b ^^^ a = 2 ^ j := by
  refine Nat.eq_of_testBit_eq fun i => ?_
  rw [Nat.testBit_xor, h i, Nat.testBit_two_pow]
  by_cases hij : i = j
  · subst hij; cases a.testBit i <;> simp
  · have h' : ¬ j = i := fun e => hij e.symm
    cases a.testBit i <;> simp [hij, h']

/-- Flipping the prefix `0..t` of a binary value flips exactly bit `t` of its Gray code: inside the prefix neighbouring bits
    flip together and their xor stays. -/
theorem gray_flip_prefix {a b t : Nat} (h : ∀ i, b.testBit i = (a.testBit i ^^ decide (i ≤ t))) :
    FlipAt t (gray a) (gray b) := by
  intro i
  rw [gray_testBit, gray_testBit, h i, h (i + 1)]
  by_cases h1 : i ≤ t <;> by_cases h2 : i + 1 ≤ t <;> by_cases h3 : i = t <;>
    simp [h1, h2, h3] <;> omega

theorem gray_succ_flip (n : Nat) : ∃ j, FlipAt j (gray n) (gray (n + 1)) := by
  obtain ⟨t, ht⟩ := succ_testBit n
  exact ⟨t, gray_flip_prefix ht⟩

/-- Also across the wrap: the carry chain `0..t` is cut off at the top bit. -/
theorem gray_succ_flip_mod (w n : Nat) (hw : 1 ≤ w) :
    ∃ j, FlipAt j (gray (n % 2 ^ w)) (gray ((n + 1) % 2 ^ w)) := by
  obtain ⟨t, ht⟩ := succ_testBit n
  refine ⟨min t (w - 1), gray_flip_prefix fun i => ?_⟩
  have e : decide (i ≤ min t (w - 1)) = decide (i < w ∧ i ≤ t) := decide_eq_decide.2 (by omega)
  rw [Nat.testBit_mod_two_pow, Nat.testBit_mod_two_pow, ht i, e]
  by_cases h1 : i < w <;> simp [h1]

theorem flip_mixture {j a b r : Nat} (hf : FlipAt j a b)
    (hr : ∀ i, r.testBit i = a.testBit i ∨ r.testBit i = b.testBit i) : r = a ∨ r = b := by
  -- away from bit `j` the two alternatives coincide, so bit `j` decides
  have hne : ∀ i, i ≠ j → r.testBit i = a.testBit i ∧ r.testBit i = b.testBit i := fun i hij => by
    have e : b.testBit i = a.testBit i := by rw [hf i]; simp [hij]
    rcases hr i with h | h <;> simp [h, e]
  rcases hr j with hj | hj
  · exact Or.inl (Nat.eq_of_testBit_eq fun i => if e : i = j then e ▸ hj else (hne i e).1)
  · exact Or.inr (Nat.eq_of_testBit_eq fun i => if e : i = j then e ▸ hj else (hne i e).2)

theorem mix_testBit (m a b i : Nat) :
    (mix m a b).testBit i = if m.testBit i then b.testBit i else a.testBit i := by
  simp only [mix, Nat.testBit_xor, Nat.testBit_and]
  cases m.testBit i <;> cases a.testBit i <;> cases b.testBit i <;> rfl

theorem mix_flip {j a b : Nat} (hf : FlipAt j a b) (m : Nat) : mix m a b = a ∨ mix m a b = b := by
  apply flip_mixture hf
  intro i
  rw [mix_testBit]
  cases m.testBit i <;> simp

theorem mix_same (m a : Nat) : mix m a a = a := by simp [mix]

theorem gray_sample_mix_mod (w n m : Nat) (hw : 1 ≤ w) :
    mix m (gray (n % 2 ^ w)) (gray ((n + 1) % 2 ^ w)) = gray (n % 2 ^ w) ∨
    mix m (gray (n % 2 ^ w)) (gray ((n + 1) % 2 ^ w)) = gray ((n + 1) % 2 ^ w) := by
  obtain ⟨j, hj⟩ := gray_succ_flip_mod w n hw
  exact mix_flip hj m

theorem gray_div_two (a : Nat) : gray a / 2 = gray (a / 2) := by
  unfold gray
  rw [Nat.xor_div_two, Nat.shiftRight_eq_div_pow, Nat.shiftRight_eq_div_pow]

theorem gray_injective : ∀ a b : Nat, gray a = gray b → a = b := by
  intro a
  induction a using Nat.strongRecOn with
  | _ a ih =>
    intro b h
    have h2 : gray (a / 2) = gray (b / 2) := by rw [← gray_div_two, ← gray_div_two, h]
    have ea : a = gray a ^^^ (a / 2) := by
      unfold gray; rw [Nat.shiftRight_eq_div_pow]; simp [xor_cancel_right']
    have eb : b = gray b ^^^ (b / 2) := by
      unfold gray; rw [Nat.shiftRight_eq_div_pow]; simp [xor_cancel_right']
    by_cases ha : a = 0
    · subst ha
      have hg : gray b = 0 := by rw [← h, gray_zero]
      rw [hg, Nat.zero_xor] at eb
      omega
    · have := ih (a / 2) (by omega) (b / 2) h2
      rw [ea, eb, h, this]

theorem add_half_flip (k b : Nat) (hb : b < 2 ^ (k + 1)) : FlipAt k b ((b + 2 ^ k) % 2 ^ (k + 1)) := by
  intro i
  rw [Nat.testBit_mod_two_pow, Nat.add_comm b]
  rcases Nat.lt_trichotomy i k with h | h | h
  · rw [Nat.testBit_two_pow_add_gt h]
    have : i < k + 1 := by omega
    have h2 : ¬ i = k := by omega
    simp [this, h2]
  · subst h
    rw [Nat.testBit_two_pow_add_eq]
    simp
  · have h1 : ¬ i < k + 1 := by omega
    have h2 : ¬ i = k := by omega
    have : b.testBit i = false := Nat.testBit_lt_two_pow (lt_of_lt_of_le hb (Nat.pow_le_pow_right (by omega) (by omega)))
    simp [h1, h2, this]

/-- Migen's `writable` expression as a function of the two Gray pointers of width `k+1` it compares (the model's
    `writable k s` is `wrBits k s.pq s.cw2`, `writable_eq`), so that it can be studied without a FIFO state. -/
def wrBits (k pq cw2 : Nat) : Bool :=
  (pq.testBit k == cw2.testBit k) || (pq.testBit (k - 1) == cw2.testBit (k - 1)) ||
    (pq % 2 ^ (k - 1) != cw2 % 2 ^ (k - 1))

theorem writable_eq (k : Nat) (s : AFState α) : writable k s = wrBits k s.pq s.cw2 := rfl

/-- `hk`: the test reads bit `k - 1`; this is where the `1 ≤ k` of every FIFO theorem comes from. -/
theorem full_not_writable (k a b : Nat) (hk : 1 ≤ k) (hb : b < 2 ^ (k + 1))
    (ha : a = (b + 2 ^ k) % 2 ^ (k + 1)) : wrBits k (gray a) (gray b) = false := by
  have hf := add_half_flip k b hb
  rw [← ha] at hf
  have hg : ∀ i, (gray a).testBit i = ((gray b).testBit i ^^ (decide (i = k) ^^ decide (i + 1 = k))) := by
    intro i
    rw [gray_testBit, gray_testBit, hf i, hf (i + 1)]
    cases b.testBit i <;> cases b.testBit (i + 1) <;> cases decide (i = k) <;> cases decide (i + 1 = k) <;> rfl
  have hlow : gray a % 2 ^ (k - 1) = gray b % 2 ^ (k - 1) := by
    apply Nat.eq_of_testBit_eq
    intro i
    rw [Nat.testBit_mod_two_pow, Nat.testBit_mod_two_pow, hg i]
    by_cases h : i < k - 1
    · have h1 : ¬ i = k := by omega
      have h2 : ¬ i + 1 = k := by omega
      simp [h1, h2]
    · simp [h]
  have hk1 : (gray a).testBit k = !(gray b).testBit k := by
    rw [hg k]
    simp
  have hk2 : (gray a).testBit (k - 1) = !(gray b).testBit (k - 1) := by
    rw [hg (k - 1)]
    have h1 : ¬ k - 1 = k := by omega
    have h2 : k - 1 + 1 = k := by omega
    simp [h1, h2]
  unfold wrBits
  rw [hk1, hk2, hlow]
  cases (gray b).testBit k <;> cases (gray b).testBit (k - 1) <;> simp

theorem bool_ne_ne {x x' y : Bool} (h : ¬ x = y) (h' : ¬ x' = y) : x = x' := by
  cases x <;> cases x' <;> cases y <;> simp_all

theorem wrBits_false {k p c : Nat} (h : wrBits k p c = false) :
    ¬ p.testBit k = c.testBit k ∧ ¬ p.testBit (k - 1) = c.testBit (k - 1) ∧ p % 2 ^ (k - 1) = c % 2 ^ (k - 1) := by
  unfold wrBits at h
  simp only [Bool.or_eq_false_iff, beq_eq_false_iff_ne, ne_eq, bne_eq_false_iff_eq] at h
  exact ⟨h.1.1, h.1.2, h.2⟩

theorem not_writable_full (k a b : Nat) (hk : 1 ≤ k) (ha : a < 2 ^ (k + 1)) (hb : b < 2 ^ (k + 1))
    (h : wrBits k (gray a) (gray b) = false) : a = (b + 2 ^ k) % 2 ^ (k + 1) := by
  have ha' : (b + 2 ^ k) % 2 ^ (k + 1) < 2 ^ (k + 1) := Nat.mod_lt _ (Nat.two_pow_pos _)
  have h' := full_not_writable k _ b hk hb rfl
  obtain ⟨h1, h2, h3⟩ := wrBits_false h
  obtain ⟨h1', h2', h3'⟩ := wrBits_false h'
  apply gray_injective
  apply Nat.eq_of_testBit_eq
  intro i
  by_cases hi : i < k - 1
  · have e := congrArg (fun x => x.testBit i) (h3.trans h3'.symm)
    simpa [Nat.testBit_mod_two_pow, hi] using e
  · by_cases hik : i = k - 1
    · subst hik; exact bool_ne_ne h2 h2'
    · by_cases hik2 : i = k
      · subst hik2; exact bool_ne_ne h1 h1'
      · have hge : k + 1 ≤ i := by omega
        have hp : 2 ^ (k + 1) ≤ 2 ^ i := Nat.pow_le_pow_right (by omega) hge
        rw [Nat.testBit_lt_two_pow (Nat.lt_of_lt_of_le (gray_lt ha) hp),
          Nat.testBit_lt_two_pow (Nat.lt_of_lt_of_le (gray_lt ha') hp)]

end Litex.Cdc
