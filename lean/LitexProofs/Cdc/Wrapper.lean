import LitexModel.Cdc.Wrapper
import LitexProofs.Cdc.AsyncFifo
/-
  `_FIFOWrapper`: packing an endpoint token into the fifo word and unpacking it again is the identity up to field
  truncation, and the wrapped FIFO is the plain FIFO on packed tokens.
-/
namespace Litex.Cdc

theorem low_add_mul {P : Nat} (hP : 0 < P) (a r : Nat) : (a % P + P * r) % P = a % P ∧ (a % P + P * r) / P = r := by
  constructor
  · rw [Nat.add_mul_mod_self_left, Nat.mod_mod]
  · rw [Nat.add_mul_div_left _ _ hP, Nat.div_eq_of_lt (Nat.mod_lt _ hP), Nat.zero_add]

theorem unpack_pack (wp wq : Nat) (t : FTok) : unpackTok wp wq (packTok wp wq t) = normTok wp wq t := by
  obtain ⟨a, c, f, l⟩ := t
  -- first `payload` off the whole word, then `param` off what is left
  obtain ⟨e1, e2⟩ := low_add_mul (Nat.two_pow_pos wp) a (c % 2 ^ wq + 2 ^ wq * (b2n f + 2 * b2n l))
  obtain ⟨e3, e4⟩ := low_add_mul (Nat.two_pow_pos wq) c (b2n f + 2 * b2n l)
  simp only [unpackTok, packTok, normTok, e1, e2, e3, e4]
  cases f <;> cases l <;> simp [b2n]

theorem wrap_run (k : Nat) (b : Bool) (wp wq : Nat) (is : List (AFIn FTok)) : ∀ s,
    wrapRun k b wp wq s is = runFrom k b 0 s (is.map (wrapIn wp wq)) := by
  induction is with
  | nil => intro s; rfl
  | cons i is ih => intro s; simp only [wrapRun, wrapStep, List.map_cons, runFrom, ih]

theorem wrap_accepted (k : Nat) (b : Bool) (wp wq : Nat) (is : List (AFIn FTok)) : ∀ s,
    (wrapAccepted k b wp wq s is).map (packTok wp wq) = accepted k b 0 s (is.map (wrapIn wp wq)) := by
  induction is with
  | nil => intro s; rfl
  | cons i is ih =>
    intro s
    simp only [wrapAccepted, wrapStep, List.map_cons, accepted, List.map_append, ih, accNow]
    congr 1
    have : (wrapIn wp wq i).tw = i.tw := rfl
    rw [this]
    split <;> simp [wrapIn]

theorem wrap_delivered (k : Nat) (b : Bool) (wp wq : Nat) (is : List (AFIn FTok)) : ∀ s,
    wrapDelivered k b wp wq s is = (delivered k b 0 s (is.map (wrapIn wp wq))).map (unpackTok wp wq) := by
  induction is with
  | nil => intro s; rfl
  | cons i is ih =>
    intro s
    simp only [wrapDelivered, wrapStep, List.map_cons, delivered, List.map_append, ih, delNow]
    congr 1
    have h1 : (wrapIn wp wq i).tr = i.tr := rfl
    have h2 : (wrapIn wp wq i).ready = i.ready := rfl
    rw [h1, h2]
    split <;> simp [wrapSrcTok]

end Litex.Cdc
