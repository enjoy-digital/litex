import LitexModel.Machine
/-
  Runs of an arbitrary `Machine`: the last step of a run, invariants indexed by the cycles to go or done, quantities and
  lists recorded along a run (given by their two defining equations, which hold by `rfl`), invariants and counts paid
  for by a potential under an assumption on the run (`Machine.LegalFrom`), a component of the state that runs as a
  machine of its own, and runs over an input function (`runFn`).
-/
namespace Litex

namespace Machine
variable {ι σ ο : Type} (m : Machine ι σ ο)

theorem runFrom_snoc (s : σ) (xs : List ι) (x : ι) : m.runFrom s (xs ++ [x]) = m.next (m.runFrom s xs) x := by
  rw [runFrom_append]; rfl

theorem run_snoc (xs : List ι) (x : ι) : m.run (xs ++ [x]) = m.next (m.run xs) x := m.runFrom_snoc _ xs x

theorem run_take_succ (d : ι) (ins : List ι) {t : Nat} (ht : t < ins.length) :
    m.run (ins.take (t + 1)) = m.next (m.run (ins.take t)) (ins.getD t d) := by
  rw [List.take_succ_eq_append_getElem ht, run_snoc, List.getD_eq_getElem?_getD, List.getElem?_eq_getElem ht]
  rfl

/-- `Inv n`: an invariant indexed by the number of cycles still to go. -/
theorem runFrom_countdown {Inv : Nat → σ → Prop} {A : ι → Prop} {Q : ο → Prop}
    (step : ∀ n s x, Inv (n + 1) s → A x → Inv n (m.next s x) ∧ Q (m.out s x)) :
    ∀ (xs : List ι) (n : Nat) (s : σ), Inv (n + xs.length) s → (∀ x ∈ xs, A x) →
      Inv n (m.runFrom s xs) ∧ ∀ o ∈ m.traceFrom s xs, Q o := by
  intro xs
  induction xs with
  | nil => exact fun n s h _ => ⟨h, nofun⟩
  | cons x xs ih =>
    intro n s h hA
    obtain ⟨h', hq⟩ := step (n + xs.length) s x h (hA x List.mem_cons_self)
    obtain ⟨hr, ho⟩ := ih n _ h' fun y hy => hA y (List.mem_cons_of_mem _ hy)
    exact ⟨hr, fun o hmem => (List.mem_cons.mp hmem).elim (fun e => e ▸ hq) (ho o)⟩

/-- `es s xs` lists an observation `e` along the run over `xs` from `s`; `hnil`, `hcons` hold by `rfl` for the trace
    and for every list of this kind defined by recursion on the inputs. -/
theorem obs_forall {β : Type} {e : σ → ι → β} {es : σ → List ι → List β} (hnil : ∀ s, es s [] = [])
    (hcons : ∀ s x xs, es s (x :: xs) = e s x :: es (m.next s x) xs) {A : ι → Prop} {P : β → Prop}
    (step : ∀ s x, A x → P (e s x)) :
    ∀ (xs : List ι) (s : σ), (∀ x ∈ xs, A x) → ∀ b ∈ es s xs, P b := by
  intro xs
  induction xs with
  | nil => intro s _ b hb; rw [hnil] at hb; cases hb
  | cons x xs ih =>
    intro s hA b hb
    rw [hcons] at hb
    exact (List.mem_cons.mp hb).elim (fun h => h ▸ step s x (hA x List.mem_cons_self))
      (ih _ (fun y hy => hA y (List.mem_cons_of_mem _ hy)) b)

/-! `F s xs` combines, by `op`, a per-cycle quantity `e` along the run over `xs` from `s`.  The equations `hnil`, `hcons`
  hold by `rfl` for every function defined by that recursion on the inputs: token histories (`++`), counters (`+`),
  recorded lists (`e s x :: ·` is `[e s x] ++ ·`), predicates on runs (`∧`, with `propext`). -/
theorem fold_append {β : Type} {op : β → β → β} {u : β} {e : σ → ι → β} {F : σ → List ι → β}
    (hassoc : ∀ a b c, op (op a b) c = op a (op b c)) (hu : ∀ a, op u a = a)
    (hnil : ∀ s, F s [] = u) (hcons : ∀ s x xs, F s (x :: xs) = op (e s x) (F (m.next s x) xs))
    (a b : List ι) : ∀ s, F s (a ++ b) = op (F s a) (F (m.runFrom s a) b) := by
  induction a with
  | nil => intro s; rw [hnil, hu]; rfl
  | cons x a ih => intro s; rw [List.cons_append, hcons, hcons, ih, hassoc]; rfl

/-! Every predicate on runs that gives `ok` in the first cycle and itself for the rest is a `LegalFrom ok` (`of`; for those
  defined by `| s, x :: xs => ok s x ∧ L (next s x) xs` the hypothesis is `fun _ _ _ h => h`), and so is an assumption on
  the inputs alone (`of_forall`). -/

theorem LegalFrom.of {L : σ → List ι → Prop} {ok : σ → ι → Prop}
    (hL : ∀ s x xs, L s (x :: xs) → ok s x ∧ L (m.next s x) xs) :
    ∀ (xs : List ι) (s : σ), L s xs → m.LegalFrom ok s xs := by
  intro xs
  induction xs with
  | nil => exact fun _ _ => trivial
  | cons x xs ih => exact fun s h => ⟨(hL s x xs h).1, ih _ (hL s x xs h).2⟩

theorem LegalFrom.of_forall {A : ι → Prop} {xs : List ι} (h : ∀ x ∈ xs, A x) (s : σ) :
    m.LegalFrom (fun _ => A) s xs :=
  LegalFrom.of m (L := fun _ xs => ∀ x ∈ xs, A x)
    (fun _ x _ h => ⟨h x List.mem_cons_self, fun y hy => h y (List.mem_cons_of_mem _ hy)⟩) xs s h

/-- Executable form of `LegalFrom`, for showing a concrete run legal by evaluation. -/
def legalB (M : Machine ι σ ο) (okb : σ → ι → Bool) : σ → List ι → Bool
  | _, [] => true
  | s, i :: is => okb s i && legalB M okb (M.next s i) is

theorem legal_of_legalB (M : Machine ι σ ο) (ok : σ → ι → Prop) (okb : σ → ι → Bool)
    (h : ∀ s i, okb s i = true → ok s i) : ∀ (ins : List ι) (s : σ), legalB M okb s ins = true → M.LegalFrom ok s ins := by
  intro ins
  induction ins with
  | nil => intro s _; trivial
  | cons i is ih =>
    intro s hb
    simp only [legalB, Bool.and_eq_true] at hb
    exact ⟨h s i hb.1, ih _ hb.2⟩

section legal
variable {ok : σ → ι → Prop} {Inv : σ → Prop}

theorem inv_along {Q : ο → Prop} (hstep : ∀ s x, Inv s → ok s x → Inv (m.next s x) ∧ Q (m.out s x)) :
    ∀ (xs : List ι) (s : σ), Inv s → m.LegalFrom ok s xs → Inv (m.runFrom s xs) ∧ ∀ o ∈ m.traceFrom s xs, Q o := by
  intro xs
  induction xs with
  | nil => exact fun s h _ => ⟨h, nofun⟩
  | cons x xs ih =>
    intro s hs hl
    obtain ⟨hs', hq⟩ := hstep s x hs hl.1
    obtain ⟨hr, ho⟩ := ih _ hs' hl.2
    exact ⟨hr, fun o hmem => (List.mem_cons.mp hmem).elim (fun e => e ▸ hq) (ho o)⟩

theorem count_add_le {cnt : σ → List ι → Nat} {ind : σ → ι → Nat} {Φ : σ → Nat}
    (hnil : ∀ s, cnt s [] = 0) (hcons : ∀ s x xs, cnt s (x :: xs) = ind s x + cnt (m.next s x) xs)
    (hstep : ∀ s x, Inv s → ok s x → Inv (m.next s x) ∧ ind s x + Φ (m.next s x) ≤ Φ s) :
    ∀ (xs : List ι) (s : σ), Inv s → m.LegalFrom ok s xs → cnt s xs + Φ (m.runFrom s xs) ≤ Φ s := by
  intro xs
  induction xs with
  | nil => intro s _ _; rw [hnil, Nat.zero_add]; exact Nat.le_refl _
  | cons x xs ih =>
    intro s hs hl
    obtain ⟨hs', hle⟩ := hstep s x hs hl.1
    rw [hcons, Nat.add_assoc]
    exact Nat.le_trans (Nat.add_le_add_left (ih _ hs' hl.2) _) hle

end legal

/-- `p s` is a component of the state that steps as a machine `m'` of its own on an input `e s x` computed from the whole
    state; `es s xs` lists that input along the run (`hnil`/`hcons` as for `obs_forall`). -/
theorem runFrom_proj {ι' σ' ο' : Type} (m' : Machine ι' σ' ο') (p : σ → σ') {e : σ → ι → ι'} {es : σ → List ι → List ι'} (hnil : ∀ s, es s [] = [])
    (hcons : ∀ s x xs, es s (x :: xs) = e s x :: es (m.next s x) xs)
    (h : ∀ s x, p (m.next s x) = m'.next (p s) (e s x)) :
    ∀ (xs : List ι) (s : σ), p (m.runFrom s xs) = m'.runFrom (p s) (es s xs) := by
  intro xs
  induction xs with
  | nil => intro s; rw [hnil]; rfl
  | cons x xs ih => intro s; rw [hcons, runFrom, runFrom, ← h]; exact ih _

/-- `I s` is what waits in state `s`, `w`/`r` what a cycle writes and reads, `W`/`R` their logs over a run:
    `waiting ++ written = read ++ waiting'`. -/
theorem balance_run {τ : Type} (I : σ → List τ) (P : σ → Prop) (w r : σ → ι → List τ)
    (W R : σ → List ι → List τ) (hW0 : ∀ s, W s [] = []) (hW : ∀ s i is, W s (i :: is) = w s i ++ W (m.next s i) is)
    (hR0 : ∀ s, R s [] = []) (hR : ∀ s i is, R s (i :: is) = r s i ++ R (m.next s i) is)
    (hstep : ∀ s i, P s → I s ++ w s i = r s i ++ I (m.next s i) ∧ P (m.next s i)) :
    ∀ (ins : List ι) (s : σ), P s → I s ++ W s ins = R s ins ++ I (m.runFrom s ins) ∧ P (m.runFrom s ins)
  | [], s, h => ⟨by rw [hW0, hR0, List.append_nil]; rfl, h⟩
  | i :: is, s, h => by
    obtain ⟨e, g⟩ := hstep s i h
    obtain ⟨e', g'⟩ := balance_run I P w r W R hW0 hW hR0 hR hstep is (m.next s i) g
    exact ⟨by rw [hW, hR, ← List.append_assoc, e, List.append_assoc, e', List.append_assoc]; rfl, g'⟩

/-- Two stores in series: what the first hands over (`m`) is what the second accepts. -/
theorem balance_chain {τ : Type} {a w m a' b r b' : List τ} (h1 : a ++ w = m ++ a') (h2 : b ++ m = r ++ b') :
    b ++ a ++ w = r ++ (b' ++ a') := by
  rw [List.append_assoc, h1, ← List.append_assoc, h2, List.append_assoc]

/-- `Inv k s`: what `s` is after `k` cycles (closed forms of counters). -/
theorem runFrom_countup {Inv : Nat → σ → Prop} {A : ι → Prop}
    (step : ∀ k s x, Inv k s → A x → Inv (k + 1) (m.next s x)) :
    ∀ (xs : List ι) (k : Nat) (s : σ), Inv k s → (∀ x ∈ xs, A x) → Inv (k + xs.length) (m.runFrom s xs)
  | [], _, _, h, _ => h
  | x :: xs, k, s, h, hA => by
    rw [List.length_cons, Nat.add_comm xs.length, ← Nat.add_assoc]
    exact runFrom_countup step xs (k + 1) _ (step k s x h (hA x List.mem_cons_self))
      fun y hy => hA y (List.mem_cons_of_mem _ hy)

theorem runFrom_countup_zero {Inv : Nat → σ → Prop} {A : ι → Prop}
    (step : ∀ k s x, Inv k s → A x → Inv (k + 1) (m.next s x)) (xs : List ι) (s : σ) (h0 : Inv 0 s)
    (hA : ∀ x ∈ xs, A x) : Inv xs.length (m.runFrom s xs) :=
  Nat.zero_add xs.length ▸ runFrom_countup m step xs 0 s h0 hA

end Machine

/-! The explicit form of a list recorded along a run: `Event.innerTraceFrom m e` satisfies `hnil`/`hcons` above by `rfl`
    (it carries the name of the Event area, whose producers were its first users). -/
namespace Event
section
variable {ι σ ο ι' σ' ο' : Type}

/-- The inputs the inner machine receives while the composite `M` runs over `ins` from `s`. -/
def innerTraceFrom (M : Machine ι σ ο) (f : σ → ι → ι') : σ → List ι → List ι'
  | _, [] => []
  | s, i :: is => f s i :: innerTraceFrom M f (M.next s i) is

theorem innerTraceFrom_length (M : Machine ι σ ο) (f : σ → ι → ι') :
    ∀ (ins : List ι) (s : σ), (innerTraceFrom M f s ins).length = ins.length := by
  intro ins
  induction ins with
  | nil => intro _; rfl
  | cons i is ih => intro s; simp [innerTraceFrom, ih]

theorem run_proj (M : Machine ι σ ο) (M' : Machine ι' σ' ο') (proj : σ → σ') (f : σ → ι → ι')
    (h : ∀ s i, proj (M.next s i) = M'.next (proj s) (f s i)) :
    ∀ (ins : List ι) (s : σ), proj (M.runFrom s ins) = M'.runFrom (proj s) (innerTraceFrom M f s ins) :=
  Machine.runFrom_proj M M' proj (fun _ => rfl) (fun _ _ _ => rfl) h

theorem innerTraceFrom_getD (M : Machine ι σ ο) (f : σ → ι → ι') (d : ι') (di : ι) :
    ∀ (ins : List ι) (s : σ) (t : Nat), t < ins.length →
      (innerTraceFrom M f s ins).getD t d = f (M.runFrom s (ins.take t)) (ins.getD t di) := by
  intro ins
  induction ins with
  | nil => intro s t ht; simp at ht
  | cons i is ih =>
    intro s t ht
    cases t with
    | zero => simp [innerTraceFrom, Machine.runFrom]
    | succ t =>
      have ht' : t < is.length := by simpa using ht
      simp only [innerTraceFrom, List.getD_cons_succ, List.take_succ_cons, Machine.runFrom]
      exact ih _ t ht'

theorem innerTraceFrom_take (M : Machine ι σ ο) (f : σ → ι → ι') :
    ∀ (ins : List ι) (s : σ) (t : Nat), innerTraceFrom M f s (ins.take t) = (innerTraceFrom M f s ins).take t
  | [], _, _ => by simp [innerTraceFrom]
  | _ :: _, _, 0 => rfl
  | _ :: is, _, t + 1 => congrArg (_ :: ·) (innerTraceFrom_take M f is _ t)

end
end Event

end Litex

/-! Two forms of a run are in use.  A list (`Machine.runFrom`) where a statement speaks of every history, or of a stretch of
  any length under an assumption on each input.  A function with `runFn` where a statement addresses single cycles by
  their number (waveforms: "in cycle `i·div + k` the clock is …"): `f t` names the input of cycle `t`, which a list can
  only do through `getD`.  The serial peripherals (`LitexProofs/Periph`, C19) are the only users, hence the namespace. -/
namespace Litex.Periph
open Litex

/-- `Machine.runFrom` unrolled from the last cycle: the step of cycle `k` is applied outermost, as in `runFrom_snoc`. -/
def runFn {ι σ ο : Type} (m : Machine ι σ ο) (s : σ) (f : Nat → ι) : Nat → σ
  | 0 => s
  | k + 1 => m.next (runFn m s f k) (f k)

theorem runFn_eq_runFrom {ι σ ο : Type} (m : Machine ι σ ο) (f : Nat → ι) (k : Nat) (s : σ) :
    runFn m s f k = m.runFrom s ((List.range k).map f) := by
  induction k with
  | zero => rfl
  | succ k ih =>
    rw [List.range_succ, List.map_append, Machine.runFrom_append, ← ih]
    rfl

theorem runFn_add {ι σ ο : Type} (m : Machine ι σ ο) (s : σ) (f : Nat → ι) (a k : Nat) :
    runFn m s f (a + k) = runFn m (runFn m s f a) (fun j => f (a + j)) k := by
  induction k with
  | zero => rfl
  | succ k ih => rw [← Nat.add_assoc]; simp only [runFn]; rw [ih]

/-- `step` may assume `t < N`: the invariant need not survive the horizon (a frame that ends, a counter that wraps). -/
theorem runFn_inv {ι σ ο : Type} (m : Machine ι σ ο) (f : Nat → ι) {Inv : Nat → σ → Prop} {s : σ} {N : Nat}
    (h0 : Inv 0 s) (step : ∀ t s', t < N → Inv t s' → Inv (t + 1) (m.next s' (f t))) :
    ∀ t, t ≤ N → Inv t (runFn m s f t)
  | 0, _ => h0
  | t + 1, h => step t _ h (runFn_inv m f h0 step t (Nat.le_of_succ_le h))

theorem runFn_inv_all {ι σ ο : Type} (m : Machine ι σ ο) (f : Nat → ι) {Inv : Nat → σ → Prop} {s : σ}
    (h0 : Inv 0 s) (step : ∀ t s', Inv t s' → Inv (t + 1) (m.next s' (f t))) (t : Nat) : Inv t (runFn m s f t) :=
  runFn_inv m f (N := t) h0 (fun t s' _ => step t s') t (Nat.le_refl t)

theorem runFrom_eq_runFn {ι σ ο : Type} [Inhabited ι] (m : Machine ι σ ο) (ins : List ι) (s : σ) :
    m.runFrom s ins = runFn m s (fun j => ins[j]!) ins.length := by
  rw [runFn_eq_runFrom]
  congr 1
  apply List.ext_getElem
  · simp
  · intro j h1 _
    simp [h1]

end Litex.Periph
