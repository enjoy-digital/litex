import LitexProofs.Axi.LiteBasic
/-
  C08, write-data scoreboard: the update of ONE master's entries (`wq`, `ahead`) over one cycle, as a pure statement
  about lists — shared by the shared-interconnect and the crossbar proofs.  Bursts: `last` closes a burst.
-/
namespace Litex.Axi.Lite

theorem find_range_unique (m L : Nat) (hL : L < m) (p : Nat → Bool) (hp : p L = true)
    (hu : ∀ j, j < m → p j = true → j = L) : (List.range m).find? p = some L := by
  induction m with
  | zero => omega
  | succ k ih =>
    rw [List.range_succ, List.find?_append]
    by_cases hk : L = k
    · subst hk
      have : (List.range L).find? p = none := by
        rw [List.find?_eq_none]
        intro j hj hpj
        rw [List.mem_range] at hj
        have := hu j (by omega) hpj
        omega
      rw [this]
      simp [hp]
    · rw [ih (by omega) (fun j hj => hu j (by omega))]
      rfl

theorem slaveOf_eq (c : Cfg) (hd : Disjoint c) (L a : Nat) (hL : L < c.m) (h : routes c L a = true) :
    slaveOf c a = some L := by
  unfold slaveOf
  apply find_range_unique c.m L hL _ h
  intro j hj hj2
  exact hd _ j L hj hL hj2 h

theorem wqAfterAddr_replicate (q L : Nat) (a : Option (Nat × Bool)) (rq : Bool) (sl : Option Nat)
    (hsl : rq = true → sl = some L) :
    wqAfterAddr (List.replicate q L) a rq sl
      = List.replicate (if rq && !a.any (·.2) then q + 1 else q) L := by
  cases rq
  · simp [wqAfterAddr]
  · rw [hsl rfl]
    unfold wqAfterAddr
    match a with
    | some (k, true) => simp
    | some (k, false) => simp [List.replicate_succ']
    | none => simp [List.replicate_succ']

/-- One master's data scoreboard over one cycle, all its entries being at slave `L`: `q` addresses wait for data
    (`wq = replicate q L`), `a` is the burst gone ahead of its address (`ahead`), `rq`/`dt` are its address and data
    handshakes, `last` closes the burst, `sl` is the slave of the address on its lines.  After the cycle the entries
    are again at `L` (`q'`, `a'`), and bursts are conserved: waiting + ahead-and-complete + completed now
    = waiting before + ahead-and-complete after + accepted now. -/
theorem master_update (q L : Nat) (a : Option (Nat × Bool)) (rq dt last : Bool) (sl : Option Nat)
    (haL : ∀ k b, a = some (k, b) → k = L)
    (haq : a ≠ none → q = 0)
    (hdata : dt = true → q ≠ 0 ∨ ∀ k, a ≠ some (k, true))
    (hsl : (rq = true ∨ (dt = true ∧ q = 0)) → sl = some L) :
    ∃ q' a',
      (if dt && last then (wqAfterAddr (List.replicate q L) a rq sl).tail
        else wqAfterAddr (List.replicate q L) a rq sl) = List.replicate q' L ∧
      (if dt && (wqAfterAddr (List.replicate q L) a rq sl).isEmpty then sl.map (fun k => (k, last))
        else (if rq then none else a)) = a' ∧
      (∀ k b, a' = some (k, b) → k = L) ∧ (a' ≠ none → q' = 0) ∧
      q' + (if a = some (L, true) then 1 else 0) + (if dt && last then 1 else 0)
        = q + (if a' = some (L, true) then 1 else 0) + (if rq then 1 else 0) := by
  rw [wqAfterAddr_replicate q L a rq sl (fun h => hsl (Or.inl h))]
  generalize hw : (if rq && !a.any (·.2) then q + 1 else q) = w
  -- the address event: none; an address whose burst is complete ahead (nothing waits, no data comes); any other
  -- address (one more entry waits)
  have hev : (rq = false ∧ w = q) ∨ (rq = true ∧ a = some (L, true) ∧ q = 0 ∧ w = 0 ∧ dt = false) ∨
      (rq = true ∧ a ≠ some (L, true) ∧ w = q + 1) := by
    cases rq
    · exact Or.inl ⟨rfl, hw.symm⟩
    · match a, haL, haq, hdata, hw with
      | none, _, _, _, hw => exact Or.inr (Or.inr ⟨rfl, by simp, hw.symm⟩)
      | some (k, false), _, _, _, hw => exact Or.inr (Or.inr ⟨rfl, by simp, hw.symm⟩)
      | some (k, true), haL, haq, hdata, hw =>
        obtain rfl := haL k true rfl
        obtain rfl := haq (by simp)
        refine Or.inr (Or.inl ⟨rfl, rfl, rfl, hw.symm, ?_⟩)
        cases dt
        · rfl
        · rcases hdata rfl with h | h
          · exact absurd rfl h
          · exact absurd rfl (h k)
  have hsl0 : dt = true → w = 0 → sl = some L := fun hd h0 =>
    hsl (Or.inr ⟨hd, by rw [← hw] at h0; split at h0 <;> omega⟩)
  rw [List.isEmpty_replicate]
  refine ⟨if dt && last then w - 1 else w,
    if dt && decide (w = 0) then some (L, last) else if rq then none else a, ?_, ?_, ?_, ?_, ?_⟩
  · split
    · exact List.tail_replicate
    · rfl
  · by_cases h : (dt && decide (w = 0)) = true
    · have h' := h
      rw [Bool.and_eq_true, decide_eq_true_eq] at h'
      rw [if_pos h, if_pos h, hsl0 h'.1 h'.2]; rfl
    · rw [if_neg h, if_neg h]
  · intro k b
    split
    · intro h; injection h with h; injection h with h; exact h.symm
    · split
      · intro h; cases h
      · exact haL k b
  · rcases hev with ⟨rfl, rfl⟩ | ⟨rfl, rfl, rfl, rfl, rfl⟩ | ⟨rfl, hne, rfl⟩
    · by_cases hq : w = 0
      · subst hq; intro _; split <;> rfl
      · rw [if_neg (by simp [hq])]
        exact fun h => absurd (haq h) hq
    · exact fun _ => rfl
    · rw [if_neg (by simp)]
      exact fun h => absurd rfl h
  · rcases hev with ⟨rfl, rfl⟩ | ⟨rfl, rfl, rfl, rfl, rfl⟩ | ⟨rfl, hne, rfl⟩
    · cases dt
      · rfl
      · by_cases hq : w = 0
        · -- data ahead of its address: it becomes the `ahead` entry
          subst hq
          have hnc := (hdata rfl).resolve_left (fun h => h rfl) L
          cases last <;> simp [hnc]
        · -- data for the oldest waiting address
          have hn : a = none := Decidable.byContradiction fun h => hq (haq h)
          subst hn
          cases last <;> simp [hq] <;> omega
    · simp
    · rw [show (dt && decide (q + 1 = 0)) = false by simp, if_neg hne]
      cases dt <;> cases last <;> simp

theorem dgNext_wq (c : Cfg) (rd : Bool) (dg : DGhost) (x : DirIn) (o : DirOut) (i : Nat) :
    (dgNext c rd dg x o).wq i =
      if mDat x o i && c.wlast (x.ms i).dPay
      then (wqAfterAddr (dg.wq i) (dg.ahead i) (mReq x o i) (slaveOf c (x.ms i).aAddr)).tail
      else wqAfterAddr (dg.wq i) (dg.ahead i) (mReq x o i) (slaveOf c (x.ms i).aAddr) := rfl

theorem dgNext_ahead (c : Cfg) (rd : Bool) (dg : DGhost) (x : DirIn) (o : DirOut) (i : Nat) :
    (dgNext c rd dg x o).ahead i =
      if mDat x o i && (wqAfterAddr (dg.wq i) (dg.ahead i) (mReq x o i) (slaveOf c (x.ms i).aAddr)).isEmpty
      then (slaveOf c (x.ms i).aAddr).map fun k => (k, c.wlast (x.ms i).dPay)
      else (if mReq x o i then none else dg.ahead i) := rfl

theorem dgNext_idle (c : Cfg) (rd : Bool) (dg : DGhost) (x : DirIn) (o : DirOut) (i : Nat)
    (h1 : mReq x o i = false) (h2 : mDat x o i = false) :
    (dgNext c rd dg x o).wq i = dg.wq i ∧ (dgNext c rd dg x o).ahead i = dg.ahead i := by
  rw [dgNext_wq, dgNext_ahead, h1, h2]
  simp [wqAfterAddr]

/-- A completed response finds an entry (`slaveLegal`) and a complete data burst (`respAfterData`) to retire. -/
theorem slave_sizes (c : Cfg) (rd : Bool) (g : Fifo) (dg : DGhost) (x : DirIn) (o : DirOut) (j : Nat) (hj : j < c.m)
    (env : EnvOK c g x) (denv : DEnvOK c dg x) (hiss : sReq x o j = true → ∃ i, issuersTo c x o j = [i]) :
    (fifoNext c rd g x o j).length + (if sDone (c.gated rd) x o j then 1 else 0)
      = (g j).length + (if sReq x o j then 1 else 0) ∧
    (dgNext c rd dg x o).sd j + (if sDone (c.gated rd) x o j then 1 else 0)
      = dg.sd j + (if sDat x o j && c.wlast (o.toS j).dPay then 1 else 0) := by
  refine ⟨fifoNext_length c rd g x o j hj env hiss, ?_⟩
  show dg.sd j + _ - (if sDone (c.gated rd) x o j then 1 else 0) + _ = _
  cases hdn : sDone (c.gated rd) x o j
  · rfl
  · have hv : (x.ss j).rValid = true := by
      unfold sDone sRsp at hdn; simp only [Bool.and_eq_true] at hdn; exact hdn.1.1
    have hpos := denv.respAfterData j hj hv
    simp only [if_true]
    omega

end Litex.Axi.Lite
