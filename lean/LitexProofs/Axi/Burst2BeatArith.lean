import LitexModel.Axi.BurstSpec
/-
  Arithmetic behind `AXIBurst2Beat`: the wrap-mask test, the A3.4.1 address (`axiSpecAddr`) case by case, and that
  an INCR burst inside a 4 KB page keeps every beat in it (`incr_page`, `incr_fits`).
  A WRAP burst of `M` transfers of `N` bytes visits the `N`-byte slots of one `M`-slot window cyclically, so its
  facts are stated for slot indices (`wrapSlot`) and scaled by `N` where an address is needed; `N` and `M` are
  variables throughout, the 4 KB bound enters only through `M * N ∣ 4096`.
-/
namespace Litex.Axi

theorem and_shift (a M s : Nat) : a &&& (M <<< s) = ((a >>> s) &&& M) <<< s := by
  apply Nat.eq_of_testBit_eq
  intro i
  simp only [Nat.testBit_and, Nat.testBit_shiftLeft, Nat.testBit_shiftRight]
  by_cases h : s ≤ i
  · simp [h, Nat.add_sub_cancel' h]
  · simp [h]

/-- The mask test of the code, `(x & (len << size)) == (len << size)` with `len + 1 = 2^m`, fires exactly when `x`
    lies in the last `2^size`-byte slot of its `2^(size+m)`-byte window. -/
theorem wrap_detect (m s x : Nat) :
    (x &&& ((2 ^ m - 1) * 2 ^ s) = (2 ^ m - 1) * 2 ^ s) ↔ (x / 2 ^ s) % 2 ^ m = 2 ^ m - 1 := by
  rw [← Nat.shiftLeft_eq, and_shift, Nat.and_two_pow_sub_one_eq_mod, Nat.shiftLeft_eq, Nat.shiftLeft_eq,
    Nat.shiftRight_eq_div_pow]
  constructor
  · intro h; exact Nat.eq_of_mul_eq_mul_right (Nat.two_pow_pos s) h
  · intro h; rw [h]

theorem wrap_detect_len {L : Nat} (hL : L = 1 ∨ L = 3 ∨ L = 7 ∨ L = 15) (s x : Nat) :
    (x &&& (L * 2 ^ s) = L * 2 ^ s) ↔ (x / 2 ^ s) % (L + 1) = L := by
  rcases hL with rfl | rfl | rfl | rfl
  · exact wrap_detect 1 s x
  · exact wrap_detect 2 s x
  · exact wrap_detect 3 s x
  · exact wrap_detect 4 s x

theorem wrapS13_id {x : Int} (h1 : -4096 ≤ x) (h2 : x < 4096) : wrapS13 x = x := by
  unfold wrapS13
  simp only
  split <;> omega

/-- Slot visited by transfer `k` of a WRAP burst of `M` transfers starting in slot `a`: the position inside the
    window `[M·(a/M), M·(a/M) + M)` of `a` advances modulo `M`. -/
def wrapSlot (a M k : Nat) : Nat := M * (a / M) + (a % M + k) % M

theorem wrapSlot_zero (a M : Nat) : wrapSlot a M 0 = a := by
  unfold wrapSlot; rw [Nat.add_zero, Nat.mod_mod, Nat.div_add_mod]

theorem wrapSlot_period (a M k : Nat) : wrapSlot a M (k + M) = wrapSlot a M k := by
  unfold wrapSlot; rw [← Nat.add_assoc, Nat.add_mod_right]

theorem wrapSlot_mod (a M k : Nat) : wrapSlot a M k % M = (a % M + k) % M := by
  unfold wrapSlot; rw [Nat.mul_add_mod, Nat.mod_mod]

theorem wrapSlot_window (a k : Nat) {M : Nat} (hM : 0 < M) :
    M * (a / M) ≤ wrapSlot a M k ∧ wrapSlot a M k < M * (a / M) + M :=
  ⟨Nat.le_add_right _ _, Nat.add_lt_add_left (Nat.mod_lt _ hM) _⟩

theorem wrapSlot_succ (a k : Nat) {M : Nat} (hM : 0 < M) :
    (wrapSlot a M k % M = M - 1 → wrapSlot a M (k + 1) + (M - 1) = wrapSlot a M k) ∧
    (wrapSlot a M k % M ≠ M - 1 → wrapSlot a M (k + 1) = wrapSlot a M k + 1) := by
  rw [wrapSlot_mod]
  unfold wrapSlot
  rw [← Nat.add_assoc, ← Nat.mod_add_mod (a % M + k) M 1]
  have hj := Nat.mod_lt (a % M + k) hM
  generalize (a % M + k) % M = j at hj ⊢
  constructor
  · intro h
    rw [show j + 1 = M by omega, Nat.mod_self]; omega
  · intro h
    rw [Nat.mod_eq_of_lt (by omega)]; omega

theorem wrapSlot_eq (a : Nat) {M k : Nat} (hk : k < M) :
    wrapSlot a M k = if a % M + k < M then a + k else a + k - M := by
  unfold wrapSlot
  have h1 := Nat.div_add_mod a M
  have h2 := Nat.mod_lt a (Nat.zero_lt_of_lt hk)
  split
  · rw [Nat.mod_eq_of_lt (by assumption)]; omega
  · rw [Nat.mod_eq_sub_mod (by omega), Nat.mod_eq_of_lt (by omega)]; omega

theorem axiSpecAddr_wrap (A L S k : Nat) (hal : A % 2 ^ S = 0) (hk : k ≤ L) :
    axiSpecAddr A L S BURST_WRAP k = wrapSlot (A / 2 ^ S) (L + 1) k * 2 ^ S := by
  unfold axiSpecAddr alignedAddr wrapBoundary numBytes
  rw [if_neg (by decide), if_pos rfl, wrapSlot_eq _ (by omega)]
  have hN := Nat.two_pow_pos S
  generalize 2 ^ S = N at hal hN ⊢
  have hA : A / N * N = A := Nat.div_mul_cancel (Nat.dvd_of_mod_eq_zero hal)
  have ha : (if k = 0 then A else A / N * N + k * N) = (A / N + k) * N := by
    rw [Nat.add_mul, hA]; split
    · subst k; rw [Nat.zero_mul]; rfl
    · rfl
  simp only [ha]
  rw [← Nat.div_div_eq_div_mul]
  generalize A / N = a
  have hw : a / (L + 1) * (N * (L + 1)) + N * (L + 1) = ((L + 1) * (a / (L + 1)) + (L + 1)) * N := by
    rw [Nat.add_mul]; ac_rfl
  have hm := Nat.div_add_mod a (L + 1)
  rw [hw, Nat.mul_comm N (L + 1), ← Nat.sub_mul]
  by_cases h : a % (L + 1) + k < L + 1
  · rw [if_pos h, if_neg (fun hh => by have := Nat.le_of_mul_le_mul_right hh hN; omega)]
  · rw [if_neg h, if_pos (Nat.mul_le_mul_right N (by omega))]


theorem axiSpecAddr_incr_div (A L S k : Nat) : axiSpecAddr A L S BURST_INCR k / 2 ^ S = A / 2 ^ S + k := by
  unfold axiSpecAddr alignedAddr numBytes
  rw [if_pos rfl]
  split
  · subst k; rfl
  · rw [← Nat.add_mul, Nat.mul_div_cancel _ (Nat.two_pow_pos S)]

theorem axiSpecAddr_incr (A L S k : Nat) (hal : A % 2 ^ S = 0) : axiSpecAddr A L S BURST_INCR k = A + k * 2 ^ S := by
  unfold axiSpecAddr alignedAddr numBytes
  rw [if_pos rfl, Nat.div_mul_cancel (Nat.dvd_of_mod_eq_zero hal)]
  split
  · subst k; rw [Nat.zero_mul]; rfl
  · rfl

theorem axiSpecAddr_fixed (A L S k : Nat) : axiSpecAddr A L S BURST_FIXED k = A := by
  unfold axiSpecAddr; rw [if_neg (by decide), if_neg (by decide)]

theorem wrap_window_dvd {L S : Nat} (hL : L = 1 ∨ L = 3 ∨ L = 7 ∨ L = 15) (hS : S < 8) :
    ∃ c, (L + 1) * 2 ^ S * c = 4096 := by
  have key : ∀ m, m ≤ 4 → 2 ^ m * 2 ^ S * 2 ^ (12 - m - S) = 4096 := fun m hm => by
    rw [← Nat.pow_add, ← Nat.pow_add, show m + S + (12 - m - S) = 12 by omega]
  rcases hL with rfl | rfl | rfl | rfl
  · exact ⟨_, key 1 (by omega)⟩
  · exact ⟨_, key 2 (by omega)⟩
  · exact ⟨_, key 3 (by omega)⟩
  · exact ⟨_, key 4 (by omega)⟩

theorem incr_page {A L N k : Nat} (hN : 0 < N) (hleg : A / N * N % 4096 + (L + 1) * N ≤ 4096) (hk : k ≤ L) :
    4096 * (A / 4096) ≤ A / N * N ∧ A / N * N + k * N + N ≤ 4096 * (A / 4096) + 4096 := by
  have h1 : A / N * N ≤ A := Nat.div_mul_le_self _ _
  have h2 : A < A / N * N + N := by
    have := Nat.lt_div_mul_add (a := A) hN; omega
  have h3 : k * N ≤ L * N := Nat.mul_le_mul_right _ hk
  rw [Nat.succ_mul] at hleg
  omega

theorem incr_fits {A L N k Q : Nat} (hN : 0 < N) (hA : A < 4096 * Q)
    (hleg : A / N * N % 4096 + (L + 1) * N ≤ 4096) (hk : k ≤ L) : A + k * N < 4096 * Q ∧ k * N + N ≤ 4096 := by
  obtain ⟨h1, h2⟩ := incr_page hN hleg hk
  have := Nat.lt_div_mul_add (a := A) hN
  omega

theorem wrapSlot_lt {a M N k T : Nat} (hM : 0 < M) (ha : a * N < M * N * T) : wrapSlot a M k * N < M * N * T := by
  have h1 : a < M * T := Nat.lt_of_mul_lt_mul_right (a := N) (by rw [Nat.mul_right_comm]; exact ha)
  have h2 : a / M < T := Nat.div_lt_of_lt_mul h1
  have h3 : M * (a / M) + M ≤ M * T := by rw [← Nat.mul_succ]; exact Nat.mul_le_mul_left M h2
  have hN : 0 < N := Nat.pos_of_ne_zero (by rintro rfl; simp at ha)
  rw [Nat.mul_right_comm]
  exact Nat.mul_lt_mul_of_pos_right (Nat.lt_of_lt_of_le (wrapSlot_window a k hM).2 h3) hN

/- A script for goals about one fixed WRAP length by exhaustive case split on the transfer size.  It names `WrapFacts`
   and `size_cases`, which are not defined anywhere: it applies to no goal. -/
set_option hygiene false in
macro "wrap_facts_tac" hS:ident hal:ident k:ident : tactic => `(tactic|
  (unfold WrapFacts
   intro NB off off'
   simp only [axiSpecAddr, BURST_WRAP, BURST_INCR, alignedAddr, wrapBoundary, numBytes, NB, off, off']
   rcases size_cases $hS with rfl | rfl | rfl | rfl | rfl | rfl | rfl | rfl <;>
    simp only [Nat.reducePow, Nat.reduceAdd, Nat.reduceMul, Nat.reduceEqDiff, if_false, if_true, ge_iff_le] at $hal:ident ⊢ <;>
    (refine ⟨?_, ?_, ?_, ?_, ?_, ?_, ?_, ?_, ?_⟩) <;>
    (first
      | trivial
      | omega
      | (split <;> omega)
      | (intros; split <;> omega)
      | (by_cases h2 : $k:ident = 0 <;> simp only [h2, if_true, if_false] <;> (repeat' split) <;> omega)
      | (intro hk1; constructor <;> intro hh <;> (repeat' split at hh) <;> (repeat' split) <;> omega))))

end Litex.Axi
