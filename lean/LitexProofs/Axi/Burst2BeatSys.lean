import LitexProofs.Axi.Burst2Beat
/-
  `AXIBurst2Beat` driven by a protocol-legal master.  The invariant `SysInv`, and per cycle (`sys_step`) and per run
  (`sys_run`) the equation `pending ++ beats = consumed.flatMap spec ++ pending'`: the beats delivered so far, after
  those of the request in progress that were delivered before, are the prescribed beats of the requests consumed,
  followed by the part of the request now in progress.
-/
namespace Litex.Axi

/-- Inductive invariant: idle ⇒ registers at reset; a held request is legal and the registers are in the closed
    form for the number of beats delivered so far. -/
def SysInv (caps : Caps) (aw : Nat) (s : SysState) : Prop :=
  match s.held with
  | none => s.b = b2bInit
  | some r => Legal aw r (effBurst caps r.burst) ∧ s.b.count ≤ r.len ∧
              s.b = expState (effBurst caps r.burst) r s.b.count

theorem SysInv.of_idle {caps : Caps} {aw : Nat} {s : SysState} (h : SysInv caps aw s) (hh : s.held = none) :
    s.b = b2bInit := by
  unfold SysInv at h; rwa [hh] at h

theorem SysInv.of_held {caps : Caps} {aw : Nat} {s : SysState} {r : Req} (h : SysInv caps aw s)
    (hh : s.held = some r) :
    Legal aw r (effBurst caps r.burst) ∧ s.b.count ≤ r.len ∧ s.b = expState (effBurst caps r.burst) r s.b.count := by
  unfold SysInv at h; rwa [hh] at h

theorem specPrefixC_succ (caps : Caps) (r : Req) (k : Nat) :
    specPrefixC caps r (k + 1) =
      specPrefixC caps r k ++ [(specBeat r (effBurst caps r.burst) k).atSize r.size] := by
  simp [specPrefixC, List.range_succ]

/-- The module with the registers in closed form for `k` beats and the legal request `r` driven: it presents beat
    `k` of `r`, and moves to `k + 1` (or to reset) if the beat is taken. -/
theorem drive_step (caps : Caps) (aw : Nat) (haw : 12 ≤ aw) (r : Req) (k : Nat) (ready : Bool)
    (hleg : Legal aw r (effBurst caps r.burst)) (hk : k ≤ r.len) :
    let b := expState (effBurst caps r.burst) r k
    let d : B2BIn := ⟨true, r, ready⟩
    (b2bOut aw b d).beatValid = true ∧
    (b2bOut aw b d).burstReady = (ready && k == r.len) ∧
    (b2bOut aw b d).beat.atSize r.size = (specBeat r (effBurst caps r.burst) k).atSize r.size ∧
    b2bNext caps aw b d = if ready = true then (if k = r.len then b2bInit else expState (effBurst caps r.burst) r (k + 1)) else b := by
  intro b d
  have S := beat_step caps aw haw r k hleg hk
  refine ⟨by simp [b2bOut, d], by simp [b2bOut, b2bLast, b, d, expState], ?_, ?_⟩
  · simp only [Beat.atSize, b2bOut, specBeat, b2bFirst, b2bLast, b, d, expState]
    have := S.addr
    simp only [expState] at this
    rw [this]
  · cases ready with
    | false => simp [b2bNext, b2bNextCore, d]
    | true => exact S.next true rfl

/-- A cycle in which the master drives: the driven request `r` is legal and the registers are in closed form for the
    `k = s.b.count` beats delivered, whether `r` is held or offered in this very cycle. -/
theorem drive_inv (caps : Caps) (aw : Nat) (s : SysState) (i : SysIn) (hinv : SysInv caps aw s)
    (hoff : ∀ r ∈ sysOfferNow s i, Legal aw r (effBurst caps r.burst)) (hv : (s.drive i).valid = true) :
    Legal aw (s.drive i).req (effBurst caps (s.drive i).req.burst) ∧ s.b.count ≤ (s.drive i).req.len ∧
    s.b = expState (effBurst caps (s.drive i).req.burst) (s.drive i).req s.b.count ∧
    s.drive i = ⟨true, (s.drive i).req, i.ready⟩ ∧
    sysPending caps s = specPrefixC caps (s.drive i).req s.b.count ∧
    s.held.toList ++ sysOfferNow s i = [(s.drive i).req] := by
  obtain ⟨b, held⟩ := s
  obtain ⟨go, req, ready⟩ := i
  cases held with
  | some r =>
    obtain ⟨hleg, hk, hb⟩ := hinv
    exact ⟨hleg, hk, hb, rfl, rfl, by simp [sysOfferNow, SysState.drive]⟩
  | none =>
    have hb : b = b2bInit := hinv
    have hgo : go = true := hv
    subst hgo hb
    exact ⟨hoff req (by simp [sysOfferNow]), Nat.zero_le _, (expState_zero _ req).symm, rfl, rfl,
      by simp [sysOfferNow, SysState.drive]⟩

/-- A cycle in which the master does not drive: nothing is held and nothing is offered. -/
theorem drive_idle (caps : Caps) (aw : Nat) (s : SysState) (i : SysIn) (hinv : SysInv caps aw s)
    (hv : (s.drive i).valid = false) : s = sysInit ∧ i.go = false := by
  obtain ⟨b, held⟩ := s
  obtain ⟨go, req, ready⟩ := i
  cases held with
  | some r => cases hv
  | none =>
    have hb : b = b2bInit := hinv
    subst hb
    exact ⟨rfl, hv⟩

theorem sys_step_driven (caps : Caps) (aw : Nat) (haw : 12 ≤ aw) (s : SysState) (i : SysIn) (r : Req) (k : Nat)
    (hleg : Legal aw r (effBurst caps r.burst)) (hk : k ≤ r.len)
    (hb : s.b = expState (effBurst caps r.burst) r k) (hd : s.drive i = ⟨true, r, i.ready⟩) :
    SysInv caps aw (sysNext caps aw s i) ∧
    specPrefixC caps r k ++ sysBeatNow aw s i
      = (sysConsNow aw s i).flatMap (specBeatsC caps) ++ sysPending caps (sysNext caps aw s i) ∧
    [r] = sysConsNow aw s i ++ (sysNext caps aw s i).held.toList ∧
    (sysConsNow aw s i ≠ [] ↔ ∃ bt, sysBeatNow aw s i = [bt] ∧ bt.last = true) := by
  obtain ⟨b, held⟩ := s
  obtain ⟨go, req, ready⟩ := i
  simp only at hb hd
  obtain ⟨h1, h2, h3, h4⟩ := drive_step caps aw haw r k ready hleg hk
  rw [← hb] at h1 h2 h3 h4
  have hlast : (b2bOut aw b ⟨true, r, ready⟩).beat.last = (k == r.len) := by
    simp [b2bOut, b2bLast, hb, expState]
  simp only [sysNext, sysBeatNow, sysConsNow, sysOut, hd, h1, h2, h4, Bool.true_and]
  cases ready with
  | false =>
    simp only [Bool.false_and, Bool.not_false, if_true, Bool.false_eq_true, if_false]
    refine ⟨?_, ?_, ?_, ?_⟩
    · simp only [SysInv]
      rw [hb]
      exact ⟨hleg, hk, rfl⟩
    · simp [sysPending, hb, expState]
    · simp
    · simp
  | true =>
    by_cases hkl : k = r.len
    · have hkb : (k == r.len) = true := by simpa using hkl
      simp only [hkb, Bool.and_self, Bool.not_true, if_true, if_pos hkl, Bool.false_eq_true, if_false]
      refine ⟨?_, ?_, ?_, ?_⟩
      · simp [SysInv]
      · simp only [List.flatMap_cons, List.flatMap_nil, List.append_nil, sysPending]
        rw [specBeatsC, ← hkl, specPrefixC_succ, h3]
      · simp
      · simp [Beat.atSize, hlast, hkb]
    · have hkb : (k == r.len) = false := by simpa using hkl
      simp only [hkb, Bool.and_false, Bool.not_false, if_true, if_neg hkl, Bool.false_eq_true, if_false]
      refine ⟨?_, ?_, ?_, ?_⟩
      · simp only [SysInv]
        exact ⟨hleg, by simp [expState]; omega, by simp [expState]⟩
      · simp only [List.flatMap_nil, List.nil_append, sysPending]
        rw [show (expState (effBurst caps r.burst) r (k + 1)).count = k + 1 from rfl, specPrefixC_succ, h3]
      · simp
      · simp [Beat.atSize, hlast, hkb]

/-- One cycle: the invariant, and the three history equations `sys_run` telescopes (beats delivered, requests
    consumed, and "a request is consumed exactly with a last beat"). -/
theorem sys_step (caps : Caps) (aw : Nat) (haw : 12 ≤ aw) (s : SysState) (i : SysIn)
    (hinv : SysInv caps aw s) (hoff : ∀ r ∈ sysOfferNow s i, Legal aw r (effBurst caps r.burst)) :
    SysInv caps aw (sysNext caps aw s i) ∧
    sysPending caps s ++ sysBeatNow aw s i
      = (sysConsNow aw s i).flatMap (specBeatsC caps) ++ sysPending caps (sysNext caps aw s i) ∧
    s.held.toList ++ sysOfferNow s i = sysConsNow aw s i ++ (sysNext caps aw s i).held.toList ∧
    (sysConsNow aw s i ≠ [] ↔ ∃ b, sysBeatNow aw s i = [b] ∧ b.last = true) := by
  cases hv : (s.drive i).valid with
  | true =>
    obtain ⟨hleg, hk, hb, hd, hp, ho⟩ := drive_inv caps aw s i hinv hoff hv
    rw [hp, ho]
    exact sys_step_driven caps aw haw s i _ _ hleg hk hb hd
  | false =>
    obtain ⟨rfl, hgo⟩ := drive_idle caps aw s i hinv hv
    obtain ⟨go, req, ready⟩ := i
    subst hgo
    simp [sysNext, sysBeatNow, sysConsNow, sysOfferNow, sysOut, SysState.drive, b2bOut, b2bNext, b2bNextCore,
      b2bFirst, b2bInit, SysInv, sysPending, sysInit]

/-- The first three conclusions of `sys_step` telescoped over a run, from any state in the invariant. -/
theorem sys_run (caps : Caps) (aw : Nat) (haw : 12 ≤ aw) :
    ∀ (ins : List SysIn) (s : SysState), SysInv caps aw s →
      (∀ r ∈ sysOffered caps aw s ins, Legal aw r (effBurst caps r.burst)) →
      SysInv caps aw ((sys caps aw).runFrom s ins) ∧
      sysPending caps s ++ sysBeats caps aw s ins
        = (sysConsumed caps aw s ins).flatMap (specBeatsC caps) ++ sysPending caps ((sys caps aw).runFrom s ins) ∧
      s.held.toList ++ sysOffered caps aw s ins
        = sysConsumed caps aw s ins ++ ((sys caps aw).runFrom s ins).held.toList := by
  intro ins
  induction ins with
  | nil => intro s h _; simp [Machine.runFrom, sysBeats, sysConsumed, sysOffered, h]
  | cons i is ih =>
    intro s hinv hoff
    have hoff1 : ∀ r ∈ sysOfferNow s i, Legal aw r (effBurst caps r.burst) :=
      fun r hr => hoff r (by simp [sysOffered, hr])
    have hoff2 : ∀ r ∈ sysOffered caps aw (sysNext caps aw s i) is, Legal aw r (effBurst caps r.burst) :=
      fun r hr => hoff r (by simp [sysOffered, hr])
    obtain ⟨a1, a2, a3, _⟩ := sys_step caps aw haw s i hinv hoff1
    obtain ⟨b1, b2, b3⟩ := ih (sysNext caps aw s i) a1 hoff2
    refine ⟨b1, ?_, ?_⟩
    · show sysPending caps s ++ (sysBeatNow aw s i ++ sysBeats caps aw (sysNext caps aw s i) is) = _
      rw [← List.append_assoc, a2, List.append_assoc, b2]
      simp [sysConsumed, Machine.runFrom, sys, List.flatMap_append]
    · show s.held.toList ++ (sysOfferNow s i ++ sysOffered caps aw (sysNext caps aw s i) is) = _
      rw [← List.append_assoc, a3, List.append_assoc, b3]
      simp [sysConsumed, Machine.runFrom, sys]

theorem sysOffered_snoc (caps : Caps) (aw : Nat) (i : SysIn) : ∀ (l : List SysIn) (s0 : SysState),
    sysOffered caps aw s0 (l ++ [i]) = sysOffered caps aw s0 l ++ sysOfferNow ((sys caps aw).runFrom s0 l) i := by
  intro l
  induction l with
  | nil => intro s0; simp [sysOffered, Machine.runFrom]
  | cons x xs ih => intro s0; simp [sysOffered, Machine.runFrom, ih, sys]

theorem legal_of_snoc {caps : Caps} {aw : Nat} {ins : List SysIn} {i : SysIn}
    (hlegal : ∀ r ∈ sysOffered caps aw sysInit (ins ++ [i]), Legal aw r (effBurst caps r.burst)) :
    (∀ r ∈ sysOffered caps aw sysInit ins, Legal aw r (effBurst caps r.burst)) ∧
    (∀ r ∈ sysOfferNow ((sys caps aw).run ins) i, Legal aw r (effBurst caps r.burst)) := by
  have happ := sysOffered_snoc caps aw i ins sysInit
  exact ⟨fun r hr => hlegal r (by rw [happ]; exact List.mem_append_left _ hr),
    fun r hr => hlegal r (by rw [happ]; exact List.mem_append_right _ hr)⟩

theorem beatValid_eq_valid (caps : Caps) (aw : Nat) (s : SysState) (i : SysIn) (hinv : SysInv caps aw s) :
    (sysOut aw s i).beatValid = (s.drive i).valid := by
  cases hv : (s.drive i).valid with
  | true => simp [sysOut, b2bOut, hv]
  | false =>
    obtain ⟨rfl, _⟩ := drive_idle caps aw s i hinv hv
    simpa [sysOut, b2bOut, b2bFirst, sysInit, b2bInit] using hv

end Litex.Axi
