import LitexModel.Axi.LiteInterconnectTimeout
import LitexProofs.WaitTimer
/-
  C08 x C11: on a healthy bus the shared interconnect with a finite timeout is the timeout-less one.
-/
namespace Litex.Axi.Lite
open Litex
open Litex.Timeout.Axi (FState)

theorem Dec.nextWith_toM (c : DecCfg) (s : DecState) (ms : DMS) (ss : Nat → DSM) :
    Dec.nextWith c s ms (Dec.toM c s ms ss) = Dec.next c s ms ss := rfl

namespace SharedT
variable (c : TCfg) (rd : Bool)

theorem busSM_wait (s : ShTDir) (x : DirIn) (h : s.tm.respond = false) :
    busSM c rd s x = Shared.busSM c.toCfg rd s.sh x := by
  unfold busSM
  cases rd
  · simp [Timeout.Axi.wOut, h, wIn, pre]
  · simp [Timeout.Axi.rOut, h, rIn', pre]

theorem out_wait (s : ShTDir) (x : DirIn) (h : s.tm.respond = false) :
    out c rd s x = Shared.out c.toCfg rd s.sh x := by
  unfold out Shared.out
  rw [busSM_wait c rd s x h]

theorem next_sh_wait (s : ShTDir) (x : DirIn) (h : s.tm.respond = false) :
    (next c rd s x).sh = Shared.next c.toCfg rd s.sh x := by
  show ({ arb := _, dec := _ } : ShDir) = _
  rw [busSM_wait c rd s x h]
  rfl

theorem waits_eq (s : ShTDir) (x : DirIn) : waits c rd s x = Shared.stalled c.toCfg rd s.sh x := by
  unfold waits Shared.stalled
  cases rd <;> rfl

theorem next_tm_wait (s : ShTDir) (x : DirIn) (h : s.tm.respond = false) :
    (next c rd s x).tm = { count := WaitTimer.next c.t s.tm.count (waits c rd s x),
                           respond := WaitTimer.done s.tm.count && waits c rd s x } := by
  cases rd <;> simp [next, waits, Timeout.Axi.wNext, Timeout.Axi.wWait, Timeout.Axi.rNext, Timeout.Axi.rWait, h]

/-- The WaitTimer counts down from `c.t`; `k` is the number of stalled cycles in a row so far. -/
theorem tm_step (s : ShTDir) (x : DirIn) (k : Nat) (h : s.tm.respond = false) (hc : s.tm.count = c.t - min c.t k)
    (hk : Shared.stalled c.toCfg rd s.sh x = true → k < c.t) :
    (next c rd s x).tm.respond = false ∧
    (next c rd s x).tm.count = c.t - min c.t (if Shared.stalled c.toCfg rd s.sh x then k + 1 else 0) := by
  rw [next_tm_wait c rd s x h, waits_eq, hc]
  refine ⟨?_, WaitTimer.next_spec c.t k _⟩
  cases hst : Shared.stalled c.toCfg rd s.sh x
  · exact Bool.and_false _
  · have hlt := hk hst
    rw [Bool.and_true, WaitTimer.done, beq_eq_false_iff_ne]
    omega

theorem transparent : ∀ (ins : List DirIn) (s : ShTDir) (k : Nat),
    s.tm.respond = false → s.tm.count = c.t - min c.t k → Shared.Healthy c.toCfg rd c.t s.sh k ins →
    (machine c rd).traceFrom s ins = (Shared.machine c.toCfg rd).traceFrom s.sh ins ∧
    ((machine c rd).runFrom s ins).sh = (Shared.machine c.toCfg rd).runFrom s.sh ins ∧
    ((machine c rd).runFrom s ins).tm.respond = false := by
  intro ins
  induction ins with
  | nil => intro s k h _ _; exact ⟨rfl, rfl, h⟩
  | cons x xs ih =>
    intro s k h hc hh
    obtain ⟨hk, hrest⟩ := hh
    obtain ⟨h', hc'⟩ := tm_step c rd s x k h hc hk
    have hsh := next_sh_wait c rd s x h
    have := ih (next c rd s x) _ h' hc' (by rw [hsh]; exact hrest)
    rw [hsh] at this
    refine ⟨?_, this.2.1, this.2.2⟩
    show out c rd s x :: (machine c rd).traceFrom (next c rd s x) xs = _
    rw [out_wait c rd s x h, this.1]
    rfl

end SharedT
end Litex.Axi.Lite
