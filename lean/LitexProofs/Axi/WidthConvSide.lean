import LitexModel.Axi.WidthConvSide
import LitexProofs.Stream.Conv
/-
  The always-loading side-band register of `AXIDownConverter`'s R channel against the ideal (side-band latched with
  the sub-word, `Stream.upConv` with `π := SB`).
-/
namespace Litex.Axi
open Litex Litex.Stream

/-- The consumer of the wide side takes every wide beat in the first cycle it is offered. -/
def NoStall (ratio : Nat) : SideRegState → List (SideIn (Nat × Unit)) → Prop
  | _, [] => True
  | s, x :: xs => (s.conv.strobe = true → x.i.ready = true) ∧ NoStall ratio (sideRegNext ratio s x) xs

instance (ratio : Nat) : ∀ s xs, Decidable (NoStall ratio s xs)
  | _, [] => isTrue trivial
  | s, x :: xs =>
    have := instDecidableNoStall ratio (sideRegNext ratio s x) xs
    by unfold NoStall; infer_instance

/-- Simulation relation between the code's model and the ideal: same converter state (the ideal's is the code's with
    some param register `p` beside it); the side-band register equals `p` whenever a word is waiting in the output
    register. -/
def SideSim (s : SideRegState) (t : UpState Nat SB) : Prop :=
  ∃ p, t = strideUpMap (s.conv, p) ∧ (s.conv.strobe = true → p = s.sb)

theorem sideSim_init (ratio : Nat) : SideSim (sideRegInit ratio) (sideIdeal ratio).init :=
  ⟨SB.zero, rfl, fun _ => rfl⟩

theorem sideSim_step (ratio : Nat) (s : SideRegState) (t : UpState Nat SB) (x : SideIn (Nat × Unit))
    (h : SideSim s t) (hns : s.conv.strobe = true → x.i.ready = true) :
    SideSim (sideRegNext ratio s x) ((sideIdeal ratio).step t x.ideal) := by
  obtain ⟨p, rfl, hp⟩ := h
  refine ⟨if (x.i.valid && (!s.conv.strobe || x.i.ready)) = true then x.sb else p, rfl, ?_⟩
  intro hs
  split
  · rfl
  · next hl =>
    -- no sub-word is loaded: a word waiting after the edge was waiting before and was not taken, which `hns` excludes
    exfalso
    simp only [sideRegNext, Elem.step, Stream.upConv] at hs
    rw [Bool.not_eq_true] at hl
    rw [hl] at hs
    cases hr : x.i.ready
    · cases hst : s.conv.strobe
      · simp [hr, hst] at hs
      · simp [hns hst] at hr
    · simp [hr] at hs

theorem sideSim_out (ratio : Nat) (s : SideRegState) (t : UpState Nat SB) (x : SideIn (Nat × Unit))
    (h : SideSim s t) :
    let o := sideRegOut ratio s x
    let o' := (sideIdeal ratio).out t x.ideal
    o.1.ready = o'.ready ∧ o.1.valid = o'.valid ∧ o.1.tok.first = o'.tok.first ∧ o.1.tok.last = o'.tok.last ∧
    o.1.tok.data.lanes = o'.tok.data.lanes ∧ o.1.tok.data.count = o'.tok.data.count ∧
    (o.1.valid = true → o.2 = o'.tok.data.param) := by
  obtain ⟨p, rfl, hp⟩ := h
  exact ⟨rfl, rfl, rfl, rfl, rfl, rfl, fun hv => (hp hv).symm⟩

theorem sideSim_run (ratio : Nat) : ∀ (xs : List (SideIn (Nat × Unit))) (s : SideRegState) (t : UpState Nat SB),
    SideSim s t → NoStall ratio s xs →
    SideSim ((sideReg ratio).runFrom s xs) ((sideIdeal ratio).runFrom t (xs.map SideIn.ideal)) := by
  intro xs
  induction xs with
  | nil => intro s t h _; exact h
  | cons x xs ih =>
    intro s t h hns
    exact ih _ _ (sideSim_step ratio s t x h hns.1) hns.2

theorem noStall_append (ratio : Nat) : ∀ (xs ys : List (SideIn (Nat × Unit))) (s : SideRegState),
    NoStall ratio s (xs ++ ys) → NoStall ratio s xs ∧ NoStall ratio ((sideReg ratio).runFrom s xs) ys := by
  intro xs
  induction xs with
  | nil => intro ys s h; exact ⟨trivial, h⟩
  | cons x xs ih =>
    intro ys s h
    obtain ⟨h1, h2⟩ := ih ys _ h.2
    exact ⟨⟨h.1, h1⟩, h2⟩

end Litex.Axi
