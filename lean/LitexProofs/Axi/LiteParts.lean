import LitexProofs.Axi.LiteBasic
import LitexProofs.RoundRobin
import LitexProofs.Lists
/-
  C08: facts about one decoder direction and one arbiter direction in isolation, used by the shared-interconnect
  and the crossbar proofs.
-/
namespace Litex.Axi.Lite

namespace Dec
variable (c : DecCfg)

theorem toM_onehot (s : DecState) (ms : DMS) (ss : Nat → DSM) (L : Nat) (hL : L < c.m)
    (hsel : ∀ j, j < c.m → sel c s ms j = (j == L)) : toM c s ms ss = ss L := by
  have hne : ∀ j, j < c.m → j ≠ L → sel c s ms j = false := by
    intro j hj hne; rw [hsel j hj]; simpa using hne
  have hLL : sel c s ms L = true := by rw [hsel L hL]; simp
  have e1 : ∀ (f : Nat → Bool), orAll c.m (fun j => f j && sel c s ms j) = f L := by
    intro f
    rw [orAll_onehot c.m L hL _ (fun j hj hn => by simp [hne j hj hn])]
    simp [hLL]
  have e2 : orDat c.m (fun j => gate (sel c s ms j) (ss j).rPay) = (ss L).rPay := by
    rw [orDat_onehot c.m L hL _ (fun j hj hn => by simp [hne j hj hn, gate])]
    simp [hLL, gate]
  unfold toM
  rw [e1 (fun j => (ss j).aReady), e1 (fun j => (ss j).dReady), e1 (fun j => (ss j).rValid),
      e1 (fun j => (ss j).rLast), e2]

theorem toM_none (s : DecState) (ms : DMS) (ss : Nat → DSM)
    (hsel : ∀ j, j < c.m → sel c s ms j = false) : toM c s ms ss = {} := by
  have e1 : ∀ (f : Nat → Bool), orAll c.m (fun j => f j && sel c s ms j) = false := by
    intro f
    exact orAll_false c.m _ (fun j hj => by simp [hsel j hj])
  have e2 : orDat c.m (fun j => gate (sel c s ms j) (ss j).rPay) = 0 :=
    orDat_zero c.m _ (fun j hj => by simp [hsel j hj, gate])
  unfold toM
  rw [e1 (fun j => (ss j).aReady), e1 (fun j => (ss j).dReady), e1 (fun j => (ss j).rValid),
      e1 (fun j => (ss j).rLast), e2]

theorem sel_idle (s : DecState) (ms : DMS) (j : Nat) (hK : s.cnt = 0) :
    sel c s ms j = c.dec j (ms.aAddr >>> c.shift) := by
  unfold sel selDec ctrEmpty; rw [hK]; rfl

theorem sel_locked (s : DecState) (ms : DMS) (j : Nat) (hK : s.cnt ≠ 0) :
    sel c s ms j = s.selR.getD j false := by
  unfold sel ctrEmpty
  have : (s.cnt == 0) = false := by simpa using hK
  rw [this]; rfl

theorem sel_cases (hd : ∀ a j k, j < c.m → k < c.m → c.dec j a = true → c.dec k a = true → j = k)
    (s : DecState) (ms : DMS)
    (hreg : s.cnt ≠ 0 → ∃ L, L < c.m ∧ ∀ j, j < c.m → s.selR.getD j false = (j == L)) :
    (∃ L, L < c.m ∧ ∀ j, j < c.m → sel c s ms j = (j == L)) ∨ (∀ j, j < c.m → sel c s ms j = false) := by
  by_cases hK : s.cnt = 0
  · by_cases h : ∃ L, L < c.m ∧ c.dec L (ms.aAddr >>> c.shift) = true
    · obtain ⟨L, hL, hdec⟩ := h
      refine Or.inl ⟨L, hL, fun j hj => ?_⟩
      rw [sel_idle c s ms j hK]
      by_cases hjl : j = L
      · subst hjl; rw [hdec, beq_self_eq_true]
      · rw [beq_false_of_ne hjl]
        cases hv : c.dec j (ms.aAddr >>> c.shift)
        · rfl
        · exact absurd (hd _ j L hj hL hv hdec) hjl
    · refine Or.inr fun j hj => ?_
      rw [sel_idle c s ms j hK]
      cases hv : c.dec j (ms.aAddr >>> c.shift)
      · rfl
      · exact absurd ⟨j, hj, hv⟩ h
  · obtain ⟨L, hL, hR⟩ := hreg hK
    exact Or.inl ⟨L, hL, fun j hj => by rw [sel_locked c s ms j hK]; exact hR j hj⟩

/-- Latched when idle, kept when locked. -/
theorem next_selR (s : DecState) (ms : DMS) (ss : Nat → DSM) (j : Nat) (hj : j < c.m) :
    (next c s ms ss).selR.getD j false = sel c s ms j := by
  show (if ctrEmpty s.cnt then (List.range c.m).map (selDec c ms) else s.selR).getD j false = _
  unfold sel
  cases ctrEmpty s.cnt
  · rfl
  · exact getD_range_map_of_lt _ _ hj

end Dec


namespace Arb

theorem grant_frozen (n : Nat) (gated : Bool) (s : ArbState) (ms : Nat → DMS) (sm : DSM)
    (hg : s.grant < n)
    (h : s.cnt ≠ 0 ∨ (ms s.grant).aValid = true ∨ (ms s.grant).dValid = true ∨ sm.rValid = true) :
    (next n gated s ms sm).grant = s.grant := by
  have hce : ce s ms sm = false := by
    unfold ce tgt ctrEmpty
    rcases h with h | h | h | h
    · have : (s.cnt == 0) = false := by simpa using h
      simp [this]
    · simp [h]
    · simp [h]
    · simp [h]
  simp only [next, hce]
  exact RoundRobin.next_ce_hold _ hg

theorem next_grant_lt (n : Nat) (gated : Bool) (s : ArbState) (ms : Nat → DMS) (sm : DSM) (hg : s.grant < n) :
    (next n gated s ms sm).grant < n := by
  show RoundRobin.next .ce n s.grant _ _ < n
  exact RoundRobin.next_lt _ _ _ hg

/-- `l` is the scoreboard entry of the slave the arbiter drives (`sm`), a variable so that the conclusion speaks of
    the caller's `g L` as it stands.  First conjunct: the entry stays `replicate cnt grant` over the edge.  Second:
    the lock - a non-zero counter after the edge means the grant did not move. -/
theorem fifo_step (n : Nat) (gated : Bool) (s : ArbState) (ms : Nat → DMS) (sm : DSM) (hg : s.grant < n)
    (l : List Nat) (hl : l = List.replicate s.cnt s.grant)
    (hrs : sm.rValid = true → s.cnt ≠ 0)
    (hrq : sm.aReady = true → s.cnt < maxReq - 1) :
    ((if response gated s ms sm then l.tail else l) ++ (if request s ms sm then [s.grant] else [])
      = List.replicate (next n gated s ms sm).cnt (next n gated s ms sm).grant) ∧
    ((next n gated s ms sm).cnt ≠ 0 → (next n gated s ms sm).grant = s.grant) := by
  have hcnt : (next n gated s ms sm).cnt = ctrNext s.cnt (request s ms sm) (response gated s ms sm) := rfl
  have hrv : response gated s ms sm = true → sm.rValid = true := by
    intro h; unfold response at h; simp only [Bool.and_eq_true] at h; exact h.1.1
  have hqv : request s ms sm = true → (ms s.grant).aValid = true ∧ sm.aReady = true := by
    intro h; unfold request tgt at h; simp only [Bool.and_eq_true] at h; exact h
  have hfro : (next n gated s ms sm).cnt ≠ 0 → (next n gated s ms sm).grant = s.grant := by
    intro hne
    apply grant_frozen n gated s ms sm hg
    by_cases hK : s.cnt = 0
    · rw [hcnt, hK] at hne
      exact Or.inr (Or.inl (hqv (ctrNext_zero_ne hne)).1)
    · exact Or.inl hK
  refine ⟨?_, hfro⟩
  have main : (if response gated s ms sm then l.tail else l) ++ (if request s ms sm then [s.grant] else [])
      = List.replicate (ctrNext s.cnt (request s ms sm) (response gated s ms sm)) s.grant := by
    rw [hl, ctrNext_eq_balNext (fun h => hrs (hrv h)) (fun h => hrq (hqv h).2)]
    exact replicate_step _ _ _ _
  rw [main, hcnt]
  by_cases hne : ctrNext s.cnt (request s ms sm) (response gated s ms sm) = 0
  · rw [hne]; rfl
  · rw [hfro (by rw [hcnt]; exact hne)]

end Arb
end Litex.Axi.Lite
