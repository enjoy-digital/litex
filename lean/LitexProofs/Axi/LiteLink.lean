import LitexProofs.Axi.LiteParts
import LitexProofs.Axi.LiteDataPure
/-
  C08: one cycle of a fabric, seen from its ports, is a partial matching between masters and slaves: slave `j` is
  driven by one master `own j`, master `i` listens to the slaves `sel i` (one or none), and a handshake on any
  channel happens between `i` and `j` only if `sel i j` and `own j = i`.  The shared interconnect (`own` = the grant,
  `sel` = the bus select, for the granted master) and the crossbar (`own j` = grant of arbiter `j`, `sel i` = select
  of decoder `i`) differ only in how their registers choose `own` and `sel`; the routing guarantee, the data
  guarantee and the data scoreboard invariant are proved here, once, from the matching and the facts that tie it
  to the scoreboard.
-/
namespace Litex.Axi.Lite

/-- `Dec.toS`: valids and response-ready pass only when selected. -/
def gateS (b : Bool) (ms : DMS) : DMS :=
  { ms with aValid := ms.aValid && b, dValid := ms.dValid && b, rReady := ms.rReady && b }

/-- `Arb.toM`: readies and response-valid pass only to the owner. -/
def gateM (b : Bool) (sm : DSM) : DSM :=
  { sm with aReady := sm.aReady && b, dReady := sm.dReady && b, rValid := sm.rValid && b }

structure Linked (c : Cfg) (g : Fifo) (x : DirIn) (o : DirOut) (own : Nat → Nat) (sel : Nat → Nat → Bool) : Prop where
  own_lt : ∀ j, j < c.m → own j < c.n
  /-- a master listens to one slave or to none -/
  onehot : ∀ i, i < c.n → (∃ L, L < c.m ∧ ∀ j, j < c.m → sel i j = (j == L)) ∨ (∀ j, j < c.m → sel i j = false)
  /-- a slave sees its owner, gated by whether that owner listens to it -/
  toS : ∀ j, j < c.m → o.toS j = gateS (sel (own j) j) (x.ms (own j))
  /-- a master sees the slave it listens to, gated by whether it owns that slave -/
  toM : ∀ i L, i < c.n → L < c.m → (∀ j, j < c.m → sel i j = (j == L)) → o.toM i = gateM (own L == i) (x.ss L)
  /-- a master that listens nowhere sees no ready and no response (it may see payload) -/
  toM_none : ∀ i, i < c.n → (∀ j, j < c.m → sel i j = false) →
    (o.toM i).aReady = false ∧ (o.toM i).dReady = false ∧ (o.toM i).rValid = false
  /-- every unanswered request at a slave is its owner's -/
  mine : ∀ j, j < c.m → ∀ a ∈ g j, a = own j
  /-- a presented address belongs to the slave its master listens to … -/
  routed : ∀ i L, i < c.n → L < c.m → sel i L = true → (x.ms i).aValid = true → routes c L (x.ms i).aAddr = true
  /-- … and the owner of the slave an address belongs to listens somewhere -/
  reach : ∀ i L, i < c.n → L < c.m → own L = i → (x.ms i).aValid = true → routes c L (x.ms i).aAddr = true →
    ∃ k, k < c.m ∧ sel i k = true
  /-- a master with an unanswered request at a slave listens to that slave and to no other -/
  held : ∀ i j, i < c.n → j < c.m → i ∈ g j → ∀ k, k < c.m → sel i k = (k == j)

namespace Linked
variable {c : Cfg} {g : Fifo} {x : DirIn} {o : DirOut} {own : Nat → Nat} {sel : Nat → Nat → Bool}
  (h : Linked c g x o own sel)
include h

theorem sel_onehot (i j : Nat) (hi : i < c.n) (hj : j < c.m) (hs : sel i j = true) :
    ∀ k, k < c.m → sel i k = (k == j) := by
  rcases h.onehot i hi with ⟨L, _, hsel⟩ | hnone
  · obtain rfl := eq_of_onehot (hsel j hj) hs
    exact hsel
  · rw [hnone j hj] at hs; cases hs

theorem sReq_eq (j : Nat) (hj : j < c.m) :
    sReq x o j = (((x.ms (own j)).aValid && sel (own j) j) && (x.ss j).aReady) := by
  rw [sReq, h.toS j hj]; rfl

theorem sDat_eq (j : Nat) (hj : j < c.m) :
    sDat x o j = (((x.ms (own j)).dValid && sel (own j) j) && (x.ss j).dReady) := by
  rw [sDat, h.toS j hj]; rfl

theorem sRsp_eq (j : Nat) (hj : j < c.m) :
    sRsp x o j = ((x.ss j).rValid && ((x.ms (own j)).rReady && sel (own j) j)) := by
  rw [sRsp, h.toS j hj]; rfl

section some
variable {i L : Nat} (hi : i < c.n) (hL : L < c.m) (hsel : ∀ j, j < c.m → sel i j = (j == L))
include hi hL hsel

theorem mReq_some : mReq x o i = ((x.ms i).aValid && ((x.ss L).aReady && (own L == i))) := by
  rw [mReq, h.toM i L hi hL hsel]; rfl

theorem mDat_some : mDat x o i = ((x.ms i).dValid && ((x.ss L).dReady && (own L == i))) := by
  rw [mDat, h.toM i L hi hL hsel]; rfl

theorem mRsp_some : mRsp x o i = (((x.ss L).rValid && (own L == i)) && (x.ms i).rReady) := by
  rw [mRsp, h.toM i L hi hL hsel]; rfl

end some

theorem quiet_none (i : Nat) (hi : i < c.n) (hnone : ∀ j, j < c.m → sel i j = false) :
    mReq x o i = false ∧ mDat x o i = false ∧ mRsp x o i = false := by
  obtain ⟨h1, h2, h3⟩ := h.toM_none i hi hnone
  rw [mReq, mDat, mRsp, h1, h2, h3]
  simp only [Bool.and_false, Bool.false_and, and_self]

theorem mReq_elim (i : Nat) (hi : i < c.n) (hq : mReq x o i = true) :
    ∃ L, L < c.m ∧ (∀ j, j < c.m → sel i j = (j == L)) ∧ (x.ms i).aValid = true ∧ (x.ss L).aReady = true ∧
      own L = i := by
  rcases h.onehot i hi with ⟨L, hL, hsel⟩ | hnone
  · rw [h.mReq_some hi hL hsel] at hq
    simp only [Bool.and_eq_true, beq_iff_eq] at hq
    exact ⟨L, hL, hsel, hq.1, hq.2.1, hq.2.2⟩
  · rw [(h.quiet_none i hi hnone).1] at hq; cases hq

theorem mDat_elim (i : Nat) (hi : i < c.n) (hq : mDat x o i = true) :
    ∃ L, L < c.m ∧ (∀ j, j < c.m → sel i j = (j == L)) ∧ (x.ms i).dValid = true ∧ (x.ss L).dReady = true ∧
      own L = i := by
  rcases h.onehot i hi with ⟨L, hL, hsel⟩ | hnone
  · rw [h.mDat_some hi hL hsel] at hq
    simp only [Bool.and_eq_true, beq_iff_eq] at hq
    exact ⟨L, hL, hsel, hq.1, hq.2.1, hq.2.2⟩
  · rw [(h.quiet_none i hi hnone).2.1] at hq; cases hq

theorem mRsp_elim (i : Nat) (hi : i < c.n) (hq : mRsp x o i = true) :
    ∃ L, L < c.m ∧ (∀ j, j < c.m → sel i j = (j == L)) ∧ (x.ss L).rValid = true ∧ own L = i ∧
      (x.ms i).rReady = true := by
  rcases h.onehot i hi with ⟨L, hL, hsel⟩ | hnone
  · rw [h.mRsp_some hi hL hsel] at hq
    simp only [Bool.and_eq_true, beq_iff_eq] at hq
    exact ⟨L, hL, hsel, hq.1.1, hq.1.2, hq.2⟩
  · rw [(h.quiet_none i hi hnone).2.2] at hq; cases hq

theorem sReq_elim (j : Nat) (hj : j < c.m) (hs : sReq x o j = true) :
    (x.ms (own j)).aValid = true ∧ (x.ss j).aReady = true ∧ (∀ k, k < c.m → sel (own j) k = (k == j)) ∧
    mReq x o (own j) = true := by
  rw [h.sReq_eq j hj] at hs
  simp only [Bool.and_eq_true] at hs
  obtain ⟨⟨hv, ht⟩, hr⟩ := hs
  have hi := h.own_lt j hj
  have hsel := h.sel_onehot _ j hi hj ht
  exact ⟨hv, hr, hsel, by rw [h.mReq_some hi hj hsel, hv, hr, beq_self_eq_true]; rfl⟩

theorem issuers (hd : Disjoint c) (j : Nat) (hj : j < c.m) (hs : sReq x o j = true) :
    issuersTo c x o j = [own j] := by
  obtain ⟨hv, _, hsel, hm⟩ := h.sReq_elim j hj hs
  have hi := h.own_lt j hj
  unfold issuersTo
  apply filter_range_single c.n _ hi
  · rw [hm, h.routed _ j hi hj (onehot_self (hsel j hj)) hv]; rfl
  · intro i hi' hne
    cases hq : mReq x o i
    · rfl
    · obtain ⟨L, hL, hsel, hvi, _, hgL⟩ := h.mReq_elim i hi' hq
      cases hrj : routes c j (x.ms i).aAddr
      · rfl
      · obtain rfl : j = L := hd _ j L hj hL hrj (h.routed i L hi' hL (onehot_self (hsel L hL)) hvi)
        exact absurd hgL.symm hne

theorem head_own (j : Nat) (hj : j < c.m) (hne : g j ≠ []) : (g j).head? = some (own j) := by
  cases hg : g j with
  | nil => exact absurd hg hne
  | cons a t => rw [h.mine j hj a (by rw [hg]; exact List.mem_cons_self)]; rfl

theorem routeOK (hd : Disjoint c) (env : EnvOK c g x) (shared : Bool)
    (hsh : shared = true → ∀ j k, j < c.m → k < c.m → own j = own k) : RouteOK c shared g x o := by
  refine ⟨?_, ?_, ?_, ?_, ?_⟩
  · intro i hi hq
    obtain ⟨L, hL, hsel, hv, hr, hg⟩ := h.mReq_elim i hi hq
    have hs := onehot_self (hsel L hL)
    refine ⟨L, hL, h.routed i L hi hL hs hv, ?_⟩
    rw [h.sReq_eq L hL, hg, hv, hs, hr]; rfl
  · intro j hj hs
    refine ⟨own j, h.own_lt j hj, h.issuers hd j hj hs, ?_, ?_⟩ <;> (rw [h.toS j hj]; rfl)
  · intro j hj hs
    rw [h.sRsp_eq j hj] at hs
    simp only [Bool.and_eq_true] at hs
    obtain ⟨hv, hrr, ht⟩ := hs
    have hi := h.own_lt j hj
    have hsel := h.sel_onehot _ j hi hj ht
    have hM := h.toM _ j hi hj hsel
    refine ⟨own j, hi, h.head_own j hj (env.slaveLegal j hj hv), ?_, ?_, ?_⟩
    · rw [h.mRsp_some hi hj hsel, hv, hrr, beq_self_eq_true]; rfl
    · rw [hM]; rfl
    · rw [hM]; rfl
  · intro i hi hq
    obtain ⟨L, hL, hsel, hv, hg, hrr⟩ := h.mRsp_elim i hi hq
    refine ⟨L, hL, ?_, ?_, ?_⟩
    · rw [h.sRsp_eq L hL, hg, hv, hrr, onehot_self (hsel L hL)]; rfl
    · rw [h.head_own L hL (env.slaveLegal L hL hv), hg]
    · intro k hk hk2 hh
      rw [h.sRsp_eq k hk] at hk2
      simp only [Bool.and_eq_true] at hk2
      rw [h.head_own k hk (env.slaveLegal k hk hk2.1)] at hh
      rw [Option.some.inj hh] at hk2
      exact eq_of_onehot (hsel k hk) hk2.2.2
  · intro j k hj hk hjk a ha b hb
    rw [h.mine j hj a ha, h.mine k hk b hb]
    rcases hjk with hs | rfl
    · exact hsh hs j k hj hk
    · rfl

end Linked

/-- Data scoreboard vs the owners: everything at slave `j` belongs to `own j` (`other`).  `bal` counts: every
    unanswered request at `j` has its data burst either still waited for (an entry `j` of `wq`) or completely
    received (`sd j`); a burst that went ahead of its address and is complete is in `sd j` before the address is in
    `g j`, hence the indicator on the left. -/
structure DLock (c : Cfg) (own : Nat → Nat) (g : Fifo) (dg : DGhost) : Prop where
  aheadq : ∀ i, i < c.n → dg.ahead i ≠ none → dg.wq i = []
  wq_lt  : ∀ i, i < c.n → ∀ e ∈ dg.wq i, e < c.m
  ah_lt  : ∀ i, i < c.n → ∀ k b, dg.ahead i = some (k, b) → k < c.m
  other  : ∀ i j, i < c.n → j < c.m → own j ≠ i → (dg.wq i).count j = 0 ∧ ∀ b, dg.ahead i ≠ some (j, b)
  bal    : ∀ j, j < c.m → (g j).length + (if dg.ahead (own j) = some (j, true) then 1 else 0)
                            = (dg.wq (own j)).count j + dg.sd j

theorem dlock_reset (c : Cfg) (own : Nat → Nat) : DLock c own Fifo.empty DGhost.empty :=
  ⟨fun _ _ _ => rfl, fun _ _ _ he => (nomatch he), fun _ _ _ _ hk => (nomatch hk),
    fun _ _ _ _ _ => ⟨rfl, fun _ hk => (nomatch hk)⟩, fun _ _ => rfl⟩

namespace Linked
variable {c : Cfg} (rd : Bool) {g : Fifo} {dg : DGhost} {x : DirIn} {o : DirOut} {own : Nat → Nat}
  {sel : Nat → Nat → Bool} (h : Linked c g x o own sel) (hd : Disjoint c) (hdl : DLock c own g dg)
  (env : EnvOK c g x) (denv : DEnvOK c dg x)

include h hdl in
/-- The master has an unanswered request at that slave (`bal`), so it listens there (`held`). -/
theorem wq_entry (i e : Nat) (hi : i < c.n) (he : e ∈ dg.wq i) : e < c.m ∧ ∀ j, j < c.m → sel i j = (j == e) := by
  have hem := hdl.wq_lt i hi e he
  have hc : 0 < (dg.wq i).count e := List.count_pos_iff.mpr he
  have hge : own e = i := Decidable.byContradiction fun hne => by have := (hdl.other i e hi hem hne).1; omega
  have hah : dg.ahead i = none := by
    cases hh : dg.ahead i with
    | none => rfl
    | some k => exact absurd (hdl.aheadq i hi (by rw [hh]; simp)) (List.ne_nil_of_mem he)
  have hb := hdl.bal e hem
  rw [hge, hah] at hb
  have hne : g e ≠ [] := by
    intro h0; rw [h0] at hb; simp at hb; omega
  obtain ⟨a, ha⟩ := List.exists_mem_of_ne_nil _ hne
  exact ⟨hem, h.held i e hi hem (by rw [← hge, ← h.mine e hem a ha]; exact ha)⟩

include h hd hdl denv in
theorem ahead_entry (i k : Nat) (b : Bool) (hi : i < c.n) (hk : dg.ahead i = some (k, b)) :
    k < c.m ∧ own k = i ∧ (x.ms i).aValid = true ∧ ∀ j, j < c.m → sel i j = (j == k) := by
  have hkm := hdl.ah_lt i hi k b hk
  have hgk : own k = i := Decidable.byContradiction fun hne => (hdl.other i k hi hkm hne).2 b hk
  obtain ⟨hv, hr⟩ := denv.addrHeld i k b hi hk
  obtain ⟨L, hL, hs⟩ := h.reach i k hi hkm hgk hv hr
  obtain rfl : L = k := hd _ L k hL hkm (h.routed i L hi hL hs hv) hr
  exact ⟨hkm, hgk, hv, h.sel_onehot i L hi hL hs⟩

include h hd hdl denv in
theorem nothing_of_unsel (i j : Nat) (hi : i < c.n) (hj : j < c.m) (hs : sel i j = false) :
    (dg.wq i).count j = 0 ∧ ∀ b, dg.ahead i ≠ some (j, b) := by
  have hne : sel i j ≠ (j == j) := by rw [hs, beq_self_eq_true]; exact Bool.false_ne_true
  exact ⟨List.count_eq_zero.mpr fun he => hne ((h.wq_entry hdl i j hi he).2 j hj),
    fun b hk => hne ((h.ahead_entry hd hdl denv i j b hi hk).2.2.2 j hj)⟩

include h hdl denv in
theorem dtarget (i L : Nat) (hi : i < c.n) (hL : L < c.m) (hsel : ∀ j, j < c.m → sel i j = (j == L))
    (hdv : (x.ms i).dValid = true) : DTarget c dg x i L := by
  constructor
  · intro k t hkt
    obtain ⟨hkm, hselk⟩ := h.wq_entry hdl i k hi (by rw [hkt]; exact List.mem_cons_self)
    exact (eq_of_onehot (hsel k hkm) (onehot_self (hselk k hkm))).symm
  · intro hnil
    rcases denv.dataAfterAddr i hi hdv with h1 | h1
    · exact absurd hnil h1
    · exact h.routed i L hi hL (onehot_self (hsel L hL)) h1.1

include h hd hdl denv in
theorem dataOK : DataOK c dg x o := by
  refine ⟨?_, ?_⟩
  · intro i hi hq
    obtain ⟨L, hL, hsel, hdv, hdr, hg⟩ := h.mDat_elim i hi hq
    refine ⟨L, hL, h.dtarget hdl denv i L hi hL hsel hdv, ?_, ?_⟩
    · rw [h.sDat_eq L hL, hg, hdv, onehot_self (hsel L hL), hdr]; rfl
    · rw [h.toS L hL, hg]; rfl
  · intro j hj hq
    rw [h.sDat_eq j hj] at hq
    simp only [Bool.and_eq_true] at hq
    obtain ⟨⟨hdv, hs⟩, hdr⟩ := hq
    have hi := h.own_lt j hj
    have hsel := h.sel_onehot _ j hi hj hs
    refine ⟨own j, hi, ?_, h.dtarget hdl denv _ j hi hj hsel hdv, ?_, ?_⟩
    · rw [h.mDat_some hi hj hsel, hdv, hdr, beq_self_eq_true]; rfl
    · rw [h.toS j hj]; rfl
    · intro i' hi' h' ht'
      obtain ⟨L', hL', hsel', hdv', _, hg'⟩ := h.mDat_elim i' hi' h'
      have ht2 := h.dtarget hdl denv i' L' hi' hL' hsel' hdv'
      have hjL : j = L' := by
        cases hw : dg.wq i' with
        | nil => exact hd _ j L' hj hL' (ht'.2 hw) (ht2.2 hw)
        | cons k t => rw [ht'.1 k t hw, ht2.1 k t hw]
      subst hjL
      exact hg'.symm

include h hd hdl denv in
theorem master_some (i L : Nat) (hi : i < c.n) (hL : L < c.m) (hsel : ∀ j, j < c.m → sel i j = (j == L)) :
    ∃ q q' a', dg.wq i = List.replicate q L ∧ (∀ k b, dg.ahead i = some (k, b) → k = L) ∧
      (dgNext c rd dg x o).wq i = List.replicate q' L ∧
      (dgNext c rd dg x o).ahead i = a' ∧ (∀ k b, a' = some (k, b) → k = L) ∧ (a' ≠ none → q' = 0) ∧
      q' + (if dg.ahead i = some (L, true) then 1 else 0) + (if mDat x o i && c.wlast (x.ms i).dPay then 1 else 0)
        = q + (if a' = some (L, true) then 1 else 0) + (if mReq x o i then 1 else 0) := by
  have hwqL : ∀ e ∈ dg.wq i, e = L := by
    intro e he
    obtain ⟨hem, hsele⟩ := h.wq_entry hdl i e hi he
    exact eq_of_onehot (hsel e hem) (onehot_self (hsele e hem))
  obtain ⟨q, hq⟩ : ∃ q, dg.wq i = List.replicate q L :=
    ⟨(dg.wq i).length, List.eq_replicate_iff.mpr ⟨rfl, hwqL⟩⟩
  have hahL : ∀ k b, dg.ahead i = some (k, b) → k = L := by
    intro k b hk
    obtain ⟨hkm, _, _, hselk⟩ := h.ahead_entry hd hdl denv i k b hi hk
    exact eq_of_onehot (hsel k hkm) (onehot_self (hselk k hkm))
  have hslave : (x.ms i).aValid = true → slaveOf c (x.ms i).aAddr = some L := fun hv =>
    slaveOf_eq c hd L _ hL (h.routed i L hi hL (onehot_self (hsel L hL)) hv)
  have hq0_of_ah : dg.ahead i ≠ none → q = 0 := by
    intro hne
    have := hdl.aheadq i hi hne
    rw [hq] at this
    cases q with
    | zero => rfl
    | succ q => simp [List.replicate_succ] at this
  have hrqv : mReq x o i = true → (x.ms i).aValid = true := fun hq =>
    let ⟨_, _, _, hv, _⟩ := h.mReq_elim i hi hq; hv
  have hdtv : mDat x o i = true → (x.ms i).dValid = true := fun hq =>
    let ⟨_, _, _, hv, _⟩ := h.mDat_elim i hi hq; hv
  obtain ⟨q', a', h1, h2, h3, h4, h5⟩ := master_update q L (dg.ahead i) (mReq x o i)
    (mDat x o i) (c.wlast (x.ms i).dPay) (slaveOf c (x.ms i).aAddr) hahL hq0_of_ah
    (by
      intro hdt
      rcases denv.dataAfterAddr i hi (hdtv hdt) with h0 | h0
      · left; intro hz; rw [hq, hz] at h0; exact h0 rfl
      · exact Or.inr h0.2)
    (by
      intro hh
      apply hslave
      rcases hh with hh | ⟨h1, h2⟩
      · exact hrqv hh
      · rcases denv.dataAfterAddr i hi (hdtv h1) with h0 | h0
        · rw [hq, h2] at h0; exact absurd rfl h0
        · exact h0.1)
  refine ⟨q, q', a', hq, hahL, ?_, ?_, h3, h4, h5⟩
  · rw [dgNext_wq, hq]; exact h1
  · rw [dgNext_ahead, hq]; exact h2

include h hd hdl denv in
theorem master_none (i : Nat) (hi : i < c.n) (hnone : ∀ j, j < c.m → sel i j = false) :
    dg.wq i = [] ∧ dg.ahead i = none ∧ (dgNext c rd dg x o).wq i = [] ∧ (dgNext c rd dg x o).ahead i = none := by
  have hw : dg.wq i = [] := by
    cases hh : dg.wq i with
    | nil => rfl
    | cons e t =>
      obtain ⟨hem, hsele⟩ := h.wq_entry hdl i e hi (by rw [hh]; exact List.mem_cons_self)
      exact absurd ((hnone e hem).symm.trans (onehot_self (hsele e hem))) (by decide)
  have ha : dg.ahead i = none := by
    cases hh : dg.ahead i with
    | none => rfl
    | some k =>
      obtain ⟨hkm, _, _, hselk⟩ := h.ahead_entry hd hdl denv i k.1 k.2 hi hh
      exact absurd ((hnone k.1 hkm).symm.trans (onehot_self (hselk k.1 hkm))) (by decide)
  obtain ⟨hrq, hdt, _⟩ := h.quiet_none i hi hnone
  obtain ⟨e1, e2⟩ := dgNext_idle c rd dg x o i hrq hdt
  exact ⟨hw, ha, by rw [e1, hw], by rw [e2, ha]⟩

include h hd hdl denv in
theorem master_wf (i : Nat) (hi : i < c.n) :
    ((dgNext c rd dg x o).ahead i ≠ none → (dgNext c rd dg x o).wq i = []) ∧
    (∀ e ∈ (dgNext c rd dg x o).wq i, e < c.m) ∧
    (∀ k b, (dgNext c rd dg x o).ahead i = some (k, b) → k < c.m) := by
  rcases h.onehot i hi with ⟨L, hL, hsel⟩ | hnone
  · obtain ⟨q, q', a', _, _, hq', ha', haL', haq', _⟩ := h.master_some rd hd hdl denv i L hi hL hsel
    rw [hq', ha']
    exact ⟨fun hne => by rw [haq' hne]; rfl, fun e he => (List.mem_replicate.mp he).2 ▸ hL,
      fun k b hk => haL' k b hk ▸ hL⟩
  · obtain ⟨_, _, hw', ha'⟩ := h.master_none rd hd hdl denv i hi hnone
    rw [hw', ha']
    exact ⟨fun _ => rfl, fun e he => (nomatch he), fun k b hk => (nomatch hk)⟩

include h hd hdl denv in
theorem master_at (i j : Nat) (hi : i < c.n) (hj : j < c.m)
    (h0 : (dg.wq i).count j = 0) (ha : ∀ b, dg.ahead i ≠ some (j, b))
    (hne : sel i j = true → mReq x o i = false ∧ mDat x o i = false) :
    ((dgNext c rd dg x o).wq i).count j = 0 ∧ ∀ b, (dgNext c rd dg x o).ahead i ≠ some (j, b) := by
  rcases h.onehot i hi with ⟨L, hL, hsel⟩ | hnone
  · by_cases hjl : L = j
    · subst hjl
      obtain ⟨h1, h2⟩ := hne (onehot_self (hsel L hL))
      obtain ⟨e1, e2⟩ := dgNext_idle c rd dg x o i h1 h2
      rw [e1, e2]
      exact ⟨h0, ha⟩
    · obtain ⟨q, q', a', _, _, hq', ha', haL', _, _⟩ := h.master_some rd hd hdl denv i L hi hL hsel
      rw [hq', ha']
      exact ⟨count_replicate_ne q' L j (fun e => hjl e.symm), fun b hh => hjl (haL' j b hh).symm⟩
  · obtain ⟨_, _, hw', ha'⟩ := h.master_none rd hd hdl denv i hi hnone
    rw [hw', ha']
    exact ⟨rfl, fun b hh => nomatch hh⟩

include h in
theorem event_owner (i j : Nat) (hi : i < c.n) (hj : j < c.m) (hs : sel i j = true)
    (hq : mReq x o i = true ∨ mDat x o i = true) :
    own j = i ∧ ((x.ms i).aValid = true ∨ (x.ms i).dValid = true) := by
  rcases hq with hq | hq
  · obtain ⟨L, hL, hsel, hv, _, hg⟩ := h.mReq_elim i hi hq
    obtain rfl := eq_of_onehot (hsel j hj) hs
    exact ⟨hg, Or.inl hv⟩
  · obtain ⟨L, hL, hsel, hv, _, hg⟩ := h.mDat_elim i hi hq
    obtain rfl := eq_of_onehot (hsel j hj) hs
    exact ⟨hg, Or.inr hv⟩

/-- Slave `j` is *active* when it cannot change hands at this edge. -/
def Active (g : Fifo) (x : DirIn) (o : DirOut) (j : Nat) : Prop :=
  g j ≠ [] ∨ (o.toS j).aValid = true ∨ (o.toS j).dValid = true ∨ (x.ss j).rValid = true

include h hd hdl denv in
theorem quiet (j : Nat) (hj : j < c.m) (hq : ¬ Active g x o j) :
    (∀ i, i < c.n → (dg.wq i).count j = 0 ∧ ∀ b, dg.ahead i ≠ some (j, b)) ∧ g j = [] ∧ dg.sd j = 0 ∧
    (∀ i, i < c.n → sel i j = true → mReq x o i = false ∧ mDat x o i = false) ∧
    sReq x o j = false ∧ sDat x o j = false ∧ sDone (c.gated rd) x o j = false := by
  obtain ⟨hgj, hav, hdv, hrv⟩ : g j = [] ∧ (o.toS j).aValid = false ∧ (o.toS j).dValid = false ∧
      (x.ss j).rValid = false := by
    simpa only [Active, not_or, Decidable.not_not, Bool.not_eq_true] using hq
  have hgi := h.own_lt j hj
  have hS := h.toS j hj
  -- an event or a pending entry of the owner at `j` would show on the slave port
  have hshow : ∀ i, own j = i → sel i j = true →
      ((x.ms i).aValid = true ∨ (x.ms i).dValid = true) → False := by
    rintro i rfl hs (hv | hv)
    · rw [hS] at hav
      have : ((x.ms (own j)).aValid && sel (own j) j) = false := hav
      rw [hv, hs] at this; cases this
    · rw [hS] at hdv
      have : ((x.ms (own j)).dValid && sel (own j) j) = false := hdv
      rw [hv, hs] at this; cases this
  have hown_ah : ∀ b, dg.ahead (own j) ≠ some (j, b) := by
    intro b hk
    obtain ⟨_, _, hv, hselk⟩ := h.ahead_entry hd hdl denv _ j b hgi hk
    exact hshow _ rfl (onehot_self (hselk j hj)) (Or.inl hv)
  have hb := hdl.bal j hj
  rw [hgj, if_neg (hown_ah true)] at hb
  simp at hb
  have hall : ∀ i, i < c.n → (dg.wq i).count j = 0 ∧ ∀ b, dg.ahead i ≠ some (j, b) := by
    intro i hi
    by_cases e : own j = i
    · subst e; exact ⟨by omega, hown_ah⟩
    · exact hdl.other i j hi hj e
  have hnoev : ∀ i, i < c.n → sel i j = true → mReq x o i = false ∧ mDat x o i = false := by
    intro i hi hs
    have key : ¬ (mReq x o i = true ∨ mDat x o i = true) := fun hh =>
      let ⟨hg, hv⟩ := h.event_owner i j hi hj hs hh
      hshow i hg hs hv
    constructor
    · cases e : mReq x o i
      · rfl
      · exact absurd (Or.inl e) key
    · cases e : mDat x o i
      · rfl
      · exact absurd (Or.inr e) key
  refine ⟨hall, hgj, by omega, hnoev, ?_, ?_, ?_⟩
  · rw [sReq, hav]; rfl
  · rw [sDat, hdv]; rfl
  · rw [sDone, sRsp, hrv]; rfl

include h hd hdl env denv in
/-- The owner map after the edge, `own'`, is arbitrary except that an active slave keeps its owner: a slave that is
    not active has nothing pending, so anyone may own it. -/
theorem dlock_next (own' : Nat → Nat) (hlt : ∀ j, j < c.m → own' j < c.n)
    (hfro : ∀ j, j < c.m → Active g x o j → own' j = own j) :
    DLock c own' (fifoNext c rd g x o) (dgNext c rd dg x o) := by
  refine ⟨fun i hi => (h.master_wf rd hd hdl denv i hi).1, fun i hi => (h.master_wf rd hd hdl denv i hi).2.1,
    fun i hi => (h.master_wf rd hd hdl denv i hi).2.2, ?_, ?_⟩
  · intro i j hi hj hne
    by_cases hact : Active g x o j
    · rw [hfro j hj hact] at hne
      obtain ⟨h0, ha⟩ := hdl.other i j hi hj hne
      apply h.master_at rd hd hdl denv i j hi hj h0 ha
      intro hs
      constructor
      · cases e : mReq x o i
        · rfl
        · exact absurd (h.event_owner i j hi hj hs (Or.inl e)).1 hne
      · cases e : mDat x o i
        · rfl
        · exact absurd (h.event_owner i j hi hj hs (Or.inr e)).1 hne
    · obtain ⟨hall, _, _, hnoev, _⟩ := h.quiet rd hd hdl denv j hj hact
      exact h.master_at rd hd hdl denv i j hi hj (hall i hi).1 (hall i hi).2 (hnoev i hi)
  · intro j hj
    obtain ⟨hlen, hsd⟩ := slave_sizes c rd g dg x o j hj env denv (fun hs => ⟨_, h.issuers hd j hj hs⟩)
    have hb := hdl.bal j hj
    -- a master with nothing at `j`, in a cycle in which nothing happens at `j`: the balance is between the scoreboard
    -- entry and the slave's own bursts
    have still : ∀ i, i < c.n → (dg.wq i).count j = 0 → (∀ b, dg.ahead i ≠ some (j, b)) →
        (sel i j = true → mReq x o i = false ∧ mDat x o i = false) →
        sReq x o j = false → sDat x o j = false → sDone (c.gated rd) x o j = false → (g j).length = dg.sd j →
        (fifoNext c rd g x o j).length + (if (dgNext c rd dg x o).ahead i = some (j, true) then 1 else 0)
          = ((dgNext c rd dg x o).wq i).count j + (dgNext c rd dg x o).sd j := by
      intro i hi h0 ha hne e1 e2 e3 hgs
      obtain ⟨h0', ha'⟩ := h.master_at rd hd hdl denv i j hi hj h0 ha hne
      rw [e1, e3] at hlen
      rw [e2, e3] at hsd
      rw [if_neg (ha' true), h0']
      simp only [Bool.false_and, Bool.false_eq_true, if_false, Nat.add_zero] at hlen hsd ⊢
      omega
    by_cases hact : Active g x o j
    · rw [hfro j hj hact]
      have hi := h.own_lt j hj
      by_cases hs : sel (own j) j = true
      · -- the owner listens to `j`: the events at the slave port are the owner's
        have hsel := h.sel_onehot _ j hi hj hs
        obtain ⟨q, q', a', hq, _, hq', ha', _, _, heq⟩ := h.master_some rd hd hdl denv _ j hi hj hsel
        have e1 : sReq x o j = mReq x o (own j) := by
          rw [h.sReq_eq j hj, hs, h.mReq_some hi hj hsel, beq_self_eq_true]
          simp only [Bool.and_true]
        have e2 : sDat x o j = mDat x o (own j) := by
          rw [h.sDat_eq j hj, hs, h.mDat_some hi hj hsel, beq_self_eq_true]
          simp only [Bool.and_true]
        have e3 : (o.toS j).dPay = (x.ms (own j)).dPay := by rw [h.toS j hj]; rfl
        rw [hq, List.count_replicate_self] at hb
        rw [hq', ha', List.count_replicate_self]
        rw [e1] at hlen
        rw [e2, e3] at hsd
        omega
      · have hsf : sel (own j) j = false := Bool.eq_false_iff.mpr hs
        obtain ⟨h0, ha⟩ := h.nothing_of_unsel hd hdl denv _ j hi hj hsf
        rw [h0, if_neg (ha true), Nat.add_zero, Nat.zero_add] at hb
        exact still _ hi h0 ha (fun hh => absurd hh hs) (by rw [h.sReq_eq j hj, hsf]; simp)
          (by rw [h.sDat_eq j hj, hsf]; simp) (by rw [sDone, h.sRsp_eq j hj, hsf]; simp) hb
    · obtain ⟨hall, hgj, hsd0, hnoev, e1, e2, e3⟩ := h.quiet rd hd hdl denv j hj hact
      exact still _ (hlt j hj) (hall _ (hlt j hj)).1 (hall _ (hlt j hj)).2 (hnoev _ (hlt j hj)) e1 e2 e3
        (by rw [hgj, hsd0]; rfl)

end Linked
end Litex.Axi.Lite
