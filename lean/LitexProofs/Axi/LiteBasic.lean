import LitexModel.Axi.LiteInterconnectSpec
/-
  Helper lemmas for C08: OR-reductions, filters and sums over `List.range` with a single non-zero term, the request
  counter, runs from a one-step lemma, list bookkeeping of the scoreboard.
-/
namespace Litex.Axi.Lite

/-! ### OR-reductions with at most one non-zero term -/

theorem orAll_false (m : Nat) (f : Nat → Bool) (h : ∀ j, j < m → f j = false) : orAll m f = false := by
  induction m with
  | zero => rfl
  | succ k ih =>
    simp only [orAll]
    rw [ih (fun j hj => h j (by omega)), h k (by omega)]
    rfl

theorem orAll_onehot (m L : Nat) (hL : L < m) (f : Nat → Bool) (h : ∀ j, j < m → j ≠ L → f j = false) :
    orAll m f = f L := by
  induction m with
  | zero => omega
  | succ k ih =>
    simp only [orAll]
    by_cases hk : L = k
    · subst hk
      rw [orAll_false L f (fun j hj => h j (by omega) (by omega))]
      simp
    · rw [ih (by omega) (fun j hj hne => h j (by omega) hne), h k (by omega) (fun e => hk e.symm)]
      simp

theorem orDat_zero (m : Nat) (f : Nat → Nat) (h : ∀ j, j < m → f j = 0) : orDat m f = 0 := by
  induction m with
  | zero => rfl
  | succ k ih =>
    simp only [orDat]
    rw [ih (fun j hj => h j (by omega)), h k (by omega)]
    rfl

theorem orDat_onehot (m L : Nat) (hL : L < m) (f : Nat → Nat) (h : ∀ j, j < m → j ≠ L → f j = 0) :
    orDat m f = f L := by
  induction m with
  | zero => omega
  | succ k ih =>
    simp only [orDat]
    by_cases hk : L = k
    · subst hk
      rw [orDat_zero L f (fun j hj => h j (by omega) (by omega))]
      simp
    · rw [ih (by omega) (fun j hj hne => h j (by omega) hne), h k (by omega) (fun e => hk e.symm)]
      simp

/-! ### A select written `sel j = (j == L)`: the two ways it is read -/

/-- A selected index is `L`. -/
theorem eq_of_onehot {b : Bool} {j L : Nat} (h : b = (j == L)) (hb : b = true) : j = L :=
  beq_iff_eq.mp (h.symm.trans hb)

/-- `L` itself is selected. -/
theorem onehot_self {b : Bool} {L : Nat} (h : b = (L == L)) : b = true := h.trans (beq_self_eq_true L)

/-! ### Filters and sums over `List.range` with at most one non-zero term -/

theorem filter_range_none (n : Nat) (q : Nat → Bool) (h : ∀ i, i < n → q i = false) :
    (List.range n).filter q = [] := by
  rw [List.filter_eq_nil_iff]
  intro i hi
  rw [List.mem_range] at hi
  simp [h i hi]

theorem filter_range_single (n g : Nat) (hg : g < n) (q : Nat → Bool) (hq : q g = true)
    (h : ∀ i, i < n → i ≠ g → q i = false) : (List.range n).filter q = [g] := by
  induction n with
  | zero => omega
  | succ k ih =>
    rw [List.range_succ, List.filter_append]
    by_cases hk : g = k
    · subst hk
      rw [filter_range_none g q (fun i hi => h i (by omega) (by omega))]
      simp [hq]
    · rw [ih (by omega) (fun i hi hne => h i (by omega) hne)]
      have : q k = false := h k (by omega) (fun e => hk e.symm)
      simp [this]

theorem sum_range_zero (m : Nat) (f : Nat → Nat) (h : ∀ j, j < m → f j = 0) :
    ((List.range m).map f).sum = 0 := by
  induction m with
  | zero => rfl
  | succ k ih =>
    rw [List.range_succ, List.map_append, List.sum_append, ih (fun j hj => h j (by omega))]
    simp [h k (by omega)]

theorem sum_range_single (m L : Nat) (hL : L < m) (f : Nat → Nat) (h : ∀ j, j < m → j ≠ L → f j = 0) :
    ((List.range m).map f).sum = f L := by
  induction m with
  | zero => omega
  | succ k ih =>
    rw [List.range_succ, List.map_append, List.sum_append]
    by_cases hk : L = k
    · subst hk
      rw [sum_range_zero L f (fun j hj => h j (by omega) (by omega))]
      simp
    · rw [ih (by omega) (fun j hj hne => h j (by omega) hne)]
      simp [h k (by omega) (fun e => hk e.symm)]

theorem sum_range_indicator (m : Nat) (f : Nat → Nat) (P : Prop) [Decidable P]
    (hn : ∀ j, j < m → f j ≠ 0 → P)
    (hp : P → ∃ j0, j0 < m ∧ f j0 = 1 ∧ ∀ j, j < m → j ≠ j0 → f j = 0) :
    ((List.range m).map f).sum = if P then 1 else 0 := by
  by_cases h : P
  · obtain ⟨j0, hj0, h1, hz⟩ := hp h
    rw [if_pos h, sum_range_single m j0 hj0 f hz, h1]
  · rw [if_neg h]
    exact sum_range_zero m f fun j hj => Decidable.byContradiction fun hne => h (hn j hj hne)

theorem sum_range_add_eq (m : Nat) (a d b r : Nat → Nat) (h : ∀ j, j < m → a j + d j = b j + r j) :
    ((List.range m).map a).sum + ((List.range m).map d).sum =
      ((List.range m).map b).sum + ((List.range m).map r).sum := by
  induction m with
  | zero => rfl
  | succ k ih =>
    have h1 := ih (fun j hj => h j (by omega))
    have hk := h k (by omega)
    simp only [List.range_succ, List.map_append, List.sum_append, List.map_cons, List.map_nil, List.sum_cons,
      List.sum_nil]
    omega

theorem le_sum_range (m j : Nat) (hj : j < m) (f : Nat → Nat) : f j ≤ ((List.range m).map f).sum := by
  induction m with
  | zero => omega
  | succ k ih =>
    simp only [List.range_succ, List.map_append, List.sum_append, List.map_cons, List.map_nil, List.sum_cons,
      List.sum_nil]
    by_cases e : j = k
    · subst e; omega
    · have := ih (by omega); omega

/-! ### The request counter `ctrNext` -/

theorem ctrNext_both (c : Nat) : ctrNext c true true = c := by simp [ctrNext]
theorem ctrNext_none (c : Nat) : ctrNext c false false = c := by simp [ctrNext]
theorem ctrNext_req (c : Nat) (h : c < maxReq - 1) : ctrNext c true false = c + 1 := by
  have : (c != maxReq - 1) = true := by simp; omega
  simp [ctrNext, this]
theorem ctrNext_rsp (c : Nat) (h : c ≠ 0) : ctrNext c false true = c - 1 := by
  have : (c != 0) = true := by simp [h]
  simp [ctrNext, this]
theorem ctrNext_rsp_zero : ctrNext 0 false true = 0 := by simp [ctrNext]
theorem ctrNext_zero_ne {rq rs : Bool} (h : ctrNext 0 rq rs ≠ 0) : rq = true := by
  cases rq
  · cases rs
    · exact absurd (ctrNext_none 0) h
    · exact absurd ctrNext_rsp_zero h
  · rfl

/-- Saturation as coded: the 256th unanswered request is not counted. -/
theorem ctrNext_req_full : ctrNext (maxReq - 1) true false = maxReq - 1 := by decide

theorem ctrNext_le (c : Nat) (rq rs : Bool) (h : c ≤ maxReq - 1) : ctrNext c rq rs ≤ maxReq - 1 := by
  unfold ctrNext
  split
  · exact h
  · split
    · rename_i h2
      have : c ≠ maxReq - 1 := by
        intro e; simp [e] at h2
      omega
    · split <;> omega

/-! ### Runs from one-step lemmas: the inductions behind every run theorem of C08 -/

section runs
open Litex
variable {σ : Type} (M : Machine DirIn σ DirOut) (c : Cfg) (rd shared : Bool)

/-- An invariant `I` of registers and scoreboard, kept by a cycle whose inputs satisfy `EnvOK` and giving `RouteOK`
    in it, gives `Holds` on every input list. -/
theorem holds_of_step (I : σ → Fifo → Prop)
    (hstep : ∀ s g x, I s g → EnvOK c g x →
      RouteOK c shared g x (M.out s x) ∧ I (M.next s x) (fifoNext c rd g x (M.out s x))) :
    ∀ (ins : List DirIn) (s : σ) (g : Fifo), I s g → Holds M c rd shared s g ins := by
  intro ins
  induction ins with
  | nil => intro s g _; trivial
  | cons x xs ih =>
    intro s g hinv env
    obtain ⟨hr, hinv'⟩ := hstep s g x hinv env
    exact ⟨hr, ih _ _ hinv'⟩

/-- The same with the write-data scoreboard: `J` beside `I`, `DEnvOK` beside `EnvOK`, `DataOK` beside `RouteOK`. -/
theorem holdsD_of_step (I : σ → Fifo → Prop) (J : σ → Fifo → DGhost → Prop)
    (hstep : ∀ s g x, I s g → EnvOK c g x →
      RouteOK c shared g x (M.out s x) ∧ I (M.next s x) (fifoNext c rd g x (M.out s x)))
    (hdstep : ∀ s g dg x, I s g → J s g dg → EnvOK c g x → DEnvOK c dg x →
      DataOK c dg x (M.out s x) ∧
      J (M.next s x) (fifoNext c rd g x (M.out s x)) (dgNext c rd dg x (M.out s x))) :
    ∀ (ins : List DirIn) (s : σ) (g : Fifo) (dg : DGhost), I s g → J s g dg → HoldsD M c rd shared s g dg ins := by
  intro ins
  induction ins with
  | nil => intro s g dg _ _; trivial
  | cons x xs ih =>
    intro s g dg hi hj env denv
    obtain ⟨hr, hi'⟩ := hstep s g x hi env
    obtain ⟨hdok, hj'⟩ := hdstep s g dg x hi hj env denv
    exact ⟨hr, hdok, ih _ _ _ hi' hj'⟩

/-- The invariant alone, at the end of a run all of whose inputs satisfy `EnvOK`. -/
theorem inv_runSB (I : σ → Fifo → Prop)
    (hstep : ∀ s g x, I s g → EnvOK c g x → I (M.next s x) (fifoNext c rd g x (M.out s x))) :
    ∀ (ins : List DirIn) (s : σ) (g : Fifo), I s g → EnvAll M c rd s g ins →
      I (runSB M c rd s g ins).1 (runSB M c rd s g ins).2 := by
  intro ins
  induction ins with
  | nil => intro s g h _; exact h
  | cons x xs ih =>
    intro s g h henv
    exact ih _ _ (hstep s g x h henv.1) henv.2

theorem runSB_append : ∀ (xs ys : List DirIn) (s : σ) (g : Fifo),
    runSB M c rd s g (xs ++ ys) = runSB M c rd (runSB M c rd s g xs).1 (runSB M c rd s g xs).2 ys := by
  intro xs
  induction xs with
  | nil => intro ys s g; rfl
  | cons x xs ih => intro ys s g; exact ih ys _ _

end runs

/-! ### The scoreboard entry of a locked slave is `replicate cnt grant`: how it moves in one cycle -/

theorem count_replicate_ne (q L j : Nat) (h : j ≠ L) : (List.replicate q L).count j = 0 := by
  rw [List.count_replicate]
  have : (L == j) = false := by simpa using fun e => h e.symm
  simp [this]

/-- Size of a scoreboard entry after one cycle with events `(request, response)`: exact, as the list moves. -/
def balNext (q : Nat) (e : Bool × Bool) : Nat := q - (if e.2 then 1 else 0) + (if e.1 then 1 else 0)

theorem replicate_step (q g : Nat) (rq rs : Bool) :
    (if rs then (List.replicate q g).tail else List.replicate q g) ++ (if rq then [g] else [])
      = List.replicate (balNext q (rq, rs)) g := by
  cases rs <;> cases rq
  · exact List.append_nil _
  · exact List.replicate_succ'.symm
  · exact (List.append_nil _).trans List.tail_replicate
  · exact (congrArg (· ++ [g]) List.tail_replicate).trans List.replicate_succ'.symm

theorem fifoNext_eq (c : Cfg) (rd : Bool) (g : Fifo) (x : DirIn) (o : DirOut) (j i : Nat) {rq rs : Bool}
    (h1 : sDone (c.gated rd) x o j = rs) (h2 : sReq x o j = rq) (h3 : rq = true → issuersTo c x o j = [i]) :
    fifoNext c rd g x o j = (if rs then (g j).tail else g j) ++ (if rq then [i] else []) := by
  unfold fifoNext
  rw [h1, h2]
  cases rq
  · rfl
  · rw [h3 rfl]

theorem ctrNext_eq_balNext {c : Nat} {rq rs : Bool} (hrs : rs = true → c ≠ 0) (hrq : rq = true → c < maxReq - 1) :
    ctrNext c rq rs = balNext c (rq, rs) := by
  cases rq <;> cases rs
  · exact ctrNext_none c
  · exact ctrNext_rsp c (hrs rfl)
  · exact ctrNext_req c (hrq rfl)
  · exact (ctrNext_both c).trans (Nat.sub_add_cancel (Nat.pos_of_ne_zero (hrs rfl))).symm

/-- A completed response finds an entry to retire (`slaveLegal`). -/
theorem fifoNext_length (c : Cfg) (rd : Bool) (g : Fifo) (x : DirIn) (o : DirOut) (j : Nat) (hj : j < c.m)
    (env : EnvOK c g x) (hiss : sReq x o j = true → ∃ i, issuersTo c x o j = [i]) :
    (fifoNext c rd g x o j).length + (if sDone (c.gated rd) x o j then 1 else 0)
      = (g j).length + (if sReq x o j then 1 else 0) := by
  have hlen : (if sReq x o j then issuersTo c x o j else []).length = if sReq x o j then 1 else 0 := by
    cases hrq : sReq x o j
    · rfl
    · obtain ⟨i, hi⟩ := hiss hrq
      rw [hi]; rfl
  unfold fifoNext
  rw [List.length_append, hlen]
  cases hdn : sDone (c.gated rd) x o j
  · rfl
  · have hv : (x.ss j).rValid = true := by
      unfold sDone sRsp at hdn; simp only [Bool.and_eq_true] at hdn; exact hdn.1.1
    have hpos := List.length_pos_iff.mpr (env.slaveLegal j hj hv)
    simp only [if_true, List.length_tail]
    omega

end Litex.Axi.Lite
