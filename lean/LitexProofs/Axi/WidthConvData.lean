import LitexModel.Axi.WidthConvData
import LitexProofs.Stream.Conv
import LitexProofs.Lists
/-
  AXI bursts through the stream converters: how the greedy chunking of `_UpConverter` (`Stream.chunks`) cuts a
  burst whose number of beats is a multiple of the ratio and whose only `last` is on the final beat, and where
  `_DownConverter` (`Stream.splitTok`) puts `last`.
-/
namespace Litex.Axi
open Litex.Stream

variable {α : Type}

theorem mem_of_mem_chunks (r : Nat) (ts : List (Tok α)) {c : List (Tok α)} {t : Tok α}
    (hc : c ∈ chunks r ts) (ht : t ∈ c) : t ∈ ts := by
  rw [← chunks_flatten r ts]
  exact List.mem_append_left _ (List.mem_flatten.mpr ⟨c, hc, ht⟩)

/-- Without a `last` every complete chunk is full, so the chunks and the partial one count the beats. -/
theorem chunks_noLast (r : Nat) (hr : 0 < r) (ts : List (Tok α)) (hno : ∀ t ∈ ts, t.last = false) :
    (∀ c ∈ chunks r ts, c.length = r) ∧ (chunkRest r ts).length < r ∧
    (chunks r ts).length * r + (chunkRest r ts).length = ts.length := by
  obtain ⟨h1, h2, _⟩ := chunks_shape r hr ts
  have hfull : ∀ c ∈ chunks r ts, c.length = r := by
    intro c hc
    rcases (h1 c hc).2.2.2 with h | ⟨t, ht, hl⟩
    · exact h
    · rw [hno t (mem_of_mem_chunks r ts hc (List.mem_of_getLast? ht))] at hl; cases hl
  refine ⟨hfull, h2, ?_⟩
  have := congrArg List.length (chunks_flatten r ts)
  rwa [List.length_append, length_flatten_of_length r _ hfull] at this

/-- `ts ++ [t]` is a burst of `n·r` narrow beats whose only `last` is on the final beat `t`: the region in which the
    up-converter is specified. -/
theorem burst_chunks (r n : Nat) (hr : 0 < r) (ts : List (Tok α)) (t : Tok α)
    (hno : ∀ x ∈ ts, x.last = false) (ht : t.last = true) (hlen : ts.length + 1 = n * r) :
    chunkRest r (ts ++ [t]) = [] ∧
    (chunks r (ts ++ [t])).flatten = ts ++ [t] ∧
    (∀ c ∈ chunks r (ts ++ [t]), c.length = r) ∧
    (chunks r (ts ++ [t])).length = n ∧
    (chunks r (ts ++ [t])).map (fun c => c.any (·.last)) = List.replicate (n - 1) false ++ [true] := by
  obtain ⟨m1, m2, mcount⟩ := chunks_noLast r hr ts hno
  -- the partial chunk before the final beat holds exactly r - 1 beats
  have hfull : (chunkRest r ts).length + 1 = r := by
    have h1 : (chunks r ts).length * r < n * r := by omega
    have h2 : (chunks r ts).length < n := Nat.lt_of_mul_lt_mul_right h1
    have h3 : ((chunks r ts).length + 1) * r ≤ n * r := Nat.mul_le_mul_right r h2
    rw [Nat.add_mul] at h3
    omega
  have hcond : ((chunkRest r ts).length + 1 == r || t.last) = true := by simp [ht]
  have hch : chunks r (ts ++ [t]) = chunks r ts ++ [chunkRest r ts ++ [t]] := by
    rw [chunks_snoc, if_pos hcond]
  have hre : chunkRest r (ts ++ [t]) = [] := by rw [chunkRest_snoc, if_pos hcond]
  have hn : (chunks r ts).length + 1 = n := by
    apply Nat.eq_of_mul_eq_mul_right hr
    rw [Nat.add_mul]; omega
  refine ⟨hre, ?_, ?_, ?_, ?_⟩
  · have := chunks_flatten r (ts ++ [t])
    rwa [hre, List.append_nil] at this
  · intro c hc
    rw [hch] at hc
    rcases List.mem_append.mp hc with hc | hc
    · exact m1 c hc
    · have : c = chunkRest r ts ++ [t] := by simpa using hc
      subst this; simp [hfull]
  · rw [hch]; simp [hn]
  · rw [hch, List.map_append]
    have h1 : (chunks r ts).map (fun c => c.any (·.last)) = List.replicate (chunks r ts).length false := by
      apply List.eq_replicate_iff.mpr
      refine ⟨by simp, ?_⟩
      intro b hb
      obtain ⟨c, hc, rfl⟩ := List.mem_map.mp hb
      simp only [List.any_eq_false]
      intro x hx
      simp [hno x (mem_of_mem_chunks r ts hc hx)]
    rw [h1, ← hn]
    simp [ht]

theorem splitTok_last {π : Type} (r : Nat) (hr : 0 < r) (z : α) (t : Tok (List α × π)) :
    (splitTok r z t).length = r ∧
    (splitTok r z t).map (·.last) = List.replicate (r - 1) false ++ [t.last] := by
  refine ⟨by simp [splitTok], ?_⟩
  obtain ⟨m, rfl⟩ : ∃ m, r = m + 1 := ⟨r - 1, by omega⟩
  simp only [splitTok, List.map_map, Nat.add_sub_cancel]
  rw [List.range_succ, List.map_append]
  congr 1
  · apply List.eq_replicate_iff.mpr
    refine ⟨by simp, ?_⟩
    intro b hb
    obtain ⟨i, hi, rfl⟩ := List.mem_map.mp hb
    have : i < m := List.mem_range.mp hi
    have hne : ¬ i = m := by omega
    simp [hne]
  · simp

end Litex.Axi
