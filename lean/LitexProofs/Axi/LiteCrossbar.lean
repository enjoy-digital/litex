import LitexProofs.Axi.LiteLink
/-
  C08, crossbar (one direction): one decoder per master, one arbiter per slave.  Inductive invariant tying every
  arbiter's `(grant, counter)` and every decoder's `(counter, slave_sel_reg)` to the routing scoreboard, the cycle as
  a matching (`linked`), and the one-step assume/guarantee lemmas.
-/
namespace Litex.Axi.Lite
namespace Crossbar
variable (c : Cfg) (rd : Bool)

/-- `slave_sel[j]` of master `i`'s decoder in this cycle. -/
def selI (s : XbDir) (x : DirIn) (i j : Nat) : Bool := Dec.sel (c.decCfg rd) (dcd s i) (x.ms i) j

/-- Registers vs scoreboard.  `arbs`: arbiter `j` counts the unanswered requests at slave `j`, all its grant owner's.
    A decoder with a non-zero counter is paired with exactly one arbiter — the one its register points at, which
    grants its master and reads the same count (`locked`); an idle decoder is paired with none (`idle`). -/
structure Inv (s : XbDir) (g : Fifo) : Prop where
  arbs   : ∀ j, j < c.m → (arb s j).grant < c.n ∧ (arb s j).cnt ≤ maxReq - 1 ∧
             g j = List.replicate (arb s j).cnt (arb s j).grant
  idle   : ∀ i, i < c.n → (dcd s i).cnt = 0 → ∀ j, j < c.m → (arb s j).cnt ≠ 0 → (arb s j).grant ≠ i
  locked : ∀ i, i < c.n → (dcd s i).cnt ≠ 0 → ∃ L, L < c.m ∧
             (∀ j, j < c.m → (dcd s i).selR.getD j false = (j == L)) ∧
             (arb s L).grant = i ∧ (arb s L).cnt = (dcd s i).cnt ∧
             ∀ j, j < c.m → j ≠ L → (arb s j).cnt ≠ 0 → (arb s j).grant ≠ i

/-- The `own` of `Linked`: every slave has an arbiter and hence a grant of its own. -/
def own (s : XbDir) (j : Nat) : Nat := (arb s j).grant

theorem toM_some (s : XbDir) (x : DirIn) (i L : Nat) (hL : L < c.m) (hsel : ∀ j, j < c.m → selI c rd s x i j = (j == L)) :
    (out c rd s x).toM i = Arb.toM (arb s L) (x.ss L) i := by
  show Dec.toM (c.decCfg rd) (dcd s i) (x.ms i) (fun j => accSM s x i j) = _
  rw [Dec.toM_onehot (c.decCfg rd) (dcd s i) (x.ms i) _ L hL hsel]
  rfl

theorem toM_none (s : XbDir) (x : DirIn) (i : Nat) (hsel : ∀ j, j < c.m → selI c rd s x i j = false) :
    (out c rd s x).toM i = {} := by
  show Dec.toM (c.decCfg rd) (dcd s i) (x.ms i) (fun j => accSM s x i j) = _
  exact Dec.toM_none (c.decCfg rd) (dcd s i) (x.ms i) _ hsel

theorem arb_next (s : XbDir) (x : DirIn) (j : Nat) (hj : j < c.m) :
    arb (next c rd s x) j = Arb.next c.n (c.gated rd) (arb s j) (fun i => accMS c rd s x i j) (x.ss j) := by
  unfold arb next
  exact getD_range_map_of_lt _ _ hj

theorem dcd_next (s : XbDir) (x : DirIn) (i : Nat) (hi : i < c.n) :
    dcd (next c rd s x) i = Dec.next (c.decCfg rd) (dcd s i) (x.ms i) (fun j => accSM s x i j) := by
  unfold dcd next
  exact getD_range_map_of_lt _ _ hi

theorem lock_held (s : XbDir) (g : Fifo) (h : Inv c s g) (j : Nat) (hj : j < c.m) (hne : g j ≠ []) :
    (∀ x, (arb (next c rd s x) j).grant = (arb s j).grant) ∧
    (∀ i, i < c.n → i ∈ g j → ∀ x k, k < c.m → selI c rd s x i k = (k == j)) ∧
    (∀ a ∈ g j, a = (arb s j).grant) := by
  obtain ⟨hg, _, hgj⟩ := h.arbs j hj
  have hK : (arb s j).cnt ≠ 0 := by
    intro h0; rw [hgj, h0] at hne; exact hne rfl
  refine ⟨?_, ?_, ?_⟩
  · intro x
    rw [arb_next c rd s x j hj]
    exact Arb.grant_frozen c.n (c.gated rd) _ _ _ hg (Or.inl hK)
  · intro i hi hmem x k hk
    rw [hgj] at hmem
    have hgi : (arb s j).grant = i := (List.mem_replicate.mp hmem).2.symm
    have hKi : (dcd s i).cnt ≠ 0 := fun h0 => h.idle i hi h0 j hj hK hgi
    obtain ⟨L, hL, hR, _, _, hoth⟩ := h.locked i hi hKi
    have hjL : j = L := by
      by_cases e : j = L
      · exact e
      · exact absurd hgi (hoth j hj e hK)
    subst hjL
    unfold selI
    rw [Dec.sel_locked (c.decCfg rd) _ _ k hKi]
    exact hR k hk
  · intro a ha
    rw [hgj] at ha
    exact (List.mem_replicate.mp ha).2

section step
variable {c} (hd : Disjoint c) {s : XbDir} {g : Fifo} {x : DirIn} (hinv : Inv c s g) (env : EnvOK c g x)

include hd hinv in
theorem sel_cases (i : Nat) (hi : i < c.n) :
    (∃ L, L < c.m ∧ ∀ j, j < c.m → selI c rd s x i j = (j == L)) ∨ (∀ j, j < c.m → selI c rd s x i j = false) := by
  apply Dec.sel_cases (c.decCfg rd) hd (dcd s i) (x.ms i)
  intro hK
  obtain ⟨L, hL, hR, _⟩ := hinv.locked i hi hK
  exact ⟨L, hL, hR⟩

include hinv env in
theorem sel_routes (i L : Nat) (hi : i < c.n) (hL : L < c.m) (hv : (x.ms i).aValid = true)
    (hs : selI c rd s x i L = true) : routes c L (x.ms i).aAddr = true := by
  by_cases hK : (dcd s i).cnt = 0
  · have := Dec.sel_idle (c.decCfg rd) (dcd s i) (x.ms i) L hK
    unfold selI at hs
    rw [this] at hs
    exact hs
  · obtain ⟨L', hL', hR, hgr, hcnt, _⟩ := hinv.locked i hi hK
    have h1 := Dec.sel_locked (c.decCfg rd) (dcd s i) (x.ms i) L hK
    unfold selI at hs
    rw [h1, hR L hL] at hs
    have hLL : L = L' := by simpa using hs
    subst hLL
    apply env.sameSlave i L hi hL hv
    rw [(hinv.arbs L hL).2.2, hgr]
    exact List.mem_replicate.mpr ⟨by rw [hcnt]; exact hK, rfl⟩

include hd hinv env in
theorem linked : Linked c g x (out c rd s x) (own s) (selI c rd s x) := by
  refine ⟨fun j hj => (hinv.arbs j hj).1, sel_cases rd hd hinv, fun _ _ => rfl,
    fun i L _ hL hsel => toM_some c rd s x i L hL hsel, ?_, ?_,
    fun i L hi hL hs hv => sel_routes rd hinv env i L hi hL hv hs, ?_,
    fun i j hi hj hmem => (lock_held c rd s g hinv j hj (List.ne_nil_of_mem hmem)).2.1 i hi hmem x⟩
  · intro i _ hnone
    rw [toM_none c rd s x i hnone]
    exact ⟨rfl, rfl, rfl⟩
  · intro j hj a ha
    rw [(hinv.arbs j hj).2.2] at ha
    exact (List.mem_replicate.mp ha).2
  · -- idle: the select is the decoded address; locked: it is one-hot anyway
    intro i L hi hL _ _ hr
    by_cases hK : (dcd s i).cnt = 0
    · exact ⟨L, hL, (Dec.sel_idle (c.decCfg rd) (dcd s i) (x.ms i) L hK).trans hr⟩
    · obtain ⟨L', hL', hR, _⟩ := hinv.locked i hi hK
      exact ⟨L', hL', (Dec.sel_locked (c.decCfg rd) (dcd s i) (x.ms i) L' hK).trans (onehot_self (hR L' hL'))⟩

include hd hinv env in
theorem arb_step (j : Nat) (hj : j < c.m) :
    (arb (next c rd s x) j).grant < c.n ∧ (arb (next c rd s x) j).cnt ≤ maxReq - 1 ∧
    fifoNext c rd g x (out c rd s x) j =
      List.replicate (arb (next c rd s x) j).cnt (arb (next c rd s x) j).grant ∧
    ((arb (next c rd s x) j).cnt ≠ 0 → (arb (next c rd s x) j).grant = (arb s j).grant) ∧
    (arb (next c rd s x) j).cnt =
      ctrNext (arb s j).cnt (sReq x (out c rd s x) j) (sDone (c.gated rd) x (out c rd s x) j) := by
  obtain ⟨hg, hle, hgj⟩ := hinv.arbs j hj
  rw [arb_next c rd s x j hj]
  have hrs : (x.ss j).rValid = true → (arb s j).cnt ≠ 0 := by
    intro hv h0
    have := env.slaveLegal j hj hv
    rw [hgj, h0] at this; exact this rfl
  have hrq : (x.ss j).aReady = true → (arb s j).cnt < maxReq - 1 := by
    intro hr
    have := env.noOverflow j hj hr
    rwa [hgj, List.length_replicate] at this
  obtain ⟨h1, h2⟩ := Arb.fifo_step c.n (c.gated rd) (arb s j) (fun i => accMS c rd s x i j) (x.ss j) hg
    (g j) hgj hrs hrq
  refine ⟨Arb.next_grant_lt _ _ _ _ _ hg, ctrNext_le _ _ _ hle, ?_, h2, rfl⟩
  rw [← h1]
  exact fifoNext_eq c rd g x _ j _ rfl rfl (fun hq => (linked rd hd hinv env).issuers hd j hj hq)

include hd hinv env in
theorem other_arb (i j : Nat) (hj : j < c.m)
    (h1 : (arb s j).cnt ≠ 0 → (arb s j).grant ≠ i)
    (h2 : mReq x (out c rd s x) i = true → selI c rd s x i j = false) :
    (arb (next c rd s x) j).cnt ≠ 0 → (arb (next c rd s x) j).grant ≠ i := by
  intro hne
  obtain ⟨_, _, _, hfro, hcnt⟩ := arb_step rd hd hinv env j hj
  rw [hfro hne]
  by_cases hK : (arb s j).cnt = 0
  · -- it starts counting: the request it accepts is its owner's, who listens to `j`
    rw [hcnt, hK] at hne
    obtain ⟨_, _, hsel, hm⟩ := (linked rd hd hinv env).sReq_elim j hj (ctrNext_zero_ne hne)
    intro hg
    rw [show own s j = i from hg] at hsel hm
    exact Bool.false_ne_true ((h2 hm).symm.trans (onehot_self (hsel j hj)))
  · exact h1 hK

/-- Decoder `i` after the edge against the arbiters after the edge: the two clauses of `Inv` about `i`. -/
def DecOK (c : Cfg) (rd : Bool) (s : XbDir) (x : DirIn) (i : Nat) : Prop :=
  let d' := Dec.next (c.decCfg rd) (dcd s i) (x.ms i) (fun j => accSM s x i j)
  (d'.cnt = 0 → ∀ j, j < c.m → (arb (next c rd s x) j).cnt ≠ 0 → (arb (next c rd s x) j).grant ≠ i) ∧
  (d'.cnt ≠ 0 → ∃ L, L < c.m ∧ (∀ j, j < c.m → d'.selR.getD j false = (j == L)) ∧
      (arb (next c rd s x) L).grant = i ∧ (arb (next c rd s x) L).cnt = d'.cnt ∧
      ∀ j, j < c.m → j ≠ L → (arb (next c rd s x) j).cnt ≠ 0 → (arb (next c rd s x) j).grant ≠ i)

include hd hinv env in
/-- Decoder `i` and arbiter `L` are paired — `i` listens to `L`, `L` is `i`'s, their counters agree — so both count
    the same request and response and stay paired. -/
theorem dec_paired (i L : Nat) (hi : i < c.n) (hL : L < c.m) (hsel : ∀ j, j < c.m → selI c rd s x i j = (j == L))
    (hg : (arb s L).grant = i) (hcnt : (arb s L).cnt = (dcd s i).cnt)
    (hoth : ∀ j, j < c.m → j ≠ L → (arb s j).cnt ≠ 0 → (arb s j).grant ≠ i) : DecOK c rd s x i := by
  unfold DecOK
  intro d'
  have h := linked rd hd hinv env
  have hdcnt : d'.cnt = ctrNext (dcd s i).cnt (mReq x (out c rd s x) i)
      (((out c rd s x).toM i).rValid && (x.ms i).rReady && (!c.gated rd || ((out c rd s x).toM i).rLast)) := rfl
  have hsL : selI c rd s x i L = true := onehot_self (hsel L hL)
  have hM := toM_some c rd s x i L hL hsel
  obtain ⟨_, _, _, hfro, hcntL⟩ := arb_step rd hd hinv env L hL
  have hsame : (arb (next c rd s x) L).cnt = d'.cnt := by
    rw [hcntL, hdcnt, hcnt, h.sReq_eq L hL, sDone, h.sRsp_eq L hL, h.mReq_some hi hL hsel, hM,
      show own s L = i from hg, hsL]
    simp only [Arb.toM, hg, beq_self_eq_true, Bool.and_true]
  have hothers : ∀ j, j < c.m → j ≠ L →
      (arb (next c rd s x) j).cnt ≠ 0 → (arb (next c rd s x) j).grant ≠ i := fun j hj hne =>
    other_arb rd hd hinv env i j hj (hoth j hj hne) (fun _ => (hsel j hj).trans (beq_false_of_ne hne))
  refine ⟨fun hz j hj => ?_, fun hnz => ⟨L, hL, ?_, ?_, hsame, hothers⟩⟩
  · by_cases hjl : j = L
    · subst hjl
      intro h0; rw [hsame] at h0; exact absurd hz h0
    · exact hothers j hj hjl
  · exact fun j hj => (Dec.next_selR (c.decCfg rd) (dcd s i) (x.ms i) _ j hj).trans (hsel j hj)
  · rw [hfro (by rw [hsame]; exact hnz), hg]

include hd hinv env in
theorem dec_step (i : Nat) (hi : i < c.n) : DecOK c rd s x i := by
  by_cases hK : (dcd s i).cnt = 0
  · have hidle := hinv.idle i hi hK
    by_cases hq : mReq x (out c rd s x) i = true
    · -- it accepts an address: it pairs with the arbiter of the slave it listens to, which was not counting
      obtain ⟨L, hL, hsel, _, _, hg⟩ := (linked rd hd hinv env).mReq_elim i hi hq
      have hKL : (arb s L).cnt = 0 := Decidable.byContradiction fun h0 => hidle L hL h0 hg
      exact dec_paired rd hd hinv env i L hi hL hsel hg (hKL.trans hK.symm) (fun j hj _ => hidle j hj)
    · -- nothing accepted: it stays idle, and no arbiter starts counting for it
      have hd0 : (Dec.next (c.decCfg rd) (dcd s i) (x.ms i) (fun j => accSM s x i j)).cnt = 0 := by
        show ctrNext (dcd s i).cnt (mReq x (out c rd s x) i) _ = 0
        rw [hK, Bool.eq_false_iff.mpr hq]
        exact Decidable.byContradiction fun hne => Bool.false_ne_true (ctrNext_zero_ne hne)
      exact ⟨fun _ j hj => other_arb rd hd hinv env i j hj (hidle j hj) (fun h => absurd h hq),
        fun h0 => absurd hd0 h0⟩
  · -- locked: it is paired with the arbiter its register points at
    obtain ⟨L, hL, hR, hg, hcnt, hoth⟩ := hinv.locked i hi hK
    exact dec_paired rd hd hinv env i L hi hL
      (fun j hj => (Dec.sel_locked (c.decCfg rd) (dcd s i) (x.ms i) j hK).trans (hR j hj)) hg hcnt hoth

include hd hinv env in
theorem inv_next : Inv c (next c rd s x) (fifoNext c rd g x (out c rd s x)) := by
  refine ⟨?_, ?_, ?_⟩
  · intro j hj
    obtain ⟨a, b, e, _, _⟩ := arb_step rd hd hinv env j hj
    exact ⟨a, b, e⟩
  · intro i hi hz j hj
    rw [dcd_next c rd s x i hi] at hz
    exact (dec_step rd hd hinv env i hi).1 hz j hj
  · intro i hi hnz
    rw [dcd_next c rd s x i hi] at hnz
    obtain ⟨L, hL, h1, h2, h3, h4⟩ := (dec_step rd hd hinv env i hi).2 hnz
    refine ⟨L, hL, ?_, h2, ?_, h4⟩
    · rw [dcd_next c rd s x i hi]; exact h1
    · rw [dcd_next c rd s x i hi]; exact h3

end step

theorem arb_init (j : Nat) : arb (init c rd) j = {} :=
  getD_replicate_self c.m ({} : ArbState) j

theorem dcd_init_cnt (i : Nat) : (dcd (init c rd) i).cnt = 0 := by
  unfold dcd init
  rw [getD_replicate]
  split <;> rfl

theorem inv_reset (hn : 0 < c.n) : Inv c (init c rd) Fifo.empty := by
  refine ⟨?_, ?_, ?_⟩
  · intro j _
    rw [arb_init]
    exact ⟨hn, Nat.zero_le _, rfl⟩
  · intro i _ _ j _ h
    rw [arb_init] at h
    exact absurd rfl h
  · intro i _ h
    exact absurd (dcd_init_cnt c rd i) h

theorem step (hd : Disjoint c) (s : XbDir) (g : Fifo) (x : DirIn) (hinv : Inv c s g) (env : EnvOK c g x) :
    RouteOK c false g x (out c rd s x) ∧ Inv c (next c rd s x) (fifoNext c rd g x (out c rd s x)) :=
  ⟨(linked rd hd hinv env).routeOK hd env false (fun h => nomatch h), inv_next rd hd hinv env⟩

theorem holds_of_inv (hd : Disjoint c) (ins : List DirIn) (s : XbDir) (g : Fifo) (h : Inv c s g) :
    Holds (machine c rd) c rd false s g ins :=
  holds_of_step (machine c rd) c rd false (Inv c) (step c rd hd) ins s g h

theorem dstep (hd : Disjoint c) (s : XbDir) (g : Fifo) (dg : DGhost) (x : DirIn) (hinv : Inv c s g)
    (hdl : DLock c (own s) g dg) (env : EnvOK c g x) (denv : DEnvOK c dg x) :
    DataOK c dg x (out c rd s x) ∧
    DLock c (own (next c rd s x)) (fifoNext c rd g x (out c rd s x)) (dgNext c rd dg x (out c rd s x)) := by
  have h := linked rd hd hinv env
  refine ⟨h.dataOK hd hdl denv, h.dlock_next rd hd hdl env denv _ ?_ ?_⟩
  · intro j hj
    rw [own, arb_next c rd s x j hj]
    exact Arb.next_grant_lt _ _ _ _ _ (hinv.arbs j hj).1
  · intro j hj hact
    rw [own, arb_next c rd s x j hj]
    exact Arb.grant_frozen c.n (c.gated rd) (arb s j) _ (x.ss j) (hinv.arbs j hj).1
      (hact.imp_left fun hne h0 => hne (by rw [(hinv.arbs j hj).2.2, h0]; rfl))

theorem holdsD_of_inv (hd : Disjoint c) (ins : List DirIn) (s : XbDir) (g : Fifo) (dg : DGhost) (h : Inv c s g)
    (hdg : DLock c (own s) g dg) : HoldsD (machine c rd) c rd false s g dg ins :=
  holdsD_of_step (machine c rd) c rd false (Inv c) (fun s => DLock c (own s)) (step c rd hd) (dstep c rd hd)
    ins s g dg h hdg

end Crossbar
end Litex.Axi.Lite
