import LitexModel.Axi.WidthConvMem
import LitexProofs.Axi.WidthConv
import LitexProofs.Axi.WidthConvData
import LitexProofs.Lists
/-
  Byte-lane placement and end-to-end byte semantics of the width converters.  Core fact (`incr_burstWrites`): the
  ordered byte writes of a full-width INCR burst are the *positional* writes (`laneWrites`) of the concatenation of
  all data words, from the start address on; they depend only on the byte stream, which both converters keep
  (`(W.map flatten).flatten = W.flatten.flatten`).
-/
namespace Litex.Axi
open Litex.Stream

/-- Positional writes: lane `i` of `w` goes to byte address `a + i` (if strobed). -/
def laneWrites : Nat → BWord → List (Nat × Nat)
  | _, [] => []
  | a, (v, s) :: w => (if s then [(a, v)] else []) ++ laneWrites (a + 1) w

theorem laneWrites_append (w1 w2 : BWord) :
    ∀ a, laneWrites a (w1 ++ w2) = laneWrites a w1 ++ laneWrites (a + w1.length) w2 := by
  induction w1 with
  | nil => intro a; simp [laneWrites]
  | cons x w ih =>
    intro a
    obtain ⟨v, s⟩ := x
    simp [laneWrites, ih, Nat.add_assoc, Nat.add_comm 1]

theorem laneWrites_nostrobe (w : BWord) (h : ∀ x ∈ w, x.2 = false) : ∀ a, laneWrites a w = [] := by
  induction w with
  | nil => intro a; rfl
  | cons x w ih =>
    intro a
    obtain ⟨v, s⟩ := x
    have hs : s = false := h (v, s) (by simp)
    subst hs
    simp [laneWrites, ih (fun y hy => h y (by simp [hy]))]

theorem beatWrites_range (bus : Nat) (w : BWord) (base : Nat) (hb : base % bus = 0) (hw : w.length = bus) :
    ∀ (n o : Nat), o + n ≤ bus →
      beatWrites bus w (List.range' (base + o) n) = laneWrites (base + o) ((w.drop o).take n) := by
  intro n
  induction n with
  | zero => intro o _; simp [beatWrites, laneWrites]
  | succ n ih =>
    intro o ho
    have ho' : o < bus := by omega
    have hmod : (base + o) % bus = o := by
      rw [Nat.add_mod, hb, Nat.zero_add, Nat.mod_mod, Nat.mod_eq_of_lt ho']
    have hdrop : w.drop o = w[o] :: w.drop (o + 1) := List.drop_eq_getElem_cons (by omega)
    have hi := ih (o + 1) (by omega)
    rw [← Nat.add_assoc] at hi
    rw [List.range'_succ, hdrop, List.take_succ_cons]
    unfold beatWrites at hi ⊢
    rw [List.flatMap_cons, hi, hmod, List.getElem?_eq_getElem (by omega)]
    rcases hx : w[o] with ⟨v, s⟩
    cases s <;> simp [laneWrites]

theorem beatWrites_container (bus : Nat) (hpos : 0 < bus) (w : BWord) (hw : w.length = bus) (x : Nat) :
    beatWrites bus w (List.range' x (x / bus * bus + bus - x)) = laneWrites x (w.drop (x % bus)) := by
  have hx : x / bus * bus + x % bus = x := by rw [Nat.mul_comm]; exact Nat.div_add_mod x bus
  have ho := Nat.mod_lt x hpos
  have h := beatWrites_range bus w (x / bus * bus) (Nat.mul_mod_left _ _) hw (bus - x % bus) (x % bus) (by omega)
  rw [hx] at h
  rw [show x / bus * bus + bus - x = bus - x % bus by omega, h,
    List.take_of_length_le (by rw [List.length_drop]; omega)]

/-- Words written one after the other from address `a` on; `bus` is only the address step from word to word. -/
def seqWrites (bus : Nat) : Nat → List BWord → List (Nat × Nat)
  | _, [] => []
  | a, w :: ws => laneWrites a w ++ seqWrites bus (a + bus) ws

theorem seqWrites_flatten (bus : Nat) (ws : List BWord) (h : ∀ w ∈ ws, w.length = bus) :
    ∀ a, seqWrites bus a ws = laneWrites a ws.flatten := by
  induction ws with
  | nil => intro a; rfl
  | cons w ws ih =>
    intro a
    simp only [seqWrites, List.flatten_cons, laneWrites_append, h w (by simp)]
    rw [ih (fun y hy => h y (by simp [hy]))]

theorem range_flatMap_seq (bus : Nat) (ws : List BWord) :
    ∀ a, (List.range ws.length).flatMap (fun k => laneWrites (a + k * bus) (ws.getD k [])) = seqWrites bus a ws := by
  induction ws with
  | nil => intro a; rfl
  | cons w ws ih =>
    intro a
    rw [List.length_cons, List.range_succ_eq_map, List.flatMap_cons, List.flatMap_map, seqWrites, ← ih (a + bus)]
    congr 1
    · simp
    · apply flatMap_congr'
      intro k _
      simp only [List.getD_cons_succ]
      congr 1
      rw [Nat.succ_mul]; omega

theorem group_lengths {nb R : Nat} {W : List (List BWord)} (hg : ∀ g ∈ W, g.length = R)
    (hw : ∀ g ∈ W, ∀ w ∈ g, w.length = nb) :
    (∀ w ∈ W.map List.flatten, w.length = R * nb) ∧ (∀ w ∈ W.flatten, w.length = nb) := by
  constructor
  · intro w hwm
    obtain ⟨g, hgm, rfl⟩ := List.mem_map.mp hwm
    rw [length_flatten_of_length nb g (hw g hgm), hg g hgm]
  · intro w hwm
    obtain ⟨g, hgm, hwg⟩ := List.mem_flatten.mp hwm
    exact hw g hgm w hwg

/-- Only the first beat can start inside its container (`h0`: it writes the word from lane `addr % bus` on); the
    others are container-aligned and write whole words (`hrest`). -/
theorem incr_burstWrites (bus : Nat) (r : Req) (words : List BWord) (hb : r.burst = BURST_INCR)
    (hsz : numBytes r.size = bus) (hlen : words.length = r.len + 1) (hw : ∀ w ∈ words, w.length = bus) :
    burstWrites bus r words = laneWrites r.addr (words.flatten.drop (r.addr % bus)) := by
  have hpos : 0 < bus := by rw [← hsz]; exact Nat.two_pow_pos _
  obtain ⟨w0, rest, rfl⟩ : ∃ w0 rest, words = w0 :: rest := by
    cases words with
    | nil => simp at hlen
    | cons a b => exact ⟨a, b, rfl⟩
  have hrl : rest.length = r.len := by simpa using hlen
  have hw0 : w0.length = bus := hw w0 (by simp)
  have hwr : ∀ w ∈ rest, w.length = bus := fun w h => hw w (by simp [h])
  generalize hal : alignedAddr r.addr r.size = al
  generalize ho : r.addr % bus = o
  have halmod : al % bus = 0 := by
    rw [← hal]; unfold alignedAddr; rw [hsz]; exact Nat.mul_mod_left _ _
  have haddr : r.addr = al + o := by
    rw [← hal, ← ho]; unfold alignedAddr; rw [hsz]
    have := Nat.div_add_mod r.addr bus
    rw [Nat.mul_comm] at this; omega
  have hol : o < bus := by rw [← ho]; exact Nat.mod_lt _ hpos
  have hspec0 : axiSpecAddr r.addr rest.length r.size r.burst 0 = r.addr := by
    unfold axiSpecAddr; rw [hb, if_pos rfl, if_pos rfl]
  have hspec : ∀ j, axiSpecAddr r.addr rest.length r.size r.burst (j + 1) = al + (j + 1) * bus := by
    intro j; unfold axiSpecAddr; rw [hb, if_pos rfl, if_neg (by omega), hal, hsz]
  unfold burstWrites
  rw [← hrl, List.range_succ_eq_map, List.flatMap_cons, List.flatMap_map]
  have h0 : beatWrites bus ((w0 :: rest).getD 0 []) (beatBytes r.addr rest.length r.size r.burst 0)
      = laneWrites r.addr (w0.drop o) := by
    unfold beatBytes alignedAddr
    simp only [hspec0, hsz, List.getD_cons_zero]
    rw [beatWrites_container bus hpos w0 hw0, ho]
  have hrest : List.flatMap (fun a => beatWrites bus ((w0 :: rest).getD a.succ [])
        (beatBytes r.addr rest.length r.size r.burst a.succ)) (List.range rest.length)
      = seqWrites bus (al + bus) rest := by
    rw [← range_flatMap_seq]
    apply flatMap_congr'
    intro j hj
    have hj' : j < rest.length := List.mem_range.mp hj
    have hwj : (rest.getD j []).length = bus := by
      rw [List.getD_eq_getElem?_getD, List.getElem?_eq_getElem hj']; exact hwr _ (List.getElem_mem hj')
    have hbmod : (al + (j + 1) * bus) % bus = 0 := by
      rw [Nat.add_mod, halmod, Nat.mul_mod_left]; simp
    unfold beatBytes alignedAddr
    simp only [hspec, hsz, Nat.succ_eq_add_one, List.getD_cons_succ]
    rw [beatWrites_container bus hpos _ hwj, hbmod, List.drop_zero, Nat.succ_mul, Nat.add_assoc, Nat.add_comm bus]
  rw [h0, hrest, seqWrites_flatten bus rest hwr, List.flatten_cons,
    List.drop_append_of_le_length (by omega), laneWrites_append, List.length_drop, hw0, haddr]
  congr 2
  omega

theorem up_burstWrites (k : Nat) (r : Req) (W : List (List BWord)) (hb : r.burst = BURST_INCR) (hs : r.size + k < 8)
    (hal : r.addr % numBytes (r.size + k) = 0) (hW : W.length * 2 ^ k = r.len + 1)
    (hg : ∀ g ∈ W, g.length = 2 ^ k) (hw : ∀ g ∈ W, ∀ w ∈ g, w.length = numBytes r.size) :
    burstWrites (numBytes (r.size + k)) (upAx k r) (W.map List.flatten)
      = burstWrites (numBytes r.size) r W.flatten := by
  have hmul : (r.len + 1) % 2 ^ k = 0 := by rw [← hW]; exact Nat.mul_mod_left _ _
  have hlen' : W.length = r.len / 2 ^ k + 1 := by
    have := len_div_mul hmul
    rw [← hW] at this
    exact (Nat.eq_of_mul_eq_mul_right (Nat.two_pow_pos k) this).symm
  have hal2 : r.addr % numBytes r.size = 0 := by
    have : numBytes r.size ∣ numBytes (r.size + k) := by
      unfold numBytes; exact Nat.pow_dvd_pow 2 (Nat.le_add_right _ _)
    exact Nat.mod_eq_zero_of_dvd (Nat.dvd_trans this (Nat.dvd_of_mod_eq_zero hal))
  obtain ⟨hwide, hnar⟩ := group_lengths hg hw
  rw [show 2 ^ k * numBytes r.size = numBytes (r.size + k) by unfold numBytes; rw [Nat.pow_add, Nat.mul_comm]] at hwide
  rw [incr_burstWrites (numBytes (r.size + k)) (upAx k r) _ (by simp [upAx, hb]) (by simp [upAx, Nat.mod_eq_of_lt hs])
        (by simp [upAx, hlen']) hwide,
      incr_burstWrites (numBytes r.size) r _ hb rfl
        (by rw [length_flatten_of_length (2 ^ k) W hg, hW]) hnar]
  have ha : (upAx k r).addr = r.addr := rfl
  rw [ha, hal, hal2, ← List.flatten_flatten]

/-- `hstrb`: the master keeps the strobes of the lanes below the start address low (A3.4.3: strobes only on the byte
    lanes of the transfer); the start address may lie anywhere inside the first wide word. -/
theorem down_burstWrites (sf st : Nat) (r : Req) (W : List (List BWord)) (hst : st ≤ sf) (hb : r.burst = BURST_INCR)
    (hs : r.size = sf) (hfit : (r.len + 1) * 2 ^ (sf - st) ≤ 256) (hW : W.length = r.len + 1)
    (hg : ∀ g ∈ W, g.length = 2 ^ (sf - st)) (hw : ∀ g ∈ W, ∀ w ∈ g, w.length = numBytes st)
    (hstrb : ∀ x ∈ W.flatten.flatten.take (r.addr % numBytes sf), x.2 = false) :
    burstWrites (numBytes st) (downAx sf st r) W.flatten
      = burstWrites (numBytes sf) r (W.map List.flatten) := by
  obtain ⟨hwide, hnar⟩ := group_lengths hg hw
  rw [show 2 ^ (sf - st) * numBytes st = numBytes sf from two_pow_sub_mul_two_pow hst] at hwide
  have hdaddr : (downAx sf st r).addr = alignedAddr r.addr sf := rfl
  have halst : alignedAddr r.addr sf % numBytes st = 0 := Nat.mod_eq_zero_of_dvd (downAx_addr_dvd r hst)
  rw [incr_burstWrites (numBytes st) (downAx sf st r) _ (by simp [downAx, hb]) (by rw [downAx_size (hs ▸ hst)])
        (by rw [length_flatten_of_length _ W hg, hW, downAx_len hfit]) hnar,
      incr_burstWrites (numBytes sf) r _ hb (by rw [hs]) (by simpa using hW) hwide,
      hdaddr, halst, List.drop_zero, ← List.flatten_flatten]
  generalize hF : W.flatten.flatten = F at *
  generalize ho : r.addr % numBytes sf = o at *
  have hFlen : F.length = (r.len + 1) * numBytes sf := by
    rw [← hF, length_flatten_of_length (numBytes st) W.flatten hnar, length_flatten_of_length _ W hg, hW,
      Nat.mul_assoc]
    unfold numBytes; rw [two_pow_sub_mul_two_pow hst]
  have hol : o < numBytes sf := by rw [← ho]; exact Nat.mod_lt _ (Nat.two_pow_pos _)
  have hole : o ≤ F.length := by
    rw [hFlen, Nat.succ_mul]; omega
  have haddr : r.addr = alignedAddr r.addr sf + o := by
    rw [← ho]; unfold alignedAddr
    have := Nat.div_add_mod r.addr (numBytes sf)
    rw [Nat.mul_comm] at this; omega
  conv => lhs; rw [← List.take_append_drop o F]
  rw [laneWrites_append, laneWrites_nostrobe _ hstrb, List.nil_append, List.length_take, Nat.min_eq_left hole,
    ← haddr]

theorem mem_refines (mem : Nat → Nat) (w1 w2 : List (Nat × Nat)) (h : w1 = w2) : memApply mem w1 = memApply mem w2 := by
  rw [h]


theorem beatToks_length (beats : List BWord) : (beatToks beats).length = beats.length := by simp [beatToks]

theorem beatToks_data (beats : List BWord) : (beatToks beats).map (·.data.1) = beats := by
  apply List.ext_getElem
  · simp [beatToks]
  · intro i h1 h2
    simp [beatToks] at h1 ⊢
    simp [h2]

theorem eq_of_flatten_eq {α : Type} (n : Nat) (hn : 0 < n) : ∀ (A B : List (List α)),
    (∀ g ∈ A, g.length = n) → (∀ g ∈ B, g.length = n) → A.flatten = B.flatten → A = B := by
  intro A
  induction A with
  | nil =>
    intro B _ hB h
    cases B with
    | nil => rfl
    | cons b B =>
      have hb := hB b (by simp)
      have : b = [] := by
        have h' : ([] : List α) = b ++ B.flatten := by simpa using h
        exact (List.append_eq_nil_iff.mp h'.symm).1
      subst this; simp at hb; omega
  | cons a A ih =>
    intro B hA hB h
    cases B with
    | nil =>
      have ha := hA a (by simp)
      have h' : a ++ A.flatten = [] := by simpa using h
      have : a = [] := (List.append_eq_nil_iff.mp h').1
      subst this; simp at ha; omega
    | cons b B =>
      have ha := hA a (by simp)
      have hb := hB b (by simp)
      have h' : a ++ A.flatten = b ++ B.flatten := by simpa using h
      have hab : a = b ∧ A.flatten = B.flatten := List.append_inj h' (by omega)
      rw [hab.1, ih B (fun g hg => hA g (by simp [hg])) (fun g hg => hB g (by simp [hg])) hab.2]

/-- `W` = the narrow beats grouped `R` at a time: wide word `m` carries narrow beat `m·R + q` in its lane group `q`
    (byte lanes `q·nb … q·nb + nb − 1`). -/
theorem upWords_groups (R : Nat) (hR : 0 < R) (W : List (List BWord)) (hne : W ≠ []) (hg : ∀ g ∈ W, g.length = R) :
    upWords R W.flatten = W.map List.flatten := by
  have hlen : W.flatten.length = W.length * R := length_flatten_of_length R W hg
  have hWpos : 0 < W.length := List.length_pos_iff.mpr hne
  obtain ⟨m, hm⟩ : ∃ m, W.flatten.length = m + 1 := by
    have : 0 < W.length * R := Nat.mul_pos hWpos hR
    exact ⟨W.flatten.length - 1, by omega⟩
  generalize hbe : W.flatten = beats at *
  let f : Nat → Tok (BWord × Unit) := fun i =>
    { data := (beats.getD i [], ()), first := false, last := i + 1 == beats.length }
  have htoks : beatToks beats = (List.range m).map f ++ [f m] := by
    unfold beatToks; rw [hm, List.range_succ, List.map_append]; simp only [f, hm]; rfl
  have hno : ∀ x ∈ (List.range m).map f, x.last = false := by
    intro x hx
    obtain ⟨i, hi, rfl⟩ := List.mem_map.mp hx
    have : i < m := List.mem_range.mp hi
    simp [f, hm]; omega
  have ht : (f m).last = true := by simp [f, hm]
  obtain ⟨_, hfl, hcl, _, _⟩ := burst_chunks R W.length hR ((List.range m).map f) (f m) hno ht
    (by simp; omega)
  rw [← htoks] at hfl hcl
  unfold upWords
  have hC : (chunks R (beatToks beats)).map (fun c => c.map (·.data.1)) = W := by
    apply eq_of_flatten_eq R hR
    · intro g hgm
      obtain ⟨c, hc, rfl⟩ := List.mem_map.mp hgm
      simp [hcl c hc]
    · exact hg
    · rw [← List.map_flatten, hfl, beatToks_data, hbe]
  rw [← hC, List.map_map]
  rfl

theorem lanesOf_flatten (nb : Nat) : ∀ (g : List BWord), (∀ w ∈ g, w.length = nb) →
    lanesOf nb g.length g.flatten = g := by
  intro g
  induction g with
  | nil => intro _; rfl
  | cons a g ih =>
    intro hw
    have ha : a.length = nb := hw a (by simp)
    unfold lanesOf at ih ⊢
    rw [List.length_cons, List.range_succ_eq_map, List.map_cons, List.map_map, List.flatten_cons]
    congr 1
    · simp [ha]
    · conv => rhs; rw [← ih (fun w h => hw w (by simp [h]))]
      apply List.map_congr_left
      intro q _
      simp only [Function.comp]
      have : (q + 1) * nb = a.length + q * nb := by rw [Nat.succ_mul, ha]; omega
      rw [this, List.drop_append, List.drop_of_length_le (by omega), List.nil_append]
      congr 2; omega

theorem downWords_groups (nb R : Nat) (W : List (List BWord)) (hg : ∀ g ∈ W, g.length = R)
    (hw : ∀ g ∈ W, ∀ w ∈ g, w.length = nb) : downWords nb R (W.map List.flatten) = W.flatten := by
  induction W with
  | nil => rfl
  | cons g W ih =>
    unfold downWords at ih ⊢
    rw [List.map_cons, List.flatMap_cons, List.flatten_cons,
      ih (fun x hx => hg x (by simp [hx])) (fun x hx => hw x (by simp [hx]))]
    congr 1
    have := lanesOf_flatten nb g (hw g (by simp))
    rwa [hg g (by simp)] at this

theorem allStrobed_length (w : BWord) : (allStrobed w).length = w.length := by simp [allStrobed]

theorem allStrobed_groups (W : List (List BWord)) :
    (W.map List.flatten).map allStrobed = (W.map (·.map allStrobed)).map List.flatten ∧
    W.flatten.map allStrobed = (W.map (·.map allStrobed)).flatten := by
  refine ⟨?_, ?_⟩
  · simp only [List.map_map]
    apply List.map_congr_left
    intro g _
    unfold allStrobed
    simp only [Function.comp]
    rw [List.map_flatten]
  · rw [List.map_flatten]

theorem up_burstReads (k : Nat) (r : Req) (W : List (List BWord)) (hb : r.burst = BURST_INCR) (hs : r.size + k < 8)
    (hal : r.addr % numBytes (r.size + k) = 0) (hW : W.length * 2 ^ k = r.len + 1)
    (hg : ∀ g ∈ W, g.length = 2 ^ k) (hw : ∀ g ∈ W, ∀ w ∈ g, w.length = numBytes r.size) :
    burstReads (numBytes r.size) r W.flatten
      = burstReads (numBytes (r.size + k)) (upAx k r) (W.map List.flatten) := by
  unfold burstReads
  rw [(allStrobed_groups W).1, (allStrobed_groups W).2]
  have hg' : ∀ g ∈ W.map (·.map allStrobed), g.length = 2 ^ k := by
    intro g hgm
    obtain ⟨g0, h0, rfl⟩ := List.mem_map.mp hgm
    rw [List.length_map]; exact hg g0 h0
  have hw' : ∀ g ∈ W.map (·.map allStrobed), ∀ w ∈ g, w.length = numBytes r.size := by
    intro g hgm w hwm
    obtain ⟨g0, h0, rfl⟩ := List.mem_map.mp hgm
    obtain ⟨w0, hw0, rfl⟩ := List.mem_map.mp hwm
    rw [allStrobed_length]; exact hw g0 h0 w0 hw0
  rw [up_burstWrites k r (W.map (·.map allStrobed)) hb hs hal (by rw [List.length_map]; exact hW) hg' hw']

end Litex.Axi
