import LitexProofs.Axi.LiteLink
/-
  C08, shared interconnect (one direction): the inductive invariant tying the registers (`grant`, the two
  counters, `slave_sel_reg`) to the routing scoreboard, the cycle as a matching (`linked`), the one-step
  assume/guarantee lemma, and the write-data scoreboard against the registers.
-/
namespace Litex.Axi.Lite
namespace Shared
variable (c : Cfg) (rd : Bool)

/-- `slave_sel[j]` in this cycle. -/
def selOf (s : ShDir) (x : DirIn) (j : Nat) : Bool := Dec.sel (c.decCfg rd) s.dec (bus s x) j

/-- Registers vs scoreboard.  Idle (`cnt = 0`): nothing is unanswered.  Locked: every unanswered request sits at the
    slave `L` the select register points at and is the grant owner's, as many as both counters read.  `cnt_le` is
    there because `ctrNext` saturates at `maxReq - 1`: below it (`noOverflow`) the counters stay exact. -/
structure Inv (s : ShDir) (g : Fifo) : Prop where
  grant_lt : s.arb.grant < c.n
  cnt_eq   : s.dec.cnt = s.arb.cnt
  cnt_le   : s.arb.cnt ≤ maxReq - 1
  idle     : s.arb.cnt = 0 → ∀ j, j < c.m → g j = []
  locked   : s.arb.cnt ≠ 0 → ∃ L, L < c.m ∧ (∀ j, j < c.m → s.dec.selR.getD j false = (j == L)) ∧
               g L = List.replicate s.arb.cnt s.arb.grant ∧ ∀ j, j < c.m → j ≠ L → g j = []

theorem next_arb (s : ShDir) (x : DirIn) :
    (next c rd s x).arb = Arb.next c.n (c.gated rd) s.arb x.ms (busSM c rd s x) := rfl

theorem next_selR (s : ShDir) (x : DirIn) (j : Nat) (hj : j < c.m) :
    (next c rd s x).dec.selR.getD j false = selOf c rd s x j :=
  Dec.next_selR (c.decCfg rd) s.dec (bus s x) x.ss j hj

/-- The invariant read at one cycle.  Either one slave `L` is selected, the scoreboard is empty but for the grant
    owner's `cnt` requests at `L`, and a presented address belongs to `L` (locked: by `sameSlave`); or the fabric is
    idle and the address belongs to no slave. -/
theorem sel_cases (hd : Disjoint c) (s : ShDir) (g : Fifo) (x : DirIn) (hinv : Inv c s g) (env : EnvOK c g x) :
    (∃ L, L < c.m ∧ (∀ j, j < c.m → selOf c rd s x j = (j == L)) ∧
        g L = List.replicate s.arb.cnt s.arb.grant ∧ (∀ j, j < c.m → j ≠ L → g j = []) ∧
        ((bus s x).aValid = true → routes c L (bus s x).aAddr = true)) ∨
    (s.arb.cnt = 0 ∧ (∀ j, j < c.m → selOf c rd s x j = false) ∧
        ∀ j, j < c.m → routes c j (bus s x).aAddr = false) := by
  by_cases hK : s.arb.cnt = 0
  · have hdK : s.dec.cnt = 0 := by rw [hinv.cnt_eq, hK]
    have hidle : ∀ j, selOf c rd s x j = routes c j (bus s x).aAddr :=
      fun j => Dec.sel_idle (c.decCfg rd) s.dec (bus s x) j hdK
    rcases Dec.sel_cases (c.decCfg rd) hd s.dec (bus s x) (fun h => absurd hdK h) with ⟨L, hL, hsel⟩ | hnone
    · refine Or.inl ⟨L, hL, hsel, ?_, fun j hj _ => hinv.idle hK j hj, fun _ => ?_⟩
      · rw [hinv.idle hK L hL, hK]; rfl
      · rw [← hidle]; exact (hsel L hL).trans (beq_self_eq_true L)
    · exact Or.inr ⟨hK, hnone, fun j hj => by rw [← hidle]; exact hnone j hj⟩
  · obtain ⟨L, hL, hselR, hgL, hoth⟩ := hinv.locked hK
    refine Or.inl ⟨L, hL, fun j hj => ?_, hgL, hoth, fun hv => ?_⟩
    · unfold selOf
      rw [Dec.sel_locked (c.decCfg rd) s.dec _ j (by rw [hinv.cnt_eq]; exact hK)]
      exact hselR j hj
    · apply env.sameSlave s.arb.grant L hinv.grant_lt hL hv
      rw [hgL]
      exact List.mem_replicate.mpr ⟨hK, rfl⟩

theorem lock_held (s : ShDir) (g : Fifo) (h : Inv c s g) (j : Nat) (hj : j < c.m) (hne : g j ≠ []) :
    (∀ x, (next c rd s x).arb.grant = s.arb.grant) ∧
    (∀ x k, k < c.m → selOf c rd s x k = (k == j)) ∧
    (∀ a ∈ g j, a = s.arb.grant) := by
  have hK : s.arb.cnt ≠ 0 := fun h0 => hne (h.idle h0 j hj)
  obtain ⟨L, hL, hR, hgL, hoth⟩ := h.locked hK
  have hjL : j = L := by
    by_cases e : j = L
    · exact e
    · exact absurd (hoth j hj e) hne
  subst hjL
  refine ⟨fun x => Arb.grant_frozen c.n (c.gated rd) s.arb x.ms _ h.grant_lt (Or.inl hK), ?_, ?_⟩
  · intro x k hk
    unfold selOf
    rw [Dec.sel_locked (c.decCfg rd) s.dec _ k (by rw [h.cnt_eq]; exact hK)]
    exact hR k hk
  · intro a ha
    rw [hgL] at ha
    exact (List.mem_replicate.mp ha).2

/-- Only the granted master is connected to the bus select. -/
def selM (s : ShDir) (x : DirIn) (i j : Nat) : Bool := (s.arb.grant == i) && selOf c rd s x j

variable {c rd}

theorem selM_own (s : ShDir) (x : DirIn) (j : Nat) : selM c rd s x s.arb.grant j = selOf c rd s x j := by
  rw [selM, beq_self_eq_true]; rfl

theorem busSM_some {s : ShDir} {x : DirIn} {L : Nat} (hL : L < c.m)
    (hsel : ∀ j, j < c.m → selOf c rd s x j = (j == L)) : busSM c rd s x = x.ss L :=
  Dec.toM_onehot (c.decCfg rd) s.dec (bus s x) x.ss L hL hsel

theorem next_some {s : ShDir} {x : DirIn} {L : Nat} (hL : L < c.m)
    (hsel : ∀ j, j < c.m → selOf c rd s x j = (j == L)) :
    (next c rd s x).arb = Arb.next c.n (c.gated rd) s.arb x.ms (x.ss L) ∧
    (next c rd s x).dec.cnt = ctrNext s.dec.cnt (Arb.request s.arb x.ms (x.ss L))
      (Arb.response (c.gated rd) s.arb x.ms (x.ss L)) ∧
    sReq x (out c rd s x) L = Arb.request s.arb x.ms (x.ss L) ∧
    sDone (c.gated rd) x (out c rd s x) L = Arb.response (c.gated rd) s.arb x.ms (x.ss L) := by
  have hsm := busSM_some hL hsel
  have hs : selOf c rd s x L = true := onehot_self (hsel L hL)
  refine ⟨by rw [next_arb, hsm], ?_, ?_, ?_⟩
  · show ctrNext s.dec.cnt (Dec.request (c.decCfg rd) s.dec (bus s x) x.ss)
      (Dec.response (c.decCfg rd) s.dec (bus s x) x.ss) = _
    unfold Dec.request Dec.response
    rw [show Dec.toM (c.decCfg rd) s.dec (bus s x) x.ss = x.ss L from hsm]
    rfl
  · show (((bus s x).aValid && selOf c rd s x L) && (x.ss L).aReady) = _
    rw [hs, Bool.and_true]; rfl
  · show ((x.ss L).rValid && ((bus s x).rReady && selOf c rd s x L) && _) = _
    rw [hs, Bool.and_true]; rfl

/-- `Linked.issuers` without `Inv` and `EnvOK`, from the selection alone: for `owned_step` of `LiteRun`, where the
    one owner is known and no scoreboard is. -/
theorem issuers_some {s : ShDir} {x : DirIn} {L : Nat} (hL : L < c.m)
    (hsel : ∀ j, j < c.m → selOf c rd s x j = (j == L)) (hG : s.arb.grant < c.n)
    (hroute : routes c L (bus s x).aAddr = true) (h : Arb.request s.arb x.ms (x.ss L) = true) :
    issuersTo c x (out c rd s x) L = [s.arb.grant] := by
  have hM : ∀ i, mReq x (out c rd s x) i = ((x.ms i).aValid && ((x.ss L).aReady && (s.arb.grant == i))) := by
    intro i
    show ((x.ms i).aValid && (gateM (s.arb.grant == i) (busSM c rd s x)).aReady) = _
    rw [busSM_some hL hsel]; rfl
  obtain ⟨hv, hr⟩ : (bus s x).aValid = true ∧ (x.ss L).aReady = true := Bool.and_eq_true_iff.mp h
  unfold issuersTo
  apply filter_range_single c.n s.arb.grant hG
  · rw [hM, show x.ms s.arb.grant = bus s x from rfl, hv, hr, beq_self_eq_true, hroute]; rfl
  · intro i _ hne
    rw [hM, beq_false_of_ne (Ne.symm hne), Bool.and_false, Bool.and_false]; rfl

variable (rd)

theorem linked (hd : Disjoint c) {s : ShDir} {g : Fifo} {x : DirIn} (hinv : Inv c s g) (env : EnvOK c g x) :
    Linked c g x (out c rd s x) (fun _ => s.arb.grant) (selM c rd s x) := by
  have hown := selM_own (c := c) (rd := rd) s x
  have hoth : ∀ i j, i ≠ s.arb.grant → selM c rd s x i j = false := fun i j hne => by
    rw [selM, beq_false_of_ne (Ne.symm hne)]; rfl
  have hisown : ∀ i j, selM c rd s x i j = true → i = s.arb.grant ∧ selOf c rd s x j = true := fun i j hs => by
    rw [selM, Bool.and_eq_true, beq_iff_eq] at hs; exact ⟨hs.1.symm, hs.2⟩
  have hmine : ∀ j, j < c.m → ∀ a ∈ g j, a = s.arb.grant := fun j hj a ha =>
    (lock_held c rd s g hinv j hj (List.ne_nil_of_mem ha)).2.2 a ha
  have hheld : ∀ i j, i < c.n → j < c.m → i ∈ g j → ∀ k, k < c.m → selM c rd s x i k = (k == j) := by
    intro i j _ hj hmem k hk
    rw [hmine j hj i hmem, hown]
    exact (lock_held c rd s g hinv j hj (List.ne_nil_of_mem hmem)).2.1 x k hk
  have hnotown : ∀ i, i ≠ s.arb.grant → (out c rd s x).toM i = gateM false (busSM c rd s x) := fun i hne => by
    show gateM (s.arb.grant == i) _ = _
    rw [beq_false_of_ne (Ne.symm hne)]
  have hS : ∀ j, j < c.m → (out c rd s x).toS j = gateS (selM c rd s x s.arb.grant j) (x.ms s.arb.grant) :=
    fun j _ => by rw [hown j]; rfl
  rcases sel_cases c rd hd s g x hinv env with ⟨L, hL, hsel, _, _, hroute⟩ | ⟨_, hnone, hnr⟩
  · have hat : ∀ i L', L' < c.m → selM c rd s x i L' = true → i = s.arb.grant ∧ L' = L := fun i L' hL' hs =>
      ⟨(hisown i L' hs).1, eq_of_onehot (hsel L' hL') (hisown i L' hs).2⟩
    refine ⟨fun _ _ => hinv.grant_lt, ?_, hS, ?_, ?_, hmine, ?_, ?_, hheld⟩
    · intro i _
      by_cases e : i = s.arb.grant
      · subst e; exact Or.inl ⟨L, hL, fun j hj => (hown j).trans (hsel j hj)⟩
      · exact Or.inr fun j _ => hoth i j e
    · intro i L' _ hL' hsel'
      obtain ⟨rfl, rfl⟩ := hat i L' hL' (onehot_self (hsel' L' hL'))
      show gateM _ (busSM c rd s x) = _
      rw [busSM_some hL hsel]
    · intro i _ hnone'
      have hne : i ≠ s.arb.grant := fun e => by
        have := hnone' L hL; rw [e, hown, hsel L hL, beq_self_eq_true] at this; cases this
      rw [hnotown i hne]
      exact ⟨Bool.and_false _, Bool.and_false _, Bool.and_false _⟩
    · intro i L' _ hL' hs hv
      obtain ⟨rfl, rfl⟩ := hat i L' hL' hs
      exact hroute hv
    · rintro i L' _ _ rfl _ _
      exact ⟨L, hL, (hown L).trans (onehot_self (hsel L hL))⟩
  · have hno : ∀ i j, j < c.m → selM c rd s x i j = false := fun i j hj => by
      cases hs : selM c rd s x i j
      · rfl
      · have := (hisown i j hs).2; rw [hnone j hj] at this; cases this
    refine ⟨fun _ _ => hinv.grant_lt, fun i _ => Or.inr (hno i), hS, ?_, ?_, hmine, ?_, ?_, hheld⟩
    · intro i L' _ hL' hsel'
      exact nomatch (hno i L' hL').symm.trans (onehot_self (hsel' L' hL'))
    · intro i _ _
      have : (out c rd s x).toM i = gateM (s.arb.grant == i) {} := by
        show gateM _ (busSM c rd s x) = _
        rw [show busSM c rd s x = {} from Dec.toM_none (c.decCfg rd) s.dec (bus s x) x.ss hnone]
      rw [this]
      exact ⟨rfl, rfl, rfl⟩
    · intro i L' _ hL' hs
      exact nomatch (hno i L' hL').symm.trans hs
    · rintro i L' _ hL' rfl _ hr
      exact nomatch (hnr L' hL').symm.trans hr

variable (c)

theorem inv_next (hd : Disjoint c) (s : ShDir) (g : Fifo) (x : DirIn) (hinv : Inv c s g) (env : EnvOK c g x) :
    Inv c (next c rd s x) (fifoNext c rd g x (out c rd s x)) := by
  have h := linked rd hd hinv env
  have hG := hinv.grant_lt
  have hlt : (next c rd s x).arb.grant < c.n := Arb.next_grant_lt _ _ _ _ _ hG
  -- at a slave the bus is not selecting nothing happens
  have hquiet : ∀ j, j < c.m → selOf c rd s x j = false → g j = [] → fifoNext c rd g x (out c rd s x) j = [] := by
    intro j hj hs hg
    unfold fifoNext sDone
    rw [h.sReq_eq j hj, h.sRsp_eq j hj, selM_own, hs, hg]
    simp only [Bool.and_false, Bool.false_and]
    rfl
  rcases sel_cases c rd hd s g x hinv env with ⟨L, hL, hsel, hgL, hoth, hroute⟩ | ⟨hK, hnone, _⟩
  · -- the arbiter's counter keeps describing slave `L`'s entry, the decoder's counter sees the same events
    obtain ⟨harb, hdec, hsReq, hsDone⟩ := next_some (rd := rd) hL hsel
    have hK_of_valid : (x.ss L).rValid = true → s.arb.cnt ≠ 0 := by
      intro hv h0
      have := env.slaveLegal L hL hv
      rw [hgL, h0] at this
      exact this rfl
    obtain ⟨hfifo, hfro⟩ := Arb.fifo_step c.n (c.gated rd) s.arb x.ms (x.ss L) hG (g L) hgL hK_of_valid
      (fun hr => by have := env.noOverflow L hL hr; rwa [hgL, List.length_replicate] at this)
    have hdcnt : (next c rd s x).dec.cnt = (next c rd s x).arb.cnt := by
      rw [hdec, harb, hinv.cnt_eq]; rfl
    have hfL : fifoNext c rd g x (out c rd s x) L
        = List.replicate (next c rd s x).arb.cnt (next c rd s x).arb.grant := by
      rw [harb, ← hfifo]
      exact fifoNext_eq c rd g x _ L _ hsDone hsReq (fun hq => h.issuers hd L hL (hsReq.trans hq))
    have hfoth : ∀ j, j < c.m → j ≠ L → fifoNext c rd g x (out c rd s x) j = [] := fun j hj hne =>
      hquiet j hj ((hsel j hj).trans (beq_false_of_ne hne)) (hoth j hj hne)
    refine ⟨hlt, hdcnt, ?_, ?_, ?_⟩
    · rw [harb]; exact ctrNext_le _ _ _ hinv.cnt_le
    · intro h0 j hj
      by_cases hjl : j = L
      · subst hjl; rw [hfL, h0]; rfl
      · exact hfoth j hj hjl
    · intro _
      exact ⟨L, hL, fun j hj => by rw [next_selR c rd s x j hj]; exact hsel j hj, hfL, hfoth⟩
  · -- nothing is selected: both counters stay at zero
    have hsm : busSM c rd s x = {} := Dec.toM_none (c.decCfg rd) s.dec (bus s x) x.ss hnone
    have hacnt : (next c rd s x).arb.cnt = 0 := by
      show ctrNext s.arb.cnt (Arb.request s.arb x.ms (busSM c rd s x))
        (Arb.response (c.gated rd) s.arb x.ms (busSM c rd s x)) = _
      rw [hsm, hK]
      simp [Arb.request, Arb.response, ctrNext]
    have hdcnt : (next c rd s x).dec.cnt = 0 := by
      show ctrNext s.dec.cnt (Dec.request (c.decCfg rd) s.dec (bus s x) x.ss)
        (Dec.response (c.decCfg rd) s.dec (bus s x) x.ss) = _
      rw [hinv.cnt_eq, hK]
      unfold Dec.request Dec.response
      rw [show Dec.toM (c.decCfg rd) s.dec (bus s x) x.ss = {} from hsm]
      simp [ctrNext]
    refine ⟨hlt, by rw [hacnt, hdcnt], by rw [hacnt]; omega,
      fun _ j hj => hquiet j hj (hnone j hj) (hinv.idle hK j hj), fun hne => absurd hacnt hne⟩

theorem step (hd : Disjoint c) (s : ShDir) (g : Fifo) (x : DirIn) (hinv : Inv c s g) (env : EnvOK c g x) :
    RouteOK c true g x (out c rd s x) ∧ Inv c (next c rd s x) (fifoNext c rd g x (out c rd s x)) :=
  ⟨(linked rd hd hinv env).routeOK hd env true (fun _ _ _ _ _ => rfl), inv_next c rd hd s g x hinv env⟩

theorem inv_reset (hn : 0 < c.n) : Inv c (init c rd) Fifo.empty := by
  refine ⟨hn, rfl, Nat.zero_le _, ?_, ?_⟩
  · intro _ j _; rfl
  · intro h; exact absurd rfl h

theorem holds_of_inv (hd : Disjoint c) (ins : List DirIn) (s : ShDir) (g : Fifo) (h : Inv c s g) :
    Holds (machine c rd) c rd true s g ins :=
  holds_of_step (machine c rd) c rd true (Inv c) (step c rd hd) ins s g h

/-! ### Write data

  With one owner for the whole bus the data invariant `DInv` is `DLock` for a constant owner map, so the one-step
  lemma for `DataOK` is the general one of `LiteLink.lean`.  Bursts: `c.wlast` closes a burst (see
  `LiteInterconnectSpec.lean`). -/

/-- Data scoreboard vs registers (everything is relative to the current bus owner): `DLock c (fun _ => s.arb.grant)`
    written out; `dlock_of_dinv` and `dinv_of_dlock` convert. -/
structure DInv (s : ShDir) (g : Fifo) (dg : DGhost) : Prop where
  others : ∀ i, i < c.n → i ≠ s.arb.grant → dg.wq i = [] ∧ dg.ahead i = none
  aheadq : dg.ahead s.arb.grant ≠ none → dg.wq s.arb.grant = []
  wq_lt  : ∀ e ∈ dg.wq s.arb.grant, e < c.m
  ah_lt  : ∀ k b, dg.ahead s.arb.grant = some (k, b) → k < c.m
  bal    : ∀ j, j < c.m → (g j).length + (if dg.ahead s.arb.grant = some (j, true) then 1 else 0)
                            = (dg.wq s.arb.grant).count j + dg.sd j

theorem dinv_reset : DInv c (init c rd) Fifo.empty DGhost.empty := by
  refine ⟨fun _ _ _ => ⟨rfl, rfl⟩, fun _ => rfl, ?_, ?_, ?_⟩
  · intro e he; cases he
  · intro k b hk; cases hk
  · intro j _; rfl

variable {c}

theorem dlock_of_dinv {s : ShDir} {g : Fifo} {dg : DGhost} (hdinv : DInv c s g dg) :
    DLock c (fun _ => s.arb.grant) g dg := by
  have hsplit : ∀ i, i < c.n → i = s.arb.grant ∨ (dg.wq i = [] ∧ dg.ahead i = none) := fun i hi =>
    (Decidable.em (i = s.arb.grant)).imp_right (hdinv.others i hi)
  refine ⟨?_, ?_, ?_, ?_, hdinv.bal⟩
  · intro i hi hne
    rcases hsplit i hi with rfl | ⟨hw, _⟩
    · exact hdinv.aheadq hne
    · exact hw
  · intro i hi e he
    rcases hsplit i hi with rfl | ⟨hw, _⟩
    · exact hdinv.wq_lt e he
    · rw [hw] at he; cases he
  · intro i hi k b hk
    rcases hsplit i hi with rfl | ⟨_, ha⟩
    · exact hdinv.ah_lt k b hk
    · rw [ha] at hk; cases hk
  · intro i j hi _ hne
    obtain ⟨hw, ha⟩ := hdinv.others i hi (Ne.symm hne)
    rw [hw, ha]
    exact ⟨rfl, fun b hk => nomatch hk⟩

theorem dinv_of_dlock {s : ShDir} {g : Fifo} {dg : DGhost} (hg : s.arb.grant < c.n)
    (hdl : DLock c (fun _ => s.arb.grant) g dg) : DInv c s g dg := by
  refine ⟨?_, hdl.aheadq _ hg, hdl.wq_lt _ hg, hdl.ah_lt _ hg, hdl.bal⟩
  intro i hi hne
  constructor
  · cases hw : dg.wq i with
    | nil => rfl
    | cons e t =>
      have he : e ∈ dg.wq i := by rw [hw]; exact List.mem_cons_self
      have := (hdl.other i e hi (hdl.wq_lt i hi e he) (Ne.symm hne)).1
      exact absurd (List.count_pos_iff.mpr he) (by omega)
  · cases ha : dg.ahead i with
    | none => rfl
    | some k => exact absurd ha ((hdl.other i k.1 hi (hdl.ah_lt i hi k.1 k.2 ha) (Ne.symm hne)).2 k.2)

variable (c)

theorem dstep (hd : Disjoint c) (s : ShDir) (g : Fifo) (dg : DGhost) (x : DirIn) (hinv : Inv c s g)
    (hdinv : DInv c s g dg) (env : EnvOK c g x) (denv : DEnvOK c dg x) :
    DataOK c dg x (out c rd s x) ∧
    DInv c (next c rd s x) (fifoNext c rd g x (out c rd s x)) (dgNext c rd dg x (out c rd s x)) := by
  have h := linked rd hd hinv env
  have hdl := dlock_of_dinv hdinv
  have hlt : (next c rd s x).arb.grant < c.n := Arb.next_grant_lt _ _ _ _ _ hinv.grant_lt
  refine ⟨h.dataOK hd hdl denv,
    dinv_of_dlock hlt (h.dlock_next rd hd hdl env denv (fun _ => (next c rd s x).arb.grant) (fun _ _ => hlt) ?_)⟩
  -- an active slave freezes the grant: something is unanswered, or the owner drives a valid
  intro j hj hact
  have hK : g j ≠ [] → s.arb.cnt ≠ 0 := fun hne h0 => hne (hinv.idle h0 j hj)
  apply Arb.grant_frozen c.n (c.gated rd) s.arb x.ms _ hinv.grant_lt
  rcases hact with hne | hv | hv | hv
  · exact Or.inl (hK hne)
  · exact Or.inr (Or.inl (Bool.and_eq_true_iff.mp hv).1)
  · exact Or.inr (Or.inr (Or.inl (Bool.and_eq_true_iff.mp hv).1))
  · exact Or.inl (hK (env.slaveLegal j hj hv))

theorem holdsD_of_inv (hd : Disjoint c) (ins : List DirIn) (s : ShDir) (g : Fifo) (dg : DGhost) (h : Inv c s g)
    (hdg : DInv c s g dg) : HoldsD (machine c rd) c rd true s g dg ins :=
  holdsD_of_step (machine c rd) c rd true (Inv c) (DInv c) (step c rd hd) (dstep c rd hd) ins s g dg h hdg

end Shared
end Litex.Axi.Lite
