import LitexProofs.Axi.LiteRun
import LitexModel.Axi.LiteClosed
/-
  C08, closed system: the global environment assumptions `EnvOK` are DERIVED from the local rules of legal masters and
  slaves (`LocalOK`, LitexModel/Axi/LiteClosed.lean) for every machine that satisfies `Holds`, by circular
  assume/guarantee induction over the coupling between the local ghosts and the global scoreboard.  Nothing here looks
  inside a model: only `Holds`, `RouteOK`, `Disjoint`.
-/
namespace Litex.Axi.Lite
open Litex

theorem envOK_of_local (c : Cfg) (g : Fifo) (ml : Nat → MLocal) (sl : Nat → Nat) (x : DirIn)
    (hc : Coupled c g ml sl) (hl : LocalOK c ml sl x) : EnvOK c g x := by
  refine ⟨?_, ?_, ?_⟩
  · intro j hj hv
    have h := hl.slaveResp j hj hv
    rw [hc.held j hj] at h
    intro e
    rw [e] at h
    simp at h
  · intro i j hi hj hv hmem
    have hp : 0 < (ml i).pend := by
      rw [hc.pend i hi]
      have h1 : 0 < (g j).count i := List.count_pos_iff.mpr hmem
      have h2 := le_sum_range c.m j hj (fun j => (g j).count i)
      unfold Fifo.ofMaster
      omega
    exact hl.masterSame i hi hv hp j hj (hc.last i j hi hj hmem)
  · intro j hj hr
    have h := hl.slaveCap j hj hr
    rw [hc.held j hj] at h
    exact h

theorem coupled_reset (c : Cfg) : Coupled c Fifo.empty (fun _ => {}) (fun _ => 0) := by
  refine ⟨fun _ _ => rfl, ?_, ?_⟩
  · intro i _
    show 0 = Fifo.ofMaster Fifo.empty c.m i
    unfold Fifo.ofMaster
    exact (sum_range_zero c.m (fun j => (Fifo.empty j).count i) (fun j _ => rfl)).symm
  · intro i j _ _ h
    cases h

theorem coupled_step (c : Cfg) (rd shared : Bool) (hd : Disjoint c) (g : Fifo) (ml : Nat → MLocal) (sl : Nat → Nat)
    (x : DirIn) (o : DirOut) (hc : Coupled c g ml sl) (env : EnvOK c g x) (hr : RouteOK c shared g x o) :
    Coupled c (fifoNext c rd g x o) (fun i => mlNext (c.gated rd) (ml i) x o i)
      (fun j => slNext (c.gated rd) (sl j) x o j) := by
  refine ⟨?_, ?_, ?_⟩
  · -- the slave's own count is the length of its scoreboard queue
    intro j hj
    have h := fifoNext_length c rd g x o j hj env (fun h => let ⟨i, _, hi, _⟩ := hr.addr_s j hj h; ⟨i, hi⟩)
    simp only [slNext]
    rw [hc.held j hj]
    omega
  · -- the master's own count is the number of its entries on the scoreboard
    intro i hi
    simp only [mlNext]
    rw [hc.pend i hi]
    unfold Fifo.ofMaster
    let d : Nat → Nat := fun j => if sDone (c.gated rd) x o j = true ∧ (g j).head? = some i then 1 else 0
    let r : Nat → Nat := fun j => (if sReq x o j = true then issuersTo c x o j else []).count i
    have hstep : ∀ j, j < c.m → (fifoNext c rd g x o j).count i + d j = (g j).count i + r j := by
      intro j _
      simp only [fifoNext, List.count_append, d, r]
      by_cases h : sDone (c.gated rd) x o j = true
      · rw [if_pos h]
        cases hg : g j with
        | nil => simp
        | cons a t =>
          by_cases e : a = i
          · subst e; simp [h]; omega
          · have e' : ¬ (some a = some i) := fun hh => e (Option.some.inj hh)
            simp [h, e]
      · simp [h]
    have hsum := sum_range_add_eq c.m _ d _ r hstep
    -- an entry of master `i` joins slave `j`'s queue only by an address handshake of `i` routed to `j`
    have hrmem : ∀ j, r j ≠ 0 → sReq x o j = true ∧ mReq x o i = true ∧ routes c j (x.ms i).aAddr = true := by
      intro j hne
      by_cases h : sReq x o j = true
      · have hm := List.count_pos_iff.mp (Nat.pos_of_ne_zero hne)
        simp only [if_pos h, issuersTo, List.mem_filter, Bool.and_eq_true] at hm
        exact ⟨h, hm.2.1, hm.2.2⟩
      · exact absurd (by simp only [r, if_neg h]; rfl) hne
    have hr' : ((List.range c.m).map r).sum = if mReq x o i = true then 1 else 0 := by
      apply sum_range_indicator c.m r _ (fun j _ hne => (hrmem j hne).2.1)
      intro hq
      obtain ⟨j0, hj0, hrt, hs0⟩ := hr.addr_m i hi hq
      obtain ⟨i', _, hiss, _⟩ := hr.addr_s j0 hj0 hs0
      have hmem : i ∈ issuersTo c x o j0 := by
        simp only [issuersTo, List.mem_filter, List.mem_range, Bool.and_eq_true]
        exact ⟨hi, hq, hrt⟩
      rw [hiss] at hmem
      refine ⟨j0, hj0, ?_, fun j hj hne => Decidable.byContradiction fun h0 =>
        hne (hd _ j j0 hj hj0 (hrmem j h0).2.2 hrt)⟩
      simp only [r, if_pos hs0, hiss, List.mem_singleton.mp hmem]
      exact List.count_singleton_self
    -- an entry of master `i` leaves a queue only by a completed response that `i` receives
    have hdmem : ∀ j, j < c.m → d j ≠ 0 → mDone (c.gated rd) x o i = true := by
      intro j hj hne
      have hc : sDone (c.gated rd) x o j = true ∧ (g j).head? = some i :=
        Decidable.byContradiction fun h => hne (by simp only [d, if_neg h])
      obtain ⟨h1, h2⟩ := hc
      simp only [sDone, Bool.and_eq_true] at h1
      obtain ⟨i', _, hh', hm, _, hlast⟩ := hr.resp_s j hj h1.1
      obtain rfl : i' = i := Option.some.inj (hh'.symm.trans h2)
      simp only [mDone, Bool.and_eq_true]
      exact ⟨hm, by rw [hlast]; exact h1.2⟩
    have hd' : ((List.range c.m).map d).sum = if mDone (c.gated rd) x o i = true then 1 else 0 := by
      apply sum_range_indicator c.m d _ hdmem
      intro hq
      have hq' := hq
      simp only [mDone, Bool.and_eq_true] at hq'
      obtain ⟨j0, hj0, hs0, hh0, huniq⟩ := hr.resp_m i hi hq'.1
      obtain ⟨i', _, hh', _, _, hlast⟩ := hr.resp_s j0 hj0 hs0
      obtain rfl : i' = i := Option.some.inj (hh'.symm.trans hh0)
      have hdone : sDone (c.gated rd) x o j0 = true := by
        simp only [sDone, Bool.and_eq_true]
        exact ⟨hs0, by rw [← hlast]; exact hq'.2⟩
      refine ⟨j0, hj0, by simp only [d]; rw [if_pos ⟨hdone, hh0⟩], fun j hj hne => ?_⟩
      simp only [d]
      rw [if_neg]
      intro ⟨h1, h2⟩
      simp only [sDone, Bool.and_eq_true] at h1
      exact hne (huniq j hj h1.1 h2)
    rw [hr', hd'] at hsum
    by_cases h1 : mReq x o i = true <;> by_cases h2 : mDone (c.gated rd) x o i = true <;>
      simp only [h1, h2] at hsum ⊢ <;> omega
  · -- every scoreboard entry of master `i` sits at the slave of its last accepted address
    intro i j hi hj hmem
    simp only [fifoNext, List.mem_append] at hmem
    simp only [mlNext]
    rcases hmem with hm | hm
    · have hm' : i ∈ g j := by
        by_cases h : sDone (c.gated rd) x o j = true
        · rw [if_pos h] at hm; exact List.mem_of_mem_tail hm
        · rw [if_neg h] at hm; exact hm
      by_cases hq : mReq x o i = true
      · rw [if_pos hq]
        have hv : (x.ms i).aValid = true := by
          simp only [mReq, Bool.and_eq_true] at hq
          exact hq.1
        exact env.sameSlave i j hi hj hv hm'
      · rw [if_neg hq]; exact hc.last i j hi hj hm'
    · by_cases h : sReq x o j = true
      · rw [if_pos h] at hm
        simp only [issuersTo, List.mem_filter, Bool.and_eq_true] at hm
        rw [if_pos hm.2.1]
        exact hm.2.2
      · rw [if_neg h] at hm
        cases hm

theorem closed_env {σ : Type} (M : Machine DirIn σ DirOut) (c : Cfg) (rd shared : Bool) (hd : Disjoint c) :
    ∀ (ins : List DirIn) (s : σ) (g : Fifo) (ml : Nat → MLocal) (sl : Nat → Nat),
      Coupled c g ml sl → Holds M c rd shared s g ins → LocalAll M c rd s ml sl ins → EnvAll M c rd s g ins := by
  intro ins
  induction ins with
  | nil => intros; trivial
  | cons x xs ih =>
    intro s g ml sl hc hh hl
    have env := envOK_of_local c g ml sl x hc hl.1
    obtain ⟨hr, hh'⟩ := hh env
    exact ⟨env, ih _ _ _ _ (coupled_step c rd shared hd g ml sl x _ hc env hr) hh' hl.2⟩

theorem guar_of_holds {σ : Type} (M : Machine DirIn σ DirOut) (c : Cfg) (rd shared : Bool) :
    ∀ (ins : List DirIn) (s : σ) (g : Fifo), Holds M c rd shared s g ins → EnvAll M c rd s g ins →
      Guar M c rd shared s g ins := by
  intro ins
  induction ins with
  | nil => intros; trivial
  | cons x xs ih =>
    intro s g hh he
    obtain ⟨hr, hh'⟩ := hh he.1
    exact ⟨hr, ih _ _ hh' he.2⟩

theorem guarD_of_holdsD {σ : Type} (M : Machine DirIn σ DirOut) (c : Cfg) (rd shared : Bool) :
    ∀ (ins : List DirIn) (s : σ) (g : Fifo) (dg : DGhost), HoldsD M c rd shared s g dg ins →
      EnvAll M c rd s g ins → DEnvAll M c rd s dg ins → GuarD M c rd shared s g dg ins := by
  intro ins
  induction ins with
  | nil => intros; trivial
  | cons x xs ih =>
    intro s g dg hh he hde
    obtain ⟨hr, hdat, hh'⟩ := hh he.1 hde.1
    exact ⟨hr, hdat, ih _ _ _ hh' he.2 hde.2⟩


theorem allLt_iff (n : Nat) (p : Nat → Bool) : allLt n p = true ↔ ∀ i, i < n → p i = true := by
  simp [allLt, List.all_eq_true, List.mem_range]

theorem bimp_iff (a b : Bool) : (!a || b) = true ↔ (a = true → b = true) := by
  cases a <;> cases b <;> decide

theorem localOKb_iff (c : Cfg) (ml : Nat → MLocal) (sl : Nat → Nat) (x : DirIn) :
    localOKb c ml sl x = true ↔ LocalOK c ml sl x := by
  simp only [localOKb, Bool.and_eq_true, allLt_iff, bimp_iff, decide_eq_true_eq]
  exact ⟨fun ⟨⟨h1, h2⟩, h3⟩ => ⟨fun i hi hv hp => h1 i hi ⟨hv, hp⟩, h2, h3⟩,
    fun h => ⟨⟨fun i hi hvp => h.masterSame i hi hvp.1 hvp.2, h.slaveResp⟩, h.slaveCap⟩⟩

instance (c : Cfg) (ml : Nat → MLocal) (sl : Nat → Nat) (x : DirIn) : Decidable (LocalOK c ml sl x) :=
  decidable_of_iff _ (localOKb_iff c ml sl x)

/-- For the concrete witnesses of `LitexProps/C08.lean`. -/
def decLocalAll {σ : Type} (M : Machine DirIn σ DirOut) (c : Cfg) (rd : Bool) :
    ∀ (ins : List DirIn) (s : σ) (ml : Nat → MLocal) (sl : Nat → Nat), Decidable (LocalAll M c rd s ml sl ins)
  | [], _, _, _ => isTrue trivial
  | x :: xs, s, ml, sl =>
    have := decLocalAll M c rd xs (M.next s x) (fun i => mlNext (c.gated rd) (ml i) x (M.out s x) i)
      (fun j => slNext (c.gated rd) (sl j) x (M.out s x) j)
    inferInstanceAs (Decidable (_ ∧ _))

instance {σ : Type} (M : Machine DirIn σ DirOut) (c : Cfg) (rd : Bool) (ins : List DirIn) (s : σ)
    (ml : Nat → MLocal) (sl : Nat → Nat) : Decidable (LocalAll M c rd s ml sl ins) := decLocalAll M c rd ins s ml sl

end Litex.Axi.Lite
