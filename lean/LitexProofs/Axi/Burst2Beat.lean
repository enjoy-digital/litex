import LitexProofs.Axi.Burst2BeatArith
/-
  One beat of a legal burst: in the state reached after `k` accepted beats the module presents the beat that
  A3.4.1 asks for (at transfer-size granularity), and accepting it leads to the state for `k+1` (or back to reset
  after the last beat).  `expState` is the closed form of the registers.
-/
namespace Litex.Axi

/-- Closed form of `beat_offset` after `k` accepted beats of request `r` (effective burst type `eb`); for WRAP
    the distance in bytes (slot distance times `2^size`) from the start slot to the slot of transfer `k`. -/
def specOff (eb : Nat) (r : Req) (k : Nat) : Int :=
  if eb = BURST_INCR then (k : Int) * ((2 ^ r.size : Nat) : Int)
  else if eb = BURST_WRAP then
    ((wrapSlot (r.addr / 2 ^ r.size) (r.len + 1) k : Nat) - ((r.addr / 2 ^ r.size : Nat) : Int)) * ((2 ^ r.size : Nat) : Int)
  else 0

theorem specOff_incr (r : Req) (k : Nat) : specOff BURST_INCR r k = (k : Int) * ((2 ^ r.size : Nat) : Int) := by
  unfold specOff; rw [if_pos rfl]

theorem specOff_wrap (r : Req) (k : Nat) : specOff BURST_WRAP r k =
    ((wrapSlot (r.addr / 2 ^ r.size) (r.len + 1) k : Nat) - ((r.addr / 2 ^ r.size : Nat) : Int)) * ((2 ^ r.size : Nat) : Int) := by
  unfold specOff; rw [if_neg (by decide), if_pos rfl]

theorem specOff_fixed (r : Req) (k : Nat) : specOff BURST_FIXED r k = 0 := by
  unfold specOff; rw [if_neg (by decide), if_neg (by decide)]

theorem specOff_zero (eb : Nat) (r : Req) : specOff eb r 0 = 0 := by
  unfold specOff
  rw [wrapSlot_zero, Int.sub_self, Int.zero_mul, Int.natCast_zero, Int.zero_mul]
  split
  · rfl
  · split <;> rfl

theorem addr_add_specOff_wrap (r : Req) (k : Nat) (hal : r.addr % 2 ^ r.size = 0) :
    (r.addr : Int) + specOff BURST_WRAP r k
      = ((wrapSlot (r.addr / 2 ^ r.size) (r.len + 1) k * 2 ^ r.size : Nat) : Int) := by
  have hA := Nat.div_mul_cancel (Nat.dvd_of_mod_eq_zero hal)
  rw [specOff_wrap, Int.sub_mul]
  omega

/-- Start slot and slot of transfer `k` lie in one window of `len + 1` slots. -/
theorem specOff_wrap_fits (r : Req) (k : Nat) (hW : (r.len + 1) * 2 ^ r.size ≤ 4096) :
    -4096 < specOff BURST_WRAP r k ∧ specOff BURST_WRAP r k < 4096 := by
  have hN := Nat.two_pow_pos r.size
  have hw := wrapSlot_window (r.addr / 2 ^ r.size) k (Nat.add_one_pos r.len)
  have hm := Nat.div_add_mod (r.addr / 2 ^ r.size) (r.len + 1)
  have hp := Nat.mod_lt (r.addr / 2 ^ r.size) (Nat.add_one_pos r.len)
  have h1 : wrapSlot (r.addr / 2 ^ r.size) (r.len + 1) k * 2 ^ r.size
      ≤ (r.addr / 2 ^ r.size + r.len) * 2 ^ r.size := Nat.mul_le_mul_right _ (by omega)
  have h2 : r.addr / 2 ^ r.size * 2 ^ r.size
      ≤ (wrapSlot (r.addr / 2 ^ r.size) (r.len + 1) k + r.len) * 2 ^ r.size := Nat.mul_le_mul_right _ (by omega)
  rw [Nat.add_mul] at h1 h2
  rw [Nat.succ_mul] at hW
  rw [specOff_wrap, Int.sub_mul]
  omega

theorem specOff_wrap_succ (r : Req) (k : Nat) :
    (wrapSlot (r.addr / 2 ^ r.size) (r.len + 1) k % (r.len + 1) = r.len →
      specOff BURST_WRAP r k - ((r.len * 2 ^ r.size : Nat) : Int) = specOff BURST_WRAP r (k + 1)) ∧
    (¬ wrapSlot (r.addr / 2 ^ r.size) (r.len + 1) k % (r.len + 1) = r.len →
      specOff BURST_WRAP r k + ((2 ^ r.size : Nat) : Int) = specOff BURST_WRAP r (k + 1)) := by
  obtain ⟨s1, s2⟩ := wrapSlot_succ (r.addr / 2 ^ r.size) k (Nat.add_one_pos r.len)
  rw [specOff_wrap, specOff_wrap, Int.sub_mul, Int.sub_mul]
  constructor
  · intro h
    have := congrArg (· * 2 ^ r.size) (s1 h)
    simp only [Nat.add_sub_cancel, Nat.add_mul] at this
    omega
  · intro h
    have := congrArg (· * 2 ^ r.size) (s2 h)
    simp only [Nat.add_mul, Nat.one_mul] at this
    omega

theorem specOff_wrap_end (r : Req) : specOff BURST_WRAP r (r.len + 1) = 0 := by
  rw [← Nat.zero_add (r.len + 1), specOff_wrap, wrapSlot_period, wrapSlot_zero, Int.sub_self, Int.zero_mul]

def expState (eb : Nat) (r : Req) (k : Nat) : B2BState := { count := k, offset := specOff eb r k }

theorem expState_zero (eb : Nat) (r : Req) : expState eb r 0 = b2bInit := by
  simp [expState, specOff_zero, b2bInit]

/-- The address bus holds whole 4 KB pages (`12 ≤ aw`), so the truncation of `beatAddr` to `aw` bits never cuts inside
    the page or wrap window a legal burst stays in. -/
theorem pow_aw {aw : Nat} (h : 12 ≤ aw) : ∃ Q, 2 ^ aw = 4096 * Q := by
  refine ⟨2 ^ (aw - 12), ?_⟩
  have : aw = 12 + (aw - 12) := by omega
  calc 2 ^ aw = 2 ^ (12 + (aw - 12)) := by rw [← this]
    _ = 4096 * 2 ^ (aw - 12) := by rw [Nat.pow_add]

theorem effBurst_cases (caps : Caps) (r : Req) :
    (effBurst caps r.burst = BURST_INCR ∧ incrOrWrap caps r = true ∧ (r.burst == BURST_WRAP && caps.wrap) = false) ∨
    (effBurst caps r.burst = BURST_WRAP ∧ incrOrWrap caps r = true ∧ (r.burst == BURST_WRAP && caps.wrap) = true) ∨
    (effBurst caps r.burst = BURST_FIXED ∧ incrOrWrap caps r = false ∧ (r.burst == BURST_WRAP && caps.wrap) = false) := by
  obtain ⟨ci, cw⟩ := caps
  unfold effBurst incrOrWrap BURST_INCR BURST_WRAP BURST_FIXED
  by_cases h1 : r.burst = 1
  · cases ci <;> cases cw <;> simp [h1]
  · by_cases h2 : r.burst = 2
    · cases ci <;> cases cw <;> simp [h2]
    · cases ci <;> cases cw <;> simp [h1, h2]

/-- The beat counter alone, for any input: what the bridge proofs (`Bridge/Axi2Axl`) need of this module. -/
theorem b2bNext_count (aw : Nat) (caps : Caps) (s : B2BState) (i : B2BIn) :
    (b2bNext caps aw s i).count =
      if (i.valid || !b2bFirst s) && i.ready then (if b2bLast s i.req then 0 else (s.count + 1) % 256) else s.count := by
  unfold b2bNext b2bNextCore
  split <;> rfl

theorem nextCore_eq (io w : Bool) (aw k : Nat) (off : Int) (r : Req) (v : Bool) (hv : (v || !(k == 0)) = true) :
    b2bNextCore io w aw ⟨k, off⟩ ⟨v, r, true⟩ =
      { count := if k = r.len then 0 else (k + 1) % 256
        offset := if (w && wrapHit aw r ⟨k, off⟩) = true then wrapS13 (off - (beatWrap r : Int))
                  else if k = r.len then 0 else if io = true then wrapS13 (off + (beatSize r : Int)) else off } := by
  unfold b2bNextCore b2bFirst b2bLast
  simp only [hv, Bool.and_true, if_true, beq_iff_eq]

/-- What one beat of a legal burst gives, after `k` accepted beats.  `addr` and `next` carry the run (`drive_step`);
    `fits` is for `offset_fits` and `addr_exact` for `b2b_addr_exact` of C10 only. -/
structure BeatStep (caps : Caps) (aw : Nat) (r : Req) (eb : Nat) (k : Nat) : Prop where
  addr : beatAddr aw r (expState eb r k) / numBytes r.size
           = axiSpecAddr r.addr r.len r.size eb k / numBytes r.size
  next : ∀ v, (v || !(k == 0)) = true →
           b2bNext caps aw (expState eb r k) ⟨v, r, true⟩ = if k = r.len then b2bInit else expState eb r (k + 1)
  fits : -4096 < specOff eb r k ∧ specOff eb r k < 4096
  addr_exact : (r.addr % numBytes r.size = 0 ∨ eb = BURST_FIXED) →
           beatAddr aw r (expState eb r k) = axiSpecAddr r.addr r.len r.size eb k

theorem beatAddr_expState {aw : Nat} {r : Req} {eb k x : Nat} (h : (r.addr : Int) + specOff eb r k = (x : Int))
    (hx : x < 2 ^ aw) : beatAddr aw r (expState eb r k) = x := by
  unfold beatAddr expState
  simp only
  rw [h, Int.emod_eq_of_lt (Int.natCast_nonneg _) (Int.ofNat_lt.mpr hx), Int.toNat_natCast]

/-- The mask test of the code fires exactly in the last slot of the window. -/
theorem wrapHit_iff {aw : Nat} {r : Req} {s : B2BState} {x : Nat}
    (hL : r.len = 1 ∨ r.len = 3 ∨ r.len = 7 ∨ r.len = 15) (hW : r.len * 2 ^ r.size < 4096)
    (hb : beatAddr aw r s = x * 2 ^ r.size) : wrapHit aw r s = true ↔ x % (r.len + 1) = r.len := by
  unfold wrapHit beatWrap
  rw [hb, Nat.mod_eq_of_lt hW, beq_iff_eq, wrap_detect_len hL, Nat.mul_div_cancel _ (Nat.two_pow_pos _)]

/-- `hoff` — what the offset assignments compute — is the one fact that depends on the burst type. -/
theorem next_expState {caps : Caps} {aw : Nat} {r : Req} {eb k : Nat} (hk : k ≤ r.len) (hlen : r.len < 256)
    (hoff : (if ((r.burst == BURST_WRAP && caps.wrap) && wrapHit aw r ⟨k, specOff eb r k⟩) = true
               then wrapS13 (specOff eb r k - (beatWrap r : Int))
             else if k = r.len then 0
             else if incrOrWrap caps r = true then wrapS13 (specOff eb r k + (beatSize r : Int)) else specOff eb r k)
            = if k = r.len then 0 else specOff eb r (k + 1))
    (v : Bool) (hv : (v || !(k == 0)) = true) :
    b2bNext caps aw (expState eb r k) ⟨v, r, true⟩ = if k = r.len then b2bInit else expState eb r (k + 1) := by
  refine (nextCore_eq _ _ aw k (specOff eb r k) r v hv).trans ?_
  rw [hoff]
  by_cases hkl : k = r.len
  · rw [if_pos hkl, if_pos hkl, if_pos hkl]; rfl
  · rw [if_neg hkl, if_neg hkl, if_neg hkl, Nat.mod_eq_of_lt (by omega)]; rfl

/-- The INCR case of `beat_step`, from the two bounds on every beat that it uses of `Legal` (`hfits`; `incr_fits`
    derives them): no beat address overflows the bus and no beat leaves the first 4 KB after the start. -/
theorem beat_step_incr (caps : Caps) (aw : Nat) (r : Req) (k : Nat) (hlen : r.len < 256)
    (hfits : ∀ j, j ≤ r.len → r.addr + j * 2 ^ r.size < 2 ^ aw ∧ j * 2 ^ r.size + 2 ^ r.size ≤ 4096)
    (hk : k ≤ r.len) (hio : incrOrWrap caps r = true) (hw : (r.burst == BURST_WRAP && caps.wrap) = false) :
    BeatStep caps aw r BURST_INCR k := by
  have hN := Nat.two_pow_pos r.size
  obtain ⟨hx, hfit⟩ := hfits k hk
  have hba : beatAddr aw r (expState BURST_INCR r k) = r.addr + k * 2 ^ r.size :=
    beatAddr_expState (by rw [specOff_incr, Int.natCast_add, Int.natCast_mul]) hx
  refine ⟨?_, next_expState hk hlen ?_, by rw [specOff_incr]; omega, ?_⟩
  · rw [hba, numBytes, axiSpecAddr_incr_div, Nat.add_mul_div_right _ _ hN]
  · rw [hw, hio, Bool.false_and, if_neg Bool.false_ne_true, if_pos rfl]
    by_cases hkl : k = r.len
    · rw [if_pos hkl, if_pos hkl]
    · have hfit1 := (hfits (k + 1) (by omega)).2
      rw [Nat.succ_mul] at hfit1
      rw [if_neg hkl, if_neg hkl, beatSize, Nat.mod_eq_of_lt (by omega), specOff_incr, specOff_incr,
        wrapS13_id (by omega) (by omega), Int.natCast_add, Int.add_mul]
      omega
  · intro hal
    rcases hal with hal | hal
    · rw [hba, axiSpecAddr_incr _ _ _ _ hal]
    · exact absurd hal (by decide)

theorem beat_step (caps : Caps) (aw : Nat) (haw : 12 ≤ aw) (r : Req) (k : Nat)
    (hleg : Legal aw r (effBurst caps r.burst)) (hk : k ≤ r.len) :
    BeatStep caps aw r (effBurst caps r.burst) k := by
  obtain ⟨Q, hQ⟩ := pow_aw haw
  obtain ⟨hA, hlen, hS, hrest⟩ := hleg
  have hN := Nat.two_pow_pos r.size
  have hN4 : 2 ^ r.size < 4096 := Nat.lt_trans (Nat.pow_lt_pow_right (by decide) hS) (by decide)
  rcases effBurst_cases caps r with ⟨heb, hio, hw⟩ | ⟨heb, hio, hw⟩ | ⟨heb, hio, hw⟩
  · rw [heb] at hrest ⊢
    rw [if_pos rfl] at hrest
    rw [hQ] at hA
    exact beat_step_incr caps aw r k hlen (fun j hj => by rw [hQ]; exact incr_fits hN hA hrest hj) hk hio hw
  · rw [heb] at hrest ⊢
    rw [if_neg (by decide), if_pos rfl] at hrest
    unfold numBytes at hrest
    obtain ⟨hL, hal⟩ := hrest
    obtain ⟨c, hc⟩ := wrap_window_dvd hL hS
    have hW : (r.len + 1) * 2 ^ r.size ≤ 4096 := Nat.le_of_dvd (by decide) ⟨c, hc.symm⟩
    have hLN : r.len * 2 ^ r.size < 4096 := by rw [Nat.succ_mul] at hW; omega
    have hba : ∀ j, beatAddr aw r (expState BURST_WRAP r j)
        = wrapSlot (r.addr / 2 ^ r.size) (r.len + 1) j * 2 ^ r.size := fun j =>
      beatAddr_expState (addr_add_specOff_wrap r j hal) (by
        rw [hQ, ← hc, Nat.mul_assoc]
        refine wrapSlot_lt (Nat.succ_pos _) ?_
        rw [Nat.div_mul_cancel (Nat.dvd_of_mod_eq_zero hal), ← Nat.mul_assoc, hc, ← hQ]
        exact hA)
    have hhit := wrapHit_iff hL hLN (hba k)
    obtain ⟨s1, s2⟩ := specOff_wrap_succ r k
    have hfit := fun j => specOff_wrap_fits r j hW
    have hst : (⟨k, specOff BURST_WRAP r k⟩ : B2BState) = expState BURST_WRAP r k := rfl
    have hf1 := hfit (k + 1)
    refine ⟨?_, next_expState hk hlen ?_, hfit k, ?_⟩
    · rw [hba, axiSpecAddr_wrap _ _ _ _ hal hk]
    · -- the mask test decides between "back by `len` slots" and "one slot on"; after the last beat both give 0
      rw [hst, hw, hio, Bool.true_and, if_pos rfl]
      by_cases hh : wrapHit aw r (expState BURST_WRAP r k) = true
      · rw [if_pos hh, beatWrap, Nat.mod_eq_of_lt hLN, s1 (hhit.mp hh)]
        by_cases hkl : k = r.len
        · rw [if_pos hkl, hkl, specOff_wrap_end]; rfl
        · rw [if_neg hkl, wrapS13_id (Int.le_of_lt hf1.1) hf1.2]
      · rw [if_neg hh]
        by_cases hkl : k = r.len
        · rw [if_pos hkl, if_pos hkl]
        · rw [if_neg hkl, if_neg hkl, beatSize, Nat.mod_eq_of_lt hN4, s2 (fun h => hh (hhit.mpr h)),
            wrapS13_id (Int.le_of_lt hf1.1) hf1.2]
    · intro _; rw [hba, axiSpecAddr_wrap _ _ _ _ hal hk]
  · -- FIXED (including disabled capabilities and the reserved encoding)
    rw [heb]
    have hba : beatAddr aw r (expState BURST_FIXED r k) = r.addr :=
      beatAddr_expState (by rw [specOff_fixed]; omega) hA
    refine ⟨?_, next_expState hk hlen ?_, ?_, ?_⟩
    · rw [hba, axiSpecAddr_fixed]
    · rw [hw, hio, Bool.false_and, if_neg Bool.false_ne_true, if_neg Bool.false_ne_true, specOff_fixed, specOff_fixed]
    · rw [specOff_fixed]; omega
    · intro _; rw [hba, axiSpecAddr_fixed]

end Litex.Axi
