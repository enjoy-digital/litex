import LitexProofs.Axi.LiteShared
import LitexProofs.Axi.LiteCrossbar
import LitexProofs.Machine
/-
  C08: run-level consequences of the one-step lemmas — the invariant along runs, counters = scoreboard sizes,
  bounded waiting, the closed form of a run of the shared fabric in which one master owns the bus throughout
  (`Shared.owned_run`, behind the saturation witness of C08), independence of the directions.
-/
namespace Litex.Axi.Lite
open Litex


theorem ctrRun_spec : ∀ (evs : List (Bool × Bool)) (o : Nat), CtrLegal o evs → ctrRun o evs = outstandingSpec o evs := by
  intro evs
  induction evs with
  | nil => intro o _; rfl
  | cons e es ih =>
    intro o h
    obtain ⟨rq, rs⟩ := e
    obtain ⟨h1, h2, h3⟩ := h
    simp only [ctrRun, outstandingSpec]
    have : ctrNext o rq rs = o + (if rq then 1 else 0) - (if rs then 1 else 0) := by
      cases rq <;> cases rs
      · simp [ctrNext_none]
      · have : 0 < o := by
          rcases h1 rfl with h | h
          · cases h
          · exact h
        rw [ctrNext_rsp _ (by omega)]; simp
      · have : o < maxReq - 1 := by
          rcases h2 rfl with h | h
          · cases h
          · exact h
        rw [ctrNext_req _ this]; simp
      · rw [ctrNext_both]; simp
    rw [this]
    exact ih _ h3


theorem Shared.inv_run (c : Cfg) (rd : Bool) (hd : Disjoint c) (ins : List DirIn) (s : ShDir) (g : Fifo)
    (h : Shared.Inv c s g) (henv : EnvAll (Shared.machine c rd) c rd s g ins) :
    Shared.Inv c (runSB (Shared.machine c rd) c rd s g ins).1 (runSB (Shared.machine c rd) c rd s g ins).2 :=
  inv_runSB (Shared.machine c rd) c rd (Shared.Inv c) (fun s g x h env => (Shared.step c rd hd s g x h env).2)
    ins s g h henv

theorem Crossbar.inv_run (c : Cfg) (rd : Bool) (hd : Disjoint c) (ins : List DirIn) (s : XbDir) (g : Fifo)
    (h : Crossbar.Inv c s g) (henv : EnvAll (Crossbar.machine c rd) c rd s g ins) :
    Crossbar.Inv c (runSB (Crossbar.machine c rd) c rd s g ins).1 (runSB (Crossbar.machine c rd) c rd s g ins).2 :=
  inv_runSB (Crossbar.machine c rd) c rd (Crossbar.Inv c)
    (fun s g x h env => (Crossbar.step c rd hd s g x h env).2) ins s g h henv

theorem Shared.counters (c : Cfg) (s : ShDir) (g : Fifo) (h : Shared.Inv c s g) :
    s.arb.cnt = g.total c.m ∧ s.dec.cnt = g.total c.m := by
  have : s.arb.cnt = g.total c.m := by
    unfold Fifo.total
    by_cases hK : s.arb.cnt = 0
    · rw [hK, sum_range_zero c.m _ (fun j hj => by rw [h.idle hK j hj]; rfl)]
    · obtain ⟨L, hL, _, hgL, hoth⟩ := h.locked hK
      rw [sum_range_single c.m L hL _ (fun j hj hne => by rw [hoth j hj hne]; rfl), hgL]
      simp
  exact ⟨this, by rw [h.cnt_eq]; exact this⟩

theorem Crossbar.counters (c : Cfg) (s : XbDir) (g : Fifo) (h : Crossbar.Inv c s g) :
    (∀ j, j < c.m → (Crossbar.arb s j).cnt = (g j).length) ∧
    (∀ i, i < c.n → (Crossbar.dcd s i).cnt = g.ofMaster c.m i) := by
  constructor
  · intro j hj
    rw [(h.arbs j hj).2.2]; simp
  · intro i hi
    unfold Fifo.ofMaster
    have hcount : ∀ j, j < c.m → ((Crossbar.arb s j).cnt ≠ 0 → (Crossbar.arb s j).grant ≠ i) → (g j).count i = 0 := by
      intro j hj hne
      rw [(h.arbs j hj).2.2]
      by_cases hK : (Crossbar.arb s j).cnt = 0
      · rw [hK]; rfl
      · rw [List.count_replicate]
        simp [hne hK]
    by_cases hK : (Crossbar.dcd s i).cnt = 0
    · rw [hK, sum_range_zero c.m _ (fun j hj => hcount j hj (h.idle i hi hK j hj))]
    · obtain ⟨L, hL, _, hg, hcnt, hoth⟩ := h.locked i hi hK
      rw [sum_range_single c.m L hL _ (fun j hj hne => hcount j hj (hoth j hj hne)), (h.arbs L hL).2.2, hg,
          List.count_replicate]
      simp [hcnt]


theorem Arb.wait_step (n : Nat) (gated : Bool) (s : ArbState) (ms : Nat → DMS) (sm : DSM) (i : Nat)
    (hg : s.grant < n) (hi : i < n) (hreq : (ms i).aValid = true) :
    (if Arb.ce s ms sm = true ∧ s.grant ≠ i then 1 else 0) +
      RoundRobin.dist n (Arb.next n gated s ms sm).grant i ≤ RoundRobin.dist n s.grant i := by
  have h := RoundRobin.handover_le .ce (Arb.req s ms sm) (Arb.ce s ms sm) hg hi (by simp [Arb.req, hreq])
    (fun e => Arb.grant_frozen n gated s ms sm hg (Or.inr (Or.inl (by rw [e]; exact hreq))))
  by_cases hc : Arb.ce s ms sm = true ∧ s.grant ≠ i
  · rw [if_pos hc]; rwa [if_pos ⟨hc.2, hc.1⟩] at h
  · rw [if_neg hc]; rwa [if_neg (fun hh => hc ⟨hh.2, hh.1⟩)] at h

theorem Shared.bounded_wait (c : Cfg) (rd : Bool) (i : Nat) (hi : i < c.n) :
    ∀ (ins : List DirIn) (s : ShDir), s.arb.grant < c.n → (∀ x ∈ ins, (x.ms i).aValid = true) →
      Shared.handovers c rd i s ins + RoundRobin.dist c.n ((Shared.machine c rd).runFrom s ins).arb.grant i
        ≤ RoundRobin.dist c.n s.arb.grant i :=
  fun ins s hg hreq =>
    (Shared.machine c rd).count_add_le (Φ := fun s => RoundRobin.dist c.n s.arb.grant i)
      (Inv := fun s => s.arb.grant < c.n) (fun _ => rfl) (fun _ _ _ => rfl)
      (fun s x hg hx => ⟨Arb.next_grant_lt _ _ _ _ _ hg,
        Arb.wait_step c.n (c.gated rd) s.arb x.ms (Shared.busSM c rd s x) i hg hi hx⟩)
      ins s hg (Machine.LegalFrom.of_forall _ hreq s)

theorem Crossbar.bounded_wait (c : Cfg) (rd : Bool) (i j : Nat) (hi : i < c.n) (hj : j < c.m) :
    ∀ (ins : List DirIn) (s : XbDir), (Crossbar.arb s j).grant < c.n → Crossbar.Requests c rd i j s ins →
      Crossbar.handovers c rd i j s ins +
        RoundRobin.dist c.n (Crossbar.arb ((Crossbar.machine c rd).runFrom s ins) j).grant i
        ≤ RoundRobin.dist c.n (Crossbar.arb s j).grant i :=
  fun ins s hg hreq =>
    (Crossbar.machine c rd).count_add_le (Φ := fun s => RoundRobin.dist c.n (Crossbar.arb s j).grant i)
      (Inv := fun s => (Crossbar.arb s j).grant < c.n) (fun _ => rfl) (fun _ _ _ => rfl)
      (fun s x hg hx => by
        have e : Crossbar.arb ((Crossbar.machine c rd).next s x) j = _ := Crossbar.arb_next c rd s x j hj
        rw [e]
        exact ⟨Arb.next_grant_lt _ _ _ _ _ hg,
          Arb.wait_step c.n (c.gated rd) (Crossbar.arb s j) (fun k => Crossbar.accMS c rd s x k j) (x.ss j) i hg hi hx⟩)
      ins s hg (Machine.LegalFrom.of _ (fun _ _ _ h => h) ins s hreq)


/-! ### One master on the bus: the registers are the request counter of the port events, with no bound assumed

  While master `i` stays on the bus and talks to slave `L`, arbiter and decoder step as `ctrRun` over the
  (request, response) events at `L`'s port — saturating as coded — whereas the scoreboard entry of `L` counts them
  exactly.  Nothing here assumes `EnvOK`: this is the run behind the saturation witness. -/

namespace Shared

/-- Master `i` owns the bus, both counters read `k`, the select register (where it is read) points at `L`, and the
    scoreboard entry of `L` holds `q` requests, all of `i`. -/
structure Owned (c : Cfg) (i L k q : Nat) (s : ShDir) (g : Fifo) : Prop where
  grant : s.arb.grant = i
  acnt  : s.arb.cnt = k
  dcnt  : s.dec.cnt = k
  selR  : k ≠ 0 → ∀ j, j < c.m → s.dec.selR.getD j false = (j == L)
  fifo  : g L = List.replicate q i

/-- A cycle in which the address lines of `i` decode to `L` alone and `i` or `L` keeps the grant in place. -/
structure OwnedIn (c : Cfg) (i L : Nat) (x : DirIn) : Prop where
  dec : ∀ j, j < c.m → routes c j (x.ms i).aAddr = (j == L)
  fro : (x.ms i).aValid = true ∨ (x.ms i).dValid = true ∨ (x.ss L).rValid = true

/-- Address handshake and completed response between `i` and `L`. -/
def portEv (c : Cfg) (rd : Bool) (i L : Nat) (x : DirIn) : Bool × Bool :=
  ((x.ms i).aValid && (x.ss L).aReady, (x.ss L).rValid && (x.ms i).rReady && (!c.gated rd || (x.ss L).rLast))

variable {c : Cfg} (rd : Bool) {i L : Nat} (hi : i < c.n) (hL : L < c.m)
include hi hL

theorem owned_step {k q : Nat} {s : ShDir} {g : Fifo} {x : DirIn} (h : Owned c i L k q s g)
    (hx : OwnedIn c i L x) :
    Owned c i L (ctrNext k (portEv c rd i L x).1 (portEv c rd i L x).2) (balNext q (portEv c rd i L x))
      (next c rd s x) (fifoNext c rd g x (out c rd s x)) := by
  have hbus : bus s x = x.ms i := congrArg x.ms h.grant
  -- idle: the select is decoded from the owner's address lines; locked: it is the register
  have hsel : ∀ j, j < c.m → selOf c rd s x j = (j == L) := by
    intro j hj
    by_cases hk : k = 0
    · refine (Dec.sel_idle (c.decCfg rd) s.dec (bus s x) j (h.dcnt.trans hk)).trans ?_
      rw [hbus]; exact hx.dec j hj
    · exact (Dec.sel_locked (c.decCfg rd) s.dec _ j (fun h0 => hk (h.dcnt.symm.trans h0))).trans (h.selR hk j hj)
  obtain ⟨harb, hdec, hsReq, hsDone⟩ := next_some (rd := rd) hL hsel
  have hcnt : (next c rd s x).arb.cnt = ctrNext s.arb.cnt (Arb.request s.arb x.ms (x.ss L))
      (Arb.response (c.gated rd) s.arb x.ms (x.ss L)) := by rw [harb]; rfl
  obtain ⟨e1, e2⟩ : Arb.request s.arb x.ms (x.ss L) = (portEv c rd i L x).1 ∧
      Arb.response (c.gated rd) s.arb x.ms (x.ss L) = (portEv c rd i L x).2 := by
    rw [portEv, ← h.grant]; exact ⟨rfl, rfl⟩
  rw [e1, e2] at hcnt hdec
  rw [e1] at hsReq
  rw [e2] at hsDone
  refine ⟨?_, by rw [hcnt, h.acnt], by rw [hdec, h.dcnt],
    fun _ j hj => (next_selR c rd s x j hj).trans (hsel j hj), ?_⟩
  · rw [harb]
    exact (Arb.grant_frozen c.n (c.gated rd) s.arb x.ms (x.ss L) (h.grant ▸ hi)
      (Or.inr (by rw [h.grant]; exact hx.fro))).trans h.grant
  · rw [fifoNext_eq c rd g x _ L i hsDone hsReq fun hq => (issuers_some hL hsel (h.grant ▸ hi)
      (by rw [hbus]; exact (hx.dec L hL).trans (beq_self_eq_true L)) (e1.trans hq)).trans (congrArg (fun a => [a]) h.grant),
      h.fifo]
    exact replicate_step q i _ _

theorem owned_run : ∀ (xs : List DirIn) (k q : Nat) (s : ShDir) (g : Fifo), Owned c i L k q s g →
    (∀ x ∈ xs, OwnedIn c i L x) →
    Owned c i L (ctrRun k (xs.map (portEv c rd i L))) ((xs.map (portEv c rd i L)).foldl balNext q)
      (runSB (machine c rd) c rd s g xs).1 (runSB (machine c rd) c rd s g xs).2 := by
  intro xs
  induction xs with
  | nil => intro k q s g h _; exact h
  | cons x xs ih =>
    intro k q s g h hall
    exact ih _ _ _ _ (owned_step rd hi hL h (hall x List.mem_cons_self))
      (fun y hy => hall y (List.mem_cons_of_mem x hy))

end Shared


theorem both_run {σ : Type} (mw mr : Machine DirIn σ DirOut) :
    ∀ (ins : List BusIn) (s : RW σ),
      ((both mw mr).runFrom s ins).w = mw.runFrom s.w (ins.map wIn) ∧
      ((both mw mr).runFrom s ins).r = mr.runFrom s.r (ins.map rIn) := by
  intro ins
  induction ins with
  | nil => intro s; exact ⟨rfl, rfl⟩
  | cons x xs ih =>
    intro s
    exact ih ((both mw mr).next s x)

theorem both_trace {σ : Type} (mw mr : Machine DirIn σ DirOut) :
    ∀ (ins : List BusIn) (s : RW σ),
      ((both mw mr).traceFrom s ins).map (fun o => (fun j => (o.toS j).w, fun i => (o.toM i).w)) =
        (mw.traceFrom s.w (ins.map wIn)).map (fun o => (o.toS, o.toM)) ∧
      ((both mw mr).traceFrom s ins).map (fun o => (fun j => (o.toS j).r, fun i => (o.toM i).r)) =
        (mr.traceFrom s.r (ins.map rIn)).map (fun o => (o.toS, o.toM)) := by
  intro ins
  induction ins with
  | nil => intro s; exact ⟨rfl, rfl⟩
  | cons x xs ih =>
    intro s
    obtain ⟨h1, h2⟩ := ih ((both mw mr).next s x)
    constructor
    · simp only [Machine.traceFrom, List.map_cons]
      rw [h1]; rfl
    · simp only [Machine.traceFrom, List.map_cons]
      rw [h2]; rfl

end Litex.Axi.Lite
